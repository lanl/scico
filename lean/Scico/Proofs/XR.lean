/-
  The IEEE-extended numbers `XR K` of `Scico.Model.StepSize` over a linear ordered field `K`: on finite values the operations are
  those of `K`, except that division by an exact zero leaves the finite part; the few products, quotients and comparisons with
  `±inf` and NaN that the policies, estimators and proximal maps meet; `PosFin`.  They are what proofs about `XR` are meant to
  use in place of unfolding `XR.add`, `XR.mul`, `XR.div`, `XR.le`, `XR.lt`, `XR.sqrt`.
-/
import Scico.Model.StepSize
import Mathlib.Algebra.Order.Field.Basic

set_option linter.unusedSectionVars false

namespace Scico.StepSize.XR

variable {K : Type} [Field K] [LinearOrder K] [IsStrictOrderedRing K]

@[simp] theorem zero_def : (0 : XR K) = fin 0 := rfl
@[simp] theorem one_def : (1 : XR K) = fin 1 := rfl
@[simp] theorem div_def (x y : XR K) : x / y = div x y := rfl
@[simp] theorem mul_def (x y : XR K) : x * y = mul x y := rfl
@[simp] theorem isFinite_fin (a : K) : IEEE.isFinite (fin a) = true := rfl
@[simp] theorem isFinite_pinf : IEEE.isFinite (pinf : XR K) = false := rfl
@[simp] theorem isFinite_ninf : IEEE.isFinite (ninf : XR K) = false := rfl
@[simp] theorem isFinite_nan : IEEE.isFinite (nan : XR K) = false := rfl

theorem fin_add_fin (a b : K) : (fin a + fin b : XR K) = fin (a + b) := rfl

theorem fin_mul_fin (a b : K) : (fin a * fin b : XR K) = fin (a * b) := rfl

theorem fin_div_fin {a b : K} (hb : b ≠ 0) : (fin a / fin b : XR K) = fin (a / b) :=
  if_pos (lt_or_gt_of_ne hb)

theorem fin_div_zero {a : K} (ha : 0 < a) : (fin a / fin 0 : XR K) = pinf :=
  (if_neg fun h => h.elim (lt_irrefl 0) (lt_irrefl 0)).trans (if_pos ha)

theorem fin_le_fin {a b : K} : (fin a : XR K) ≤ fin b ↔ a ≤ b := by
  show (!decide (b < a)) = true ↔ a ≤ b
  rw [Bool.not_eq_true', decide_eq_false_iff_not, not_lt]

theorem fin_lt_fin {a b : K} : (fin a : XR K) < fin b ↔ a < b := decide_eq_true_iff

theorem sqrt_fin [HasSqrt K] {a : K} (ha : 0 ≤ a) : (HasSqrt.sqrt (fin a) : XR K) = fin (HasSqrt.sqrt a) :=
  if_neg (not_lt.2 ha)

theorem half_eq : (half : XR K) = fin (1 / 2) := by
  rw [half, one_def, fin_add_fin, one_add_one_eq_two, fin_div_fin two_ne_zero]

theorem fin_mul_pinf {a : K} (ha : 0 < a) : (fin a * pinf : XR K) = pinf := if_pos ha

theorem pinf_mul_pinf : (pinf * pinf : XR K) = pinf := rfl

theorem pinf_mul_zero : (pinf * fin 0 : XR K) = nan :=
  (if_neg (lt_irrefl 0)).trans (if_neg (lt_irrefl 0))

theorem pinf_div_fin {b : K} (hb : 0 < b) : (pinf / fin b : XR K) = pinf := if_neg hb.not_gt

theorem ninf_div_fin {b : K} (hb : 0 < b) : (ninf / fin b : XR K) = ninf := if_neg hb.not_gt

theorem nan_add (a : XR K) : (nan : XR K) + a = nan := by
  cases a <;> rfl

theorem not_nan_le (a : XR K) : ¬ ((nan : XR K) ≤ a) := by
  cases a <;> exact Bool.false_ne_true

theorem not_le_nan (a : XR K) : ¬ (a ≤ (nan : XR K)) := by
  cases a <;> exact Bool.false_ne_true

theorem not_nan_lt (a : XR K) : ¬ ((nan : XR K) < a) := by
  cases a <;> exact Bool.false_ne_true

theorem posFin_fin {a : K} : PosFin (fin a) ↔ 0 < a :=
  ⟨fun ⟨_, hb, hpos⟩ => by cases hb; exact hpos, fun h => ⟨a, rfl, h⟩⟩

@[simp] theorem not_posFin_pinf : ¬ PosFin (pinf : XR K) := by rintro ⟨_, h, _⟩; cases h
@[simp] theorem not_posFin_ninf : ¬ PosFin (ninf : XR K) := by rintro ⟨_, h, _⟩; cases h
@[simp] theorem not_posFin_nan : ¬ PosFin (nan : XR K) := by rintro ⟨_, h, _⟩; cases h

theorem posFin_mul {x y : XR K} (hx : PosFin x) (hy : PosFin y) : PosFin (x * y) := by
  obtain ⟨a, rfl, ha⟩ := hx
  obtain ⟨b, rfl, hb⟩ := hy
  exact ⟨a * b, rfl, mul_pos ha hb⟩

theorem posFin_div_fin (a b : K) :
    PosFin (fin a / fin b : XR K) ↔ (0 < a ∧ 0 < b) ∨ (a < 0 ∧ b < 0) := by
  by_cases hb : b = 0
  · subst hb
    -- `a/0` is `+inf`, `-inf` or NaN, and `0` has no sign
    have hl : ¬ PosFin (fin a / fin 0 : XR K) := by
      show ¬ PosFin (XR.div (fin a) (fin 0))
      simp only [XR.div, lt_self_iff_false, or_self, if_false]
      split_ifs
      · exact not_posFin_pinf
      · exact not_posFin_ninf
      · exact not_posFin_nan
    exact iff_of_false hl (not_or.2 ⟨fun h => lt_irrefl _ h.2, fun h => lt_irrefl _ h.2⟩)
  · rw [fin_div_fin hb, posFin_fin, div_pos_iff]

end Scico.StepSize.XR
