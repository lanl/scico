/-
  `L21Norm.prox` over an ARBITRARY grouping of the entries (`grp : Fin n → ℕ` labels the groups:
  the index along the non-reduced axes, or the block number for block input).  The certificate on
  `ℝⁿ` (`C02_l21`) is assembled from the norm certificate on each group by masking and Parseval over groups.
  The second namespace of the file, `Scico.ProxAxis`: which entries the labelling of `l2_axis` on an N-d array puts into one group.
-/
import Scico.Proofs.ProxConvex
import Scico.Proofs.Index

namespace Scico.ProxGroup

open Scico.Prox Scico.ProxSpec Scico.ProxBridge

variable {n : Nat}

def labels (grp : Fin n → ℕ) : Finset ℕ := Finset.univ.image grp

/-- the l2,1 norm for a grouping: sum over groups of the Euclidean norm of the group -/
noncomputable def l21Fn (grp : Fin n → ℕ) (x : EuclideanSpace ℝ (Fin n)) : ℝ :=
  ∑ c ∈ labels grp, √(∑ j ∈ Finset.univ.filter (fun j => grp j = c), x j ^ 2)

noncomputable def mask (grp : Fin n → ℕ) (c : ℕ) (x : EuclideanSpace ℝ (Fin n)) : EuclideanSpace ℝ (Fin n) :=
  toE (fun j => if grp j = c then x j else 0)

@[simp] theorem mask_apply (grp : Fin n → ℕ) (c : ℕ) (x : EuclideanSpace ℝ (Fin n)) (j : Fin n) :
    mask grp c x j = if grp j = c then x j else 0 := rfl

theorem mask_sub (grp : Fin n → ℕ) (c : ℕ) (x y : EuclideanSpace ℝ (Fin n)) :
    mask grp c (x - y) = mask grp c x - mask grp c y := by
  ext j; simp only [mask_apply, PiLp.sub_apply]; split_ifs <;> simp

theorem mask_smul (grp : Fin n → ℕ) (c : ℕ) (k : ℝ) (x : EuclideanSpace ℝ (Fin n)) :
    mask grp c (k • x) = k • mask grp c x := by
  ext j; simp only [mask_apply, PiLp.smul_apply, smul_eq_mul]; split_ifs <;> simp

theorem norm_mask (grp : Fin n → ℕ) (c : ℕ) (x : EuclideanSpace ℝ (Fin n)) :
    ‖mask grp c x‖ = √(∑ j ∈ Finset.univ.filter (fun j => grp j = c), x j ^ 2) := by
  unfold mask
  rw [norm_toE, Finset.sum_filter]
  congr 1
  refine Finset.sum_congr rfl fun j _ => ?_
  split_ifs <;> ring

theorem inner_mask (grp : Fin n → ℕ) (c : ℕ) (a b : EuclideanSpace ℝ (Fin n)) :
    inner ℝ (mask grp c a) (mask grp c b) = ∑ j, if grp j = c then a j * b j else 0 := by
  rw [inner_toE]
  refine Finset.sum_congr rfl fun j _ => ?_
  simp only [mask_apply]; split_ifs <;> ring

/-- Parseval over the groups -/
theorem sum_inner_mask (grp : Fin n → ℕ) (a b : EuclideanSpace ℝ (Fin n)) :
    ∑ c ∈ labels grp, inner ℝ (mask grp c a) (mask grp c b) = inner ℝ a b := by
  simp only [inner_mask]
  rw [Finset.sum_comm, inner_toE]
  refine Finset.sum_congr rfl fun j _ => ?_
  rw [Finset.sum_ite_eq]
  have : grp j ∈ labels grp := Finset.mem_image_of_mem grp (Finset.mem_univ j)
  rw [if_pos this]

theorem l21Fn_eq (grp : Fin n → ℕ) (x : EuclideanSpace ℝ (Fin n)) :
    l21Fn grp x = ∑ c ∈ labels grp, ‖mask grp c x‖ := by
  unfold l21Fn; simp only [norm_mask]

theorem groupLen_eq (grp : Fin n → ℕ) (v : Fin n → ℝ) (i : Fin n) :
    groupLen grp v i = ‖mask grp (grp i) (toE v)‖ := by
  unfold groupLen
  rw [hasSqrt_sqrt, Vec.sum_eq, norm_mask, Finset.sum_filter]
  congr 1
  refine Finset.sum_congr rfl fun j _ => ?_
  simp only [toE_apply]; split_ifs <;> ring

/-- the model prox restricted to a group is the norm prox of the group -/
theorem mask_l21Prox (grp : Fin n → ℕ) (c : ℕ) (v : Fin n → ℝ) {lam : ℝ} (hlam : 0 < lam) :
    mask grp c (toE (l21Prox grp v lam)) =
      (if ‖mask grp c (toE v)‖ = 0 then 0 else max (1 - lam / ‖mask grp c (toE v)‖) 0) • mask grp c (toE v) := by
  ext j
  simp only [mask_apply, PiLp.smul_apply, smul_eq_mul, toE_apply]
  by_cases hj : grp j = c
  · rw [if_pos hj]
    unfold l21Prox
    simp only [groupLen_eq, hj, posPart_eq, noNanDiv_eq]
    -- `new_length · no_nan_divide(v_j, length)` is `c · v_j`
    rw [softThresh_eq_coeff_mul (norm_nonneg _) hlam]
    split_ifs with h
    · rw [mul_zero, zero_mul]
    · rw [mul_assoc, mul_div_cancel₀ _ h]
  · simp [hj]

end Scico.ProxGroup

/-! ### the labelling of `L21Norm(l2_axis=axes)` on N-d arrays: `axisGroup` of `Scico/Model/Prox.lean` groups exactly the
    entries whose multi-indices agree along every axis that is not reduced (mixed-radix injectivity) -/

namespace Scico.ProxAxis
open Scico.Prox

/-- mixed-radix numbers are equal iff all digits are equal -/
theorem mixedRadix_inj (ds : List Nat) (r x y : Nat → Nat) (hx : ∀ d ∈ ds, x d < r d) (hy : ∀ d ∈ ds, y d < r d)
    (a b : Nat) :
    ds.foldl (fun acc d => acc * r d + x d) a = ds.foldl (fun acc d => acc * r d + y d) b ↔
      a = b ∧ ∀ d ∈ ds, x d = y d := by
  induction ds generalizing a b with
  | nil => simp
  | cons d ds ih =>
    simp only [List.foldl_cons, List.mem_cons, forall_eq_or_imp]
    rw [ih (fun e he => hx e (List.mem_cons_of_mem _ he)) (fun e he => hy e (List.mem_cons_of_mem _ he)),
      Index.digit_inj (hx d (List.mem_cons_self)) (hy d (List.mem_cons_self))]
    tauto

theorem mem_keptAxes {nd : Nat} {axes : List Nat} {d : Nat} : d ∈ keptAxes nd axes ↔ d < nd ∧ d ∉ axes := by
  unfold keptAxes
  simp [List.mem_filter, List.mem_range]

/-- `L21Norm(l2_axis=axes)` on N-d arrays: two flat entries carry the same label iff their
    multi-indices agree along every axis that is NOT reduced (all dimensions positive) -/
theorem axisGroup_eq_iff (shape axes : List Nat) (hpos : ∀ d, d < shape.length → 0 < shape.getD d 1) (i j : Nat) :
    axisGroup shape axes i = axisGroup shape axes j ↔
      ∀ d, d < shape.length → d ∉ axes → unravelAt shape i d = unravelAt shape j d := by
  unfold axisGroup
  rw [mixedRadix_inj (keptAxes shape.length axes) (fun d => shape.getD d 1) (unravelAt shape i) (unravelAt shape j)]
  · simp only [true_and]
    constructor
    · intro h d hd hn; exact h d (mem_keptAxes.mpr ⟨hd, hn⟩)
    · intro h d hd; obtain ⟨h1, h2⟩ := mem_keptAxes.mp hd; exact h d h1 h2
  · intro d hd; exact Nat.mod_lt _ (hpos d (mem_keptAxes.mp hd).1)
  · intro d hd; exact Nat.mod_lt _ (hpos d (mem_keptAxes.mp hd).1)

-- shape (2,3), l2_axis = 0: the groups are the columns; entries 1 = (0,1) and 4 = (1,1) share a group, 1 and 2 do not
example : axisGroup [2, 3] [0] 1 = axisGroup [2, 3] [0] 4 ∧ axisGroup [2, 3] [0] 1 ≠ axisGroup [2, 3] [0] 2 := by decide
example : normAxes 3 (some [-1, 0]) = [2, 0] := by decide
example : (List.range 5).map (blockGroup [2, 3]) = [0, 0, 1, 1, 1] := by decide

end Scico.ProxAxis
