/-
  Dtype soundness of the operator calculus (C12): the dtype an operator declares is the dtype its
  closures return on an argument of the declared dtype (`DtOk`; for `adj` this includes that its own
  dtype check and every inner one pass).

  Every closed-form class (`MatrixOperator`, `Diagonal`, `ScaledIdentity`, `Identity`) re-derives its
  dtypes from the payload and is sound unconditionally; the generic constructions are sound
  under the agreement conditions the code does not check (recorded findings `mixed-operand-dtypes`,
  `adj-dtype-check-mixed`): operands of a generic sum declare the same dtypes, and a composition
  through `Operator.__call__` chains its dtypes.  The stacks compare the dtypes of their operands
  themselves and need no condition.  Independent of the scalar type.
-/
import Scico.Proofs.OpAlgInv

namespace Scico.OpAlg
open Scico.DType

theorem rt_idem (a : DT) : resultType a a = a := by cases a <;> rfl
theorem rt_comm (a b : DT) : resultType a b = resultType b a := by cases a <;> cases b <;> rfl
theorem rt_absorb (a b : DT) : resultType a (resultType a b) = resultType a b := by
  cases a <;> cases b <;> rfl
theorem rt_absorb' (a b : DT) : resultType (resultType a b) b = resultType a b := by
  rw [rt_comm (resultType a b) b, rt_comm a b, rt_absorb]
theorem rtS_rt (a : DT) (s : SK) : resultType (resultTypeS a s) a = resultTypeS a s := by
  cases s with
  | strong d => exact (rt_comm _ _).trans (rt_absorb a d)
  | wInt | wFloat => exact rt_idem a
  | wComplex => cases a <;> rfl

set_option linter.unusedSectionVars false

section
variable {α : Type} [Add α] [Sub α] [Mul α] [Div α] [Neg α] [Zero α] [One α] [HasConj α] [HasRe α]

/-- declared dtypes = returned dtypes -/
structure DtOk (o : Obj α) : Prop where
  ev : o.evalDt o.md.inDt = .ok o.md.outDt
  ad : o.md.cls ≠ .op → o.adjCallDt o.md.outDt = .ok o.md.inDt
  /-- a `MatrixOperator` has one dtype (needed where `__rsub__` replaces `b` by `-b`, rebuilt from `inDt` alone) -/
  mx : o.md.cls = .matrix → o.md.outDt = o.md.inDt

/-- the two operands of a generic sum declare the same spaces -/
def DtAgree (a b : Obj α) : Prop := a.md.inDt = b.md.inDt ∧ a.md.outDt = b.md.outDt

/-- result built by one of the generic constructors (`Operator`, `LinearOperator`) -/
def IsGeneric (o : Obj α) : Prop := o.md.cls = .op ∨ o.md.cls = .linop

theorem mkMat_dt (m n : Nat) (dt : DT) (A : Mx α) : DtOk (mkMat m n dt A) :=
  ⟨congrArg Except.ok (rt_idem dt), fun _ => congrArg Except.ok (rt_idem dt), fun _ => rfl⟩

theorem autoAdj_dt {inDt outDt : DT} {evalDt : DtFn} (h : evalDt inDt = .ok outDt) :
    autoAdjDt inDt evalDt outDt = .ok inDt := by
  unfold autoAdjDt
  rw [h]
  simp

theorem adjCall_of_adjDt {o : Obj α} (h : o.adjDt o.md.outDt = .ok o.md.inDt) :
    o.adjCallDt o.md.outDt = .ok o.md.inDt := by
  unfold Obj.adjCallDt
  rw [if_neg (show ¬ (o.md.outDt ≠ o.md.outDt) from fun hne => hne rfl), ite_self]
  exact h

theorem DtOk.of {o : Obj α} (hev : o.evalDt o.md.inDt = .ok o.md.outDt)
    (had : o.adjDt o.md.outDt = .ok o.md.inDt) (hm : o.md.cls ≠ .matrix) : DtOk o :=
  ⟨hev, fun _ => adjCall_of_adjDt had, fun h => absurd h hm⟩

/-- an operator whose adjoint `_set_adjoint` derives from `eval` -/
theorem DtOk.ofAuto {o : Obj α} (hev : o.evalDt o.md.inDt = .ok o.md.outDt)
    (had : o.adjDt = autoAdjDt o.md.inDt o.evalDt) (hm : o.md.cls ≠ .matrix) : DtOk o :=
  DtOk.of hev (had ▸ autoAdj_dt hev) hm

theorem DtOk.ofOp {o : Obj α} (hev : o.evalDt o.md.inDt = .ok o.md.outDt) (hop : o.md.cls = .op) :
    DtOk o :=
  ⟨hev, fun h => absurd hop h, fun h => by rw [hop] at h; cases h⟩

theorem mkDiag_dt {d : V α} {dsh : Shape} {ddt : DT} {inSh : Shape} {inDt : DT} {o : Obj α}
    (h : mkDiag Cfg.fixed d dsh ddt inSh inDt = .ok o) : DtOk o := by
  unfold mkDiag at h
  split at h
  · cases h
  · injection h with h
    subst h
    exact DtOk.ofAuto rfl rfl (by intro h; cases h)

theorem mkSid_dt (c : α) (sk : SK) (sh : Shape) (inDt : DT) : DtOk (mkSid Cfg.fixed c sk sh inDt) :=
  DtOk.ofAuto rfl rfl (by intro h; cases h)

theorem mkIdent_dt (sh : Shape) (dt : DT) : DtOk (mkIdent (α := α) sh dt) :=
  DtOk.ofAuto rfl rfl (by intro h; cases h)

theorem mkLinAuto_dt {inSh outSh : Shape} {inDt outDt : DT} {ev : Vc α → Vc α} {evalDt : DtFn}
    (h : evalDt inDt = .ok outDt) : DtOk (mkLinAuto inSh outSh inDt outDt ev evalDt) :=
  DtOk.ofAuto h rfl (by intro h; cases h)

/-- the hand-written `adj_fn` of a `lin` leaf returns the declared input dtype -/
def LeafAdjOk (inDt gDt : DT) : Prop :=
  (if inDt.isComplex then resultType gDt (resultType gDt inDt)
   else (resultType gDt (resultType gDt inDt)).toReal) = inDt

theorem mkLinLeaf_dt (inSh outSh : Shape) (inDt gDt : DT) (hasAdj : Bool) (G : Mx α)
    (h : hasAdj = true → LeafAdjOk inDt gDt) : DtOk (mkLinLeaf inSh outSh inDt gDt hasAdj G) := by
  unfold mkLinLeaf
  by_cases hA : hasAdj = true
  · simp only [hA, if_true]
    exact DtOk.of rfl (congrArg Except.ok (h hA)) (by intro h; cases h)
  · simp only [hA, Bool.false_eq_true, if_false]
    exact mkLinAuto_dt rfl

theorem mkNonlinLeaf_dt (inSh outSh : Shape) (inDt gDt : DT) (G : Mx α) :
    DtOk (mkNonlinLeaf inSh outSh inDt gDt G) :=
  DtOk.ofOp rfl rfl

theorem opAddSub_dt (sub : Bool) {a b o : Obj α} (ha : DtOk a) (hb : DtOk b)
    (hag : IsGeneric o → DtAgree a b) (h : opAddSub sub a b = .ok o) : DtOk o := by
  have hin := (hag (Or.inl (opAddSub_cls h))).1
  obtain ⟨_, h⟩ := ite_ok_error h; cases h
  refine DtOk.ofOp ?_ rfl
  show (do let da ← a.evalDt a.md.inDt; let db ← b.evalDt a.md.inDt; pure (resultType da db)) = _
  rw [ha.1, hin, hb.1]
  rfl

theorem linAddSub_dt (sub : Bool) {a b : Obj α} (ha : DtOk a) (hb : DtOk b)
    (hla : a.md.cls ≠ .op) (hlb : b.md.cls ≠ .op)
    (hag : IsGeneric (linAddSub sub a b) → DtAgree a b) : DtOk (linAddSub sub a b) := by
  have hag := hag (Or.inr rfl)
  refine DtOk.of ?_ ?_ (by intro h; cases h)
  · show (do let da ← a.evalDt a.md.inDt; let db ← b.evalDt a.md.inDt; pure (resultType da db)) = _
    rw [ha.1, hag.1, hb.1]
    rfl
  · show (do let da ← a.adjCallDt (resultType a.md.outDt b.md.outDt)
             let db ← b.adjCallDt (resultType a.md.outDt b.md.outDt); pure (resultType da db)) = _
    rw [← hag.2, rt_idem, ha.2 hla, hag.2, hb.2 hlb, ← hag.1]
    exact congrArg Except.ok (rt_idem _)

theorem scal_evalDt {a : Obj α} (c : Scal α) (ha : DtOk a) :
    (do let d ← a.evalDt a.md.inDt; pure (resultTypeS d c.kind.sk))
      = Except.ok (resultTypeS a.md.outDt c.kind.sk) := by
  rw [ha.1]; rfl

theorem comp_evalDt {a b : Obj α} (ha : DtOk a) (hb : DtOk b) (hch : a.md.inDt = b.md.outDt) :
    (do let d ← b.evalDt b.md.inDt; a.evalDt d) = Except.ok a.md.outDt := by
  rw [hb.1, ← hch]; exact ha.1

/-- `Operator.__call__(Operator)`: sound when the dtypes chain (not checked by the code) -/
theorem opComp_dt {a b o : Obj α} (ha : DtOk a) (hb : DtOk b)
    (hch : o.md.cls = .op → a.md.inDt = b.md.outDt) (h : opComp Cfg.fixed a b = .ok o) : DtOk o := by
  have hin := hch (opComp_cls h)
  obtain ⟨_, h⟩ := ite_ok_error h; cases h
  exact DtOk.ofOp (comp_evalDt ha hb hin) rfl

/-- `ComposedLinearOperator`: the constructor checks that the dtypes chain -/
theorem linComp_dt {a b o : Obj α} (ha : DtOk a) (hb : DtOk b) (hla : a.md.cls ≠ .op)
    (hlb : b.md.cls ≠ .op) (h : linComp a b = .ok o) : DtOk o := by
  obtain ⟨_, h⟩ := ite_error_ok h
  obtain ⟨hdt, h⟩ := ite_error_ok h
  cases h
  have hdt : a.md.inDt = b.md.outDt := Decidable.not_not.mp hdt
  refine DtOk.of (comp_evalDt ha hb hdt) ?_ (by intro h; cases h)
  show (do let d ← a.adjCallDt a.md.outDt; b.adjCallDt d) = _
  rw [ha.2 hla, hdt]
  exact hb.2 hlb

theorem linT_dt {a : Obj α} (ha : DtOk a) (hla : a.md.cls ≠ .op) : DtOk (linT a) := by
  unfold linT
  split <;> exact DtOk.of (ha.2 hla) ha.1 (by intro h; cases h)

theorem linH_dt {a : Obj α} (ha : DtOk a) (hla : a.md.cls ≠ .op) : DtOk (linH a) :=
  DtOk.of (ha.2 hla) ha.1 (by intro h; cases h)

theorem linConj_dt {a : Obj α} (ha : DtOk a) (hla : a.md.cls ≠ .op) : DtOk (linConj a) :=
  DtOk.of ha.1 (ha.2 hla) (by intro h; cases h)

theorem linGram_dt {a : Obj α} (ha : DtOk a) (hla : a.md.cls ≠ .op) : DtOk (linGram Cfg.fixed a) := by
  have hg : (do let d ← a.evalDt a.md.inDt; a.adjCallDt d) = Except.ok a.md.inDt := by
    rw [ha.1]; exact ha.2 hla
  exact DtOk.of hg hg (by intro h; cases h)

/-! The closed forms rebuild their result with `mkMat` / `mkDiag` / `mkSid`, which are sound by themselves. -/

/-- a sum: closed-form results are sound unconditionally; a generic result (`Operator` / `LinearOperator`)
    when the operands declare the same dtypes -/
theorem SumOf.dt {sub : Bool} {x y o : Obj α} (h : SumOf sub x y o) (hx : DtOk x) (hy : DtOk y)
    (hag : IsGeneric o → DtAgree x y) : DtOk o := by
  cases h with
  | op _ h => exact opAddSub_dt sub hx hy hag h
  | lin h1 h2 _ => exact linAddSub_dt sub hx hy h1 h2 hag
  | diag _ _ _ h => exact mkDiag_dt (ite_ok_error h).2
  | sid _ _ _ h => obtain ⟨_, h⟩ := ite_ok_error h; cases h; exact mkSid_dt ..
  | mat => exact mkMat_dt ..

theorem addSub_dt (sub : Bool) {a b o : Obj α} (ha : DtOk a) (hb : DtOk b)
    (hag : IsGeneric o → DtAgree a b) (h : addSub Cfg.fixed sub a b = .ok o) : DtOk o := by
  rcases addSub_out h with h | ⟨hbm, h⟩
  · exact h.dt ha hb hag
  · -- `±b` declares the dtypes of `b`, and a `MatrixOperator` has one dtype
    cases sub
    · exact h.dt hb ha (fun hg => ⟨(hag hg).1.symm, (hag hg).2.symm⟩)
    · exact h.dt (mkMat_dt ..) ha (fun hg => ⟨(hag hg).1.symm, (hb.mx hbm).symm.trans (hag hg).2.symm⟩)

theorem smul_dt {a o : Obj α} (c : Scal α) (ha : DtOk a) (h : smul Cfg.fixed a c = .ok o) : DtOk o :=
  scal_cases (DtOk.ofOp (scal_evalDt c ha) rfl) mkDiag_dt (mkSid_dt ..) (fun h => matScal_ok h ▸ mkMat_dt ..)
    (fun h1 => DtOk.of (scal_evalDt c ha) (ha.2 (fun hop => h1 (by rw [Obj.cls, hop]; rfl)))
      (by intro h; cases h)) h

theorem sdiv_dt {a o : Obj α} (c : Scal α) (ha : DtOk a) (h : sdiv Cfg.fixed a c = .ok o) : DtOk o :=
  scal_cases (DtOk.ofOp (scal_evalDt c ha) rfl) mkDiag_dt (mkSid_dt ..) (fun h => matScal_ok h ▸ mkMat_dt ..)
    (fun h1 => DtOk.of (scal_evalDt c ha) (ha.2 (fun hop => h1 (by rw [Obj.cls, hop]; rfl)))
      (by intro h; cases h)) h

theorem neg_dt {a o : Obj α} (ha : DtOk a) (h : neg Cfg.fixed a = .ok o) : DtOk o := by
  rcases ite_eq h with ⟨_, h⟩ | ⟨_, h⟩
  · cases h; exact mkMat_dt ..
  · exact smul_dt _ ha h

/-- `a(b)`: a plain `Operator` result is sound when the dtypes chain (`ComposedLinearOperator` checks that itself) -/
theorem CompOf.dt {x y o : Obj α} (h : CompOf x y o) (hx : DtOk x) (hy : DtOk y)
    (hch : o.md.cls = .op → x.md.inDt = y.md.outDt) : DtOk o := by
  cases h with
  | op _ h => exact opComp_dt hx hy hch h
  | comp h1 h2 h => exact linComp_dt hx hy h1 h2 h
  | matId => exact hx
  | matMat => exact mkMat_dt ..
  | matLin _ _ _ hev => exact mkLinAuto_dt hev

theorem ProdOf.dt {x y o : Obj α} (h : ProdOf x y o) (hx : DtOk x) (hy : DtOk y)
    (hch : o.md.cls = .op → o ≠ x → x.md.inDt = y.md.outDt) : DtOk o := by
  cases h with
  | call hl h => exact h.dt hx hy (fun hc => hch hc (fun hox => hl (hox ▸ hc)))
  | idR => exact hx
  | idL => exact hy
  | sidSid => exact mkSid_dt ..
  | sidDiag _ _ _ h => exact mkDiag_dt h
  | diagDiag _ _ _ _ h => exact mkDiag_dt h

theorem diagConj_dt {a o : Obj α} (ha : DtOk a) (hc : IsDiagCls a.md.cls) (h : diagConj Cfg.fixed a = .ok o) :
    DtOk o :=
  diagFam_cases hc (fun _ => ha) (fun _ => mkSid_dt ..) (fun _ => mkDiag_dt) h

theorem diagGram_dt {a o : Obj α} (ha : DtOk a) (hc : IsDiagCls a.md.cls) (h : diagGram Cfg.fixed a = .ok o) :
    DtOk o :=
  diagFam_cases hc (fun _ => ha) (fun _ => mkSid_dt ..)
    (fun _ h => by
      rcases ite_eq h with ⟨_, h⟩ | ⟨_, h⟩
      · cases h; exact linGram_dt ha hc.ne_op
      · exact mkDiag_dt h) h

theorem opT_dt {a o : Obj α} (ha : DtOk a) (h : opT Cfg.fixed a = .ok o) : DtOk o :=
  view_cases (fun _ => mkMat_dt ..)
    (fun hd h => by
      cases h; unfold diagT
      split
      · exact linT_dt ha hd.ne_op
      · exact ha) (linT_dt ha) h

theorem opH_dt {a o : Obj α} (ha : DtOk a) (h : opH Cfg.fixed a = .ok o) : DtOk o :=
  view_cases (fun _ => mkMat_dt ..)
    (fun hd h => by
      rcases ite_eq h with ⟨_, h⟩ | ⟨_, h⟩
      · cases h; exact linH_dt ha hd.ne_op
      · exact diagConj_dt ha hd h) (linH_dt ha) h

theorem opConj_dt {a o : Obj α} (ha : DtOk a) (h : opConj Cfg.fixed a = .ok o) : DtOk o :=
  view_cases (fun _ => mkMat_dt ..) (diagConj_dt ha) (linConj_dt ha) h

theorem opGram_dt {a o : Obj α} (ha : DtOk a) (h : opGram Cfg.fixed a = .ok o) : DtOk o :=
  view_cases (fun _ => mkMat_dt ..) (diagGram_dt ha) (linGram_dt ha) h

theorem matHadamard_dt {div : Bool} {a b o : Obj α} (h : matHadamard div a b = .ok o) : DtOk o := by
  obtain ⟨_, h⟩ := ite_ok_error h
  obtain ⟨_, h⟩ := ite_ok_error h
  cases h; exact mkMat_dt ..

/-- **the agreement conditions scico does not check** (everything else it checks itself):
    * at `a ± b`: when the result is a generic `Operator` / `LinearOperator` (no closed form applies),
      the operands declare the same input and output dtypes;
    * at `a(b)` / `a @ b`: when the result is a plain `Operator` built by `Operator.__call__`, the
      dtypes chain (`ComposedLinearOperator` checks this itself);
    * a `lin` leaf with a hand-written `adj_fn`: that function returns the declared input dtype. -/
def DtAgrees : LExpr α → Prop
  | .lin _ _ inDt gDt hasAdj _ => hasAdj = true → LeafAdjOk inDt gDt
  | .add a b =>
    DtAgrees a ∧ DtAgrees b ∧ ∀ oa ob o, build a = .ok oa → build b = .ok ob →
      addSub Cfg.fixed false oa ob = .ok o → IsGeneric o → DtAgree oa ob
  | .sub a b =>
    DtAgrees a ∧ DtAgrees b ∧ ∀ oa ob o, build a = .ok oa → build b = .ok ob →
      addSub Cfg.fixed true oa ob = .ok o → IsGeneric o → DtAgree oa ob
  | .comp a b =>
    DtAgrees a ∧ DtAgrees b ∧ ∀ oa ob o, build a = .ok oa → build b = .ok ob →
      call Cfg.fixed oa ob = .ok o → o.md.cls = .op → oa.md.inDt = ob.md.outDt
  | .matmul a b =>
    DtAgrees a ∧ DtAgrees b ∧ ∀ oa ob o, build a = .ok oa → build b = .ok ob →
      matmul Cfg.fixed oa ob = .ok o → o.md.cls = .op → o ≠ oa → oa.md.inDt = ob.md.outDt
  | .had _ a b => DtAgrees a ∧ DtAgrees b
  | .neg a | .smulL _ a | .smulR a _ | .sdiv a _ | .rdiv _ a | .addS _ _ a _
  | .T a | .H a | .conj a | .gram a => DtAgrees a
  | _ => True

/-- **Dtype soundness.**  Whatever scico builds for an expression whose operands agree in the
    sense of `DtAgrees` returns, on an argument of its declared input dtype, exactly its declared
    output dtype, and its adjoint maps the declared output dtype to the declared input dtype (its
    dtype check and every inner one pass). -/
theorem build_dt (e : LExpr α) (o : Obj α) (hg : DtAgrees e) (h : build e = .ok o) : DtOk o := by
  revert hg
  refine build_ind (P := fun e o => DtAgrees e → DtOk o) ?mat ?diag ?scaledId ?ident ?lin ?nonlin ?add ?sub ?neg ?smulL ?smulR ?sdiv ?rdiv ?addS ?had
    ?comp ?matmul ?T ?H ?conj ?gram e o h
  case mat => exact fun _ _ _ _ _ => mkMat_dt ..
  case diag => exact fun _ _ _ _ _ _ h _ => mkDiag_dt h
  case scaledId => exact fun _ _ _ _ _ => mkSid_dt ..
  case ident => exact fun _ _ _ => mkIdent_dt ..
  case lin => exact fun _ _ _ _ _ _ hg => mkLinLeaf_dt _ _ _ _ _ _ hg
  case nonlin => exact fun _ _ _ _ _ _ => mkNonlinLeaf_dt ..
  case add =>
    exact fun a b oa ob o ha hb pa pb h hg =>
      addSub_dt false (pa hg.1) (pb hg.2.1) (hg.2.2 oa ob o ha hb h) h
  case sub =>
    exact fun a b oa ob o ha hb pa pb h hg =>
      addSub_dt true (pa hg.1) (pb hg.2.1) (hg.2.2 oa ob o ha hb h) h
  case neg => exact fun _ _ _ _ pa h hg => neg_dt (pa hg) h
  case smulL => exact fun c _ _ _ _ pa h hg => smul_dt c (pa hg) h
  case smulR => exact fun _ c _ _ _ pa h hg => smul_dt c (pa hg) h
  case sdiv => exact fun _ c _ _ _ pa h hg => sdiv_dt c (pa hg) h
  case rdiv => exact fun _ _ _ _ _ _ _ h _ => matScal_ok h ▸ mkMat_dt ..
  case addS => exact fun _ _ _ _ _ _ _ _ _ h _ => matScal_ok h ▸ mkMat_dt ..
  case had => exact fun _ _ _ _ _ _ _ _ _ _ _ h _ => matHadamard_dt h
  case comp =>
    exact fun a b oa ob o ha hb pa pb h hg =>
      (call_out h).dt (pa hg.1) (pb hg.2.1) (hg.2.2 oa ob o ha hb h)
  case matmul =>
    exact fun a b oa ob o ha hb pa pb h hg =>
      (matmul_out h).dt (pa hg.1) (pb hg.2.1) (hg.2.2 oa ob o ha hb h)
  case T => exact fun _ _ _ _ pa h hg => opT_dt (pa hg) h
  case H => exact fun _ _ _ _ pa h hg => opH_dt (pa hg) h
  case conj => exact fun _ _ _ _ pa h hg => opConj_dt (pa hg) h
  case gram => exact fun _ _ _ _ pa h hg => opGram_dt (pa hg) h

theorem joinDts_const (stacked : Bool) (d : DT) :
    ∀ (l : List (Except Err DT)), l ≠ [] → (∀ r ∈ l, r = .ok d) → joinDts stacked l = .ok d
  | [], h, _ => absurd rfl h
  | [r], _, hall => hall r (List.mem_singleton_self r)
  | r :: r2 :: rest, _, hall => by
    have ih := joinDts_const stacked d (r2 :: rest) (List.cons_ne_nil _ _)
      (fun r' hr' => hall r' (List.mem_cons_of_mem _ hr'))
    rw [joinDts, hall r List.mem_cons_self, ih]
    · cases stacked
      · exact if_pos rfl
      · exact congrArg Except.ok (rt_idem d)
    · exact List.cons_ne_nil _ _

/-- Python's `sum` promotes like `snp.stack` -/
theorem sumDts_eq_joinDts : ∀ l : List (Except Err DT), sumDts l = joinDts true l
  | [] => rfl
  | [_] => rfl
  | r :: r2 :: rest => by
    show (do let d ← r; let d' ← sumDts (r2 :: rest); pure (resultType d d')) = _
    rw [sumDts_eq_joinDts (r2 :: rest)]; rfl

theorem StackOk.evalDt {lin : Bool} {ops : List (Obj α)} {o0 : Obj α} (hok : StackOk lin ops o0)
    (hd : ∀ o' ∈ ops, DtOk o') : ∀ r ∈ ops.map (fun o => o.evalDt o0.md.inDt), r = .ok o0.md.outDt := by
  intro r hr
  obtain ⟨o', ho', rfl⟩ := List.mem_map.mp hr
  rw [← hok.inDt o' ho', (hd o' ho').ev, hok.outDt o' ho']

theorem StackOk.adjDt {ops : List (Obj α)} {o0 : Obj α} (hok : StackOk true ops o0)
    (hd : ∀ o' ∈ ops, DtOk o') : ∀ r ∈ ops.map (fun o => o.adjCallDt o0.md.outDt), r = .ok o0.md.inDt := by
  intro r hr
  obtain ⟨o', ho', rfl⟩ := List.mem_map.mp hr
  rw [← hok.outDt o' ho', (hd o' ho').ad (hok.lin rfl o' ho'), hok.inDt o' ho']

theorem stackObj_dt {lin : Bool} {inSh outSh : Shape} {o0 : Obj α} {ev ad : Vc α → Vc α}
    {evDt adDt : DtFn} (hev : evDt o0.md.inDt = .ok o0.md.outDt)
    (had : lin = true → adDt o0.md.outDt = .ok o0.md.inDt) :
    DtOk (stackObj lin inSh outSh o0 ev ad evDt adDt) := by
  cases lin
  · exact DtOk.ofOp hev rfl
  · exact DtOk.of hev (had rfl) (by intro h; cases h)

theorem vstack_dt {ops : List (Obj α)} {o : Obj α} (lin collapse : Bool)
    (hd : ∀ o' ∈ ops, DtOk o') (hb : vstack lin ops collapse = .ok o) : DtOk o := by
  obtain ⟨o0, os, rfl, hok, _, rfl⟩ := vstack_ok hb
  exact stackObj_dt (joinDts_const _ _ _ (List.cons_ne_nil _ _) (hok.evalDt hd))
    (fun hl => (sumDts_eq_joinDts _).trans
      (joinDts_const _ _ _ (List.cons_ne_nil _ _) ((hl ▸ hok).adjDt hd)))

theorem dstack_dt {ops : List (Obj α)} {o : Obj α} (lin cIn cOut : Bool)
    (hd : ∀ o' ∈ ops, DtOk o') (hb : dstack lin ops cIn cOut = .ok o) : DtOk o := by
  obtain ⟨o0, os, inSh, ci, outSh, co, rfl, hok, _, _, rfl⟩ := dstack_ok hb
  exact stackObj_dt (joinDts_const _ _ _ (List.cons_ne_nil _ _) (hok.evalDt hd))
    (fun hl => joinDts_const _ _ _ (List.cons_ne_nil _ _) ((hl ▸ hok).adjDt hd))

theorem buildAll_dt : ∀ (es : List (LExpr α)) (os : List (Obj α)), buildAll Cfg.fixed es = .ok os →
    (∀ e ∈ es, DtAgrees e) → ∀ o' ∈ os, DtOk o' := by
  refine buildAll_ind (fun _ _ ho' => nomatch ho') (fun e es o os ho ih hg o' ho' => ?_)
  rcases List.mem_cons.mp ho' with rfl | h'
  · exact build_dt e _ (hg e List.mem_cons_self) ho
  · exact ih (fun e' he' => hg e' (List.mem_cons_of_mem _ he')) o' h'

/-- stacks of expressions: dtype-sound whenever the operands are (no condition on the stack itself) -/
theorem buildVStack_dt (lin : Bool) (es : List (LExpr α)) (collapse : Bool) (o : Obj α)
    (hg : ∀ e ∈ es, DtAgrees e) (h : buildVStack lin es collapse = .ok o) : DtOk o := by
  unfold buildVStack at h
  obtain ⟨os, hos, h⟩ := bind_eq_ok.1 h
  exact vstack_dt lin collapse (buildAll_dt es os hos hg) h

theorem buildDStack_dt (lin : Bool) (es : List (LExpr α)) (cIn cOut : Bool) (o : Obj α)
    (hg : ∀ e ∈ es, DtAgrees e) (h : buildDStack lin es cIn cOut = .ok o) : DtOk o := by
  unfold buildDStack at h
  obtain ⟨os, hos, h⟩ := bind_eq_ok.1 h
  exact dstack_dt lin cIn cOut (buildAll_dt es os hos hg) h

end
end Scico.OpAlg
