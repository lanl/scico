/-
  Classical conjugate-gradient theory for the model `cgStep` of `scico.solver.cg` (C14):
  by induction over the iteration count, for Hermitian positive-definite `A` and Hermitian `M`, as long as
  `num ≠ 0` (the loop is still running):

  * residuals are orthogonal to all earlier search directions (hence, by `inner_z_of_inner_p`, `M`-orthogonal to the earlier
    residuals: that form is stated in `C14_cg_conjugacy`),
  * search directions are mutually `A`-conjugate,
  * every executed step decreases the `A`-norm of the error by exactly `num² / ⟪p, A p⟫`,
  * in a space of dimension `n` some `num_k` with `k ≤ n` is exactly zero (finite termination): `n + 1` conjugate
    directions would be linearly independent.

  `cgSeq k` is the state after `k` bodies; the loop of `cg` returns it for the least `k` at which its test fails
  (`cgLoop_eq_cgSeq`).  At an index with `num = 0` (positive-definite `M`) the residual and the search direction vanish and `x` solves the system
  (`cgSeq_exact`, `cgSeq_p_eq_zero`).  The fixed-length scan `cg_solver` takes the same steps until then, neither of its
  guards firing (`scan_iterates_eq`), and stays there.
-/
import Mathlib.Analysis.InnerProductSpace.Basic
import Mathlib.LinearAlgebra.Dimension.Finite
import Scico.Proofs.LinSolveCG

namespace Scico.LinSolve
open RCLike

variable {𝕜 V : Type} [RCLike 𝕜] [NormedAddCommGroup V] [InnerProductSpace 𝕜 V]

noncomputable def cgSeq (A M : V → V) (b x0 : V) (j : ℕ) : CGState 𝕜 V :=
  (cgStep (rcOps 𝕜 V) A M)^[j] (cgInit (rcOps 𝕜 V) A M b x0)

theorem cgSeq_zero (A M : V → V) (b x0 : V) :
    cgSeq (𝕜 := 𝕜) A M b x0 0 = cgInit (rcOps 𝕜 V) A M b x0 := rfl

theorem cgSeq_succ (A M : V → V) (b x0 : V) (j : ℕ) :
    cgSeq (𝕜 := 𝕜) A M b x0 (j + 1) = cgStep (rcOps 𝕜 V) A M (cgSeq A M b x0 j) := by
  unfold cgSeq; rw [Function.iterate_succ_apply']

theorem cgSeq_ii (A M : V → V) (b x0 : V) (j : ℕ) : (cgSeq (𝕜 := 𝕜) A M b x0 j).ii = j :=
  (iterate_counter _ CGState.ii (fun _ => rfl) _ j).trans (Nat.zero_add j)

theorem cgLoop_eq_cgSeq (A M : V → V) (b x0 : V) (maxiter : ℕ) (tolsq : ℝ) :
    ∃ k, cgLoop (rcOps 𝕜 V) A M maxiter tolsq maxiter (cgInit (rcOps 𝕜 V) A M b x0) = cgSeq A M b x0 k ∧
      cgCond (rcOps 𝕜 V) maxiter tolsq (cgSeq A M b x0 k) = false ∧
      ∀ k0, cgCond (rcOps 𝕜 V) maxiter tolsq (cgSeq A M b x0 k0) = false → k ≤ k0 :=
  let ⟨k, _, h⟩ := countedLoop_least _ _ (cgLoop (rcOps 𝕜 V) A M maxiter tolsq) (fun _ => rfl) (fun _ _ => rfl) CGState.ii
    (fun _ => rfl) maxiter (fun _ h => of_decide_eq_true (Bool.and_eq_true _ _ ▸ h).1) (cgInit (rcOps 𝕜 V) A M b x0) rfl
  ⟨k, h⟩

/-- `alpha` of the body executed at state `s` -/
noncomputable def cgAlpha (A : V → V) (s : CGState 𝕜 V) : 𝕜 := s.num / inner 𝕜 s.p (A s.p)

section Conj
variable (A : V →ₗ[𝕜] V) (M : V → V) (b x0 : V)

set_option quotPrecheck false in
local notation "S" => cgSeq (𝕜 := 𝕜) (⇑A) M b x0

theorem cgSeq_x_succ (j : ℕ) : (S (j + 1)).x = (S j).x + cgAlpha (⇑A) (S j) • (S j).p := by
  rw [cgSeq_succ]; rfl

theorem cgSeq_r_succ (j : ℕ) : (S (j + 1)).r = (S j).r - cgAlpha (⇑A) (S j) • A (S j).p := by
  rw [cgSeq_succ]; rfl

theorem cgSeq_z (j : ℕ) : (S j).z = M (S j).r := by
  cases j with
  | zero => rfl
  | succ j => rw [cgSeq_succ]; rfl

theorem cgSeq_p_succ (j : ℕ) : (S (j + 1)).p = (S (j + 1)).z + ((S (j + 1)).num / (S j).num) • (S j).p := by
  rw [cgSeq_succ]; rfl

theorem cgSeq_z_eq (j : ℕ) : (S (j + 1)).z = (S (j + 1)).p - ((S (j + 1)).num / (S j).num) • (S j).p := by
  rw [cgSeq_p_succ]; abel

theorem cgSeq_inv (k : ℕ) : CGInv (⇑A) M b (S k) :=
  Function.Iterate.rec (CGInv (⇑A) M b) (cgInit_inv A M b x0) (cgStep_inv A M b) k

theorem cgSeq_exact (hMp : ∀ x, x ≠ 0 → 0 < re (inner 𝕜 x (M x))) {k : ℕ} (hz : (S k).num = 0) :
    (S k).r = 0 ∧ A (S k).x = b := by
  have h := cgSeq_inv A M b x0 k
  have hr := h.r_eq_zero hMp hz
  exact ⟨hr, (sub_eq_zero.1 (h.res.symm.trans hr)).symm⟩

theorem cgSeq_p_eq_zero (hM0 : M 0 = 0) {k : ℕ} (hz : (S k).num = 0) (hr : (S k).r = 0) : (S k).p = 0 := by
  cases k with
  | zero => rw [show (S 0).p = (S 0).z from rfl, cgSeq_z, hr, hM0]
  | succ k => rw [cgSeq_p_succ, cgSeq_z, hr, hM0, hz, zero_div, zero_smul, add_zero]

/-- what the induction over the iteration count carries for the first `k + 1` states: the invariant, every residual orthogonal to
    the earlier search directions, the search directions `A`-conjugate -/
structure CGConj (k : ℕ) : Prop where
  inv : ∀ j ≤ k, CGInvHerm (⇑A) M b (S j)
  orth : ∀ i j, j < i → i ≤ k → inner 𝕜 (S i).r (S j).p = 0
  conj : ∀ i j, j < i → i ≤ k → inner 𝕜 (S i).p (A (S j).p) = 0

theorem cgAlpha_real (hAs : ∀ x y, inner 𝕜 (A x) y = inner 𝕜 x (A y)) (s : CGState 𝕜 V) (hr : im s.num = 0) :
    (starRingEnd 𝕜) (cgAlpha (⇑A) s) = cgAlpha (⇑A) s := by
  unfold cgAlpha
  rw [map_div₀, RCLike.conj_eq_iff_im.2 hr, conj_inner_herm (⇑A) hAs]

/-- `z_j` is a combination of `p_j` and `p_{j-1}`, so anything orthogonal to the directions is orthogonal to it -/
theorem inner_z_of_inner_p (w : V) (j : ℕ) (h0 : inner 𝕜 w (S j).p = 0)
    (h1 : ∀ j', j = j' + 1 → inner 𝕜 w (S j').p = 0) : inner 𝕜 w (S j).z = 0 := by
  cases j with
  | zero => exact h0
  | succ j' => rw [cgSeq_z_eq, inner_sub_right, inner_smul_right, h0, h1 j' rfl, mul_zero, sub_zero]

theorem cgConj (hAs : ∀ x y, inner 𝕜 (A x) y = inner 𝕜 x (A y)) (hAp : ∀ x, x ≠ 0 → 0 < re (inner 𝕜 x (A x)))
    (hM : ∀ x y, inner 𝕜 (M x) y = inner 𝕜 x (M y)) :
    ∀ k, (∀ j < k, (S j).num ≠ 0) → CGConj A M b x0 k := by
  intro k
  induction k with
  | zero =>
    intro _
    refine ⟨?_, ?_, ?_⟩
    · intro j hj
      have : j = 0 := by omega
      subst this
      exact cgInit_invHerm (⇑A) M hM b x0
    · intro i j hji hi; omega
    · intro i j hji hi; omega
  | succ k ih =>
    intro hk
    have ih := ih (fun j hj => hk j (by omega))
    have hs := ih.inv k le_rfl
    have hnum := hk k (by omega)
    have hden := hs.den_ne_zero hAp hnum
    have hs' := cgStep_invHerm A M b hAs hAp hM (S k) hs hnum
    rw [← cgSeq_succ] at hs'
    have hαr := cgAlpha_real A hAs (S k) hs.real
    have hrp : ∀ j, j ≤ k → inner 𝕜 (S (k + 1)).r (S j).p = 0 := by
      intro j hj
      rw [cgSeq_r_succ, inner_sub_left, inner_smul_left, hαr, hAs]
      rcases Nat.lt_or_eq_of_le hj with hlt | heq
      · rw [ih.orth k j hlt le_rfl, ih.conj k j hlt le_rfl, mul_zero, sub_zero]
      · subst heq
        rw [hs.rp]
        unfold cgAlpha
        rw [div_mul_cancel₀ _ hden, sub_self]
    have hrz : ∀ j, j ≤ k → inner 𝕜 (S (k + 1)).r (S j).z = 0 := by
      intro j hj
      exact inner_z_of_inner_p A M b x0 _ j (hrp j hj) (fun j' hj' => hrp j' (by omega))
    refine ⟨?_, ?_, ?_⟩
    · intro j hj
      rcases Nat.lt_or_eq_of_le hj with hlt | heq
      · exact ih.inv j (by omega)
      · subst heq; exact hs'
    · intro i j hji hi
      rcases Nat.lt_or_eq_of_le hi with hlt | heq
      · exact ih.orth i j hji (by omega)
      · subst heq; exact hrp j (by omega)
    · intro i j hji hi
      rcases Nat.lt_or_eq_of_le hi with hlt | heq
      · exact ih.conj i j hji (by omega)
      · subst heq
        have hj : j ≤ k := by omega
        have hsj := ih.inv j hj
        have hnumj : (S j).num ≠ 0 := hk j (by omega)
        have hαj : cgAlpha (⇑A) (S j) ≠ 0 := div_ne_zero hnumj (hsj.den_ne_zero hAp hnumj)
        -- `A p_j = (r_j − r_{j+1}) / α_j` with `α_j ≠ 0`, and `p_{k+1} = z_{k+1} + β p_k`: conjugacy of the new direction reduces to the
        -- orthogonality of `r_{k+1}` to the earlier `z`'s (`M` Hermitian) and to conjugacy of `p_k`
        have hdiff : cgAlpha (⇑A) (S j) • A (S j).p = (S j).r - (S (j + 1)).r := by
          rw [cgSeq_r_succ]; abel
        have key : cgAlpha (⇑A) (S j) * inner 𝕜 (S (k + 1)).p (A (S j).p) = 0 := by
          rw [← inner_smul_right, hdiff]
          rw [cgSeq_p_succ, inner_add_left, inner_smul_left]
          have hzr : ∀ i, inner 𝕜 (S (k + 1)).z (S i).r = inner 𝕜 (S (k + 1)).r (S i).z := by
            intro i
            rw [cgSeq_z, cgSeq_z A M b x0 i, hM]
          rw [inner_sub_right, inner_sub_right, hzr j, hzr (j + 1), hrz j hj]
          have hpk : inner 𝕜 (S k).p ((S j).r - (S (j + 1)).r) = cgAlpha (⇑A) (S j) * inner 𝕜 (S k).p (A (S j).p) := by
            rw [← hdiff, inner_smul_right]
          rw [← inner_sub_right, hpk]
          rcases Nat.lt_or_eq_of_le hj with hlt | heq
          · rw [hrz (j + 1) (by omega), ih.conj k j hlt le_rfl]; simp
          · subst heq
            have hreal' : (starRingEnd 𝕜) (S (j + 1)).num = (S (j + 1)).num := RCLike.conj_eq_iff_im.2 hs'.real
            have hreal : (starRingEnd 𝕜) (S j).num = (S j).num := RCLike.conj_eq_iff_im.2 hs.real
            rw [← hs'.num, map_div₀, hreal', hreal]
            unfold cgAlpha
            rw [div_mul_cancel₀ _ hden, div_mul_cancel₀ _ hnum]
            ring
        exact (mul_eq_zero.1 key).resolve_left hαj

end Conj

/-- the squared `A`-norm `‖x⋆ − x‖²_A` of the error of `x` -/
noncomputable def energy (A : V →ₗ[𝕜] V) (xs x : V) : ℝ := re (inner 𝕜 (xs - x) (A (xs - x)))

theorem CGInv.apply_err {A : V →ₗ[𝕜] V} {M : V → V} {b : V} {s : CGState 𝕜 V} (h : CGInv (⇑A) M b s) {xs : V}
    (hxs : A xs = b) : A (xs - s.x) = s.r := by
  rw [LinearMap.map_sub, hxs, h.res]

theorem energy_add (A : V →ₗ[𝕜] V) (hAs : ∀ x y, inner 𝕜 (A x) y = inner 𝕜 x (A y)) {xs x r : V} (hr : A (xs - x) = r)
    (v : V) : energy A xs (x + v) = energy A xs x - 2 * re (inner 𝕜 r v) + re (inner 𝕜 v (A v)) := by
  subst hr
  unfold energy
  have h : re (inner 𝕜 v (A (xs - x))) = re (inner 𝕜 (A (xs - x)) v) := by rw [← inner_conj_symm, conj_re]
  rw [show xs - (x + v) = (xs - x) - v by abel, LinearMap.map_sub, inner_sub_left, inner_sub_right, inner_sub_right,
    ← hAs (xs - x) v]
  simp only [AddMonoidHom.map_sub, h]
  ring

theorem cgStep_energy (A : V →ₗ[𝕜] V) (M : V → V) (b xs : V) (hxs : A xs = b)
    (hAs : ∀ x y, inner 𝕜 (A x) y = inner 𝕜 x (A y))
    (s : CGState 𝕜 V) (h : CGInvHerm (⇑A) M b s) (hden : inner 𝕜 s.p (A s.p) ≠ 0) :
    energy A xs (cgStep (rcOps 𝕜 V) A M s).x = energy A xs s.x - (re s.num) ^ 2 / re (inner 𝕜 s.p (A s.p)) := by
  -- `num`, the denominator and hence `alpha` are real
  obtain ⟨n, hn⟩ : ∃ n : ℝ, s.num = (n : 𝕜) := ⟨_, (RCLike.conj_eq_iff_re.1 (RCLike.conj_eq_iff_im.2 h.real)).symm⟩
  obtain ⟨d, hd⟩ : ∃ d : ℝ, inner 𝕜 s.p (A s.p) = (d : 𝕜) := ⟨_, (ofReal_re_inner_herm (⇑A) hAs s.p).symm⟩
  have hd0 : d ≠ 0 := fun h0 => hden (by rw [hd, h0, RCLike.ofReal_zero])
  have hα : cgAlpha (⇑A) s = ((n / d : ℝ) : 𝕜) := by rw [cgAlpha, hn, hd, RCLike.ofReal_div]
  change energy A xs (s.x + cgAlpha (⇑A) s • s.p) = _
  rw [energy_add A hAs (h.toCGInv.apply_err hxs), LinearMap.map_smul, inner_smul_left, inner_smul_right,
    inner_smul_right, h.rp, hα, hn, hd, conj_ofReal]
  simp only [RCLike.mul_re, RCLike.ofReal_re, RCLike.ofReal_im, mul_zero, sub_zero, zero_mul]
  field_simp
  ring

theorem linIndep_of_conj {n : ℕ} (A : V →ₗ[𝕜] V) (p : Fin n → V)
    (hpp : ∀ i, inner 𝕜 (p i) (A (p i)) ≠ 0) (hc : ∀ i j, i ≠ j → inner 𝕜 (p i) (A (p j)) = 0) :
    LinearIndependent 𝕜 p := by
  rw [linearIndependent_iff']
  intro s g hg i hi
  have h0 : inner 𝕜 (p i) (A (∑ j ∈ s, g j • p j)) = 0 := by rw [hg]; simp
  rw [map_sum, inner_sum] at h0
  simp only [LinearMap.map_smul, inner_smul_right] at h0
  rw [Finset.sum_eq_single i] at h0
  · exact (mul_eq_zero.1 h0).resolve_right (hpp i)
  · intro j _ hji
    rw [hc i j (Ne.symm hji), mul_zero]
  · intro h; exact absurd hi h

theorem cg_finite_termination [Module.Finite 𝕜 V] (A : V →ₗ[𝕜] V) (M : V → V) (b x0 : V)
    (hAs : ∀ x y, inner 𝕜 (A x) y = inner 𝕜 x (A y)) (hAp : ∀ x, x ≠ 0 → 0 < re (inner 𝕜 x (A x)))
    (hM : ∀ x y, inner 𝕜 (M x) y = inner 𝕜 x (M y)) :
    ∃ k, k ≤ Module.finrank 𝕜 V ∧ (cgSeq (𝕜 := 𝕜) (⇑A) M b x0 k).num = 0 := by
  by_contra hcon
  push Not at hcon
  set n := Module.finrank 𝕜 V with hn
  have hC := cgConj A M b x0 hAs hAp hM n (fun j hj => hcon j (by omega))
  let p : Fin (n + 1) → V := fun i => (cgSeq (𝕜 := 𝕜) (⇑A) M b x0 i.val).p
  have hpp : ∀ i, inner 𝕜 (p i) (A (p i)) ≠ 0 := by
    intro i
    exact (hC.inv i.val (by omega)).den_ne_zero hAp (hcon i.val (by omega))
  have hc : ∀ i j, i ≠ j → inner 𝕜 (p i) (A (p j)) = 0 := by
    intro i j hij
    rcases Nat.lt_or_gt_of_ne (fun h => hij (Fin.ext h)) with h | h
    · have := hC.conj j.val i.val h (by omega)
      show inner 𝕜 (p i) (A (p j)) = 0
      rw [← hAs, ← inner_conj_symm]
      show (starRingEnd 𝕜) (inner 𝕜 (p j) (A (p i))) = 0
      rw [show inner 𝕜 (p j) (A (p i)) = 0 from this, map_zero]
    · exact hC.conj i.val j.val h (by omega)
  have hli := linIndep_of_conj A p hpp hc
  have := hli.fintype_card_le_finrank
  simp at this
  omega

theorem cg_first_exact [Module.Finite 𝕜 V] (A : V →ₗ[𝕜] V) (M : V → V) (b x0 : V)
    (hAs : ∀ x y, inner 𝕜 (A x) y = inner 𝕜 x (A y)) (hAp : ∀ x, x ≠ 0 → 0 < re (inner 𝕜 x (A x)))
    (hM : ∀ x y, inner 𝕜 (M x) y = inner 𝕜 x (M y)) :
    ∃ k, k ≤ Module.finrank 𝕜 V ∧ (cgSeq (𝕜 := 𝕜) (⇑A) M b x0 k).num = 0 ∧
      ∀ j < k, (cgSeq (𝕜 := 𝕜) (⇑A) M b x0 j).num ≠ 0 := by
  classical
  obtain ⟨k1, hk1, hz1⟩ := cg_finite_termination A M b x0 hAs hAp hM
  have hex : ∃ k, (cgSeq (𝕜 := 𝕜) (⇑A) M b x0 k).num = 0 := ⟨k1, hz1⟩
  exact ⟨Nat.find hex, (Nat.find_min' hex hz1).trans hk1, Nat.find_spec hex, fun j hj => Nat.find_min hex hj⟩

def CGState.toScan (s : CGState 𝕜 V) : ScanState 𝕜 V := { x := s.x, r := s.r, p := s.p, num := s.num }

theorem scanStep_eq_cgStep (A : V → V) (s : CGState 𝕜 V) (hnum : s.num ≠ 0) (hden : inner 𝕜 s.p (A s.p) ≠ 0) :
    scanStep (rcOps 𝕜 V) A s.toScan = (cgStep (rcOps 𝕜 V) A (fun v => v) s).toScan := by
  simp [scanStep, cgStep, CGState.toScan, rcOps, hnum, hden]

theorem scan_iterates_eq (A : V →ₗ[𝕜] V) (b x0 : V) (hAs : ∀ x y, inner 𝕜 (A x) y = inner 𝕜 x (A y))
    (hAp : ∀ x, x ≠ 0 → 0 < re (inner 𝕜 x (A x))) (k : ℕ)
    (hnz : ∀ j < k, (cgSeq (𝕜 := 𝕜) (⇑A) (fun v => v) b x0 j).num ≠ 0) :
    ∀ j ≤ k, (scanStep (rcOps 𝕜 V) A)^[j] (scanInit (rcOps 𝕜 V) A b x0) = (cgSeq (𝕜 := 𝕜) (⇑A) (fun v => v) b x0 j).toScan := by
  have hC := cgConj A (fun v => v) b x0 hAs hAp (fun _ _ => rfl) k hnz
  intro j
  induction j with
  | zero => intro _; rfl
  | succ j ih =>
    intro hj
    have hden := (hC.inv j (by omega)).den_ne_zero hAp (hnz j (by omega))
    rw [Function.iterate_succ_apply', ih (by omega), scanStep_eq_cgStep (⇑A) _ (hnz j (by omega)) hden, cgSeq_succ]

end Scico.LinSolve
