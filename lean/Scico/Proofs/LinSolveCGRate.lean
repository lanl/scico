/-
  Optimality and a convergence rate for the iterates of `scico.solver.cg` (C14), for Hermitian positive-definite `A`.

  * `cg_optimal`: `x_k` minimises the `A`-norm of the error over `x_k + span{p_0, …, p_{k-1}}`, the span of the search directions used so far.
  * `cg_rate_step` (no preconditioner): if `m ‖v‖² ≤ ⟪v, A v⟫ ≤ L ‖v‖²` (`0 < m`), every executed body contracts the squared
    `A`-norm of the error by at least `1 − m/L`.  `x_k + t r_k` lies in `x_{k+1} + span{p_0 … p_k}`, so by optimality the CG
    iterate is at least as good as the exact-line-search steepest-descent step, whose gain is
    `‖r‖⁴/⟪r, A r⟫ ≥ (m/L) ‖e‖²_A`.
-/
import Mathlib.LinearAlgebra.Span.Defs
import Scico.Proofs.LinSolveCGConj
import Mathlib.Tactic.Linarith
import Mathlib.Tactic.Positivity
import Mathlib.Tactic.FieldSimp

namespace Scico.LinSolve
open RCLike

variable {𝕜 V : Type} [RCLike 𝕜] [NormedAddCommGroup V] [InnerProductSpace 𝕜 V]

theorem inner_span_zero {ι : Type} (w : V) (p : ι → V) (h : ∀ j, inner 𝕜 w (p j) = 0) (v : V)
    (hv : v ∈ Submodule.span 𝕜 (Set.range p)) : inner 𝕜 w v = 0 := by
  induction hv using Submodule.span_induction with
  | mem x hx => obtain ⟨j, rfl⟩ := hx; exact h j
  | zero => simp
  | add x y _ _ hx hy => rw [inner_add_right, hx, hy, add_zero]
  | smul c x _ hx => rw [inner_smul_right, hx, mul_zero]

theorem cg_optimal (A : V →ₗ[𝕜] V) (M : V → V) (b x0 xs : V) (hxs : A xs = b)
    (hAs : ∀ x y, inner 𝕜 (A x) y = inner 𝕜 x (A y)) (hAp : ∀ x, x ≠ 0 → 0 < re (inner 𝕜 x (A x)))
    (hM : ∀ x y, inner 𝕜 (M x) y = inner 𝕜 x (M y)) (k : ℕ)
    (hrun : ∀ j < k, (cgSeq (𝕜 := 𝕜) (⇑A) M b x0 j).num ≠ 0) (v : V)
    (hv : v ∈ Submodule.span 𝕜 (Set.range fun j : Fin k => (cgSeq (𝕜 := 𝕜) (⇑A) M b x0 j.val).p)) :
    let xk := (cgSeq (𝕜 := 𝕜) (⇑A) M b x0 k).x
    energy A xs (xk + v) = energy A xs xk + re (inner 𝕜 v (A v)) ∧ energy A xs xk ≤ energy A xs (xk + v) := by
  intro xk
  have hC := cgConj A M b x0 hAs hAp hM k hrun
  have hrv : inner 𝕜 (cgSeq (𝕜 := 𝕜) (⇑A) M b x0 k).r v = 0 :=
    inner_span_zero _ (fun j : Fin k => (cgSeq (𝕜 := 𝕜) (⇑A) M b x0 j.val).p) (fun j => hC.orth k j.val j.isLt le_rfl) v hv
  have hexp : energy A xs (xk + v) = energy A xs xk + re (inner 𝕜 v (A v)) := by
    rw [energy_add A hAs ((hC.inv k le_rfl).toCGInv.apply_err hxs), hrv, AddMonoidHom.map_zero, mul_zero, sub_zero]
  refine ⟨hexp, hexp ▸ le_add_of_nonneg_right ?_⟩
  by_cases hv0 : v = 0
  · rw [hv0, inner_zero_left, AddMonoidHom.map_zero]
  · exact (hAp v hv0).le

/-- the exact-line-search steepest-descent step from `x` with residual `r = A (x⋆ − x)` -/
theorem steepest_gain (A : V →ₗ[𝕜] V) (hAs : ∀ x y, inner 𝕜 (A x) y = inner 𝕜 x (A y)) (xs x r : V) (hr : A (xs - x) = r)
    (t : ℝ) :
    energy A xs (x + (t : 𝕜) • r) = energy A xs x - 2 * t * ‖r‖ ^ 2 + t ^ 2 * re (inner 𝕜 r (A r)) := by
  rw [energy_add A hAs hr, LinearMap.map_smul, inner_smul_left, inner_smul_right, inner_smul_right, conj_ofReal,
    inner_self_eq_norm_sq_to_K, ← mul_assoc]
  norm_cast
  simp only [RCLike.mul_re, RCLike.ofReal_re, RCLike.ofReal_im, zero_mul, sub_zero]
  ring

/-- `‖e‖²_A ≤ ‖e‖ ‖r‖` and `m ‖e‖² ≤ ‖e‖²_A` give `m ‖e‖²_A ≤ ‖r‖²` -/
theorem energy_le_residual {E e r m : ℝ} (hm : 0 < m) (h1 : E ≤ e * r) (h2 : m * e ^ 2 ≤ E) : m * E ≤ r ^ 2 := by
  linear_combination (2 * m) * h1 + m * h2 + sq_nonneg (m * e - r)

/-- the gain `R²/d` of the exact line search along a residual with `‖r‖² = R`, `⟪r, A r⟫ = d ≤ L R`, from an error with
    `m ‖e‖²_A ≤ R`, is at least `(m/L) ‖e‖²_A` -/
theorem steepest_rate {E E' R d m L : ℝ} (hd : 0 < d) (hR : 0 < R) (hdL : d ≤ L * R) (hER : m * E ≤ R)
    (hE' : E' ≤ E - 2 * (R / d) * R + (R / d) ^ 2 * d) : E' ≤ (1 - m / L) * E := by
  have hL : 0 < L := (pos_iff_pos_of_mul_pos (hd.trans_le hdL)).2 hR
  have hgain : E - 2 * (R / d) * R + (R / d) ^ 2 * d = E - R ^ 2 / d := by field_simp; ring
  have hq : m / L * E ≤ R ^ 2 / d := by
    rw [div_mul_eq_mul_div, div_le_div_iff₀ hL hd]
    calc m * E * d ≤ R * (L * R) := mul_le_mul hER hdL hd.le hR.le
      _ = R ^ 2 * L := by ring
  rw [hgain] at hE'
  linarith

section Rate
variable (A : V →ₗ[𝕜] V) (b x0 : V)

set_option quotPrecheck false in
local notation "S" => cgSeq (𝕜 := 𝕜) (⇑A) (fun v => v) b x0

/-- without preconditioner `z = r`, so `r_k` lies in the span of `p_0 … p_k` -/
theorem cg_r_mem_span (k : ℕ) : (S k).r ∈ Submodule.span 𝕜 (Set.range fun j : Fin (k + 1) => (S j.val).p) := by
  have hmem : ∀ j, j < k + 1 → (S j).p ∈ Submodule.span 𝕜 (Set.range fun j : Fin (k + 1) => (S j.val).p) :=
    fun j hj => Submodule.subset_span ⟨⟨j, hj⟩, rfl⟩
  rw [show (S k).r = (S k).z from (cgSeq_z A (fun v => v) b x0 k).symm]
  cases k with
  | zero => exact hmem 0 (by omega)
  | succ k =>
    rw [cgSeq_z_eq]
    exact Submodule.sub_mem _ (hmem (k + 1) (by omega)) (Submodule.smul_mem _ _ (hmem k (by omega)))

theorem cg_rate_step (xs : V) (hxs : A xs = b)
    (hAs : ∀ x y, inner 𝕜 (A x) y = inner 𝕜 x (A y)) (m L : ℝ) (hm : 0 < m)
    (hlo : ∀ v, m * ‖v‖ ^ 2 ≤ re (inner 𝕜 v (A v))) (hhi : ∀ v, re (inner 𝕜 v (A v)) ≤ L * ‖v‖ ^ 2) (k : ℕ)
    (hrun : ∀ j ≤ k, (S j).num ≠ 0) : energy A xs (S (k + 1)).x ≤ (1 - m / L) * energy A xs (S k).x := by
  have hAp : ∀ x : V, x ≠ 0 → 0 < re (inner 𝕜 x (A x)) := fun x hx =>
    lt_of_lt_of_le (mul_pos hm (by positivity)) (hlo x)
  have hM : ∀ x y : V, inner 𝕜 ((fun v : V => v) x) y = inner 𝕜 x ((fun v : V => v) y) := fun _ _ => rfl
  obtain ⟨s, hs⟩ : ∃ s, s = S k := ⟨_, rfl⟩
  have hinv := (cgConj A (fun v => v) b x0 hAs hAp hM k (fun j hj => hrun j (by omega))).inv k le_rfl
  have hnum : s.num ≠ 0 := hs ▸ hrun k le_rfl
  have hrs := cg_r_mem_span A b x0 k
  rw [← hs] at hinv hrs
  rw [cgSeq_x_succ, ← hs]
  have hAe : A (xs - s.x) = s.r := hinv.toCGInv.apply_err hxs
  have hr0 : s.r ≠ 0 := hinv.toCGInv.r_ne_zero hnum
  -- the steepest-descent competitor `x_k + t r_k` is in the affine space of iterate `k + 1`
  have hv : ∀ t : 𝕜, (t • s.r - cgAlpha (⇑A) s • s.p) ∈ Submodule.span 𝕜 (Set.range fun j : Fin (k + 1) => (S j.val).p) :=
    fun t => Submodule.sub_mem _ (Submodule.smul_mem _ _ hrs)
      (Submodule.smul_mem _ _ (Submodule.subset_span ⟨⟨k, by omega⟩, by rw [hs]⟩))
  have hopt := fun t : ℝ =>
    (cg_optimal A (fun v => v) b x0 xs hxs hAs hAp hM (k + 1) (fun j hj => hrun j (by omega)) _ (hv t)).2
  simp only [cgSeq_x_succ, ← hs, add_add_sub_cancel, steepest_gain A hAs xs s.x s.r hAe] at hopt
  exact steepest_rate (hAp s.r hr0) (by positivity) (hhi s.r)
    (energy_le_residual hm (hAe ▸ re_inner_le_norm (xs - s.x) (A (xs - s.x))) (hlo _)) (hopt _)

end Rate

end Scico.LinSolve
