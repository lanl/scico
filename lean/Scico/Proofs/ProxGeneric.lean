/-
  How proximal points are found (specification side of C02, on `ProxSpec`): radial functionals `x ↦ φ ‖x‖` from a one-dimensional
  problem, metric projections and the distances built on them, separable sums on product spaces (`PiLp 2`).
-/
import Scico.Proofs.ProxSpec
import Mathlib.Analysis.InnerProductSpace.PiL2
import Mathlib.Tactic.Positivity

namespace Scico.ProxSpec

variable {E : Type*} [NormedAddCommGroup E] [InnerProductSpace ℝ E]

/-- `y` is the metric projection of `v` onto the convex set `C` (obtuse-angle characterisation) -/
def IsProjAt (C : Set E) (v y : E) : Prop := y ∈ C ∧ ∀ z ∈ C, ⟪v - y, z - y⟫ ≤ 0

theorem IsProjAt.unique {C : Set E} {x y y' : E} (h : IsProjAt C x y) (h' : IsProjAt C x y') : y' = y := by
  refine eq_of_norm_sub_sq_nonpos ?_
  have e : ‖y' - y‖ ^ 2 = ⟪x - y', y - y'⟫ + ⟪x - y, y' - y⟫ := by
    rw [← real_inner_self_eq_norm_sq, ← neg_sub y' y, inner_neg_right, ← sub_eq_neg_add, ← inner_sub_left]
    rw [sub_sub_sub_cancel_left]
  linear_combination e + h'.2 y h.1 + h.2 y' h'.1

theorem IsProjAt.ray {C : Set E} {v y : E} (h : IsProjAt C v y) {a : ℝ} (ha : 0 ≤ a) :
    IsProjAt C (y + a • (v - y)) y :=
  ⟨h.1, fun w hw => by
    rw [add_sub_cancel_left, real_inner_smul_left]
    exact mul_nonpos_of_nonneg_of_nonpos ha (h.2 w hw)⟩

/-! ### profiles of the distance to a convex set: `f x = ψ (dist(x, C))`, `C` given by its projector `P`.  `C = {0}` gives the
    radial functionals `x ↦ ψ ‖x‖` (L2 norm, squared L2 norm, non-separable Huber norm, ball indicator; per entry or group: L1,
    separable Huber, L2,1), `ψ r = r` and `ψ r = r²/2` the distance and half the squared distance.  The prox moves `v` along the ray from
    `P v`, to the distance that the one-dimensional prox of `ψ` assigns to `‖v - P v‖`. -/

/-- the proximal point of the profile `ψ` (a function of a radius, domain `R ∩ [0,∞)`) at the radius `t` is `c t`, a shrinkage
    `c ∈ [0,1]`; in certificate form (equivalently: `lam ψ s + ½(s-t)² + ½(r-s)² ≤ lam ψ r + ½(r-t)²` at `s = c t`) -/
structure RadCert (R : Set ℝ) (ψ : ℝ → ℝ) (lam t c : ℝ) : Prop where
  nonneg : 0 ≤ c
  le_one : c ≤ 1
  mem : c * t ∈ R
  ineq : ∀ r ∈ R, 0 ≤ r → lam * ψ (c * t) + (t - c * t) * (r - c * t) ≤ lam * ψ r

theorem cert_dist {C : Set E} {P : E → E} (hP : ∀ x, IsProjAt C x (P x)) {R : Set ℝ} {ψ : ℝ → ℝ} {lam : ℝ} (hlam : 0 < lam)
    (v : E) {c : ℝ} (h : RadCert R ψ lam ‖v - P v‖ c) :
    Cert {x | ‖x - P x‖ ∈ R} (fun x => ψ ‖x - P x‖) lam v (P v + c • (v - P v)) := by
  have hprojv := hP v
  -- a name `y` that the later steps cannot unfold (`set` would also rewrite every hypothesis introduced afterwards)
  obtain ⟨y, hy⟩ : ∃ y, y = P v := ⟨_, rfl⟩
  rw [← hy] at hprojv h ⊢
  -- the point is still projected to `y`, at distance `c·d`
  have hPp := (hprojv.ray h.nonneg).unique (hP _)
  have hn : ‖y + c • (v - y) - y‖ = c * ‖v - y‖ := by
    rw [add_sub_cancel_left, norm_smul, Real.norm_eq_abs, abs_of_nonneg h.nonneg]
  refine (cert_iff hlam).mpr ⟨by simpa only [Set.mem_ofPred_eq, hPp, hn] using h.mem, fun z hz => ?_⟩
  simp only [hPp, hn]
  -- `⟪v - y, z - y⟫ ≤ d·dist(z, C)`: Cauchy–Schwarz on `z - P z`, obtuse angle on `P z - y`
  have hge : ⟪v - y, z - y⟫ ≤ ‖v - y‖ * ‖z - P z‖ := by
    have h1 : ⟪v - y, z - y⟫ = ⟪v - y, z - P z⟫ + ⟪v - y, P z - y⟫ := by rw [← inner_add_right, sub_add_sub_cancel]
    linear_combination h1 + real_inner_le_norm (v - y) (z - P z) + hprojv.2 (P z) (hP z).1
  have e : ⟪v - (y + c • (v - y)), z - (y + c • (v - y))⟫ = (1 - c) * (⟪v - y, z - y⟫ - c * ‖v - y‖ ^ 2) := by
    rw [sub_segment, real_inner_smul_left, sub_add_eq_sub_sub, inner_sub_right, real_inner_smul_right,
      real_inner_self_eq_norm_sq]
  have hc1 : 0 ≤ 1 - c := sub_nonneg.2 h.le_one  -- found by `linear_combination` for the factor of `hge`
  rw [e]
  linear_combination h.ineq _ hz (norm_nonneg _) + (1 - c) * hge

/-- the soft threshold of a radius as a shrinkage `c t`, with the coefficient in the form the code and the property statements have -/
theorem softThresh_eq_coeff_mul {t lam : ℝ} (ht : 0 ≤ t) (hlam : 0 < lam) :
    max (t - lam) 0 = (if t = 0 then 0 else max (1 - lam / t) 0) * t := by
  by_cases h : t = 0
  · rw [if_pos h, h, zero_mul, zero_sub, max_eq_right (neg_nonpos.2 hlam.le)]
  · rw [if_neg h, max_mul_of_nonneg _ _ ht, zero_mul, sub_mul, one_mul, div_mul_cancel₀ _ h]

/-- `ψ r = r`: soft threshold of the radius (L1 per entry, L2, L2,1 per group, `SetDistance`) -/
theorem radCert_id {t lam : ℝ} (ht : 0 ≤ t) (hlam : 0 < lam) :
    RadCert Set.univ (fun r => r) lam t (if t = 0 then 0 else max (1 - lam / t) 0) := by
  refine ⟨by split_ifs; exacts [le_rfl, le_max_right _ _],
    by split_ifs; exacts [zero_le_one, max_le (sub_le_self _ (div_nonneg hlam.le ht)) zero_le_one], trivial, fun r _ hr => ?_⟩
  rw [← softThresh_eq_coeff_mul ht hlam]
  rcases le_total (t - lam) 0 with h | h
  · rw [max_eq_right h, sub_zero, sub_zero, mul_zero, zero_add]
    exact mul_le_mul_of_nonneg_right (by linarith) hr
  · rw [max_eq_left h]; linarith

/-- `ψ r = κ r²`: `s = t/(1 + 2κ lam)` (`SquaredL2Norm`: `κ = 1`, `SquaredSetDistance`: `κ = 1/2`) -/
theorem radCert_sq {κ t lam : ℝ} (hκ : 0 ≤ κ) (hlam : 0 < lam) :
    RadCert Set.univ (fun r => κ * r ^ 2) lam t (1 / (1 + 2 * κ * lam)) := by
  have hpos : 0 < 1 + 2 * κ * lam := by positivity
  obtain ⟨c, hc⟩ : ∃ c, c = 1 / (1 + 2 * κ * lam) := ⟨_, rfl⟩
  have hc1 : c * (1 + 2 * κ * lam) = 1 := by rw [hc]; exact one_div_mul_cancel hpos.ne'
  rw [← hc]
  refine ⟨by rw [hc]; positivity, by rw [hc]; exact (div_le_one hpos).2 (by linarith [mul_nonneg (mul_nonneg zero_le_two hκ) hlam.le]),
    trivial, fun r _ _ => ?_⟩
  -- `t - s = 2κ lam s`, so the defect is `κ lam (r - s)²`
  linear_combination lam * κ * sq_nonneg (r - c * t) - t * (r - c * t) * hc1

/-- the code's `θ = if d < lam then 1 else lam/d` is one minus the coefficient of the soft threshold -/
theorem one_sub_setdist_theta {d lam : ℝ} (hd : 0 ≤ d) (hlam : 0 < lam) :
    1 - (if d < lam then 1 else lam / d) = if d = 0 then 0 else max (1 - lam / d) 0 := by
  by_cases h0 : d = 0
  · rw [if_pos h0, h0, if_pos hlam, sub_self]
  · have hpos : 0 < d := lt_of_le_of_ne hd (Ne.symm h0)
    rw [if_neg h0]
    split_ifs with hlt
    · rw [sub_self, max_eq_right (sub_nonpos.2 ((one_lt_div hpos).2 hlt).le)]
    · rw [max_eq_left (sub_nonneg.2 ((div_le_one hpos).2 (not_lt.1 hlt)))]

/-- `C = {0}`: radial functionals `x ↦ ψ ‖x‖`, the prox is `c • v` with `c ‖v‖` the one-dimensional prox of `ψ` at `‖v‖` -/
theorem cert_radial_smul {R : Set ℝ} {ψ : ℝ → ℝ} {lam : ℝ} (hlam : 0 < lam) (v : E) {c : ℝ}
    (h : RadCert R ψ lam ‖v‖ c) : Cert {x : E | ‖x‖ ∈ R} (fun x => ψ ‖x‖) lam v (c • v) := by
  have h0 : ∀ x : E, IsProjAt {0} x ((fun _ => (0 : E)) x) := fun x =>
    ⟨rfl, fun z hz => by rw [Set.mem_singleton_iff.mp hz, sub_self, inner_zero_right]⟩
  simpa only [sub_zero, zero_add] using cert_dist h0 hlam v (by simpa only [sub_zero] using h)

/-! ### functionals of a reduced quantity, without convexity: `f = g ∘ T` for a map `T` (the norm `E → ℝ`; the vector of moduli
    `ℂⁿ → ℝⁿ`) that does not increase the distance to `v` and preserves it at `p` -/

omit [InnerProductSpace ℝ E] in
theorem isGMin_of_reduction {E' : Type*} [NormedAddCommGroup E'] {T : E → E'} {D : Set E} {g : E' → ℝ} {lam : ℝ} {v p : E}
    {r : E'} (hp : p ∈ D) (hT : ∀ x, ‖T x - T v‖ ≤ ‖x - v‖) (hg : g (T p) = g r) (hpv : ‖p - v‖ = ‖r - T v‖)
    (hmin : ∀ x ∈ D, lam * g r + 1 / 2 * ‖r - T v‖ ^ 2 ≤ lam * g (T x) + 1 / 2 * ‖T x - T v‖ ^ 2) :
    IsGMin D (fun x => g (T x)) lam v p :=
  ⟨hp, fun x hx => by
    show lam * g (T p) + 1 / 2 * ‖p - v‖ ^ 2 ≤ lam * g (T x) + 1 / 2 * ‖x - v‖ ^ 2
    rw [hpv, hg]
    linear_combination hmin x hx + (1 / 2) * pow_le_pow_left₀ (norm_nonneg _) (hT x) 2⟩

theorem isGMin_radial {R : Set ℝ} {φ : ℝ → ℝ} {lam : ℝ} {v p : E} {s : ℝ}
    (hsR : s ∈ R) (hnp : ‖p‖ = s) (hal : ⟪v, p⟫ = ‖v‖ * s)
    (h1 : ∀ r ∈ R, 0 ≤ r → lam * φ s + 1 / 2 * (s - ‖v‖) ^ 2 ≤ lam * φ r + 1 / 2 * (r - ‖v‖) ^ 2) :
    IsGMin {x : E | ‖x‖ ∈ R} (fun x => φ ‖x‖) lam v p := by
  refine isGMin_of_reduction (T := fun x : E => ‖x‖) (g := φ) (r := s) (by simpa [hnp] using hsR)
    (fun x => abs_norm_sub_norm_le x v) (by rw [hnp]) ?_ fun x hx => ?_
  · rw [Real.norm_eq_abs, ← sq_eq_sq₀ (norm_nonneg _) (abs_nonneg _), sq_abs, norm_sub_sq_real, hnp, real_inner_comm, hal]
    ring
  · simp only [Real.norm_eq_abs, sq_abs]
    exact h1 ‖x‖ hx (norm_nonneg x)

/-! ### separable sums on product spaces (`PiLp 2`): block arrays, coordinate-wise functionals (fibre `ℝ`, or `ℂ` with
    `Re⟨·,·⟩`), groups; `EuclideanSpace ℝ (Fin n)` is `PiLp 2 (fun _ => ℝ)` -/

section Pi
open WithLp

variable {ι : Type*} [Fintype ι] {F : ι → Type*} [∀ i, NormedAddCommGroup (F i)]

theorem obj_pi (φ : ∀ i, F i → ℝ) (lam : ℝ) (x v : PiLp 2 F) :
    lam * ∑ i, φ i (x i) + 1 / 2 * ‖x - v‖ ^ 2 = ∑ i, (lam * φ i (x i) + 1 / 2 * ‖x i - v i‖ ^ 2) := by
  rw [PiLp.norm_sq_eq_of_L2, Finset.mul_sum, Finset.mul_sum, ← Finset.sum_add_distrib]
  rfl

theorem isGMin_pi {D : ∀ i, Set (F i)} {φ : ∀ i, F i → ℝ} {lam : ℝ} {v p : PiLp 2 F}
    (h : ∀ i, IsGMin (D i) (φ i) lam (v i) (p i)) :
    IsGMin {x : PiLp 2 F | ∀ i, x i ∈ D i} (fun x => ∑ i, φ i (x i)) lam v p := by
  refine ⟨fun i => (h i).1, fun x hx => ?_⟩
  rw [obj_pi, obj_pi]
  exact Finset.sum_le_sum fun i _ => (h i).2 (x i) (hx i)

theorem isGMin_pi_coord [DecidableEq ι] {D : ∀ i, Set (F i)} {φ : ∀ i, F i → ℝ} {lam : ℝ} {v p : PiLp 2 F}
    (h : IsGMin {x : PiLp 2 F | ∀ i, x i ∈ D i} (fun x => ∑ i, φ i (x i)) lam v p) (i : ι) :
    IsGMin (D i) (φ i) lam (v i) (p i) := by
  refine ⟨h.1 i, fun a ha => ?_⟩
  -- competitor: `p` with coordinate `i` replaced by `a`; the objectives, as sums over the coordinates, differ at `i` only
  obtain ⟨x, hxi, hxj⟩ : ∃ x : PiLp 2 F, x i = a ∧ ∀ j, j ≠ i → x j = p j :=
    ⟨toLp 2 (Function.update (ofLp p) i a), Function.update_self .., fun j hj => Function.update_of_ne hj ..⟩
  have hmem : x ∈ {x : PiLp 2 F | ∀ i, x i ∈ D i} := fun j => by
    rcases eq_or_ne j i with rfl | hj
    · rw [hxi]; exact ha
    · rw [hxj j hj]; exact h.1 j
  have hs : ∑ j ∈ Finset.univ.erase i, (lam * φ j (x j) + 1 / 2 * ‖x j - v j‖ ^ 2)
      = ∑ j ∈ Finset.univ.erase i, (lam * φ j (p j) + 1 / 2 * ‖p j - v j‖ ^ 2) :=
    Finset.sum_congr rfl fun j hj => by rw [hxj j (Finset.ne_of_mem_erase hj)]
  have := h.2 x hmem
  rw [obj_pi, obj_pi, ← Finset.add_sum_erase _ _ (Finset.mem_univ i),
    ← Finset.add_sum_erase _ (fun j => lam * φ j (x j) + 1 / 2 * ‖x j - v j‖ ^ 2) (Finset.mem_univ i), hs, hxi] at this
  exact le_of_add_le_add_right this

theorem isGMin_pi_iff [DecidableEq ι] {D : ∀ i, Set (F i)} {φ : ∀ i, F i → ℝ} {lam : ℝ} {v p : PiLp 2 F} :
    IsGMin {x : PiLp 2 F | ∀ i, x i ∈ D i} (fun x => ∑ i, φ i (x i)) lam v p ↔ ∀ i, IsGMin (D i) (φ i) lam (v i) (p i) :=
  ⟨isGMin_pi_coord, isGMin_pi⟩

theorem isGMin_sum_univ_iff [DecidableEq ι] {φ : ∀ i, F i → ℝ} {lam : ℝ} {v p : PiLp 2 F} :
    IsGMin Set.univ (fun x => ∑ i, φ i (x i)) lam v p ↔ ∀ i, IsGMin Set.univ (φ i) lam (v i) (p i) :=
  ⟨fun h => isGMin_pi_coord (D := fun _ => Set.univ) ⟨fun _ => trivial, fun x _ => h.2 x trivial⟩,
    fun h => ⟨trivial, fun x _ => (isGMin_pi h).2 x fun _ => trivial⟩⟩

variable [∀ i, InnerProductSpace ℝ (F i)]

/-- block-wise prox of `SeparableFunctional`, coordinate-wise prox of `L1Norm`, … -/
theorem cert_pi {D : ∀ i, Set (F i)} {φ : ∀ i, F i → ℝ} {lam : ℝ} {v p : PiLp 2 F}
    (h : ∀ i, Cert (D i) (φ i) lam (v i) (p i)) :
    Cert {x : PiLp 2 F | ∀ i, x i ∈ D i} (fun x => ∑ i, φ i (x i)) lam v p := by
  refine ⟨fun i => (h i).1, fun z hz => ?_⟩
  rw [PiLp.inner_apply, ← Finset.sum_add_distrib]
  refine Finset.sum_le_sum fun i _ => ?_
  have := (h i).2 (z i) (hz i)
  simpa [PiLp.sub_apply, PiLp.smul_apply] using this

/-- functionals finite everywhere: the constraint set `{x | ∀ i, x i ∈ univ}` of `cert_pi`, `isGMin_pi` is everything -/
theorem cert_sum_univ {φ : ∀ i, F i → ℝ} {lam : ℝ} {v p : PiLp 2 F} (h : ∀ i, Cert Set.univ (φ i) lam (v i) (p i)) :
    Cert Set.univ (fun x : PiLp 2 F => ∑ i, φ i (x i)) lam v p :=
  ⟨trivial, fun z _ => (cert_pi h).2 z fun _ => trivial⟩

end Pi

end Scico.ProxSpec
