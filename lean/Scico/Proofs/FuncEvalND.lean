/-
  N-dimensional lemmas about the evaluation model `Scico.Model.FuncEval` (property C09):

  * the finite difference along any axis of a row-major N-d array (`fdAxis`, the operator the TV
    norms evaluate through) in coordinates `(a, c, b)` — `a` the flat index over the leading axes,
    `c` the coordinate on the differenced axis, `b` the flat index over the trailing axes — and
    the fibres `(a, ·, b)` (`fibre`), along which `C09_tv_nd` identifies it with the code-shaped 1-D difference;
  * the TV norms as the documented sums over those differences;
  * `L21Norm(l2_axis=0)` on a stacked array (what `IsotropicTVNorm` applies to `G x`), and the group key of
    `L21Norm(l2_axis=axes)` for any axis subset.
-/
import Scico.Proofs.FuncEval
import Scico.Proofs.Index
import Scico.Proofs.Sums

namespace Scico.FuncEval

theorem size_eq_prod (s : List Nat) : size s = s.prod := List.prod_eq_foldl.symm

theorem size_append (s t : List Nat) : size (s ++ t) = size s * size t := by
  simp [size_eq_prod]

theorem size_cons (n : Nat) (t : List Nat) : size (n :: t) = n * size t := by
  simp [size_eq_prod]

theorem size_split (pre post : List Nat) (n : Nat) :
    size (pre ++ n :: post) = size pre * n * size post := by
  rw [size_append, size_cons]; ring

/-- position `(a, c, b)` of an array of shape `pre ++ [n] ++ post` is inside the flat array -/
theorem flatIndex_lt {P n S a c b : Nat} (ha : a < P) (hc : c < n) (hb : b < S) :
    (a * n + c) * S + b < P * n * S :=
  Index.digit_lt (Index.digit_lt ha hc) hb

section fd
variable {K : Type} [Field K]

theorem fdAxis_length (circular : Bool) (shape : List Nat) (ax : Nat) (x : List K) :
    (fdAxis circular shape ax x).length = size shape := by
  simp only [fdAxis, List.length_map, List.length_range]

theorem fdAxis_nd (circular : Bool) (pre post : List Nat) (n : Nat) (x : List K)
    (a c b : Nat) (ha : a < size pre) (hc : c < n) (hb : b < size post) :
    (fdAxis circular (pre ++ n :: post) pre.length x).getD ((a * n + c) * size post + b) 0 =
      if c + 1 < n then
        x.getD ((a * n + (c + 1)) * size post + b) 0 - x.getD ((a * n + c) * size post + b) 0
      else if circular then
        x.getD ((a * n + 0) * size post + b) 0 - x.getD ((a * n + c) * size post + b) 0
      else 0 := by
  have hlt : (a * n + c) * size post + b < size (pre ++ n :: post) := by
    rw [size_split]; exact flatIndex_lt ha hc hb
  -- along this axis the stride is `size post`; the flat position has coordinate `c` there, its neighbour is one
  -- stride further, the first entry of its fibre `c` strides back
  have hcoord : ((a * n + c) * size post + b) / size post % n = c := by
    rw [Index.digit_div _ hb, Index.digit_mod a hc]
  have hnext : (a * n + c) * size post + b + size post = (a * n + (c + 1)) * size post + b := by ring
  have hfirst : (a * n + c) * size post + b - c * size post = (a * n + 0) * size post + b := by
    have : (a * n + c) * size post + b = (a * n + 0) * size post + b + c * size post := by ring
    omega
  rw [fdAxis_getD _ _ _ _ _ hlt, show (pre ++ n :: post).getD pre.length 1 = n by simp [List.getD_eq_getElem?_getD],
    show (pre ++ n :: post).drop (pre.length + 1) = post by simp [List.drop_append], hcoord, hnext, hfirst]

/-- the fibre of `x` (shape `pre ++ [n] ++ post`) through `(a, ·, b)` -/
def fibre (n S : Nat) (x : List K) (a b : Nat) : List K :=
  (List.range n).map (fun c => x.getD ((a * n + c) * S + b) 0)

theorem fibre_length (n S : Nat) (x : List K) (a b : Nat) : (fibre n S x a b).length = n := by
  simp [fibre]

theorem fibre_getD (n S : Nat) (x : List K) (a b c : Nat) (hc : c < n) :
    (fibre n S x a b).getD c 0 = x.getD ((a * n + c) * S + b) 0 := by
  simp [fibre, List.getD_eq_getElem?_getD, List.getElem?_map, List.getElem?_range hc]

end fd

section tv

theorem range_map_getD {α β : Type} [Zero α] (l : List α) (N : Nat) (h : l.length = N) (g : α → β) :
    (List.range N).map (fun i => g (l.getD i 0)) = l.map g := by
  subst h
  apply List.ext_getElem
  · simp
  · intro i h1 h2
    simp [List.getD_eq_getElem?_getD, List.getElem?_eq_getElem (show i < l.length by simpa using h1)]

/-- `AnisotropicTVNorm`, any number of components (`[x]` real, `[re, im]` complex):
    `Σ_axes Σ_positions sqrt(Σ_comps (D_ax x)²)` -/
theorem tvAniso_eq (circular : Bool) (shape axes : List Nat) (comps : List (List ℝ)) :
    tvAniso circular shape axes comps =
      (axes.map (fun ax => ((List.range (size shape)).map (fun i =>
        Real.sqrt ((comps.map (fun x => (fdAxis circular shape ax x).getD i 0 ^ 2)).sum))).sum)).sum := by
  unfold tvAniso tvSq
  rw [List.map_map]
  congr 1
  apply List.map_congr_left
  intro ax _
  simp only [Function.comp, List.map_map, hasSqrt_sqrt]
  congr 1
  apply List.map_congr_left
  intro i _
  simp only [Function.comp_def, sq]

/-- `IsotropicTVNorm`, any number of components: `Σ_positions sqrt(Σ_axes Σ_comps (D_ax x)²)` -/
theorem tvIso_eq (circular : Bool) (shape axes : List Nat) (comps : List (List ℝ)) :
    tvIso circular shape axes comps =
      ((List.range (size shape)).map (fun i => Real.sqrt ((axes.map (fun ax =>
        (comps.map (fun x => (fdAxis circular shape ax x).getD i 0 ^ 2)).sum)).sum))).sum := by
  unfold tvIso tvSq
  simp only [hasSqrt_sqrt]
  congr 1
  apply List.map_congr_left
  intro i hi
  rw [absR_eq_abs, abs_of_nonneg (Real.sqrt_nonneg _), List.map_map]
  congr 2
  apply List.map_congr_left
  intro ax _
  simp [List.getD_eq_getElem?_getD, List.getElem?_map, List.getElem?_range (List.mem_range.1 hi), sq, Function.comp_def]

theorem tvAniso_real (circular : Bool) (shape axes : List Nat) (x : List ℝ) :
    tvAniso circular shape axes [x] =
      (axes.map (fun ax => ((fdAxis circular shape ax x).map (fun d => |d|)).sum)).sum ∧
    tvAniso circular shape axes [x] = l1 false (.blk (axes.map (fun ax => fdAxis circular shape ax x))) := by
  have key : tvAniso circular shape axes [x] =
      (axes.map (fun ax => ((fdAxis circular shape ax x).map (fun d => |d|)).sum)).sum := by
    rw [tvAniso_eq]
    congr 1
    apply List.map_congr_left
    intro ax _
    simp only [List.map_cons, List.map_nil, List.sum_cons, List.sum_nil, add_zero, Real.sqrt_sq_eq_abs]
    rw [range_map_getD _ _ (fdAxis_length circular shape ax x) (fun d => |d|)]
  refine ⟨key, ?_⟩
  rw [key]
  simp only [l1, Arg.flat, mags, Bool.false_eq_true, if_false]
  rw [List.map_flatten, List.sum_flatten, List.map_map, List.map_map]
  congr 1
  apply List.map_congr_left
  intro ax _
  simp only [Function.comp]
  congr 1
  apply List.map_congr_left
  intro d _
  exact (absR_eq_abs d).symm

end tv

section l21

/-! the folds of the model compute `Index.ravel` and `Index.unravel` -/

theorem unravel_snd (s : List Nat) (i : Nat) :
    (s.foldr (fun n (acc : List Nat × Nat) => ((acc.2 % n) :: acc.1, acc.2 / n)) ([], i)).2 = i / s.prod := by
  induction s with
  | nil => simp
  | cons n t ih => simp only [List.foldr_cons, ih, List.prod_cons]; rw [Nat.div_div_eq_div_mul, Nat.mul_comm]

theorem unravel_eq : ∀ (s : List Nat) (i : Nat), unravel s i = Index.unravel s i
  | [], _ => rfl
  | n :: s, i => by
    have := unravel_eq s i
    simp only [unravel, List.foldr_cons, unravel_snd, Index.unravel] at this ⊢
    rw [this]

theorem ravel_eq {s mi : List Nat} (h : mi.length = s.length) : ravel s mi = Index.ravel s mi := by
  rw [ravel, Index.foldl_zip_eq_ravel s mi 0 h, Nat.zero_mul, Nat.zero_add]

theorem unravel_length (s : List Nat) (i : Nat) : (unravel s i).length = s.length := by
  rw [unravel_eq, Index.length_unravel]

theorem ravel_unravel (s : List Nat) (i : Nat) : ravel s (unravel s i) = i % size s := by
  rw [ravel_eq (unravel_length s i), unravel_eq, Index.ravel_unravel, size_eq_prod]

theorem unravel_add_mul (s : List Nat) (i k : Nat) : unravel s (i + k * size s) = unravel s i := by
  simp only [unravel_eq, size_eq_prod, Index.unravel_add_mul]

theorem unravel_inRange (s : List Nat) (i : Nat) (h : ∀ d ∈ s, 0 < d) : List.Forall₂ (· < ·) (unravel s i) s :=
  unravel_eq s i ▸ Index.unravel_in i h

theorem ravel_lt (s mi : List Nat) (h : List.Forall₂ (· < ·) mi s) : ravel s mi < size s := by
  rw [ravel_eq h.length_eq, size_eq_prod]; exact Index.ravel_lt h

theorem unravel_ravel (s mi : List Nat) (h : List.Forall₂ (· < ·) mi s) : unravel s (ravel s mi) = mi := by
  rw [unravel_eq, ravel_eq h.length_eq]; exact Index.unravel_ravel h

theorem dropAxes_zipIdx_getD (axes : List Nat) : ∀ (mi : List Nat) (k p : Nat),
    ((mi.zipIdx k).map (fun q => if axes.contains q.2 then 0 else q.1)).getD p 0
      = if axes.contains (k + p) then 0 else mi.getD p 0
  | [], k, p => by simp
  | m :: ms, k, 0 => by simp
  | m :: ms, k, p + 1 => by
    simp only [List.zipIdx_cons, List.map_cons, List.getD_cons_succ]
    rw [dropAxes_zipIdx_getD axes ms (k + 1) p]
    have : k + 1 + p = k + (p + 1) := by omega
    rw [this]

theorem dropAxes_getD (axes mi : List Nat) (p : Nat) :
    (dropAxes axes mi).getD p 0 = if axes.contains p then 0 else mi.getD p 0 := by
  have := dropAxes_zipIdx_getD axes mi 0 p
  simpa [dropAxes] using this

theorem dropAxes_length (axes mi : List Nat) : (dropAxes axes mi).length = mi.length := by
  simp [dropAxes]

theorem dropAxes_zero_cons (m : Nat) (ms : List Nat) : dropAxes [0] (m :: ms) = 0 :: ms := by
  refine List.ext_getElem (by simp [dropAxes_length]) fun p h1 h2 => ?_
  rw [List.getElem_eq_getD 0, List.getElem_eq_getD 0, dropAxes_getD]
  cases p <;> simp

/-- the group key of position `i` for `l2_axis=0` on shape `k :: rest` is `i mod ∏ rest` -/
theorem key_axis0 (k : Nat) (rest : List Nat) (i : Nat) :
    ravel (k :: rest) (dropAxes [0] (unravel (k :: rest) i)) = i % size rest := by
  rw [unravel_eq, Index.unravel, dropAxes_zero_cons,
    ravel_eq (by simp only [List.length_cons, Index.length_unravel]), Index.ravel, Index.ravel_unravel, size_eq_prod,
    Nat.zero_mul, Nat.zero_add]

theorem filter_map_sum {β M : Type} [AddMonoid M] (l : List β) (p : β → Bool) (f : β → M) :
    ((l.filter p).map f).sum = (l.map (fun i => if p i then f i else 0)).sum := by
  induction l with
  | nil => simp
  | cons x l ih =>
    by_cases h : p x <;> simp [h, ih]

/-- the entries of group `r`: positions `j·S + r`, `j < k` -/
theorem group_sum (k S r : Nat) (hr : r < S) (f : Nat → ℝ) :
    (((List.range (k * S)).filter (fun i => i % S == r)).map f).sum =
      ((List.range k).map (fun j => f (j * S + r))).sum := by
  rw [filter_map_sum, sum_map_range, sum_map_range, sum_range_mul]
  refine Finset.sum_congr rfl fun j _ => ?_
  rw [Finset.sum_eq_single_of_mem r (Finset.mem_range.2 hr) fun q hq hne => by
    rw [Index.digit_mod j (Finset.mem_range.1 hq), if_neg (by simpa using hne)]]
  rw [Index.digit_mod j hr, if_pos (by simp)]

theorem filter_lt_range (n m : Nat) (h : m ≤ n) : (List.range n).filter (fun i => decide (i < m)) = List.range m := by
  obtain ⟨d, rfl⟩ := Nat.exists_eq_add_of_le h
  rw [List.range_add, List.filter_append, List.filter_eq_self.2 (by simp [List.mem_range]),
    List.filter_eq_nil_iff.2 (by simp), List.append_nil]

theorem l21AxesOfSq_axis0 (k : Nat) (rest : List Nat) (sq : List ℝ) :
    l21AxesOfSq (k :: rest) [0] sq =
      ((List.range (size rest)).map (fun r =>
        |Real.sqrt (((List.range k).map (fun j => sq.getD (j * size rest + r) 0)).sum)|)).sum := by
  unfold l21AxesOfSq
  simp only [key_axis0, size_cons]
  rcases Nat.eq_zero_or_pos (size rest) with h0 | hS
  · simp [h0]
  rcases Nat.eq_zero_or_pos k with rfl | hk
  · simp [absR_eq_abs, hasSqrt_sqrt]
  · have hreps : (List.range (k * size rest)).filter (fun i => i % size rest == i)
        = List.range (size rest) := by
      have : (fun i => i % size rest == i) = fun i => decide (i < size rest) := by
        funext i
        by_cases h : i < size rest
        · simp [Nat.mod_eq_of_lt h, h]
        · have : i % size rest < size rest := Nat.mod_lt _ hS
          have hne : i % size rest ≠ i := by omega
          simp [h, hne]
      rw [this]
      exact filter_lt_range _ _ (Nat.le_mul_of_pos_left _ hk)
    rw [hreps]
    congr 1
    apply List.map_congr_left
    intro r hr
    rw [List.mem_range] at hr
    rw [absR_eq_abs]
    simp only [hasSqrt_sqrt]
    rw [group_sum k (size rest) r hr (fun i => sq.getD i 0)]

end l21

section tviso

theorem flatten_getD {K : Type} [Field K] (ls : List (List K)) (N : Nat) (h : ∀ l ∈ ls, l.length = N) (j r : Nat)
    (hr : r < N) (hj : j < ls.length) : ls.flatten.getD (j * N + r) 0 = (ls.getD j []).getD r 0 := by
  have hN : ((ls.take j).map List.length).sum = j * N := by
    rw [List.map_congr_left (g := fun _ => N) fun l hl => h l (List.mem_of_mem_take hl), List.map_const',
      List.sum_replicate, List.length_take, Nat.min_eq_left (Nat.le_of_lt hj), smul_eq_mul]
  rw [List.getD_eq_getElem?_getD, ← hN,
    Index.getElem?_flatten_offset ls j hj r (by rw [h _ (List.getElem_mem hj)]; exact hr)]
  simp only [List.getD_eq_getElem?_getD, List.getElem?_eq_getElem hj, Option.getD_some]

theorem tvSq_length (circular : Bool) (shape axes : List Nat) (comps : List (List ℝ)) :
    (tvSq circular shape axes comps).length = axes.length ∧
    ∀ l ∈ tvSq circular shape axes comps, l.length = size shape := by
  constructor
  · simp [tvSq]
  · intro l hl
    simp only [tvSq, List.mem_map] at hl
    obtain ⟨ax, _, rfl⟩ := hl
    simp

theorem tvIso_eq_l21 (circular : Bool) (shape axes : List Nat) (comps : List (List ℝ)) :
    tvIso circular shape axes comps =
      l21AxesOfSq (axes.length :: shape) [0] (tvSq circular shape axes comps).flatten := by
  obtain ⟨hlen, hall⟩ := tvSq_length circular shape axes comps
  rw [l21AxesOfSq_axis0]
  unfold tvIso
  simp only [hasSqrt_sqrt]
  congr 1
  apply List.map_congr_left
  intro i hi
  rw [List.mem_range] at hi
  rw [absR_eq_abs]
  congr 2
  have : (List.range axes.length).map (fun j => (tvSq circular shape axes comps).flatten.getD (j * size shape + i) 0)
      = (tvSq circular shape axes comps).map (fun l => l.getD i 0) := by
    apply List.ext_getElem
    · simp [hlen]
    · intro j h1 h2
      have hj : j < (tvSq circular shape axes comps).length := by simpa using h2
      simp only [List.getElem_map, List.getElem_range]
      rw [flatten_getD _ (size shape) hall j i hi hj]
      simp [List.getD_eq_getElem?_getD, List.getElem?_eq_getElem hj]
  rw [this]

end tviso

section l21groups

/-- the model's local `keyOf` in `l21AxesOfSq` (`Model/FuncEval.lean`), under a name -/
def l21Key (shape axes : List Nat) (i : Nat) : Nat := ravel shape (dropAxes axes (unravel shape i))

theorem dropAxes_zipIdx_inRange (axes : List Nat) : ∀ (mi s : List Nat) (k : Nat), List.Forall₂ (· < ·) mi s →
    List.Forall₂ (· < ·) ((mi.zipIdx k).map (fun p => if axes.contains p.2 then 0 else p.1)) s
  | [], [], _, _ => by simp
  | m :: ms, n :: t, k, h => by
    cases h with
    | cons hm hrest =>
      simp only [List.zipIdx_cons, List.map_cons]
      refine List.Forall₂.cons ?_ (dropAxes_zipIdx_inRange axes ms t (k + 1) hrest)
      split
      · omega
      · exact hm
  | [], _ :: _, _, h => by cases h
  | _ :: _, [], _, h => by cases h

theorem dropAxes_inRange (axes mi s : List Nat) (h : List.Forall₂ (· < ·) mi s) :
    List.Forall₂ (· < ·) (dropAxes axes mi) s := dropAxes_zipIdx_inRange axes mi s 0 h

theorem dropAxes_congr (axes a b : List Nat) (hl : a.length = b.length)
    (h : ∀ p, axes.contains p = false → a.getD p 0 = b.getD p 0) : dropAxes axes a = dropAxes axes b := by
  apply List.ext_getElem
  · rw [dropAxes_length, dropAxes_length, hl]
  · intro p h1 h2
    have e1 := dropAxes_getD axes a p
    have e2 := dropAxes_getD axes b p
    rw [List.getD_eq_getElem?_getD, List.getElem?_eq_getElem h1, Option.getD_some] at e1
    rw [List.getD_eq_getElem?_getD, List.getElem?_eq_getElem h2, Option.getD_some] at e2
    rw [e1, e2]
    by_cases hp : axes.contains p = true
    · rw [if_pos hp, if_pos hp]
    · rw [if_neg hp, if_neg hp]
      exact h p (by simpa using hp)

theorem l21Key_eq_iff (shape axes : List Nat) (hpos : ∀ d ∈ shape, 0 < d) (i j : Nat) :
    l21Key shape axes i = l21Key shape axes j ↔
      ∀ p, axes.contains p = false → (unravel shape i).getD p 0 = (unravel shape j).getD p 0 := by
  have hi := dropAxes_inRange axes _ _ (unravel_inRange shape i hpos)
  have hj := dropAxes_inRange axes _ _ (unravel_inRange shape j hpos)
  constructor
  · intro h p hp
    have h' : dropAxes axes (unravel shape i) = dropAxes axes (unravel shape j) := by
      have := congrArg (unravel shape) h
      simp only [l21Key] at this
      rwa [unravel_ravel _ _ hi, unravel_ravel _ _ hj] at this
    have := congrArg (fun l => l.getD p 0) h'
    simp only [dropAxes_getD, hp] at this
    simpa using this
  · intro h
    simp only [l21Key]
    rw [dropAxes_congr axes _ _ ((unravel_length shape i).trans (unravel_length shape j).symm) h]

theorem l21Key_rep (shape axes : List Nat) (hpos : ∀ d ∈ shape, 0 < d) (i : Nat) :
    l21Key shape axes i < size shape ∧ l21Key shape axes (l21Key shape axes i) = l21Key shape axes i := by
  have hi := dropAxes_inRange axes _ _ (unravel_inRange shape i hpos)
  refine ⟨ravel_lt _ _ hi, ?_⟩
  simp only [l21Key]
  rw [unravel_ravel _ _ hi, dropAxes_congr axes _ _ (dropAxes_length axes _)
    (fun p hp => by rw [dropAxes_getD, hp]; rfl)]

theorem l21AxesOfSq_eq (shape axes : List Nat) (sq : List ℝ) :
    l21AxesOfSq shape axes sq =
      (((List.range (size shape)).filter (fun i => l21Key shape axes i == i)).map (fun r =>
        |Real.sqrt ((((List.range (size shape)).filter (fun i => l21Key shape axes i == r)).map
          (fun i => sq.getD i 0)).sum)|)).sum := by
  unfold l21AxesOfSq l21Key
  simp only [hasSqrt_sqrt]
  congr 1
  apply List.map_congr_left
  intro r _
  exact absR_eq_abs _

end l21groups

end Scico.FuncEval
