/-
  Integer shape calculus (`Scico.Model.Shape`): the length and the elements of a Python `range`, the bounds
  of `slice.indices(n)`, and the collapse rules for the shapes of stacked operators
  (`scico/operator/_stack.py`).
-/
import Scico.Model.Shape
import Mathlib.Tactic.Ring

namespace Scico.Shape

theorem rangeLen_nonneg (a b s : Int) : 0 ≤ rangeLen a b s := by
  unfold rangeLen
  split
  · split
    · exact Int.add_nonneg (Int.ediv_nonneg (by omega) (Int.le_of_lt ‹0 < s›)) Int.one_nonneg
    · exact le_refl 0
  · split
    · exact Int.add_nonneg (Int.ediv_nonneg (by omega) (Int.neg_nonneg_of_nonpos (Int.not_lt.mp ‹¬ 0 < s›)))
        Int.one_nonneg
    · exact le_refl 0

theorem rangeLen_step_pos {a b s : Int} (hs : 0 < s) (h : a < b) :
    rangeLen a b s = rangeLen (a + s) b s + 1 := by
  unfold rangeLen
  simp only [hs, if_true, h]
  by_cases h2 : a + s < b
  · simp only [h2, if_true]
    have : b - (a + s) - 1 = (b - a - 1) + (-1) * s := by ring
    rw [this, Int.add_mul_ediv_right _ _ (by omega : s ≠ 0)]
    omega
  · simp only [h2, if_false]
    have : (b - a - 1) / s = 0 := Int.ediv_eq_zero_of_lt (by omega) (by omega)
    omega

/-- a range with a negative step has as many elements as its mirror image -/
theorem rangeLen_neg {a b s : Int} (hs : s < 0) : rangeLen a b s = rangeLen (-a) (-b) (-s) := by
  unfold rangeLen
  rw [if_neg (by omega : ¬ 0 < s), if_pos (by omega : 0 < -s)]
  by_cases h : b < a
  · rw [if_pos h, if_pos (by omega : -a < -b), show -b - -a - 1 = a - b - 1 by ring]
  · rw [if_neg h, if_neg (by omega : ¬ -a < -b)]

theorem rangeLen_step_neg {a b s : Int} (hs : s < 0) (h : b < a) :
    rangeLen a b s = rangeLen (a + s) b s + 1 := by
  rw [rangeLen_neg hs, rangeLen_neg (a := a + s) hs, Int.neg_add, rangeLen_step_pos (by omega) (by omega)]

theorem rangeLen_zero_of_done {a b s : Int}
    (h : ¬ ((0 < s ∧ a < b) ∨ (s < 0 ∧ b < a))) (hs : s ≠ 0) : rangeLen a b s = 0 := by
  unfold rangeLen
  by_cases hp : 0 < s
  · have : ¬ a < b := fun hab => h (Or.inl ⟨hp, hab⟩)
    simp [hp, this]
  · have hn : s < 0 := by omega
    have : ¬ b < a := fun hab => h (Or.inr ⟨hn, hab⟩)
    simp [hp, this]

/-- With enough fuel the literal enumeration of a Python `range` has `rangeLen` elements. -/
theorem rangeList_length (fuel : Nat) (a b s : Int) (hs : s ≠ 0)
    (hf : rangeLen a b s ≤ fuel) : ((rangeList fuel a b s).length : Int) = rangeLen a b s := by
  induction fuel generalizing a with
  | zero =>
    have := rangeLen_nonneg a b s
    simp only [rangeList, List.length_nil]
    omega
  | succ k ih =>
    unfold rangeList
    by_cases hc : (0 < s ∧ a < b) ∨ (s < 0 ∧ b < a)
    · simp only [hc, if_true, List.length_cons]
      have hstep : rangeLen a b s = rangeLen (a + s) b s + 1 := by
        rcases hc with ⟨h1, h2⟩ | ⟨h1, h2⟩
        · exact rangeLen_step_pos h1 h2
        · exact rangeLen_step_neg h1 h2
      have := ih (a + s) (by omega)
      omega
    · simp only [hc, if_false, List.length_nil]
      rw [rangeLen_zero_of_done hc hs]
      rfl

/-- every element of the enumeration lies between the bounds, on the side of `start` -/
theorem rangeList_mem (fuel : Nat) (a b s p : Int) (hp : p ∈ rangeList fuel a b s) :
    (0 < s ∧ a ≤ p ∧ p < b) ∨ (s < 0 ∧ b < p ∧ p ≤ a) := by
  induction fuel generalizing a with
  | zero => simp [rangeList] at hp
  | succ k ih =>
    unfold rangeList at hp
    by_cases hc : (0 < s ∧ a < b) ∨ (s < 0 ∧ b < a)
    · simp only [hc, if_true, List.mem_cons] at hp
      rcases hp with rfl | hp
      · rcases hc with ⟨h1, h2⟩ | ⟨h1, h2⟩
        · exact Or.inl ⟨h1, le_refl _, h2⟩
        · exact Or.inr ⟨h1, h2, le_refl _⟩
      · rcases ih (a + s) hp with ⟨h1, h2, h3⟩ | ⟨h1, h2, h3⟩
        · exact Or.inl ⟨h1, by omega, h3⟩
        · exact Or.inr ⟨h1, h2, by omega⟩
    · simp [hc] at hp

/-- an endpoint of `slice.indices(n)` lies in `[lo, up]`: a given index is clamped into it (a negative one
    counted from the end first), a missing one is replaced by a default `d` inside it -/
theorem endpoint_mem {n lo up d : Int} (o : Option Int) (h1 : lo ≤ up) (h2 : n - 1 ≤ up) (h3 : lo ≤ 0)
    (hd : lo ≤ d ∧ d ≤ up) :
    lo ≤ (match o with
          | none => d
          | some v => if v < 0 then (if v + n < lo then lo else v + n) else (if v > up then up else v))
    ∧ (match o with
        | none => d
        | some v => if v < 0 then (if v + n < lo then lo else v + n) else (if v > up then up else v)) ≤ up := by
  cases o with
  | none => exact hd
  | some v => dsimp only; split <;> split <;> omega

/-- bounds of `slice.indices(n)`: start and stop are clamped to the axis -/
theorem pyIndices_bounds (n : Nat) (sl : PySlice) (a b s : Int)
    (h : pyIndices n sl = some (a, b, s)) :
    s ≠ 0 ∧ (0 < s → 0 ≤ a ∧ a ≤ n ∧ 0 ≤ b ∧ b ≤ n) ∧
      (s < 0 → -1 ≤ a ∧ a ≤ (n : Int) - 1 ∧ -1 ≤ b ∧ b ≤ (n : Int) - 1) := by
  unfold pyIndices at h
  by_cases hs0 : sl.step.getD 1 = 0
  · rw [if_pos hs0] at h; cases h
  rw [if_neg hs0] at h
  cases h
  have hn : (0 : Int) ≤ n := Int.natCast_nonneg n
  refine ⟨hs0, fun hpos => ?_, fun hneg => ?_⟩
  · have hneg : ¬ sl.step.getD 1 < 0 := Int.not_lt.mpr (Int.le_of_lt hpos)
    simp only [hneg, if_false]
    have hn1 : (n : Int) - 1 ≤ n := Int.sub_le_self _ Int.one_nonneg
    have A := endpoint_mem (n := n) (d := 0) sl.start hn hn1 (le_refl 0) ⟨le_refl 0, hn⟩
    have B := endpoint_mem (n := n) (d := n) sl.stop hn hn1 (le_refl 0) ⟨hn, le_refl _⟩
    exact ⟨A.1, A.2, B.1, B.2⟩
  · simp only [hneg, if_true]
    have hn1 : (-1 : Int) ≤ n - 1 := by omega
    have A := endpoint_mem (n := n) (d := (n : Int) - 1) sl.start (lo := -1) hn1 (le_refl _)
      (by decide) ⟨hn1, le_refl _⟩
    have B := endpoint_mem (n := n) (d := -1) sl.stop (up := (n : Int) - 1) hn1 (le_refl _)
      (by decide) ⟨le_refl _, hn1⟩
    exact ⟨A.1, A.2, B.1, B.2⟩

theorem rangeLen_le_of_bounds {n : Nat} {a b s : Int}
    (hs : s ≠ 0)
    (hpos : 0 < s → 0 ≤ a ∧ a ≤ n ∧ 0 ≤ b ∧ b ≤ n)
    (hneg : s < 0 → -1 ≤ a ∧ a ≤ (n : Int) - 1 ∧ -1 ≤ b ∧ b ≤ (n : Int) - 1) :
    rangeLen a b s ≤ n := by
  unfold rangeLen
  by_cases hp : 0 < s
  · obtain ⟨h1, h2, h3, h4⟩ := hpos hp
    rw [if_pos hp]
    split
    · have : (b - a - 1) / s ≤ b - a - 1 := Int.ediv_le_self _ (by omega)
      omega
    · exact Int.natCast_nonneg n
  · obtain ⟨h1, h2, h3, h4⟩ := hneg (lt_of_le_of_ne (not_lt.mp hp) hs)
    rw [if_neg hp]
    split
    · have : (a - b - 1) / (-s) ≤ a - b - 1 := Int.ediv_le_self _ (by omega)
      omega
    · exact Int.natCast_nonneg n

theorem prodList_cons (a : Nat) (l : List Nat) : prodList (a :: l) = a * prodList l := rfl

theorem sum_replicate_size (s : List Nat) (rest : List NShape) (h : ∀ t ∈ rest, t = .plain s) :
    ((rest.map shapeToSize).foldr (· + ·) 0) = rest.length * prodList s := by
  induction rest with
  | nil => simp
  | cons t rest ih =>
    have ht : t = .plain s := h t (by simp)
    have ih' := ih (fun u hu => h u (by simp [hu]))
    simp only [List.map_cons, List.foldr_cons, List.length_cons, ih', ht, shapeToSize]
    rw [Nat.succ_mul, Nat.add_comm]

theorem isCollapsible_iff (s : NShape) (rest : List NShape) :
    isCollapsible (s :: rest) = true ↔ (s.isNested = false ∧ ∀ t ∈ rest, t = s) := by
  simp [isCollapsible, List.all_eq_true]

theorem isBlockable_iff (shapes : List NShape) :
    isBlockable shapes = true ↔ ∀ t ∈ shapes, t.isNested = false := by
  simp [isBlockable]

theorem collapse_stacked_iff (s : NShape) (rest : List NShape) (allow : Bool) (d : List Nat) :
    collapseShapes (s :: rest) allow = some (.stacked d)
      ↔ (allow = true ∧ ∃ dims, s = .plain dims ∧ (∀ t ∈ rest, t = s) ∧ d = (rest.length + 1) :: dims) := by
  unfold collapseShapes
  by_cases hc : isCollapsible (s :: rest) = true
  · obtain ⟨hn, hall⟩ := (isCollapsible_iff s rest).mp hc
    cases s with
    | nested bs => simp [NShape.isNested] at hn
    | plain dims =>
      cases allow
      · simp [hc, isBlockable]
      · simp only [hc, Bool.and_self, if_true, Option.some.injEq, Collapsed.stacked.injEq,
          List.length_cons, true_and]
        constructor
        · intro h; exact ⟨dims, rfl, hall, h.symm⟩
        · rintro ⟨dims', h1, _, h3⟩
          injection h1 with h1; subst h1; exact h3.symm
  · have hc' : isCollapsible (s :: rest) = false := by simpa using hc
    simp only [hc', Bool.false_and, Bool.false_eq_true, if_false]
    constructor
    · intro h
      split at h <;> simp at h
    · rintro ⟨_, dims, h1, h2, _⟩
      exfalso
      apply hc
      rw [isCollapsible_iff]
      exact ⟨by rw [h1]; rfl, h2⟩

theorem collapse_error_iff (s : NShape) (rest : List NShape) (allow : Bool) :
    collapseShapes (s :: rest) allow = none
      ↔ (¬ (isCollapsible (s :: rest) = true ∧ allow = true) ∧ ∃ t ∈ s :: rest, t.isNested = true) := by
  unfold collapseShapes
  by_cases hc : (isCollapsible (s :: rest) && allow) = true
  · have hc2 : isCollapsible (s :: rest) = true ∧ allow = true := by simpa using hc
    obtain ⟨hn, _⟩ := (isCollapsible_iff s rest).mp hc2.1
    cases s with
    | nested bs => simp [NShape.isNested] at hn
    | plain dims => simp [hc2]
  · have hc2 : ¬ (isCollapsible (s :: rest) = true ∧ allow = true) := by simpa using hc
    simp only [hc, hc2, not_false_eq_true, true_and]
    have hany : isBlockable (s :: rest) = !((s :: rest).any NShape.isNested) := rfl
    cases ha : (s :: rest).any NShape.isNested with
    | false =>
      simp only [hany, ha, Bool.not_false, if_true]
      constructor
      · intro h; cases h
      · rintro ⟨t, ht, hn⟩
        have : (s :: rest).any NShape.isNested = true := List.any_eq_true.mpr ⟨t, ht, hn⟩
        rw [ha] at this; cases this
    | true =>
      simp only [hany, ha, Bool.not_true, Bool.false_eq_true, if_false, true_iff]
      exact List.any_eq_true.mp ha

theorem collapse_stacked_size (s : NShape) (rest : List NShape) (allow : Bool) (d : List Nat)
    (h : collapseShapes (s :: rest) allow = some (.stacked d)) :
    prodList d = ((s :: rest).map shapeToSize).foldr (· + ·) 0 := by
  obtain ⟨_, dims, hs, hall, hd⟩ := (collapse_stacked_iff s rest allow d).mp h
  subst hs; subst hd
  have := sum_replicate_size dims rest hall
  simp only [List.map_cons, List.foldr_cons, this, shapeToSize, prodList_cons]
  rw [Nat.succ_mul, Nat.add_comm]

end Scico.Shape
