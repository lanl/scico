/-
  Python loops modelled with fuel, as iterates of their body: `while cond: body` (`fuelLoop_iterate`, the shape of `cgLoop`
  and `jaxCgLoop`) and `for _ in range(fuel): body; if stop: break; tail` (`forBreak_iterate`, the shape of `bisectLoop` and
  `goldLoop`).  The model loops are instances by `rfl`; everything about them is then said about `step^[k]`.
-/
import Mathlib.Logic.Function.Iterate

namespace Scico.LinSolve

theorem iterate_counter {σ : Type} (step : σ → σ) (c : σ → Nat) (h : ∀ s, c (step s) = c s + 1) (s : σ) (k : Nat) :
    c (step^[k] s) = c s + k := by
  induction k with
  | zero => rfl
  | succ k ih => rw [Function.iterate_succ_apply', h, ih, Nat.add_assoc]

/-- `while cond s: s = step s` with fuel -/
theorem fuelLoop_iterate {σ : Type} (cond : σ → Bool) (step : σ → σ) (loop : Nat → σ → σ) (h0 : ∀ s, loop 0 s = s)
    (hs : ∀ fuel s, loop (fuel + 1) s = if cond s then loop fuel (step s) else s) :
    ∀ (fuel : Nat) (s : σ), ∃ k, k ≤ fuel ∧ loop fuel s = step^[k] s ∧
      (∀ j < k, cond (step^[j] s) = true) ∧ (k = fuel ∨ cond (step^[k] s) = false)
  | 0, s => ⟨0, Nat.le_refl 0, h0 s, by intro j hj; omega, Or.inl rfl⟩
  | fuel + 1, s => by
    rw [hs]
    split
    · rename_i hc
      obtain ⟨k, hk, he, hj, hx⟩ := fuelLoop_iterate cond step loop h0 hs fuel (step s)
      refine ⟨k + 1, by omega, ?_, ?_, ?_⟩
      · rw [he, Function.iterate_succ_apply]
      · intro j hjk
        cases j with
        | zero => exact hc
        | succ j => rw [Function.iterate_succ_apply]; exact hj j (by omega)
      · rw [Function.iterate_succ_apply]; exact hx.imp (by omega) id
    · rename_i hc
      exact ⟨0, by omega, rfl, by intro j hj; omega, Or.inr (by simpa using hc)⟩

/-- such a loop whose condition implies `c s < maxiter` for a counter `c` that every body increments, run with fuel `maxiter`
    from `c = 0`: the fuel is never what stops it, so the loop returns the iterate `step^[k] s0` for the least `k` at which the
    condition fails -/
theorem countedLoop_least {σ : Type} (cond : σ → Bool) (step : σ → σ) (loop : Nat → σ → σ) (h0 : ∀ s, loop 0 s = s)
    (hs : ∀ fuel s, loop (fuel + 1) s = if cond s then loop fuel (step s) else s)
    (c : σ → Nat) (hc : ∀ s, c (step s) = c s + 1) (maxiter : Nat) (hlt : ∀ s, cond s = true → c s < maxiter)
    (s0 : σ) (hc0 : c s0 = 0) :
    ∃ k, k ≤ maxiter ∧ loop maxiter s0 = step^[k] s0 ∧ cond (step^[k] s0) = false ∧
      ∀ k0, cond (step^[k0] s0) = false → k ≤ k0 := by
  obtain ⟨k, hk, he, hj, hx⟩ := fuelLoop_iterate cond step loop h0 hs maxiter s0
  refine ⟨k, hk, he, ?_, fun k0 h0 => Nat.le_of_not_lt fun h => by rw [hj k0 h] at h0; cases h0⟩
  rcases hx with rfl | hx
  · cases hcd : cond (step^[k] s0) with
    | false => rfl
    | true => exact absurd (hlt _ hcd) (by rw [iterate_counter step c hc, hc0]; omega)
  · exact hx

theorem countedLoop_spec {σ : Type} (cond : σ → Bool) (step : σ → σ) (loop : Nat → σ → σ) (h0 : ∀ s, loop 0 s = s)
    (hs : ∀ fuel s, loop (fuel + 1) s = if cond s then loop fuel (step s) else s)
    (c : σ → Nat) (hc : ∀ s, c (step s) = c s + 1) (maxiter : Nat) (hlt : ∀ s, cond s = true → c s < maxiter)
    (P : σ → Prop) (hP : ∀ s, P s → P (step s)) (s0 : σ) (hc0 : c s0 = 0) (hP0 : P s0) :
    P (loop maxiter s0) ∧ c (loop maxiter s0) ≤ maxiter ∧ cond (loop maxiter s0) = false := by
  obtain ⟨k, hk, he, hx, _⟩ := countedLoop_least cond step loop h0 hs c hc maxiter hlt s0 hc0
  rw [he, iterate_counter step c hc, hc0, Nat.zero_add]
  exact ⟨Function.Iterate.rec _ hP0 hP k, hk, hx⟩

theorem fuelRun_inv {σ : Type} (cond : σ → Bool) (step : σ → σ) (run : Nat → σ → List σ) (h0 : ∀ s, run 0 s = [s])
    (hs : ∀ fuel s, run (fuel + 1) s = if cond s then s :: run fuel (step s) else [s])
    (P : σ → Prop) (hP : ∀ s, P s → P (step s)) : ∀ (fuel : Nat) (s : σ), P s → ∀ t ∈ run fuel s, P t
  | 0, s, h, t, ht => by rw [h0, List.mem_singleton] at ht; exact ht ▸ h
  | fuel + 1, s, h, t, ht => by
    rw [hs] at ht
    split at ht
    · rcases List.mem_cons.1 ht with rfl | ht
      · exact h
      · exact fuelRun_inv cond step run h0 hs P hP fuel _ (hP s h) t ht
    · rw [List.mem_singleton] at ht; exact ht ▸ h

/-- `for _ in range(fuel): s = step s; if stop s: break; s = post s` -/
theorem forBreak_iterate {σ : Type} (stop : σ → Prop) [DecidablePred stop] (step post : σ → σ) (loop : Nat → σ → σ)
    (h0 : ∀ s, loop 0 s = s)
    (hs : ∀ fuel s, loop (fuel + 1) s = if stop (step s) then step s else loop fuel (post (step s))) :
    ∀ (fuel : Nat) (s : σ), loop fuel s = (fun s => post (step s))^[fuel] s ∨
      ∃ k < fuel, loop fuel s = step ((fun s => post (step s))^[k] s) ∧ stop (loop fuel s)
  | 0, s => Or.inl (h0 s)
  | fuel + 1, s => by
    rw [hs]
    split
    · rename_i hc
      exact Or.inr ⟨0, Nat.succ_pos _, rfl, hc⟩
    · rcases forBreak_iterate stop step post loop h0 hs fuel (post (step s)) with h | ⟨k, hk, he, hst⟩
      · exact Or.inl (by rw [h, Function.iterate_succ_apply])
      · exact Or.inr ⟨k + 1, Nat.succ_lt_succ hk, by rw [he, Function.iterate_succ_apply], hst⟩

end Scico.LinSolve
