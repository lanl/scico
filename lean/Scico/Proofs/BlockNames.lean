/-
  A sufficient test for `checkNamespace` (C13) that the kernel can run on the whole `jax.numpy` namespace.
  `checkNamespace` searches the wrapped lists for every name; here each name is turned into a number once, the
  numbers of the wrapped names are sorted, and sorted lists are compared in one pass.  A list of names that is not
  in alphabetical order, or has a name of more than 64 bytes, may fail the test though it passes `checkNamespace`.
  Mathlib-free.
-/
import Scico.Proofs.BlockLists

namespace Scico.Block.Names

/-- numeral in base 257 with leading digit 1 and then the digits `b + 1` (none is 0), least significant first -/
def digits : List UInt8 → Nat
  | [] => 1
  | b :: bs => digits bs * 257 + b.toNat + 1

/-- the UTF-8 bytes as digits, most significant first, filled up with zeros to 64 digits: the keys of names of at
    most 64 bytes are ordered as the names -/
def key (s : String) : Nat :=
  let bs := s.toByteArray.data.toList
  digits bs.reverse * 257 ^ (64 - bs.length)

theorem digits_mod : ∀ l, digits l % 257 ≠ 0
  | [] => by decide
  | b :: bs => by have := b.toNat_lt; simp only [digits]; omega

theorem digits_inj : ∀ {l l'}, digits l = digits l' → l = l'
  | [], [], _ => rfl
  | [], b :: bs, h | b :: bs, [], h => by have := digits_mod bs; simp only [digits] at h; omega
  | b :: bs, b' :: bs', h => by
    have := b.toNat_lt; have := b'.toNat_lt; simp only [digits] at h
    rw [digits_inj (l := bs) (l' := bs') (by omega), UInt8.toNat_inj.1 (by omega : b.toNat = b'.toNat)]

/-- the zeros filled in are not confused with digits -/
theorem eq_of_mul_pow_eq {a b : Nat} (ha : a % 257 ≠ 0) (hb : b % 257 ≠ 0) :
    ∀ {i j : Nat}, a * 257 ^ i = b * 257 ^ j → a = b
  | 0, 0, h => by simpa using h
  | 0, j + 1, h | i + 1, 0, h => by rw [Nat.pow_succ, ← Nat.mul_assoc, Nat.pow_zero] at h; omega
  | i + 1, j + 1, h => eq_of_mul_pow_eq ha hb (i := i) (j := j)
      (Nat.eq_of_mul_eq_mul_right (by decide : 0 < 257) (by simpa only [Nat.pow_succ, Nat.mul_assoc] using h))

theorem key_inj {s s' : String} (h : key s = key s') : s = s' :=
  String.toByteArray_inj.1 (ByteArray.ext (Array.toList_inj.1 (List.reverse_inj.1
    (digits_inj (eq_of_mul_pow_eq (digits_mod _) (digits_mod _) h)))))

theorem mem_map_key {s : String} {l : List String} : key s ∈ l.map key ↔ s ∈ l :=
  ⟨fun h => let ⟨_, hm, e⟩ := List.mem_map.1 h; key_inj e ▸ hm, fun h => List.mem_map.2 ⟨s, h, rfl⟩⟩

inductive Tree
  | leaf
  | node (l : Tree) (k : Nat) (r : Tree)

def Tree.insert (x : Nat) : Tree → Tree
  | leaf => node leaf x leaf
  | node l k r => if x < k then node (l.insert x) k r else node l k (r.insert x)

def Tree.toList : Tree → List Nat
  | leaf => []
  | node l k r => l.toList ++ k :: r.toList

theorem Tree.mem_insert {x y : Nat} : ∀ t : Tree, y ∈ (t.insert x).toList ↔ y = x ∨ y ∈ t.toList
  | leaf => by simp [insert, toList]
  | node l k r => by
    simp only [insert]
    split <;> simp [toList, mem_insert l, mem_insert r, or_assoc, or_left_comm]

def sort (l : List Nat) : List Nat := (l.foldr Tree.insert .leaf).toList

theorem mem_sort {y : Nat} : ∀ {l : List Nat}, y ∈ sort l ↔ y ∈ l
  | [] => by simp [sort, Tree.toList]
  | x :: l => by rw [sort, List.foldr_cons, Tree.mem_insert, List.mem_cons]; exact or_congr_right mem_sort

def sorted : List Nat → Bool
  | a :: b :: l => a ≤ b && sorted (b :: l)
  | _ => true

theorem pairwise_of_sorted : ∀ {l : List Nat}, sorted l = true → l.Pairwise (· ≤ ·)
  | [], _ => .nil
  | [_], _ => List.pairwise_singleton _ _
  | a :: b :: l, h => by
    simp only [sorted, Bool.and_eq_true, decide_eq_true_eq] at h
    have ih := pairwise_of_sorted h.2
    exact List.pairwise_cons.2 ⟨fun x hx => (List.mem_cons.1 hx).elim (· ▸ h.1)
      fun hx => Nat.le_trans h.1 (List.rel_of_pairwise_cons ih hx), ih⟩

/-- the elements of `a` that are not in `b`, for sorted `a` and `b`: what is smaller than the current element of
    `a` is dropped from `b` for good -/
def diff : List Nat → List Nat → List Nat
  | [], _ => []
  | n :: ns, b =>
    let b' := b.dropWhile (· < n)
    if b'.head? = some n then diff ns b' else n :: diff ns b'

theorem diff_eq_filter : ∀ {a b : List Nat}, a.Pairwise (· ≤ ·) → b.Pairwise (· ≤ ·) →
    diff a b = a.filter (fun k => !b.contains k)
  | [], _, _, _ => rfl
  | n :: ns, b, ha, hb => by
    have hb' : (b.dropWhile (· < n)).Pairwise (· ≤ ·) := hb.sublist (List.dropWhile_sublist _)
    -- a number that is at least `n` is in `b` iff it is in what is left of `b`
    have hmem : ∀ k, n ≤ k → (k ∈ b.dropWhile (· < n) ↔ k ∈ b) := fun k hk => by
      conv => rhs; rw [← List.takeWhile_append_dropWhile (p := (· < n)) (l := b), List.mem_append]
      refine ⟨Or.inr, fun h => h.resolve_left fun hx => ?_⟩
      have := List.all_eq_true.1 List.all_takeWhile k hx
      simp only [decide_eq_true_eq] at this
      omega
    -- and `n` is there iff it comes first
    have hhead : (b.dropWhile (· < n)).head? = some n ↔ n ∈ b := by
      rw [← hmem n (Nat.le_refl n)]
      have h0 := List.head?_dropWhile_not (· < n) b
      generalize b.dropWhile (· < n) = c at hb' h0
      cases c with
      | nil => simp
      | cons s c =>
        have hs := List.rel_of_pairwise_cons hb' (a' := n)
        simp only [List.head?_cons, decide_eq_false_iff_not] at h0
        simp only [List.head?_cons, Option.some.injEq, List.mem_cons]
        exact ⟨fun h => .inl h.symm, fun h => h.elim Eq.symm fun h => by have := hs h; omega⟩
    rw [diff, diff_eq_filter (List.pairwise_cons.1 ha).2 hb', List.filter_cons,
      List.filter_congr (q := fun k => !b.contains k) fun k hk => by
        rw [Bool.eq_iff_iff]; simp [hmem k ((List.pairwise_cons.1 ha).1 k hk)]]
    by_cases h : n ∈ b <;> simp [hhead, h]

end Scico.Block.Names

namespace Scico.Block.Lists
open Scico.Block.Names

def fastNamespace (t : Tables) (jnpNames : List String) : Bool :=
  let names := jnpNames.map key
  let wrapped := sort ((t.creation ++ t.mathematical).map key)
  sorted names && sorted wrapped &&
  diff names wrapped == pinnedPassThrough.map key && diff wrapped names == []

theorem checkNamespace_of_fast (t : Tables) (jnpNames : List String) (h : fastNamespace t jnpNames = true) :
    checkNamespace t jnpNames = true := by
  simp only [fastNamespace, Bool.and_eq_true, beq_iff_eq] at h
  obtain ⟨⟨⟨hn, hw⟩, h1⟩, h2⟩ := h
  have hn := pairwise_of_sorted hn
  have hw := pairwise_of_sorted hw
  rw [diff_eq_filter hn hw, List.filter_map] at h1
  rw [diff_eq_filter hw hn] at h2
  have hkey (n) : (sort ((t.creation ++ t.mathematical).map key)).contains (key n) = wrappedName t n := by
    rw [Bool.eq_iff_iff, List.contains_iff_mem, mem_sort, mem_map_key]
    simp [wrappedName]
  simp only [checkNamespace, Bool.and_eq_true, beq_iff_eq, subset_iff]
  refine ⟨(List.map_inj_right fun _ _ => key_inj).1 (h1 ▸ congrArg _ ?_), fun w hw => ?_⟩
  · exact List.filter_congr fun n _ => (congrArg (!·) (hkey n)).symm
  · refine Decidable.byContradiction fun hn' =>
      List.not_mem_nil (h2 ▸ List.mem_filter.2 ⟨mem_sort.2 (mem_map_key.2 hw), ?_⟩)
    rwa [Bool.not_eq_true', ← Bool.not_eq_true, List.contains_iff_mem, mem_map_key]
