/-
  Coordinate-wise convex functionals: the non-negative indicator (projection onto the orthant), the weighted
  squared-L2 loss with a diagonal operator, entry by entry (real and complex; the one-entry case of the system of
  `ProxCGGen`), the soft threshold of non-negative numbers (nuclear norm on the singular values); in the second namespace of the file,
  `Scico.ProxEdge`, what the closed forms do outside the documented parameter range.
-/
import Scico.Proofs.ProxConvex
import Scico.Proofs.ProxCGGen

namespace Scico.ProxSep

open Scico.Prox Scico.ProxSpec Scico.ProxBridge Scico.ProxConvex

/-- `NonNegativeIndicator`: `max(x, 0)` entry-wise is the metric projection onto the non-negative orthant -/
theorem isProjAt_nonneg {n : ℕ} (x : Fin n → ℝ) :
    IsProjAt {z : EuclideanSpace ℝ (Fin n) | ∀ i, 0 ≤ z i} (toE x) (toE (fun i => max (x i) 0)) := by
  refine ⟨fun i => le_max_right _ _, fun z hz => ?_⟩
  rw [inner_toE]
  refine Finset.sum_nonpos fun i _ => ?_
  simp only [PiLp.sub_apply, toE_apply]
  rcases le_total (x i) 0 with h | h
  · rw [max_eq_right h, sub_zero, sub_zero]; exact mul_nonpos_of_nonpos_of_nonneg h (hz i)
  · rw [max_eq_left h, sub_self, zero_mul]

/-! ### `SquaredL2Loss.prox` with a diagonal operator, one entry: multiplication by `a` is a linear operator with adjoint
    multiplication by `conj a`, so the entry-wise formula is the solution of the system of `ProxCGGen.cert_of_sysRes_zero` -/

theorem mulLeft_real_adj (a u d : ℝ) : inner ℝ (LinearMap.mulLeft ℝ a u) d = inner ℝ u (LinearMap.mulLeft ℝ a d) := by
  simp only [LinearMap.mulLeft_apply, RCLike.inner_apply, conj_trivial]; ring

theorem sysData_mul_complex (a : ℂ) {w : ℝ} (hw : 0 ≤ w) :
    ProxCGGen.SysData (LinearMap.mulLeft ℝ a) (LinearMap.mulLeft ℝ ((starRingEnd ℂ) a)) (w • LinearMap.id) :=
  .smul_id hw fun u d => by
    simp only [LinearMap.mulLeft_apply, Complex.inner, map_mul, Complex.conj_conj]; ring_nf

theorem lossFn_diag1 (scale w a y : ℝ) : ProxCGGen.lossFn scale (LinearMap.mulLeft ℝ a) (w • LinearMap.id) y
    = fun x : ℝ => scale * (w * (y - a * x) ^ 2) := by
  funext x; rw [ProxCGGen.lossFn_smul_id, Real.norm_eq_abs, sq_abs]; rfl

/-- the entry-wise formula solves the one-entry system whenever its denominator does not vanish (any signs) -/
theorem sysRes_diag1 {lam scale w a y v : ℝ} (hden : 2 * scale * lam * a * w * a + 1 ≠ 0) :
    ProxCGGen.sysRes (2 * scale * lam) (LinearMap.mulLeft ℝ a) (LinearMap.mulLeft ℝ a) (w • LinearMap.id) y v
      (sqL2LossDiagProx1 scale w a y v lam) = 0 := by
  have hp : sqL2LossDiagProx1 scale w a y v lam * (2 * scale * lam * a * w * a + 1) = 2 * scale * lam * a * w * y + v := by
    rw [sqL2LossDiagProx1]; exact div_mul_cancel₀ _ hden
  rw [ProxCGGen.sysRes, ProxCGGen.sysOp_apply]
  simp only [LinearMap.smul_apply, LinearMap.id_apply, LinearMap.mulLeft_apply, smul_eq_mul]
  linear_combination hp

theorem cert_sqL2loss_1d {lam scale w : ℝ} (hlam : 0 < lam) (hs : 0 ≤ scale) (hw : 0 ≤ w) (a y v : ℝ) :
    Cert Set.univ (fun x : ℝ => scale * (w * (y - a * x) ^ 2)) lam v (sqL2LossDiagProx1 scale w a y v lam) := by
  rw [← lossFn_diag1]
  refine ProxCGGen.cert_of_sysRes_zero hlam hs (.smul_id hw (mulLeft_real_adj a)) _ _ _ (sysRes_diag1 ?_)
  have : 2 * scale * lam * a * w * a = 2 * scale * lam * w * a ^ 2 := by ring
  rw [this]; positivity

theorem lossFn_diagC1 (scale w : ℝ) (a y : ℂ) : ProxCGGen.lossFn scale (LinearMap.mulLeft ℝ a) (w • LinearMap.id) y
    = fun x : ℂ => scale * (w * ‖y - a * x‖ ^ 2) := by
  funext x; rw [ProxCGGen.lossFn_smul_id]; rfl

theorem sysRes_diagC1 {lam scale w : ℝ} (a y v : ℝ × ℝ)
    (hden : 2 * scale * lam * w * Complex.normSq (toC a) + 1 ≠ 0) :
    ProxCGGen.sysRes (2 * scale * lam) (LinearMap.mulLeft ℝ (toC a)) (LinearMap.mulLeft ℝ ((starRingEnd ℂ) (toC a)))
      (w • LinearMap.id) (toC y) (toC v) (toC (sqL2LossDiagProxC1 scale w a y v lam)) = 0 := by
  obtain ⟨c, hc⟩ : ∃ c, c = 2 * scale * lam := ⟨_, rfl⟩
  rw [← hc] at hden ⊢
  obtain ⟨p, hpd⟩ : ∃ p, p = toC (sqL2LossDiagProxC1 scale w a y v lam) := ⟨_, rfl⟩
  -- `p · (c w |a|² + 1) = c w conj(a) y + v`
  have hp : p * ((c * w * Complex.normSq (toC a) + 1 : ℝ) : ℂ)
      = ((c * w : ℝ) : ℂ) * ((starRingEnd ℂ) (toC a) * toC y) + toC v := by
    rw [hpd, sqL2LossDiagProxC1]
    simp only [toC_cdivr, toC_cadd, toC_cscale, toC_cmul, toC_cconj, ← hc, Complex.real_smul]
    rw [div_mul_eq_mul_div, Complex.normSq_apply]
    exact (div_eq_iff (by exact_mod_cast hden)).mpr rfl
  have hn : (starRingEnd ℂ) (toC a) * toC a = (Complex.normSq (toC a) : ℂ) := by
    rw [mul_comm, Complex.mul_conj]
  rw [← hpd, ProxCGGen.sysRes, ProxCGGen.sysOp_apply]
  simp only [LinearMap.smul_apply, LinearMap.id_apply, LinearMap.mulLeft_apply, Complex.real_smul]
  push_cast at hp
  linear_combination hp + (c * w * p : ℂ) * hn

theorem cert_sqL2loss_1d_complex {lam scale w : ℝ} (hlam : 0 < lam) (hs : 0 ≤ scale) (hw : 0 ≤ w)
    (a y v : ℝ × ℝ) :
    Cert Set.univ (fun x : ℂ => scale * (w * ‖toC y - toC a * x‖ ^ 2)) lam (toC v)
      (toC (sqL2LossDiagProxC1 scale w a y v lam)) := by
  rw [← lossFn_diagC1]
  refine ProxCGGen.cert_of_sysRes_zero hlam hs (sysData_mul_complex (toC a) hw) _ _ _ (sysRes_diagC1 a y v ?_)
  have := Complex.normSq_nonneg (toC a)
  positivity

theorem nuclearSvProx_eq_l1Prox {n : ℕ} {lam : ℝ} (hlam : 0 < lam) (s : Fin n → ℝ) (hs : ∀ i, 0 ≤ s i) :
    nuclearSvProx s lam = l1Prox s lam := by
  funext i
  rw [l1Prox, l1Prox1_eq (s i) hlam, Real.norm_eq_abs, abs_of_nonneg (hs i), nuclearSvProx, maxP_eq, max_comm,
    softThresh_eq_coeff_mul (hs i) hlam, smul_eq_mul]

end Scico.ProxSep

/-! ### parameter edge cases of the closed-form proxes — what the code computes when a constructor parameter leaves the range the
    documentation has in mind, and whether that is still a minimiser: `L2BallIndicator(radius = 0)`, `HuberNorm(delta < 0)`,
    `SquaredL2Loss(scale < 0)` / negative weights with a diagonal operator (the statements about the model are in
    `Props/C02.lean`, section Edge) -/

namespace Scico.ProxEdge
open Scico.Prox Scico.ProxSpec Scico.ProxBridge Scico.ProxConvex

/-- `L2BallIndicator(radius = 0)`: the ball is `{0}`; for `v ≠ 0` the code returns `v·(0/‖v‖) = 0`, the projection
    (at `v = 0` the code divides `0/0`: NaN — excluded) -/
theorem cert_ball_zero_radius {n : ℕ} {lam : ℝ} (v : Fin n → ℝ) (_hv : toE v ≠ 0) :
    Cert {x : EuclideanSpace ℝ (Fin n) | ‖x‖ ≤ 0} (fun _ => 0) lam (toE v) (toE (l2ballProx 0 v)) := by
  have h0 : toE (l2ballProx 0 v) = 0 := by rw [l2ballProx_eq]; simp
  rw [h0]
  refine ⟨by simp, fun z hz => ?_⟩
  rw [norm_le_zero_iff.mp hz]; simp

/-- `HuberNorm(delta < 0, separable=False)`: the functional is `delta·(‖x‖ - delta/2)` everywhere (concave in `‖x‖`); for `v ≠ 0`
    the code's formula `(1 - delta·lam/‖v‖)·v` — pushing `v` OUTWARDS by `-delta·lam` — is a global minimiser
    (at `v = 0` the minimisers form the sphere of radius `-delta·lam` and the code returns NaN) -/
theorem isGMin_huber_neg {E : Type*} [NormedAddCommGroup E] [InnerProductSpace ℝ E] {lam delta : ℝ} (hlam : 0 < lam)
    (hd : delta < 0) {v : E} (hv : v ≠ 0) :
    IsGMin Set.univ (fun x : E => huberFn delta ‖x‖) lam v ((1 - delta * lam / ‖v‖) • v) := by
  have hpos : 0 < ‖v‖ := norm_pos_iff.mpr hv
  have hdl : delta * lam < 0 := mul_neg_of_neg_of_pos hd hlam
  have hs : (1 - delta * lam / ‖v‖) * ‖v‖ = ‖v‖ - delta * lam := by rw [sub_mul, one_mul, div_mul_cancel₀ _ hpos.ne']
  have hc0 : 0 < 1 - delta * lam / ‖v‖ := sub_pos.2 ((div_neg_of_neg_of_pos hdl hpos).trans one_pos)
  have hφ : ∀ r, 0 ≤ r → huberFn delta r = delta * (r - delta / 2) := fun r hr => if_neg (by linarith)
  refine isGMin_radial (R := Set.univ) (φ := huberFn delta) (s := ‖v‖ - delta * lam) trivial ?_ ?_ fun r _ hr => ?_
  · rw [norm_smul, Real.norm_eq_abs, abs_of_pos hc0, hs]
  · rw [real_inner_smul_right, real_inner_self_eq_norm_sq, ← hs]; ring
  · rw [hφ r hr, hφ _ (by linarith)]; linear_combination (1 / 2) * sq_nonneg (r - (‖v‖ - delta * lam))

/-- `SquaredL2Loss` (diagonal `A`), one entry, ANY sign of `scale` / weight: as long as the denominator `1 + 2·scale·lam·w·a²`
    is positive the objective is still strictly convex and the code's formula is the global minimiser -/
theorem isGMin_sqL2loss_1d_anyscale {lam scale w a y v : ℝ} (hden : 0 < 2 * scale * lam * a * w * a + 1) :
    IsGMin Set.univ (fun x : ℝ => scale * (w * (y - a * x) ^ 2)) lam v (sqL2LossDiagProx1 scale w a y v lam) := by
  rw [← ProxSep.lossFn_diag1]
  refine ProxCGGen.isGMin_of_sysRes_zero (ProxSep.mulLeft_real_adj a)
    (fun u z => by simp only [LinearMap.smul_apply, LinearMap.id_apply, real_inner_smul_left, real_inner_smul_right]) (fun e => ?_) y v _
    (ProxSep.sysRes_diag1 hden.ne')
  -- the system operator of one entry is multiplication by the denominator
  rw [ProxCGGen.sysOp_apply]
  simp only [LinearMap.smul_apply, LinearMap.id_apply, LinearMap.mulLeft_apply, smul_eq_mul, RCLike.inner_apply, conj_trivial]
  linear_combination e ^ 2 * hden.le

end Scico.ProxEdge
