/-
  PINNED source structure of the functions the block-array model transcribes (C13).
  `harness/block_translate.py` regenerates `Scico/Generated/BlockSource.lean` from the working tree (ast:
  one line per statement, indentation = nesting depth, docstrings / comments / annotations / exception
  messages dropped) and states `check generated pinned = true` by `check_self`: the two are the same
  literal.  Each entry names the model definitions (`Scico.Model.Block`) that transcribe it: when a body
  changes, the obligation breaks, and the entry is reviewed TOGETHER with those definitions.  Mathlib-free.
-/

namespace Scico.Source

def check (generated pinned : List (String × List String)) : Bool := generated == pinned

theorem check_sound (g p : List (String × List String)) (h : check g p = true) : g = p := by
  simpa [check] using h

theorem check_self (p : List (String × List String)) : check p p = true := beq_self_eq_true p

end Scico.Source

namespace Scico.Block.Source

def pinned : List (String × List String) :=
  [
    -- model: coerce, homogeneous, mkFrom, mkBlock
    ("scico/numpy/_blockarray.py:BlockArray.__init__",
     ["def __init__(self, inputs):",
      "  self.arrays = [x if isinstance(x, jnp.ndarray) else jnp.array(x) for x in inputs]",
      "  if not all((a.dtype == self.arrays[0].dtype for a in self.arrays)):",
      "    raise ValueError"]),
    -- model: dtypeOf
    ("scico/numpy/_blockarray.py:BlockArray.dtype",
     ["@property",
      "def dtype(self):",
      "  return self.arrays[0].dtype"]),
    -- model: List.length (numBlocksInArgs, lensOk read it)
    ("scico/numpy/_blockarray.py:BlockArray.__len__",
     ["def __len__(self):",
      "  return self.arrays.__len__()"]),
    -- model: getItem (int key), getSlice (slice key: the list result goes through the constructor)
    ("scico/numpy/_blockarray.py:BlockArray.__getitem__",
     ["def __getitem__(self, key):",
      "  result = self.arrays[key]",
      "  if not isinstance(result, jnp.ndarray):",
      "    return BlockArray(result)",
      "  return result"]),
    -- model: setItem, setSlice (copy of the list, assignment, constructor)
    ("scico/numpy/_blockarray.py:BlockArray.__setitem__",
     ["def __setitem__(self, key, value):",
      "  arrays = list(self.arrays)",
      "  arrays[key] = value",
      "  self.arrays = BlockArray(arrays).arrays"]),
    -- model: treeUnflatten, unflattenNode
    ("scico/numpy/_blockarray.py:_unflatten",
     ["def _unflatten(_, xs):",
      "  xs = list(xs)",
      "  if all((isinstance(x, jnp.ndarray) for x in xs)):",
      "    return BlockArray(xs)",
      "  ba = object.__new__(BlockArray)",
      "  ba.arrays = xs",
      "  return ba"]),
    -- model: treeFlatten (the block list itself, aux = None), treeUnflatten
    ("scico/numpy/_blockarray.py:@call:jax.tree_util.register_pytree_node",
     ["jax.tree_util.register_pytree_node(BlockArray, lambda xs: (xs.arrays, None), _unflatten)"]),
    -- model: unop
    ("scico/numpy/_blockarray.py:_unary_op_wrapper",
     ["def _unary_op_wrapper(op_name):",
      "  op = getattr(Array, op_name)",
      "  @wraps(op)",
      "  def op_ba(self):",
      "    return BlockArray((op(x) for x in self))",
      "  return op_ba"]),
    -- model: opPair, binop (length check + zip; broadcast branch with the NotImplemented test)
    ("scico/numpy/_blockarray.py:_binary_op_wrapper",
     ["def _binary_op_wrapper(op_name):",
      "  op = getattr(Array, op_name)",
      "  @wraps(op)",
      "  def op_ba(self, other):",
      "    if isinstance(other, BlockArray):",
      "      if len(self) != len(other):",
      "        raise TypeError",
      "      return BlockArray((op(x, y) for x, y in zip(self, other)))",
      "    result = list((op(x, other) for x in self))",
      "    if NotImplemented in result:",
      "      return NotImplemented",
      "    return BlockArray(result)",
      "  return op_ba"]),
    -- model: liftMethod
    ("scico/numpy/_blockarray.py:_da_prop_wrapper",
     ["def _da_prop_wrapper(prop_name):",
      "  prop = getattr(Array, prop_name)",
      "  @property",
      "  @wraps(prop)",
      "  def prop_ba(self):",
      "    result = tuple((getattr(x, prop_name) for x in self))",
      "    if isinstance(result[0], jnp.ndarray):",
      "      return BlockArray(result)",
      "    return result",
      "  return prop_ba"]),
    -- model: liftMethod
    ("scico/numpy/_blockarray.py:_da_method_wrapper.method_ba",
     ["@wraps(method, assigned=wrapper_assignments)",
      "def method_ba(self, *args, **kwargs):",
      "  result = tuple((getattr(x, method_name)(*args, **kwargs) for x in self))",
      "  if isinstance(result[0], jnp.ndarray):",
      "    return BlockArray(result)",
      "  return result"]),
    -- model: mapTupleOfTuples, lookupKey, eraseKey
    ("scico/numpy/_wrappers.py:map_func_over_tuple_of_tuples",
     ["def map_func_over_tuple_of_tuples(func, map_arg_name='shape'):",
      "  @wraps(func)",
      "  def mapped(*args, **kwargs):",
      "    bound_args = signature(func).bind(*args, **kwargs)",
      "    if map_arg_name not in bound_args.arguments:",
      "      return func(*args, **kwargs)",
      "    map_arg_val = bound_args.arguments.pop(map_arg_name)",
      "    if not snp.util.is_nested(map_arg_val):",
      "      return func(*args, **kwargs)",
      "    return BlockArray((func(*bound_args.args, **bound_args.kwargs, **{map_arg_name: x}) for x in map_arg_val))",
      "  return mapped"]),
    -- model: firstBlk, numBlocksInArgs (positional before keyword, first block argument)
    ("scico/numpy/_wrappers.py:_num_blocks_in_args",
     ["def _num_blocks_in_args(*args, **kwargs):",
      "  first_ba_arg = next((arg for arg in args if isinstance(arg, BlockArray)), None)",
      "  if first_ba_arg is None:",
      "    first_ba_kwarg = next((v for k, v in kwargs.items() if isinstance(v, BlockArray)), None)",
      "    if first_ba_kwarg is None:",
      "      num_blocks = 0",
      "    else:",
      "      num_blocks = len(first_ba_kwarg)",
      "  else:",
      "    num_blocks = len(first_ba_arg)",
      "  return num_blocks"]),
    -- model: lensOk, pick, blockArgsKwargs
    ("scico/numpy/_wrappers.py:_block_args_kwargs",
     ["def _block_args_kwargs(num_blocks, *args, **kwargs):",
      "  for arg in (*args, *kwargs.values()):",
      "    if isinstance(arg, BlockArray) and len(arg) != num_blocks:",
      "      raise TypeError",
      "  new_args = []",
      "  new_kwargs = []",
      "  for i in range(num_blocks):",
      "    new_args.append([arg[i] if isinstance(arg, BlockArray) else arg for arg in args])",
      "    new_kwargs.append({k: v[i] if isinstance(v, BlockArray) else v for k, v in kwargs.items()})",
      "  return (new_args, new_kwargs)"]),
    -- model: mapFuncOverBlocks (num_blocks == 0 test)
    ("scico/numpy/_wrappers.py:map_func_over_blocks",
     ["def map_func_over_blocks(func):",
      "  @wraps(func)",
      "  def mapped(*args, **kwargs):",
      "    num_blocks = _num_blocks_in_args(*args, **kwargs)",
      "    if num_blocks == 0:",
      "      return func(*args, **kwargs)",
      "    new_args, new_kwargs = _block_args_kwargs(num_blocks, *args, **kwargs)",
      "    return BlockArray((func(*new_args[i], **new_kwargs[i]) for i in range(num_blocks)))",
      "  return mapped"]),
    -- model: mapVoidFuncOverBlocks
    ("scico/numpy/_wrappers.py:map_void_func_over_blocks",
     ["def map_void_func_over_blocks(func):",
      "  @wraps(func)",
      "  def mapped(*args, **kwargs):",
      "    num_blocks = _num_blocks_in_args(*args, **kwargs)",
      "    if num_blocks == 0:",
      "      func(*args, **kwargs)",
      "    else:",
      "      new_args, new_kwargs = _block_args_kwargs(num_blocks, *args, **kwargs)",
      "      [func(*new_args[i], **new_kwargs[i]) for i in range(num_blocks)]",
      "  return mapped"]),
    -- model: addFullReduction, catArg, ravelCatVia (pop block args from the bound arguments, then `'axis' in`, then > 1)
    ("scico/numpy/_wrappers.py:add_full_reduction",
     ["def add_full_reduction(func, axis_arg_name='axis'):",
      "  sig = signature(func)",
      "  if axis_arg_name not in sig.parameters:",
      "    raise ValueError",
      "  @wraps(func)",
      "  def wrapped(*args, **kwargs):",
      "    bound_args = sig.bind(*args, **kwargs)",
      "    ba_args = {}",
      "    for (k, v) in list(bound_args.arguments.items()):",
      "      if isinstance(v, BlockArray):",
      "        ba_args[k] = bound_args.arguments.pop(k)",
      "    if 'axis' in bound_args.arguments:",
      "      return func(*bound_args.args, **bound_args.kwargs, **ba_args)",
      "    if len(ba_args) > 1:",
      "      raise ValueError",
      "    ba_args = {k: jnp.concatenate(v.ravel()) for k, v in ba_args.items()}",
      "    return func(*bound_args.args, **bound_args.kwargs, **ba_args)",
      "  return wrapped"]),
    -- model: STree.isSeq, STree.isNested
    ("scico/numpy/util.py:is_nested",
     ["def is_nested(x):",
      "  return isinstance(x, (list, tuple)) and any([isinstance(_, (list, tuple)) for _ in x])"]),
    -- model: shapeToSize, STree.prod
    ("scico/numpy/util.py:shape_to_size",
     ["def shape_to_size(shape):",
      "  if is_nested(shape):",
      "    return sum((prod(s) for s in shape))",
      "  return prod(shape)"]),
    -- model: keyOf, seedOf, addSeedCore, addSeed
    ("scico/random.py:_add_seed.fun_alt",
     ["def fun_alt(*args, key=None, seed=None, **kwargs):",
      "  if len(args) >= num_params:",
      "    key = args[num_params - 1]",
      "  if len(args) > num_params:",
      "    seed = args[num_params]",
      "  if key is not None and seed is not None:",
      "    raise ValueError",
      "  if key is None:",
      "    if seed is None:",
      "      seed = 0",
      "    key = jax.random.PRNGKey(seed)",
      "  result = fun(key, *args[:num_params - 1], **kwargs)",
      "  key, subkey = jax.random.split(key, 2)",
      "  return (result, key)"]),
    -- model: randomWrapped
    ("scico/random.py:_wrap",
     ["def _wrap(fun):",
      "  fun_wrapped = _add_seed(map_func_over_tuple_of_tuples(fun))",
      "  fun_wrapped.__module__ = __name__",
      "  return fun_wrapped"]),
    -- model: which jax.random functions are wrapped: first parameter `key`, a parameter `shape` (tie: section random)
    ("scico/random.py:_is_wrappable",
     ["def _is_wrappable(fun):",
      "  params = inspect.signature(getattr(jax.random, fun)).parameters",
      "  prmkey = list(params.keys())",
      "  return prmkey and prmkey[0] == 'key' and ('shape' in params.keys())"])
  ]

end Scico.Block.Source
