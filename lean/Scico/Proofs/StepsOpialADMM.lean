/-
  Proofs/StepsOpialADMM — ADMM with `N` constraints and relaxation `0 < α < 2` in finite dimension, merely convex problem:
  if a KKT point exists and the x-update depends continuously on `(z, u)`, the iterates converge from every start to a
  KKT point.  Opial's argument on the Douglas–Rachford variable `σ_i = z_i + u_i ∈ Z^N` (`Fin N → Z`): a dual-feasible
  state is determined by `σ` (`z_i = prox_{g_i/ρ_i}(σ_i)`), the iteration is `σ ↦ σ + α (C x⁺(σ) − z(σ))`, and
  `W = Σ ρ_i ‖σ_i − σ_i*‖²` is the Fejér metric (`StepsRelax`).
-/
import Scico.Proofs.StepsRelax
import Scico.Proofs.StepsOpial

set_option linter.unusedSectionVars false

namespace Scico.Steps

variable {X Z : Type} [NormedAddCommGroup X] [InnerProductSpace ℝ X]
  [NormedAddCommGroup Z] [InnerProductSpace ℝ Z]

section rows
variable (cons : List (Con X Z))

/-- `z_i(σ) = prox_{g_i/ρ_i}(σ_i)` -/
noncomputable def Pz (σ : Fin cons.length → Z) (i : Fin cons.length) : Z :=
  (cons.get i).prox (1 / (cons.get i).rho) (σ i)

/-- rows from function-indexed `z`, `u`, `u*` -/
def rowsOf (us zf uf : Fin cons.length → Z) : List (Row X Z) :=
  List.ofFn (fun i => ({ c := cons.get i, z := zf i, u := uf i, us := us i } : Row X Z))

/-- the dual-feasible rows determined by `σ` -/
noncomputable def rowsσ (us σ : Fin cons.length → Z) : List (Row X Z) :=
  rowsOf cons us (Pz cons σ) (fun i => σ i - Pz cons σ i)

theorem rowsOf_c (us zf uf : Fin cons.length → Z) : (rowsOf cons us zf uf).map (·.c) = cons := by
  unfold rowsOf
  rw [List.map_ofFn]
  exact List.ofFn_get cons

theorem rowsOf_z (us zf uf : Fin cons.length → Z) : (rowsOf cons us zf uf).map (·.z) = List.ofFn zf := by
  unfold rowsOf; rw [List.map_ofFn]; rfl
theorem rowsOf_u (us zf uf : Fin cons.length → Z) : (rowsOf cons us zf uf).map (·.u) = List.ofFn uf := by
  unfold rowsOf; rw [List.map_ofFn]; rfl
theorem rowsOf_us (us zf uf : Fin cons.length → Z) : (rowsOf cons us zf uf).map (·.us) = List.ofFn us := by
  unfold rowsOf; rw [List.map_ofFn]; rfl

theorem mem_rowsOf {us zf uf : Fin cons.length → Z} {r : Row X Z} (h : r ∈ rowsOf cons us zf uf) :
    ∃ i, r = { c := cons.get i, z := zf i, u := uf i, us := us i } := by
  unfold rowsOf at h
  rw [List.mem_ofFn] at h
  obtain ⟨i, hi⟩ := h
  exact ⟨i, hi.symm⟩

end rows

section iteration
variable (cons : List (Con X Z)) (alpha : ℝ) (solveX : List Z → List Z → X → X)

/-- one documented iteration from ANY state given by functions `z, u : Fin N → Z` lands in the σ-form with
    `σ⁺_i = z_i + u_i + α (C_i x⁺ − z_i)` -/
theorem next_rowsOf (us zf uf : Fin cons.length → Z) (x : X) (zo : List Z) :
    let xn := solveX (List.ofFn zf) (List.ofFn uf) x
    (RS.next alpha solveX ⟨rowsOf cons us zf uf, x, zo⟩).rows
        = rowsσ cons us (fun i => zf i + uf i + alpha • ((cons.get i).C xn - zf i)) ∧
    (RS.next alpha solveX ⟨rowsOf cons us zf uf, x, zo⟩).x = xn := by
  intro xn
  have hxn : RS.xn solveX ⟨rowsOf cons us zf uf, x, zo⟩ = xn := by
    show solveX ((rowsOf cons us zf uf).map (·.z)) ((rowsOf cons us zf uf).map (·.u)) x = _
    rw [rowsOf_z, rowsOf_u]
  refine ⟨?_, hxn⟩
  unfold RS.next
  simp only [hxn]
  unfold rowsσ rowsOf
  rw [List.map_ofFn]
  congr 1
  funext i
  simp only [Function.comp]
  have e1 : Row.chat ({ c := cons.get i, z := zf i, u := uf i, us := us i } : Row X Z) alpha xn + uf i
      = zf i + uf i + alpha • ((cons.get i).C xn - zf i) := Row.chat_add_u _ alpha xn
  have hz : Row.znA ({ c := cons.get i, z := zf i, u := uf i, us := us i } : Row X Z) alpha xn
      = Pz cons (fun i => zf i + uf i + alpha • ((cons.get i).C xn - zf i)) i := by
    simp only [Row.znA, Pz, e1]
  have hu : Row.unA ({ c := cons.get i, z := zf i, u := uf i, us := us i } : Row X Z) alpha xn
      = (zf i + uf i + alpha • ((cons.get i).C xn - zf i))
        - Pz cons (fun i => zf i + uf i + alpha • ((cons.get i).C xn - zf i)) i := by
    simp only [Row.unA]
    rw [hz, ← e1]
    abel
  rw [hz, hu]

/-- `x⁺(σ)` and the iteration on the Douglas–Rachford variable -/
noncomputable def xplus (x0 : X) (σ : Fin cons.length → Z) : X :=
  solveX (List.ofFn (Pz cons σ)) (List.ofFn (fun i => σ i - Pz cons σ i)) x0

noncomputable def Tσ (x0 : X) (σ : Fin cons.length → Z) : Fin cons.length → Z :=
  fun i => σ i + alpha • ((cons.get i).C (xplus cons solveX x0 σ) - Pz cons σ i)

/-- one iteration from a σ-form state (the x-update does not depend on its warm start) -/
theorem next_rowsσ (hindep : ∀ z u x x', solveX z u x = solveX z u x') (x0 : X) (us σ : Fin cons.length → Z) (s : RS X Z)
    (h : s.rows = rowsσ cons us σ) :
    (RS.next alpha solveX s).rows = rowsσ cons us (Tσ cons alpha solveX x0 σ) ∧
    (RS.next alpha solveX s).x = xplus cons solveX x0 σ := by
  obtain ⟨r, x, zo⟩ := s
  subst h
  obtain ⟨h1, h2⟩ := next_rowsOf cons alpha solveX us (Pz cons σ) (fun i => σ i - Pz cons σ i) x zo
  have hx : solveX (List.ofFn (Pz cons σ)) (List.ofFn (fun i => σ i - Pz cons σ i)) x = xplus cons solveX x0 σ :=
    hindep _ _ _ _
  simp only [hx, add_sub_cancel] at h1 h2
  exact ⟨h1, h2⟩

/-- the row iterates from a σ-form state are the σ-form of the iterates of `Tσ` -/
theorem iter_rowsσ (hindep : ∀ z u x x', solveX z u x = solveX z u x') (x0 : X) (us : Fin cons.length → Z) (k : Nat) :
    ∀ (s : RS X Z) (σ : Fin cons.length → Z), s.rows = rowsσ cons us σ →
      (iter (RS.next alpha solveX) k s).rows = rowsσ cons us (iter (Tσ cons alpha solveX x0) k σ) ∧
      (iter (RS.next alpha solveX) (k + 1) s).x = xplus cons solveX x0 (iter (Tσ cons alpha solveX x0) k σ) := by
  induction k with
  | zero => exact fun s σ h => ⟨h, (next_rowsσ cons alpha solveX hindep x0 us σ s h).2⟩
  | succ k ih => exact fun s σ h => ih _ _ (next_rowsσ cons alpha solveX hindep x0 us σ s h).1

end iteration

section metric
variable {cons : List (Con X Z)} {alpha : ℝ} {solveX : List Z → List Z → X → X}

/-- the Fejér metric on the Douglas–Rachford variable, as a function of the difference -/
noncomputable def admmD (cons : List (Con X Z)) (v : Fin cons.length → Z) : ℝ :=
  ∑ i, (cons.get i).rho * ‖v i‖ ^ 2

theorem W_of_rows (xs : X) (us σ : Fin cons.length → Z) (s : RS X Z) (h : s.rows = rowsσ cons us σ) :
    RS.W xs s = admmD cons (σ - fun i => (cons.get i).C xs + us i) := by
  unfold RS.W rowsW admmD
  rw [h]
  unfold rowsσ rowsOf
  rw [List.map_ofFn, List.sum_ofFn]
  refine Finset.sum_congr rfl fun i _ => ?_
  show (cons.get i).rho * ‖Pz cons σ i + (σ i - Pz cons σ i) - ((cons.get i).C xs + us i)‖ ^ 2
    = (cons.get i).rho * ‖σ i - ((cons.get i).C xs + us i)‖ ^ 2
  rw [add_sub_cancel]

theorem Q_rowsσ (us σ : Fin cons.length → Z) (xn : X) :
    rowsQ (rowsσ cons us σ) xn = ∑ i, (cons.get i).rho * ‖(cons.get i).C xn - Pz cons σ i‖ ^ 2 := by
  unfold rowsQ rowsσ rowsOf
  rw [List.map_ofFn, List.sum_ofFn]
  rfl

theorem admmD_lower {rlo : ℝ} (hr0 : 0 < rlo) (hlo : ∀ c ∈ cons, rlo ≤ c.rho) (v : Fin cons.length → Z) :
    rlo * ‖v‖ ^ 2 ≤ admmD cons v := by
  have hpos : ∀ j, 0 ≤ (cons.get j).rho * ‖v j‖ ^ 2 := fun j =>
    mul_nonneg (hr0.le.trans (hlo _ (List.get_mem cons j))) (sq_nonneg _)
  have hle : ‖v‖ ≤ Real.sqrt (admmD cons v / rlo) := by
    rw [pi_norm_le_iff_of_nonneg (Real.sqrt_nonneg _)]
    intro i
    apply Real.le_sqrt_of_sq_le
    rw [le_div_iff₀ hr0]
    have h1 : (cons.get i).rho * ‖v i‖ ^ 2 ≤ admmD cons v :=
      Finset.single_le_sum (f := fun i => (cons.get i).rho * ‖v i‖ ^ 2) (fun j _ => hpos j) (Finset.mem_univ i)
    linarith [mul_le_mul_of_nonneg_right (hlo _ (List.get_mem cons i)) (sq_nonneg ‖v i‖)]
  have hD0 : 0 ≤ admmD cons v := Finset.sum_nonneg fun j _ => hpos j
  have := pow_le_pow_left₀ (norm_nonneg v) hle 2
  rwa [Real.sq_sqrt (div_nonneg hD0 hr0.le), le_div_iff₀ hr0, mul_comm] at this

theorem admmD_upper {rhi : ℝ} (hhi : ∀ c ∈ cons, c.rho ≤ rhi) (v : Fin cons.length → Z) :
    admmD cons v ≤ (cons.length * max rhi 0) * ‖v‖ ^ 2 := by
  have hb : ∀ i ∈ (Finset.univ : Finset (Fin cons.length)), (cons.get i).rho * ‖v i‖ ^ 2 ≤ max rhi 0 * ‖v‖ ^ 2 := fun i _ =>
    mul_le_mul ((hhi _ (List.get_mem cons i)).trans (le_max_left _ _))
      (pow_le_pow_left₀ (norm_nonneg _) (norm_le_pi_norm v i) 2) (sq_nonneg _) (le_max_right _ _)
  have := Finset.sum_le_sum hb
  simp only [Finset.sum_const, Finset.card_univ, Fintype.card_fin, nsmul_eq_mul] at this
  rw [mul_assoc]
  exact this

/-- `Σ ρ_i ‖C_i x⁺(σ) − z_i(σ)‖²` -/
noncomputable def admmQσ (cons : List (Con X Z)) (solveX : List Z → List Z → X → X) (x0 : X) (σ : Fin cons.length → Z) : ℝ :=
  ∑ i, (cons.get i).rho * ‖(cons.get i).C (xplus cons solveX x0 σ) - Pz cons σ i‖ ^ 2

/-- the step moves `σ` by `α (C_i x⁺ − z_i)` in each component -/
theorem admmD_step (x0 : X) (σ : Fin cons.length → Z) :
    admmD cons (Tσ cons alpha solveX x0 σ - σ) = alpha ^ 2 * admmQσ cons solveX x0 σ := by
  unfold admmD admmQσ
  rw [Finset.mul_sum]
  refine Finset.sum_congr rfl fun i _ => ?_
  have : (Tσ cons alpha solveX x0 σ - σ) i = alpha • ((cons.get i).C (xplus cons solveX x0 σ) - Pz cons σ i) := by
    show Tσ cons alpha solveX x0 σ i - σ i = _
    unfold Tσ; abel
  rw [this, norm_smul, mul_pow, Real.norm_eq_abs, sq_abs]
  ring

end metric

section hyp
variable [FiniteDimensional ℝ X] [FiniteDimensional ℝ Z]
variable (cons : List (Con X Z)) (alpha : ℝ) (solveX : List Z → List Z → X → X)

/-- hypotheses of the finite-dimensional ADMM convergence theorem: relaxation in `(0,2)`, every constraint subtractive with
    adjoint, proximal contract, continuous `C_i`, penalties in `[rlo, rhi]` with `rlo > 0`; `x0` is the warm start at which
    `xplus` reads the x-update (`ADMMConvHyp.indep`: it does not matter which) -/
structure ADMMConvHyp (F : Fn X) (x0 : X) (rlo rhi : ℝ) : Prop where
  a0 : 0 < alpha
  a2 : alpha < 2
  add : ∀ c ∈ cons, ∀ x y, c.C (x - y) = c.C x - c.C y
  adj : ∀ c ∈ cons, ∀ w x, ⟪c.Cadj w, x⟫ = ⟪w, c.C x⟫
  prox : ∀ c ∈ cons, IsProx c.G c.prox
  rlo0 : 0 < rlo
  rho_lo : ∀ c ∈ cons, rlo ≤ c.rho
  rho_hi : ∀ c ∈ cons, c.rho ≤ rhi
  Ccont : ∀ c ∈ cons, Continuous c.C
  /-- the x-update returns a stationary point of the x-sub-problem, which has at most one -/
  solve : ∀ z u x, F.Subgrad (solveX z u x) (xGrad cons z u (solveX z u x))
  uniq : ∀ z u x x', F.Subgrad x (xGrad cons z u x) → F.Subgrad x' (xGrad cons z u x') → x = x'
  /-- … and depends continuously on `(z, u)` (through the Douglas–Rachford variable) -/
  xcont : Continuous (xplus cons solveX x0)

/-- KKT point `(x*, u*)` of `min f(x) + Σ g_i(C_i x)` with scaled multipliers -/
def IsAKKT (F : Fn X) (xs : X) (us : Fin cons.length → Z) : Prop :=
  (∀ i, (cons.get i).G.Subgrad ((cons.get i).C xs) ((cons.get i).rho • us i)) ∧
  F.Subgrad xs (xGrad cons (cons.map (fun c => c.C xs)) (List.ofFn us) xs)

variable {cons alpha solveX}

theorem ADMMConvHyp.indep {F : Fn X} {x0 : X} {rlo rhi : ℝ} (H : ADMMConvHyp cons alpha solveX F x0 rlo rhi)
    (z u : List Z) (x x' : X) : solveX z u x = solveX z u x' :=
  H.uniq z u _ _ (H.solve z u x) (H.solve z u x')

theorem ADMMConvHyp.relax {F : Fn X} {x0 : X} {rlo rhi : ℝ} (H : ADMMConvHyp cons alpha solveX F x0 rlo rhi)
    {xs : X} {us : Fin cons.length → Z} (hk : IsAKKT cons F xs us) :
    RelaxHyp alpha 0 cons (List.ofFn us) solveX F xs :=
  ⟨H.a0.le, H.a2.le, le_refl 0, strongSub_zero F, H.solve, hk.2⟩

theorem ADMMConvHyp.rho_pos {F : Fn X} {x0 : X} {rlo rhi : ℝ} (H : ADMMConvHyp cons alpha solveX F x0 rlo rhi)
    (i : Fin cons.length) : 0 < (cons.get i).rho :=
  H.rlo0.trans_le (H.rho_lo _ (List.get_mem cons i))

theorem ADMMConvHyp.pre {F : Fn X} {x0 : X} {rlo rhi : ℝ} (H : ADMMConvHyp cons alpha solveX F x0 rlo rhi)
    (σ : Fin cons.length → Z) (i : Fin cons.length) :
    (cons.get i).G.Subgrad (Pz cons σ i) ((cons.get i).rho • (σ i - Pz cons σ i)) :=
  (cons.get i).feasible_at (H.rho_pos i) (H.prox _ (List.get_mem cons i)) (σ i)

theorem ADMMConvHyp.ok {F : Fn X} {x0 : X} {rlo rhi : ℝ} (H : ADMMConvHyp cons alpha solveX F x0 rlo rhi)
    {xs : X} {us : Fin cons.length → Z} (hk : IsAKKT cons F xs us) (σ : Fin cons.length → Z) (x : X) (zo : List Z) :
    RS.OK xs cons (List.ofFn us) ⟨rowsσ cons us σ, x, zo⟩ := by
  refine ⟨⟨rowsOf_c cons _ _ _, rowsOf_us cons _ _ _, ?_⟩, ?_⟩
  · intro r hr
    obtain ⟨i, rfl⟩ := mem_rowsOf cons hr
    have hm : cons.get i ∈ cons := List.get_mem cons i
    exact ⟨H.add _ hm, H.adj _ hm, H.rho_pos i, H.prox _ hm, hk.1 i⟩
  · intro r hr
    obtain ⟨i, rfl⟩ := mem_rowsOf cons hr
    exact H.pre σ i

end hyp

section opial
variable [FiniteDimensional ℝ X] [FiniteDimensional ℝ Z]
variable {cons : List (Con X Z)} {alpha : ℝ} {solveX : List Z → List Z → X → X}

/-- a fixed point of the σ-iteration gives a KKT point `(x⁺(σ), σ − z(σ))` with `σ_i = C_i x* + u_i*` -/
theorem Tσ_fixed_kkt {F : Fn X} {x0 : X} {rlo rhi : ℝ} (H : ADMMConvHyp cons alpha solveX F x0 rlo rhi)
    (σ : Fin cons.length → Z) (h : Tσ cons alpha solveX x0 σ = σ) :
    IsAKKT cons F (xplus cons solveX x0 σ) (fun i => σ i - Pz cons σ i) ∧
    σ = fun i => (cons.get i).C (xplus cons solveX x0 σ) + (σ i - Pz cons σ i) := by
  have hC : ∀ i, (cons.get i).C (xplus cons solveX x0 σ) = Pz cons σ i := by
    intro i
    have hi := congrFun h i
    unfold Tσ at hi
    rw [add_eq_left] at hi
    exact sub_eq_zero.1 ((smul_eq_zero.1 hi).resolve_left H.a0.ne')
  refine ⟨⟨fun i => ?_, ?_⟩, ?_⟩
  · rw [hC i]; exact H.pre σ i
  · have hs := H.solve (List.ofFn (Pz cons σ)) (List.ofFn (fun i => σ i - Pz cons σ i)) x0
    have e : cons.map (fun c => c.C (xplus cons solveX x0 σ)) = List.ofFn (Pz cons σ) := by
      rw [← List.ofFn_getElem_eq_map]
      congr 1
      funext i
      exact hC i
    rw [e]
    exact hs
  · funext i
    rw [hC i]; abel

/-- a KKT point gives a fixed point `σ*_i = C_i x* + u_i*` -/
theorem kkt_Tσ_fixed {F : Fn X} {x0 : X} {rlo rhi : ℝ} (H : ADMMConvHyp cons alpha solveX F x0 rlo rhi)
    {xs : X} {us : Fin cons.length → Z} (hk : IsAKKT cons F xs us) :
    Tσ cons alpha solveX x0 (fun i => (cons.get i).C xs + us i) = fun i => (cons.get i).C xs + us i := by
  set σs : Fin cons.length → Z := fun i => (cons.get i).C xs + us i with hσ
  have hP : ∀ i, Pz cons σs i = (cons.get i).C xs := by
    intro i
    exact (H.prox _ (List.get_mem cons i)).fixed_one_div (H.rho_pos i) (hk.1 i)
  have hx : xplus cons solveX x0 σs = xs := by
    unfold xplus
    apply H.uniq _ _ _ _ (H.solve _ _ _)
    have e1 : List.ofFn (Pz cons σs) = cons.map (fun c => c.C xs) := by
      rw [← List.ofFn_getElem_eq_map]; congr 1; funext i; exact hP i
    have e2 : List.ofFn (fun i => σs i - Pz cons σs i) = List.ofFn us := by
      congr 1; funext i; rw [hP i, hσ]; simp
    rw [e1, e2]
    exact hk.2
  funext i
  unfold Tσ
  rw [hx, hP i, sub_self, smul_zero, add_zero]

theorem Tσ_continuous {F : Fn X} {x0 : X} {rlo rhi : ℝ} (H : ADMMConvHyp cons alpha solveX F x0 rlo rhi) :
    Continuous (Tσ cons alpha solveX x0) := by
  have hx := H.xcont
  apply continuous_pi
  intro i
  have hm : cons.get i ∈ cons := List.get_mem cons i
  have hC := H.Ccont _ hm
  have hp : Continuous ((cons.get i).prox (1 / (cons.get i).rho)) := (H.prox _ hm).continuous (one_div_pos.2 (H.rho_pos i))
  have hPz : Continuous (fun σ : Fin cons.length → Z => Pz cons σ i) := by
    unfold Pz
    exact hp.comp (continuous_apply i)
  have hi : Continuous (fun σ : Fin cons.length → Z => σ i) := continuous_apply i
  unfold Tσ
  fun_prop

/-- one step of the σ-iteration against a fixed point: `RS.descent` read on the σ-form of a state -/
theorem Tσ_descent {F : Fn X} {x0 : X} {rlo rhi : ℝ} (H : ADMMConvHyp cons alpha solveX F x0 rlo rhi)
    (ws : Fin cons.length → Z) (hws : Tσ cons alpha solveX x0 ws = ws) (σ : Fin cons.length → Z) :
    admmD cons (Tσ cons alpha solveX x0 σ - ws) + alpha * (2 - alpha) * admmQσ cons solveX x0 σ ≤ admmD cons (σ - ws) := by
  obtain ⟨hkk, hwseq⟩ := Tσ_fixed_kkt H ws hws
  set us' : Fin cons.length → Z := fun i => ws i - Pz cons ws i
  have hd := RS.descent (H.relax hkk) (H.ok hkk σ x0 [])
  have hxn : RS.xn solveX (⟨rowsσ cons us' σ, x0, []⟩ : RS X Z) = xplus cons solveX x0 σ := by
    unfold RS.xn xplus rowsσ
    rw [rowsOf_z, rowsOf_u]
  rw [W_of_rows _ us' _ _ (next_rowsσ cons alpha solveX H.indep x0 us' σ _ rfl).1, W_of_rows _ us' σ _ rfl, ← hwseq] at hd
  unfold RS.D at hd
  rw [hxn, Q_rowsσ] at hd
  unfold admmQσ
  linarith

theorem admm_increment {F : Fn X} {x0 : X} {rlo rhi : ℝ} (H : ADMMConvHyp cons alpha solveX F x0 rlo rhi)
    (σ : Fin cons.length → Z) :
    rlo * ((2 - alpha) / alpha) * ‖Tσ cons alpha solveX x0 σ - σ‖ ^ 2 ≤ alpha * (2 - alpha) * admmQσ cons solveX x0 σ := by
  have h1 := mul_le_mul_of_nonneg_right (admmD_lower H.rlo0 H.rho_lo (Tσ cons alpha solveX x0 σ - σ))
    (div_pos (sub_pos.2 H.a2) H.a0).le
  rw [admmD_step] at h1
  have e : alpha ^ 2 * admmQσ cons solveX x0 σ * ((2 - alpha) / alpha) = alpha * (2 - alpha) * admmQσ cons solveX x0 σ := by
    field_simp [H.a0.ne']
  rw [e] at h1
  rwa [mul_right_comm]

/-- ADMM as an instance of `OpialStep`: the state is the Douglas–Rachford variable itself -/
theorem admm_opialStep {F : Fn X} {x0 : X} {rlo rhi : ℝ} (H : ADMMConvHyp cons alpha solveX F x0 rlo rhi) :
    OpialStep (Tσ cons alpha solveX x0) id (Tσ cons alpha solveX x0) (fun _ => True) (admmD cons) (fun _ => 0)
      (fun σ => alpha * (2 - alpha) * admmQσ cons solveX x0 σ) :=
  .of_fejer (Tσ_continuous H) (fun _ _ => trivial) (fun _ _ => rfl) ⟨rlo, H.rlo0, admmD_lower H.rlo0 H.rho_lo⟩
    ⟨_, admmD_upper H.rho_hi⟩ (fun ws hws σ _ => Tσ_descent H ws hws σ)
    ⟨_, mul_pos H.rlo0 (div_pos (sub_pos.2 H.a2) H.a0), fun σ _ => admm_increment H σ⟩

theorem admm_converges_findim {F : Fn X} {x0 : X} {rlo rhi : ℝ} (H : ADMMConvHyp cons alpha solveX F x0 rlo rhi)
    (hk : ∃ xs us, IsAKKT cons F xs us) (us0 zf uf : Fin cons.length → Z) (x : X) (zo : List Z) :
    ∃ (xs : X) (us : Fin cons.length → Z) (σseq : ℕ → Fin cons.length → Z), IsAKKT cons F xs us ∧
      (∀ k, (iter (RS.next alpha solveX) (k + 1) ⟨rowsOf cons us0 zf uf, x, zo⟩).rows = rowsσ cons us0 (σseq k)) ∧
      Filter.Tendsto σseq Filter.atTop (nhds (fun i => (cons.get i).C xs + us i)) ∧
      Filter.Tendsto (fun k => (iter (RS.next alpha solveX) k ⟨rowsOf cons us0 zf uf, x, zo⟩).x) Filter.atTop (nhds xs) := by
  -- after one iteration the state is in σ-form
  obtain ⟨h1r, _⟩ := next_rowsOf cons alpha solveX us0 zf uf x zo
  set σ1 : Fin cons.length → Z :=
    fun i => zf i + uf i + alpha • ((cons.get i).C (solveX (List.ofFn zf) (List.ofFn uf) x) - zf i)
  obtain ⟨σb, hσb, hlim⟩ := (admm_opialStep H).converges
    (by obtain ⟨xs, us, hkk⟩ := hk; exact ⟨_, kkt_Tσ_fixed H hkk⟩) σ1 trivial
  obtain ⟨hkk, hσeq⟩ := Tσ_fixed_kkt H σb hσb
  refine ⟨xplus cons solveX x0 σb, fun i => σb i - Pz cons σb i, fun k => iter (Tσ cons alpha solveX x0) k σ1, hkk,
    fun k => (iter_rowsσ cons alpha solveX H.indep x0 us0 k _ σ1 h1r).1, by rw [← hσeq]; exact hlim, ?_⟩
  rw [← Filter.tendsto_add_atTop_iff_nat 2]
  exact ((H.xcont.tendsto σb).comp hlim).congr fun k =>
    ((iter_rowsσ cons alpha solveX H.indep x0 us0 k _ σ1 h1r).2).symm

end opial

end Scico.Steps
