/-
  Bridge between the executable model (`Scico/Model/Prox.lean`, instantiated at `ℝ`) and the
  specification side (`Scico/Proofs/ProxSpec.lean`, `ProxGeneric.lean`): instances, unfolding lemmas, vectors as
  points of `EuclideanSpace ℝ (Fin n)`, complex pairs as points of `ℂ`.
-/
import Scico.Model.Prox
import Scico.Proofs.ProxGeneric
import Scico.Proofs.Sums
import Mathlib.Analysis.Complex.Norm

namespace Scico.ProxBridge

open Scico.Prox Scico.ProxSpec WithLp

instance : HasAbs ℝ := ⟨fun x => |x|⟩
noncomputable instance : HasSqrt ℝ := ⟨Real.sqrt⟩

@[simp] theorem hasAbs_abs (x : ℝ) : HasAbs.abs x = |x| := rfl
@[simp] theorem hasSqrt_sqrt (x : ℝ) : HasSqrt.sqrt x = √x := rfl

theorem maxP_eq (a b : ℝ) : maxP a b = max a b := by
  unfold maxP; split_ifs with h
  · exact (max_eq_right h.le).symm
  · exact (max_eq_left (not_lt.mp h)).symm

theorem isZero_iff (a : ℝ) : isZero a = true ↔ a = 0 := by
  unfold isZero
  simp only [Bool.and_eq_true, Bool.not_eq_true', decide_eq_false_iff_not, not_lt]
  constructor
  · rintro ⟨h1, h2⟩; exact le_antisymm h1 h2
  · rintro rfl; exact ⟨le_refl _, le_refl _⟩

theorem isZero_false {a : ℝ} (h : a ≠ 0) : isZero a = false :=
  Bool.eq_false_iff.2 (mt (isZero_iff a).1 h)

theorem posPart_eq (t : ℝ) : Prox.posPart t = max t 0 := by
  unfold Prox.posPart
  simp only [hasAbs_abs]
  rcases le_total 0 t with h | h
  · rw [abs_of_nonneg h, max_eq_left h]; ring
  · rw [abs_of_nonpos h, max_eq_right h]; ring

theorem sign_eq (v : ℝ) : sign v = (SignType.sign v : ℝ) := by
  unfold sign
  split_ifs with h1 h2
  · rw [_root_.sign_pos h1]; rfl
  · rw [_root_.sign_neg h2]; simp
  · rw [le_antisymm (not_lt.1 h1) (not_lt.1 h2), _root_.sign_zero]; rfl

theorem sign_of_pos {t : ℝ} (h : 0 < t) : sign t = 1 := if_pos h

theorem sign_of_neg {t : ℝ} (h : t < 0) : sign t = -1 := by
  unfold sign; rw [if_neg (not_lt.2 h.le), if_pos h]

theorem abs_sign {t : ℝ} (ht : t ≠ 0) : |sign t| = 1 := by
  rcases ht.lt_or_gt with h | h
  · rw [sign_of_neg h, abs_neg, abs_one]
  · rw [sign_of_pos h, abs_one]

theorem noNanDiv_eq (x y : ℝ) : noNanDiv x y = if y = 0 then 0 else x / y := by
  unfold noNanDiv; simp only [isZero_iff]

noncomputable def toE {n : Nat} (v : Fin n → ℝ) : EuclideanSpace ℝ (Fin n) := toLp 2 v

@[simp] theorem toE_apply {n : Nat} (v : Fin n → ℝ) (i : Fin n) : toE v i = v i := rfl

theorem toE_smul {n : Nat} (c : ℝ) (v : Fin n → ℝ) : toE (fun i => c * v i) = c • toE v := by
  ext i; simp [toE]

theorem toE_ofLp {n : Nat} (x : EuclideanSpace ℝ (Fin n)) : toE (fun i => x i) = x := rfl

theorem norm_toE {n : Nat} (v : Fin n → ℝ) : ‖toE v‖ = √(∑ i, v i * v i) := by
  rw [EuclideanSpace.norm_eq]
  congr 1
  refine Finset.sum_congr rfl fun i _ => ?_
  rw [toE_apply, Real.norm_eq_abs, sq_abs]; ring

theorem norm2_eq {n : Nat} (v : Fin n → ℝ) : norm2 v = ‖toE v‖ := by
  unfold norm2; rw [hasSqrt_sqrt, Vec.sum_eq, norm_toE]

theorem inner_toE {n : Nat} (x y : EuclideanSpace ℝ (Fin n)) : inner ℝ x y = ∑ i, x i * y i := by
  rw [PiLp.inner_apply]
  refine Finset.sum_congr rfl fun i _ => ?_
  simp [mul_comm]

theorem isGMin_real_iff {D : Set ℝ} {φ : ℝ → ℝ} {lam v p : ℝ} :
    IsGMin D φ lam v p ↔ p ∈ D ∧ ∀ x ∈ D, lam * φ p + 1 / 2 * (p - v) ^ 2 ≤ lam * φ x + 1 / 2 * (x - v) ^ 2 := by
  unfold IsGMin
  simp only [Real.norm_eq_abs, sq_abs]

def toC (z : ℝ × ℝ) : ℂ := ⟨z.1, z.2⟩

@[simp] theorem toC_re (z : ℝ × ℝ) : (toC z).re = z.1 := rfl
@[simp] theorem toC_im (z : ℝ × ℝ) : (toC z).im = z.2 := rfl

theorem cabs_eq (z : ℝ × ℝ) : cabs z = ‖toC z‖ := by
  unfold cabs
  rw [hasSqrt_sqrt, Complex.norm_eq_sqrt_sq_add_sq]
  congr 1; simp [sq]

theorem toC_cscale (c : ℝ) (z : ℝ × ℝ) : toC (cscale c z) = c • toC z := by
  apply Complex.ext <;> simp [cscale]

theorem toC_cadd (z w : ℝ × ℝ) : toC (cadd z w) = toC z + toC w := rfl

theorem toC_cmul (z w : ℝ × ℝ) : toC (cmul z w) = toC z * toC w :=
  Complex.ext (by simp [cmul]) (by simp [cmul])

theorem toC_cconj (z : ℝ × ℝ) : toC (cconj z) = (starRingEnd ℂ) (toC z) := rfl

theorem toC_cdivr (z : ℝ × ℝ) (c : ℝ) : toC (cdivr z c) = toC z / (c : ℂ) :=
  Complex.ext (by simp [cdivr]) (by simp [cdivr])

theorem toC_cphase (z : ℝ × ℝ) : toC (cphase z) = if 0 < ‖toC z‖ then (‖toC z‖)⁻¹ • toC z else 1 := by
  unfold cphase
  simp only [cabs_eq]
  split_ifs
  · apply Complex.ext <;> simp only [toC_re, toC_im, Complex.smul_re, Complex.smul_im, smul_eq_mul, div_eq_inv_mul]
  · rfl

theorem norm_toC_cphase (z : ℝ × ℝ) : ‖toC (cphase z)‖ = 1 := by
  rw [toC_cphase]
  split_ifs with h
  · rw [norm_smul, norm_inv, norm_norm, inv_mul_cancel₀ h.ne']
  · exact norm_one

theorem toC_eq_norm_smul_cphase (z : ℝ × ℝ) : toC z = ‖toC z‖ • toC (cphase z) := by
  rw [toC_cphase]
  split_ifs with h
  · rw [smul_smul, mul_inv_cancel₀ h.ne', one_smul]
  · rw [le_antisymm (not_lt.1 h) (norm_nonneg _), zero_smul]
    exact norm_eq_zero.1 (le_antisymm (not_lt.1 h) (norm_nonneg _))

theorem toC_sum_mul {k : ℕ} (t : Fin k → ℝ) (x : Fin k → ℝ × ℝ) :
    toC (∑ l, t l * (x l).1, ∑ l, t l * (x l).2) = ∑ l, ((t l : ℝ) : ℂ) * toC (x l) :=
  Complex.ext (by simp only [toC_re, Complex.re_sum, Complex.re_ofReal_mul])
    (by simp only [toC_im, Complex.im_sum, Complex.im_ofReal_mul])

/-- a vector of model pairs as a point of `ℂⁿ` seen as a REAL inner-product space (`Re⟨·,·⟩`) -/
noncomputable def toCn {n : Nat} (v : Fin n → ℝ × ℝ) : PiLp 2 (fun _ : Fin n => ℂ) := toLp 2 (fun i => toC (v i))

theorem toCn_apply {n : Nat} (v : Fin n → ℝ × ℝ) (i : Fin n) : toCn v i = toC (v i) := rfl

/-! ### coordinate-wise functionals at model vectors: `cert_sum_univ`, `isGMin_sum_univ_iff` with the coordinates of `toE v`,
    `toCn v` written as `v i`, `toC (v i)` -/

section Sum
variable {n : Nat} {lam : ℝ}

theorem cert_sum_toE {φ : Fin n → ℝ → ℝ} {v p : Fin n → ℝ} (h : ∀ i, Cert Set.univ (φ i) lam (v i) (p i)) :
    Cert Set.univ (fun x : EuclideanSpace ℝ (Fin n) => ∑ i, φ i (x i)) lam (toE v) (toE p) :=
  cert_sum_univ (F := fun _ => ℝ) h

theorem cert_sum_toCn {φ : Fin n → ℂ → ℝ} {v p : Fin n → ℝ × ℝ}
    (h : ∀ i, Cert Set.univ (φ i) lam (toC (v i)) (toC (p i))) :
    Cert Set.univ (fun x : PiLp 2 (fun _ : Fin n => ℂ) => ∑ i, φ i (x i)) lam (toCn v) (toCn p) :=
  cert_sum_univ (F := fun _ => ℂ) h

theorem isGMin_sum_toE_iff {φ : Fin n → ℝ → ℝ} {v p : Fin n → ℝ} :
    IsGMin Set.univ (fun x : EuclideanSpace ℝ (Fin n) => ∑ i, φ i (x i)) lam (toE v) (toE p) ↔
      ∀ i, IsGMin Set.univ (φ i) lam (v i) (p i) :=
  isGMin_sum_univ_iff (F := fun _ => ℝ)

theorem isGMin_sum_toCn_iff {φ : Fin n → ℂ → ℝ} {v p : Fin n → ℝ × ℝ} :
    IsGMin Set.univ (fun x : PiLp 2 (fun _ : Fin n => ℂ) => ∑ i, φ i (x i)) lam (toCn v) (toCn p) ↔
      ∀ i, IsGMin Set.univ (φ i) lam (toC (v i)) (toC (p i)) :=
  isGMin_sum_univ_iff (F := fun _ => ℂ)

end Sum

end Scico.ProxBridge
