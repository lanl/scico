/-
  Soundness of the two general classes.  The generic `LinearOperator` algebra (closures built by
  `LinearOperator.__add__`, `__mul__`, `__truediv__`, `ComposedLinearOperator`, `.T`, `.H`, `.conj()`, `.gram_op`) and
  the automatically created adjoint; `MatrixOperator` (constructor, views, arithmetic, `__call__` branches), a
  `LinearOperator` whose adjoint is created automatically, the `lin` leaf of the expressions, and the payloads of `ScaledIdentity` / `Identity` with what
  composing with an `Identity` does.  Every lemma about a construction of the model states `SoundD`: the matrix
  together with the sizes (`scaled_sound`, `mkLinAuto_sound`, which serve several constructions, state `Sound`).
-/
import Scico.Proofs.OpAlgSound

namespace Scico.OpAlg
open Scico.DType
attribute [local instance] starConj

section
variable {K : Type} [Field K] [StarRing K] [HasRe K]

theorem autoAdjWith_size (n m : Nat) (inC outC : Bool) (M : Mc K) (y : Vc K) :
    (autoAdjWith n m inC outC M y).size = n := by
  unfold autoAdjWith
  split
  · rfl
  · split <;> rfl

theorem rt_complex_left {a b : DT} (h : a.isComplex = true) : (resultType a b).isComplex = true := by
  revert h; cases a <;> cases b <;> decide

theorem rt_complex_right {a b : DT} (h : b.isComplex = true) : (resultType a b).isComplex = true := by
  revert h; cases a <;> cases b <;> decide

theorem rtS_complex {a : DT} (s : SK) (h : a.isComplex = true) : (resultTypeS a s).isComplex = true := by
  cases s with
  | strong d => exact rt_complex_left h
  | wInt => exact h
  | wFloat => exact h
  | wComplex => revert h; cases a <;> decide

theorem Mode.of {o : Obj K} (h : RealK K ∨ DtC o) : Mode o := h

omit [StarRing K] [HasRe K] in
theorem pm_zero (sub : Bool) : pm sub (0 : K) 0 = 0 := by cases sub <;> simp [pm]

theorem linAddSub_sound (sub : Bool) {a b : Obj K} {Da Db : Mx K}
    (ha : Sound a Da) (hb : Sound b Db) (hs : a.sameShape b = true) :
    SoundD (linAddSub sub a b) (fun i j => pm sub (Da i j) (Db i j)) a.m a.n := by
  have hn := sameShape_n hs
  have hm := sameShape_m hs
  refine ⟨?_, rfl, rfl⟩
  exact
  { lin := by simp [linAddSub]
    evSz := fun _ => rfl
    adSz := fun _ => rfl
    pl := trivial
    ev := Acts.zip sub ha.ev (hm ▸ hn ▸ hb.ev)
    ad := (Acts.zip sub ha.ad (hm ▸ hn ▸ hb.ad)).congr (fun i j _ _ => matH_pm sub Da Db i j)
    mode := by
      rcases Mode.both ha.mode hb.mode with h | ⟨h1, h2⟩
      · exact Or.inl h
      · exact Or.inr ⟨h1.inC, rt_complex_left h1.outC, h1.inC⟩ }

/-- a `LinearOperator` that scales the forward result by `k` (through `f`) and the cotangent by `star k`
    (through `g`): `__mul__` with `k = c`, `__truediv__` with `k = c⁻¹` -/
theorem scaled_sound {a : Obj K} {Da : Mx K} (ha : Sound a Da) (k : K) {f g : K → K}
    (hf : ∀ t, f t = k * t) (hg : ∀ t, g t = star k * t) (outDt : DT) (evDt adDt : DtFn)
    (hout : a.md.outDt.isComplex = true → outDt.isComplex = true) :
    Sound (mkLin .linop a.md.inShape a.md.outShape a.md.inDt outDt
      (fun x => vmap a.m f (a.eval x)) (fun y => a.adj (toOutSpace a (vmap a.m g y))) evDt adDt)
      (fun i j => k * Da i j) := by
  -- the cotangent is scaled first; `_to_output_space` takes no real part of a genuinely complex number
  have hco : Computes (fun y => toOutSpace a (vmap a.m g y)) a.m (fun v i => star k * v i) := fun y i => by
    unfold toOutSpace
    split
    · simp [hg]
    · rename_i hc
      have hR : RealK K := ha.mode.resolve_right (fun h => hc h.outC)
      by_cases hi : i < a.m <;> simp [hi, hg, (hR _).2]
  exact
  { lin := by simp
    evSz := fun _ => rfl
    adSz := fun y => ha.adSz _
    pl := trivial
    ev := (funext hf ▸ Acts.smul k ha.ev : Acts (fun x => vmap a.m f (a.eval x)) a.m a.n _)
    ad := by
      -- `Dᴴ · (k̄ y) = (k D)ᴴ · y`
      refine (Computes.comp (gf := mulVec a.m (matH Da)) ha.ad hco (readsOnly_mulVec _ _ _)).congr (fun v j _ => ?_)
      rw [mulVec_smul_right, ← mulVec_smul]
      exact mulVec_congr_left (D := fun i j => star k * matH Da i j) (E := matH fun i j => k * Da i j)
        (fun i _ => matH_smul k Da j i)
    mode := ha.mode.imp id (fun h => ⟨h.inC, hout h.outC, h.inC⟩) }

theorem linMul_sound {a o : Obj K} {Da : Mx K} (c : Scal K) (ha : Sound a Da)
    (h : linMul a c = .ok o) : SoundD o (fun i j => c.val * Da i j) a.m a.n := by
  obtain ⟨_, h⟩ := ite_ok_error h; cases h
  exact ⟨scaled_sound ha c.val (fun _ => rfl) (fun _ => rfl) _ _ _ (rtS_complex _), rfl, rfl⟩

theorem linDiv_sound {a o : Obj K} {Da : Mx K} (c : Scal K) (ha : Sound a Da)
    (h : linDiv a c = .ok o) : SoundD o (fun i j => Da i j / c.val) a.m a.n := by
  obtain ⟨_, h⟩ := ite_ok_error h; cases h
  have hD : (fun i j => Da i j / c.val) = fun i j => c.val⁻¹ * Da i j := by
    funext i j; exact div_eq_inv_mul ..
  rw [hD]
  exact ⟨scaled_sound ha c.val⁻¹ (fun t => div_eq_inv_mul ..)
    (fun t => by rw [conj_eq_star, star_inv₀, div_eq_inv_mul]) _ _ _ (rtS_complex _), rfl, rfl⟩

theorem linComp_sound {a b o : Obj K} {Da Db : Mx K} (ha : Sound a Da) (hb : Sound b Db)
    (h : linComp a b = .ok o) : SoundD o (matMul a.n Da Db) a.m b.n := by
  obtain ⟨hsh, h⟩ := ite_error_ok h
  obtain ⟨_, h⟩ := ite_error_ok h
  cases h
  have hk : a.n = b.m := conform_sizes (Decidable.not_not.mp hsh)
  refine ⟨?_, rfl, rfl⟩
  exact
  { lin := by simp
    evSz := fun x => ha.evSz _
    adSz := fun y => hb.adSz _
    pl := trivial
    ev := Acts.comp (f := a.eval) (g := b.eval) (k := a.n) ha.ev (by rw [hk]; exact hb.ev)
    ad := (Acts.comp (f := b.adj) (g := a.adj) (k := b.m) hb.ad (by rw [← hk]; exact ha.ad)).congr
      (fun i j _ _ => by rw [← hk]; exact matH_matMul a.n Da Db i j)
    mode := (Mode.both ha.mode hb.mode).imp id (fun h => ⟨h.2.inC, h.1.outC, h.2.inC⟩) }

theorem linH_sound {a : Obj K} {Da : Mx K} (ha : Sound a Da) : SoundD (linH a) (matH Da) a.n a.m :=
  ⟨
  { lin := by simp [linH]
    evSz := fun x => ha.adSz _
    adSz := fun y => ha.evSz _
    pl := trivial
    ev := ha.ad
    ad := Acts.congr ha.ev (fun i j _ _ => by simp [matH, conj_eq_star])
    mode := ha.mode.imp id (fun h => ⟨h.outC, h.inC, h.outC⟩) }, rfl, rfl⟩

theorem linConj_sound {a : Obj K} {Da : Mx K} (ha : Sound a Da) :
    SoundD (linConj a) (matConj Da) a.m a.n :=
  ⟨
  { lin := by simp [linConj]
    evSz := fun _ => rfl
    adSz := fun _ => rfl
    pl := trivial
    ev := Acts.conj ha.ev
    ad := Acts.conj ha.ad
    mode := ha.mode.imp id (fun h => ⟨h.inC, h.outC, h.inC⟩) }, rfl, rfl⟩

theorem linT_sound {a : Obj K} {Da : Mx K} (ha : Sound a Da) : SoundD (linT a) (matT Da) a.n a.m := by
  unfold linT
  split
  · refine ⟨?_, rfl, rfl⟩
    exact
    { lin := by simp
      evSz := fun _ => rfl
      adSz := fun _ => rfl
      pl := trivial
      ev := (Acts.conj ha.ad).congr (fun i j _ _ => by simp [matConj, matT, conj_eq_star])
      ad := Acts.conj ha.ev
      mode := ha.mode.imp id (fun h => ⟨h.outC, h.inC, h.outC⟩) }
  · rename_i hc
    -- a real input dtype: the scalars are real, transpose and conjugate transpose coincide
    have hR : RealK K := ha.mode.resolve_right (fun h => hc h.inC)
    refine ⟨?_, rfl, rfl⟩
    exact
    { lin := by simp
      evSz := fun x => ha.adSz _
      adSz := fun y => ha.evSz _
      pl := trivial
      ev := Acts.congr ha.ad (fun i j _ _ => by simp [matT, conj_eq_star, (hR _).1])
      ad := Acts.congr ha.ev (fun i j _ _ => by simp [matT, conj_eq_star, (hR _).1])
      mode := Or.inl hR }

omit [HasRe K] in
theorem gram_hermitian (m : Nat) (D : Mx K) (i j : Nat) :
    star (matMul m (matH D) D i j) = matMul m (matH D) D j i := by
  unfold matMul matH
  rw [star_sumTo]
  apply sumTo_congr; intro l _
  simp only [conj_eq_star, star_mul', star_star]
  ring

theorem linGram_sound (cfg : Cfg) {a : Obj K} {Da : Mx K} (ha : Sound a Da) :
    SoundD (linGram cfg a) (matMul a.m (matH Da) Da) a.n a.n := by
  have key : Acts (fun x => a.adj (a.eval x)) a.n a.n (matMul a.m (matH Da) Da) :=
    Acts.comp (f := a.adj) (g := a.eval) ha.ad ha.ev
  refine ⟨?_, rfl, rfl⟩
  exact
  { lin := by simp [linGram]
    evSz := fun x => ha.adSz _
    adSz := fun y => ha.adSz _
    pl := trivial
    ev := key
    ad := key.congr (fun i j _ _ => ((gram_hermitian a.m Da j i).symm : _ = matH _ i j))
    mode := by
      rcases ha.mode with h | h
      · exact Or.inl h
      · refine Or.inr ⟨h.inC, ?_, h.inC⟩
        simp only [linGram, mkLin]
        split
        · exact h.inC
        · exact h.outC }

/-! ### the automatically created adjoint (`_set_adjoint`, contract of `jax.linear_transpose`) -/

theorem autoMat_get (n m : Nat) (eval : Vc K → Vc K) (D : Mx K) (hev : Acts eval m n D)
    (i j : Nat) : (autoMat n m eval).get i j = if i < m ∧ j < n then D i j else 0 := by
  simp only [autoMat, truncM_get]
  by_cases h : i < m ∧ j < n
  · simp only [h, and_self, if_true]
    rw [hev]
    simp only [h.1, if_true, basisC]
    rw [mulVec_basis]; simp [h.2]
  · simp [h]

/-- the adjoint `_set_adjoint` derives from a closure that acts as `D` acts as `Dᴴ`, provided the primal dtype is
    complex or the scalars are real (otherwise JAX transposes without conjugating, or drops an imaginary part) -/
theorem autoAdj_acts (n m : Nat) (inDt : DT) (outC : Bool) (eval : Vc K → Vc K) (D : Mx K)
    (hev : Acts eval m n D) (hmode : RealK K ∨ inDt.isComplex = true) :
    Acts (autoAdjWith n m inDt.isComplex outC (autoMat n m eval)) n m (matH D) := by
  have hH : Acts (fun y => vmulVecH m n (autoMat n m eval) (vtrunc m y)) n m (matH D) :=
    Acts.vmulVecH (fun i j hi hj => by rw [autoMat_get n m eval D hev]; simp [hi, hj])
  cases hc : inDt.isComplex
  · have hR : RealK K := hmode.resolve_right (by rw [hc]; decide)
    cases outC
    · have hT : ∀ y : Vc K, vmulVecT m n (autoMat n m eval) (vtrunc m y)
          = vmulVecH m n (autoMat n m eval) (vtrunc m y) := fun y => by
        unfold vmulVecT vmulVecH mulVecT mulVecH
        simp [conj_eq_star, (hR _).1]
      exact fun y j => (congrArg (fun v : Vc K => v.get j) (hT y)).trans (hH y j)
    · exact (Computes.map re hH).congr (fun _ _ _ => (hR _).2)
  · exact hH

@[simp] theorem size_plain_single (n : Nat) : (Shape.plain [n]).size = n := by
  simp [Shape.size, prodL]

omit [HasRe K] in
@[simp] theorem mkMat_m (m n : Nat) (dt : DT) (A : Mx K) : (mkMat m n dt A).m = m := by
  simp [mkMat, Obj.m]
omit [HasRe K] in
@[simp] theorem mkMat_n (m n : Nat) (dt : DT) (A : Mx K) : (mkMat m n dt A).n = n := by
  simp [mkMat, Obj.n]

theorem mkMat_sound (m n : Nat) (dt : DT) (A D : Mx K)
    (hAD : ∀ i j, i < m → j < n → A i j = D i j) (hmode : RealK K ∨ dt.isComplex = true) :
    SoundD (mkMat m n dt A) D m n :=
  ⟨
  { lin := by simp [mkMat]
    evSz := fun x => by simp [mkMat, Obj.m, vmulVec, trunc]
    adSz := fun y => by simp [mkMat, Obj.n, vmulVecH, trunc]
    ev := by
      simp only [EvalIs, mkMat, Obj.m, Obj.n, size_plain_single]
      exact Acts.vmulVec (fun i j hi hj => by simp [hi, hj, hAD i j hi hj])
    ad := by
      simp only [AdjIs, mkMat, Obj.m, Obj.n, size_plain_single]
      exact Acts.vmulVecH (fun i j hi hj => by simp [hi, hj, hAD i j hi hj])
    pl := by
      show (∀ i j, (truncM m n A).get i j
            = if i < (mkMat m n dt A).m ∧ j < (mkMat m n dt A).n then D i j else 0)
          ∧ Shape.plain [n] = Shape.plain [(mkMat m n dt A).n]
          ∧ Shape.plain [m] = Shape.plain [(mkMat m n dt A).m]
          ∧ (mkMat m n dt A).evalDt = (fun dx => .ok (resultType dt dx))
      rw [mkMat_m, mkMat_n]
      refine ⟨?_, rfl, rfl, rfl⟩
      intro i j
      by_cases hij : i < m ∧ j < n
      · simp [hij, hAD i j hij.1 hij.2]
      · simp [hij]
    mode := hmode.imp id fun h => ⟨h, h, h⟩ }, mkMat_m .., mkMat_n ..⟩

theorem mat_payload {a : Obj K} {Da : Mx K} (ha : Sound a Da) (hc : a.md.cls = .matrix) :
    (∀ i j, i < a.m → j < a.n → a.mat.get i j = Da i j)
    ∧ a.md.inShape = .plain [a.n] ∧ a.md.outShape = .plain [a.m]
    ∧ a.evalDt = (fun dx => .ok (resultType a.md.inDt dx)) := by
  have h := ha.pl
  simp only [PayloadIs, hc] at h
  refine ⟨?_, h.2⟩
  intro i j hi hj
  rw [h.1 i j]; simp [hi, hj]

theorem Sound.modeIn {a : Obj K} {Da : Mx K} (ha : Sound a Da) : RealK K ∨ a.md.inDt.isComplex = true :=
  ha.mode.imp id (·.inC)

theorem matNeg_sound {a : Obj K} {Da : Mx K} (ha : Sound a Da) (hc : a.md.cls = .matrix) :
    SoundD (matNeg a) (fun i j => - Da i j) a.m a.n := by
  obtain ⟨hA, _⟩ := mat_payload ha hc
  exact mkMat_sound _ _ _ _ _ (fun i j hi hj => by rw [hA i j hi hj]) ha.modeIn

theorem matTop_sound {a : Obj K} {Da : Mx K} (ha : Sound a Da) (hc : a.md.cls = .matrix) :
    SoundD (matTop a) (matT Da) a.n a.m := by
  obtain ⟨hA, _⟩ := mat_payload ha hc
  exact mkMat_sound _ _ _ _ _ (fun i j hi hj => by simp only [matT]; rw [hA j i hj hi]) ha.modeIn

theorem matHop_sound {a : Obj K} {Da : Mx K} (ha : Sound a Da) (hc : a.md.cls = .matrix) :
    SoundD (matHop a) (matH Da) a.n a.m := by
  obtain ⟨hA, _⟩ := mat_payload ha hc
  exact mkMat_sound _ _ _ _ _ (fun i j hi hj => by simp only [matH]; rw [hA j i hj hi]) ha.modeIn

theorem matConjOp_sound {a : Obj K} {Da : Mx K} (ha : Sound a Da) (hc : a.md.cls = .matrix) :
    SoundD (matConjOp a) (matConj Da) a.m a.n := by
  obtain ⟨hA, _⟩ := mat_payload ha hc
  exact mkMat_sound _ _ _ _ _ (fun i j hi hj => by simp only [matConj]; rw [hA i j hi hj]) ha.modeIn

theorem matGram_sound {a : Obj K} {Da : Mx K} (ha : Sound a Da) (hc : a.md.cls = .matrix) :
    SoundD (matGram a) (matMul a.m (matH Da) Da) a.n a.n := by
  obtain ⟨hA, _⟩ := mat_payload ha hc
  refine mkMat_sound _ _ _ _ _ (fun i j hi hj => ?_) ha.modeIn
  unfold matMul matH
  apply sumTo_congr; intro l hl
  show conj (a.mat.get l i) * a.mat.get l j = conj (Da l i) * Da l j
  rw [hA l i hl hi, hA l j hl hj]

theorem rt_mode {a : Obj K} (ha : Mode a) (d : DT) :
    RealK K ∨ (resultType a.md.inDt d).isComplex = true :=
  ha.imp id fun h => rt_complex_left h.inC

theorem rtS_mode {a : Obj K} (ha : Mode a) (s : SK) :
    RealK K ∨ (resultTypeS a.md.inDt s).isComplex = true :=
  ha.imp id fun h => rtS_complex s h.inC

/-- sum / difference of two `MatrixOperator`s: of the arrays -/
theorem matSum_sound (sub : Bool) {a b : Obj K} {Da Db : Mx K} (ha : Sound a Da) (hb : Sound b Db)
    (hca : a.md.cls = .matrix) (hcb : b.md.cls = .matrix) (hs : a.sameShape b = true) :
    SoundD (rematrix a.m a.n (resultType a.md.inDt b.md.inDt) (fun i j => pm sub (a.mat i j) (b.mat i j)))
      (fun i j => pm sub (Da i j) (Db i j)) a.m a.n := by
  obtain ⟨hA, _⟩ := mat_payload ha hca
  obtain ⟨hB, _⟩ := mat_payload hb hcb
  refine mkMat_sound _ _ _ _ _ (fun i j hi hj => ?_) (rt_mode ha.mode _)
  rw [hA i j hi hj, hB i j (sameShape_m hs ▸ hi) (sameShape_n hs ▸ hj)]

theorem matMulS_sound {a o : Obj K} {Da : Mx K} (c : Scal K) (ha : Sound a Da)
    (hc : a.md.cls = .matrix) (h : matMulS a c = .ok o) : SoundD o (fun i j => c.val * Da i j) a.m a.n := by
  obtain ⟨hA, _⟩ := mat_payload ha hc
  exact matScal_ok h ▸ mkMat_sound _ _ _ _ _ (fun i j hi hj => by rw [hA i j hi hj]) (rtS_mode ha.mode _)

theorem matDivS_sound {a o : Obj K} {Da : Mx K} (c : Scal K) (ha : Sound a Da)
    (hc : a.md.cls = .matrix) (h : matDivS a c = .ok o) : SoundD o (fun i j => Da i j / c.val) a.m a.n := by
  obtain ⟨hA, _⟩ := mat_payload ha hc
  exact matScal_ok h ▸ mkMat_sound _ _ _ _ _ (fun i j hi hj => by rw [hA i j hi hj]) (rtS_mode ha.mode _)

theorem matRDivS_sound {a o : Obj K} {Da : Mx K} (c : Scal K) (ha : Sound a Da)
    (hc : a.md.cls = .matrix) (h : matRDivS a c = .ok o) :
    SoundD o (truncM a.m a.n (fun i j => c.val / Da i j)).get a.m a.n := by
  obtain ⟨hA, _⟩ := mat_payload ha hc
  exact matScal_ok h ▸ mkMat_sound _ _ _ _ _ (fun i j hi hj => by simp [hi, hj, hA i j hi hj]) (rtS_mode ha.mode _)

theorem matAddSubS_sound (sub rev : Bool) {a o : Obj K} {Da : Mx K} (c : Scal K) (ha : Sound a Da)
    (hc : a.md.cls = .matrix) (h : matAddSubS sub rev a c = .ok o) :
    SoundD o (truncM a.m a.n
      (fun i j => if rev then pm sub c.val (Da i j) else pm sub (Da i j) c.val)).get a.m a.n := by
  obtain ⟨hA, _⟩ := mat_payload ha hc
  exact matScal_ok h ▸ mkMat_sound _ _ _ _ _ (fun i j hi hj => by simp [hi, hj, hA i j hi hj]) (rtS_mode ha.mode _)

theorem matHadamard_sound (div : Bool) {a b o : Obj K} {Da Db : Mx K} (ha : Sound a Da)
    (hb : Sound b Db) (hc : a.md.cls = .matrix) (h : matHadamard div a b = .ok o) :
    SoundD o (fun i j => if div then Da i j / Db i j else Da i j * Db i j) a.m a.n := by
  obtain ⟨hcb, h⟩ := ite_ok_error h
  obtain ⟨hs, h⟩ := ite_ok_error h
  cases h
  obtain ⟨hA, _⟩ := mat_payload ha hc
  obtain ⟨hB, _⟩ := mat_payload hb hcb
  refine mkMat_sound _ _ _ _ _ (fun i j hi hj => ?_) (rt_mode ha.mode _)
  rw [hA i j hi hj, hB i j (sameShape_m hs ▸ hi) (sameShape_n hs ▸ hj)]

theorem mkLinAuto_sound (inSh outSh : Shape) (inDt outDt : DT) (eval : Vc K → Vc K) (evalDt : DtFn)
    (D : Mx K)
    (hev : Acts eval outSh.size inSh.size D) (hsz : ∀ x : Vc K, (eval x).size = outSh.size)
    (hmode : RealK K ∨ (inDt.isComplex = true ∧ outDt.isComplex = true)) :
    Sound (mkLinAuto inSh outSh inDt outDt eval evalDt) D :=
  { lin := by simp [mkLinAuto]
    evSz := hsz
    adSz := fun _ => autoAdjWith_size ..
    pl := trivial
    ev := hev
    ad := autoAdj_acts _ _ inDt _ eval D hev (hmode.imp id (fun h => h.1))
    mode := hmode.imp id fun h => ⟨h.1, h.2, h.1⟩ }

theorem sid_payload {a : Obj K} {Da : Mx K} (ha : Sound a Da)
    (hc : IsSidFam a.md.cls) :
    a.md.inShape = a.md.outShape
    ∧ ∀ i j, i < a.n → j < a.n → Da i j = if i = j then a.dat.get 0 else 0 := by
  have h := ha.pl
  rcases hc with hc | hc
  · simp only [PayloadIs, hc] at h; exact h
  · simp only [PayloadIs, hc] at h
    refine ⟨h.1, ?_⟩
    intro i j hi hj
    rw [h.2.2 i j hi hj, h.2.1]

theorem ident_payload {a : Obj K} {Da : Mx K} (ha : Sound a Da) (hc : a.md.cls = .ident) :
    a.md.inShape = a.md.outShape ∧ ∀ i j, i < a.n → j < a.n → Da i j = if i = j then 1 else 0 := by
  have h := ha.pl
  simp only [PayloadIs, hc] at h
  exact ⟨h.1, h.2.2⟩

omit [StarRing K] [HasRe K] in
theorem matMul_sid_right (k : Nat) (A B : Mx K) (c : K)
    (hB : ∀ i j, i < k → j < k → B i j = if i = j then c else 0) (i j : Nat) (hj : j < k) :
    matMul k A B i j = A i j * c := by
  unfold matMul
  have : ∀ l, l < k → A i l * B l j = if l = j then A i l * c else 0 := by
    intro l hl
    rw [hB l j hl hj]
    by_cases h : l = j <;> simp [h]
  rw [sumTo_congr this, sumTo_ite_eq]
  simp [hj]

theorem matMul_sid_left (k : Nat) (A B : Mx K) (c : K)
    (hA : ∀ i j, i < k → j < k → A i j = if i = j then c else 0) (i j : Nat) (hi : i < k) :
    matMul k A B i j = c * B i j := by
  unfold matMul
  rw [sumTo_congr (fun l hl => by rw [hA i l hi hl])]
  exact (mulVec_selMx k id (fun _ => c) (fun l => B l j) i).trans (if_pos hi)

theorem Sound.comp_ident {a b : Obj K} {Da Db : Mx K} (ha : Sound a Da) (hb : Sound b Db)
    (hid : b.md.cls = .ident) (hsh : a.md.inShape = b.md.outShape) :
    SoundD a (matMul a.n Da Db) a.m b.n := by
  obtain ⟨hio, hI⟩ := ident_payload hb hid
  have hn : a.n = b.n := by simp only [Obj.n, hsh, hio]
  refine ⟨ha.congr (fun i j _ hj => ?_), rfl, hn⟩
  rw [matMul_sid_right a.n Da Db 1 (fun i j hi hj => hI i j (hn ▸ hi) (hn ▸ hj)) i j hj]
  ring

theorem Sound.ident_comp {a b : Obj K} {Da Db : Mx K} (ha : Sound a Da) (hb : Sound b Db)
    (hid : a.md.cls = .ident) (hsh : a.md.inShape = b.md.outShape) :
    SoundD b (matMul a.n Da Db) a.m b.n := by
  obtain ⟨hio, hI⟩ := ident_payload ha hid
  have hk : a.n = b.m := conform_sizes hsh
  have hm : b.m = a.m := by simp only [Obj.m, ← hsh, hio]
  refine ⟨hb.congr (fun i j hi _ => ?_), hm, rfl⟩
  rw [matMul_sid_left a.n Da Db 1 hI i j (hk ▸ hi)]
  ring

/-- `MatrixOperator.__call__(MatrixOperator)`: product of the arrays -/
theorem matMat_sound {a b : Obj K} {Da Db : Mx K} (ha : Sound a Da) (hb : Sound b Db)
    (hca : a.md.cls = .matrix) (hcb : b.md.cls = .matrix) (hk : a.n = b.m) :
    SoundD (rematrix a.m b.n (resultType a.md.inDt b.md.inDt) (matMul a.n a.mat.get b.mat.get))
      (matMul a.n Da Db) a.m b.n := by
  obtain ⟨hA, _⟩ := mat_payload ha hca
  obtain ⟨hB, _⟩ := mat_payload hb hcb
  refine mkMat_sound _ _ _ _ _ (fun i j hi hj => ?_) (rt_mode ha.mode _)
  unfold matMul
  apply sumTo_congr; intro l hl
  rw [hA i l hi hl, hB l j (hk ▸ hl) hj]

/-- `MatrixOperator.__call__(LinearOperator)`: closure composition, adjoint by transposition -/
theorem matLin_sound {a b : Obj K} {Da Db : Mx K} {outDt : DT} (ha : Sound a Da) (hb : Sound b Db)
    (hca : a.md.cls = .matrix) (hk : a.n = b.m)
    (hev : (do let d ← b.evalDt b.md.inDt; a.evalDt d) = .ok outDt) :
    SoundD (mkLinAuto b.md.inShape a.md.outShape b.md.inDt outDt (fun v => a.eval (b.eval v))
        (fun dx => do let d ← b.evalDt dx; a.evalDt d))
      (matMul a.n Da Db) a.m b.n := by
  obtain ⟨_, _, _, hAdt⟩ := mat_payload ha hca
  refine ⟨mkLinAuto_sound _ _ _ _ _ _ _ (Acts.comp (f := a.eval) (g := b.eval) (k := a.n) ha.ev (hk ▸ hb.ev)) (fun v => ha.evSz _) ?_,
    rfl, rfl⟩
  refine (Mode.both ha.mode hb.mode).imp id (fun hm => ⟨hm.2.inC, ?_⟩)
  -- the inferred output dtype is `result_type(A.dtype, ·)`: complex
  obtain ⟨d, _, hev⟩ := bind_eq_ok.1 hev
  rw [hAdt] at hev
  exact Except.ok.inj hev ▸ rt_complex_left hm.1.inC

theorem mkLinLeaf_sound (inSh outSh : Shape) (inDt gDt : DT) (hasAdj : Bool) (G : Mx K)
    (hmode : RealK K ∨ inDt.isComplex = true) :
    SoundD (mkLinLeaf inSh outSh inDt gDt hasAdj G) (truncM outSh.size inSh.size G).get
      outSh.size inSh.size := by
  have hev : Acts (fun x => vmulVec outSh.size inSh.size (truncM outSh.size inSh.size G) (vtrunc inSh.size x))
      outSh.size inSh.size (truncM outSh.size inSh.size G).get := Acts.vmulVec (fun _ _ _ _ => rfl)
  have hmode' : RealK K ∨ (inDt.isComplex = true ∧ (resultType gDt inDt).isComplex = true) :=
    hmode.imp id (fun h => ⟨h, rt_complex_right h⟩)
  unfold mkLinLeaf
  by_cases hA : hasAdj = true
  · simp only [hA, if_true]
    have hH : Acts (fun y => vmulVecH outSh.size inSh.size (truncM outSh.size inSh.size G) (vtrunc outSh.size y))
        inSh.size outSh.size (matH (truncM outSh.size inSh.size G).get) := Acts.vmulVecH (fun _ _ _ _ => rfl)
    refine ⟨?_, rfl, rfl⟩
    exact
    { lin := by simp
      evSz := fun _ => rfl
      adSz := fun y => by simp only [mkLin_adj, mkLin_n]; split <;> rfl
      pl := trivial
      ev := hev
      ad := by
        -- the hand-written `adj_fn` takes the real part when the input dtype is real: then the scalars are real
        cases hc : inDt.isComplex
        · have hR : RealK K := hmode.resolve_right (by rw [hc]; decide)
          exact (Computes.map re hH).congr (fun _ _ _ => (hR _).2)
        · exact hH
      mode := hmode'.imp id fun h => ⟨h.1, h.2, h.1⟩ }
  · simp only [hA, Bool.false_eq_true, if_false]
    exact ⟨mkLinAuto_sound _ _ _ _ _ _ _ hev (fun x => rfl) hmode', rfl, rfl⟩

end
end Scico.OpAlg
