/-
  The convolution theorem in one dimension: the DFT-domain evaluation of `CircularConvolve._eval` is the signal-domain
  circular convolution — for a filter with an integer centre, and for any spectrum; the centre-shift phases of
  `CircularConvolve.__init__`.
-/
import Scico.Proofs.LinOpsCirc
import Scico.Proofs.LinOpsDFT

namespace Scico.LinOps
open Finset

section FFT
variable {K : Type} [Field K]

/-- the character of a cyclic difference is the quotient of the characters: the identity both convolution theorems turn on -/
theorem root_shift {ζ : K} {n : Nat} (hζ : IsPrimitiveRoot ζ n) (hn : 0 < n) (i j f : Nat) (hi : i < n) :
    ζ⁻¹ ^ ((j + n - i) % n * f) = ζ ^ (i * f) * ζ⁻¹ ^ (j * f) := by
  have hζ0 : ζ ≠ 0 := hζ.ne_zero (by omega)
  rw [pow_mul, ← pow_mod_root hζ.inv, ← pow_mul]
  have e : (j + n - i) * f + i * f = j * f + n * f := by
    rw [← Nat.add_mul, ← Nat.add_mul]; congr 1; omega
  have h1 : ζ⁻¹ ^ ((j + n - i) * f) * ζ⁻¹ ^ (i * f) = ζ⁻¹ ^ (j * f) := by
    rw [← pow_add, e, pow_add, pow_mul ζ⁻¹ n f, inv_pow ζ n, hζ.pow_eq_one, inv_one, one_pow, mul_one]
  rw [(eq_mul_inv_iff_mul_eq₀ (pow_ne_zero _ (inv_ne_zero hζ0))).mpr h1, inv_pow ζ (i * f), inv_inv, mul_comm]

theorem circ_fft_eq {ζ : K} {n : Nat} (hζ : IsPrimitiveRoot ζ n) (hn : 0 < n) (hnK : (n : K) ≠ 0)
    (h : V K) (k c : Nat) (hk : k ≤ n) (x : V K) (j : Nat) :
    dftInvCropEval ζ⁻¹ (1 / (n : K)) n
        (fun f => dftEval ζ 1 n n (padTo h k) f * ζ⁻¹ ^ (c * f) * dftEval ζ 1 n n x f) j
      = circEval h k n c x j := by
  unfold circEval
  rw [sumTo_padTo h k n hk (fun m => x ((j + c + n - m) % n))]
  unfold dftInvCropEval dftEval
  simp only [sumTo_eq_sum, npow_eq_pow, one_mul]
  -- tap `a` contributes the character `ζ^(a f) ζ⁻¹^((j + c) f)`, i.e. `ζ⁻¹` to the power `((j + c − a) mod n) f`
  have e : ∀ f ∈ range n,
      ((∑ a ∈ range n, (if a < n then padTo h k a else 0) * ζ ^ (a * f)) * ζ⁻¹ ^ (c * f)
        * ∑ b ∈ range n, (if b < n then x b else 0) * ζ ^ (b * f)) * ζ⁻¹ ^ (j * f)
      = ∑ a ∈ range n, ∑ b ∈ range n, padTo h k a * x b * (ζ ^ (b * f) * ζ⁻¹ ^ ((j + c + n - a) % n * f)) := by
    intro f _
    rw [sum_mul, sum_mul, sum_mul]
    refine sum_congr rfl (fun a ha => ?_)
    rw [mul_sum, sum_mul]
    refine sum_congr rfl (fun b hb => ?_)
    simp only [mem_range.mp ha, mem_range.mp hb, if_true]
    rw [root_shift hζ hn a (j + c) f (mem_range.mp ha), Nat.add_mul j c, pow_add]
    ring
  rw [sum_congr rfl e, sum_comm]
  have e2 : ∀ a ∈ range n,
      ∑ f ∈ range n, ∑ b ∈ range n, padTo h k a * x b * (ζ ^ (b * f) * ζ⁻¹ ^ ((j + c + n - a) % n * f))
      = (n : K) * (padTo h k a * x ((j + c + n - a) % n)) := fun a _ => by
    rw [root_sum_select hζ hn (fun b => padTo h k a * x b), Nat.mod_mod]
  rw [sum_congr rfl e2, ← mul_sum, ← mul_assoc, one_div_mul_cancel hnK, one_mul]

theorem circSpec_eq {ζ : K} {n : Nat} (hζ : IsPrimitiveRoot ζ n) (hn : 0 < n) (s : K) (H x : V K) (j : Nat) :
    circSpecEval ζ ζ⁻¹ s n H x j = mulVec (circMatrix (dftInvCropEval ζ⁻¹ s n H) n n 0) n x j := by
  unfold circSpecEval mulVec circMatrix padTo dftInvCropEval dftEval
  simp only [sumTo_eq_sum, npow_eq_pow, one_mul, Nat.add_zero]
  have e1 : ∀ f ∈ range n, (H f * ∑ i ∈ range n, (if i < n then x i else 0) * ζ ^ (i * f)) * ζ⁻¹ ^ (j * f)
      = ∑ i ∈ range n, H f * (ζ ^ (i * f) * ζ⁻¹ ^ (j * f)) * x i := by
    intro f _
    rw [mul_sum, sum_mul]
    refine sum_congr rfl (fun i hi => ?_)
    simp only [mem_range.mp hi, if_true]; ring
  rw [sum_congr rfl e1, sum_comm, mul_sum]
  refine sum_congr rfl (fun i hi => ?_)
  have hi' := mem_range.mp hi
  rw [if_pos (Nat.mod_lt _ hn), mul_assoc s, sum_mul]
  congr 1
  refine sum_congr rfl (fun f _ => ?_)
  rw [root_shift hζ hn i j f hi']

end FFT

section Phase
variable {K : Type} [Field K] {Q : Type} [Field Q] [CharZero Q]

/-- the contract on `E t = exp(2πi t)` and `C t = cos(2π t)` used below -/
structure ExpContract (E C : Q → K) : Prop where
  add : ∀ a b, E (a + b) = E a * E b
  one : E 1 = 1
  cos : ∀ t, C t = (E t + E (-t)) / 2
  two_ne : (2 : K) ≠ 0

namespace ExpContract
variable {E C : Q → K} (h : ExpContract E C)
include h

omit [CharZero Q] in
theorem zero : E 0 = 1 := by
  have h1 : E 1 * E 0 = E 1 * 1 := by rw [← h.add, add_zero, mul_one]
  rw [h.one] at h1; simpa using h1

set_option linter.unusedSectionVars false in
theorem ne_zero (t : Q) : E t ≠ 0 := by
  intro h0
  have : E (t + -t) = E t * E (-t) := h.add _ _
  rw [add_neg_cancel, h.zero, h0, zero_mul] at this
  exact one_ne_zero this

section
omit [CharZero Q]

theorem neg (t : Q) : E (-t) = (E t)⁻¹ := by
  have : E (t + -t) = E t * E (-t) := h.add _ _
  rw [add_neg_cancel, h.zero] at this
  exact eq_inv_of_mul_eq_one_right this.symm

theorem nsmul (m : Nat) (t : Q) : E (m * t) = E t ^ m := by
  induction m with
  | zero => simp [h.zero]
  | succ m ih => rw [Nat.cast_succ, add_mul, one_mul, h.add, ih, pow_succ]

theorem zsmul (z : Int) (t : Q) : E (z * t) = E t ^ z := by
  cases z with
  | ofNat m => simpa using h.nsmul m t
  | negSucc m =>
    have e : ((Int.negSucc m : Int) : Q) * t = -(((m + 1 : Nat) : Q) * t) := by push_cast; ring
    rw [e, h.neg, h.nsmul, zpow_negSucc]

theorem int (z : Int) : E (z : Q) = 1 := by
  have := h.zsmul z 1
  rwa [mul_one, h.one, one_zpow] at this

end

/-- `ζ = E(−1/s) = exp(−2πi/s)` satisfies `ζ^s = 1` -/
theorem root_pow (s : Nat) (hs : 0 < s) : E (-(1 / (s : Q))) ^ s = 1 := by
  have hsQ : (s : Q) ≠ 0 := Nat.cast_ne_zero.mpr (by omega)
  rw [← h.nsmul, mul_neg, mul_one_div_cancel hsQ, h.neg, h.one, inv_one]

end ExpContract

theorem shiftPhase_int {E C : Q → K} (h : ExpContract E C) (c : Int) (s f : Nat) (hs : 0 < s) (hf : f < s) :
    shiftPhase E C (fun m => (m : Q)) (-(c : Q)) s f = E (-(1 / (s : Q))) ^ (-(c * f)) := by
  have hsQ : (s : Q) ≠ 0 := Nat.cast_ne_zero.mpr (by omega)
  have key : E (-(1 / (s : Q))) ^ (-(c * f)) = E ((c : Q) * f / s) := by
    rw [← h.zsmul]; congr 1; push_cast; ring
  rw [key]
  simp only [shiftPhase, Nat.cast_ofNat]
  split
  · congr 1; ring
  · split
    · rename_i h1 h2
      -- Nyquist bin: `cos(π c) = (E(c/2) + E(−c/2))/2` and `E(−c/2) = E(c/2) · E(−c) = E(c/2)`
      have hfQ : (f : Q) ≠ 0 := Nat.cast_ne_zero.mpr (by omega)
      have e1 : (c : Q) * f / s = c / 2 := by
        rw [show (s : Q) = 2 * f by exact_mod_cast h2.symm, mul_div_mul_right _ _ hfQ]
      have e3 : E (-(c : Q) / 2) = E ((c : Q) / 2) := by
        rw [show -(c : Q) / 2 = c / 2 + -c by ring, h.add, h.neg, h.int, inv_one, mul_one]
      rw [h.cos, e1, ← neg_div, neg_neg, e3, ← two_mul, mul_div_cancel_left₀ _ h.two_ne]
    · rename_i h1 h2
      rw [Nat.cast_sub hf.le, neg_mul, mul_sub, neg_sub, sub_div, mul_div_cancel_right₀ _ hsQ, sub_eq_add_neg,
        h.add, h.neg, h.int, inv_one, mul_one]

/-- for a centre `c ≥ 0` the constructor's phase is `ζ⁻¹^(c f)`, the one used in `C04_circ_fft` -/
theorem shiftPhase_nat {E C : Q → K} (h : ExpContract E C) (c s f : Nat) (hs : 0 < s) (hf : f < s) :
    shiftPhase E C (fun m => (m : Q)) (-(c : Q)) s f = (E (-(1 / (s : Q))))⁻¹ ^ (c * f) := by
  have := shiftPhase_int h (c : Int) s f hs hf
  rw [Int.cast_natCast] at this
  rw [this, ← Nat.cast_mul, zpow_neg, zpow_natCast, inv_pow]

/-- an integer centre acts through its residue modulo the axis length (the natural-number centre of `circEval` /
    `C04_circ_fft`) -/
theorem root_zpow_mod {ζ : K} {s : Nat} (hζ : ζ ^ s = 1) (hs : 0 < s) (c : Int) (f : Nat) :
    ζ ^ (-(c * f)) = ζ⁻¹ ^ ((c % s).toNat * f) := by
  have hζ0 : ζ ≠ 0 := by
    intro h0; rw [h0, zero_pow (by omega)] at hζ; exact zero_ne_one hζ
  have hm : 0 ≤ c % (s : Int) := Int.emod_nonneg _ (by exact_mod_cast (by omega : s ≠ 0))
  have e : -(c * f) = -((s : Int) * (c / s * f)) + -(((c % s).toNat : Int) * f) := by
    rw [Int.toNat_of_nonneg hm]
    have := Int.mul_ediv_add_emod c s
    calc -(c * f) = -((s * (c / s) + c % s) * f) := by rw [this]
      _ = _ := by ring
  rw [e, zpow_add₀ hζ0, zpow_neg, zpow_mul, zpow_natCast, hζ, one_zpow, inv_one, one_mul, zpow_neg,
    ← Int.natCast_mul, zpow_natCast, inv_pow]

end Phase

end Scico.LinOps
