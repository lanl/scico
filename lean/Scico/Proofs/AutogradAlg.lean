/-
  Algebraic layer for C07: `Cx K` is a commutative ring, sums, conjugation, the transposition identity
  for dense matrices, bilinearity of the two pairings `Re⟪·,·⟫` and `Re Σ aᵢbᵢ`, block arrays;
  `Cx ℝ` is Mathlib's `ℂ`.
-/
import Scico.Model.Autograd
import Scico.Proofs.Sums
import Mathlib.Algebra.BigOperators.Ring.Finset
import Mathlib.Tactic.Ring
import Mathlib.Tactic.Linarith
import Mathlib.Tactic.FieldSimp
import Mathlib.Data.Complex.BigOperators

namespace Scico.Autograd

namespace Cx
variable {K : Type}

theorem ext' {a b : Cx K} (h1 : a.re = b.re) (h2 : a.im = b.im) : a = b := by
  cases a; cases b; simp_all

@[simp] theorem zero_re [Zero K] : (0 : Cx K).re = 0 := rfl
@[simp] theorem zero_im [Zero K] : (0 : Cx K).im = 0 := rfl
@[simp] theorem one_re [Zero K] [One K] : (1 : Cx K).re = 1 := rfl
@[simp] theorem one_im [Zero K] [One K] : (1 : Cx K).im = 0 := rfl
@[simp] theorem add_re [Add K] (a b : Cx K) : (a + b).re = a.re + b.re := rfl
@[simp] theorem add_im [Add K] (a b : Cx K) : (a + b).im = a.im + b.im := rfl
@[simp] theorem sub_re [Sub K] (a b : Cx K) : (a - b).re = a.re - b.re := rfl
@[simp] theorem sub_im [Sub K] (a b : Cx K) : (a - b).im = a.im - b.im := rfl
@[simp] theorem neg_re [Neg K] (a : Cx K) : (-a).re = -a.re := rfl
@[simp] theorem neg_im [Neg K] (a : Cx K) : (-a).im = -a.im := rfl
@[simp] theorem mul_re [Add K] [Sub K] [Mul K] (a b : Cx K) : (a * b).re = a.re * b.re - a.im * b.im := rfl
@[simp] theorem mul_im [Add K] [Sub K] [Mul K] (a b : Cx K) : (a * b).im = a.re * b.im + a.im * b.re := rfl
@[simp] theorem conj_re [Neg K] (a : Cx K) : a.conj.re = a.re := rfl
@[simp] theorem conj_im [Neg K] (a : Cx K) : a.conj.im = -a.im := rfl
@[simp] theorem smul_re [Mul K] (t : K) (a : Cx K) : (smul t a).re = t * a.re := rfl
@[simp] theorem smul_im [Mul K] (t : K) (a : Cx K) : (smul t a).im = t * a.im := rfl
@[simp] theorem divr_re [Div K] (t : K) (a : Cx K) : (divr a t).re = a.re / t := rfl
@[simp] theorem divr_im [Div K] (t : K) (a : Cx K) : (divr a t).im = a.im / t := rfl
@[simp] theorem ofReal_re [Zero K] (t : K) : (ofReal t).re = t := rfl
@[simp] theorem ofReal_im [Zero K] (t : K) : (ofReal t).im = 0 := rfl
@[simp] theorem mk_re (a b : K) : (Cx.mk a b).re = a := rfl
@[simp] theorem mk_im (a b : K) : (Cx.mk a b).im = b := rfl

instance instCommRing [CommRing K] : CommRing (Cx K) where
  add := (· + ·)
  zero := 0
  neg := Neg.neg
  sub := (· - ·)
  mul := (· * ·)
  one := 1
  nsmul := nsmulRec
  zsmul := zsmulRec
  add_assoc a b c := ext' (add_assoc _ _ _) (add_assoc _ _ _)
  zero_add a := ext' (zero_add _) (zero_add _)
  add_zero a := ext' (add_zero _) (add_zero _)
  add_comm a b := ext' (add_comm _ _) (add_comm _ _)
  neg_add_cancel a := ext' (neg_add_cancel _) (neg_add_cancel _)
  sub_eq_add_neg a b := ext' (sub_eq_add_neg _ _) (sub_eq_add_neg _ _)
  mul_assoc a b c := by apply ext' <;> simp only [mul_re, mul_im] <;> ring
  one_mul a := by apply ext' <;> simp only [mul_re, mul_im, one_re, one_im] <;> ring
  mul_one a := by apply ext' <;> simp only [mul_re, mul_im, one_re, one_im] <;> ring
  left_distrib a b c := by apply ext' <;> simp only [mul_re, mul_im, add_re, add_im] <;> ring
  right_distrib a b c := by apply ext' <;> simp only [mul_re, mul_im, add_re, add_im] <;> ring
  mul_comm a b := by apply ext' <;> simp only [mul_re, mul_im] <;> ring
  zero_mul a := by apply ext' <;> simp only [mul_re, mul_im, zero_re, zero_im] <;> ring
  mul_zero a := by apply ext' <;> simp only [mul_re, mul_im, zero_re, zero_im] <;> ring

section ring
variable [CommRing K]

def conjHom : Cx K →+* Cx K where
  toFun := Cx.conj
  map_zero' := ext' rfl neg_zero
  map_one' := ext' rfl neg_zero
  map_add' a b := ext' rfl (neg_add _ _)
  map_mul' a b := by apply ext' <;> simp only [mul_re, mul_im, conj_re, conj_im] <;> ring

theorem re_sum {ι : Type} (s : Finset ι) (f : ι → Cx K) : (∑ i ∈ s, f i).re = ∑ i ∈ s, (f i).re :=
  map_sum (⟨⟨Cx.re, rfl⟩, fun _ _ => rfl⟩ : Cx K →+ K) f s
theorem im_sum {ι : Type} (s : Finset ι) (f : ι → Cx K) : (∑ i ∈ s, f i).im = ∑ i ∈ s, (f i).im :=
  map_sum (⟨⟨Cx.im, rfl⟩, fun _ _ => rfl⟩ : Cx K →+ K) f s
theorem conj_sum {ι : Type} (s : Finset ι) (f : ι → Cx K) :
    (∑ i ∈ s, f i).conj = ∑ i ∈ s, (f i).conj := map_sum conjHom.toAddMonoidHom f s
theorem conj_mul (a b : Cx K) : (a * b).conj = a.conj * b.conj := map_mul conjHom a b
theorem conj_add (a b : Cx K) : (a + b).conj = a.conj + b.conj := map_add conjHom a b
theorem conj_sub (a b : Cx K) : (a - b).conj = a.conj - b.conj := ext' rfl (neg_sub' _ _)
@[simp] theorem conj_conj (a : Cx K) : a.conj.conj = a := by
  apply ext'
  all_goals simp
theorem smul_eq (t : K) (a : Cx K) : smul t a = ofReal t * a := by apply ext' <;> simp
theorem conj_smul (t : K) (a : Cx K) : (smul t a).conj = smul t a.conj := by apply ext' <;> simp
theorem conj_ofReal (t : K) : (ofReal t).conj = ofReal t := by apply ext' <;> simp
theorem conj_divr {F : Type} [Field F] (a : Cx F) (t : F) : (divr a t).conj = divr a.conj t :=
  ext' rfl (neg_div _ _).symm
theorem conj_mul_re (a b : Cx K) : (a.conj * b).re = a.re * b.re + a.im * b.im := by simp
theorem abs2_eq (a : Cx K) : abs2 a = (a.conj * a).re := by simp [abs2]
theorem abs2_sub_comm (a b : Cx K) : abs2 (a - b) = abs2 (b - a) := by
  simp only [abs2, sub_re, sub_im]; ring
theorem abs2_add (a e : Cx K) : abs2 (a + e) = abs2 a + 2 * (a.re * e.re + a.im * e.im) + abs2 e := by
  simp only [abs2, add_re, add_im]; ring

end ring
end Cx

section alg
variable {K : Type} [CommRing K] {n m k : Nat}

theorem two_eq : (two : K) = 2 := one_add_one_eq_two

theorem bdot_eq (a b : CVec K n) : bdot a b = ∑ i, a i * b i := Vec.sum_eq _
theorem cinner_eq (g d : CVec K n) : cinner g d = ∑ i, (g i).conj * d i := Vec.sum_eq _
theorem mulVec_eq (A : Mat K m n) (x : CVec K n) (i : Fin m) : mulVec A x i = ∑ j, A i j * x j :=
  Vec.sum_eq _
theorem reInner_eq (g d : CVec K n) : reInner g d = ∑ i, ((g i).re * (d i).re + (g i).im * (d i).im) := by
  unfold reInner
  rw [cinner_eq, Cx.re_sum]
  exact Finset.sum_congr rfl (fun i _ => Cx.conj_mul_re _ _)
theorem reBdot_eq (g d : CVec K n) : reBdot g d = ∑ i, ((g i).re * (d i).re - (g i).im * (d i).im) := by
  unfold reBdot
  rw [bdot_eq, Cx.re_sum]
  exact Finset.sum_congr rfl (fun i _ => Cx.mul_re _ _)
theorem sumAbs2_eq (x : CVec K n) : sumAbs2 x = ∑ i, Cx.abs2 (x i) := Vec.sum_eq _

theorem sumAbs2_eq_reInner (v : CVec K n) : sumAbs2 v = reInner v v := by
  rw [sumAbs2_eq, reInner_eq]; rfl

theorem cinner_conjVec_left (v d : CVec K n) : cinner v d = bdot (conjVec v) d := by
  rw [cinner_eq, bdot_eq]
  exact Finset.sum_congr rfl (fun i _ => by simp [conjVec])

theorem bdot_comm (a b : CVec K n) : bdot a b = bdot b a := by
  rw [bdot_eq, bdot_eq]; exact Finset.sum_congr rfl (fun i _ => mul_comm _ _)

theorem conj_bdot (a b : CVec K n) : (bdot a b).conj = bdot (conjVec a) (conjVec b) := by
  rw [bdot_eq, bdot_eq, Cx.conj_sum]
  exact Finset.sum_congr rfl (fun i _ => Cx.conj_mul _ _)

theorem conjVec_conjVec (v : CVec K n) : conjVec (conjVec v) = v := by
  funext i; simp [conjVec]

theorem conj_cinner (a b : CVec K n) : (cinner a b).conj = cinner b a := by
  rw [cinner_conjVec_left, conj_bdot, conjVec_conjVec, bdot_comm, ← cinner_conjVec_left]

theorem reInner_comm (a b : CVec K n) : reInner a b = reInner b a := by
  rw [reInner_eq, reInner_eq]; exact Finset.sum_congr rfl (fun i _ => by ring)

theorem bdot_transpose (A : Mat K m n) (c : CVec K m) (d : CVec K n) :
    bdot (mulVec (transpose A) c) d = bdot c (mulVec A d) := by
  rw [bdot_eq, bdot_eq]
  simp only [mulVec_eq, transpose, Finset.sum_mul, Finset.mul_sum]
  rw [Finset.sum_comm]
  exact Finset.sum_congr rfl (fun i _ => Finset.sum_congr rfl (fun j _ => by ring))

theorem conjVec_mulVec (A : Mat K m n) (x : CVec K n) :
    conjVec (mulVec A x) = mulVec (conjMat A) (conjVec x) := by
  funext i
  simp only [conjVec, mulVec_eq, conjMat, Cx.conj_sum, Cx.conj_mul]

theorem mulVec_add (A : Mat K m n) (x d : CVec K n) :
    mulVec A (vadd x d) = vadd (mulVec A x) (mulVec A d) := by
  funext i
  simp only [vadd, mulVec_eq, mul_add, Finset.sum_add_distrib]

theorem mulVec_vsmul (A : Mat K m n) (t : K) (d : CVec K n) :
    mulVec A (vsmul t d) = vsmul t (mulVec A d) := by
  funext i
  simp only [vsmul, mulVec_eq, Cx.smul_eq, Finset.mul_sum]
  exact Finset.sum_congr rfl (fun j _ => by ring)

theorem mulVec_along (A : Mat K m n) (x d : CVec K n) (t : K) :
    mulVec A (along x d t) = along (mulVec A x) (mulVec A d) t := by
  have h1 : along x d t = vadd x (vsmul t d) := rfl
  have h2 : along (mulVec A x) (mulVec A d) t = vadd (mulVec A x) (vsmul t (mulVec A d)) := rfl
  rw [h1, h2, mulVec_add, mulVec_vsmul]

theorem along_zero_dir (x : CVec K n) (t : K) : along x (fun _ => 0) t = x :=
  funext fun i => Cx.ext' (by simp only [along, Cx.add_re, Cx.smul_re, Cx.zero_re, mul_zero, add_zero])
    (by simp only [along, Cx.add_im, Cx.smul_im, Cx.zero_im, mul_zero, add_zero])

theorem mulVec_matMul (A : Mat K m k) (B : Mat K k n) (x : CVec K n) :
    mulVec (matMul A B) x = mulVec A (mulVec B x) := by
  funext i
  simp only [mulVec_eq, matMul, Vec.sum_eq, Finset.sum_mul, Finset.mul_sum]
  rw [Finset.sum_comm]
  exact Finset.sum_congr rfl (fun j _ => Finset.sum_congr rfl (fun l _ => by ring))

theorem vsub_zero (v : CVec K n) : vsub v 0 = v := funext fun _ => sub_zero _

theorem vsmul_one (v : CVec K n) : vsmul 1 v = v := funext fun _ => Cx.ext' (one_mul _) (one_mul _)

theorem vsmul_vsmul (a b : K) (v : CVec K n) : vsmul a (vsmul b v) = vsmul (a * b) v :=
  funext fun _ => Cx.ext' (mul_assoc _ _ _).symm (mul_assoc _ _ _).symm

theorem mulVec_rowScale (w : Vec K m) (A : Mat K m n) (x : CVec K n) :
    mulVec (rowScale w A) x = fun i => Cx.smul (w i) (mulVec A x i) := by
  funext i
  simp only [mulVec_eq, rowScale, Cx.smul_eq, Finset.mul_sum]
  exact Finset.sum_congr rfl fun j _ => mul_assoc _ _ _

theorem reBdot_vsmul_left (t : K) (g d : CVec K n) : reBdot (vsmul t g) d = t * reBdot g d := by
  rw [reBdot_eq, reBdot_eq, Finset.mul_sum]
  exact Finset.sum_congr rfl (fun i _ => by simp only [vsmul, Cx.smul_re, Cx.smul_im]; ring)

theorem reBdot_vadd_left (g h d : CVec K n) : reBdot (vadd g h) d = reBdot g d + reBdot h d := by
  rw [reBdot_eq, reBdot_eq, reBdot_eq, ← Finset.sum_add_distrib]
  exact Finset.sum_congr rfl (fun i _ => by simp only [vadd, Cx.add_re, Cx.add_im]; ring)

theorem reBdot_vsub (a b d : CVec K n) : reBdot (vsub a b) d = reBdot a d - reBdot b d := by
  rw [reBdot_eq, reBdot_eq, reBdot_eq, ← Finset.sum_sub_distrib]
  exact Finset.sum_congr rfl (fun i _ => by simp only [vsub, Cx.sub_re, Cx.sub_im]; ring)

theorem reInner_conjVec (jg d : CVec K n) : reInner (conjVec jg) d = reBdot jg d := by
  unfold reInner reBdot; rw [cinner_conjVec_left, conjVec_conjVec]

theorem reInner_eq_reBdot_conj (v z : CVec K n) : reInner v z = reBdot (conjVec v) z := by
  rw [← reInner_conjVec, conjVec_conjVec]

theorem conjVec_vsmul (s : K) (v : CVec K n) : conjVec (vsmul s v) = vsmul s (conjVec v) :=
  funext fun _ => Cx.conj_smul _ _

theorem conjVec_vadd (u v : CVec K n) : conjVec (vadd u v) = vadd (conjVec u) (conjVec v) :=
  funext fun _ => Cx.conj_add _ _

theorem conjVec_vsub (u v : CVec K n) : conjVec (vsub u v) = vsub (conjVec u) (conjVec v) :=
  funext fun _ => Cx.conj_sub _ _

theorem reInner_vsmul_left (t : K) (g d : CVec K n) : reInner (vsmul t g) d = t * reInner g d := by
  rw [reInner_eq_reBdot_conj, conjVec_vsmul, reBdot_vsmul_left, ← reInner_eq_reBdot_conj]

theorem reInner_vadd_left (g h d : CVec K n) : reInner (vadd g h) d = reInner g d + reInner h d := by
  rw [reInner_eq_reBdot_conj, conjVec_vadd, reBdot_vadd_left, ← reInner_eq_reBdot_conj, ← reInner_eq_reBdot_conj]

theorem reInner_vsub_left (a b c : CVec K n) : reInner (vsub a b) c = reInner a c - reInner b c := by
  rw [reInner_eq_reBdot_conj, conjVec_vsub, reBdot_vsub, ← reInner_eq_reBdot_conj, ← reInner_eq_reBdot_conj]

theorem reInner_along_left (x d c : CVec K n) (t : K) :
    reInner (along x d t) c = reInner x c + t * reInner d c := by
  rw [show along x d t = vadd x (vsmul t d) from rfl, reInner_vadd_left, reInner_vsmul_left]

theorem reInner_zero_right (g : CVec K n) : reInner g (fun _ => 0) = 0 := by
  rw [reInner_eq]
  exact Finset.sum_eq_zero fun i _ => by simp only [Cx.zero_re, Cx.zero_im, mul_zero, add_zero]

theorem reInner_zero_left (d : CVec K n) : reInner (fun _ => 0) d = 0 := by
  rw [reInner_comm, reInner_zero_right]

theorem reBdot_zero_left (d : CVec K n) : reBdot (fun _ => 0) d = 0 := by
  rw [reBdot_eq]
  exact Finset.sum_eq_zero fun i _ => by simp only [Cx.zero_re, Cx.zero_im, zero_mul, sub_zero]

theorem reInner_vsmul_right (t : K) (a b : CVec K n) : reInner a (vsmul t b) = t * reInner a b := by
  rw [reInner_comm, reInner_vsmul_left, reInner_comm]

theorem reInner_vsub_right (a b c : CVec K n) : reInner a (vsub b c) = reInner a b - reInner a c := by
  rw [reInner_comm, reInner_vsub_left, reInner_comm b, reInner_comm c]

theorem reInner_along_right (a x d : CVec K n) (t : K) :
    reInner a (along x d t) = reInner a x + t * reInner a d := by
  rw [reInner_comm, reInner_along_left, reInner_comm x, reInner_comm d]

theorem reBdot_comm (a b : CVec K n) : reBdot a b = reBdot b a := by
  unfold reBdot; rw [bdot_comm]

theorem reInner_eq_reBdot_right (a x : CVec K n) : reInner a x = reBdot a (conjVec x) := by
  rw [reInner_comm, reInner_eq_reBdot_conj, reBdot_comm]

theorem reBdot_vadd_right (c a b : CVec K n) : reBdot c (vadd a b) = reBdot c a + reBdot c b := by
  rw [reBdot_comm, reBdot_vadd_left, reBdot_comm a, reBdot_comm b]

theorem reBdot_vsub_right (c a b : CVec K n) : reBdot c (vsub a b) = reBdot c a - reBdot c b := by
  rw [reBdot_comm, reBdot_vsub, reBdot_comm a, reBdot_comm b]

theorem reBdot_conjVec_left (a b : CVec K n) : reBdot (conjVec a) b = reBdot a (conjVec b) :=
  (reInner_eq_reBdot_conj a b).symm.trans (reInner_eq_reBdot_right a b)

theorem reBdot_mul_right (a c y : CVec K n) :
    reBdot c (fun i => a i * y i) = reBdot (fun i => a i * c i) y := by
  unfold reBdot
  rw [bdot_eq, bdot_eq]
  exact congrArg Cx.re (Finset.sum_congr rfl (fun i _ => by ring))

theorem reBdot_transpose (A : Mat K m n) (c : CVec K m) (d : CVec K n) :
    reBdot (mulVec (transpose A) c) d = reBdot c (mulVec A d) := by
  unfold reBdot; rw [bdot_transpose]

end alg

section blocks
variable {β : Type} {n k : Nat}

theorem vleft_vappend (u : Vec β n) (v : Vec β k) : vleft (vappend u v) = u := by
  funext i; simp [vleft, vappend]

theorem vright_vappend (u : Vec β n) (v : Vec β k) : vright (vappend u v) = v := by
  funext i; simp [vright, vappend]

theorem vappend_left_right (x : Vec β (n + k)) : vappend (vleft x) (vright x) = x := by
  funext i
  unfold vappend vleft vright
  by_cases h : i.val < n
  · simp [h]
  · simp only [h, dite_false]
    congr 1
    apply Fin.ext
    simp only
    omega

end blocks

section blocks2
variable {K : Type} [CommRing K] {n k : Nat}

/-- `tree_map(conj, ·)` on a two-block argument = conjugation of the concatenation -/
theorem conjVec_vappend (u : CVec K n) (v : CVec K k) :
    conjVec (vappend u v) = vappend (conjVec u) (conjVec v) := by
  funext i
  unfold conjVec vappend
  by_cases h : i.val < n <;> simp [h]

theorem reInner_split (g d : CVec K (n + k)) :
    reInner g d = reInner (vleft g) (vleft d) + reInner (vright g) (vright d) := by
  rw [reInner_eq, reInner_eq, reInner_eq, Fin.sum_univ_add]
  rfl

theorem reBdot_split (g d : CVec K (n + k)) :
    reBdot g d = reBdot (vleft g) (vleft d) + reBdot (vright g) (vright d) := by
  rw [reBdot_eq, reBdot_eq, reBdot_eq, Fin.sum_univ_add]
  rfl

theorem along_vappend (a d : CVec K n) (b e : CVec K k) (t : K) :
    along (vappend a b) (vappend d e) t = vappend (along a d t) (along b e t) := by
  funext i
  unfold along vappend
  split <;> rfl

end blocks2

def cxEquiv : Cx ℝ ≃+* ℂ where
  toFun z := ⟨z.re, z.im⟩
  invFun w := ⟨w.re, w.im⟩
  left_inv z := by cases z; rfl
  right_inv w := by cases w; rfl
  map_mul' a b := by apply Complex.ext <;> simp
  map_add' a b := by apply Complex.ext <;> simp

@[simp] theorem cxEquiv_re (z : Cx ℝ) : (cxEquiv z).re = z.re := rfl
@[simp] theorem cxEquiv_im (z : Cx ℝ) : (cxEquiv z).im = z.im := rfl

theorem abs2_nonneg (z : Cx ℝ) : 0 ≤ Cx.abs2 z :=
  add_nonneg (mul_self_nonneg _) (mul_self_nonneg _)

theorem sumAbs2_nonneg {n : Nat} (x : CVec ℝ n) : 0 ≤ sumAbs2 x := by
  rw [sumAbs2_eq]; exact Finset.sum_nonneg (fun i _ => abs2_nonneg _)

theorem reInner_self_nonneg {n : Nat} (v : CVec ℝ n) : 0 ≤ reInner v v := by
  rw [← sumAbs2_eq_reInner]; exact sumAbs2_nonneg v

end Scico.Autograd
