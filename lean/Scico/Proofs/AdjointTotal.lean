/-
  Adjoint engine, dtype / shape layer: "applying the adjoint never fails for a conforming input".

  Invariant carried through the induction over typed derivation trees: `Faithful A` — on an array of the declared
  input type the `_eval` closure returns the declared output type, on an array of the declared output type the
  `_adj` closure returns the declared input type.  It holds for every tree that passes scico's construction tests
  (`wfT`) and contains no `+`/`-` of operands on different dtypes (`homog`: the recorded finding, shown necessary).
-/
import Scico.Model.AdjointTy

namespace Scico.Adjoint

open TOp

theorem DT.promote_self (a : DT) : DT.promote a a = a := by cases a <;> rfl

theorem DT.promote_comm (a b : DT) : DT.promote a b = DT.promote b a := by cases a <;> cases b <;> rfl

theorem DT.promote_eq_both {a b : DT} (h1 : DT.promote a b = a) (h2 : DT.promote a b = b) : a = b := by
  rw [← h1]; exact h2

@[simp] theorem andThen_ok (v : Ty) (f : Ty → R) : andThen (.ok v) f = f v := rfl
@[simp] theorem andThen_error (e : TErr) (f : Ty → R) : andThen (.error e) f = .error e := rfl

/-- two successful steps in sequence; the closures of the derived operators are such sequences -/
theorem andThen_eq_ok {r : R} {f : Ty → R} {a b : Ty} (h1 : r = .ok a) (h2 : f a = .ok b) : andThen r f = .ok b := by
  rw [h1]; exact h2

theorem tadd_ok {a b : Ty} (h : a.sh = b.sh) : tadd a b = .ok ⟨DT.promote a.dt b.dt, a.sh⟩ := if_pos h

theorem sealBlk_ok {t : Ty} (h : TOp.isHet t.sh = false) : sealBlk (.ok t) = .ok t := by
  obtain ⟨dt, sh⟩ := t
  cases sh <;> simp_all [sealBlk, TOp.isHet]

@[simp] theorem sealBlk_error (e : TErr) : sealBlk (.error e) = .error e := rfl

theorem call_conforming (A : TOp) {x : Ty} (hs : x.sh = A.ish) : A.call x = sealBlk (A.evalT x) := if_pos hs

/-- on an array of the declared output dtype and shape both guards of `adj` pass -/
theorem adjC_conforming (A : TOp) {y : Ty} (hd : y.dt = A.odt) (hs : y.sh = A.osh) : A.adjC y = sealBlk (A.adjT y) := by
  simp [TOp.adjC, hd, hs]

theorem adjC_dtype_error {A : TOp} (hg : A.guard = true) {y : Ty} (hd : y.dt ≠ A.odt) : A.adjC y = .error .dtype := by
  simp [TOp.adjC, hg, hd]

namespace Faithful

theorem call_ok {A : TOp} (h : Faithful A) : A.call ⟨A.idt, A.ish⟩ = .ok ⟨A.odt, A.osh⟩ := by
  rw [call_conforming A rfl, h.eval_ok]
  exact sealBlk_ok h.osh_nh

theorem adjC_ok {A : TOp} (h : Faithful A) : A.adjC ⟨A.odt, A.osh⟩ = .ok ⟨A.idt, A.ish⟩ := by
  rw [adjC_conforming A rfl rfl, h.adj_ok]
  exact sealBlk_ok h.ish_nh

end Faithful

theorem isHet_collapseShp {s : Shp} (h : TOp.isHet s = false) : TOp.isHet (collapseShp s) = false := by
  cases s with
  | arr d => rfl
  | het bs => simp [TOp.isHet] at h
  | blk bs =>
    cases bs with
    | nil => rfl
    | cons d rest => simp only [collapseShp]; split <;> rfl

theorem isHet_collapseIf {s : Shp} (c : Bool) (h : TOp.isHet s = false) : TOp.isHet (collapseIf c s) = false := by
  cases c <;> simp [collapseIf, h, isHet_collapseShp h]

/-- `adj` of `A ± B` on the declared output type, for operands that agree on shapes and output dtype: the input dtypes
    are promoted -/
theorem add_adjT_ok {A B : TOp} (hA : Faithful A) (hB : Faithful B) (hi : A.ish = B.ish) (ho : A.osh = B.osh)
    (hdo : A.odt = B.odt) :
    (TOp.add A B).adjT ⟨DT.promote A.odt B.odt, A.osh⟩ = .ok ⟨DT.promote A.idt B.idt, A.ish⟩ := by
  have e : DT.promote A.odt B.odt = A.odt := by rw [← hdo, DT.promote_self]
  have hA' : A.adjC ⟨DT.promote A.odt B.odt, A.osh⟩ = .ok ⟨A.idt, A.ish⟩ := by rw [e]; exact hA.adjC_ok
  have hB' : B.adjC ⟨DT.promote A.odt B.odt, A.osh⟩ = .ok ⟨B.idt, B.ish⟩ := by rw [e, hdo, ho]; exact hB.adjC_ok
  exact andThen_eq_ok hA' (andThen_eq_ok hB' (tadd_ok (a := ⟨A.idt, A.ish⟩) (b := ⟨B.idt, B.ish⟩) hi))

theorem add_faithful {A B : TOp} (hA : Faithful A) (hB : Faithful B) (hi : A.ish = B.ish) (ho : A.osh = B.osh)
    (hdi : A.idt = B.idt) (hdo : A.odt = B.odt) : Faithful (TOp.add A B) := by
  have hB' : B.call ⟨A.idt, A.ish⟩ = .ok ⟨B.odt, B.osh⟩ := by rw [hdi, hi]; exact hB.call_ok
  refine ⟨andThen_eq_ok hA.call_ok (andThen_eq_ok hB' (tadd_ok ho)), (add_adjT_ok hA hB hi ho hdo).trans ?_,
    hA.ish_nh, hA.osh_nh⟩
  rw [← hdi, DT.promote_self]
  rfl

theorem smul_faithful {A : TOp} (hA : Faithful A) (k : SK) : Faithful (TOp.smul k A) :=
  ⟨andThen_eq_ok hA.call_ok rfl, hA.adjC_ok, hA.ish_nh, hA.osh_nh⟩

theorem comp_faithful {A B : TOp} (hA : Faithful A) (hB : Faithful B) (hs : A.ish = B.osh) (hd : A.idt = B.odt) :
    Faithful (TOp.comp A B) :=
  ⟨andThen_eq_ok hB.call_ok (by rw [← hs, ← hd]; exact hA.call_ok),
    andThen_eq_ok hA.adjC_ok (by rw [hs, hd]; exact hB.adjC_ok), hB.ish_nh, hA.osh_nh⟩

theorem herm_faithful {A : TOp} (hA : Faithful A) : Faithful (TOp.herm A) :=
  ⟨hA.adjC_ok, hA.call_ok, hA.osh_nh, hA.ish_nh⟩

theorem tr_faithful {A : TOp} (hA : Faithful A) : Faithful (TOp.tr A) := herm_faithful hA

theorem trCoded_faithful {A : TOp} (hA : Faithful A) (h : A.idt.cplx = false ∨ A.idt = A.odt) :
    Faithful (TOp.trCoded A) := by
  unfold TOp.trCoded
  by_cases hc : A.idt.cplx = true
  · have he : A.idt = A.odt := h.resolve_left (by rw [hc]; exact Bool.noConfusion)
    rw [if_pos hc]
    refine ⟨?_, ?_, hA.osh_nh, hA.ish_nh⟩
    · show A.adjC ⟨A.idt, A.osh⟩ = .ok ⟨A.odt, A.ish⟩
      rw [he, hA.adjC_ok, ← he]
    · show A.call ⟨A.odt, A.ish⟩ = .ok ⟨A.idt, A.osh⟩
      rw [← he, hA.call_ok, ← he]
  · rw [if_neg hc]
    exact herm_faithful hA

theorem cj_faithful {A : TOp} (hA : Faithful A) : Faithful (TOp.cj A) :=
  ⟨hA.call_ok, hA.adjC_ok, hA.ish_nh, hA.osh_nh⟩

theorem gram_faithful {A : TOp} (hA : Faithful A) : Faithful (TOp.gram A) :=
  ⟨andThen_eq_ok hA.call_ok hA.adjC_ok, andThen_eq_ok hA.call_ok hA.adjC_ok, hA.ish_nh, hA.ish_nh⟩

theorem isArr_eq {s : Shp} (h : TOp.isArr s = true) : s = .arr (TOp.dimsOf s) := by
  cases s with
  | arr d => rfl
  | _ => exact absurd h Bool.false_ne_true

/-- the conforming arrays of an operator with array shapes, written the way the stack closures build them -/
theorem Faithful.call_arr {A : TOp} (h : Faithful A) (hi : TOp.isArr A.ish = true) :
    A.call ⟨A.idt, .arr (TOp.dimsOf A.ish)⟩ = .ok ⟨A.odt, A.osh⟩ := by rw [← isArr_eq hi]; exact h.call_ok

theorem Faithful.adjC_arr {A : TOp} (h : Faithful A) (ho : TOp.isArr A.osh = true) :
    A.adjC ⟨A.odt, .arr (TOp.dimsOf A.osh)⟩ = .ok ⟨A.idt, A.ish⟩ := by rw [← isArr_eq ho]; exact h.adjC_ok

theorem oneBlk_ok {dt : DT} {sh : Shp} (h : TOp.isArr sh = true) : oneBlk ⟨dt, sh⟩ = .ok ⟨dt, .blk [TOp.dimsOf sh]⟩ := by
  rw [isArr_eq h]; rfl

theorem consBlk_ok {da ds : DT} {sa ss : Shp} (ha : TOp.isArr sa = true) (hs : ss = .blk (TOp.blocksOf ss))
    (hd : da = ds) : consBlk ⟨da, sa⟩ ⟨ds, ss⟩ = .ok ⟨da, .blk (TOp.dimsOf sa :: TOp.blocksOf ss)⟩ := by
  cases sa with
  | arr d =>
    cases ss with
    | blk bs => exact if_pos hd
    | _ => cases hs
  | _ => exact absurd ha Bool.false_ne_true

theorem vone_faithful {A : TOp} (hA : Faithful A) (ho : TOp.isArr A.osh = true) : Faithful (TOp.vone A) :=
  ⟨andThen_eq_ok hA.call_ok (oneBlk_ok ho), hA.adjC_arr ho, hA.ish_nh, rfl⟩

theorem vcons_faithful {A S : TOp} (hA : Faithful A) (hS : Faithful S) (ho : TOp.isArr A.osh = true)
    (hblk : S.osh = .blk (TOp.blocksOf S.osh)) (hi : A.ish = S.ish) (hdi : A.idt = S.idt) (hdo : A.odt = S.odt) :
    Faithful (TOp.vcons A S) := by
  have eS : (if (⟨A.idt, A.ish⟩ : Ty).sh = S.ish then S.evalT ⟨A.idt, A.ish⟩ else Except.error TErr.shape)
      = .ok ⟨S.odt, S.osh⟩ := by
    rw [if_pos hi, hdi, hi, hS.eval_ok]
  have aS : S.adjT ⟨A.odt, .blk (TOp.blocksOf S.osh)⟩ = .ok ⟨S.idt, S.ish⟩ := by rw [hdo, ← hblk]; exact hS.adj_ok
  refine ⟨andThen_eq_ok hA.call_ok (andThen_eq_ok eS (consBlk_ok ho hblk hdo)),
    andThen_eq_ok (hA.adjC_arr ho) (andThen_eq_ok aS ?_), hA.ish_nh, rfl⟩
  rw [tadd_ok (a := ⟨A.idt, A.ish⟩) (b := ⟨S.idt, S.ish⟩) hi]
  show Except.ok (⟨DT.promote A.idt S.idt, A.ish⟩ : Ty) = .ok ⟨A.idt, A.ish⟩
  rw [← hdi, DT.promote_self]

theorem vfin_faithful {S : TOp} (hS : Faithful S) : Faithful (TOp.vfin S) :=
  ⟨andThen_eq_ok hS.eval_ok rfl, hS.adj_ok, hS.ish_nh, isHet_collapseShp hS.osh_nh⟩

theorem done_faithful {A : TOp} (hA : Faithful A) (hi : TOp.isArr A.ish = true) (ho : TOp.isArr A.osh = true) :
    Faithful (TOp.done A) :=
  ⟨andThen_eq_ok (hA.call_arr hi) (oneBlk_ok ho), andThen_eq_ok (hA.adjC_arr ho) (oneBlk_ok hi), rfl, rfl⟩

theorem dcons_faithful {A S : TOp} (hA : Faithful A) (hS : Faithful S) (hi : TOp.isArr A.ish = true)
    (ho : TOp.isArr A.osh = true) (hbi : S.ish = .blk (TOp.blocksOf S.ish)) (hbo : S.osh = .blk (TOp.blocksOf S.osh))
    (hdi : A.idt = S.idt) (hdo : A.odt = S.odt) : Faithful (TOp.dcons A S) := by
  have eS : S.evalT ⟨A.idt, .blk (TOp.blocksOf S.ish)⟩ = .ok ⟨S.odt, S.osh⟩ := by rw [hdi, ← hbi]; exact hS.eval_ok
  have aS : S.adjT ⟨A.odt, .blk (TOp.blocksOf S.osh)⟩ = .ok ⟨S.idt, S.ish⟩ := by rw [hdo, ← hbo]; exact hS.adj_ok
  exact ⟨andThen_eq_ok (hA.call_arr hi) (andThen_eq_ok eS (consBlk_ok ho hbo hdo)),
    andThen_eq_ok (hA.adjC_arr ho) (andThen_eq_ok aS (consBlk_ok hi hbi hdi)), rfl, rfl⟩

theorem dfin_faithful {S : TOp} (hS : Faithful S) (ci co : Bool) : Faithful (TOp.dfin ci co S) :=
  ⟨andThen_eq_ok hS.eval_ok rfl, andThen_eq_ok hS.adj_ok rfl, isHet_collapseIf ci hS.ish_nh, isHet_collapseIf co hS.osh_nh⟩

theorem drep_faithful {A : TOp} (hA : Faithful A) (k ia oa : Nat) : Faithful (TOp.drep k ia oa A) :=
  ⟨andThen_eq_ok hA.call_ok rfl, andThen_eq_ok hA.adjC_ok rfl, rfl, rfl⟩

theorem runT_tr_shapes (coded : Bool) (env : Nat → TOp) (a : TExpr) :
    (runT coded env (.tr a)).ish = (runT coded env a).osh ∧ (runT coded env (.tr a)).osh = (runT coded env a).ish := by
  cases coded
  · exact ⟨rfl, rfl⟩
  · show (TOp.trCoded _).ish = _ ∧ (TOp.trCoded _).osh = _
    unfold TOp.trCoded
    split <;> exact ⟨rfl, rfl⟩

theorem vchain_osh (coded : Bool) (env : Nat → TOp) {s : TExpr} (h : s.isVChain = true) :
    (runT coded env s).osh = .blk (TOp.blocksOf (runT coded env s).osh) := by
  cases s with
  | vone a => rfl
  | vcons a s => rfl
  | _ => exact absurd h Bool.false_ne_true

theorem dchain_shapes (coded : Bool) (env : Nat → TOp) {s : TExpr} (h : s.isDChain = true) :
    (runT coded env s).ish = .blk (TOp.blocksOf (runT coded env s).ish)
      ∧ (runT coded env s).osh = .blk (TOp.blocksOf (runT coded env s).osh) := by
  cases s with
  | done a => exact ⟨rfl, rfl⟩
  | dcons a s => exact ⟨rfl, rfl⟩
  | _ => exact absurd h Bool.false_ne_true

section wfT
variable {coded : Bool} {env : Nat → TOp} {a b s : TExpr}

/-- `-` is tested as `+` is: `wfT (.sub a b)` unfolds to the same test -/
theorem wfT_add : wfT coded env (.add a b) = true ↔ wfT coded env a = true ∧ wfT coded env b = true
    ∧ (runT coded env a).ish = (runT coded env b).ish ∧ (runT coded env a).osh = (runT coded env b).osh := by
  simp only [wfT, Bool.and_eq_true, decide_eq_true_eq, and_assoc]

theorem wfT_comp : wfT coded env (.comp a b) = true ↔ wfT coded env a = true ∧ wfT coded env b = true
    ∧ (runT coded env a).ish = (runT coded env b).osh ∧ (runT coded env a).idt = (runT coded env b).odt := by
  simp only [wfT, Bool.and_eq_true, decide_eq_true_eq, and_assoc]

theorem wfT_vone : wfT coded env (.vone a) = true ↔ wfT coded env a = true ∧ TOp.isArr (runT coded env a).osh = true := by
  simp only [wfT, Bool.and_eq_true]

theorem wfT_vcons : wfT coded env (.vcons a s) = true ↔ wfT coded env a = true ∧ wfT coded env s = true
    ∧ s.isVChain = true ∧ TOp.isArr (runT coded env a).osh = true ∧ (runT coded env a).ish = (runT coded env s).ish
    ∧ (runT coded env a).idt = (runT coded env s).idt ∧ (runT coded env a).odt = (runT coded env s).odt := by
  simp only [wfT, Bool.and_eq_true, decide_eq_true_eq, and_assoc]

theorem wfT_vfin : wfT coded env (.vfin s) = true ↔ wfT coded env s = true ∧ s.isVChain = true := by
  simp only [wfT, Bool.and_eq_true]

theorem wfT_done : wfT coded env (.done a) = true ↔ wfT coded env a = true ∧ TOp.isArr (runT coded env a).ish = true
    ∧ TOp.isArr (runT coded env a).osh = true := by
  simp only [wfT, Bool.and_eq_true, and_assoc]

theorem wfT_dcons : wfT coded env (.dcons a s) = true ↔ wfT coded env a = true ∧ wfT coded env s = true
    ∧ s.isDChain = true ∧ TOp.isArr (runT coded env a).ish = true ∧ TOp.isArr (runT coded env a).osh = true
    ∧ (runT coded env a).idt = (runT coded env s).idt ∧ (runT coded env a).odt = (runT coded env s).odt := by
  simp only [wfT, Bool.and_eq_true, decide_eq_true_eq, and_assoc]

theorem wfT_dfin {ci co : Bool} : wfT coded env (.dfin ci co s) = true ↔ wfT coded env s = true ∧ s.isDChain = true := by
  simp only [wfT, Bool.and_eq_true]

theorem wfT_drep {k ia oa : Nat} : wfT coded env (.drep k ia oa a) = true ↔ wfT coded env a = true
    ∧ TOp.isArr (runT coded env a).ish = true ∧ TOp.isArr (runT coded env a).osh = true
    ∧ ia ≤ (TOp.dimsOf (runT coded env a).ish).length ∧ oa ≤ (TOp.dimsOf (runT coded env a).osh).length ∧ 0 < k := by
  simp only [wfT, Bool.and_eq_true, decide_eq_true_eq, and_assoc]

end wfT

theorem faithful_runT (coded : Bool) (env : Nat → TOp) (henv : ∀ i, Faithful (env i)) :
    ∀ t : TExpr, wfT coded env t = true → homog coded env t = true → Faithful (runT coded env t) := by
  intro t
  induction t with
  | leaf i => exact fun _ _ => henv i
  | add a b iha ihb | sub a b iha ihb =>
    intro hw hh
    obtain ⟨wa, wb, hi, ho⟩ := wfT_add.1 hw
    simp only [homog, Bool.and_eq_true, decide_eq_true_eq] at hh
    obtain ⟨⟨⟨ha, hb⟩, hdi⟩, hdo⟩ := hh
    exact add_faithful (iha wa ha) (ihb wb hb) hi ho hdi hdo
  | neg a ih | smul k a ih | sdiv k a ih => exact fun hw hh => smul_faithful (ih hw hh) _
  | comp a b iha ihb =>
    intro hw hh
    obtain ⟨wa, wb, hs, hd⟩ := wfT_comp.1 hw
    simp only [homog, Bool.and_eq_true] at hh
    exact comp_faithful (iha wa hh.1) (ihb wb hh.2) hs hd
  | tr a ih =>
    intro hw hh
    simp only [homog, Bool.and_eq_true, Bool.or_eq_true, Bool.not_eq_true', decide_eq_true_eq] at hh
    have ih := ih hw hh.1
    simp only [runT]
    cases coded with
    | false => simpa using tr_faithful ih
    | true =>
      simp only [if_true]
      apply trCoded_faithful ih
      rcases hh.2 with (h | h) | h
      · cases h
      · exact Or.inl h
      · exact Or.inr h
  | herm a ih => exact fun hw hh => herm_faithful (ih hw hh)
  | cj a ih => exact fun hw hh => cj_faithful (ih hw hh)
  | gram a ih => exact fun hw hh => gram_faithful (ih hw hh)
  | vone a ih =>
    intro hw hh
    exact vone_faithful (ih (wfT_vone.1 hw).1 hh) (wfT_vone.1 hw).2
  | vcons a s iha ihs =>
    intro hw hh
    obtain ⟨wa, ws, hc, ho, hi, hdi, hdo⟩ := wfT_vcons.1 hw
    simp only [homog, Bool.and_eq_true] at hh
    exact vcons_faithful (iha wa hh.1) (ihs ws hh.2) ho (vchain_osh coded env hc) hi hdi hdo
  | vfin s ih =>
    intro hw hh
    exact vfin_faithful (ih (wfT_vfin.1 hw).1 hh)
  | done a ih =>
    intro hw hh
    obtain ⟨wa, hi, ho⟩ := wfT_done.1 hw
    exact done_faithful (ih wa hh) hi ho
  | dcons a s iha ihs =>
    intro hw hh
    obtain ⟨wa, ws, hc, hi, ho, hdi, hdo⟩ := wfT_dcons.1 hw
    simp only [homog, Bool.and_eq_true] at hh
    exact dcons_faithful (iha wa hh.1) (ihs ws hh.2) hi ho (dchain_shapes coded env hc).1 (dchain_shapes coded env hc).2
      hdi hdo
  | dfin ci co s ih =>
    intro hw hh
    exact dfin_faithful (ih (wfT_dfin.1 hw).1 hh) ci co
  | drep k ia oa a ih =>
    intro hw hh
    exact drep_faithful (ih (wfT_drep.1 hw).1 hh) k ia oa

theorem adjC_rejects {A : TOp} (hg : A.guard = true) {y : Ty} (h : y.dt ≠ A.odt ∨ y.sh ≠ A.osh) :
    ∃ e, A.adjC y = .error e := by
  by_cases hd : y.dt = A.odt
  · have hs : y.sh ≠ A.osh := h.resolve_left (fun h' => h' hd)
    exact ⟨.shape, by simp [TOp.adjC, hd, hs]⟩
  · exact ⟨.dtype, adjC_dtype_error hg hd⟩

theorem add_mixed_adj_fails {A B : TOp} (hgA : A.guard = true) (hgB : B.guard = true) (hd : A.odt ≠ B.odt) (y : Ty) :
    ∃ e, (TOp.add A B).adjC y = .error e := by
  by_cases hc : y.dt = DT.promote A.odt B.odt ∧ y.sh = A.osh
  · -- the guards of the sum pass; `y.dt` cannot be both output dtypes, so the guard of an operand raises
    rw [adjC_conforming (TOp.add A B) hc.1 hc.2]
    show ∃ e, sealBlk (andThen (A.adjC y) fun a => andThen (B.adjC y) fun b => tadd a b) = .error e
    by_cases ha : y.dt = A.odt
    · rw [adjC_dtype_error hgB (fun hb => hd (ha.symm.trans hb))]
      cases A.adjC y with
      | error e => exact ⟨e, rfl⟩
      | ok a => exact ⟨.dtype, rfl⟩
    · rw [adjC_dtype_error hgA ha]
      exact ⟨.dtype, rfl⟩
  · exact adjC_rejects rfl (Classical.not_and_iff_not_or_not.mp hc)

theorem add_mixed_adj_dtype_error {A B : TOp} (hA : Faithful A) (hgA : A.guard = true) (hgB : B.guard = true)
    (hd : A.odt ≠ B.odt) :
    (TOp.add A B).adjC ⟨(TOp.add A B).odt, (TOp.add A B).osh⟩ = .error .dtype := by
  rw [adjC_conforming _ rfl rfl]
  show sealBlk (andThen (A.adjC ⟨DT.promote A.odt B.odt, A.osh⟩) fun a =>
    andThen (B.adjC ⟨DT.promote A.odt B.odt, A.osh⟩) fun b => tadd a b) = _
  by_cases ha : DT.promote A.odt B.odt = A.odt
  · rw [ha, hA.adjC_ok, adjC_dtype_error hgB (y := ⟨A.odt, A.osh⟩) hd]
    rfl
  · rw [adjC_dtype_error hgA (y := ⟨DT.promote A.odt B.odt, A.osh⟩) ha]
    rfl

/-- a leaf that behaves as declared (any scico class on its own dtypes) -/
def stdLeaf (ish osh : Shp) (idt odt : DT) (g : Bool) : TOp where
  ish := ish
  osh := osh
  idt := idt
  odt := odt
  guard := g
  evalT := fun _ => .ok ⟨odt, osh⟩
  adjT := fun _ => .ok ⟨idt, ish⟩

theorem stdLeaf_faithful (ish osh : Shp) (idt odt : DT) (g : Bool) (hi : TOp.isHet ish = false := by rfl)
    (ho : TOp.isHet osh = false := by rfl) : Faithful (stdLeaf ish osh idt odt g) :=
  ⟨rfl, rfl, hi, ho⟩

/-- the environment of the recorded witness `mixed-operand-dtypes`:
    0 = SingleAxisFiniteDifference((3,), float64, circular=True), 1 = MatrixOperator(complex128 3×3),
    2 = a float64 → complex128 operator on the same shapes, 3 = a complex128 → float64 operator (2,) → (3,) -/
def witnessEnv : Nat → TOp
  | 0 => stdLeaf (.arr [3]) (.arr [3]) .f64 .f64 true
  | 1 => stdLeaf (.arr [3]) (.arr [3]) .c128 .c128 false
  | 2 => stdLeaf (.arr [3]) (.arr [3]) .f64 .c128 true
  | _ => stdLeaf (.arr [2]) (.arr [3]) .c128 .f64 true

theorem witnessEnv_faithful : ∀ i, Faithful (witnessEnv i)
  | 0 => stdLeaf_faithful ..
  | 1 => stdLeaf_faithful ..
  | 2 => stdLeaf_faithful ..
  | _ + 3 => stdLeaf_faithful ..

end Scico.Adjoint
