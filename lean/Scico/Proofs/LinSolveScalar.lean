/-
  The bisection and golden-section models of `Scico.Model.LinSolve` (C14), over an arbitrary linearly ordered field `K`
  (so ℚ and ℝ), for every iteration count.  A vectorised body does on lane `i` what a scalar body does on one bracket
  (`bisectStep_lane`, `goldBody_lane`), so `k` vectorised bodies are `k` scalar ones on every lane and the lanes meet only in
  the stopping test.  The brackets are reasoned about on scalars: `bisect_bracket` and `gold_bracket` say what one body does to
  a bracket, the rest is induction over the bodies.
-/
import Mathlib.Tactic.Ring
import Scico.Proofs.LinSolveScalarLayer
import Scico.Proofs.LinSolveLoops

set_option linter.unusedSectionVars false

namespace Scico.LinSolve

variable {K : Type} [Field K] [LinearOrder K] [IsStrictOrderedRing K] [Inhabited K]

/-- For `t ≠ 0` the product `(x t)(t y)` has the sign of `x y`: of `x t`, `t y` not both are positive when `x y ≤ 0`, and
    one is positive and the other negative when `x y < 0`. -/
theorem sign_split {x y t : K} (ht : t ≠ 0) :
    (x * y ≤ 0 → ¬ (0 < x * t ∧ 0 < t * y)) ∧
    (x * y < 0 → (0 < x * t ∧ t * y < 0) ∨ (x * t < 0 ∧ 0 < t * y)) := by
  have e : (x * t) * (t * y) = (x * y) * (t * t) := by ring
  have ht2 : 0 < t * t := mul_self_pos.2 ht
  constructor
  · rintro h ⟨h1, h2⟩
    have := mul_pos h1 h2
    rw [e] at this
    exact absurd (mul_nonpos_of_nonpos_of_nonneg h ht2.le) (not_le.2 this)
  · intro h
    exact mul_neg_iff.1 (e ▸ mul_neg_of_neg_of_pos h ht2)

/-- What one body does to a bracket `[a, b]` with `f a · f b ≤ 0` and midpoint `c`: it collapses onto `c` if `f c = 0`;
    otherwise `c` replaces the end at which `f` has the sign of `f c`, the sign condition is kept, and is kept strict
    (no end can have the sign of `f c` only if `f a · f b = 0`). -/
theorem bisect_bracket (f : K → K) {a b c a' b' : K}
    (ha : a' = if 0 < f a * f c ∨ f c = 0 then c else a) (hb : b' = if 0 < f c * f b ∨ f c = 0 then c else b)
    (sg : f a * f b ≤ 0) :
    (f c = 0 ∧ a' = c ∧ b' = c) ∨
    (f c ≠ 0 ∧ a' = c ∧ b' = b ∧ f c * f b ≤ 0 ∧ (f a * f b < 0 → f c * f b < 0)) ∨
    (f c ≠ 0 ∧ a' = a ∧ b' = c ∧ f a * f c ≤ 0 ∧ (f a * f b < 0 → f a * f c < 0)) ∨
    (f c ≠ 0 ∧ a' = a ∧ b' = b ∧ f a * f b = 0) := by
  by_cases h0 : f c = 0
  · exact Or.inl ⟨h0, by rw [ha, if_pos (Or.inr h0)], by rw [hb, if_pos (Or.inr h0)]⟩
  obtain ⟨weak, strict⟩ := sign_split (x := f a) (y := f b) h0
  by_cases h1 : 0 < f a * f c <;> by_cases h2 : 0 < f c * f b
  · exact absurd ⟨h1, h2⟩ (weak sg)
  · refine Or.inr (Or.inl ⟨h0, by rw [ha, if_pos (Or.inl h1)], by rw [hb, if_neg (not_or.2 ⟨h2, h0⟩)], not_lt.1 h2, ?_⟩)
    intro h
    exact (strict h).elim (·.2) (fun h' => absurd h1 (not_lt.2 h'.1.le))
  · refine Or.inr (Or.inr (Or.inl ⟨h0, by rw [ha, if_neg (not_or.2 ⟨h1, h0⟩)], by rw [hb, if_pos (Or.inl h2)],
      not_lt.1 h1, ?_⟩))
    intro h
    exact (strict h).elim (fun h' => absurd h'.1 h1) (·.1)
  · refine Or.inr (Or.inr (Or.inr ⟨h0, by rw [ha, if_neg (not_or.2 ⟨h1, h0⟩)], by rw [hb, if_neg (not_or.2 ⟨h2, h0⟩)],
      ?_⟩))
    exact (lt_or_eq_of_le sg).resolve_left fun h => (strict h).elim (fun h' => h1 h'.1) (fun h' => h2 h'.2)

/-- lane `i` of a bisection state -/
structure BLane (K : Type) where
  a : K
  b : K
  fa : K
  fb : K

def BisectSt.lane {n : Nat} (s : BisectSt K n) (i : Fin n) : BLane K := ⟨s.a i, s.b i, s.fa i, s.fb i⟩

/-- the loop body of `bisect` on one bracket -/
def BLane.step (f : K → K) (p : BLane K) : BLane K :=
  let c := (p.a + p.b) / 2
  let a' := if 0 < p.fa * f c ∨ f c = 0 then c else p.a
  let b' := if 0 < f c * p.fb ∨ f c = 0 then c else p.b
  ⟨a', b', f a', f b'⟩

theorem bisectStep_lane {n : Nat} (f : Fin n → K → K) (s : BisectSt K n) (i : Fin n) :
    (bisectStep f s).lane i = BLane.step (f i) (s.lane i) := by
  simp only [BisectSt.lane, BLane.step, bisectStep, thaw_ofFn, Bool.or_eq_true, sameSign_iff]
  simp only [isZero_iff, two, one_add_one_eq_two]
  rfl

theorem bisect_lane_iterate {n : Nat} (f : Fin n → K → K) (s : BisectSt K n) (i : Fin n) (k : Nat) :
    ((bisectStep f)^[k] s).lane i = (BLane.step (f i))^[k] (s.lane i) :=
  Function.Semiconj.iterate_right (f := fun s : BisectSt K n => s.lane i) (fun s => bisectStep_lane f s i) k s

theorem bisectInit_lane {n : Nat} (f : Fin n → K → K) (a b : Vec K n) (i : Fin n) :
    (bisectInit f a b).lane i = ⟨a i, b i, f i (a i), f i (b i)⟩ := rfl

/-- the invariant of one lane of `bisect`: a bracket inside the initial one, with consistent cached values and `f a · f b ≤ 0` -/
structure Bracketed (f : K → K) (a0 b0 : K) (p : BLane K) : Prop where
  hfa : p.fa = f p.a
  hfb : p.fb = f p.b
  lo : a0 ≤ p.a
  mid : p.a ≤ p.b
  hi : p.b ≤ b0
  sign : f p.a * f p.b ≤ 0

theorem BLane.step_bracketed (f : K → K) {a0 b0 : K} {p : BLane K} (h : Bracketed f a0 b0 p) :
    Bracketed f a0 b0 (BLane.step f p) := by
  have hac : p.a ≤ (p.a + p.b) / 2 := by
    rw [le_div_iff₀ two_pos, mul_two]; exact add_le_add_right h.mid p.a
  have hcb : (p.a + p.b) / 2 ≤ p.b := by
    rw [div_le_iff₀ two_pos, mul_two]; exact add_le_add_left h.mid p.b
  obtain ⟨l1, l2, l3, sg⟩ : p.a ≤ (BLane.step f p).a ∧ (BLane.step f p).a ≤ (BLane.step f p).b ∧ (BLane.step f p).b ≤ p.b ∧
      f (BLane.step f p).a * f (BLane.step f p).b ≤ 0 := by
    rcases bisect_bracket f (a := p.a) (b := p.b) (c := (p.a + p.b) / 2) (a' := (BLane.step f p).a) (b' := (BLane.step f p).b)
      (by rw [← h.hfa]; rfl) (by rw [← h.hfb]; rfl) h.sign
      with ⟨h0, ea, eb⟩ | ⟨_, ea, eb, hs, _⟩ | ⟨_, ea, eb, hs, _⟩ | ⟨_, ea, eb, _⟩ <;> rw [ea, eb]
    · exact ⟨hac, le_rfl, hcb, by rw [h0, mul_zero]⟩
    · exact ⟨hac, hcb, le_rfl, hs⟩
    · exact ⟨le_rfl, hac, hcb, hs⟩
    · exact ⟨le_rfl, h.mid, le_rfl, h.sign⟩
  exact ⟨rfl, rfl, h.lo.trans l1, l2, l3.trans h.hi, sg⟩

theorem bisect_iterate_bracketed {n : Nat} (f : Fin n → K → K) (a0 b0 : Vec K n) (i : Fin n) (h0 : a0 i ≤ b0 i)
    (hs : f i (a0 i) * f i (b0 i) ≤ 0) (k : Nat) :
    Bracketed (f i) (a0 i) (b0 i) (((bisectStep f)^[k] (bisectInit f a0 b0)).lane i) := by
  rw [bisect_lane_iterate]
  exact Function.Iterate.rec _ ⟨rfl, rfl, le_rfl, h0, le_rfl, hs⟩ (fun _ => BLane.step_bracketed (f i)) k

/-- the invariant for a strict sign change, `w` being the width of the bracket: it is halved by every body until an exact zero is hit,
    onto which the bracket then collapses -/
def Halved (f : K → K) (w : K) (p : BLane K) : Prop :=
  p.fa = f p.a ∧ p.fb = f p.b ∧ ((f p.a * f p.b < 0 ∧ p.b - p.a = w) ∨ (p.a = p.b ∧ f p.a = 0))

theorem BLane.step_halved (f : K → K) {w : K} {p : BLane K} (h : Halved f w p) : Halved f (w / 2) (BLane.step f p) := by
  obtain ⟨hfa, hfb, h⟩ := h
  have ha : (BLane.step f p).a = if 0 < f p.a * f ((p.a + p.b) / 2) ∨ f ((p.a + p.b) / 2) = 0 then (p.a + p.b) / 2 else p.a := by
    rw [← hfa]; rfl
  have hb : (BLane.step f p).b = if 0 < f ((p.a + p.b) / 2) * f p.b ∨ f ((p.a + p.b) / 2) = 0 then (p.a + p.b) / 2 else p.b := by
    rw [← hfb]; rfl
  refine ⟨rfl, rfl, ?_⟩
  rcases h with ⟨sg, hw⟩ | ⟨hab, hz⟩
  · rcases bisect_bracket f ha hb sg.le with ⟨h0, ea, eb⟩ | ⟨_, ea, eb, _, h⟩ | ⟨_, ea, eb, _, h⟩ | ⟨_, _, _, h⟩
    · right; rw [ea, eb]; exact ⟨rfl, h0⟩
    · left; rw [ea, eb, ← hw]; exact ⟨h sg, by ring⟩
    · left; rw [ea, eb, ← hw]; exact ⟨h sg, by ring⟩
    · exact absurd sg (by rw [h]; exact lt_irrefl 0)
  · have h0 : f ((p.a + p.b) / 2) = 0 := by
      rw [show (p.a + p.b) / 2 = p.a by rw [← hab]; ring]; exact hz
    rw [ha, hb, if_pos (Or.inr h0), if_pos (Or.inr h0)]
    exact Or.inr ⟨rfl, h0⟩

theorem bisect_iterate_halved {n : Nat} (f : Fin n → K → K) (a0 b0 : Vec K n) (i : Fin n)
    (hs : f i (a0 i) * f i (b0 i) < 0) (k : Nat) :
    Halved (f i) ((b0 i - a0 i) / 2 ^ k) (((bisectStep f)^[k] (bisectInit f a0 b0)).lane i) := by
  rw [bisect_lane_iterate]
  induction k with
  | zero => exact ⟨rfl, rfl, Or.inl ⟨hs, by rw [pow_zero, div_one]; rfl⟩⟩
  | succ k ih =>
    rw [Function.iterate_succ_apply', pow_succ, ← div_div]
    exact BLane.step_halved (f i) ih

theorem bisectStep_xerr {n : Nat} (f : Fin n → K → K) (s : BisectSt K n) (i : Fin n) :
    |(bisectStep f s).b i - (bisectStep f s).a i| ≤ (bisectStep f s).xerr := by
  have : (bisectStep f s).xerr = vmaxAbs fun i => (bisectStep f s).b i - (bisectStep f s).a i := by
    simp only [bisectStep, thaw_ofFn]
  rw [this]
  exact le_vmaxAbs (fun j => (bisectStep f s).b j - (bisectStep f s).a j) i

theorem bisectLoop_iterate {n : Nat} (f : Fin n → K → K) (xtol ftol : K) (fuel : Nat) (s : BisectSt K n) :
    ∃ k, k ≤ fuel ∧ bisectLoop f xtol ftol fuel s = (bisectStep f)^[k] s ∧
      (k = fuel ∨ ((bisectLoop f xtol ftol fuel s).xerr ≤ xtol ∧ (bisectLoop f xtol ftol fuel s).ferr ≤ ftol ∧ 0 < k)) := by
  rcases forBreak_iterate (fun s : BisectSt K n => s.xerr ≤ xtol ∧ s.ferr ≤ ftol) (bisectStep f) id
    (bisectLoop f xtol ftol) (fun _ => rfl) (fun _ _ => rfl) fuel s with h | ⟨k, hk, h, hx⟩
  · exact ⟨fuel, le_rfl, h, Or.inl rfl⟩
  · exact ⟨k + 1, hk, by rw [h, Function.iterate_succ_apply']; rfl, Or.inr ⟨hx.1, hx.2, k.succ_pos⟩⟩

/-- strict unimodality on `[lo, hi]` with minimiser `xs` (the specification's hypothesis) -/
structure Unimodal (f : K → K) (lo hi xs : K) : Prop where
  mem_lo : lo ≤ xs
  mem_hi : xs ≤ hi
  dec : ∀ u v, lo ≤ u → u < v → v ≤ xs → f v < f u
  inc : ∀ u v, xs ≤ u → u < v → v ≤ hi → f u < f v

theorem unimodal_sq_sub {c lo hi : K} (h1 : lo ≤ c) (h2 : c ≤ hi) : Unimodal (fun x => (x - c) ^ 2) lo hi c :=
  ⟨h1, h2,
    fun u v _ huv hv => sub_pos.1 <| by
      rw [show (u - c) ^ 2 - (v - c) ^ 2 = (v - u) * ((c - u) + (c - v)) by ring]
      exact mul_pos (sub_pos.2 huv) (add_pos_of_pos_of_nonneg (sub_pos.2 (huv.trans_le hv)) (sub_nonneg.2 hv)),
    fun u v hu huv _ => sub_pos.1 <| by
      rw [show (v - c) ^ 2 - (u - c) ^ 2 = (v - u) * ((u - c) + (v - c)) by ring]
      exact mul_pos (sub_pos.2 huv) (add_pos_of_nonneg_of_pos (sub_nonneg.2 hu) (sub_pos.2 (hu.trans_lt huv)))⟩

theorem gold_bracket {f : K → K} {lo hi xs a b c d a' b' : K} (hu : Unimodal f lo hi xs)
    (ha : a' = if f d ≤ f c then c else a) (hb : b' = if f c < f d then d else b)
    (hlo : lo ≤ c) (hcd : c < d) (hhi : d ≤ hi) :
    (a' = a ∧ b' = d ∧ xs ≤ d) ∨ (a' = c ∧ b' = b ∧ c ≤ xs) := by
  by_cases hlt : f c < f d
  · refine Or.inl ⟨by rw [ha, if_neg (not_le.2 hlt)], by rw [hb, if_pos hlt], ?_⟩
    by_contra hcon
    exact lt_asymm hlt (hu.dec c d hlo hcd (not_le.1 hcon).le)
  · refine Or.inr ⟨by rw [ha, if_pos (not_lt.1 hlt)], by rw [hb, if_neg hlt], ?_⟩
    by_contra hcon
    exact hlt (hu.inc c d (not_le.1 hcon).le hcd hhi)

theorem gold_points_order {gr a b : K} (hg1 : 1 / 2 < gr) (hg2 : gr < 1) (hab : a < b) :
    a < b - gr * (b - a) ∧ b - gr * (b - a) < a + gr * (b - a) ∧ a + gr * (b - a) < b := by
  have h1 := mul_pos (sub_pos.2 hg2) (sub_pos.2 hab)
  have h2 := mul_pos two_pos (mul_pos (sub_pos.2 hg1) (sub_pos.2 hab))
  refine ⟨sub_pos.1 ?_, sub_pos.1 ?_, sub_pos.1 ?_⟩
  · rwa [show b - gr * (b - a) - a = (1 - gr) * (b - a) by ring]
  · rwa [show a + gr * (b - a) - (b - gr * (b - a)) = 2 * ((gr - 1 / 2) * (b - a)) by ring]
  · rwa [show b - (a + gr * (b - a)) = (1 - gr) * (b - a) by ring]

/-- lane `i` of a golden-section state -/
structure GLane (K : Type) where
  a : K
  b : K
  c : K
  d : K

def GoldSt.lane {n : Nat} (s : GoldSt K n) (i : Fin n) : GLane K := ⟨s.a i, s.b i, s.c i, s.d i⟩

/-- the bracket `goldShrink` leaves on one lane -/
def GLane.shrink (f : K → K) (p : GLane K) : K × K :=
  (if f p.d ≤ f p.c then p.c else p.a, if f p.c < f p.d then p.d else p.b)

/-- the whole loop body (`goldShrink`, then `goldPoints`) on one lane -/
def GLane.step (gr : K) (f : K → K) (p : GLane K) : GLane K :=
  ⟨(GLane.shrink f p).1, (GLane.shrink f p).2, (GLane.shrink f p).2 - gr * ((GLane.shrink f p).2 - (GLane.shrink f p).1),
    (GLane.shrink f p).1 + gr * ((GLane.shrink f p).2 - (GLane.shrink f p).1)⟩

theorem goldShrink_lane {n : Nat} (f : Fin n → K → K) (s : GoldSt K n) (i : Fin n) :
    ((goldShrink f s).a i, (goldShrink f s).b i) = GLane.shrink (f i) (s.lane i) := by
  simp only [GoldSt.lane, GLane.shrink, goldShrink, thaw_ofFn, ge_iff_le]
  rfl

theorem goldBody_lane {n : Nat} (gr : K) (f : Fin n → K → K) (s : GoldSt K n) (i : Fin n) :
    (goldPoints gr (goldShrink f s)).lane i = GLane.step gr (f i) (s.lane i) := by
  simp only [GoldSt.lane, GLane.step, GLane.shrink, goldPoints, goldShrink, thaw_ofFn, ge_iff_le]
  rfl

theorem gold_lane_iterate {n : Nat} (gr : K) (f : Fin n → K → K) (s : GoldSt K n) (i : Fin n) (k : Nat) :
    ((fun s => goldPoints gr (goldShrink f s))^[k] s).lane i = (GLane.step gr (f i))^[k] (s.lane i) :=
  Function.Semiconj.iterate_right (f := fun s : GoldSt K n => s.lane i) (fun s => goldBody_lane gr f s i) k s

/-- what a shrink needs of one lane of `golden`: interior points in order, `a < c < d < b`, and the minimiser `xs` in `[a, b] ⊆ [lo, hi]` -/
structure GLane.OK (lo hi xs : K) (p : GLane K) : Prop where
  lo : lo ≤ p.a
  hi : p.b ≤ hi
  ac : p.a < p.c
  cd : p.c < p.d
  db : p.d < p.b
  xa : p.a ≤ xs
  xb : xs ≤ p.b

theorem GLane.shrink_spec {f : K → K} {lo hi xs : K} (hu : Unimodal f lo hi xs) {p : GLane K} (h : p.OK lo hi xs) :
    p.a ≤ (GLane.shrink f p).1 ∧ (GLane.shrink f p).1 ≤ xs ∧ xs ≤ (GLane.shrink f p).2 ∧ (GLane.shrink f p).2 ≤ p.b ∧
      (GLane.shrink f p).1 < (GLane.shrink f p).2 ∧
      ((GLane.shrink f p).2 - (GLane.shrink f p).1 = p.d - p.a ∨ (GLane.shrink f p).2 - (GLane.shrink f p).1 = p.b - p.c) := by
  rcases gold_bracket hu (a' := (GLane.shrink f p).1) (b' := (GLane.shrink f p).2) rfl rfl (h.lo.trans h.ac.le) h.cd
    (h.db.le.trans h.hi) with ⟨e1, e2, hx⟩ | ⟨e1, e2, hx⟩ <;> rw [e1, e2]
  · exact ⟨le_rfl, h.xa, hx, h.db.le, h.ac.trans h.cd, Or.inl rfl⟩
  · exact ⟨h.ac.le, hx, h.xb, le_rfl, h.cd.trans h.db, Or.inr rfl⟩

structure GoldBracket (a b xs w : K) (q : K × K) : Prop where
  lo : a ≤ q.1
  left : q.1 ≤ xs
  right : xs ≤ q.2
  hi : q.2 ≤ b
  width : q.2 - q.1 = w

/-- any number of bodies from any ordered interior points: the first shrink leaves a bracket of width
    `w ∈ {d − a, b − c}`, every later one (its interior points being the golden ones) multiplies the width by `gr`; the
    minimiser stays inside -/
theorem GLane.step_iterate {gr : K} (hg1 : 1 / 2 < gr) (hg2 : gr < 1) {f : K → K} {lo hi xs : K} (hu : Unimodal f lo hi xs) :
    ∀ (k : Nat) (p : GLane K), p.OK lo hi xs →
      ∃ w, (w = p.d - p.a ∨ w = p.b - p.c) ∧
        GoldBracket p.a p.b xs (gr ^ k * w) (GLane.shrink f ((GLane.step gr f)^[k] p))
  | 0, p, h => by
    obtain ⟨k1, k2, k3, k4, _, k6⟩ := GLane.shrink_spec hu h
    exact ⟨_, k6, k1, k2, k3, k4, by rw [pow_zero, one_mul]; rfl⟩
  | k + 1, p, h => by
    obtain ⟨k1, k2, k3, k4, k5, k6⟩ := GLane.shrink_spec hu h
    obtain ⟨o1, o2, o3⟩ := gold_points_order hg1 hg2 k5
    obtain ⟨w, hw, q⟩ := GLane.step_iterate hg1 hg2 hu k (GLane.step gr f p)
      ⟨h.lo.trans k1, k4.trans h.hi, o1, o2, o3, k2, k3⟩
    have hw' : w = gr * ((GLane.shrink f p).2 - (GLane.shrink f p).1) := by
      rcases hw with e | e <;> rw [e] <;> simp only [GLane.step] <;> ring
    rw [Function.iterate_succ_apply]
    exact ⟨_, k6, k1.trans q.lo, q.left, q.right, q.hi.trans k4, by rw [q.width, hw', pow_succ]; ring⟩

theorem goldShrink_xerr {n : Nat} (f : Fin n → K → K) (s : GoldSt K n) (i : Fin n) :
    |(goldShrink f s).b i - (goldShrink f s).a i| ≤ (goldShrink f s).xerr := by
  have : (goldShrink f s).xerr = vmaxAbs fun j => (goldShrink f s).b j - (goldShrink f s).a j := by
    simp only [goldShrink, thaw_ofFn]
  rw [this]
  exact le_vmaxAbs (fun j => (goldShrink f s).b j - (goldShrink f s).a j) i

theorem goldLoop_iterate {n : Nat} (gr : K) (f : Fin n → K → K) (xtol : K) (fuel : Nat) (s : GoldSt K n) :
    goldLoop gr f xtol fuel s = (fun s => goldPoints gr (goldShrink f s))^[fuel] s ∨
      ∃ k < fuel, goldLoop gr f xtol fuel s = goldShrink f ((fun s => goldPoints gr (goldShrink f s))^[k] s) ∧
        (goldLoop gr f xtol fuel s).xerr ≤ xtol :=
  forBreak_iterate (fun s : GoldSt K n => s.xerr ≤ xtol) (goldShrink f) (goldPoints gr)
    (goldLoop gr f xtol) (fun _ => rfl) (fun _ _ => rfl) fuel s

/-- the golden loop from any ordered interior points `a₀ < c < d < b₀` (lane `i`): `golden` without `c`, with `c` before
    `d`, and with sorted interior points are the instances `goldInit … none`, `goldInit … (some c)`, `goldInitSorted` -/
theorem goldLoop_spec {n : Nat} (gr : K) (hg1 : 1 / 2 < gr) (hg2 : gr < 1) (f : Fin n → K → K) (s0 : GoldSt K n)
    (xtol : K) (maxiter : Nat) (hmax : 0 < maxiter) (i : Fin n) (xs : K)
    (hu : Unimodal (f i) (s0.a i) (s0.b i) xs) (hac : s0.a i < s0.c i) (hcd : s0.c i < s0.d i) (hdb : s0.d i < s0.b i) :
    let s := goldLoop gr f xtol maxiter s0
    let x := goldPick f s
    ∃ k w1, k < maxiter ∧ (w1 = s0.d i - s0.a i ∨ w1 = s0.b i - s0.c i) ∧
      s0.a i ≤ s.a i ∧ s.a i ≤ xs ∧ xs ≤ s.b i ∧ s.b i ≤ s0.b i ∧
      s.b i - s.a i = gr ^ k * w1 ∧
      (x i = s.a i ∨ x i = s.b i) ∧ |x i - xs| ≤ gr ^ k * w1 ∧
      (k + 1 = maxiter ∨ (s.xerr ≤ xtol ∧ |x i - xs| ≤ xtol)) := by
  intro s x
  -- the returned bracket is the shrink of some iterate of the body (`goldPoints` moves no end point): on lane `i`, of a scalar iterate
  obtain ⟨k, hk, hab, hexit⟩ : ∃ k < maxiter,
      (s.a i, s.b i) = GLane.shrink (f i) ((GLane.step gr (f i))^[k] (s0.lane i)) ∧
      (k + 1 = maxiter ∨ (s.xerr ≤ xtol ∧ |s.b i - s.a i| ≤ s.xerr)) := by
    rcases goldLoop_iterate gr f xtol maxiter s0 with h | ⟨k, hk, h, hx⟩
    · obtain ⟨k, rfl⟩ : ∃ k, maxiter = k + 1 := ⟨maxiter - 1, by omega⟩
      refine ⟨k, Nat.lt_succ_self k, ?_, Or.inl rfl⟩
      rw [← gold_lane_iterate, ← goldShrink_lane]
      show (s.a i, s.b i) = _
      rw [show s = _ from h, Function.iterate_succ_apply']
      rfl
    · refine ⟨k, hk, ?_, Or.inr ⟨hx, ?_⟩⟩
      · rw [← gold_lane_iterate, ← goldShrink_lane, ← show s = _ from h]
      · rw [show s = _ from h]; exact goldShrink_xerr f _ i
  obtain ⟨w1, hw1, hq⟩ := GLane.step_iterate hg1 hg2 hu k (s0.lane i)
    ⟨le_rfl, le_rfl, hac, hcd, hdb, hu.mem_lo, hu.mem_hi⟩
  rw [← hab] at hq
  have hpick : x i = s.a i ∨ x i = s.b i := (ite_eq_or_eq _ _ _).symm
  have hdist : |x i - xs| ≤ s.b i - s.a i := by
    rcases hpick with e | e <;> rw [e]
    · rw [abs_sub_comm, abs_of_nonneg (sub_nonneg.2 hq.left)]; exact sub_le_sub_right hq.right _
    · rw [abs_of_nonneg (sub_nonneg.2 hq.right)]; exact sub_le_sub_left hq.left _
  exact ⟨k, w1, hk, hw1, hq.lo, hq.left, hq.right, hq.hi, hq.width, hpick, hq.width ▸ hdist,
    hexit.imp id fun h => ⟨h.1, hdist.trans (((le_abs_self _).trans h.2).trans h.1)⟩⟩

theorem goldInitSorted_order {n : Nat} (gr : K) (hg1 : 1 / 2 < gr) (hg2 : gr < 1) (a0 b0 c : Vec K n) (i : Fin n)
    (hab : a0 i < b0 i) (hc1 : a0 i < c i) (hc2 : c i < b0 i) :
    a0 i < (goldInitSorted gr a0 b0 (some c)).c i ∧
      (goldInitSorted gr a0 b0 (some c)).c i < (goldInitSorted gr a0 b0 (some c)).d i ∧
      (goldInitSorted gr a0 b0 (some c)).d i < b0 i := by
  obtain ⟨o1, o2, o3⟩ := gold_points_order hg1 hg2 hab
  simp only [goldInitSorted]
  rcases lt_trichotomy (c i) (a0 i + gr * (b0 i - a0 i)) with h | h | h
  · simp only [if_pos h]
    exact ⟨hc1, h, o3⟩
  · simp only [h, lt_self_iff_false, if_false]
    exact ⟨o1, o2, o3⟩
  · simp only [if_neg (lt_asymm h), if_pos h]
    exact ⟨o1.trans o2, h, hc2⟩

end Scico.LinSolve
