/-
  The dispatch data of the hand-written model is DERIVED from the source tables (`Scico.OpAlg.Tables.model`, kept equal
  to the scico working tree by the generated obligation `Scico.Generated.OpAlgTables.tables_ok`):

  * `Cls.isSub`   = reachability along the `bases` of the table (Python's `isinstance`),
  * `Cls.arith`   = the first class of the MRO that defines `__add__` (whose `__add__/__sub__/__mul__/__truediv__` a
                    class inherits),
  * the wrapper each class's `__add__` is decorated with decides the branch of `addSub`,
  * the class that owns `T / H / conj / gram_op` decides the branch of `opT / opH / opConj / opGram`,
  * the shape / dtype arguments of every generic derived constructor are the metadata the model's functions declare.
-/
import Scico.Proofs.OpAlgInv
import Scico.Model.OpAlgTables

namespace Scico.OpAlg.Tables
open Scico.OpAlg Scico.DType

def tagOf : Cls → String
  | .op => "op" | .linop => "linop" | .composed => "composed" | .diag => "diag"
  | .scaledId => "scaledId" | .ident => "ident" | .matrix => "matrix"

def allCls : List Cls := [.op, .linop, .composed, .diag, .scaledId, .ident, .matrix]

def rowOfTag (t : Tables) (tag : String) : Option ClassRow := t.classes.find? (·.tag = tag)
def rowOfName (t : Tables) (n : String) : Option ClassRow :=
  (t.classes.filter (fun r => r.tag ∈ allCls.map tagOf)).find? (·.name = n)

/-- linearised ancestry of a class (single inheritance among the seven classes of the calculus), fuel-bounded -/
def mro (t : Tables) : Nat → String → List String
  | 0, _ => []
  | fuel + 1, tag =>
    match rowOfTag t tag with
    | none => []
    | some r =>
      tag :: (match r.bases with
        | [b] => (match rowOfName t b with | some p => mro t fuel p.tag | none => [])
        | _ => [])

def defines (t : Tables) (tag meth : String) : Bool :=
  match rowOfTag t tag with
  | some r => r.defs.any (·.1 = meth)
  | none => false

def decoratorOf (t : Tables) (tag meth : String) : Option String :=
  (rowOfTag t tag).bind (fun r => (r.defs.find? (·.1 = meth)).map (·.2))

/-- the first class along the MRO that defines `meth` (fuel 8: the hierarchy has seven classes) -/
def owner (t : Tables) (tag meth : String) : Option String := (mro t 8 tag).find? (fun c => defines t c meth)

/-- the decorator of the `__add__` / `__sub__` a class uses: none for `Operator`, `_wrap_add_sub_matrix` for
    `MatrixOperator`, `_wrap_add_sub` otherwise; `__mul__`/`__truediv__` are behind `_wrap_mul_div_scalar` except for
    `MatrixOperator` (`numpy.isscalar` inside the method) -/
def addWrapper : Cls → String
  | .op => ""
  | .matrix => "partial(_wrap_add_sub_matrix,op=operator.add)"
  | _ => "_wrap_add_sub"

def mulWrapper : Cls → String
  | .matrix => ""
  | _ => "_wrap_mul_div_scalar"

section
variable {α : Type} [Add α] [Sub α] [Mul α] [Div α] [Neg α] [Zero α] [One α] [HasConj α] [HasRe α]

/-- owners of the views: which class's `T / H / conj / gram_op` an object uses -/
def viewOwner (meth : String) : Cls → Option Cls
  | .op => none
  | .matrix => some .matrix
  | .linop | .composed => some .linop
  | .diag => some .diag
  | .scaledId => if meth = "T" ∨ meth = "H" then some .diag else some .scaledId
  | .ident => if meth = "T" ∨ meth = "H" then some .diag else some .ident

/-- **What the dispatch model takes from the class table of the source**, in one evaluation (the ancestry `mro` of each
    class is shared by the five facts): `Cls.isSub c d` (`isinstance`) is reachability along the bases; `Cls.arith c` is
    the first class of the MRO defining `__add__`, and the same class defines `__sub__`, `__mul__`, `__truediv__`; the
    decorators found there are `addWrapper`, `mulWrapper`; `MatrixOperator` and `Identity`/`LinearOperator` define the
    reflected methods the model gives priority to, `Operator` has no `__matmul__`; the views are owned by `viewOwner`. -/
theorem dispatch_from_table :
    (∀ c ∈ allCls, ∀ d ∈ allCls, ((mro model 8 (tagOf c)).contains (tagOf d)) = c.isSub d)
    ∧ (∀ c ∈ allCls,
        owner model (tagOf c) "__add__" = some (tagOf c.arith) ∧ owner model (tagOf c) "__sub__" = some (tagOf c.arith)
        ∧ owner model (tagOf c) "__mul__" = some (tagOf c.arith) ∧ owner model (tagOf c) "__truediv__" = some (tagOf c.arith))
    ∧ (∀ c ∈ allCls,
        decoratorOf model (tagOf c.arith) "__add__" = some (addWrapper c)
        ∧ decoratorOf model (tagOf c.arith) "__mul__" = some (mulWrapper c)
        ∧ decoratorOf model (tagOf c.arith) "__truediv__" = some (mulWrapper c))
    ∧ (defines model "matrix" "__radd__" = true ∧ defines model "matrix" "__rsub__" = true
        ∧ defines model "ident" "__rmatmul__" = true ∧ defines model "linop" "__rmatmul__" = true
        ∧ defines model "op" "__matmul__" = false ∧ defines model "op" "__rmatmul__" = false)
    ∧ (∀ c ∈ allCls, ∀ meth ∈ ["T", "H", "conj", "gram_op"],
        owner model (tagOf c) meth = (viewOwner meth c).map tagOf) := by
  decide +kernel

theorem reflected_from_table :
    defines model "matrix" "__radd__" = true ∧ defines model "matrix" "__rsub__" = true
    ∧ defines model "ident" "__rmatmul__" = true ∧ defines model "linop" "__rmatmul__" = true
    ∧ defines model "op" "__matmul__" = false ∧ defines model "op" "__rmatmul__" = false :=
  dispatch_from_table.2.2.2.1

/-- `conj` and `gram_op` are defined by each class of the `Diagonal` family itself (`diagConj` / `diagGram` branch on
    the class), by `MatrixOperator`, and by `LinearOperator` for the rest -/
theorem opConj_branch (cfg : Cfg) (a : Obj α) :
    opConj cfg a = (match viewOwner "conj" a.cls with
      | none => .error .other
      | some .matrix => .ok (matConjOp a)
      | some .linop => .ok (linConj a)
      | some _ => diagConj cfg a) := by
  unfold opConj
  cases a.cls <;> simp [viewOwner]

theorem opGram_branch (cfg : Cfg) (a : Obj α) :
    opGram cfg a = (match viewOwner "gram_op" a.cls with
      | none => .error .other
      | some .matrix => .ok (matGram a)
      | some .linop => .ok (linGram cfg a)
      | some _ => diagGram cfg a) := by
  unfold opGram
  cases a.cls <;> simp [viewOwner]

/-! ### metadata rules of the generic constructors = the constructor arguments of the source -/

def ctorRow (t : Tables) (tag meth : String) (idx : Nat) : Option CtorRow :=
  t.ctors.find? (fun r => r.tag = tag ∧ r.meth = meth ∧ r.idx = idx)

/-- meaning of a shape expression for `self` / the other operand (`other`, `x`; `self.A` = self, `self.B` = other in
    `ComposedLinearOperator`) -/
def semSh (self other : Meta) : SE → Option Shape
  | .attr o f =>
    let m? : Option Meta := if o = "self" ∨ o = "self.A" then some self
      else if o = "other" ∨ o = "x" ∨ o = "self.B" then some other else none
    m?.bind (fun m => if f = "input_shape" then some m.inShape else if f = "output_shape" then some m.outShape else none)
  | _ => none

/-- meaning of a dtype expression; `sk` = how a scalar operand (`other`, `scalar`) enters `result_type` -/
def semDt (self other : Meta) (sk : SK) : SE → Option DT
  | .attr o f =>
    let m? : Option Meta := if o = "self" ∨ o = "self.A" then some self
      else if o = "other" ∨ o = "x" ∨ o = "self.B" then some other else none
    m?.bind (fun m => if f = "input_dtype" then some m.inDt else if f = "output_dtype" then some m.outDt else none)
  | .rt a (.name _) => (semDt self other sk a).map (fun d => resultTypeS d sk)
  | .rt a b => do let x ← semDt self other sk a; let y ← semDt self other sk b; pure (resultType x y)
  | _ => none

/-- the declared metadata `res` is what the source row passes to the constructor (`sk`: the scalar operand of `* /`; rows
    without one are read at the dummy `.wFloat`) -/
def RowGives (r : Option CtorRow) (self other : Meta) (sk : SK) (res : Meta) : Prop :=
  ∃ row, r = some row ∧ semSh self other row.inSh = some res.inShape ∧ semSh self other row.outSh = some res.outShape
    ∧ semDt self other sk row.inDt = some res.inDt ∧ semDt self other sk row.outDt = some res.outDt

def CtorRow.sig (r : CtorRow) : SE × SE × SE × SE := (r.inSh, r.outSh, r.inDt, r.outDt)

theorem exists_row_of_sig {r : Option CtorRow} {a b c d : SE} (hr : r.map CtorRow.sig = some (a, b, c, d)) :
    ∃ row, r = some row ∧ row.inSh = a ∧ row.outSh = b ∧ row.inDt = c ∧ row.outDt = d := by
  cases r with
  | none => cases hr
  | some row =>
    simp only [Option.map_some, Option.some.injEq, CtorRow.sig, Prod.mk.injEq] at hr
    exact ⟨row, rfl, hr⟩

theorem RowGives.of_sig {r : Option CtorRow} {a b c d : SE} {self other : Meta} {sk : SK} {res : Meta}
    (hr : r.map CtorRow.sig = some (a, b, c, d))
    (h1 : semSh self other a = some res.inShape) (h2 : semSh self other b = some res.outShape)
    (h3 : semDt self other sk c = some res.inDt) (h4 : semDt self other sk d = some res.outDt) :
    RowGives r self other sk res := by
  obtain ⟨row, hrow, rfl, rfl, rfl, rfl⟩ := exists_row_of_sig hr
  exact ⟨row, hrow, h1, h2, h3, h4⟩

theorem semSh_self (s o : Meta) :
    semSh s o (.attr "self" "input_shape") = some s.inShape ∧ semSh s o (.attr "self" "output_shape") = some s.outShape := by
  simp [semSh]

theorem semDt_self (s o : Meta) (sk : SK) :
    semDt s o sk (.attr "self" "input_dtype") = some s.inDt ∧ semDt s o sk (.attr "self" "output_dtype") = some s.outDt := by
  simp [semDt]

theorem semDt_rt_other (s o : Meta) (sk : SK) :
    semDt s o sk (.rt (.attr "self" "output_dtype") (.attr "other" "output_dtype")) = some (resultType s.outDt o.outDt) := by
  simp [semDt, bind, Option.bind]

theorem semDt_rt_scalar (s o : Meta) (sk : SK) :
    semDt s o sk (.rt (.attr "self" "output_dtype") (.name "other")) = some (resultTypeS s.outDt sk) := by
  simp [semDt]

/-! the rows of the generic constructors as they stand in the table, one fact per signature -/

theorem rows_addSub : ∀ tag ∈ ["op", "linop"], ∀ meth ∈ ["__add__", "__sub__"],
    (ctorRow model tag meth 0).map CtorRow.sig = some (.attr "self" "input_shape", .attr "self" "output_shape",
      .attr "self" "input_dtype", .rt (.attr "self" "output_dtype") (.attr "other" "output_dtype")) := by
  decide +kernel

theorem rows_scalar : ∀ tm ∈ [("op", "__mul__"), ("op", "__rmul__"), ("op", "__truediv__"), ("linop", "__mul__"),
      ("linop", "__truediv__")],
    (ctorRow model tm.1 tm.2 0).map CtorRow.sig = some (.attr "self" "input_shape", .attr "self" "output_shape",
      .attr "self" "input_dtype", .rt (.attr "self" "output_dtype") (.name "other")) := by
  decide +kernel

/-- `LinearOperator.T` (both `return` statements: the complex and the real branch) and `.H` -/
theorem rows_transpose : ∀ mi ∈ [("T", 0), ("T", 1), ("H", 0)],
    (ctorRow model "linop" mi.1 mi.2).map CtorRow.sig = some (.attr "self" "output_shape", .attr "self" "input_shape",
      .attr "self" "output_dtype", .attr "self" "input_dtype") := by
  decide +kernel

theorem rows_single :
    (ctorRow model "linop" "conj" 0).map CtorRow.sig = some (.attr "self" "input_shape", .attr "self" "output_shape",
      .attr "self" "input_dtype", .attr "self" "output_dtype")
    ∧ (ctorRow model "linop" "gram_op" 0).map CtorRow.sig = some (.attr "self" "input_shape", .attr "self" "input_shape",
      .attr "self" "input_dtype", .attr "self" "input_dtype")
    ∧ (ctorRow model "composed" "__init__" 0).map CtorRow.sig = some (.attr "self.B" "input_shape",
      .attr "self.A" "output_shape", .attr "self.B" "input_dtype", .attr "self.A" "output_dtype")
    ∧ (ctorRow model "op" "__call__" 0).map CtorRow.sig = some (.attr "x" "input_shape", .attr "self" "output_shape",
      .attr "x" "input_dtype", .attr "self" "output_dtype") := by
  decide +kernel

theorem row_linAddSub (sub : Bool) (a b : Obj α) :
    RowGives (ctorRow model "linop" (if sub then "__sub__" else "__add__") 0) a.md b.md .wFloat (linAddSub sub a b).md :=
  .of_sig (rows_addSub "linop" (by simp) _ (by cases sub <;> simp)) (semSh_self _ _).1 (semSh_self _ _).2
    (semDt_self _ _ _).1 (semDt_rt_other _ _ _)

theorem row_opAddSub (sub : Bool) (a b o : Obj α) (h : opAddSub sub a b = .ok o) :
    RowGives (ctorRow model "op" (if sub then "__sub__" else "__add__") 0) a.md b.md .wFloat o.md := by
  obtain ⟨_, h⟩ := ite_ok_error h; cases h
  exact .of_sig (rows_addSub "op" (by simp) _ (by cases sub <;> simp)) (semSh_self _ _).1 (semSh_self _ _).2
    (semDt_self _ _ _).1 (semDt_rt_other _ _ _)

theorem row_opComp (a b o : Obj α) (h : opComp Cfg.fixed a b = .ok o) :
    RowGives (ctorRow model "op" "__call__" 0) a.md b.md .wFloat o.md := by
  obtain ⟨_, h⟩ := ite_ok_error h; cases h
  exact .of_sig rows_single.2.2.2 (by simp [semSh, mkOp]) (by simp [semSh, mkOp]) (by simp [semDt, mkOp, Cfg.fixed])
    (by simp [semDt, mkOp, Cfg.fixed])

theorem row_linComp (a b o : Obj α) (h : linComp a b = .ok o) :
    RowGives (ctorRow model "composed" "__init__" 0) a.md b.md .wFloat o.md := by
  obtain ⟨_, h⟩ := ite_error_ok h
  obtain ⟨_, h⟩ := ite_error_ok h
  cases h
  exact .of_sig rows_single.2.2.1 (by simp [semSh, mkLin]) (by simp [semSh, mkLin]) (by simp [semDt, mkLin])
    (by simp [semDt, mkLin])

theorem row_linMul (a o : Obj α) (c : Scal α) (h : linMul a c = .ok o) :
    RowGives (ctorRow model "linop" "__mul__" 0) a.md a.md c.kind.sk o.md := by
  obtain ⟨_, h⟩ := ite_ok_error h; cases h
  exact .of_sig (rows_scalar ("linop", "__mul__") (by simp)) (semSh_self _ _).1 (semSh_self _ _).2
    (semDt_self _ _ _).1 (semDt_rt_scalar _ _ _)

theorem row_linDiv (a o : Obj α) (c : Scal α) (h : linDiv a c = .ok o) :
    RowGives (ctorRow model "linop" "__truediv__" 0) a.md a.md c.kind.sk o.md := by
  obtain ⟨_, h⟩ := ite_ok_error h; cases h
  exact .of_sig (rows_scalar ("linop", "__truediv__") (by simp)) (semSh_self _ _).1 (semSh_self _ _).2
    (semDt_self _ _ _).1 (semDt_rt_scalar _ _ _)

theorem row_opMul (a o : Obj α) (c : Scal α) (h : opMul a c = .ok o) :
    RowGives (ctorRow model "op" "__mul__" 0) a.md a.md c.kind.sk o.md
    ∧ RowGives (ctorRow model "op" "__rmul__" 0) a.md a.md c.kind.sk o.md := by
  obtain ⟨_, h⟩ := ite_ok_error h; cases h
  exact ⟨.of_sig (rows_scalar ("op", "__mul__") (by simp)) (semSh_self _ _).1 (semSh_self _ _).2 (semDt_self _ _ _).1
      (semDt_rt_scalar _ _ _),
    .of_sig (rows_scalar ("op", "__rmul__") (by simp)) (semSh_self _ _).1 (semSh_self _ _).2 (semDt_self _ _ _).1
      (semDt_rt_scalar _ _ _)⟩

theorem row_opDiv (a o : Obj α) (c : Scal α) (h : opDiv a c = .ok o) :
    RowGives (ctorRow model "op" "__truediv__" 0) a.md a.md c.kind.sk o.md := by
  obtain ⟨_, h⟩ := ite_ok_error h; cases h
  exact .of_sig (rows_scalar ("op", "__truediv__") (by simp)) (semSh_self _ _).1 (semSh_self _ _).2
    (semDt_self _ _ _).1 (semDt_rt_scalar _ _ _)

theorem row_views (a : Obj α) :
    RowGives (ctorRow model "linop" "T" 0) a.md a.md .wFloat (linT a).md
    ∧ RowGives (ctorRow model "linop" "T" 1) a.md a.md .wFloat (linT a).md
    ∧ RowGives (ctorRow model "linop" "H" 0) a.md a.md .wFloat (linH a).md
    ∧ RowGives (ctorRow model "linop" "conj" 0) a.md a.md .wFloat (linConj a).md
    ∧ RowGives (ctorRow model "linop" "gram_op" 0) a.md a.md .wFloat (linGram Cfg.fixed a).md := by
  have hT : ∀ mi ∈ [("T", 0), ("T", 1)], RowGives (ctorRow model "linop" mi.1 mi.2) a.md a.md .wFloat (linT a).md := by
    intro mi hmi
    have hr := rows_transpose mi (List.mem_of_mem_take (i := 2) hmi)
    unfold linT; split <;>
      exact .of_sig hr (semSh_self _ _).2 (semSh_self _ _).1 (semDt_self _ _ _).2 (semDt_self _ _ _).1
  exact ⟨hT ("T", 0) (by simp), hT ("T", 1) (by simp),
    .of_sig (rows_transpose ("H", 0) (by simp)) (semSh_self _ _).2 (semSh_self _ _).1
      (semDt_self _ _ _).2 (semDt_self _ _ _).1,
    .of_sig rows_single.1 (semSh_self _ _).1 (semSh_self _ _).2 (semDt_self _ _ _).1 (semDt_self _ _ _).2,
    .of_sig rows_single.2.1 (semSh_self _ _).1 (semSh_self _ _).1 (semDt_self _ _ _).1 (semDt_self _ _ _).1⟩

/-! ### `Diagonal` closed forms: which `input_shape` / `input_dtype` the rebuilt `Diagonal` receives -/

theorem rows_diag_arith : ∀ meth ∈ ["__add__", "__sub__", "__mul__", "__truediv__"],
    (ctorRow model "diag" meth 0).map CtorRow.sig = some (.attr "self" "input_shape", .absent, .absent, .absent) := by
  decide +kernel

theorem rows_diag_views : ∀ meth ∈ ["conj", "gram_op"],
    (ctorRow model "diag" meth 0).map CtorRow.sig
      = some (.attr "self" "input_shape", .absent, .attr "self" "input_dtype", .absent) := by
  decide +kernel

theorem rows_diag_matmul : ∀ ti ∈ [("diag", 0), ("scaledId", 1)],
    (ctorRow model ti.1 "__matmul__" ti.2).map CtorRow.sig
      = some (.attr "other" "input_shape", .absent, .absent, .absent) := by
  decide +kernel

/-- the `input_shape=` argument of a rebuilt `Diagonal` -/
def shArg (self other : Meta) : SE → Option Shape
  | .attr o f => if f = "input_shape" then (if o = "self" then some self.inShape else if o = "other" then some other.inShape else none) else none
  | _ => none

/-- the `input_dtype=` argument of a rebuilt `Diagonal`: absent (the default: the dtype of the new diagonal) or the
    operand's input dtype -/
def dtArg (self : Meta) : SE → Option (Option DT)
  | .absent => some none
  | .attr o f => if o = "self" ∧ f = "input_dtype" then some (some self.inDt) else none
  | _ => none

end

end Scico.OpAlg.Tables
