/-
  2-D X-ray projector: the scatter-add is the two-bin matrix, mass conservation, the index / weight formulas of
  `_calc_weights` (views at the angles 0 and π/2, the detector covering the shadow; the range `(0, 1]` of the weights is
  `C04_xray_weight_range`, proved in `Props/C04.lean`).
-/
import Scico.Proofs.LinOps
import Mathlib.Algebra.Order.Field.Basic
import Mathlib.Algebra.Order.Ring.Abs

namespace Scico.LinOps
open Finset

section XRay
variable {K : Type} [CommRing K]

theorem fixNeg_eq_iff (ny : Nat) (i : Int) (b : Nat) (hb : b < ny) : fixNeg ny i = (b : Int) ↔ i = (b : Int) := by
  unfold fixNeg
  split <;> constructor <;> intro h <;> omega

theorem xray_eq_mulVec (np : Nat) (I : Nat → Int) (w x : V K) (ny : Nat)
    (b : Nat) (hb : b < ny) : xrayProject np I w x ny b = mulVec (xrayMatrix I w) np x b := by
  unfold xrayProject mulVec xrayMatrix
  simp only [hb, if_true]
  refine sumTo_congr (fun p _ => ?_)
  simp only [fixNeg_eq_iff ny _ b hb]
  split <;> split <;> ring

theorem sum_ite_int_eq (ny : Nat) (i : Int) (v : K) (h0 : 0 ≤ i) (h1 : i < ny) :
    ∑ b ∈ range ny, (if i = (b : Int) then v else 0) = v := by
  rw [sum_eq_single_of_mem i.toNat (mem_range.mpr (by omega))]
  · simp [Int.toNat_of_nonneg h0]
  · intro b _ hne
    have : ¬ (i = (b : Int)) := by intro h; apply hne; omega
    simp [this]

theorem binShare_sum (d : Nat) (I : Int) (a b : K) (h0 : 0 ≤ I) (h1 : I < d) (h2 : I + 1 < d ∨ b = 0) :
    ∑ r ∈ range d, binShare I a b r = a + b := by
  unfold binShare
  rw [sum_add_distrib, sum_ite_int_eq d I a h0 h1]
  rcases h2 with h2 | h2
  · rw [sum_ite_int_eq d (I + 1) b (by omega) h2]
  · subst h2; simp

/-- mass conservation of one view, `Σ_bins y = Σ_pixels x`, under the covering hypothesis in its exact form: the first bin of every
    pixel is on the detector and the second one is too or receives nothing (`w = 1`) -/
theorem xray_mass_covered (np : Nat) (I : Nat → Int) (w x : V K) (ny : Nat)
    (hI : ∀ p, p < np → 0 ≤ I p ∧ I p < ny ∧ (I p + 1 < ny ∨ w p = 1)) :
    sumTo ny (xrayProject np I w x ny) = sumTo np x := by
  rw [sumTo_congr fun b hb => xray_eq_mulVec np I w x ny b hb]
  refine sumTo_mulVec_of_colsum _ _ _ _ fun p hp => ?_
  obtain ⟨h0, h1, h2⟩ := hI p hp
  -- column `p` of `xrayMatrix` is `binShare (I p) (w p) (1 - w p)`
  exact (binShare_sum ny (I p) _ _ h0 h1 (h2.imp id fun h => by rw [h, sub_self])).trans (add_sub_cancel _ _)

end XRay

section XRayViews
variable {K : Type} [Field K] [LinearOrder K] [IsStrictOrderedRing K]

local instance : HasNat K := ⟨Nat.cast⟩
local instance : HasAbs K := ⟨abs⟩

omit [LinearOrder K] [IsStrictOrderedRing K] in
/-- pixels that share the first bin and the weight can be added up before the scatter -/
theorem xray_scatter_sum (s : Finset Nat) (ny : Nat) (I0 : Int) (w0 : K) (x : V K) (b : Nat) :
    ∑ j ∈ s, ((if fixNeg ny I0 = b then w0 * x j else 0) + (if fixNeg ny (I0 + 1) = b then (1 - w0) * x j else 0))
      = (if fixNeg ny I0 = b then w0 * ∑ j ∈ s, x j else 0)
        + (if fixNeg ny (I0 + 1) = b then (1 - w0) * ∑ j ∈ s, x j else 0) := by
  rw [sum_add_distrib, mul_sum, mul_sum]
  congr 1 <;> split <;> simp only [sum_const_zero]

omit [LinearOrder K] [IsStrictOrderedRing K] in
theorem xrayProject_rows (n0 n1 : Nat) (I : Nat → Int) (w x : V K) (I0 : Nat → Int) (w0 : V K) (ny : Nat)
    (hI : ∀ i j, i < n0 → j < n1 → I (i * n1 + j) = I0 i) (hw : ∀ i j, i < n0 → j < n1 → w (i * n1 + j) = w0 i)
    (b : Nat) : xrayProject (n0 * n1) I w x ny b = xrayProject n0 I0 w0 (rowSums n1 x) ny b := by
  unfold xrayProject rowSums
  split
  · simp only [sumTo_eq_sum]
    rw [sum_range_mul]
    refine sum_congr rfl (fun i hi => ?_)
    rw [← xray_scatter_sum]
    refine sum_congr rfl (fun j hj => ?_)
    rw [hI i j (mem_range.mp hi) (mem_range.mp hj), hw i j (mem_range.mp hi) (mem_range.mp hj)]
  · rfl

omit [LinearOrder K] [IsStrictOrderedRing K] in
theorem xrayProject_cols (n0 n1 : Nat) (I : Nat → Int) (w x : V K) (I1 : Nat → Int) (w1 : V K) (ny : Nat)
    (hI : ∀ i j, i < n0 → j < n1 → I (i * n1 + j) = I1 j) (hw : ∀ i j, i < n0 → j < n1 → w (i * n1 + j) = w1 j)
    (b : Nat) : xrayProject (n0 * n1) I w x ny b = xrayProject n1 I1 w1 (colSums n0 n1 x) ny b := by
  unfold xrayProject colSums
  split
  · simp only [sumTo_eq_sum]
    rw [sum_range_mul, sum_comm]
    refine sum_congr rfl (fun j hj => ?_)
    rw [← xray_scatter_sum]
    refine sum_congr rfl (fun i hi => ?_)
    rw [hI i j (mem_range.mp hi) (mem_range.mp hj), hw i j (mem_range.mp hi) (mem_range.mp hj)]
  · rfl

omit [LinearOrder K] [IsStrictOrderedRing K] in
theorem xrayProject_shift (n : Nat) (d : Nat) (s : V K) (ny : Nat) (b : Nat) (hb : b < ny) :
    xrayProject n (fun i => (d : Int) + i) (fun _ => 1) s ny b = if d ≤ b ∧ b < d + n then s (b - d) else 0 := by
  unfold xrayProject
  rw [if_pos hb, sumTo_eq_sum]
  have hfix : ∀ i : Nat, fixNeg ny ((d : Int) + i) = (d : Int) + i := fun i => by simp [fixNeg]; omega
  simp only [hfix, sub_self, zero_mul, ite_self, add_zero, one_mul]
  split
  · rename_i h
    rw [sum_eq_single_of_mem (b - d) (mem_range.mpr (by omega))]
    · rw [if_pos (by omega)]
    · intro i _ hne; rw [if_neg (by omega)]
  · rename_i h
    exact sum_eq_zero (fun i hi => by rw [if_neg (by have := mem_range.mp hi; omega)])

/-- a pixel whose projected left edge is the integer `m`, with a footprint of width 1, falls into bin `m` with weight 1
    (`floor` of an integer is itself: the only property of `floor` used) -/
theorem xray_aligned (g : XGeom K) (fl : K → Int) (hfl : ∀ z : Int, fl (z : K) = z) (m : Int) (i j : Nat)
    (hpx : g.px i j = (m : K)) (hw : g.width = 1) : g.ind fl i j = m ∧ g.wt fl (fun z => (z : K)) i j = 1 := by
  refine ⟨by rw [XGeom.ind, hpx, hfl], ?_⟩
  rw [XGeom.wt, hw, hpx, hfl]
  simp [HasNat.nat]

/-- angle 0, unit pixels along the first axis, pixel edges on bin edges (`x0[0] − y0 = d ∈ ℕ`): bins `d + i`,
    all weights 1 -/
theorem xray_angle0_weights (g : XGeom K) (fl : K → Int) (hfl : ∀ z : Int, fl (z : K) = z) (d : Nat)
    (hu0 : g.u0 = 1) (hu1 : g.u1 = 0) (hdx : g.dxa = 1) (hd : g.x0a - g.y0 = d) (i j : Nat) :
    g.ind fl i j = (d : Int) + i ∧ g.wt fl (fun z => (z : K)) i j = 1 := by
  refine xray_aligned g fl hfl _ i j ?_ ?_
  · simp only [XGeom.px, hu0, hu1, hdx, mul_one, mul_zero, add_zero, zero_mul, hd, min_self,
      min_eq_left (le_add_of_nonneg_right (zero_le_one (α := K)))]
    push_cast; simp [HasNat.nat]
  · simp only [XGeom.width, hu0, hu1, hdx, mul_one, zero_mul, add_zero, sub_zero, max_self, min_self]
    simp [HasAbs.abs, HasNat.nat]

/-- angle π/2 (`u = (0, 1)`), unit pixels along the second axis, aligned edges: bins `d + j`, weights 1 -/
theorem xray_angle90_weights (g : XGeom K) (fl : K → Int) (hfl : ∀ z : Int, fl (z : K) = z) (d : Nat)
    (hu0 : g.u0 = 0) (hu1 : g.u1 = 1) (hdx : g.dxb = 1) (hd : g.x0b - g.y0 = d) (i j : Nat) :
    g.ind fl i j = (d : Int) + j ∧ g.wt fl (fun z => (z : K)) i j = 1 := by
  refine xray_aligned g fl hfl _ i j ?_ ?_
  · simp only [XGeom.px, hu0, hu1, hdx, mul_one, mul_zero, add_zero, zero_mul, zero_add, hd, min_self,
      min_eq_left (le_add_of_nonneg_right (zero_le_one (α := K)))]
    push_cast; simp [HasNat.nat]
  · simp only [XGeom.width, hu0, hu1, hdx, mul_one, zero_mul, zero_add, zero_sub]
    simp [HasAbs.abs, HasNat.nat]

def FloorContract (fl : K → Int) : Prop := ∀ z : K, ((fl z : Int) : K) ≤ z ∧ z < ((fl z : Int) : K) + 1

namespace FloorContract
variable {fl : K → Int} (h : FloorContract fl)
include h

theorem lt_of_lt {z : K} {m : Int} (hz : z < (m : K)) : fl z < m := Int.cast_lt.mp ((h z).1.trans_lt hz)

theorem le_of_le {z : K} {m : Int} (hz : (m : K) ≤ z) : m ≤ fl z :=
  Int.lt_add_one_iff.mp (Int.cast_lt.mp (by push_cast; exact hz.trans_lt (h z).2))

end FloorContract

/-- if the detector covers the shadow of a pixel, `0 ≤ Px` and `Px + 1 < ny`, both of its bins are on the detector -/
theorem xray_ind_on_detector (g : XGeom K) (fl : K → Int) (hfl : FloorContract fl) (ny : Nat) (i j : Nat)
    (h0 : 0 ≤ g.px i j) (h1 : g.px i j + 1 < (ny : K)) :
    0 ≤ g.ind fl i j ∧ g.ind fl i j + 1 < ny := by
  refine ⟨hfl.le_of_le (m := 0) (by rwa [Int.cast_zero]), ?_⟩
  have := hfl.lt_of_lt (z := g.px i j) (m := (ny : Int) - 1)
    (by rw [Int.cast_sub, Int.cast_natCast, Int.cast_one]; exact lt_sub_iff_add_lt.mpr h1)
  unfold XGeom.ind; omega

/-- a footprint `[le, le + w]` (`0 < w`) inside the detector `[0, d]`: its first bin `floor le` is on the detector, and
    the next one is too or receives nothing (the share `min(floor le + 1 − le, w)` of the first bin is all of `w`) -/
theorem floor_cover (fl : K → Int) (hfl : FloorContract fl) (w le : K) (hw : 0 < w) (d : Nat)
    (h0 : 0 ≤ le) (h1 : le + w ≤ (d : K)) :
    0 ≤ fl le ∧ fl le < d ∧ (fl le + 1 < d ∨ min (((fl le : Int) : K) + 1 - le) w = w) := by
  refine ⟨hfl.le_of_le (m := 0) (by rwa [Int.cast_zero]), hfl.lt_of_lt (m := d) ?_, ?_⟩
  · rw [Int.cast_natCast]; exact (lt_add_of_pos_right le hw).trans_le h1
  · by_cases h : fl le + 1 < d
    · exact Or.inl h
    · have : ((d : Int) : K) ≤ ((fl le + 1 : Int) : K) := Int.cast_le.mpr (not_lt.mp h)
      rw [Int.cast_natCast, Int.cast_add, Int.cast_one] at this
      exact Or.inr (min_eq_right (le_sub_iff_add_le'.mpr (h1.trans this)))

/-- 2-D: a pixel whose boxcar `[Px, Px + width]` lies on the detector `[0, ny]` -/
theorem xray2_cover (g : XGeom K) (fl : K → Int) (hfl : FloorContract fl) (hw : 0 < g.width) (ny : Nat) (i j : Nat)
    (h0 : 0 ≤ g.px i j) (h1 : g.px i j + g.width ≤ (ny : K)) :
    0 ≤ g.ind fl i j ∧ g.ind fl i j < ny ∧ (g.ind fl i j + 1 < ny ∨ g.wt fl (fun z => (z : K)) i j = 1) := by
  obtain ⟨a, b, c⟩ := floor_cover fl hfl g.width (g.px i j) hw ny h0 h1
  refine ⟨a, b, c.imp id (fun h => ?_)⟩
  have e : (1 : K) - (g.px i j - ((fl (g.px i j) : Int) : K)) = ((fl (g.px i j) : Int) : K) + 1 - g.px i j := by ring
  simp only [XGeom.wt, HasNat.nat, Nat.cast_one, e, h, div_self hw.ne']

end XRayViews

end Scico.LinOps
