/-
  `IterateData` (`Scico.Model.Flax` §3): reshape into rows, the iterator state in closed form, and the link
  between the state machine and the closed-form `specBatch`.
-/
import Scico.Model.Flax

namespace Scico.Flax

theorem reshapeRows_length (l : List Nat) (rows cols : Nat) : (reshapeRows l rows cols).length = rows := by
  simp [reshapeRows]

theorem reshapeRows_get (l : List Nat) (rows cols i : Nat) (hi : i < rows) :
    (reshapeRows l rows cols)[i]? = some ((l.drop (i * cols)).take cols) := by
  simp [reshapeRows, hi]

theorem reshapeRows_get_none (l : List Nat) (rows cols i : Nat) (hi : rows ≤ i) :
    (reshapeRows l rows cols)[i]? = none := by
  simp [reshapeRows, hi]

theorem reshapeRows_succ (l : List Nat) (rows cols : Nat) :
    reshapeRows l (rows + 1) cols = reshapeRows l rows cols ++ [(l.drop (rows * cols)).take cols] := by
  simp [reshapeRows, List.range_succ]

theorem flatten_reshapeRows (l : List Nat) (rows cols : Nat) :
    (reshapeRows l rows cols).flatten = l.take (rows * cols) := by
  induction rows with
  | zero => simp [reshapeRows]
  | succ r ih =>
    rw [reshapeRows_succ, List.flatten_append, ih, Nat.succ_mul, List.take_add]
    simp

theorem row_end_le {rows cols i m : Nat} (hi : i < rows) (hm : rows * cols ≤ m) : i * cols + cols ≤ m :=
  Nat.le_trans (Nat.succ_mul i cols ▸ Nat.mul_le_mul_right cols hi) hm

theorem reshapeRows_row_length (l : List Nat) (rows cols : Nat) (hl : rows * cols ≤ l.length) :
    ∀ r ∈ reshapeRows l rows cols, r.length = cols := by
  intro r hr
  obtain ⟨i, hi, rfl⟩ := List.mem_map.mp hr
  rw [List.length_take, List.length_drop]
  exact Nat.min_eq_left (Nat.le_sub_of_add_le' (row_end_le (List.mem_range.mp hi) hl))

theorem reshapeRows_take (l : List Nat) (rows cols : Nat) :
    reshapeRows (l.take (rows * cols)) rows cols = reshapeRows l rows cols := by
  unfold reshapeRows
  refine List.map_congr_left fun i hi => ?_
  rw [List.drop_take, List.take_take,
    Nat.min_eq_left (Nat.le_sub_of_add_le' (row_end_le (List.mem_range.mp hi) (Nat.le_refl _)))]

section State
variable {κ : Type} (K : KeyOps κ) (key : κ) (n b : Nat) (train : Bool)

theorem epochPerm_eval (e : Nat) : epochPerm K key n false e = List.range n := rfl

/-- The state in epoch `e` after `j` of its batches have been handed out.  Every field of the iterator is a
    function of `(key, n, b, mode)` and of these two counters.  Not canonical at the epoch boundary: `stateAt e (n / b)`
    and `stateAt (e + 1) 0` are different records with the same future, which is why `next_stateAt` only says that
    SOME `stateAt` is reached (and `run_stateAt` does not name the state it ends in). -/
def stateAt (e j : Nat) : Iter κ :=
  { n := n, b := b, train := train, key := if train then chain K key (e + 1) else key, spe := n / b,
    perms := reshapeRows (epochPerm K key n train e) (n / b) b, ns := j }

/-- `reset` without the truncation to whole batches, which `reshape` makes anyway -/
theorem reset_eq (it : Iter κ) :
    Iter.reset K it =
      { it with key := if it.train then (K.split it.key).1 else it.key, ns := 0,
                perms := reshapeRows (if it.train then K.permutation (K.split it.key).2 it.n else List.range it.n)
                  it.spe it.b } := by
  cases h : it.train <;> simp only [Iter.reset, h, reshapeRows_take] <;> rfl

theorem init_stateAt (hb : b ≠ 0) : Iter.init K n b train key = .ok (stateAt K key n b train 0 0) := by
  rw [Iter.init, if_neg hb, reset_eq]
  cases train <;> rfl

theorem next_stateAt_lt (e j : Nat) (hj : j < n / b) :
    Iter.next K (stateAt K key n b train e j) =
      .ok (stateAt K key n b train e (j + 1), ((epochPerm K key n train e).drop (j * b)).take b) := by
  have hlt : ¬ (stateAt K key n b train e j).ns ≥ (stateAt K key n b train e j).spe := Nat.not_le.mpr hj
  rw [Iter.next, if_neg hlt]
  simp only [stateAt, reshapeRows_get _ _ _ _ hj]

theorem next_stateAt_end (e : Nat) :
    Iter.next K (stateAt K key n b train e (n / b)) =
      match (reshapeRows (epochPerm K key n train (e + 1)) (n / b) b)[0]? with
      | none => .error .index
      | some rows => .ok (stateAt K key n b train (e + 1) 1, rows) := by
  have hge : (stateAt K key n b train e (n / b)).ns ≥ (stateAt K key n b train e (n / b)).spe := Nat.le_refl _
  rw [Iter.next, if_pos hge, reset_eq]
  cases train <;> rfl

theorem specBatch_epoch (e j : Nat) (hj : j < n / b) :
    specBatch K key n b train (e * (n / b) + j) = ((epochPerm K key n train e).drop (j * b)).take b := by
  simp only [specBatch]
  rw [Nat.mul_comm e, Nat.mul_add_div (Nat.zero_lt_of_lt hj), Nat.div_eq_of_lt hj, Nat.mul_add_mod, Nat.mod_eq_of_lt hj,
    Nat.add_zero]

theorem next_stateAt (e j : Nat) (hj : j ≤ n / b) (hspe : 0 < n / b) :
    ∃ e' j', Iter.next K (stateAt K key n b train e j) =
        .ok (stateAt K key n b train e' j', specBatch K key n b train (e * (n / b) + j)) ∧
      j' ≤ n / b ∧ e' * (n / b) + j' = e * (n / b) + j + 1 := by
  rcases Nat.lt_or_eq_of_le hj with hlt | rfl
  · exact ⟨e, j + 1, by rw [next_stateAt_lt K key n b train e j hlt, specBatch_epoch K key n b train e j hlt], hlt, rfl⟩
  · refine ⟨e + 1, 1, ?_, hspe, by rw [Nat.succ_mul]⟩
    rw [next_stateAt_end, reshapeRows_get _ _ _ _ hspe, ← specBatch_epoch K key n b train (e + 1) 0 hspe, Nat.succ_mul]
    rfl

theorem run_stateAt (hspe : 0 < n / b) : ∀ (t e j : Nat), j ≤ n / b →
    ∃ it', Iter.run K t (stateAt K key n b train e j) =
      .ok (it', (List.range' (e * (n / b) + j) t).map (specBatch K key n b train)) := by
  intro t
  induction t with
  | zero => intro e j _; exact ⟨_, rfl⟩
  | succ t ih =>
    intro e j hj
    obtain ⟨e1, j1, hnext, hj1, hT⟩ := next_stateAt K key n b train e j hj hspe
    obtain ⟨it2, hrun⟩ := ih e1 j1 hj1
    exact ⟨it2, by simp only [Iter.run, hnext, hrun, hT, List.range'_succ, List.map_cons]⟩

end State

theorem epoch_rows {κ : Type} (K : KeyOps κ) (key : κ) (n b : Nat) (train : Bool) (e : Nat) (hspe : 0 < n / b) :
    (List.range (n / b)).map (fun j => specBatch K key n b train (e * (n / b) + j)) =
      reshapeRows (epochPerm K key n train e) (n / b) b := by
  -- `hspe` is not used: the statement holds without it
  exact List.map_congr_left fun j hj => specBatch_epoch K key n b train e j (List.mem_range.mp hj)

end Scico.Flax
