/-
  SPECIFICATIONS for property C15 — written independently of `Model/Driver`'s state
  (`t0`, `td`, the dictionary): everything here is a function of the *history of calls* only.
  Mathlib-free and executable (the driver also evaluates the specification at run time).

  * ideal stop-watch over a call history (`specElapsed`)
  * what a run of `solve` should record (`worldAt`, `stepTime`, `specRow`, `specCb`, …)
-/
import Scico.Model.Driver

namespace Scico.Driver.Spec

/-! ## Ideal stop-watch -/

/-- constructor arguments of the timer object -/
structure Cfg (L : Type) where
  init : Arg L
  dflt : L
  all : L
deriving Repr

section
variable {L : Type} [DecidableEq L]

def Cfg.initLabels (c : Cfg L) : List L :=
  match c.init with
  | .none => []
  | .one l => [l]
  | .many ls => ls

/-- labels named by a `start` call (API documentation: `None` means the default label) -/
def Cfg.startLabels (c : Cfg L) : Arg L → List L
  | .none => [c.dflt]
  | .one l => [l]
  | .many ls => ls

/-- a label *exists* after the calls `pre` iff it was given to the constructor or named in an
    earlier `start` call -/
def known (c : Cfg L) (pre : List (Call L)) (l : L) : Bool :=
  c.initLabels.contains l ||
    pre.any (fun k => k.op == .start && (c.startLabels k.arg).contains l)

/-- the explicit label list of a `stop`/`reset` call, `none` when the call addresses every
    existing label (`all_label`, also through the default label) -/
def Cfg.explicitTargets (c : Cfg L) : Arg L → Option (List L)
  | .none => if c.dflt = c.all then none else some [c.dflt]
  | .one l => if l = c.all then none else some [l]
  | .many ls => some ls

/-- does the call (issued after `pre`) deliver an event to label `l`?
    * `start` reaches every label it names;
    * `stop`/`reset` of *all* reaches every existing label;
    * `stop`/`reset` of an explicit list reaches the labels before the first non-existing one
      (that one raises `KeyError` and ends the call). -/
def reaches (c : Cfg L) (pre : List (Call L)) (k : Call L) (l : L) : Bool :=
  match k.op with
  | .start => (c.startLabels k.arg).contains l
  | _ =>
    match c.explicitTargets k.arg with
    | none => known c pre l
    | some ls => (ls.takeWhile (known c pre)).contains l

/-- does the call raise `KeyError`?  exactly when it is a `stop`/`reset` naming, in an explicit
    list, a label that does not exist -/
def raisesKey (c : Cfg L) (pre : List (Call L)) (k : Call L) : Bool :=
  match k.op with
  | .start => false
  | _ =>
    match c.explicitTargets k.arg with
    | none => false
    | some ls => !(ls.all (known c pre))

/-- the events (time, operation) label `l` receives from the calls `h` issued after `pre` -/
def labelHistoryFrom (c : Cfg L) (l : L) : List (Call L) → List (Call L) → List (Nat × Op)
  | _, [] => []
  | pre, k :: rest =>
    (if reaches c pre k l then [(k.time, k.op)] else []) ++ labelHistoryFrom c l (pre ++ [k]) rest

def labelHistory (c : Cfg L) (h : List (Call L)) (l : L) : List (Nat × Op) :=
  labelHistoryFrom c l [] h

end

/-- the most recent event at or before the beginning of tick `s` -/
def lastBefore (es : List (Nat × Op)) (s : Nat) : Option Op :=
  ((es.filter (fun e => e.1 ≤ s)).getLast?).map (·.2)

/-- the watch runs during tick `s` (the interval `[s, s+1)`) iff the most recent event of the
    label at or before `s` is a `start` -/
def runningAt (es : List (Nat × Op)) (s : Nat) : Bool := lastBefore es s == some .start

/-- time of the most recent `reset` (0 if there is none: then every tick qualifies) -/
def lastResetTime (es : List (Nat × Op)) : Nat :=
  match (es.filter (fun e => e.2 == .reset)).getLast? with
  | some e => e.1
  | none => 0

/-- tick `s` counts towards the total: not before the last reset, and running -/
def counted (es : List (Nat × Op)) (s : Nat) : Bool :=
  decide (lastResetTime es ≤ s) && runningAt es s

/-- `elapsed(total=True)`: number of ticks before `now` that count -/
def specTotal (es : List (Nat × Op)) (now : Nat) : Nat := (List.range now).countP (counted es)

/-- the maximal trailing run of `start` events -/
def trailingStarts (es : List (Nat × Op)) : List (Nat × Op) :=
  (es.reverse.takeWhile (fun e => e.2 == .start)).reverse

/-- `elapsed(total=False)`: time since the first `start` of the trailing run of `start`s
    (the most recent start without a later stop/reset), 0 if not running -/
def specCurrent (es : List (Nat × Op)) (now : Nat) : Nat :=
  match (trailingStarts es).head? with
  | some e => now - e.1
  | none => 0

section
variable {L : Type} [DecidableEq L]

/-- what `elapsed(label, total)` must return at time `now` after the calls `h`;
    `none` = `KeyError` (explicit label that does not exist) -/
def specElapsed (c : Cfg L) (h : List (Call L)) (label : Option L) (total : Bool) (now : Nat) :
    Option Nat :=
  let l := label.getD c.dflt
  if known c h l then
    some (if total then specTotal (labelHistory c h l) now else specCurrent (labelHistory c h l) now)
  else if label.isNone then some 0
  else none

/-- clock values along a history never decrease and none is after `now` -/
def Monotone (h : List (Call L)) (now : Nat) : Prop :=
  h.Pairwise (fun a b => a.time ≤ b.time) ∧ ∀ k ∈ h, k.time ≤ now

end

/-! ## What `solve` must do -/

section
variable {ω ρ ξ α : Type}

/-- effect of the (optional) callback on the state -/
def cbRun (cb : Option (Callback ω)) (w : ω) : ω :=
  match cb with
  | none => w
  | some c => c.run w

def cbTicks (cb : Option (Callback ω)) (w : ω) : Nat :=
  match cb with
  | none => 0
  | some c => c.ticks w

/-- one full iteration: `step()` then the callback -/
def iterWorld (E : Env ω ρ ξ α) (cb : Option (Callback ω)) (w : ω) : ω := cbRun cb (E.step w)

/-- state at the beginning of iteration `k` (0-based) -/
def worldAt (E : Env ω ρ ξ α) (cb : Option (Callback ω)) (w : ω) : Nat → ω
  | 0 => w
  | k + 1 => iterWorld E cb (worldAt E cb w k)

/-- state right after the `step()` of iteration `k`: what the accessors, the NaN test and the
    callback see -/
def afterStep (E : Env ω ρ ξ α) (cb : Option (Callback ω)) (w : ω) (k : Nat) : ω :=
  E.step (worldAt E cb w k)

/-- specification of "some working variable holds a non-finite value": there is a variable
    and, in it, an entry (of any block) that is not finite -/
def hasNonFinite (fin : α → Bool) (vars : List (Var α)) : Prop :=
  ∃ v ∈ vars, match v with
    | .plain xs => ∃ x ∈ xs, fin x = false
    | .block bs => ∃ b ∈ bs, ∃ x ∈ b, fin x = false

/-- iteration `k` trips the NaN stop -/
def tripsAt (E : Env ω ρ ξ α) (cb : Option (Callback ω)) (w : ω) (nanstop : Bool) (k : Nat) : Prop :=
  nanstop = true ∧ hasNonFinite E.fin (E.vars (afterStep E cb w k))

/-- total duration of the `step()` calls of the first `n` iterations — no callback time in it -/
def stepTime (E : Env ω ρ ξ α) (cb : Option (Callback ω)) (w : ω) (n : Nat) : Nat :=
  ((List.range n).map (fun j => E.stepTicks (worldAt E cb w j))).sum

/-- total duration of the callbacks of the first `n` iterations -/
def cbTime (E : Env ω ρ ξ α) (cb : Option (Callback ω)) (w : ω) (n : Nat) : Nat :=
  ((List.range n).map (fun j => cbTicks cb (afterStep E cb w j))).sum

/-- the record iteration `k` must produce when the loop starts with counter value `i0`,
    state `w` and `e0` ticks already on the default timer: numbered `i0 + k`, reporting the time
    spent in the `step()` calls so far (and nothing of the callbacks), with the accessor values
    of the state right after the step -/
def specRow (E : Env ω ρ ξ α) (cb : Option (Callback ω)) (w : ω) (i0 : Int) (e0 : Nat) (k : Nat) :
    Row ρ :=
  ⟨i0 + k, e0 + stepTime E cb w (k + 1), E.fields (afterStep E cb w k)⟩

/-- the callback invocation iteration `k` must produce (`c0` = clock when the loop starts) -/
def specCb (E : Env ω ρ ξ α) (cb : Option (Callback ω)) (w : ω) (i0 : Int) (c0 : Nat) (k : Nat) :
    CbRec ω :=
  let enter := c0 + stepTime E cb w (k + 1) + cbTime E cb w k
  ⟨i0 + k, afterStep E cb w k, enter, enter + cbTicks cb (afterStep E cb w k)⟩

/-- the two timer calls that bracket the callback of iteration `k` -/
def specBracket {L : Type} (E : Env ω ρ ξ α) (cb : Option (Callback ω)) (w : ω) (c0 : Nat) (k : Nat) :
    List (Call L) :=
  [⟨(specCb E cb w 0 c0 k).enter, .stop, .none⟩, ⟨(specCb E cb w 0 c0 k).leave, .start, .none⟩]

end

end Scico.Driver.Spec
