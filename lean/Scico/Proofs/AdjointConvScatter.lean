/-
  Adjoint engine: hand-written adjoints.  `CircularConvolve` in the signal domain (incl. the sum over a broadcast batch
  axis) and as coded in the transform domain (`ifftn(h_dft · fftn(x))`, given only `ifftn = s·fftnᴴ` with `s` real; the N-d
  DFT as a Kronecker product); the X-ray projectors (scatter-add with drop  vs  gather with fill / clamp) and the slab loops of
  `XRayTransform3D._project` / `_back_project` (volume processed in chunks of `MAX_SLICE_LEN` slices, indices recomputed
  per chunk with `slice_offset`), which compute the whole-volume scatter / gather; `padMap`, the index map of zero padding (its theorem is `C01_pad_adj_is_crop`).
-/
import Scico.Proofs.AdjointMatrix

namespace Scico.Adjoint
open Finset

theorem rot_cancel {n i a b : Nat} (hi : i < n) (h : (a + b) % n = 0) : ((i + a) % n + b) % n = i := by
  rw [Nat.mod_add_mod, Nat.add_assoc, Nat.add_mod, h, Nat.add_zero, Nat.mod_mod, Nat.mod_eq_of_lt hi]

theorem add_compl_mod {n : Nat} (hn : 0 < n) (j : Nat) : (j + (n - j % n)) % n = 0 := by
  have h : j + (n - j % n) = (j / n + 1) * n := by
    have := Nat.div_add_mod j n
    have := Nat.mod_lt j hn
    rw [Nat.add_mul, Nat.one_mul, Nat.mul_comm]
    omega
  rw [h, Nat.mul_mod_left]

theorem sum_range_rot {M : Type} [AddCommMonoid M] (n j : Nat) (f : Nat → M) :
    ∑ i ∈ range n, f ((i + j) % n) = ∑ i ∈ range n, f i := by
  rcases Nat.eq_zero_or_pos n with rfl | hn
  · simp
  apply Finset.sum_nbij' (fun i => (i + j) % n) (fun i => (i + (n - j % n)) % n)
  · intro i _; exact Finset.mem_range.mpr (Nat.mod_lt _ hn)
  · intro i _; exact Finset.mem_range.mpr (Nat.mod_lt _ hn)
  · intro i hi; exact rot_cancel (Finset.mem_range.mp hi) (add_compl_mod hn j)
  · intro i hi; exact rot_cancel (Finset.mem_range.mp hi) (by rw [Nat.add_comm]; exact add_compl_mod hn j)
  · intro i _; rfl

section
variable {K : Type} [Field K] [StarRing K]

theorem circ_isAdj (n : Nat) (h : V K) : IsAdj (Op.circ n h) := by
  intro x y
  simp only [Op.circ, circConv, circCorr, ip_eq, sumTo_eq, conj_eq_star, star_sum, star_mul', star_star,
    Finset.sum_mul, Finset.mul_sum]
  rw [Finset.sum_comm]
  conv_rhs => rw [Finset.sum_comm]
  apply Finset.sum_congr rfl
  intro j hj
  have hj' : j < n := Finset.mem_range.mp hj
  -- Σ_i h_j x_{(i+(n-j))%n} star(y_i)  =  Σ_i x_i h_j star(y_{(i+j)%n})   by  i ↦ (i+j) % n
  rw [← sum_range_rot n j (fun i => h j * x ((i + (n - j)) % n) * star (y i))]
  apply Finset.sum_congr rfl
  intro i hi
  have hi' : i < n := Finset.mem_range.mp hi
  have e : ((i + j) % n + (n - j)) % n = i :=
    rot_cancel hi' (by rw [Nat.add_sub_cancel' hj'.le, Nat.mod_self])
  rw [e]
  ring

/-- several filters applied to one signal (`h` of shape `(k,n)`, input of shape `(n,)`): the adjoint sums the
    correlations over the broadcast batch axis -/
theorem circBatch_isAdj (k n : Nat) (h : V K) : IsAdj (Op.circBatch k n h) := by
  intro x y
  simp only [Op.circBatch]
  have e0 : k * n = k * (1 * n) := by ring
  rw [e0, ip_rep k 1 n]
  have e1 : (fun i => sumTo k fun b => circCorr n (vdrop (b * n) h) (vdrop (b * n) y) i)
      = fun i => ∑ b ∈ range k, circCorr n (vdrop (b * n) h) (vdrop (b * n) y) i := by
    funext i; rw [sumTo_eq]
  rw [e1, ip_sum_right]
  apply Finset.sum_congr rfl
  intro b _
  have := circ_isAdj n (vdrop (b * n) h) x (vdrop (b * n) y)
  simp only [Op.circ] at this
  rw [← this, Nat.one_mul]
  -- replicate `b` of a `(k, n)` array is its row `b`
  have hix : ∀ i, i < n → Op.repIx k n b i = b * n + i := fun i hi => by
    simp only [Op.repIx, Nat.div_eq_of_lt hi, Nat.mod_eq_of_lt hi, Nat.zero_mul, Nat.zero_add]
  apply ip_congr
  · intro i hi
    simp only [Op.slab, hix i hi, Index.digit_div b hi, Index.digit_mod b hi]
  · intro i hi
    simp only [Op.slab, hix i hi, vdrop]

/-- if the inverse transform is a self-adjoint multiple of the conjugate transpose of the forward transform
    (`ifftn = (1/N)·fftnᴴ`), multiplication by `conj(h_dft)` in the transform domain is the adjoint of multiplication by
    `h_dft` — for every `h_dft` -/
theorem spectral_isAdj (n : Nat) (F G : Nat → Nat → K) (s : K) (hs : star s = s)
    (hG : ∀ i < n, ∀ f < n, G i f = s * star (F f i)) (D : V K) : IsAdj (Op.spectral n F G D) := by
  -- the coded pair is the generic composition `G ∘ diag D ∘ F`, whose adjoint `Fᴴ (conj D · Gᴴ y)` is the coded
  -- `G (conj D · F y)` because `Gᴴ = s F`
  refine OpEq.isAdj (A := Op.comp (Op.mat n n G) (Op.comp (Op.diag n D) (Op.mat n n F)))
    ⟨rfl, rfl, fun _ _ _ => rfl, fun y j hj => ?_⟩
    (comp_isAdjW (ρ := id) (mat_isAdj n n G) (comp_isAdjW (ρ := id) (diag_isAdj n D) (mat_isAdj n n F) rfl) rfl)
  simp only [Op.comp, Op.mat, Op.diag, Op.spectral, mulVec, sumTo_eq, conj_eq_star]
  refine Finset.sum_congr rfl fun f hf => ?_
  have e : ∑ i ∈ range n, star (G i f) * y i = s * ∑ i ∈ range n, F f i * y i := by
    rw [Finset.mul_sum]
    exact Finset.sum_congr rfl fun i hi => by
      rw [hG i (mem_range.mp hi) f (mem_range.mp hf), star_mul', star_star, hs, mul_assoc]
  rw [e, hG j hj f (mem_range.mp hf)]
  ring

theorem star_natCast_inv (n : Nat) : star ((n : K)⁻¹) = (n : K)⁻¹ := by
  rw [star_inv₀, star_natCast]

def dimsProd : List Nat → Nat
  | [] => 1
  | d :: ds => d * dimsProd ds

/-- entry `(f, j)` of the matrix of `fftn` over axes of lengths `ds` (row-major flattening) with the roots `zs`
    (`z_a = exp(−2πi/d_a)`): `Π_a z_a ^ (j_a · f_a)` over the digits of `j`, `f` -/
def kronF : List Nat → List K → Nat → Nat → K
  | d :: ds, z :: zs, f, j =>
      z ^ ((j / dimsProd ds % d) * (f / dimsProd ds % d)) * kronF ds zs (f % dimsProd ds) (j % dimsProd ds)
  | _, _, _, _ => 1

theorem star_kronF (ds : List Nat) (zs : List K) (hz : ∀ z ∈ zs, star z = z⁻¹) (f j : Nat) :
    star (kronF ds zs f j) = kronF ds (zs.map (·⁻¹)) j f := by
  induction ds generalizing zs f j with
  | nil => cases zs <;> simp [kronF]
  | cons d ds ih =>
    cases zs with
    | nil => simp [kronF]
    | cons z zs =>
      simp only [kronF, List.map_cons, star_mul', star_pow]
      rw [hz z (by simp), ih zs (fun w hw => hz w (by simp [hw])), Nat.mul_comm]

theorem scatFill_isAdj (np ny : Nat) (I : Nat → Nat) (w : V K) (hw : ∀ p, star (w p) = w p) :
    IsAdj (Op.scatFill np ny I w) := by
  intro x y
  simp only [Op.scatFill, scatterAddDrop, gatherFill0, ip_eq, sumTo_eq]
  have l : ∀ j ∈ range ny, (if j < ny then ∑ p ∈ range np, if I p = j then w p * x p else 0 else 0) * star (y j)
      = ∑ p ∈ range np, if I p = j then w p * x p * star (y j) else 0 := by
    intro j hj
    rw [if_pos (Finset.mem_range.mp hj), Finset.sum_mul]
    apply Finset.sum_congr rfl
    intro p _
    split <;> simp
  rw [Finset.sum_congr rfl l, Finset.sum_comm]
  apply Finset.sum_congr rfl
  intro p _
  rw [Finset.sum_ite_eq (range ny) (I p) (fun j => w p * x p * star (y j))]
  by_cases hI : I p < ny
  · simp [hI, star_mul', hw]; ring
  · simp [hI]

set_option linter.unusedSectionVars false in
theorem gatherAt_eq_fill_iff (np ny : Nat) (I J : Nat → Nat) (w : V K) (hJ : ∀ p < np, J p < ny) :
    (∀ y : V K, ∀ p < np, gatherAt J w y p = gatherFill0 ny I w y p) ↔ ∀ p < np, w p = 0 ∨ I p = J p := by
  constructor
  · intro h p hp
    by_cases hw : w p = 0
    · exact Or.inl hw
    · right
      by_contra hne
      have := h (basis (J p)) p hp
      simp only [gatherAt, gatherFill0, basis, if_true, mul_one] at this
      by_cases hI : I p < ny
      · simp [hI, hne] at this
        exact hw this
      · simp [hI] at this
        exact hw this
  · intro h y p hp
    rcases h p hp with h0 | he
    · simp [gatherAt, gatherFill0, h0]
    · simp [gatherAt, gatherFill0, he, hJ p hp]

theorem clampIdx_lt {ny i : Nat} (h : 0 < ny) : clampIdx ny i < ny := by
  unfold clampIdx; split <;> omega

theorem clampIdx_eq_iff {ny i : Nat} (h : 0 < ny) : i = clampIdx ny i ↔ i < ny := by
  unfold clampIdx; split <;> omega

theorem gatherClamp_eq_fill_iff (np ny : Nat) (hny : 0 < ny) (I : Nat → Nat) (w : V K) :
    (∀ y : V K, ∀ p < np, gatherClamp ny I w y p = gatherFill0 ny I w y p) ↔ ∀ p < np, w p = 0 ∨ I p < ny := by
  unfold gatherClamp
  rw [gatherAt_eq_fill_iff np ny I _ w (fun p _ => clampIdx_lt hny)]
  exact forall₂_congr fun p _ => or_congr_right (clampIdx_eq_iff hny)

theorem scatClamp_isAdj_of_covered (np ny : Nat) (hny : 0 < ny) (I : Nat → Nat) (w : V K)
    (hw : ∀ p, star (w p) = w p) (hcov : ∀ p < np, w p = 0 ∨ I p < ny) : IsAdj (Op.scatClamp np ny I w) :=
  OpEq.isAdj (A := Op.scatFill np ny I w)
    ⟨rfl, rfl, fun _ _ _ => rfl, fun y p hp => ((gatherClamp_eq_fill_iff np ny hny I w).mpr hcov y p hp).symm⟩
    (scatFill_isAdj np ny I w hw)

theorem scatClamp_not_isAdj (np ny : Nat) (hny : 0 < ny) (I : Nat → Nat) (w : V K)
    (p : Nat) (hp : p < np) (hwp : w p ≠ 0) (hoff : ny ≤ I p) : ¬ IsAdj (Op.scatClamp np ny I w) := by
  intro h
  have hlt : ny - 1 < ny := by omega
  have := h.entry (j := p) (i := ny - 1) hp hlt
  simp only [Op.scatClamp, scatterAddDrop, gatherClamp, gatherAt, sumTo_eq] at this
  have hc : clampIdx ny (I p) = ny - 1 := by unfold clampIdx; split <;> omega
  rw [hc] at this
  simp only [hlt, if_true, basis, mul_one] at this
  have hz : ∑ q ∈ range np, (if I q = ny - 1 then w q * (if q = p then (1 : K) else 0) else 0) = 0 := by
    apply Finset.sum_eq_zero
    intro q _
    by_cases hq : q = p
    · subst hq
      have : I q ≠ ny - 1 := by omega
      simp [this]
    · simp [hq]
  rw [hz] at this
  have : w p = 0 := by
    have h2 := congrArg star this
    simpa using h2.symm
  exact hwp this

theorem clamp2_lt {d0 d1 a b : Nat} (h0 : 0 < d0) (h1 : 0 < d1) : clamp2 d0 d1 a b < d0 * d1 :=
  Index.digit_lt (clampIdx_lt h0) (clampIdx_lt h1)

theorem flat2_eq_clamp2_iff {d0 d1 a b : Nat} (h0 : 0 < d0) (h1 : 0 < d1) :
    flat2 d0 d1 a b = clamp2 d0 d1 a b ↔ (a < d0 ∧ b < d1) := by
  have hc := clamp2_lt (a := a) (b := b) h0 h1
  unfold flat2
  constructor
  · intro h
    by_contra hn
    rw [if_neg hn] at h
    omega
  · intro h
    rw [if_pos h]
    unfold clamp2 clampIdx
    simp [h.1, h.2]

end

/-- the first `nslab` slabs of size `B` cover the first `min np (nslab * B)` entries -/
theorem sum_slabs_min {M : Type} [AddCommMonoid M] (B : Nat) (f : Nat → M) (np : Nat) :
    ∀ nslab, ∑ k ∈ range nslab, ∑ p ∈ range (min B (np - k * B)), f (k * B + p) = ∑ q ∈ range (min np (nslab * B)), f q := by
  intro nslab
  induction nslab with
  | zero => simp
  | succ n ih =>
    rw [Finset.sum_range_succ, ih]
    by_cases h : np ≤ n * B
    · rw [Nat.sub_eq_zero_of_le h, Nat.min_zero, Finset.sum_range_zero, add_zero, Nat.min_eq_left h,
        Nat.min_eq_left (h.trans (Nat.mul_le_mul_right B (Nat.le_succ n)))]
    · have h' := Nat.le_of_not_le h
      have e : min np ((n + 1) * B) = n * B + min B (np - n * B) := by
        rw [Nat.succ_mul, Nat.min_comm B, ← Nat.add_min_add_left, Nat.add_sub_cancel' h']
      rw [Nat.min_eq_right h', e, Finset.sum_range_add]

variable {K : Type} [Field K]

theorem slabScatter_eq (B nslab np ny : Nat) (h : np ≤ nslab * B) (I : Nat → Nat) (w x : V K) :
    slabScatter B nslab np ny I w x = scatterAddDrop np ny I w x := by
  funext j
  unfold slabScatter scatterAddDrop
  by_cases hj : j < ny
  · simp only [hj, if_true, sumTo_eq]
    rw [sum_slabs_min B (fun q => if I q = j then w q * x q else 0) np nslab, Nat.min_eq_left h]
  · simp [hj, sumTo_eq]

theorem slabGather_eq (B : Nat) (J : Nat → Nat) (w y : V K) : slabGather B J w y = gatherAt J w y := by
  funext p
  simp [slabGather, gatherAt, Nat.div_add_mod']

theorem scatSlab_eq_scatClamp (B nslab np ny : Nat) (h : np ≤ nslab * B) (I : Nat → Nat) (w : V K) :
    Op.scatSlab B nslab np ny I (fun p => clampIdx ny (I p)) w = Op.scatClamp np ny I w := by
  unfold Op.scatSlab Op.scatClamp
  congr 1
  · funext x; exact slabScatter_eq B nslab np ny h I w x
  · funext y; exact slabGather_eq B _ w y

/-- the fill-0 back-projector (/repo at e359064) -/
theorem slabGatherFill_eq (B ny : Nat) (I : Nat → Nat) (w y : V K) :
    slabGatherFill B ny I w y = gatherFill0 ny I w y := by
  funext p
  simp [slabGatherFill, gatherFill0, Nat.div_add_mod']

theorem scatSlabFill_eq_scatFill (B nslab np ny : Nat) (h : np ≤ nslab * B) (I : Nat → Nat) (w : V K) :
    Op.scatSlabFill B nslab np ny I w = Op.scatFill np ny I w := by
  unfold Op.scatSlabFill Op.scatFill
  congr 1
  · funext x; exact slabScatter_eq B nslab np ny h I w x
  · funext y; exact slabGatherFill_eq B ny I w y

variable [StarRing K]

theorem scatSlab_isAdj_of_covered (B nslab np ny : Nat) (h : np ≤ nslab * B) (hny : 0 < ny)
    (I : Nat → Nat) (w : V K) (hw : ∀ p, star (w p) = w p) (hcov : ∀ p < np, w p = 0 ∨ I p < ny) :
    IsAdj (Op.scatSlab B nslab np ny I (fun p => clampIdx ny (I p)) w) := by
  rw [scatSlab_eq_scatClamp B nslab np ny h]
  exact scatClamp_isAdj_of_covered np ny hny I w hw hcov

/-- zero padding of an array of length `n` by `lo` in front: `φ j = j − lo` inside, out of range (`n`) elsewhere -/
def padMap (n lo : Nat) (j : Nat) : Nat := if lo ≤ j ∧ j < lo + n then j - lo else n

end Scico.Adjoint
