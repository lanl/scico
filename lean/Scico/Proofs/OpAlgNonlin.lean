/-
  Trees with non-linear leaves: what scico builds for ANY accepted expression evaluates the pointwise
  denotation `denF` (`(A ± B)(x) = A(x) ± B(x)`, `(cA)(x) = c·A(x)`, `(A/c)(x) = A(x)/c`,
  `(A∘B)(x) = A(B(x))`, linear sub-expressions act through their dense matrix).
-/
import Scico.Proofs.OpAlgMain

namespace Scico.OpAlg
open Scico.DType
attribute [local instance] starConj

section
variable {K : Type} [Field K] [StarRing K] [HasRe K]

/-- on a linear expression the pointwise denotation is the action of the dense matrix: a fact about the
    specification alone (sums have to be between matrices with the same number of columns) -/
theorem denF_eq_den : ∀ (e : LExpr K), Lin e → SumsConform e → ∀ (x : V K) (i : Nat),
    denF e x i = mulVec (dims e).2 (den e) x i
  | .nonlin .., hl, _, _, _ => hl.elim
  | .add a b, hl, hc, x, i => by
    simp only [denF, den, dims]
    rw [denF_eq_den a hl.1 hc.1, denF_eq_den b hl.2 hc.2.1, ← hc.2.2]
    exact (mulVec_pm false _ _ _ x i).symm
  | .sub a b, hl, hc, x, i => by
    simp only [denF, den, dims]
    rw [denF_eq_den a hl.1 hc.1, denF_eq_den b hl.2 hc.2.1, ← hc.2.2]
    exact (mulVec_pm true _ _ _ x i).symm
  | .neg a, hl, hc, x, i => by
    simp only [denF, den, dims]; rw [denF_eq_den a hl hc]; exact (mulVec_neg _ _ x i).symm
  | .smulL c a, hl, hc, x, i => by
    simp only [denF, den, dims]; rw [denF_eq_den a hl hc]; exact (mulVec_smul c.val _ _ x i).symm
  | .smulR a c, hl, hc, x, i => by
    simp only [denF, den, dims]; rw [denF_eq_den a hl hc]; exact (mulVec_smul c.val _ _ x i).symm
  | .sdiv a c, hl, hc, x, i => by
    simp only [denF, den, dims]; rw [denF_eq_den a hl hc]
    unfold mulVec
    rw [← sumTo_div]; apply sumTo_congr; intro j _; ring
  | .comp a b, hl, hc, x, i => by
    simp only [denF, den, dims]
    rw [denF_eq_den a hl.1 hc.1, show denF b x = mulVec (dims b).2 (den b) x from
      funext (denF_eq_den b hl.2 hc.2 x)]
    exact mulVec_mulVec _ _ _ _ x i
  | .matmul a b, hl, hc, x, i => by
    simp only [denF, den, dims]
    rw [denF_eq_den a hl.1 hc.1, show denF b x = mulVec (dims b).2 (den b) x from
      funext (denF_eq_den b hl.2 hc.2 x)]
    exact mulVec_mulVec _ _ _ _ x i
  | .mat .., _, _, _, _ | .diag .., _, _, _, _ | .scaledId .., _, _, _, _ | .ident .., _, _, _, _
  | .lin .., _, _, _, _ | .rdiv .., _, _, _, _ | .addS .., _, _, _, _ | .had .., _, _, _, _
  | .T _, _, _, _, _ | .H _, _, _, _, _ | .conj _, _, _, _, _ | .gram _, _, _, _, _ => rfl

/-- `o` evaluates the truncation of `f`, and `f` reads only the first `o.n` entries of its argument -/
structure EvF (o : Obj K) (f : V K → V K) : Prop where
  ev : Computes o.eval o.m f
  reads : ReadsOnly f o.m o.n

theorem EvF.congr {o : Obj K} {f g : V K → V K} (h : EvF o f)
    (hfg : ∀ x i, i < o.m → f x i = g x i) : EvF o g :=
  ⟨h.ev.congr hfg, fun x x' hx i hi => by rw [← hfg x i hi, ← hfg x' i hi]; exact h.reads x x' hx i hi⟩

theorem Sound.evF {o : Obj K} {D : Mx K} (h : Sound o D) : EvF o (fun x => mulVec o.n D x) :=
  ⟨h.ev, readsOnly_mulVec _ _ _⟩

/-- a plain `Operator` of `m` rows and `n` columns that evaluates `f` -/
structure OpF (o : Obj K) (f : V K → V K) (m n : Nat) : Prop where
  evF : EvF o f
  rows : o.m = m
  cols : o.n = n
  op : o.md.cls = .op

theorem OpF.cast {o : Obj K} {f : V K → V K} {m n m' n' : Nat} (h : OpF o f m n) (hm : m = m')
    (hn : n = n') : OpF o f m' n' := hm ▸ hn ▸ h

theorem opAddSub_evF (sub : Bool) {a b o : Obj K} {fa fb : V K → V K} (ha : EvF a fa) (hb : EvF b fb)
    (h : opAddSub sub a b = .ok o) : OpF o (fun x i => pm sub (fa x i) (fb x i)) a.m a.n := by
  obtain ⟨hs, h⟩ := ite_ok_error h
  cases h
  have hbm : b.m = a.m := (sameShape_m hs).symm
  have hbn : b.n = a.n := (sameShape_n hs).symm
  refine ⟨⟨Computes.zip (pm sub) ha.ev (hbm ▸ hb.ev), fun x x' hx i hi => ?_⟩, rfl, rfl, rfl⟩
  show pm sub (fa x i) (fb x i) = pm sub (fa x' i) (fb x' i)
  rw [ha.reads x x' hx i hi, hb.reads x x' (fun j hj => hx j (hbn ▸ hj)) i (hbm ▸ hi)]

theorem matNeg_evF {b : Obj K} {Db : Mx K} {fb : V K → V K} (hS : Sound b Db) (hb : EvF b fb)
    (hbm : b.md.cls = .matrix) : EvF (matNeg b) (fun x i => - fb x i) := by
  obtain ⟨hN, hnm, hnn⟩ := matNeg_sound hS hbm
  refine hN.evF.congr (fun x i hi => ?_)
  have hi' : i < b.m := hnm ▸ hi
  have e1 := hS.ev ⟨0, x⟩ i
  have e2 := hb.ev ⟨0, x⟩ i
  simp only [hi', if_true] at e1 e2
  rw [hnn]
  rw [mulVec_neg, ← e1, e2]

theorem addSub_evF (sub : Bool) {a b o : Obj K} {fa fb : V K → V K} (ha : EvF a fa) (hb : EvF b fb)
    (hop : a.md.cls = .op ∨ b.md.cls = .op) (hSb : b.md.cls ≠ .op → ∃ D, Sound b D)
    (h : addSub Cfg.fixed sub a b = .ok o) : OpF o (fun x i => pm sub (fa x i) (fb x i)) a.m a.n := by
  rcases addSub_out h with h | ⟨hbm, h⟩
  · exact opAddSub_evF sub ha hb (h.of_op hop)
  · -- `a + M = M + a`, `a - M = (-M) + a`
    have haop : a.md.cls = .op := hop.resolve_right (by rw [hbm]; decide)
    obtain ⟨Db, hS⟩ := hSb (by rw [hbm]; decide)
    have hs := h.sameShape
    cases sub
    · obtain ⟨hE, h1, h2, h5⟩ := opAddSub_evF false hb ha (h.of_op (Or.inr haop))
      exact ⟨hE.congr (fun x i _ => by simp only [pm, Bool.false_eq_true, if_false]; ring),
        h1.trans (sameShape_m hs), h2.trans (sameShape_n hs), h5⟩
    · obtain ⟨hE, h1, h2, h5⟩ := opAddSub_evF false (matNeg_evF hS hb hbm) ha (h.of_op (Or.inr haop))
      exact ⟨hE.congr (fun x i _ => by simp only [pm, if_true, Bool.false_eq_true, if_false]; ring),
        h1.trans (sameShape_m hs), h2.trans (sameShape_n hs), h5⟩

theorem mapOp_evF {a : Obj K} {fa : V K → V K} (ha : EvF a fa) (g : K → K) (outDt : DT) (evDt : DtFn) :
    EvF (mkOp a.md.inShape a.md.outShape a.md.inDt outDt (fun x => vmap a.m g (a.eval x)) evDt)
      (fun x i => g (fa x i)) :=
  ⟨Computes.map g ha.ev, fun x x' hx i hi => congrArg g (ha.reads x x' hx i hi)⟩

theorem smul_evF {a o : Obj K} {fa : V K → V K} (c : Scal K) (ha : EvF a fa) (hop : a.md.cls = .op)
    (h : smul Cfg.fixed a c = .ok o) : OpF o (fun x i => c.val * fa x i) a.m a.n := by
  unfold smul at h
  simp only [Obj.cls, hop, Cls.arith] at h
  obtain ⟨_, h⟩ := ite_ok_error h; cases h
  exact ⟨mapOp_evF ha _ _ _, rfl, rfl, rfl⟩

theorem sdiv_evF {a o : Obj K} {fa : V K → V K} (c : Scal K) (ha : EvF a fa) (hop : a.md.cls = .op)
    (h : sdiv Cfg.fixed a c = .ok o) : OpF o (fun x i => fa x i / c.val) a.m a.n := by
  unfold sdiv at h
  simp only [Obj.cls, hop, Cls.arith] at h
  obtain ⟨_, h⟩ := ite_ok_error h; cases h
  exact ⟨mapOp_evF ha _ _ _, rfl, rfl, rfl⟩

theorem opComp_evF {a b o : Obj K} {fa fb : V K → V K} (ha : EvF a fa) (hb : EvF b fb)
    (h : opComp Cfg.fixed a b = .ok o) : OpF o (fun x => fa (fb x)) a.m b.n := by
  obtain ⟨hs, h⟩ := ite_ok_error h
  cases h
  have hk : a.n = b.m := conform_sizes hs
  exact ⟨⟨Computes.comp (f := a.eval) (h := b.eval) ha.ev hb.ev (hk ▸ ha.reads),
    fun x x' hx i hi => ha.reads _ _ (fun j hj => hb.reads x x' hx j (hk ▸ hj)) i hi⟩, rfl, rfl, rfl⟩

theorem ident_acts {a : Obj K} {D : Mx K} {fa : V K → V K} (hS : Sound a D) (ha : EvF a fa)
    (hc : a.md.cls = .ident) : a.n = a.m ∧ ∀ (y : V K) (i : Nat), i < a.m → fa y i = y i := by
  obtain ⟨hio, hD⟩ := ident_payload hS hc
  have hnm : a.n = a.m := conform_sizes hio
  refine ⟨hnm, fun y i hi => ?_⟩
  have e1 := hS.ev ⟨0, y⟩ i
  have e2 := ha.ev ⟨0, y⟩ i
  simp only [hi, if_true] at e1 e2
  have hin : i < a.n := hnm ▸ hi
  rw [← e2, e1, mulVec_congr_left (E := selMx id fun _ => 1) (fun j hj => hD i j hin hj), mulVec_selMx]
  simp [hin]

/-- `a @ b` with at least one plain `Operator` operand: `Operator.__call__`, or the operand itself next to an
    `Identity` -/
theorem ProdOf.evF {x y o : Obj K} {fx fy : V K → V K} (h : ProdOf x y o) (hx : EvF x fx) (hy : EvF y fy)
    (hop : x.md.cls = .op ∨ y.md.cls = .op)
    (hSx : x.md.cls ≠ .op → ∃ D, Sound x D) (hSy : y.md.cls ≠ .op → ∃ D, Sound y D) :
    OpF o (fun v => fx (fy v)) x.m y.n := by
  have hk : x.n = y.m := conform_sizes h.conform
  cases h with
  | call _ h => exact opComp_evF hx hy (h.of_op hop)
  | idR hid _ =>
    obtain ⟨Dy, hS⟩ := hSy (by rw [hid]; decide)
    obtain ⟨hnm, hact⟩ := ident_acts hS hy hid
    refine ⟨⟨fun v i => ?_, fun v v' hv i hi => ?_⟩, rfl, by rw [hk, hnm],
      hop.resolve_right (by rw [hid]; decide)⟩
    · rw [hx.ev v i]
      by_cases hi : i < x.m
      · simp only [hi, if_true]
        exact hx.reads _ _ (fun j hj => (hact v.get j (Nat.lt_of_lt_of_eq hj hk)).symm) i hi
      · simp [hi]
    · have e1 : fx (fy v) i = fx v i := hx.reads _ _ (fun j hj => hact v j (Nat.lt_of_lt_of_eq hj hk)) i hi
      have e2 : fx (fy v') i = fx v' i := hx.reads _ _ (fun j hj => hact v' j (Nat.lt_of_lt_of_eq hj hk)) i hi
      rw [e1, e2]
      exact hx.reads v v' (fun j hj => hv j hj) i hi
  | idL hid _ =>
    obtain ⟨Dx, hS⟩ := hSx (by rw [hid]; decide)
    obtain ⟨hnm, hact⟩ := ident_acts hS hx hid
    have hmm : y.m = x.m := by rw [← hk, hnm]
    exact ⟨hy.congr (fun v i hi => (hact (fy v) i (hmm ▸ hi)).symm), hmm, rfl,
      hop.resolve_left (by rw [hid]; decide)⟩
  | sidSid h1 h2 _ | diagDiag h1 h2 _ _ _ => exact False.elim (hop.elim (by rw [h1]; decide) h2.ne_op)
  | sidDiag h1 h2 _ _ => exact False.elim (hop.elim (by rw [h1]; decide) (by rw [h2]; decide))

structure InvF (e : LExpr K) (o : Obj K) : Prop where
  evF : EvF o (denF e)
  rows : o.m = (dims e).1
  cols : o.n = (dims e).2
  nonlin : ¬ Lin e → o.md.cls = .op

theorem OpF.inv {e : LExpr K} {o : Obj K} (h : OpF o (denF e) (dims e).1 (dims e).2) : InvF e o :=
  ⟨h.evF, h.rows, h.cols, fun _ => h.op⟩

/-- linear expressions: from the matrix theorem -/
theorem invF_of_lin (e : LExpr K) (o : Obj K) (hl : Lin e)
    (hK : RealK K ∨ AllC e) (h : build e = .ok o) : InvF e o ∧ Sound o (den e) := by
  obtain ⟨⟨hS, hm, hn⟩, hc⟩ := build_sound_conform e o hl hK h
  refine ⟨⟨?_, hm, hn, fun hnl => absurd hl hnl⟩, hS⟩
  refine hS.evF.congr (fun x i _ => ?_)
  rw [hn]
  exact (denF_eq_den e hl hc x i).symm

/-- the invariant at a node with a non-linear sub-expression, given it for such nodes below -/
theorem invF_of_nonlin {e : LExpr K} {o : Obj K} (h : build e = .ok o)
    (hK : RealK K ∨ AllC e) (hn : ¬ Lin e → InvF e o) : InvF e o ∧ (o.md.cls ≠ .op → ∃ D, Sound o D) := by
  by_cases hl : Lin e
  · exact ⟨(invF_of_lin e o hl hK h).1, fun _ => ⟨_, (invF_of_lin e o hl hK h).2⟩⟩
  · exact ⟨hn hl, fun hc => absurd ((hn hl).nonlin hl) hc⟩

/-- **Main theorem for arbitrary trees**: what scico builds evaluates the pointwise denotation -/
theorem build_denF (e : LExpr K) (o : Obj K) (hK : RealK K ∨ AllC e)
    (h : build e = .ok o) : InvF e o := by
  refine (invF_of_nonlin h hK ?_).1
  revert hK
  -- a binary node that is not linear has an operand that is not, built as a plain `Operator`
  have hop : ∀ {a b : LExpr K} {oa ob : Obj K}, InvF a oa → InvF b ob → ¬ (Lin a ∧ Lin b) →
      oa.md.cls = .op ∨ ob.md.cls = .op := by
    intro a b oa ob Ia Ib hl
    by_cases h1 : Lin a
    · exact Or.inr (Ib.nonlin (fun h2 => hl ⟨h1, h2⟩))
    · exact Or.inl (Ia.nonlin h1)
  refine build_ind (P := fun e o => (RealK K ∨ AllC e) → ¬ Lin e → InvF e o)
    ?mat ?diag ?scaledId ?ident ?lin ?nonlin ?add ?sub ?neg ?smulL ?smulR ?sdiv ?rdiv ?addS ?had ?comp ?matmul ?T ?H ?conj ?gram e o h
  case mat => exact fun _ _ _ _ _ hl => absurd trivial hl
  case diag => exact fun _ _ _ _ _ _ _ _ hl => absurd trivial hl
  case scaledId => exact fun _ _ _ _ _ hl => absurd trivial hl
  case ident => exact fun _ _ _ hl => absurd trivial hl
  case lin => exact fun _ _ _ _ _ _ _ hl => absurd trivial hl
  case nonlin =>
    intro inSh outSh inDt gDt G _ _
    refine ⟨⟨fun x i => ?_, fun x x' hx i _ => ?_⟩, rfl, rfl, fun _ => rfl⟩
    · simp only [mkNonlinLeaf, mkOp_eval, mkOp_m, vmap_get, vmulVec_get, denF, trunc_get]
      by_cases hi : i < outSh.size
      · simp only [hi, if_true]
        have : mulVec inSh.size (truncM outSh.size inSh.size G).get (vtrunc inSh.size x).get i
            = mulVec inSh.size (truncM outSh.size inSh.size G).get x.get i :=
          mulVec_congr_right (fun j hj => by simp [hj])
        rw [this]
      · simp [hi]
    · simp only [denF, trunc_get]
      have : mulVec inSh.size (truncM outSh.size inSh.size G).get x i
          = mulVec inSh.size (truncM outSh.size inSh.size G).get x' i := mulVec_congr_right hx
      rw [this]
  case add =>
    intro a b oa ob o ha hb pa pb h hK hl
    obtain ⟨Ia, _⟩ := invF_of_nonlin ha (allC_left hK) (pa (allC_left hK))
    obtain ⟨Ib, hSb⟩ := invF_of_nonlin hb (allC_right hK) (pb (allC_right hK))
    exact ((addSub_evF false Ia.evF Ib.evF (hop Ia Ib hl) hSb h).cast Ia.rows Ia.cols).inv
  case sub =>
    intro a b oa ob o ha hb pa pb h hK hl
    obtain ⟨Ia, _⟩ := invF_of_nonlin ha (allC_left hK) (pa (allC_left hK))
    obtain ⟨Ib, hSb⟩ := invF_of_nonlin hb (allC_right hK) (pb (allC_right hK))
    exact ((addSub_evF true Ia.evF Ib.evF (hop Ia Ib hl) hSb h).cast Ia.rows Ia.cols).inv
  case neg =>
    intro a oa o _ pa h hK hl
    have Ia := pa hK hl
    have hc := Ia.nonlin hl
    unfold neg at h
    simp only [Obj.cls, hc] at h
    obtain ⟨hE, h1, h2, h5⟩ := smul_evF _ Ia.evF hc (by simpa using h)
    exact ⟨hE.congr (fun x i _ => by simp [denF]), h1.trans Ia.rows, h2.trans Ia.cols, fun _ => h5⟩
  case smulL =>
    intro c a oa o _ pa h hK hl
    have Ia := pa hK hl
    exact ((smul_evF c Ia.evF (Ia.nonlin hl) h).cast Ia.rows Ia.cols).inv
  case smulR =>
    intro a c oa o _ pa h hK hl
    have Ia := pa hK hl
    exact ((smul_evF c Ia.evF (Ia.nonlin hl) h).cast Ia.rows Ia.cols).inv
  case sdiv =>
    intro a c oa o _ pa h hK hl
    have Ia := pa hK hl
    exact ((sdiv_evF c Ia.evF (Ia.nonlin hl) h).cast Ia.rows Ia.cols).inv
  case rdiv =>
    -- element-wise `MatrixOperator` arithmetic, views: the operand is no plain `Operator`
    intro c a oa o _ pa hc _ hK hl
    exact absurd (hc.symm.trans ((pa hK hl).nonlin hl)) (by decide)
  case addS =>
    intro sub rev a c oa o _ pa hc _ hK hl
    exact absurd (hc.symm.trans ((pa hK hl).nonlin hl)) (by decide)
  case had =>
    intro div a b oa ob o ha hb pa pb hc h hK hl
    obtain ⟨Ia, _⟩ := invF_of_nonlin ha (allC_left hK) (pa (allC_left hK))
    obtain ⟨Ib, _⟩ := invF_of_nonlin hb (allC_right hK) (pb (allC_right hK))
    rcases hop Ia Ib hl with h' | h'
    · exact absurd (hc.symm.trans h') (by decide)
    · obtain ⟨hm, _⟩ := ite_ok_error h
      exact absurd (hm.symm.trans h') (by decide)
  case comp =>
    intro a b oa ob o ha hb pa pb h hK hl
    obtain ⟨Ia, _⟩ := invF_of_nonlin ha (allC_left hK) (pa (allC_left hK))
    obtain ⟨Ib, _⟩ := invF_of_nonlin hb (allC_right hK) (pb (allC_right hK))
    exact ((opComp_evF Ia.evF Ib.evF ((call_out h).of_op (hop Ia Ib hl))).cast Ia.rows Ib.cols).inv
  case matmul =>
    intro a b oa ob o ha hb pa pb h hK hl
    obtain ⟨Ia, hSa⟩ := invF_of_nonlin ha (allC_left hK) (pa (allC_left hK))
    obtain ⟨Ib, hSb⟩ := invF_of_nonlin hb (allC_right hK) (pb (allC_right hK))
    exact (((matmul_out h).evF Ia.evF Ib.evF (hop Ia Ib hl) hSa hSb).cast Ia.rows Ib.cols).inv
  case T =>
    intro a oa o _ pa h hK hl
    simp [opT, Obj.cls, (pa hK hl).nonlin hl] at h
  case H =>
    intro a oa o _ pa h hK hl
    simp [opH, Obj.cls, (pa hK hl).nonlin hl] at h
  case conj =>
    intro a oa o _ pa h hK hl
    simp [opConj, Obj.cls, (pa hK hl).nonlin hl] at h
  case gram =>
    intro a oa o _ pa h hK hl
    simp [opGram, Obj.cls, (pa hK hl).nonlin hl] at h

end
end Scico.OpAlg
