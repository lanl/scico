/-
  C07: the squared distance to a closed convex set is differentiable EVERYWHERE with gradient `x − P(x)`
  (`P` the metric projection, given by its variational characterisation) — so what JAX computes for
  `SquaredSetDistance` by differentiating through `proj` equals the documented gradient.  Subgradients of `|·|` and of
  the ℓ1 norm at its kinks (`abs_subgradient`, `l1_subgradient`).
-/
import Scico.Proofs.AutogradChain
import Mathlib.Analysis.Asymptotics.Lemmas

namespace Scico.Autograd
open scoped Topology

variable {n : Nat}

/-- `P` is the metric projection onto the convex set `C`: `P x ∈ C` and the variational inequality
    `Re⟪x − P x, z − P x⟫ ≤ 0` for every `z ∈ C` (Beck, Thm 6.41) -/
structure IsProjection (C : CVec ℝ n → Prop) (P : CVec ℝ n → CVec ℝ n) : Prop where
  mem : ∀ x, C (P x)
  vi : ∀ x z, C z → reInner (vsub x (P x)) (vsub z (P x)) ≤ 0

theorem hasDerivAt_of_quadratic_bound (f : ℝ → ℝ) (a K : ℝ)
    (h : ∀ t, |f t - f 0 - t * a| ≤ K * t ^ 2) : HasDerivAt f a 0 := by
  rw [hasDerivAt_iff_isLittleO]
  have hb : (fun t : ℝ => f t - f 0 - (t - 0) • a) =O[𝓝 0] (fun t : ℝ => t ^ 2) := by
    refine Asymptotics.IsBigO.of_bound K (Filter.Eventually.of_forall (fun t => ?_))
    simp only [sub_zero, smul_eq_mul, Real.norm_eq_abs, abs_pow, sq_abs]
    exact h t
  have hl : (fun t : ℝ => t ^ 2) =o[𝓝 0] (fun t : ℝ => t - 0) := by
    simp only [sub_zero]
    exact Asymptotics.isLittleO_pow_id (by norm_num)
  exact hb.trans_isLittleO hl

/-- **the squared distance to a convex set**: `½‖z − P z‖²` has the gradient `x − P x` at EVERY `x` -/
theorem isGradAt_sqdist (C : CVec ℝ n → Prop) (P : CVec ℝ n → CVec ℝ n) (hP : IsProjection C P)
    (x : CVec ℝ n) :
    IsGradAt (fun z => (1 / 2) * sumAbs2 (vsub z (P z))) x (vsub x (P x)) := by
  intro d
  refine hasDerivAt_of_quadratic_bound _ _ ((1 / 2) * reInner d d) (fun t => ?_)
  simp only [along_zero]
  -- with `a = x − P x` and `e = P(x + t d) − P x` the residual at `x + t d` is `a + t d − e`; the remainder is
  -- `−⟪a,e⟫ + ½‖t d − e‖² ≥ 0` and `½t²‖d‖² − ⟪a + t d − e, e⟫ − ½‖e‖² ≤ ½t²‖d‖²` by the two variational inequalities
  generalize hq : P (along x d t) = q
  have hb : vsub (along x d t) q = vsub (along (vsub x (P x)) d t) (vsub q (P x)) :=
    funext fun i => by simp only [vsub, along]; rw [sub_add_eq_add_sub, sub_sub_sub_cancel_right]
  have v1 := hP.vi x q (hq ▸ hP.mem _)
  have v2 := hP.vi (along x d t) (P x) (hP.mem _)
  rw [hq, hb, reInner_vsub_right, ← neg_sub, ← reInner_vsub_right] at v2
  have s1 := reInner_self_nonneg (vsub q (P x))
  have s2 := reInner_self_nonneg (vsub (vsmul t d) (vsub q (P x)))
  have s4 := mul_nonneg (sq_nonneg t) (reInner_self_nonneg d)
  have c1 := reInner_comm d (vsub x (P x))
  have c2 := reInner_comm (vsub q (P x)) (vsub x (P x))
  have c3 := reInner_comm (vsub q (P x)) d
  rw [hb, sumAbs2_eq_reInner, sumAbs2_eq_reInner]
  generalize vsub x (P x) = a at *
  generalize vsub q (P x) = e at *
  simp only [reInner_vsub_left, reInner_vsub_right, reInner_along_left, reInner_along_right, reInner_vsmul_left,
    reInner_vsmul_right, c1, c2, c3] at v2 s2 ⊢
  rw [abs_le]
  exact ⟨by linear_combination v1 + (1 / 2) * s2 + (1 / 2) * s4, by linear_combination v2 + (1 / 2) * s1⟩

/-- Cauchy–Schwarz in `ℂ ≅ ℝ²` for a multiplier of modulus at most one -/
theorem re_mul_le_abs (g z : Cx ℝ) (hg : Cx.abs2 g ≤ 1) : g.re * z.re + g.im * z.im ≤ Cx.abs z := by
  unfold Cx.abs; rw [hasSqrt_real]
  refine le_trans (le_abs_self _) (Real.abs_le_sqrt ?_)
  have h1 : (g.re * z.re + g.im * z.im) ^ 2 ≤ Cx.abs2 g * Cx.abs2 z := by
    unfold Cx.abs2; linarith [sq_nonneg (g.re * z.im - g.im * z.re)]
  have h2 : Cx.abs2 g * Cx.abs2 z ≤ 1 * Cx.abs2 z := mul_le_mul_of_nonneg_right hg (abs2_nonneg z)
  linarith

/-- the multipliers of the l1 sub-differential at `x ∈ ℂ`: `x/|x|` if `x ≠ 0`, anything of modulus ≤ 1 if `x = 0`;
    such a `g` has modulus ≤ 1 and `Re(conj g · x) = |x|` -/
theorem abs_subgradient (x g : Cx ℝ) (h1 : Cx.abs2 x ≠ 0 → g = Cx.divr x (Cx.abs x))
    (h0 : Cx.abs2 x = 0 → Cx.abs2 g ≤ 1) :
    Cx.abs2 g ≤ 1 ∧ g.re * x.re + g.im * x.im = Cx.abs x := by
  by_cases hx : Cx.abs2 x = 0
  · obtain ⟨hre, him⟩ := mul_self_add_mul_self_eq_zero.mp hx
    have ha : Cx.abs x = 0 := by unfold Cx.abs; rw [hx, hasSqrt_real, Real.sqrt_zero]
    exact ⟨h0 hx, by rw [ha, hre, him, mul_zero, mul_zero, add_zero]⟩
  · have hsq : Cx.abs x * Cx.abs x = x.re * x.re + x.im * x.im := Real.mul_self_sqrt (abs2_nonneg x)
    have hne : Cx.abs x ≠ 0 := (abs_pos_of_abs2 x hx).ne'
    rw [h1 hx]
    constructor
    · show x.re / Cx.abs x * (x.re / Cx.abs x) + x.im / Cx.abs x * (x.im / Cx.abs x) ≤ 1
      rw [div_mul_div_comm, div_mul_div_comm, ← add_div, hsq]
      exact (div_self hx).le
    · show x.re / Cx.abs x * x.re + x.im / Cx.abs x * x.im = Cx.abs x
      rw [div_mul_eq_mul_div, div_mul_eq_mul_div, ← add_div, ← hsq, mul_div_assoc, div_self hne, mul_one]

/-- sub-gradient inequality of the l1 norm at ANY point -/
theorem l1_subgradient (x g z : CVec ℝ n)
    (h1 : ∀ i, Cx.abs2 (x i) ≠ 0 → g i = Cx.divr (x i) (Cx.abs (x i)))
    (h0 : ∀ i, Cx.abs2 (x i) = 0 → Cx.abs2 (g i) ≤ 1) :
    (Fn.l1 : Fn ℝ n).eval x + reInner g (vsub z x) ≤ (Fn.l1 : Fn ℝ n).eval z := by
  simp only [Fn.eval, Vec.sum_eq]
  rw [reInner_eq, ← Finset.sum_add_distrib]
  refine Finset.sum_le_sum (fun i _ => ?_)
  obtain ⟨hg, hxx⟩ := abs_subgradient (x i) (g i) (h1 i) (h0 i)
  have hz := re_mul_le_abs (g i) (z i) hg
  simp only [vsub, Cx.sub_re, Cx.sub_im]
  linarith

end Scico.Autograd
