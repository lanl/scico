/-
  What an accepted construction consists of.  The model's operations are chains of checks
  (`if c then error else …`) ending in a constructor; every invariant (dtype soundness, metadata,
  denotation) is proved by reading off which checks have passed, with the steps of `Proofs/Except`
  (`ite_error_ok`, `ite_ok_error`, `ite_eq`, `bind_eq_ok`), which unify with the `if` instead of
  simplifying the whole hypothesis; `split at h` only where the model has a `match`.  Here, once for
  all invariants, what dispatches on classes: the four views, `conj` / `gram_op` inside the `Diagonal`
  family and the arithmetic methods (`view_cases`, `diagFam_cases`, `arith_cases`, `scal_cases`), the
  constructions behind `a ± b`, `a(b)`, `a @ b` (`SumOf`, `CompOf`, `ProdOf` with `addSub_out`,
  `call_out`, `matmul_out`), induction over accepted expressions (`build_ind`), and what an accepted
  `vstack` / `dstack` has checked and returns.  The constructors and the two-way switches (`mkDiag`,
  `diagT`, `diagH`, `linT`, `mkLinLeaf`) are read with the same steps where each invariant meets them.
-/
import Scico.Model.OpAlg
import Scico.Proofs.Except

namespace Scico.OpAlg
open Scico.DType

theorem forall_of_not_not_all {β : Type} {l : List β} {p : β → Bool} (h : ¬ ((!l.all p) = true)) :
    ∀ x ∈ l, p x = true := by
  cases hl : l.all p with
  | true => exact fun x hx => List.all_eq_true.mp hl x hx
  | false => rw [hl] at h; exact absurd rfl h

theorem forall_of_not_any {β : Type} {l : List β} {p : β → Bool} (h : ¬ (l.any p = true)) :
    ∀ x ∈ l, p x = false := by
  intro x hx
  cases hp : p x with
  | false => rfl
  | true => exact absurd (List.any_eq_true.mpr ⟨x, hx, hp⟩) h

/-- the classes of `_diag.py`: `Diagonal` and its subclasses -/
def IsDiagCls (c : Cls) : Prop := c = .diag ∨ c = .scaledId ∨ c = .ident
/-- `ScaledIdentity` and its subclass `Identity` -/
def IsSidFam (c : Cls) : Prop := c = .scaledId ∨ c = .ident

theorem IsDiagCls.ne_op {c : Cls} (h : IsDiagCls c) : c ≠ .op := by rcases h with rfl | rfl | rfl <;> decide
theorem IsSidFam.ne_op {c : Cls} (h : IsSidFam c) : c ≠ .op := by rcases h with rfl | rfl <;> decide

theorem isSub_diag_iff (c : Cls) : c.isSub .diag = true ↔ IsDiagCls c := by
  cases c <;> simp [Cls.isSub, IsDiagCls]
theorem isSub_sid_iff (c : Cls) : c.isSub .scaledId = true ↔ IsSidFam c := by
  cases c <;> simp [Cls.isSub, IsSidFam]
theorem isSub_matrix (c : Cls) : c.isSub .matrix = true ↔ c = .matrix := by
  cases c <;> simp [Cls.isSub]
theorem isSub_ident (c : Cls) : c.isSub .ident = true ↔ c = .ident := by
  cases c <;> simp [Cls.isSub]
theorem isSub_op {d : Cls} (h : Cls.isSub .op d = true) : d = .op := by cases d <;> first | rfl | cases h

section
variable {α : Type}

/-- the scalar-operand check of `MatrixOperator`'s element-wise arithmetic: only the NumPy-scalar
    branch returns -/
theorem matScal_ok {c : Scal α} {x o : Obj α}
    (h : (if c.kind = .str then Except.error Err.type else if c.kind.npIsScalar then .ok x
          else if c.kind.isArray then .error .shape else .error .type) = Except.ok o) : x = o := by
  obtain ⟨_, h⟩ := ite_error_ok h
  by_cases hs : c.kind.npIsScalar = true
  · rw [if_pos hs] at h; exact Except.ok.inj h
  · rw [if_neg hs] at h; split at h <;> cases h

/-- the shape check of `Identity.__matmul__/__rmatmul__` (repaired tree) has passed -/
theorem identChk_ok {a b o : Obj α} {x : Except Err (Obj α)}
    (h : (if (Cfg.fixed.identChk && decide (a.md.inShape ≠ b.md.outShape)) = true then .error .shape else x)
      = .ok o) : a.md.inShape = b.md.outShape ∧ x = .ok o :=
  ⟨by simpa [Cfg.fixed] using (ite_error_ok h).1, (ite_error_ok h).2⟩

/-- `.T`, `.H`, `.conj()`, `.gram_op` dispatch alike: a plain `Operator` has none, `MatrixOperator` rebuilds
    its array, the `Diagonal` family has closed forms `f`, every other class takes the generic
    `LinearOperator` view -/
theorem view_cases {P : Obj α → Prop} {a o mat lin : Obj α} {f : Except Err (Obj α)}
    (hm : a.md.cls = .matrix → P mat)
    (hd : IsDiagCls a.md.cls → f = .ok o → P o)
    (hl : a.md.cls ≠ .op → P lin)
    (h : (match a.cls with
          | .op => .error .other
          | .matrix => .ok mat
          | .diag | .scaledId | .ident => f
          | _ => .ok lin) = Except.ok o) : P o := by
  split at h
  · cases h
  · rename_i hc; cases h; exact hm hc
  · rename_i hc; exact hd (Or.inl hc) h
  · rename_i hc; exact hd (Or.inr (Or.inl hc)) h
  · rename_i hc; exact hd (Or.inr (Or.inr hc)) h
  · rename_i hop _ _ _ _; cases h; exact hl hop

/-- `.conj()` and `.gram_op` of the `Diagonal` family dispatch alike: an `Identity` is returned as it is, a `ScaledIdentity`
    becomes the `ScaledIdentity` `sid`, a `Diagonal` whatever `f` returns (a rebuilt `Diagonal`, or the generic view) -/
theorem diagFam_cases {P : Obj α → Prop} {a o sid : Obj α} {f : Except Err (Obj α)} (hc : IsDiagCls a.md.cls)
    (hid : a.md.cls = .ident → P a) (hsid : a.md.cls = .scaledId → P sid) (hdg : a.md.cls = .diag → f = .ok o → P o)
    (h : (match a.md.cls with
          | .ident => .ok a
          | .scaledId => .ok sid
          | _ => f) = Except.ok o) : P o := by
  rcases hc with hc | hc | hc <;> simp only [hc] at h
  · exact hdg hc h
  · cases h; exact hsid hc
  · cases h; exact hid hc

end

section
variable {α : Type} [Add α] [Sub α] [Mul α] [Div α] [Neg α] [Zero α] [One α] [HasConj α] [HasRe α]

omit [Mul α] [Div α] [Neg α] [One α] [HasConj α] [HasRe α] in
theorem opAddSub_cls {a b o : Obj α} {sub : Bool} (h : opAddSub sub a b = .ok o) : o.md.cls = .op := by
  obtain ⟨_, h⟩ := ite_ok_error h; cases h; rfl

omit [Add α] [Sub α] [Mul α] [Div α] [Neg α] [One α] [HasConj α] [HasRe α] in
theorem opComp_cls {cfg : Cfg} {a b o : Obj α} (h : opComp cfg a b = .ok o) : o.md.cls = .op := by
  obtain ⟨_, h⟩ := ite_ok_error h; cases h; rfl

/-- `+`, `-`, `*`, `/` are looked up in the class whose arithmetic the operand inherits: `Identity`
    takes `ScaledIdentity`'s, a composition the generic `LinearOperator`'s -/
theorem arith_cases {β : Type} {P : Prop} (c : Cls) {x op dg sd mt ln : β}
    (h : (match c.arith with
          | .op => op
          | .diag => dg
          | .scaledId => sd
          | .matrix => mt
          | _ => ln) = x)
    (hop : c = .op → op = x → P) (hdg : c = .diag → dg = x → P)
    (hsd : c = .scaledId ∨ c = .ident → sd = x → P) (hmt : c = .matrix → mt = x → P)
    (hln : c = .linop ∨ c = .composed → ln = x → P) : P := by
  cases c
  · exact hop rfl h
  · exact hln (Or.inl rfl) h
  · exact hln (Or.inr rfl) h
  · exact hdg rfl h
  · exact hsd (Or.inl rfl) h
  · exact hsd (Or.inr rfl) h
  · exact hmt rfl h

omit [Add α] [Sub α] [Mul α] [Div α] [Neg α] [Zero α] [One α] [HasConj α] [HasRe α] in
/-- `a * c`, `c * a` and `a / c` dispatch alike (`_wrap_mul_div_scalar`): each class accepts scalar
    equivalents only, `MatrixOperator` (`fmat`) has a check of its own, and only the closures of the
    results differ between product and quotient -/
theorem scal_cases {P : Obj α → Prop} {a o xop xsid xlin : Obj α} {c : Scal α}
    {fdiag fmat : Except Err (Obj α)}
    (hop : P xop) (hdiag : fdiag = .ok o → P o) (hsid : P xsid) (hmat : fmat = .ok o → P o)
    (hlin : a.cls.arith ≠ .op → P xlin)
    (h : (match a.cls.arith with
          | .op => if c.kind.isScalarEquiv then .ok xop else .error .type
          | .diag => if c.kind.isScalarEquiv then fdiag else .error .type
          | .scaledId => if c.kind.isScalarEquiv then .ok xsid else .error .type
          | .matrix => fmat
          | _ => if c.kind.isScalarEquiv then .ok xlin else .error .type) = Except.ok o) : P o := by
  refine arith_cases a.cls h (fun _ h => ?_) (fun _ h => hdiag (ite_ok_error h).2) (fun _ h => ?_)
    (fun _ => hmat) (fun hc h => ?_)
  · obtain ⟨_, h⟩ := ite_ok_error h; cases h; exact hop
  · obtain ⟨_, h⟩ := ite_ok_error h; cases h; exact hsid
  · obtain ⟨_, h⟩ := ite_ok_error h; cases h
    exact hlin (by rcases hc with hc | hc <;> rw [hc] <;> exact Cls.noConfusion)

omit [Add α] [Sub α] [Mul α] [Div α] [Neg α] [Zero α] [One α] [HasConj α] [HasRe α] in
/-- the same dispatch on a factor that is not scalar-equivalent (an array or a string): `TypeError`
    from every class except `MatrixOperator`, whose own check compares shapes first -/
theorem scal_reject {a xop xsid xlin : Obj α} {c : Scal α} {r fdiag fmat : Except Err (Obj α)}
    (hc : c.kind.isScalarEquiv = false) (harr : c.kind = .arr → fmat = .error .shape)
    (hstr : c.kind = .str → fmat = .error .type)
    (hr : r = (match a.cls.arith with
          | .op => if c.kind.isScalarEquiv then .ok xop else .error .type
          | .diag => if c.kind.isScalarEquiv then fdiag else .error .type
          | .scaledId => if c.kind.isScalarEquiv then .ok xsid else .error .type
          | .matrix => fmat
          | _ => if c.kind.isScalarEquiv then .ok xlin else .error .type)) :
    r = .error .type ∨ (a.cls = .matrix ∧ c.kind = .arr ∧ r = .error .shape) := by
  rw [hc] at hr
  by_cases hm : a.cls = .matrix
  · rw [hm] at hr
    cases hk : c.kind with
    | arr => exact Or.inr ⟨hm, rfl, hr.trans (harr hk)⟩
    | str => exact Or.inl (hr.trans (hstr hk))
    | _ => rw [hk] at hc; cases hc
  · refine Or.inl (hr.trans ?_)
    generalize a.cls = k at hm
    cases k <;> first | rfl | exact absurd rfl hm

/-! ### what the binary operations return

The dispatch of `a ± b`, `a(b)`, `a @ b` on the classes of the operands (priority of reflected methods, `isinstance`
tests, inherited arithmetic, closed forms) is read once: whatever these operations return is one of a few named
constructions, applied to operands whose classes and shapes the dispatch has established.  Every invariant of the calculus
is then checked construction by construction. -/

/-- the five constructions behind `x + y` / `x - y` -/
inductive SumOf (sub : Bool) (x y : Obj α) : Obj α → Prop
  /-- `Operator.__add__`: one operand is a plain `Operator` -/
  | op {o} : x.md.cls = .op ∨ y.md.cls = .op → opAddSub sub x y = .ok o → SumOf sub x y o
  /-- `LinearOperator.__add__`: no closed form applies -/
  | lin : x.md.cls ≠ .op → y.md.cls ≠ .op → x.sameShape y = true → SumOf sub x y (linAddSub sub x y)
  | diag {o} : IsDiagCls x.md.cls → IsDiagCls y.md.cls → x.sameShape y = true →
      diagAddSub Cfg.fixed sub x y = .ok o → SumOf sub x y o
  | sid {o} : IsSidFam x.md.cls → IsSidFam y.md.cls → x.sameShape y = true →
      sidAddSub Cfg.fixed sub x y = .ok o → SumOf sub x y o
  | mat : x.md.cls = .matrix → y.md.cls = .matrix → x.sameShape y = true →
      SumOf sub x y (rematrix x.m x.n (resultType x.md.inDt y.md.inDt)
        (fun i j => pm sub (x.mat i j) (y.mat i j)))

omit [Div α] [Neg α] in
theorem matAddSub_out {sub : Bool} {x y o : Obj α} (hx : x.md.cls = .matrix)
    (h : matAddSub sub x y = .ok o) : SumOf sub x y o := by
  rcases ite_eq h with ⟨hy, h⟩ | ⟨_, h⟩
  · obtain ⟨hs, h⟩ := ite_ok_error h; cases h; exact .mat hx hy hs
  obtain ⟨hs, h⟩ := ite_error_ok h
  have hs : x.sameShape y = true := by simpa using hs
  rcases ite_eq h with ⟨hl, h⟩ | ⟨hl, h⟩
  · cases h
    exact .lin (by rw [hx]; decide) (by simpa [Cls.isLinop] using hl) hs
  · exact .op (Or.inr (by simpa [Cls.isLinop] using hl)) h

omit [Div α] [Neg α] in
/-- the unwrapped method of the class `c` of one operand, the other operand being an instance of `c` -/
theorem addSubOf_out {c : Cls} {sub : Bool} {a b o : Obj α} (hs : a.sameShape b = true)
    (hna : a.md.cls ≠ .matrix) (hno : a.md.cls ≠ .op)
    (hc : (c = a.md.cls ∧ b.md.cls.isSub a.md.cls = true) ∨ (c = b.md.cls ∧ a.md.cls.isSub b.md.cls = true))
    (h : addSubOf Cfg.fixed c sub a b = .ok o) : SumOf sub a b o := by
  refine arith_cases c h (fun hcc h => ?_) (fun hcc h => ?_) (fun hcc h => ?_) (fun hcc _ => ?_) (fun hcc h => ?_)
  · rcases hc with ⟨h1, _⟩ | ⟨h1, _⟩
    · exact absurd (h1 ▸ hcc) hno
    · exact .op (Or.inr (h1 ▸ hcc)) h
  · have hab : IsDiagCls a.md.cls ∧ IsDiagCls b.md.cls := by
      rcases hc with ⟨h1, h2⟩ | ⟨h1, h2⟩ <;> rw [← h1, hcc] at h2
      · exact ⟨Or.inl (h1 ▸ hcc), (isSub_diag_iff _).mp h2⟩
      · exact ⟨(isSub_diag_iff _).mp h2, Or.inl (h1 ▸ hcc)⟩
    exact .diag hab.1 hab.2 hs h
  · have fam : ∀ {d e : Cls}, IsSidFam d → e.isSub d = true → IsSidFam e := fun hd he => by
      rcases hd with rfl | rfl
      · exact (isSub_sid_iff _).mp he
      · exact Or.inr ((isSub_ident _).mp he)
    have hab : IsSidFam a.md.cls ∧ IsSidFam b.md.cls := by
      rcases hc with ⟨h1, h2⟩ | ⟨h1, h2⟩
      · exact ⟨h1 ▸ hcc, fam (h1 ▸ hcc) h2⟩
      · exact ⟨fam (h1 ▸ hcc) h2, h1 ▸ hcc⟩
    exact .sid hab.1 hab.2 hs h
  · rcases hc with ⟨h1, _⟩ | ⟨h1, h2⟩
    · exact absurd (h1 ▸ hcc) hna
    · exact absurd ((isSub_matrix _).mp (by rwa [← h1, hcc] at h2)) hna
  · cases h
    refine .lin hno (fun hb => ?_) hs
    rcases hc with ⟨_, h2⟩ | ⟨h1, _⟩
    · exact hno (isSub_op (hb ▸ h2))
    · rw [← h1] at hb; rcases hcc with h | h <;> rw [h] at hb <;> cases hb

omit [Div α] in
/-- **what `a ± b` returns**: Python tries the reflected method of a `MatrixOperator` on the right of a
    generic operator first (`b + a`, `(-b) + a`); otherwise the sum is formed from `a` and `b` -/
theorem addSub_out {sub : Bool} {a b o : Obj α} (h : addSub Cfg.fixed sub a b = .ok o) :
    SumOf sub a b o ∨
      (b.md.cls = .matrix ∧ SumOf false (if sub then matNeg b else b) a o) := by
  rcases ite_eq h with ⟨hpri, h⟩ | ⟨_, h⟩
  · have hbm : b.md.cls = .matrix := of_decide_eq_true ((Bool.and_eq_true _ _).mp hpri).1
    refine Or.inr ⟨hbm, ?_⟩
    cases sub
    · exact matAddSub_out hbm h
    · exact matAddSub_out rfl h
  · refine Or.inl ?_
    split at h
    · rename_i hop; exact .op (Or.inl hop) h
    · rename_i hm; exact matAddSub_out hm h
    · rename_i hno hnm
      obtain ⟨hs, h⟩ := ite_error_ok h
      have hs : a.sameShape b = true := by simpa using hs
      rcases ite_eq h with ⟨h1, h⟩ | ⟨_, h⟩
      · exact addSubOf_out hs hnm hno (Or.inl ⟨rfl, h1⟩) h
      rcases ite_eq h with ⟨h2, h⟩ | ⟨_, h⟩
      · exact addSubOf_out hs hnm hno (Or.inr ⟨rfl, h2⟩) h
      rcases ite_eq h with ⟨hl, h⟩ | ⟨hl, h⟩
      · cases h; exact .lin hno (by simpa [Obj.cls, Cls.isLinop] using hl) hs
      · exact .op (Or.inr (by simpa [Obj.cls, Cls.isLinop] using hl)) h

/-- the constructions behind `x(y)` -/
inductive CompOf (x y : Obj α) : Obj α → Prop
  /-- `Operator.__call__(Operator)` -/
  | op {o} : x.md.cls = .op ∨ y.md.cls = .op → opComp Cfg.fixed x y = .ok o → CompOf x y o
  /-- `ComposedLinearOperator` -/
  | comp {o} : x.md.cls ≠ .op → y.md.cls ≠ .op → linComp x y = .ok o → CompOf x y o
  | matId : x.md.cls = .matrix → y.md.cls = .ident → x.md.inShape = y.md.outShape → CompOf x y x
  | matMat : x.md.cls = .matrix → y.md.cls = .matrix → x.md.inShape = y.md.outShape →
      CompOf x y (rematrix x.m y.n (resultType x.md.inDt y.md.inDt) (matMul x.n x.mat.get y.mat.get))
  /-- `MatrixOperator.__call__(LinearOperator)`: closure composition, output dtype inferred, adjoint by
      transposition -/
  | matLin {outDt} : x.md.cls = .matrix → y.md.cls ≠ .op → x.md.inShape = y.md.outShape →
      (do let d ← y.evalDt y.md.inDt; x.evalDt d) = .ok outDt →
      CompOf x y (mkLinAuto y.md.inShape x.md.outShape y.md.inDt outDt (fun v => x.eval (y.eval v))
        (fun dx => do let d ← y.evalDt dx; x.evalDt d))

/-- the constructions behind `x @ y`: an `Identity` on either side returns the other operand, `ScaledIdentity`
    and `Diagonal` have closed forms for a right operand of their family, everything else is `x(y)` -/
inductive ProdOf (x y : Obj α) : Obj α → Prop
  | call {o} : x.md.cls ≠ .op → CompOf x y o → ProdOf x y o
  | idR : y.md.cls = .ident → x.md.inShape = y.md.outShape → ProdOf x y x
  | idL : x.md.cls = .ident → x.md.inShape = y.md.outShape → ProdOf x y y
  | sidSid : x.md.cls = .scaledId → IsSidFam y.md.cls → x.md.inShape = y.md.outShape →
      ProdOf x y (mkSid Cfg.fixed (x.dat 0 * y.dat 0) (.strong (resultType x.md.datDt y.md.datDt))
        x.md.inShape x.md.inDt)
  | sidDiag {o} : x.md.cls = .scaledId → y.md.cls = .diag → x.md.inShape = y.md.outShape →
      rediag Cfg.fixed (fun i => x.dat 0 * y.diagonal.1 i) y.diagonal.2.1
        (resultType x.md.datDt y.diagonal.2.2) y.md.inShape none = .ok o → ProdOf x y o
  | diagDiag {o sh} : x.md.cls = .diag → IsDiagCls y.md.cls → x.md.inShape = y.md.outShape →
      bshapeS x.diagonal.2.1 y.diagonal.2.1 = .ok sh →
      rediag Cfg.fixed (fun i => x.diagonal.1.get (bidxS sh x.diagonal.2.1 i) * y.diagonal.1.get (bidxS sh y.diagonal.2.1 i))
        sh (resultType x.diagonal.2.2 y.diagonal.2.2) y.md.inShape none = .ok o → ProdOf x y o

omit [Sub α] [Div α] [Neg α] in
theorem linCall_out {a b o : Obj α} (hla : a.md.cls ≠ .op) (h : linCall Cfg.fixed a b = .ok o) :
    CompOf a b o := by
  rcases ite_eq h with ⟨hl, h⟩ | ⟨hl, h⟩
  · exact .comp hla (by simpa [Obj.cls, Cls.isLinop] using hl) h
  · exact .op (Or.inr (by simpa [Obj.cls, Cls.isLinop] using hl)) h

omit [Sub α] [Div α] [Neg α] in
theorem call_out {a b o : Obj α} (h : call Cfg.fixed a b = .ok o) : CompOf a b o := by
  unfold call at h
  split at h
  · rename_i hop; exact .op (Or.inl hop) h
  · rename_i hm
    rcases ite_eq h with ⟨hl, h⟩ | ⟨hl, h⟩
    · have hlb : b.md.cls ≠ .op := by simpa [Cls.isLinop] using hl
      obtain ⟨hsh, h⟩ := ite_ok_error h
      rcases ite_eq h with ⟨hid, h⟩ | ⟨_, h⟩
      · cases h; exact .matId hm hid hsh
      rcases ite_eq h with ⟨hbm, h⟩ | ⟨_, h⟩
      · cases h; exact .matMat hm hbm hsh
      dsimp only at h
      split at h
      · cases h
      · rename_i outDt hev; cases h; exact .matLin hm hlb hsh hev
    · exact .op (Or.inr (by simpa [Cls.isLinop] using hl)) h
  · rename_i hop _; exact linCall_out hop h

omit [Sub α] [Div α] [Neg α] in
theorem matmul_out {a b o : Obj α} (h : matmul Cfg.fixed a b = .ok o) : ProdOf a b o := by
  rcases ite_eq h with ⟨_, h⟩ | ⟨hla, h⟩
  · rcases ite_eq h with ⟨hid, h⟩ | ⟨_, h⟩
    · obtain ⟨hsh, h⟩ := identChk_ok h; cases h; exact .idR hid hsh
    · split at h <;> cases h
  have hla : a.md.cls ≠ .op := hla
  rcases ite_eq h with ⟨hpri, h⟩ | ⟨_, h⟩
  · obtain ⟨hsh, h⟩ := identChk_ok h; cases h
    exact .idR (of_decide_eq_true ((Bool.and_eq_true _ _).mp hpri).1) hsh
  split at h
  · rename_i hid; obtain ⟨hsh, h⟩ := identChk_ok h; cases h; exact .idL hid hsh
  · rename_i hsid
    rcases ite_eq h with ⟨hbd, h⟩ | ⟨_, h⟩
    · obtain ⟨hsh, h⟩ := ite_error_ok h
      have hsh : a.md.inShape = b.md.outShape := by simpa [Cfg.fixed] using hsh
      rcases ite_eq h with ⟨hbs, h⟩ | ⟨hbs, h⟩
      · cases h; exact .sidSid hsid ((isSub_sid_iff _).mp hbs) hsh
      · refine .sidDiag hsid ?_ hsh h
        rcases (isSub_diag_iff _).mp hbd with h' | h' | h'
        · exact h'
        · exact absurd ((isSub_sid_iff _).mpr (Or.inl h')) hbs
        · exact absurd ((isSub_sid_iff _).mpr (Or.inr h')) hbs
    · exact .call hla (linCall_out hla h)
  · rename_i hd
    by_cases hbd : b.cls.isSub .diag = true
    · unfold diagMatmul at h
      rw [if_pos hbd] at h
      obtain ⟨hsh, h⟩ := ite_ok_error h
      have : ∃ sh, bshapeS a.diagonal.2.1 b.diagonal.2.1 = .ok sh ∧
          rediag Cfg.fixed (fun i => a.diagonal.1.get (bidxS sh a.diagonal.2.1 i) * b.diagonal.1.get (bidxS sh b.diagonal.2.1 i))
            sh (resultType a.diagonal.2.2 b.diagonal.2.2) b.md.inShape none = .ok o := by
        revert h
        rcases a.diagonal with ⟨da, sa, ta⟩
        rcases b.diagonal with ⟨db, sb, tb⟩
        intro h
        dsimp only at h
        cases hb : bshapeS sa sb with
        | error e => rw [hb] at h; cases h
        | ok sh => rw [hb] at h; exact ⟨sh, rfl, h⟩
      obtain ⟨sh, hbs, h⟩ := this
      exact .diagDiag hd ((isSub_diag_iff _).mp hbd) hsh hbs h
    · unfold diagMatmul at h; rw [if_neg hbd] at h; exact .call hla (linCall_out hla h)
  · exact .call hla (call_out h)

omit [Sub α] [Div α] [Neg α] in
theorem CompOf.conform {x y o : Obj α} (h : CompOf x y o) : x.md.inShape = y.md.outShape := by
  cases h with
  | op _ h => exact (ite_ok_error h).1
  | comp _ _ h => exact Decidable.not_not.mp (ite_error_ok h).1
  | matId _ _ hs | matMat _ _ hs | matLin _ _ hs _ => exact hs

omit [Sub α] [Div α] [Neg α] in
theorem ProdOf.conform {x y o : Obj α} (h : ProdOf x y o) : x.md.inShape = y.md.outShape := by
  cases h with
  | call _ h => exact h.conform
  | idR _ hs | idL _ hs | sidSid _ _ hs | sidDiag _ _ hs _ | diagDiag _ _ hs _ _ => exact hs

omit [Div α] [Neg α] in
theorem SumOf.sameShape {sub : Bool} {x y o : Obj α} (h : SumOf sub x y o) : x.sameShape y = true := by
  cases h with
  | op _ h => exact (ite_ok_error h).1
  | lin _ _ hs | diag _ _ hs _ | sid _ _ hs _ | mat _ _ hs => exact hs

omit [Div α] [Neg α] in
/-- a sum with a plain `Operator` operand is `Operator.__add__/__sub__` -/
theorem SumOf.of_op {sub : Bool} {x y o : Obj α} (h : SumOf sub x y o) (hop : x.md.cls = .op ∨ y.md.cls = .op) :
    opAddSub sub x y = .ok o := by
  cases h with
  | op _ h => exact h
  | lin h1 h2 _ => exact False.elim (hop.elim h1 h2)
  | diag h1 h2 _ _ | sid h1 h2 _ _ => exact False.elim (hop.elim h1.ne_op h2.ne_op)
  | mat h1 h2 _ => exact False.elim (hop.elim (by rw [h1]; decide) (by rw [h2]; decide))

omit [Sub α] [Div α] [Neg α] in
/-- `x(y)` with a plain `Operator` operand is `Operator.__call__` -/
theorem CompOf.of_op {x y o : Obj α} (h : CompOf x y o) (hop : x.md.cls = .op ∨ y.md.cls = .op) :
    opComp Cfg.fixed x y = .ok o := by
  cases h with
  | op _ h => exact h
  | comp h1 h2 _ => exact False.elim (hop.elim h1 h2)
  | matId h1 h2 _ | matMat h1 h2 _ => exact False.elim (hop.elim (by rw [h1]; decide) (by rw [h2]; decide))
  | matLin h1 h2 _ _ => exact False.elim (hop.elim (by rw [h1]; decide) h2)

theorem build_ind {P : LExpr α → Obj α → Prop}
    (mat : ∀ m n dt A, P (.mat m n dt A) (mkMat m n dt A))
    (diag : ∀ dsh ddt inSh? inDt? d o,
      mkDiag Cfg.fixed d dsh ddt (inSh?.getD dsh) (inDt?.getD ddt) = .ok o → P (.diag dsh ddt inSh? inDt? d) o)
    (scaledId : ∀ c ck sh dt, P (.scaledId c ck sh dt) (mkSid Cfg.fixed c ck.sk sh dt))
    (ident : ∀ sh dt, P (.ident sh dt) (mkIdent sh dt))
    (lin : ∀ inSh outSh inDt gDt hasAdj G,
      P (.lin inSh outSh inDt gDt hasAdj G) (mkLinLeaf inSh outSh inDt gDt hasAdj G))
    (nonlin : ∀ inSh outSh inDt gDt G, P (.nonlin inSh outSh inDt gDt G) (mkNonlinLeaf inSh outSh inDt gDt G))
    (add : ∀ a b oa ob o, build a = .ok oa → build b = .ok ob → P a oa → P b ob →
      addSub Cfg.fixed false oa ob = .ok o → P (.add a b) o)
    (sub : ∀ a b oa ob o, build a = .ok oa → build b = .ok ob → P a oa → P b ob →
      addSub Cfg.fixed true oa ob = .ok o → P (.sub a b) o)
    (neg : ∀ a oa o, build a = .ok oa → P a oa → neg Cfg.fixed oa = .ok o → P (.neg a) o)
    (smulL : ∀ c a oa o, build a = .ok oa → P a oa → smul Cfg.fixed oa c = .ok o → P (.smulL c a) o)
    (smulR : ∀ a c oa o, build a = .ok oa → P a oa → smul Cfg.fixed oa c = .ok o → P (.smulR a c) o)
    (sdiv : ∀ a c oa o, build a = .ok oa → P a oa → sdiv Cfg.fixed oa c = .ok o → P (.sdiv a c) o)
    (rdiv : ∀ c a oa o, build a = .ok oa → P a oa → oa.md.cls = .matrix → matRDivS oa c = .ok o →
      P (.rdiv c a) o)
    (addS : ∀ sb rev a c oa o, build a = .ok oa → P a oa → oa.md.cls = .matrix →
      matAddSubS sb rev oa c = .ok o → P (.addS sb rev a c) o)
    (had : ∀ div a b oa ob o, build a = .ok oa → build b = .ok ob → P a oa → P b ob →
      oa.md.cls = .matrix → matHadamard div oa ob = .ok o → P (.had div a b) o)
    (comp : ∀ a b oa ob o, build a = .ok oa → build b = .ok ob → P a oa → P b ob →
      call Cfg.fixed oa ob = .ok o → P (.comp a b) o)
    (matmul : ∀ a b oa ob o, build a = .ok oa → build b = .ok ob → P a oa → P b ob →
      matmul Cfg.fixed oa ob = .ok o → P (.matmul a b) o)
    (T : ∀ a oa o, build a = .ok oa → P a oa → opT Cfg.fixed oa = .ok o → P (.T a) o)
    (H : ∀ a oa o, build a = .ok oa → P a oa → opH Cfg.fixed oa = .ok o → P (.H a) o)
    (conj : ∀ a oa o, build a = .ok oa → P a oa → opConj Cfg.fixed oa = .ok o → P (.conj a) o)
    (gram : ∀ a oa o, build a = .ok oa → P a oa → opGram Cfg.fixed oa = .ok o → P (.gram a) o) :
    ∀ e o, build e = .ok o → P e o := by
  have un : ∀ {a : LExpr α} {f : Obj α → Except Err (Obj α)} {o : Obj α},
      (∀ oa, build a = .ok oa → P a oa) → (buildC Cfg.fixed a >>= f) = .ok o →
      ∃ oa, build a = .ok oa ∧ P a oa ∧ f oa = .ok o := fun ih h =>
    let ⟨oa, ha, h⟩ := bind_eq_ok.1 h; ⟨oa, ha, ih oa ha, h⟩
  intro e
  induction e with
  | mat m n dt A => intro o h; cases h; exact mat ..
  | diag dsh ddt inSh? inDt? d => intro o h; exact diag _ _ _ _ _ _ h
  | scaledId c ck sh dt => intro o h; cases h; exact scaledId ..
  | ident sh dt => intro o h; cases h; exact ident ..
  | lin inSh outSh inDt gDt hasAdj G => intro o h; cases h; exact lin ..
  | nonlin inSh outSh inDt gDt G => intro o h; cases h; exact nonlin ..
  | add a b iha ihb =>
    intro o h
    obtain ⟨oa, ha, pa, h⟩ := un iha h
    obtain ⟨ob, hb, pb, h⟩ := un ihb h
    exact add a b oa ob o ha hb pa pb h
  | sub a b iha ihb =>
    intro o h
    obtain ⟨oa, ha, pa, h⟩ := un iha h
    obtain ⟨ob, hb, pb, h⟩ := un ihb h
    exact sub a b oa ob o ha hb pa pb h
  | neg a iha => intro o h; obtain ⟨oa, ha, pa, h⟩ := un iha h; exact neg a oa o ha pa h
  | smulL c a iha => intro o h; obtain ⟨oa, ha, pa, h⟩ := un iha h; exact smulL c a oa o ha pa h
  | smulR a c iha => intro o h; obtain ⟨oa, ha, pa, h⟩ := un iha h; exact smulR a c oa o ha pa h
  | sdiv a c iha => intro o h; obtain ⟨oa, ha, pa, h⟩ := un iha h; exact sdiv a c oa o ha pa h
  | rdiv c a iha =>
    intro o h
    obtain ⟨oa, ha, pa, h⟩ := un iha h
    obtain ⟨hc, h⟩ := ite_ok_error h
    exact rdiv c a oa o ha pa hc h
  | addS sb rev a c iha =>
    intro o h
    obtain ⟨oa, ha, pa, h⟩ := un iha h
    obtain ⟨hc, h⟩ := ite_ok_error h
    exact addS sb rev a c oa o ha pa hc h
  | had div a b iha ihb =>
    intro o h
    obtain ⟨oa, ha, pa, h⟩ := un iha h
    obtain ⟨ob, hb, pb, h⟩ := un ihb h
    obtain ⟨hc, h⟩ := ite_ok_error h
    exact had div a b oa ob o ha hb pa pb hc h
  | comp a b iha ihb =>
    intro o h
    obtain ⟨oa, ha, pa, h⟩ := un iha h
    obtain ⟨ob, hb, pb, h⟩ := un ihb h
    exact comp a b oa ob o ha hb pa pb h
  | matmul a b iha ihb =>
    intro o h
    obtain ⟨oa, ha, pa, h⟩ := un iha h
    obtain ⟨ob, hb, pb, h⟩ := un ihb h
    exact matmul a b oa ob o ha hb pa pb h
  | T a iha => intro o h; obtain ⟨oa, ha, pa, h⟩ := un iha h; exact T a oa o ha pa h
  | H a iha => intro o h; obtain ⟨oa, ha, pa, h⟩ := un iha h; exact H a oa o ha pa h
  | conj a iha => intro o h; obtain ⟨oa, ha, pa, h⟩ := un iha h; exact conj a oa o ha pa h
  | gram a iha => intro o h; obtain ⟨oa, ha, pa, h⟩ := un iha h; exact gram a oa o ha pa h

theorem buildAll_ind {P : List (LExpr α) → List (Obj α) → Prop} (nil : P [] [])
    (cons : ∀ e es o os, build e = .ok o → P es os → P (e :: es) (o :: os)) :
    ∀ es os, buildAll Cfg.fixed es = .ok os → P es os
  | [], os, h => by cases h; exact nil
  | e :: es, os, h => by
    obtain ⟨o, ho, h⟩ := bind_eq_ok.1 h
    obtain ⟨os', hos, h⟩ := bind_eq_ok.1 h
    cases h
    exact cons e es o os' ho (buildAll_ind nil cons es os' hos)

/-- the checks both stack constructors make on their operands (`o0` the first of them) -/
structure StackOk (lin : Bool) (ops : List (Obj α)) (o0 : Obj α) : Prop where
  lin : lin = true → ∀ o ∈ ops, o.md.cls ≠ .op
  plain : ∀ o ∈ ops, o.md.outShape.isNested = false
  inDt : ∀ o ∈ ops, o.md.inDt = o0.md.inDt
  outDt : ∀ o ∈ ops, o.md.outDt = o0.md.outDt

/-- the object a stack constructor returns: a `LinearOperator` or an `Operator` with the dtypes of
    the first operand -/
def stackObj (lin : Bool) (inSh outSh : Shape) (o0 : Obj α) (ev ad : Vc α → Vc α)
    (evDt adDt : DtFn) : Obj α :=
  if lin then mkLin .linop inSh outSh o0.md.inDt o0.md.outDt ev ad evDt adDt
  else mkOp inSh outSh o0.md.inDt o0.md.outDt ev evDt

omit [Sub α] [Mul α] [Div α] [Neg α] [One α] [HasConj α] [HasRe α] in
theorem vstack_ok {lin collapse : Bool} {ops : List (Obj α)} {o : Obj α}
    (h : vstack lin ops collapse = .ok o) :
    ∃ o0 os, ops = o0 :: os ∧ StackOk lin ops o0 ∧ (∀ o' ∈ ops, o'.md.inShape = o0.md.inShape)
      ∧ o = stackObj lin o0.md.inShape
          (if isCollapsibleS (ops.map (·.md.outShape)) && collapse
            then .plain (ops.length :: plainDims o0.md.outShape)
            else .nested ((ops.map (·.md.outShape)).map plainDims)) o0
          (vstackEval ops) (fun y => vstackAdj o0.n ops 0 y)
          (fun dx => joinDts (isCollapsibleS (ops.map (·.md.outShape)) && collapse)
            (ops.map (·.evalDt dx)))
          (fun dy => sumDts (ops.map (·.adjCallDt dy))) := by
  cases ops with
  | nil => cases h
  | cons o0 os =>
    obtain ⟨hty, h⟩ := ite_error_ok h
    obtain ⟨hsh, h⟩ := ite_error_ok h
    obtain ⟨hin, h⟩ := ite_error_ok h
    obtain ⟨hnest, h⟩ := ite_error_ok h
    obtain ⟨hout, h⟩ := ite_error_ok h
    refine ⟨o0, os, rfl, ⟨fun hl o' ho' hc => hty ?_, forall_of_not_any hnest,
      fun o' ho' => of_decide_eq_true (forall_of_not_not_all hin o' ho'),
      fun o' ho' => of_decide_eq_true (forall_of_not_not_all hout o' ho')⟩,
      fun o' ho' => of_decide_eq_true (forall_of_not_not_all hsh o' ho'), ?_⟩
    · rw [hl, Bool.true_and]
      exact List.any_eq_true.mpr ⟨o', ho', decide_eq_true hc⟩
    · cases lin <;> exact (Except.ok.inj h).symm

omit [Add α] [Sub α] [Mul α] [Div α] [Neg α] [One α] [HasConj α] [HasRe α] in
theorem dstack_ok {lin cIn cOut : Bool} {ops : List (Obj α)} {o : Obj α}
    (h : dstack lin ops cIn cOut = .ok o) :
    ∃ o0 os inSh ci outSh co, ops = o0 :: os ∧ StackOk lin ops o0
      ∧ collapseS (ops.map (·.md.inShape)) cIn = .ok (inSh, ci)
      ∧ collapseS (ops.map (·.md.outShape)) cOut = .ok (outSh, co)
      ∧ o = stackObj lin inSh outSh o0 (fun x => dstackEval ops 0 x) (fun y => dstackAdj ops 0 y)
          (fun dx => joinDts co (ops.map (·.evalDt dx)))
          (fun dy => joinDts ci (ops.map (·.adjCallDt dy))) := by
  cases ops with
  | nil => cases h
  | cons o0 os =>
    obtain ⟨hty, h⟩ := ite_error_ok h
    obtain ⟨hnest, h⟩ := ite_error_ok h
    obtain ⟨hin, h⟩ := ite_error_ok h
    obtain ⟨hout, h⟩ := ite_error_ok h
    split at h
    · cases h
    rename_i inSh ci hci
    split at h
    · cases h
    rename_i outSh co hco
    refine ⟨o0, os, inSh, ci, outSh, co, rfl, ⟨fun hl o' ho' hc => hty ?_, forall_of_not_any hnest,
      fun o' ho' => of_decide_eq_true (forall_of_not_not_all hin o' ho'),
      fun o' ho' => of_decide_eq_true (forall_of_not_not_all hout o' ho')⟩, hci, hco, ?_⟩
    · rw [hl, Bool.true_and]
      exact List.any_eq_true.mpr ⟨o', ho', decide_eq_true hc⟩
    · cases lin <;> exact (Except.ok.inj h).symm

end
end Scico.OpAlg
