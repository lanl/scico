/-
  The denotation of the operator calculus.  Finite sums `sumTo` and the matrix–vector algebra over a field with
  involution; the invariant `Sound o D`: an object `o` built by scico's code *denotes* the dense matrix `D` (its forward
  closure is `x ↦ D x`, its adjoint closure `y ↦ Dᴴ y`, its class payload — matrix / diagonal / scalar — is `D`), with
  `SoundD` carrying the sizes.  Then what a closure computes: scico builds the closures of a derived operator from those
  of its operands in three ways only, entry by entry (`vzip`, `vmap`) and by composition.  `Computes f m g` says that `f`
  returns the canonical vector of size `m` with entries `g x`; each of the three ways has one lemma.  `Acts f m n D` is
  the case `g = (D · )`: by definition `EvalIs o D` is `Acts o.eval o.m o.n D` and `AdjIs o D` is
  `Acts o.adj o.n o.m (matH D)`, so the forward and the adjoint closure are handled by the same lemmas and what
  distinguishes them is an identity between matrices (`matH_pm`, `matH_smul`, `matH_matMul`); `selMx` is the matrix
  with one entry per row (diagonal operators with broadcasting).  Last, the invariant depends on the matrix on the index range
  only (`Sound.congr`).
-/
import Mathlib.Algebra.Star.Basic
import Mathlib.Tactic.Ring
import Scico.Proofs.OpAlgInv

namespace Scico.OpAlg
open Scico.DType

section sums
variable {K : Type} [Field K]

@[simp] theorem sumTo_zero (f : Nat → K) : sumTo 0 f = 0 := rfl
theorem sumTo_succ (n : Nat) (f : Nat → K) : sumTo (n + 1) f = sumTo n f + f n := rfl

theorem sumTo_congr {n : Nat} {f g : Nat → K} (h : ∀ i, i < n → f i = g i) :
    sumTo n f = sumTo n g := by
  induction n with
  | zero => rfl
  | succ n ih =>
    rw [sumTo_succ, sumTo_succ, ih (fun i hi => h i (Nat.lt_succ_of_lt hi)), h n (Nat.lt_succ_self n)]

@[simp] theorem sumTo_const_zero (n : Nat) : sumTo n (fun _ => (0 : K)) = 0 := by
  induction n with
  | zero => rfl
  | succ n ih => rw [sumTo_succ, ih, add_zero]

theorem sumTo_add (n : Nat) (f g : Nat → K) :
    sumTo n (fun i => f i + g i) = sumTo n f + sumTo n g := by
  induction n with
  | zero => simp
  | succ n ih => rw [sumTo_succ, sumTo_succ, sumTo_succ, ih]; ring

theorem sumTo_sub (n : Nat) (f g : Nat → K) :
    sumTo n (fun i => f i - g i) = sumTo n f - sumTo n g := by
  induction n with
  | zero => simp
  | succ n ih => rw [sumTo_succ, sumTo_succ, sumTo_succ, ih]; ring

theorem sumTo_neg (n : Nat) (f : Nat → K) : sumTo n (fun i => - f i) = - sumTo n f := by
  induction n with
  | zero => simp
  | succ n ih => rw [sumTo_succ, sumTo_succ, ih]; ring

theorem sumTo_mul_left (n : Nat) (c : K) (f : Nat → K) :
    sumTo n (fun i => c * f i) = c * sumTo n f := by
  induction n with
  | zero => simp
  | succ n ih => rw [sumTo_succ, sumTo_succ, ih]; ring

theorem sumTo_mul_right (n : Nat) (c : K) (f : Nat → K) :
    sumTo n (fun i => f i * c) = sumTo n f * c := by
  induction n with
  | zero => simp
  | succ n ih => rw [sumTo_succ, sumTo_succ, ih]; ring

theorem sumTo_div (n : Nat) (c : K) (f : Nat → K) :
    sumTo n (fun i => f i / c) = sumTo n f / c := by
  simp only [div_eq_mul_inv]
  exact sumTo_mul_right n c⁻¹ f

theorem sumTo_comm (n m : Nat) (f : Nat → Nat → K) :
    sumTo n (fun i => sumTo m (fun j => f i j)) = sumTo m (fun j => sumTo n (fun i => f i j)) := by
  induction n with
  | zero => simp
  | succ n ih =>
    rw [sumTo_succ, ih, ← sumTo_add]
    rfl

theorem sumTo_ite_eq (n k : Nat) (f : Nat → K) :
    sumTo n (fun j => if j = k then f j else 0) = if k < n then f k else 0 := by
  induction n with
  | zero => simp
  | succ n ih =>
    rw [sumTo_succ, ih]
    by_cases h1 : k < n
    · have : n ≠ k := by omega
      simp [h1, this, Nat.lt_succ_of_lt h1]
    · by_cases h2 : n = k
      · subst h2; simp
      · have : ¬ k < n + 1 := by omega
        simp [h1, h2, this]

theorem sumTo_ite_eq' (n k : Nat) (f : Nat → K) :
    sumTo n (fun j => if k = j then f j else 0) = if k < n then f k else 0 := by
  rw [← sumTo_ite_eq n k f]
  apply sumTo_congr
  intro i _
  by_cases h : i = k
  · simp [h]
  · have : ¬ k = i := fun h' => h h'.symm
    simp [h, this]

theorem sumTo_congr_trunc (n : Nat) (f : Nat → K) (x : Nat → K) :
    sumTo n (fun j => f j * (if j < n then x j else 0)) = sumTo n (fun j => f j * x j) := by
  apply sumTo_congr
  intro i hi
  simp [hi]

variable [StarRing K]

theorem star_sumTo (n : Nat) (f : Nat → K) : star (sumTo n f) = sumTo n (fun i => star (f i)) := by
  induction n with
  | zero => simp
  | succ n ih => rw [sumTo_succ, sumTo_succ, star_add, ih]

end sums

section vc
variable {K : Type} [Field K]

@[simp] theorem trunc_get (n : Nat) (f : V K) (i : Nat) :
    (trunc n f).get i = if i < n then f i else 0 := rfl

@[simp] theorem truncM_get (m n : Nat) (A : Mx K) (i j : Nat) :
    (truncM m n A).get i j = if i < m ∧ j < n then A i j else 0 := rfl

@[simp] theorem vtrunc_get (n : Nat) (x : Vc K) (i : Nat) :
    (vtrunc n x).get i = if i < n then x.get i else 0 := rfl

@[simp] theorem vmap_get (n : Nat) (f : K → K) (u : Vc K) (i : Nat) :
    (vmap n f u).get i = if i < n then f (u.get i) else 0 := rfl

@[simp] theorem vzip_get (n : Nat) (f : K → K → K) (u v : Vc K) (i : Nat) :
    (vzip n f u v).get i = if i < n then f (u.get i) (v.get i) else 0 := rfl

@[simp] theorem vmulVec_get (m n : Nat) (A : Mc K) (x : Vc K) (i : Nat) :
    (vmulVec m n A x).get i = if i < m then mulVec n A.get x.get i else 0 := rfl

@[simp] theorem vbmul_get (m : Nat) (pd px : Nat → Nat) (d x : Vc K) (i : Nat) :
    (vbmul m pd px d x).get i = if i < m then d.get (pd i) * x.get (px i) else 0 := rfl

theorem pm_add (a b : K) : pm false a b = a + b := rfl
theorem pm_sub (a b : K) : pm true a b = a - b := rfl

end vc

set_option linter.unusedSectionVars false

/-- conjugation is the involution of the field.  Local: a file that speaks of the model's `conj` over a star ring has to
    repeat `attribute [local instance] starConj`, or its statements elaborate with no `HasConj` instance in sight -/
@[reducible] def starConj (K : Type) [Star K] : HasConj K := ⟨star⟩
attribute [local instance] starConj

section
variable {K : Type} [Field K] [StarRing K] [HasRe K]

theorem conj_eq_star (a : K) : conj a = star a := rfl

@[simp] theorem vmulVecH_get (m n : Nat) (A : Mc K) (y : Vc K) (j : Nat) :
    (vmulVecH m n A y).get j = if j < n then mulVecH m A.get y.get j else 0 := rfl

@[simp] theorem vmulVecT_get (m n : Nat) (A : Mc K) (y : Vc K) (j : Nat) :
    (vmulVecT m n A y).get j = if j < n then mulVecT m A.get y.get j else 0 := rfl

theorem mulVec_congr_left {n : Nat} {D E : Mx K} {x : V K} {i : Nat}
    (h : ∀ j, j < n → D i j = E i j) : mulVec n D x i = mulVec n E x i := by
  unfold mulVec
  exact sumTo_congr (fun j hj => by rw [h j hj])

theorem mulVec_congr_right {n : Nat} {D : Mx K} {x x' : V K} {i : Nat}
    (h : ∀ j, j < n → x j = x' j) : mulVec n D x i = mulVec n D x' i := by
  unfold mulVec
  exact sumTo_congr (fun j hj => by rw [h j hj])

theorem mulVec_mulVec (k n : Nat) (A B : Mx K) (x : V K) (i : Nat) :
    mulVec k A (mulVec n B x) i = mulVec n (matMul k A B) x i := by
  unfold mulVec matMul
  have h1 : ∀ l, A i l * sumTo n (fun j => B l j * x j) = sumTo n (fun j => A i l * (B l j * x j)) :=
    fun l => (sumTo_mul_left n (A i l) _).symm
  simp only [h1]
  rw [sumTo_comm]
  apply sumTo_congr
  intro j _
  rw [← sumTo_mul_right]
  apply sumTo_congr
  intro l _
  ring

theorem mulVec_basis (n : Nat) (D : Mx K) (i j : Nat) :
    mulVec n D (basis j) i = if j < n then D i j else 0 := by
  simp only [mulVec, basis, mul_ite, mul_one, mul_zero]
  exact sumTo_ite_eq n j _

def EvalIs (o : Obj K) (D : Mx K) : Prop :=
  ∀ (x : Vc K) (i : Nat), (o.eval x).get i = if i < o.m then mulVec o.n D x.get i else 0

def AdjIs (o : Obj K) (D : Mx K) : Prop :=
  ∀ (y : Vc K) (j : Nat), (o.adj y).get j = if j < o.n then mulVecH o.m D y.get j else 0

/-- the scalar field is "real": trivial involution, `re` is the identity -/
def RealK (K : Type) [Field K] [StarRing K] [HasRe K] : Prop := ∀ a : K, star a = a ∧ re a = a

/-- all declared dtypes of the object are complex -/
structure DtC (o : Obj K) : Prop where
  inC : o.md.inDt.isComplex = true
  outC : o.md.outDt.isComplex = true
  datC : o.md.datDt.isComplex = true

/-- either the field is real, or everything is declared complex: in both cases no real part is
    ever taken of a genuinely complex number and no transpose replaces a conjugate transpose -/
def Mode (o : Obj K) : Prop := RealK K ∨ DtC o

/-- link between the class payload and the denoted matrix -/
def PayloadIs (o : Obj K) (D : Mx K) : Prop :=
  match o.md.cls with
  | .matrix =>
      (∀ i j, o.mat.get i j = if i < o.m ∧ j < o.n then D i j else 0)
      ∧ o.md.inShape = .plain [o.n] ∧ o.md.outShape = .plain [o.m]
      ∧ o.evalDt = (fun dx => .ok (resultType o.md.inDt dx))
  | .diag =>
      bshapeS o.md.inShape o.md.datShape = .ok o.md.outShape
      ∧ (∀ k, o.md.datShape.size ≤ k → o.dat.get k = 0)
      ∧ ∀ i j, i < o.m → j < o.n →
          D i j = if bidxS o.md.outShape o.md.inShape i = j
                  then o.dat.get (bidxS o.md.outShape o.md.datShape i) else 0
  | .scaledId =>
      o.md.inShape = o.md.outShape
      ∧ ∀ i j, i < o.n → j < o.n → D i j = if i = j then o.dat.get 0 else 0
  | .ident =>
      o.md.inShape = o.md.outShape ∧ o.dat.get 0 = 1
      ∧ ∀ i j, i < o.n → j < o.n → D i j = if i = j then 1 else 0
  | _ => True

structure Sound (o : Obj K) (D : Mx K) : Prop where
  /-- a `LinearOperator` (linear expressions never produce a plain `Operator`) -/
  lin : o.md.cls ≠ .op
  ev : EvalIs o D
  ad : AdjIs o D
  /-- the arrays returned by the closures have the declared sizes -/
  evSz : ∀ x : Vc K, (o.eval x).size = o.m
  adSz : ∀ y : Vc K, (o.adj y).size = o.n
  pl : PayloadIs o D
  mode : Mode o

/-- `o` denotes `D`, an `m × n` matrix -/
def SoundD (o : Obj K) (D : Mx K) (m n : Nat) : Prop := Sound o D ∧ o.m = m ∧ o.n = n

theorem SoundD.cast {o : Obj K} {D : Mx K} {m n m' n' : Nat} (h : SoundD o D m n) (hm : m = m')
    (hn : n = n') : SoundD o D m' n' := hm ▸ hn ▸ h

@[simp] theorem mkOp_m (inSh outSh : Shape) (a b : DT) (ev : Vc K → Vc K) (f : DtFn) :
    (mkOp inSh outSh a b ev f).m = outSh.size := rfl
@[simp] theorem mkOp_n (inSh outSh : Shape) (a b : DT) (ev : Vc K → Vc K) (f : DtFn) :
    (mkOp inSh outSh a b ev f).n = inSh.size := rfl
@[simp] theorem mkLin_m (c : Cls) (inSh outSh : Shape) (a b : DT) (ev ad : Vc K → Vc K) (f g : DtFn) :
    (mkLin c inSh outSh a b ev ad f g).m = outSh.size := rfl
@[simp] theorem mkLin_n (c : Cls) (inSh outSh : Shape) (a b : DT) (ev ad : Vc K → Vc K) (f g : DtFn) :
    (mkLin c inSh outSh a b ev ad f g).n = inSh.size := rfl
@[simp] theorem mkLin_eval (c : Cls) (inSh outSh : Shape) (a b : DT) (ev ad : Vc K → Vc K) (f g : DtFn) :
    (mkLin c inSh outSh a b ev ad f g).eval = ev := rfl
@[simp] theorem mkLin_adj (c : Cls) (inSh outSh : Shape) (a b : DT) (ev ad : Vc K → Vc K) (f g : DtFn) :
    (mkLin c inSh outSh a b ev ad f g).adj = ad := rfl
@[simp] theorem mkLin_cls (c : Cls) (inSh outSh : Shape) (a b : DT) (ev ad : Vc K → Vc K) (f g : DtFn) :
    (mkLin c inSh outSh a b ev ad f g).md.cls = c := rfl
@[simp] theorem mkOp_eval (inSh outSh : Shape) (a b : DT) (ev : Vc K → Vc K) (f : DtFn) :
    (mkOp inSh outSh a b ev f).eval = ev := rfl
@[simp] theorem mkOp_cls (inSh outSh : Shape) (a b : DT) (ev : Vc K → Vc K) (f : DtFn) :
    (mkOp inSh outSh a b ev f).md.cls = .op := rfl

theorem sameShape_iff {a b : Obj K} :
    a.sameShape b = true ↔ a.md.inShape = b.md.inShape ∧ a.md.outShape = b.md.outShape := by
  simp [Obj.sameShape]

theorem sameShape_n {a b : Obj K} (h : a.sameShape b = true) : a.n = b.n :=
  congrArg Shape.size (sameShape_iff.mp h).1

theorem sameShape_m {a b : Obj K} (h : a.sameShape b = true) : a.m = b.m :=
  congrArg Shape.size (sameShape_iff.mp h).2

/-- operators whose shapes conform have matching sizes (`b := a`: a square operator) -/
theorem conform_sizes {a b : Obj K} (h : a.md.inShape = b.md.outShape) : a.n = b.m := congrArg Shape.size h

def Computes (f : Vc K → Vc K) (m : Nat) (g : V K → V K) : Prop :=
  ∀ (x : Vc K) (i : Nat), (f x).get i = if i < m then g x.get i else 0

/-- the first `m` entries of `g x` depend on the first `n` entries of `x` only -/
def ReadsOnly (g : V K → V K) (m n : Nat) : Prop :=
  ∀ x x' : V K, (∀ j, j < n → x j = x' j) → ∀ i, i < m → g x i = g x' i

/-- `EvalIs o D` unfolds to `Acts o.eval o.m o.n D` and `AdjIs o D` to `Acts o.adj o.n o.m (matH D)` by definition
    (`mulVecH m D` is `mulVec m (matH D)`): the proofs hand `ha.ev`, `ha.ad` to the lemmas about `Acts` as they are -/
abbrev Acts (f : Vc K → Vc K) (m n : Nat) (D : Mx K) : Prop := Computes f m (mulVec n D)

theorem Computes.zero_beyond {f : Vc K → Vc K} {m : Nat} {g : V K → V K} (h : Computes f m g) (x : Vc K) {i : Nat}
    (hi : m ≤ i) : (f x).get i = 0 := by
  rw [h x i, if_neg (Nat.not_lt.mpr hi)]

theorem Computes.congr {f : Vc K → Vc K} {m : Nat} {g g' : V K → V K} (h : Computes f m g)
    (hg : ∀ x i, i < m → g x i = g' x i) : Computes f m g' := fun x i => by
  rw [h x i]
  by_cases hi : i < m
  · simp only [hi, if_true]; exact hg _ i hi
  · simp [hi]

theorem Computes.zip (op : K → K → K) {f h : Vc K → Vc K} {m : Nat} {gf gh : V K → V K}
    (hf : Computes f m gf) (hh : Computes h m gh) :
    Computes (fun x => vzip m op (f x) (h x)) m (fun v i => op (gf v i) (gh v i)) := fun x i => by
  simp only [vzip_get]
  rw [hf x i, hh x i]
  by_cases hi : i < m <;> simp [hi]

theorem Computes.map (φ : K → K) {f : Vc K → Vc K} {m : Nat} {g : V K → V K} (hf : Computes f m g) :
    Computes (fun x => vmap m φ (f x)) m (fun v i => φ (g v i)) := fun x i => by
  simp only [vmap_get]
  rw [hf x i]
  by_cases hi : i < m <;> simp [hi]

theorem Computes.comp {f h : Vc K → Vc K} {m k : Nat} {gf gh : V K → V K} (hf : Computes f m gf)
    (hh : Computes h k gh) (hr : ReadsOnly gf m k) : Computes (fun x => f (h x)) m (fun v => gf (gh v)) :=
  fun x i => by
    rw [hf (h x) i]
    by_cases hi : i < m
    · simp only [hi, if_true]
      exact hr _ _ (fun j hj => by rw [hh x j]; simp [hj]) i hi
    · simp [hi]

theorem readsOnly_mulVec (m n : Nat) (D : Mx K) : ReadsOnly (mulVec n D) m n :=
  fun _ _ hx _ _ => mulVec_congr_right hx

theorem mulVec_pm (sub : Bool) (n : Nat) (D E : Mx K) (x : V K) (i : Nat) :
    mulVec n (fun i j => pm sub (D i j) (E i j)) x i = pm sub (mulVec n D x i) (mulVec n E x i) := by
  unfold mulVec
  cases sub
  · simp only [pm, Bool.false_eq_true, if_false]
    rw [← sumTo_add]; apply sumTo_congr; intro j _; ring
  · simp only [pm, if_true]
    rw [← sumTo_sub]; apply sumTo_congr; intro j _; ring

theorem mulVec_smul (c : K) (n : Nat) (D : Mx K) (x : V K) (i : Nat) :
    mulVec n (fun i j => c * D i j) x i = c * mulVec n D x i := by
  unfold mulVec
  rw [← sumTo_mul_left]; apply sumTo_congr; intro j _; ring

theorem mulVec_neg (n : Nat) (D : Mx K) (x : V K) (i : Nat) :
    mulVec n (fun i j => - D i j) x i = - mulVec n D x i := by
  unfold mulVec
  rw [← sumTo_neg]; apply sumTo_congr; intro j _; ring

theorem mulVec_smul_right (c : K) (n : Nat) (D : Mx K) (x : V K) (i : Nat) :
    mulVec n D (fun j => c * x j) i = c * mulVec n D x i := by
  unfold mulVec
  rw [← sumTo_mul_left]; apply sumTo_congr; intro j _; ring

theorem matH_pm (sub : Bool) (D E : Mx K) (i j : Nat) :
    pm sub (matH D i j) (matH E i j) = matH (fun i j => pm sub (D i j) (E i j)) i j := by
  cases sub <;> simp [pm, matH, conj_eq_star]

theorem matH_smul (c : K) (D : Mx K) (i j : Nat) :
    star c * matH D i j = matH (fun i j => c * D i j) i j := by
  simp [matH, conj_eq_star]

theorem matH_matMul (k : Nat) (A B : Mx K) (i j : Nat) :
    matMul k (matH B) (matH A) i j = matH (matMul k A B) i j := by
  unfold matMul matH
  rw [conj_eq_star, star_sumTo]
  apply sumTo_congr; intro l _
  simp only [conj_eq_star, star_mul']; ring

/-- a matrix with at most one entry per row: row `i` has `α i` in column `p i`.  The matrices of the `Diagonal` family are
    of this form (`p` the broadcasting index map, the identity for `ScaledIdentity`) -/
def selMx (p : Nat → Nat) (α : V K) : Mx K := fun i j => if p i = j then α i else 0

theorem mulVec_selMx (n : Nat) (p : Nat → Nat) (α x : V K) (i : Nat) :
    mulVec n (selMx p α) x i = if p i < n then α i * x (p i) else 0 := by
  unfold mulVec selMx
  simp only [ite_mul, zero_mul]
  rw [sumTo_ite_eq']

/-- the product of two such matrices is one: columns are selected one after the other (the factors need to have
    this form only where the product reads them) -/
theorem matMul_of_selMx {k : Nat} {A B : Mx K} {p q : Nat → Nat} {α β : V K} {i j : Nat}
    (hA : ∀ l, l < k → A i l = selMx p α i l) (hp : p i < k) (hB : B (p i) j = selMx q β (p i) j) :
    matMul k A B i j = selMx (q ∘ p) (fun i => α i * β (p i)) i j := by
  have := mulVec_selMx k p α (fun l => B l j) i
  unfold mulVec at this
  unfold matMul
  rw [sumTo_congr (fun l hl => by rw [hA l hl]), this, if_pos hp, hB]
  unfold selMx
  simp only [Function.comp, mul_ite, mul_zero]

theorem Acts.congr {f : Vc K → Vc K} {m n : Nat} {D E : Mx K} (h : Acts f m n D)
    (hDE : ∀ i j, i < m → j < n → D i j = E i j) : Acts f m n E :=
  Computes.congr h (fun _ i hi => mulVec_congr_left (fun j hj => hDE i j hi hj))

theorem Acts.zip (sub : Bool) {f g : Vc K → Vc K} {m n : Nat} {D E : Mx K} (hf : Acts f m n D)
    (hg : Acts g m n E) :
    Acts (fun x => vzip m (pm sub) (f x) (g x)) m n (fun i j => pm sub (D i j) (E i j)) :=
  (Computes.zip (pm sub) hf hg).congr (fun _ _ _ => (mulVec_pm sub _ _ _ _ _).symm)

theorem Acts.smul (c : K) {f : Vc K → Vc K} {m n : Nat} {D : Mx K} (hf : Acts f m n D) :
    Acts (fun x => vmap m (fun t => c * t) (f x)) m n (fun i j => c * D i j) :=
  (Computes.map _ hf).congr (fun _ _ _ => (mulVec_smul c _ _ _ _).symm)

theorem Acts.comp {f g : Vc K → Vc K} {m k n : Nat} {A B : Mx K} (hf : Acts f m k A) (hg : Acts g k n B) :
    Acts (fun x => f (g x)) m n (matMul k A B) :=
  (Computes.comp hf hg (readsOnly_mulVec m k A)).congr (fun _ _ _ => mulVec_mulVec _ _ _ _ _ _)

theorem Acts.vmulVec {m n : Nat} {A : Mc K} {D : Mx K} (h : ∀ i j, i < m → j < n → A.get i j = D i j) :
    Acts (fun x => vmulVec m n A (vtrunc n x)) m n D := fun x i => by
  simp only [vmulVec_get]
  by_cases hi : i < m
  · simp only [hi, if_true]
    unfold mulVec
    apply sumTo_congr; intro j hj
    simp [hj, h i j hi hj]
  · simp [hi]

theorem Acts.vmulVecH {m n : Nat} {A : Mc K} {D : Mx K} (h : ∀ i j, i < m → j < n → A.get i j = D i j) :
    Acts (fun y => vmulVecH m n A (vtrunc m y)) n m (matH D) :=
  Acts.vmulVec (m := n) (n := m) (A := ⟨n, m, matH A.get⟩) (fun j i hj hi => congrArg star (h i j hi hj))

theorem Acts.vbmul (m n : Nat) (pd px : Nat → Nat) (d : Vc K) :
    Acts (fun x => vbmul m pd px d (vtrunc n x)) m n (selMx px (fun i => d.get (pd i))) := fun x i => by
  simp only [vbmul_get, vtrunc_get, mulVec_selMx]
  by_cases hi : i < m <;> by_cases hp : px i < n <;> simp [hi, hp]

theorem Acts.vtrunc (n : Nat) : Acts (fun x : Vc K => vtrunc n x) n n (selMx id (fun _ => 1)) := fun x i => by
  simp only [vtrunc_get, mulVec_selMx, id, one_mul]
  by_cases hi : i < n <;> simp [hi]

theorem conjV_get (k : Nat) (v : Vc K) (i : Nat) :
    (conjV k v).get i = if i < k then star (v.get i) else 0 := rfl

/-- conjugating argument and result conjugates the matrix: `conj (D · conj x) = (conj D) · x` -/
theorem Acts.conj {f : Vc K → Vc K} {m n : Nat} {D : Mx K} (hf : Acts f m n D) :
    Acts (fun x => conjV m (f (conjV n x))) m n (matConj D) := fun x i => by
  simp only [conjV_get]
  by_cases hi : i < m
  · simp only [hi, if_true]
    rw [hf _ i]
    simp only [hi, if_true]
    unfold mulVec
    rw [star_sumTo]
    apply sumTo_congr; intro j hj
    simp [conjV_get, hj, matConj, conj_eq_star]
  · simp [hi]

theorem Mode.both {a b : Obj K} (ha : Mode a) (hb : Mode b) : RealK K ∨ (DtC a ∧ DtC b) := by
  rcases ha with h | h
  · exact Or.inl h
  · rcases hb with h' | h'
    · exact Or.inl h'
    · exact Or.inr ⟨h, h'⟩

theorem PayloadIs.congr {o : Obj K} {D E : Mx K} (h : PayloadIs o D)
    (hDE : ∀ i j, i < o.m → j < o.n → D i j = E i j) : PayloadIs o E := by
  unfold PayloadIs at *
  split
  · rename_i hc
    simp only [hc] at h
    refine ⟨?_, h.2⟩
    intro i j
    rw [h.1 i j]
    by_cases hij : i < o.m ∧ j < o.n
    · simp [hij, hDE i j hij.1 hij.2]
    · simp [hij]
  · rename_i hc
    simp only [hc] at h
    refine ⟨h.1, h.2.1, ?_⟩
    intro i j hi hj
    rw [← hDE i j hi hj]; exact h.2.2 i j hi hj
  · rename_i hc
    simp only [hc] at h
    refine ⟨h.1, ?_⟩
    intro i j hi hj
    have hm : o.m = o.n := (conform_sizes h.1).symm
    rw [← hDE i j (hm ▸ hi) hj]; exact h.2 i j hi hj
  · rename_i hc
    simp only [hc] at h
    refine ⟨h.1, h.2.1, ?_⟩
    intro i j hi hj
    have hm : o.m = o.n := (conform_sizes h.1).symm
    rw [← hDE i j (hm ▸ hi) hj]; exact h.2.2 i j hi hj
  · trivial

theorem Sound.congr {o : Obj K} {D E : Mx K} (h : Sound o D)
    (hDE : ∀ i j, i < o.m → j < o.n → D i j = E i j) : Sound o E :=
  { lin := h.lin, ev := Acts.congr h.ev hDE, ad := Acts.congr h.ad (fun i j hi hj => congrArg star (hDE j i hj hi)),
    pl := h.pl.congr hDE, mode := h.mode, evSz := h.evSz, adSz := h.adSz }

end

end Scico.OpAlg
