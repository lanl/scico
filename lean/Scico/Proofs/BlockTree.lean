/-
  Block arrays nested inside other pytrees — and pytrees nested inside block arrays — (C13):
  jax's `tree_flatten` / `tree_unflatten` recursion over standard containers (tuple / list / dict:
  children kept as they are) and the registered `BlockArray` node (children rebuilt first, then the
  registered `_unflatten`: constructor when every child is an array, otherwise stored untouched).
-/
import Scico.Proofs.Block

namespace Scico.Block

variable {α δ : Type}

theorem all_childArr_eq (E : Env α δ) : ∀ (ts : List (PT α)), ts.all (childArr E) = true →
    ts = (leafVals ts).map PT.leaf ∧ ∀ a ∈ leafVals ts, E.isArr a = true
  | [], _ => ⟨rfl, by simp [leafVals]⟩
  | .leaf a :: cs, h => by
    simp only [List.all_cons, Bool.and_eq_true, childArr] at h
    obtain ⟨e, h2⟩ := all_childArr_eq E cs h.2
    refine ⟨by simp only [leafVals, List.map_cons]; rw [← e], ?_⟩
    intro x hx
    simp only [leafVals, List.mem_cons] at hx
    rcases hx with rfl | hx
    · exact h.1
    · exact h2 x hx
  | .tup _ :: cs, h => by simp [childArr] at h
  | .blk _ :: cs, h => by simp [childArr] at h

theorem unflattenNode_eq_ite [DecidableEq δ] (E : Env α δ) (ts : List (PT α)) :
    unflattenNode E ts =
      if ts.all (childArr E) = true ∧ ¬ homogeneous E (leafVals ts) = true then .error .dtype
      else .ok (.blk ts) := by
  unfold unflattenNode
  by_cases hall : ts.all (childArr E) = true
  · obtain ⟨e, harr⟩ := all_childArr_eq E ts hall
    rw [if_pos hall, mkBlock_eq_ite E harr]
    by_cases hh : homogeneous E (leafVals ts) = true
    · simp only [hh, if_true, not_true_eq_false, and_false, if_false]
      rw [← e]
    · simp [hh, hall]
  · simp [hall]

theorem eq_blk_of_unflattenNode_ok [DecidableEq δ] (E : Env α δ) {ts : List (PT α)} {t : PT α}
    (h : unflattenNode E ts = .ok t) : t = .blk ts := by
  rw [unflattenNode_eq_ite] at h
  exact (Except.ok.inj (ite_error_ok h).2).symm

/-- a block node the registered `_unflatten` accepts: some child is not an array (a placeholder, a
    nested block array, a tuple), or all are arrays of one dtype -/
def BlkOk (E : Env α δ) (ts : List (PT α)) : Prop :=
  ts.all (childArr E) = false ∨ WF E (leafVals ts)

theorem unflattenNode_ok [DecidableEq δ] (E : Env α δ) {ts : List (PT α)} (h : BlkOk E ts) :
    unflattenNode E ts = .ok (.blk ts) := by
  rw [unflattenNode_eq_ite, if_neg]
  rintro ⟨hall, hh⟩
  rcases h with h | h
  · rw [hall] at h; cases h
  · exact hh ((homogeneous_iff E _).2 h.2)

theorem unflattenNode_error [DecidableEq δ] (E : Env α δ) {ts : List (PT α)} {e : Err}
    (h : unflattenNode E ts = .error e) :
    e = .dtype ∧ ts.all (childArr E) = true ∧ ¬ Homog E (leafVals ts) := by
  rw [unflattenNode_eq_ite] at h
  split at h
  · rename_i hc
    exact ⟨(Except.error.inj h).symm, hc.1, mt (homogeneous_iff E _).2 hc.2⟩
  · cases h

mutual
/-- every block array node of the tree is acceptable -/
def PT.Ok (E : Env α δ) : PT α → Prop
  | .leaf _ => True
  | .tup cs => OkL E cs
  | .blk bs => OkL E bs ∧ BlkOk E bs
def OkL (E : Env α δ) : List (PT α) → Prop
  | [] => True
  | c :: cs => c.Ok E ∧ OkL E cs
end

mutual
/-- `tree_unflatten(tree_structure(t), tree_leaves(t)) = t`, also with further leaves behind -/
theorem unflat_leaves [DecidableEq δ] (E : Env α δ) : ∀ (t : PT α) (rest : List α), t.Ok E →
    unflat E t.struct (t.leaves ++ rest) = .ok (t, rest)
  | .leaf a, rest, _ => by simp [PT.struct, PT.leaves, unflat]
  | .tup cs, rest, h => by
    have := unflatL_leaves E cs rest (by simpa [PT.Ok] using h)
    simp [PT.struct, PT.leaves, unflat, this]
  | .blk bs, rest, h => by
    have h' : OkL E bs ∧ BlkOk E bs := by simpa [PT.Ok] using h
    have := unflatL_leaves E bs rest h'.1
    simp [PT.struct, PT.leaves, unflat, this, unflattenNode_ok E h'.2]
theorem unflatL_leaves [DecidableEq δ] (E : Env α δ) : ∀ (cs : List (PT α)) (rest : List α), OkL E cs →
    unflatL E (structL cs) (leavesL cs ++ rest) = .ok (cs, rest)
  | [], rest, _ => by simp [structL, leavesL, unflatL]
  | c :: cs, rest, h => by
    have h' : c.Ok E ∧ OkL E cs := by simpa [OkL] using h
    have h1 := unflat_leaves E c (leavesL cs ++ rest) h'.1
    have h2 := unflatL_leaves E cs rest h'.2
    simp [structL, leavesL, unflatL, List.append_assoc, h1, h2]
end

mutual
theorem unflat_sound [DecidableEq δ] (E : Env α δ) : ∀ (s : PT Unit) (l : List α) (t : PT α) (r : List α),
    unflat E s l = .ok (t, r) → t.struct = s ∧ t.leaves ++ r = l
  | .leaf u, l, t, r, h => by
    unfold unflat at h
    split at h
    · cases h
    · cases h; exact ⟨rfl, rfl⟩
  | .tup cs, l, t, r, h => by
    unfold unflat at h
    split at h
    · cases h
    · rename_i ts r' hc
      cases h
      obtain ⟨h1, h2⟩ := unflatL_sound E cs l ts r hc
      simp [PT.struct, PT.leaves, h1, h2]
  | .blk us, l, t, r, h => by
    unfold unflat at h
    split at h
    · cases h
    · rename_i ts r' hc
      split at h
      · cases h
      · rename_i t' hn
        cases h
        cases eq_blk_of_unflattenNode_ok E hn
        obtain ⟨h1, h2⟩ := unflatL_sound E us l ts r hc
        simp [PT.struct, PT.leaves, h1, h2]
theorem unflatL_sound [DecidableEq δ] (E : Env α δ) : ∀ (cs : List (PT Unit)) (l : List α)
    (ts : List (PT α)) (r : List α),
    unflatL E cs l = .ok (ts, r) → structL ts = cs ∧ leavesL ts ++ r = l
  | [], l, ts, r, h => by
    cases h
    exact ⟨rfl, rfl⟩
  | c :: cs, l, ts, r, h => by
    unfold unflatL at h
    split at h
    · cases h
    · rename_i t r1 hc
      split at h
      · cases h
      · rename_i ts' r2 hcs
        cases h
        obtain ⟨a1, a2⟩ := unflat_sound E c l t r1 hc
        obtain ⟨b1, b2⟩ := unflatL_sound E cs r1 ts' r hcs
        simp only [structL, leavesL, a1, b1, List.append_assoc, b2, a2, and_self]
end

mutual
theorem struct_leaves_length : ∀ (t : PT α), t.struct.leaves.length = t.leaves.length
  | .leaf _ => rfl
  | .tup cs => by simpa [PT.struct, PT.leaves] using structL_leaves_length cs
  | .blk bs => by simpa [PT.struct, PT.leaves] using structL_leaves_length bs
theorem structL_leaves_length : ∀ (cs : List (PT α)), (leavesL (structL cs)).length = (leavesL cs).length
  | [] => rfl
  | c :: cs => by simp [structL, leavesL, struct_leaves_length c, structL_leaves_length cs]
end

/-- `jax.tree_util.tree_map(f, t)`: flatten, apply `f` to every leaf, unflatten with the same treedef -/
def treeMap [DecidableEq δ] (E : Env α δ) (f : α → α) (t : PT α) : Res (PT α) :=
  match unflat E t.struct (t.leaves.map f) with
  | .error e => .error e
  | .ok (t', _) => .ok t'

theorem treeMap_sound [DecidableEq δ] (E : Env α δ) (f : α → α) (t t' : PT α)
    (h : treeMap E f t = .ok t') : t'.struct = t.struct ∧ t'.leaves = t.leaves.map f := by
  unfold treeMap at h
  cases hu : unflat E t.struct (t.leaves.map f) with
  | error e => simp [hu] at h
  | ok p =>
    obtain ⟨t1, r⟩ := p
    simp only [hu, Except.ok.injEq] at h
    subst h
    obtain ⟨h1, h2⟩ := unflat_sound E _ _ _ _ hu
    refine ⟨h1, ?_⟩
    have hl : t1.leaves.length = (t.leaves.map f).length := by
      rw [← struct_leaves_length t1, h1, struct_leaves_length t, List.length_map]
    -- equal structures have equally many leaves, so `t1` has used up all of them
    have hr : r = [] := by
      have := congrArg List.length h2
      rw [List.length_append, hl] at this
      exact List.eq_nil_of_length_eq_zero (by omega)
    rw [hr, List.append_nil] at h2
    exact h2

end Scico.Block
