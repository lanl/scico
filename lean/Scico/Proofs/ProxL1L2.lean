/-
  `L1MinusL2Norm.prox` (Lou & Yan 2018): the four-branch formula of the code is a global minimiser of
  `F(x) = lam(‖x‖₁ - beta‖x‖₂) + ½‖x - v‖²` for every `beta ≥ 0` and every `v` (incl. `v = 0`, code after fix cda1690).

  Proof idea (direct, no first-order conditions): write `ρ = ‖x‖₂`.  If `v = u + c` with `|c_i| ≤ κ ≤ lam` then
  `lam‖x‖₁ - ⟪x,v⟫ ≥ (lam-κ)‖x‖₁ - ⟪x,u⟫ ≥ (lam-κ)ρ - ρ‖u‖`, so `F(x) ≥ ½ρ² - ρ m + ½‖v‖²` with
  `m = ‖u‖ + κ + (beta-1) lam` (`radial_lower`).  The right-hand side is at least `½‖v‖² - ½max(m,0)²`, and the code's point
  has that value (`isGMin_of_radial_lower`): `u` = soft threshold of `v` and `κ = lam` when `max|v_i| > lam`;
  `u = 0` and `κ = max|v_i|` otherwise.  Complex input at the end, through the moduli.
-/
import Scico.Proofs.ProxBridge
import Mathlib.Tactic.Linarith

namespace Scico.ProxL1L2

open Scico.Prox Scico.ProxSpec Scico.ProxBridge WithLp

variable {n : Nat}

theorem vmax_ge (va : Fin n → ℝ) (i : Fin n) : va i ≤ vmax va :=
  (foldl_max_mem_le (List.ofFn va) 0).2 _ (List.mem_cons_of_mem _ (List.mem_ofFn.2 ⟨i, rfl⟩))

theorem vmax_nonneg (va : Fin n → ℝ) : 0 ≤ vmax va := (foldl_max_mem_le (List.ofFn va) 0).2 _ List.mem_cons_self

theorem vmax_attained (va : Fin n → ℝ) : vmax va = 0 ∨ ∃ i, va i = vmax va :=
  (List.mem_cons.1 (foldl_max_mem_le (List.ofFn va) 0).1).imp id fun h => (List.mem_ofFn.1 h).imp fun _ h => h

/-- a left fold whose step keeps the index `j` unless the new entry is strictly larger ends at an index of a largest entry -/
theorem foldl_argmax_some {va : Fin n → ℝ} {f : Option (Fin n) → Fin n → Option (Fin n)}
    (hf : ∀ j i, f (some j) i = if va j < va i then some i else some j) (l : List (Fin n)) (j : Fin n) :
    ∃ k, l.foldl f (some j) = some k ∧ va j ≤ va k ∧ ∀ i ∈ l, va i ≤ va k := by
  induction l generalizing j with
  | nil => exact ⟨j, rfl, le_refl _, fun i hi => by cases hi⟩
  | cons b t ih =>
    rw [List.foldl_cons, hf]
    by_cases hlt : va j < va b
    · obtain ⟨k, hk, h1, h2⟩ := ih b
      refine ⟨k, by rw [← hk, if_pos hlt], hlt.le.trans h1, fun i hi => ?_⟩
      rcases List.mem_cons.1 hi with rfl | hi
      exacts [h1, h2 i hi]
    · obtain ⟨k, hk, h1, h2⟩ := ih j
      refine ⟨k, by rw [← hk, if_neg hlt], h1, fun i hi => ?_⟩
      rcases List.mem_cons.1 hi with rfl | hi
      exacts [(not_lt.1 hlt).trans h1, h2 i hi]

/-- on a non-empty vector `argmaxFirst` returns an index of a largest entry -/
theorem argmaxFirst_max (va : Fin n → ℝ) (i : Fin n) : ∃ k, argmaxFirst va = some k ∧ ∀ j, va j ≤ va k := by
  have hmem : ∀ j : Fin n, j ∈ List.finRange n := List.mem_finRange
  unfold argmaxFirst
  cases h : List.finRange n with
  | nil => exact absurd (h ▸ hmem i) List.not_mem_nil
  | cons a t =>
    refine (foldl_argmax_some (va := va) (by intros; rfl) t a).imp fun k hk => ⟨hk.1, fun j => ?_⟩
    rcases List.mem_cons.1 (h ▸ hmem j) with rfl | hj
    exacts [hk.2.1, hk.2.2 j hj]

theorem softThresh_cases {lam : ℝ} (hlam : 0 ≤ lam) (t : ℝ) :
    (|t| ≤ lam ∧ max (|t| - lam) 0 * sign t = 0) ∨ (lam < t ∧ max (|t| - lam) 0 * sign t = t - lam) ∨
      (t < -lam ∧ max (|t| - lam) 0 * sign t = t + lam) := by
  rcases le_or_gt |t| lam with h | h
  · exact Or.inl ⟨h, by rw [max_eq_right (sub_nonpos.2 h), zero_mul]⟩
  · rcases lt_abs.1 h with h' | h'
    · have h0 : 0 < t := hlam.trans_lt h'
      refine Or.inr (Or.inl ⟨h', ?_⟩)
      rw [abs_of_pos h0, max_eq_left (by linarith), sign_of_pos h0, mul_one]
    · have h0 : t < 0 := by linarith
      refine Or.inr (Or.inr ⟨by linarith, ?_⟩)
      rw [abs_of_neg h0, max_eq_left (by linarith), sign_of_neg h0]; ring

/-- what the proof of the rescaled regime needs of `s = max(|t| - lam, 0)·sign t`:
    `|t - s| ≤ lam`, `lam|s| - s t = -s²`, and `s ≠ 0` when `lam < |t|` -/
theorem softThresh_spec {lam : ℝ} (hlam : 0 ≤ lam) (t : ℝ) :
    |t - max (|t| - lam) 0 * sign t| ≤ lam ∧
      lam * |max (|t| - lam) 0 * sign t| - max (|t| - lam) 0 * sign t * t = -(max (|t| - lam) 0 * sign t) ^ 2 ∧
      (lam < |t| → max (|t| - lam) 0 * sign t ≠ 0) := by
  rcases softThresh_cases hlam t with ⟨h, hs⟩ | ⟨h, hs⟩ | ⟨h, hs⟩ <;> rw [hs]
  · exact ⟨by rwa [sub_zero], by rw [abs_zero]; ring, fun h' => absurd h (not_le.2 h')⟩
  · refine ⟨?_, ?_, fun _ => (sub_pos.2 h).ne'⟩
    · rw [sub_sub_cancel, abs_of_nonneg hlam]
    · rw [abs_of_pos (sub_pos.2 h)]; ring
  · refine ⟨?_, ?_, fun _ => by linarith⟩
    · rw [sub_add_cancel_left, abs_neg, abs_of_nonneg hlam]
    · rw [abs_of_neg (by linarith)]; ring

noncomputable def l1l2Fn (beta : ℝ) (x : EuclideanSpace ℝ (Fin n)) : ℝ := ∑ i, |x i| - beta * ‖x‖

theorem norm_le_l1 (x : EuclideanSpace ℝ (Fin n)) : ‖x‖ ≤ ∑ i, |x i| := by
  have hS : 0 ≤ ∑ i, |x i| := Finset.sum_nonneg fun i _ => abs_nonneg _
  rw [← pow_le_pow_iff_left₀ (norm_nonneg x) hS two_ne_zero, EuclideanSpace.real_norm_sq_eq]
  calc ∑ i, x i ^ 2 = ∑ i, |x i| * |x i| := by
        refine Finset.sum_congr rfl fun i _ => ?_
        rw [← sq_abs]; ring
    _ ≤ ∑ i, |x i| * ∑ j, |x j| := by
        refine Finset.sum_le_sum fun i _ => ?_
        refine mul_le_mul_of_nonneg_left ?_ (abs_nonneg _)
        exact Finset.single_le_sum (f := fun j => |x j|) (fun j _ => abs_nonneg _) (Finset.mem_univ i)
    _ = (∑ i, |x i|) ^ 2 := by rw [← Finset.sum_mul]; ring

theorem obj_expand (lam beta : ℝ) (x v : EuclideanSpace ℝ (Fin n)) :
    lam * l1l2Fn beta x + 1 / 2 * ‖x - v‖ ^ 2
      = lam * ∑ i, |x i| - lam * beta * ‖x‖ + 1 / 2 * ‖x‖ ^ 2 - inner ℝ x v + 1 / 2 * ‖v‖ ^ 2 := by
  unfold l1l2Fn; rw [norm_sub_sq_real]; ring

/-- If `v = u + c` with `|c_i| ≤ κ ≤ lam` then
    `lam‖x‖₁ - ⟪x,v⟫ ≥ (lam - κ)‖x‖₁ - ⟪x,u⟫ ≥ (lam - κ)‖x‖ - ‖x‖‖u‖`, so the objective at `x` is at least
    `½ρ² - ρ m + ½‖v‖²` with `ρ = ‖x‖`, `m = ‖u‖ + κ + (beta - 1) lam`. -/
theorem radial_lower {lam beta κ : ℝ} (hκ : κ ≤ lam) (x v u : EuclideanSpace ℝ (Fin n))
    (hc : ∀ i, |v i - u i| ≤ κ) :
    1 / 2 * ‖x‖ ^ 2 - ‖x‖ * (‖u‖ + κ + (beta - 1) * lam) + 1 / 2 * ‖v‖ ^ 2
      ≤ lam * l1l2Fn beta x + 1 / 2 * ‖x - v‖ ^ 2 := by
  rw [obj_expand]
  have h1 : inner ℝ x v - inner ℝ x u ≤ κ * ∑ i, |x i| := by
    rw [inner_toE, inner_toE, ← Finset.sum_sub_distrib, Finset.mul_sum]
    refine Finset.sum_le_sum fun i _ => ?_
    calc x i * v i - x i * u i = x i * (v i - u i) := by ring
      _ ≤ |x i * (v i - u i)| := le_abs_self _
      _ = |v i - u i| * |x i| := by rw [abs_mul]; ring
      _ ≤ κ * |x i| := mul_le_mul_of_nonneg_right (hc i) (abs_nonneg _)
  linear_combination h1 + real_inner_le_norm x u + mul_le_mul_of_nonneg_left (norm_le_l1 x) (sub_nonneg.2 hκ)

/-- a radial quadratic lower bound decides the minimum: if the objective is at least `½ρ² - ρ m + c` (`ρ = ‖x‖`)
    everywhere and equals `c - ½ max(m,0)²`, the minimum of that bound over `ρ ≥ 0`, at `p`, then `p` is a global minimiser. -/
theorem isGMin_of_radial_lower {E : Type*} [NormedAddCommGroup E] [InnerProductSpace ℝ E] {f : E → ℝ} {lam c m : ℝ}
    {v p : E} (hlow : ∀ x, 1 / 2 * ‖x‖ ^ 2 - ‖x‖ * m + c ≤ lam * f x + 1 / 2 * ‖x - v‖ ^ 2)
    (hval : lam * f p + 1 / 2 * ‖p - v‖ ^ 2 = c - 1 / 2 * max m 0 ^ 2) : IsGMin Set.univ f lam v p := by
  refine ⟨trivial, fun x _ => ?_⟩
  rw [hval]
  rcases le_total m 0 with h | h
  · rw [max_eq_right h]
    linear_combination hlow x + (1 / 2) * sq_nonneg ‖x‖ + mul_nonneg (norm_nonneg x) (neg_nonneg.2 h)
  · rw [max_eq_left h]
    linear_combination hlow x + (1 / 2) * sq_nonneg (‖x‖ - m)

/-- all `|v_i| ≤ μ ≤ lam` (`u = 0`, `κ = μ`): a point with the value `½‖v‖² - ½max(m,0)²`, `m = μ + (beta - 1) lam`, is a minimiser -/
theorem isGMin_of_small {lam beta μ : ℝ} (hμ : μ ≤ lam) (v p : EuclideanSpace ℝ (Fin n)) (hv : ∀ i, |v i| ≤ μ)
    (hval : lam * l1l2Fn beta p + 1 / 2 * ‖p - v‖ ^ 2 = 1 / 2 * ‖v‖ ^ 2 - 1 / 2 * max (μ + (beta - 1) * lam) 0 ^ 2) :
    IsGMin Set.univ (l1l2Fn beta) lam v p :=
  isGMin_of_radial_lower (fun x => by
    have := radial_lower (beta := beta) hμ x v 0 fun i => by rw [PiLp.zero_apply, sub_zero]; exact hv i
    rwa [norm_zero, zero_add] at this) hval

/-- `μ + (beta - 1) lam ≤ 0` (the code's branch `vamx < (1 - beta)·alpha`, and its boundary): zero -/
theorem isGMin_zero {lam beta μ : ℝ} (hμ : μ ≤ lam) (hm : μ + (beta - 1) * lam ≤ 0) (v : EuclideanSpace ℝ (Fin n))
    (hv : ∀ i, |v i| ≤ μ) : IsGMin Set.univ (l1l2Fn beta) lam v 0 :=
  isGMin_of_small hμ v 0 hv <| by
    unfold l1l2Fn
    rw [max_eq_right hm, zero_sub, norm_neg, norm_zero, Finset.sum_eq_zero fun i _ => by rw [PiLp.zero_apply, abs_zero]]
    ring

theorem norm_onesparse (k : Fin n) (a : ℝ) : ‖toE (fun i => if i = k then a else 0)‖ = |a| := by
  rw [norm_toE, Fintype.sum_eq_single k (fun b hb => by simp [hb]),
    if_pos rfl, Real.sqrt_mul_self_eq_abs]

theorem l1_onesparse (k : Fin n) (a : ℝ) : ∑ i, |toE (fun i => if i = k then a else 0) i| = |a| := by
  rw [Fintype.sum_eq_single k (fun b hb => by simp [hb]), toE_apply, if_pos rfl]

theorem inner_onesparse (k : Fin n) (a : ℝ) (v : EuclideanSpace ℝ (Fin n)) :
    inner ℝ (toE (fun i => if i = k then a else 0)) v = a * v k := by
  rw [inner_toE, Fintype.sum_eq_single k (fun b hb => by simp [hb]),
    toE_apply, if_pos rfl]

/-- all `|v_i| ≤ μ ≤ lam`, `m = μ + (beta - 1) lam`: a one-sparse vector `a e_k` with `|a| = max(m,0)` and
    `a v_k = |a| μ` (covers `(1 - beta) lam ≤ μ` with `|v_k| = μ`, and `v = 0`) -/
theorem isGMin_onesparse {lam beta μ a : ℝ} (hμ : μ ≤ lam) (v : EuclideanSpace ℝ (Fin n)) (hv : ∀ i, |v i| ≤ μ) (k : Fin n)
    (ha : |a| = max (μ + (beta - 1) * lam) 0) (hak : a * v k = |a| * μ) :
    IsGMin Set.univ (l1l2Fn beta) lam v (toE (fun i => if i = k then a else 0)) := by
  refine isGMin_of_small hμ v _ hv ?_
  rw [obj_expand, norm_onesparse, l1_onesparse, inner_onesparse, hak, ← ha]
  -- `M (M - m) = 0` for `M = max(m,0)`
  have hM : |a| * (|a| - (μ + (beta - 1) * lam)) = 0 := by
    rw [ha]
    rcases le_total (μ + (beta - 1) * lam) 0 with h | h
    · rw [max_eq_right h, zero_mul]
    · rw [max_eq_left h, sub_self, mul_zero]
  linear_combination hM

/-- `v = u + c` with `|c_i| ≤ lam`, `lam|u_i| - u_i v_i = -u_i²` (the soft threshold has both), `u ≠ 0`:
    rescale `u` to length `‖u‖ + lam·beta` -/
theorem isGMin_rescaled {lam beta : ℝ} (hlb : 0 ≤ lam * beta) (v u : EuclideanSpace ℝ (Fin n)) (hu : 0 < ‖u‖)
    (hc : ∀ i, |v i - u i| ≤ lam) (hkey : ∀ i, lam * |u i| - u i * v i = -(u i) ^ 2) :
    IsGMin Set.univ (l1l2Fn beta) lam v (((‖u‖ + lam * beta) / ‖u‖) • u) := by
  have hM : 0 ≤ ‖u‖ + lam * beta := add_nonneg hu.le hlb
  refine isGMin_of_radial_lower (c := 1 / 2 * ‖v‖ ^ 2) (m := ‖u‖ + lam * beta) (fun x => ?_) ?_
  · linear_combination radial_lower (beta := beta) (le_refl lam) x v u hc
  · obtain ⟨k, hk⟩ : ∃ k, k = (‖u‖ + lam * beta) / ‖u‖ := ⟨_, rfl⟩
    have hk0 : 0 ≤ k := by rw [hk]; exact div_nonneg hM hu.le
    have hkM : k * ‖u‖ = ‖u‖ + lam * beta := by rw [hk]; exact div_mul_cancel₀ _ hu.ne'
    have hS : ∑ i, |(k • u) i| = k * ∑ i, |u i| := by
      rw [Finset.mul_sum]
      refine Finset.sum_congr rfl fun i _ => ?_
      rw [PiLp.smul_apply, smul_eq_mul, abs_mul, abs_of_nonneg hk0]
    have hkeyS : lam * ∑ i, |u i| - inner ℝ u v = -‖u‖ ^ 2 := by
      rw [inner_toE, EuclideanSpace.real_norm_sq_eq, Finset.mul_sum, ← Finset.sum_sub_distrib, ← Finset.sum_neg_distrib]
      exact Finset.sum_congr rfl fun i _ => hkey i
    rw [max_eq_left hM, ← hk, obj_expand, norm_smul, Real.norm_eq_abs, abs_of_nonneg hk0, real_inner_smul_left, hS]
    linear_combination k * hkeyS + (1 / 2 * (k * ‖u‖ + (‖u‖ + lam * beta)) - ‖u‖ - lam * beta) * hkM

/-- the four `where` branches of `L1MinusL2Norm.prox`, in the order of the model, each by the lemma of its regime -/
theorem isGMin_l1l2Prox {lam beta : ℝ} (hlam : 0 < lam) (hb : 0 ≤ beta) (v : Fin n → ℝ) :
    IsGMin Set.univ (l1l2Fn beta) lam (toE v) (toE (l1l2Prox beta v lam)) := by
  obtain ⟨μ, hμ⟩ : ∃ μ, μ = vmax fun i => |v i| := ⟨_, rfl⟩
  have hv : ∀ i, |toE v i| ≤ μ := fun i => hμ ▸ vmax_ge (fun i => |v i|) i
  have hatt : 0 < μ → ∃ i, |v i| = μ := fun h0 => by
    rcases vmax_attained fun i => |v i| with hz | h
    · rw [← hμ] at hz; exact absurd hz h0.ne'
    · rwa [← hμ] at h
  unfold l1l2Prox
  simp only [hasAbs_abs, maxP_eq, norm2_eq, ← hμ]
  split_ifs with h0 h1 h2
  · -- `lam < μ`: shrink and rescale
    obtain ⟨i, hi⟩ := hatt h0
    have hs := fun j => softThresh_spec hlam.le (v j)
    have hp : ∀ (u : Fin n → ℝ) (c : ℝ), toE (fun i => u i * c) = c • toE u := fun u c => by
      rw [← toE_smul]; congr 1; funext i; ring
    rw [hp]
    have hu : 0 < ‖toE fun j => max (|v j| - lam) 0 * sign (v j)‖ :=
      lt_of_lt_of_le (abs_pos.2 ((hs i).2.2 (hi ▸ h1))) (PiLp.norm_apply_le (toE fun j => max (|v j| - lam) 0 * sign (v j)) i)
    exact isGMin_rescaled (mul_nonneg hlam.le hb) (toE v) _ hu (fun j => (hs j).1) (fun j => (hs j).2.1)
  · exact isGMin_zero (not_lt.1 h1) (by linarith only [h2]) (toE v) hv
  · -- `(1 - beta) lam ≤ μ ≤ lam`: one-sparse at the first arg-max
    obtain ⟨i, hi⟩ := hatt h0
    obtain ⟨k, hk, hmax⟩ := argmaxFirst_max (fun i => |v i|) i
    have hkμ : |v k| = μ := le_antisymm (hv k) (hi ▸ hmax i)
    have hvk : v k ≠ 0 := fun h => by rw [h, abs_zero] at hkμ; exact h0.ne hkμ
    have hm : 0 ≤ μ + (beta - 1) * lam := by linarith only [not_lt.1 h2]
    rw [hk]; dsimp only; rw [hkμ]
    refine isGMin_onesparse (not_lt.1 h1) (toE v) hv k ?_ ?_
    · rw [abs_mul, abs_sign hvk, mul_one, abs_of_nonneg hm, max_eq_left hm]
    · rw [abs_mul, abs_sign hvk, mul_one, abs_of_nonneg hm, toE_apply, mul_assoc, sign_eq, _root_.sign_mul_self, hkμ]
  · -- `v = 0`: `max(beta - 1, 0)·lam` in entry 0
    have hμ0 : μ = 0 := le_antisymm (not_lt.1 h0) (hμ ▸ vmax_nonneg _)
    rcases Nat.eq_zero_or_pos n with hn | hn
    · subst hn
      exact ⟨trivial, fun x _ => by rw [Subsingleton.elim x (toE _)]⟩
    · have hp : (fun i : Fin n => if i.val = 0 then max (beta - 1) 0 * lam else 0)
          = fun i => if i = ⟨0, hn⟩ then max (beta - 1) 0 * lam else 0 := by
        funext i; simp only [Fin.ext_iff]
      have hvk : toE v ⟨0, hn⟩ = 0 := abs_eq_zero.1 (le_antisymm (hμ0 ▸ hv _) (abs_nonneg _))
      rw [hp]
      refine isGMin_onesparse (hμ0 ▸ hlam.le) (toE v) hv ⟨0, hn⟩ ?_ ?_
      · rw [abs_of_nonneg (mul_nonneg (le_max_right _ _) hlam.le), hμ0, zero_add, max_mul_of_nonneg _ _ hlam.le, zero_mul]
      · rw [hvk, hμ0, mul_zero, mul_zero]

/-! ### complex input, by reduction to the real theorem: the code works with the moduli `va = |v|` and the phases `vs = v/|v|` only, so its
    result is `r_i · phase(v_i)` with `r = l1l2Prox beta va lam`, and the functional depends on the moduli only (`isGMin_of_moduli`) -/

noncomputable def l1l2FnC (beta : ℝ) (x : PiLp 2 (fun _ : Fin n => ℂ)) : ℝ := ∑ i, ‖x i‖ - beta * ‖x‖

noncomputable def moduli (x : PiLp 2 (fun _ : Fin n => ℂ)) : EuclideanSpace ℝ (Fin n) := toE (fun i => ‖x i‖)

theorem norm_moduli (x : PiLp 2 (fun _ : Fin n => ℂ)) : ‖moduli x‖ = ‖x‖ := by
  have h1 : ‖moduli x‖ ^ 2 = ‖x‖ ^ 2 := by
    rw [EuclideanSpace.real_norm_sq_eq, PiLp.norm_sq_eq_of_L2]; rfl
  rw [← Real.sqrt_sq (norm_nonneg (moduli x)), h1, Real.sqrt_sq (norm_nonneg x)]

theorem l1l2FnC_eq (beta : ℝ) (x : PiLp 2 (fun _ : Fin n => ℂ)) : l1l2FnC beta x = l1l2Fn beta (moduli x) := by
  unfold l1l2FnC l1l2Fn
  rw [norm_moduli]
  congr 1
  refine Finset.sum_congr rfl fun i _ => ?_
  simp [moduli]

/-- passing to moduli does not increase distances: `|‖x_i‖ - ‖v_i‖| ≤ ‖x_i - v_i‖` -/
theorem norm_moduli_sub_le (x v : PiLp 2 (fun _ : Fin n => ℂ)) : ‖moduli x - moduli v‖ ≤ ‖x - v‖ := by
  rw [← pow_le_pow_iff_left₀ (norm_nonneg _) (norm_nonneg _) two_ne_zero, EuclideanSpace.real_norm_sq_eq, PiLp.norm_sq_eq_of_L2]
  refine Finset.sum_le_sum fun i _ => ?_
  have : (moduli x - moduli v) i = ‖x i‖ - ‖v i‖ := rfl
  rw [this, PiLp.sub_apply, ← sq_abs (‖x i‖ - ‖v i‖)]
  exact pow_le_pow_left₀ (abs_nonneg _) (abs_norm_sub_norm_le (x i) (v i)) 2

/-- functionals of the moduli on `ℂⁿ` (`isGMin_of_reduction` for `T = moduli`): if `toE r` is a global minimiser of the real problem at
    the moduli of `v`, and `g` does not see the signs of `r`, then `r_i` times the phase of `v_i` is one of the complex problem at `v`. -/
theorem isGMin_of_moduli {g : EuclideanSpace ℝ (Fin n) → ℝ} {lam : ℝ} (v : PiLp 2 (fun _ : Fin n => ℂ)) (u : Fin n → ℂ)
    (r : Fin n → ℝ) (hu : ∀ i, ‖u i‖ = 1) (hv : ∀ i, v i = ‖v i‖ • u i) (hg : g (toE fun i => |r i|) = g (toE r))
    (hmin : IsGMin Set.univ g lam (moduli v) (toE r)) :
    IsGMin Set.univ (fun x => g (moduli x)) lam v (toLp 2 fun i => r i • u i) := by
  refine isGMin_of_reduction (T := moduli) trivial (fun x => norm_moduli_sub_le x v) ?_ ?_ fun x _ => hmin.2 (moduli x) trivial
  · rw [← hg]; unfold moduli; congr 2; funext i
    rw [norm_smul, hu, mul_one, Real.norm_eq_abs]
  · rw [← sq_eq_sq₀ (norm_nonneg _) (norm_nonneg _), EuclideanSpace.real_norm_sq_eq, PiLp.norm_sq_eq_of_L2]
    refine Finset.sum_congr rfl fun i _ => ?_
    have : (toE r - moduli v) i = r i - ‖v i‖ := rfl
    rw [this, PiLp.sub_apply]
    nth_rewrite 1 [hv i]
    rw [← sub_smul, norm_smul, hu, mul_one, Real.norm_eq_abs, sq_abs]

theorem l1l2Fn_abs (beta : ℝ) (r : Fin n → ℝ) : l1l2Fn beta (toE fun i => |r i|) = l1l2Fn beta (toE r) := by
  unfold l1l2Fn
  rw [norm_toE, norm_toE]
  simp only [toE_apply, abs_abs, abs_mul_abs_self]

end Scico.ProxL1L2
