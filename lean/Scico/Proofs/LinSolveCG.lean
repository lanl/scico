/-
  Proofs about the conjugate-gradient models of `Scico.Model.LinSolve` (C14):
  loop invariant for every iteration count, exit rule, reported residual, absence of division by
  zero for Hermitian positive-definite `A`, `M`; the fixed-iteration (scan) variant.
-/
import Mathlib.Analysis.InnerProductSpace.Basic
import Scico.Model.LinSolve
import Scico.Proofs.LinSolveLoops

namespace Scico.LinSolve
open RCLike

variable {𝕜 V : Type} [RCLike 𝕜] [NormedAddCommGroup V] [InnerProductSpace 𝕜 V]

/-- the numpy operations of `cg` at an abstract inner-product space:
    `inner = Σ conj(a)·b`, complex `>` is lexicographic (as in jax), `sqrt(·).real` of the principal root -/
noncomputable def rcOps (𝕜 V : Type) [RCLike 𝕜] [NormedAddCommGroup V] [InnerProductSpace 𝕜 V] : CGOps 𝕜 ℝ V where
  inner x y := inner 𝕜 x y
  norm x := ‖x‖
  gtReal s t := decide (t < re s ∨ (t = re s ∧ 0 < im s))
  sqrtRe s := Real.sqrt ((‖s‖ + re s) / 2)
  isZero s := decide (s = 0)

structure CGInv (A M : V → V) (b : V) (s : CGState 𝕜 V) : Prop where
  res : s.r = b - A s.x
  pre : s.z = M s.r
  num : s.num = inner 𝕜 s.r s.z

theorem cgInit_inv (A M : V → V) (b x0 : V) : CGInv A M b (cgInit (rcOps 𝕜 V) A M b x0) :=
  ⟨rfl, rfl, rfl⟩

theorem CGInv.num_eq {A M : V → V} {b : V} {s : CGState 𝕜 V} (h : CGInv A M b s) :
    s.num = inner 𝕜 (b - A s.x) (M (b - A s.x)) := by
  rw [h.num, h.pre, h.res]

/-- the update `r − α A p` of the residual, common to `cg`, `cg_solver` and the jax variant, keeps `r = b − A x` along
    `x + α p` -/
theorem residual_step (A : V →ₗ[𝕜] V) {b x r : V} (h : r = b - A x) (α : 𝕜) (p : V) :
    r - α • A p = b - A (x + α • p) := by
  rw [h, LinearMap.map_add, LinearMap.map_smul]; abel

theorem cgStep_inv (A : V →ₗ[𝕜] V) (M : V → V) (b : V) (s : CGState 𝕜 V) (h : CGInv (⇑A) M b s) :
    CGInv (⇑A) M b (cgStep (rcOps 𝕜 V) A M s) :=
  ⟨residual_step A h.res _ _, rfl, rfl⟩

theorem sqrtRe_of_real_nonneg (s : 𝕜) (him : im s = 0) (hre : 0 ≤ re s) :
    (rcOps 𝕜 V).sqrtRe s = Real.sqrt (re s) := by
  have hn : ‖s‖ = re s := by
    rw [← RCLike.conj_eq_iff_re.1 (RCLike.conj_eq_iff_im.2 him), RCLike.norm_of_nonneg hre, RCLike.ofReal_re]
  simp only [rcOps, hn]
  congr 1; ring

theorem cg_spec (A : V →ₗ[𝕜] V) (M : V → V) (b x0 : V) (tol atol : ℝ) (maxiter : Nat) :
    let out := cg (rcOps 𝕜 V) A M b x0 tol atol maxiter
    let r := b - A out.1
    let num : 𝕜 := inner 𝕜 r (M r)
    out.2.relRes = (rcOps 𝕜 V).sqrtRe num / ‖b‖ ∧ out.2.numIter ≤ maxiter ∧
      (out.2.numIter = maxiter ∨
        ¬ (cgTolSq tol atol ‖b‖ < re num ∨ (cgTolSq tol atol ‖b‖ = re num ∧ 0 < im num))) := by
  intro out r num
  obtain ⟨hinv, hle, hexit⟩ := countedLoop_spec (cgCond (rcOps 𝕜 V) maxiter (cgTolSq tol atol ‖b‖)) (cgStep (rcOps 𝕜 V) A M)
    (cgLoop (rcOps 𝕜 V) A M maxiter (cgTolSq tol atol ‖b‖)) (fun _ => rfl) (fun _ _ => rfl) (·.ii) (fun _ => rfl) maxiter
    (fun s h => of_decide_eq_true (Bool.and_eq_true _ _ ▸ h).1)
    (CGInv (⇑A) M b) (cgStep_inv A M b) (cgInit (rcOps 𝕜 V) A M b x0) rfl (cgInit_inv A M b x0)
  set s := cgLoop (rcOps 𝕜 V) A M maxiter (cgTolSq tol atol ‖b‖) maxiter (cgInit (rcOps 𝕜 V) A M b x0) with hs
  have hnum : s.num = num := hinv.num_eq
  refine ⟨?_, hle, ?_⟩
  · show cgRelRes (rcOps 𝕜 V) s.num ‖b‖ = _
    rw [hnum]; rfl
  · show s.ii = maxiter ∨ _
    by_cases hlt : s.ii < maxiter
    · right
      have : (rcOps 𝕜 V).gtReal s.num (cgTolSq tol atol ‖b‖) = false := by
        simpa [cgCond, hlt] using hexit
      rw [hnum] at this
      simpa [rcOps] using this
    · left; omega

theorem cg_spec_noprecond (A : V →ₗ[𝕜] V) (b x0 : V) (tol atol : ℝ) (maxiter : Nat)
    (htol : 0 ≤ max (tol * ‖b‖) atol) :
    let out := cg (rcOps 𝕜 V) A (fun v => v) b x0 tol atol maxiter
    out.2.relRes = ‖b - A out.1‖ / ‖b‖ ∧
      (out.2.numIter = maxiter ∨ ‖b - A out.1‖ ≤ max (tol * ‖b‖) atol) := by
  intro out
  obtain ⟨h1, _, h3⟩ := cg_spec A (fun v => v) b x0 tol atol maxiter
  set r := b - A out.1 with hr
  have hre : re (inner 𝕜 r r) = ‖r‖ ^ 2 := inner_self_eq_norm_sq r
  have him : im (inner 𝕜 r r) = 0 := by
    rw [inner_self_eq_norm_sq_to_K]; norm_cast
  constructor
  · rw [h1, sqrtRe_of_real_nonneg _ him (by rw [hre]; positivity), hre, Real.sqrt_sq (norm_nonneg _)]
  · rcases h3 with h | h
    · exact Or.inl h
    · right
      push Not at h
      have h' := h.1
      rw [hre] at h'
      rw [cgTolSq, ← sq] at h'
      exact (sq_le_sq₀ (norm_nonneg r) htol).1 h'

/-- the invariant of the Hermitian case: `⟪r, p⟫ = num` is what gives `p ≠ 0`, hence `⟪p, A p⟫ ≠ 0`, while `num ≠ 0` (it is kept
    because the new residual is orthogonal to `p`); `num` is real -/
structure CGInvHerm (A M : V → V) (b : V) (s : CGState 𝕜 V) : Prop extends CGInv A M b s where
  rp : inner 𝕜 s.r s.p = s.num
  real : im s.num = 0

/-- `⟪v, T v⟫` is real for a Hermitian `T`: its own conjugate, with zero imaginary part, the cast of its real part -/
theorem conj_inner_herm (T : V → V) (hT : ∀ x y, inner 𝕜 (T x) y = inner 𝕜 x (T y)) (v : V) :
    (starRingEnd 𝕜) (inner 𝕜 v (T v)) = inner 𝕜 v (T v) := by
  rw [inner_conj_symm, hT]

theorem im_inner_herm (T : V → V) (hT : ∀ x y, inner 𝕜 (T x) y = inner 𝕜 x (T y)) (v : V) :
    im (inner 𝕜 v (T v)) = 0 :=
  RCLike.conj_eq_iff_im.1 (conj_inner_herm T hT v)

theorem ofReal_re_inner_herm (T : V → V) (hT : ∀ x y, inner 𝕜 (T x) y = inner 𝕜 x (T y)) (v : V) :
    ((re (inner 𝕜 v (T v)) : ℝ) : 𝕜) = inner 𝕜 v (T v) :=
  RCLike.conj_eq_iff_re.1 (conj_inner_herm T hT v)

theorem cgInit_invHerm (A M : V → V) (hM : ∀ x y, inner 𝕜 (M x) y = inner 𝕜 x (M y)) (b x0 : V) :
    CGInvHerm A M b (cgInit (rcOps 𝕜 V) A M b x0) :=
  { toCGInv := cgInit_inv A M b x0, rp := rfl, real := im_inner_herm M hM _ }

theorem cgTolSq_nonneg (tol atol bn : ℝ) : 0 ≤ cgTolSq tol atol bn := by
  unfold cgTolSq; exact mul_self_nonneg _

theorem cgCond_false_of_num_zero (maxiter : ℕ) {tolsq : ℝ} (htol : 0 ≤ tolsq) {s : CGState 𝕜 V} (hz : s.num = 0) :
    cgCond (rcOps 𝕜 V) maxiter tolsq s = false := by
  simp [cgCond, rcOps, hz, not_lt.2 htol]

theorem num_ne_zero_of_cond (maxiter : ℕ) (tolsq : ℝ) (htol : 0 ≤ tolsq) (s : CGState 𝕜 V)
    (hc : cgCond (rcOps 𝕜 V) maxiter tolsq s = true) : s.num ≠ 0 := fun h0 => by
  rw [cgCond_false_of_num_zero maxiter htol h0] at hc
  cases hc

theorem CGInv.r_ne_zero {A M : V → V} {b : V} {s : CGState 𝕜 V} (h : CGInv A M b s) (hnum : s.num ≠ 0) : s.r ≠ 0 :=
  fun h0 => hnum (by rw [h.num, h0, inner_zero_left])

theorem CGInv.r_eq_zero {A M : V → V} {b : V} {s : CGState 𝕜 V} (h : CGInv A M b s)
    (hMp : ∀ x, x ≠ 0 → 0 < re (inner 𝕜 x (M x))) (hz : s.num = 0) : s.r = 0 := by
  by_contra hne
  have := hMp _ hne
  rw [← h.pre, ← h.num, hz, AddMonoidHom.map_zero] at this
  exact lt_irrefl _ this

theorem CGInvHerm.p_ne_zero {A M : V → V} {b : V} {s : CGState 𝕜 V} (h : CGInvHerm A M b s) (hnum : s.num ≠ 0) : s.p ≠ 0 :=
  fun h0 => hnum (by rw [← h.rp, h0, inner_zero_right])

/-- the denominator of `alpha` does not vanish while `num ≠ 0`, which the loop condition guarantees (`num_ne_zero_of_cond`) -/
theorem CGInvHerm.den_ne_zero {A M : V → V} {b : V} {s : CGState 𝕜 V} (h : CGInvHerm A M b s)
    (hAp : ∀ x, x ≠ 0 → 0 < re (inner 𝕜 x (A x))) (hnum : s.num ≠ 0) : inner 𝕜 s.p (A s.p) ≠ 0 := fun h0 => by
  have := hAp s.p (h.p_ne_zero hnum)
  rw [h0] at this; simp at this

theorem cgStep_invHerm (A : V →ₗ[𝕜] V) (M : V → V) (b : V)
    (hAs : ∀ x y, inner 𝕜 (A x) y = inner 𝕜 x (A y)) (hAp : ∀ x, x ≠ 0 → 0 < re (inner 𝕜 x (A x)))
    (hM : ∀ x y, inner 𝕜 (M x) y = inner 𝕜 x (M y))
    (s : CGState 𝕜 V) (h : CGInvHerm (⇑A) M b s) (hnum : s.num ≠ 0) :
    CGInvHerm (⇑A) M b (cgStep (rcOps 𝕜 V) A M s) := by
  have hden := h.den_ne_zero hAp hnum
  have hinv := cgStep_inv A M b s h.toCGInv
  refine { toCGInv := hinv, rp := ?_, real := ?_ }
  · have hden_real := conj_inner_herm (⇑A) hAs s.p
    have hnum_real : (starRingEnd 𝕜) s.num = s.num := RCLike.conj_eq_iff_im.2 h.real
    simp only [cgStep, rcOps]
    set α := s.num / inner 𝕜 s.p (A s.p) with hα
    set r' := s.r - α • A s.p with hr'
    have h0 : inner 𝕜 r' s.p = 0 := by
      rw [hr', inner_sub_left, inner_smul_left, hα, map_div₀, hden_real, hnum_real, hAs s.p s.p, h.rp,
        div_mul_cancel₀ _ hden, sub_self]
    rw [inner_add_right, inner_smul_right, h0, mul_zero, add_zero]
  · have := hinv.num
    rw [hinv.pre] at this
    rw [this]
    exact im_inner_herm M hM _

/-- once the residual, the search direction and `num` are exactly zero a scan step changes nothing
    (`alpha` and `beta` are set to `0` by the guards instead of `0/0`) -/
theorem scanStep_fixed (A : V →ₗ[𝕜] V) (s : ScanState 𝕜 V) (hr : s.r = 0) (hp : s.p = 0) (hn : s.num = 0) :
    scanStep (rcOps 𝕜 V) A s = s := by
  cases s with
  | mk x r p num =>
    simp only at hr hp hn
    subst hr hp hn
    simp [scanStep, rcOps]

/-- `lax.scan` over a body that ignores the scanned input is the iterate of the body -/
theorem scanIter_eq_iterate (ops : CGOps 𝕜 ℝ V) (A : V → V) : ∀ (k : ℕ) (s : ScanState 𝕜 V),
    scanIter ops A k s = (scanStep ops A)^[k] s
  | 0, _ => rfl
  | k + 1, _ => scanIter_eq_iterate ops A k _

end Scico.LinSolve
