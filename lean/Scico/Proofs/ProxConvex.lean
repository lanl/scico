/-
  The convex functionals of C02: the one-dimensional proximal points of their profiles (`RadCert`: Huber, ball; the norm is
  `radCert_id`), and the modelled maps written as `c • v` (vectors) or entry by entry (real, complex): the form in which
  `cert_radial_smul` and the product-space lemmas apply.
-/
import Scico.Proofs.ProxBridge
import Mathlib.Tactic.Linarith
import Mathlib.Tactic.Positivity

namespace Scico.ProxConvex

open Scico.Prox Scico.ProxSpec Scico.ProxBridge

/-! ### one-dimensional proximal points (`t = ‖v‖ ≥ 0`, `c t` = norm of the prox point `c • v`), as `RadCert`;
    the profile `r` (L1, L2, L2,1) is `radCert_id` -/

noncomputable def huberFn (delta r : ℝ) : ℝ := if r ≤ delta then r ^ 2 / 2 else delta * (r - delta / 2)

/-- every tangent line of slope `g ≤ delta` lies below the Huber function -/
theorem huber_tangent {delta g : ℝ} (hg : g ≤ delta) (r : ℝ) : g * r - g ^ 2 / 2 ≤ huberFn delta r := by
  unfold huberFn
  split_ifs with hr
  · linear_combination (1 / 2) * sq_nonneg (r - g)
  · linarith [mul_nonneg (sub_nonneg.mpr hg) (by linarith : 0 ≤ r - delta + (delta - g) / 2)]

/-- the Huber function in terms of its slope `g = min s delta` -/
theorem huber_eq_slope (delta s : ℝ) : huberFn delta s = min s delta * s - min s delta ^ 2 / 2 := by
  unfold huberFn
  split_ifs with hs
  · rw [min_eq_left hs]; ring
  · rw [min_eq_right (not_le.mp hs).le]; ring

/-- Huber, for any `s` solving the stationarity equation `t - s = lam · min s delta` -/
theorem one_d_huber_of_slope {t lam delta s : ℝ} (hlam : 0 < lam) (hs : t - s = lam * min s delta) (r : ℝ) :
    lam * huberFn delta s + (t - s) * (r - s) ≤ lam * huberFn delta r := by
  have := mul_le_mul_of_nonneg_left (huber_tangent (min_le_right s delta) r) hlam.le
  rw [hs, huber_eq_slope delta s]
  linear_combination this

theorem radCert_huber {t lam delta : ℝ} (hlam : 0 < lam) (hd : 0 < delta) :
    RadCert Set.univ (huberFn delta) lam t (1 - delta * lam / max t (delta * (1 + lam))) := by
  obtain ⟨c, hc⟩ : ∃ c, c = 1 - delta * lam / max t (delta * (1 + lam)) := ⟨_, rfl⟩
  rw [← hc]
  have hdl : 0 < delta * lam := mul_pos hd hlam
  have hM : 0 < delta * (1 + lam) := by linarith
  have hlt : delta * lam < max t (delta * (1 + lam)) := lt_of_lt_of_le (by linarith) (le_max_right _ _)
  have hq1 : delta * lam / max t (delta * (1 + lam)) < 1 := (div_lt_one (hdl.trans hlt)).mpr hlt
  have hq0 : 0 < delta * lam / max t (delta * (1 + lam)) := div_pos hdl (hdl.trans hlt)
  refine ⟨by rw [hc]; linarith, by rw [hc]; linarith, trivial, fun r _ _ => one_d_huber_of_slope hlam ?_ r⟩
  rcases le_total (delta * (1 + lam)) t with h | h
  · -- far regime : c t = t - delta lam ≥ delta, slope delta
    have hct : c * t = t - delta * lam := by
      rw [hc, max_eq_left h, sub_mul, one_mul, div_mul_cancel₀ _ (hM.trans_le h).ne']
    rw [hct, min_eq_right (by linarith)]; ring
  · -- near regime : c t = t/(1+lam) ≤ delta, slope c t
    have h1l : (0 : ℝ) < 1 + lam := by linarith
    have hct : c * t = t / (1 + lam) := by
      rw [hc, max_eq_right h]; field_simp; ring
    rw [hct, min_eq_left ((div_le_iff₀ h1l).mpr (by linarith))]
    field_simp; ring

/-- `(rad / max t rad) t = min t rad` -/
theorem radCert_ball {t lam rad : ℝ} (hr : 0 < rad) :
    RadCert (Set.Iic rad) (fun _ => 0) lam t (rad / max t rad) := by
  obtain ⟨c, hcdef⟩ : ∃ c, c = rad / max t rad := ⟨_, rfl⟩
  rw [← hcdef]
  have hmax : 0 < max t rad := lt_of_lt_of_le hr (le_max_right _ _)
  have hc0 : 0 ≤ c := by rw [hcdef]; positivity
  have hc1 : c ≤ 1 := by rw [hcdef]; exact (div_le_one hmax).mpr (le_max_right _ _)
  rcases le_total t rad with h | h
  · have hc : c = 1 := by rw [hcdef, max_eq_right h]; exact div_self hr.ne'
    refine ⟨hc0, hc1, by rw [hc, one_mul]; exact h, fun r _ _ => ?_⟩
    rw [hc]; simp
  · have hc : c * t = rad := by rw [hcdef, max_eq_left h, div_mul_cancel₀ _ (hr.trans_le h).ne']
    refine ⟨hc0, hc1, by rw [hc]; exact le_refl rad, fun r hrr _ => ?_⟩
    rw [hc, mul_zero, zero_add]
    exact mul_nonpos_of_nonneg_of_nonpos (by linarith) (by linarith [Set.mem_Iic.mp hrr])

section Vectors
variable {n : Nat}

theorem l2Prox_eq (v : Fin n → ℝ) (lam : ℝ) :
    toE (l2Prox v lam) = (if ‖toE v‖ = 0 then 0 else max (1 - lam / ‖toE v‖) 0) • toE v := by
  unfold l2Prox
  simp only [norm2_eq, isZero_iff, maxP_eq]
  split_ifs <;> rw [toE_smul]

theorem huberNonsepProx_eq (delta : ℝ) (v : Fin n → ℝ) (lam : ℝ) :
    toE (huberNonsepProx delta v lam) = (1 - delta * lam / max ‖toE v‖ (delta * (1 + lam))) • toE v := by
  unfold huberNonsepProx
  simp only [norm2_eq, maxP_eq]
  rw [toE_smul]

theorem l2ballProx_eq (rad : ℝ) (v : Fin n → ℝ) :
    toE (l2ballProx rad v) = (rad / max ‖toE v‖ rad) • toE v := by
  unfold l2ballProx
  simp only [norm2_eq, maxP_eq]
  rw [← toE_smul]; congr 1; funext i; ring

theorem sqL2Prox_eq (v : Fin n → ℝ) (lam : ℝ) :
    toE (sqL2Prox v lam) = (1 / (1 + 2 * lam)) • toE v := by
  rw [← toE_smul]; congr 1; funext i; unfold sqL2Prox sqL2Prox1; ring

theorem setDistProx_eq (v y : Fin n → ℝ) (lam : ℝ) :
    toE (setDistProx v y lam) =
      (if ‖toE v - toE y‖ < lam then 1 else lam / ‖toE v - toE y‖) • toE y +
      (1 - (if ‖toE v - toE y‖ < lam then 1 else lam / ‖toE v - toE y‖)) • toE v := by
  unfold setDistProx
  have : norm2 (fun i => v i - y i) = ‖toE v - toE y‖ := by
    rw [norm2_eq]; rfl
  simp only [this]
  ext i; simp [toE]

theorem sqSetDistProx_eq (v y : Fin n → ℝ) (lam : ℝ) :
    toE (sqSetDistProx v y lam) = (1 / (1 + lam)) • toE v + (lam * (1 / (1 + lam))) • toE y := by
  unfold sqSetDistProx
  ext i; simp [toE]

end Vectors

/-- `L1Norm.prox` on one real entry is the norm prox of `ℝ`: `sign v · max(|v| - lam, 0) = c · v` -/
theorem l1Prox1_eq (v : ℝ) {lam : ℝ} (hlam : 0 < lam) :
    l1Prox1 v lam = (if ‖v‖ = 0 then 0 else max (1 - lam / ‖v‖) 0) • v := by
  have h := softThresh_eq_coeff_mul (norm_nonneg v) hlam
  rw [Real.norm_eq_abs] at h ⊢
  unfold l1Prox1
  rw [posPart_eq, hasAbs_abs, h, smul_eq_mul, mul_left_comm, mul_comm (sign v), sign_eq, abs_mul_sign]

theorem l1ProxC1_eq (z : ℝ × ℝ) {lam : ℝ} (hlam : 0 < lam) :
    toC (l1ProxC1 z lam) =
      (if ‖toC z‖ = 0 then 0 else max (1 - lam / ‖toC z‖) 0) • toC z := by
  unfold l1ProxC1
  rw [toC_cscale, posPart_eq, cabs_eq, softThresh_eq_coeff_mul (norm_nonneg (toC z)) hlam, mul_smul, ← toC_eq_norm_smul_cphase]

theorem huberSepProxC1_eq (delta : ℝ) (z : ℝ × ℝ) (lam : ℝ) :
    toC (huberSepProxC1 delta z lam) = (1 - delta * lam / max ‖toC z‖ (delta * (1 + lam))) • toC z := by
  unfold huberSepProxC1
  rw [toC_cscale, maxP_eq, cabs_eq]

theorem huberSepProx1_eq (delta v lam : ℝ) :
    huberSepProx1 delta v lam = (1 - delta * lam / max ‖v‖ (delta * (1 + lam))) • v := by
  unfold huberSepProx1
  rw [maxP_eq, smul_eq_mul, Real.norm_eq_abs]; rfl

end Scico.ProxConvex
