/-
  Integer keys, slices and iteration of block arrays (C13): how Python resolves `x[k]`, which indices
  `x[start:stop:step]` selects — all of them inside the list, so the model's reads never fall outside —
  and what the legacy sequence protocol yields.
-/
import Scico.Proofs.Block
import Mathlib.Tactic.Linarith

namespace Scico.Block

variable {α : Type}

theorem pyIndex_of_nonneg {n : Nat} {k : Int} (h0 : 0 ≤ k) (h1 : k < n) : pyIndex n k = some k.toNat := by
  simp [pyIndex, show ¬ k < 0 by omega, show ¬ (n : Int) ≤ k by omega]

theorem pyIndex_of_neg {n : Nat} {k : Int} (h0 : k < 0) (h1 : -(n : Int) ≤ k) :
    pyIndex n k = some (k + n).toNat := by
  simp [pyIndex, h0, show ¬ k + (n : Int) < 0 by omega, show ¬ (n : Int) ≤ k + n by omega]

theorem pyIndex_eq_none {n : Nat} {k : Int} (h : k < -(n : Int) ∨ (n : Int) ≤ k) : pyIndex n k = none := by
  simp only [pyIndex]
  split_ifs <;> first | rfl | omega

theorem pyIndex_lt {n : Nat} {k : Int} {j : Nat} (h : pyIndex n k = some j) : j < n := by
  simp only [pyIndex] at h
  split_ifs at h <;> cases h <;> omega

theorem getItem_eq (self : List α) (k : Int) :
    getItem self k = match pyIndex self.length k with
      | none => .error .index
      | some j => match self[j]? with
        | some a => .ok a
        | none => .error .index := by
  simp only [getItem, pyIndex]
  split_ifs <;> rfl

theorem getItem_of_pyIndex {self : List α} {k : Int} {j : Nat} (h : pyIndex self.length k = some j) :
    getItem self k = .ok (self[j]'(pyIndex_lt h)) := by
  rw [getItem_eq, h]
  simp only [List.getElem?_eq_getElem (pyIndex_lt h)]

/-- the clipping of `PySlice_AdjustIndices`: into `[0, len]` for a positive step, into `[-1, len-1]` for a
    negative one -/
theorem clip_range {len st : Int} (hl : 0 ≤ len) (v : Int) {c : Int}
    (hc : c = if v < 0 then (if v + len < 0 then (if st < 0 then -1 else 0) else v + len)
      else if len ≤ v then (if st < 0 then len - 1 else len) else v) :
    (0 < st → 0 ≤ c ∧ c ≤ len) ∧ (st < 0 → -1 ≤ c ∧ c ≤ len - 1) := by
  omega

theorem sliceBounds_range {n : Nat} {start stop step : Option Int} {a b st : Int}
    (h : sliceBounds n start stop step = some (a, b, st)) :
    st ≠ 0 ∧ (0 < st → 0 ≤ a ∧ a ≤ n ∧ 0 ≤ b ∧ b ≤ n) ∧
      (st < 0 → -1 ≤ a ∧ a ≤ (n : Int) - 1 ∧ -1 ≤ b ∧ b ≤ (n : Int) - 1) := by
  simp only [sliceBounds, Option.ite_none_left_eq_some, Option.some.injEq, Prod.mk.injEq] at h
  obtain ⟨hst, ha, hb, rfl⟩ := h
  have hl : (0 : Int) ≤ n := by omega
  have ha' : (0 < step.getD 1 → 0 ≤ a ∧ a ≤ n) ∧ (step.getD 1 < 0 → -1 ≤ a ∧ a ≤ (n : Int) - 1) := by
    clear hb
    cases start with
    | none => simp only at ha; omega
    | some v => exact clip_range hl v ha.symm
  have hb' : (0 < step.getD 1 → 0 ≤ b ∧ b ≤ n) ∧ (step.getD 1 < 0 → -1 ≤ b ∧ b ≤ (n : Int) - 1) := by
    clear ha ha'
    cases stop with
    | none => simp only at hb; omega
    | some v => exact clip_range hl v hb.symm
  -- the clipping formulas have done their work; left in the context, each of their `if`s makes `omega` split cases again
  clear ha hb
  omega

theorem mul_le_of_lt_ediv_succ {x d : Int} {i : Nat} (hd : 0 < d) (hi : i < (x / d + 1).toNat) :
    0 ≤ (i : Int) * d ∧ (i : Int) * d ≤ x :=
  ⟨Int.mul_nonneg (by omega) hd.le,
   le_trans (Int.mul_le_mul_of_nonneg_right (by omega) hd.le) (Int.ediv_mul_le x hd.ne')⟩

theorem mem_sliceIdx {a b st j : Int} (hj : j ∈ sliceIdx a b st) :
    (0 < st → a ≤ j ∧ j < b) ∧ (st < 0 → b < j ∧ j ≤ a) := by
  simp only [sliceIdx, List.mem_map, List.mem_range] at hj
  obtain ⟨i, hi, rfl⟩ := hj
  unfold sliceLen at hi
  constructor <;> intro hs
  · rw [if_neg (by omega)] at hi
    split_ifs at hi
    · have := mul_le_of_lt_ediv_succ hs hi
      omega
    · omega
  · rw [if_pos hs] at hi
    split_ifs at hi
    · have := mul_le_of_lt_ediv_succ (Int.neg_pos.2 hs) hi
      rw [Int.mul_neg] at this
      omega
    · omega

theorem sliceIdx_in_range {n : Nat} {start stop step : Option Int} {a b st : Int}
    (h : sliceBounds n start stop step = some (a, b, st)) :
    ∀ j ∈ sliceIdx a b st, 0 ≤ j ∧ j < n := by
  intro j hj
  have hb := sliceBounds_range h
  have hm := mem_sliceIdx hj
  omega

theorem reads_of_in_range (self : List α) {l : List Int} (hr : ∀ j ∈ l, 0 ≤ j ∧ j < self.length) :
    List.Forall₂ (fun (j : Int) (x : α) => ∃ hj : j.toNat < self.length, x = self[j.toNat])
      l (l.filterMap (fun j => self[j.toNat]?)) := by
  induction l with
  | nil => exact .nil
  | cons j rest ih =>
    have hj := hr j (by simp)
    have hlt : j.toNat < self.length := by omega
    simp only [List.filterMap_cons, List.getElem?_eq_getElem hlt]
    exact .cons ⟨hlt, rfl⟩ (ih (fun x hx => hr x (by simp [hx])))

theorem range_filterMap_take (self : List α) : ∀ (k : Nat),
    (List.range k).filterMap (fun i => self[i]?) = self.take k
  | 0 => by simp
  | k + 1 => by
    rw [List.range_succ, List.filterMap_append, range_filterMap_take self k, List.take_add_one]
    cases h : self[k]? <;> simp [h]

theorem sliceBounds_prefix {n k : Nat} (hk : k ≤ n) :
    sliceBounds n none (some (k : Int)) none = some (0, (k : Int), 1) := by
  have h1 : ¬ ((k : Int) < 0) := by omega
  rcases hk.lt_or_eq with h | rfl
  · simp [sliceBounds, h1, show ¬ (n : Int) ≤ k by omega]
  · simp [sliceBounds]

theorem slice_prefix_reads (self : List α) (k : Nat) :
    (sliceIdx 0 (k : Int) 1).filterMap (fun j => self[j.toNat]?) = self.take k := by
  have hlen : sliceLen 0 (k : Int) 1 = k := by
    unfold sliceLen
    split_ifs <;> omega
  have : ((fun j : Int => self[j.toNat]?) ∘ fun (i : Nat) => (0 : Int) + (i : Int) * 1) = fun i => self[i]? := by
    funext i
    simp
  rw [sliceIdx, hlen, List.filterMap_map, this, range_filterMap_take]

theorem getItem_nat (self : List α) (i : Nat) :
    getItem self (i : Int) = if h : i < self.length then .ok self[i] else .error .index := by
  split_ifs with h
  · exact getItem_of_pyIndex (pyIndex_of_nonneg (Int.natCast_nonneg i) (Int.ofNat_lt.2 h))
  · rw [getItem_eq, pyIndex_eq_none (Or.inr (by omega))]

theorem iterFrom_eq_drop (self : List α) : ∀ (i fuel : Nat), self.length - i + 1 ≤ fuel →
    iterFrom self i fuel = self.drop i
  | i, 0, h => by omega
  | i, fuel + 1, h => by
    unfold iterFrom
    rw [getItem_nat]
    by_cases hi : i < self.length
    · simp only [hi, dif_pos]
      rw [iterFrom_eq_drop self (i + 1) fuel (by omega)]
      exact (List.drop_eq_getElem_cons hi).symm
    · simp only [hi, dif_neg, not_false_eq_true]
      rw [List.drop_eq_nil_of_le (by omega)]

end Scico.Block
