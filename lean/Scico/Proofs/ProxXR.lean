/-
  Non-finite entries (`±inf`, `NaN`) through the ENTRY-WISE proxes: the same model definitions (`l1Prox1`, `nonnegProx1`, `huberSepProx1`,
  `sqL2Prox1`, and the NaN-faithful `l0Prox1X`) instantiated at the IEEE-extended scalar `XR ℚ` of `Scico/Model/StepSize.lean`
  (branch logic only: comparisons with NaN are false, `inf - lam = inf`, `x/inf = 0`, …).  What the code returns on such an entry,
  for every finite `lam` (and `delta`), is stated in `Props/C02.lean` (`C02_nonfinite_*`); most of it holds by `rfl`, here are the instances and
  the three facts that need an argument.  The norm-based maps (`L2Norm`, ball, non-separable Huber, L2,1, L1−L2) turn one non-finite entry
  into NaN everywhere; they are not modelled at `XR` (the `norm_v == 0` test of the model is written with `<`).
-/
import Scico.Model.Prox
import Scico.Proofs.XR
import Mathlib.Tactic.Linarith
import Mathlib.Algebra.Order.Ring.Rat

namespace Scico.ProxXR
open Scico.Prox Scico.StepSize

instance : HasAbs Rat := ⟨fun x => if x < 0 then -x else x⟩

/-- IEEE `abs`: `|±inf| = +inf`, `|NaN| = NaN` -/
instance {K : Type} [HasAbs K] : HasAbs (XR K) :=
  ⟨fun x => match x with | .fin a => .fin (HasAbs.abs a) | .pinf => .pinf | .ninf => .pinf | .nan => .nan⟩

instance {K : Type} [OfNat K 2] : OfNat (XR K) 2 := ⟨.fin 2⟩
instance {K : Type} [OfNat K 4] : OfNat (XR K) 4 := ⟨.fin 4⟩

/-- IEEE-extended rationals: the scalar at which the branch logic of the entry-wise proxes is evaluated on non-finite entries -/
abbrev X := XR Rat

/-- `HuberNorm._prox_sep` : `(1 - delta*lam / maximum(|v|, delta*(1+lam))) * v` at `v = ±inf` (`pos` = the sign): the quotient is `0` -/
theorem huber_inf (delta lam : Rat) (pos : Bool) :
    huberSepProx1 (XR.fin delta) (if pos then XR.pinf else XR.ninf : X) (XR.fin lam) = if pos then XR.pinf else XR.ninf := by
  have h : huberSepProx1 (XR.fin delta) (if pos then XR.pinf else XR.ninf : X) (XR.fin lam) = XR.infMul pos ((1 : Rat) + -0) := by
    cases pos <;> rfl
  rw [h]; cases pos <;> simp [XR.infMul]

/-- `SquaredL2Norm.prox` : `v / (1 + 2 lam)` -/
theorem sqL2_inf {lam : Rat} (hlam : 0 < lam) :
    sqL2Prox1 (XR.pinf : X) (XR.fin lam) = XR.pinf ∧ sqL2Prox1 (XR.ninf : X) (XR.fin lam) = XR.ninf := by
  have hpos : (0 : Rat) < 1 + 2 * lam := by linarith
  constructor
  · show (XR.pinf / XR.fin (1 + 2 * lam) : X) = XR.pinf
    exact XR.pinf_div_fin hpos
  · show (XR.ninf / XR.fin (1 + 2 * lam) : X) = XR.ninf
    exact XR.ninf_div_fin hpos

/-- `L0Norm.prox` : `where(|v| >= lam, v, 0)`, NaN-faithful transcription `l0Prox1X`: on finite entries it is the map of the main model
    (`l0Prox1`, written with `<`) -/
theorem l0_fin (a lam : Rat) : l0Prox1X (XR.fin a : X) (XR.fin lam) = l0Prox1 (XR.fin a : X) (XR.fin lam) := by
  unfold l0Prox1X l0Prox1
  show (if (XR.fin lam : X) ≤ XR.fin (HasAbs.abs a) then _ else _) = (if (XR.fin (HasAbs.abs a) : X) < XR.fin lam then _ else _)
  simp only [XR.fin_le_fin, XR.fin_lt_fin]
  by_cases h : HasAbs.abs a < lam
  · rw [if_neg (not_le.2 h), if_pos h]
  · rw [if_pos (not_lt.1 h), if_neg h]

end Scico.ProxXR
