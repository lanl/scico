/-
  Soundness of `Diagonal`, `ScaledIdentity`, `Identity`: constructors and every closed-form override
  (repaired tree, `Cfg.fixed`); `Diagonal @ Diagonal` for plain and block shapes with any broadcasting between the two
  diagonal arrays (`diagMatmul_sound_all`, over the calculus of `OpAlgBidx`).  `DiagProductPlain`, `PlainObj`, `DiagProductOk` are
  defined here for the hypotheses of the C05 / C12 statements; no proof uses them.
-/
import Scico.Proofs.OpAlgLin
import Scico.Proofs.OpAlgBidx

namespace Scico.OpAlg
open Scico.DType
attribute [local instance] starConj

section
variable {K : Type} [Field K] [StarRing K] [HasRe K]

/-- the matrix of `x ↦ d * x` under numpy broadcasting: row `i` holds entry `bidxS out dsh i` of the diagonal array in
    column `bidxS out inSh i` -/
def diagMx (out inSh dsh : Shape) (dg : V K) : Mx K := selMx (bidxS out inSh) (fun i => dg (bidxS out dsh i))

theorem mkDiag_sound (cfg : Cfg) (d : V K) (dsh : Shape) (ddt : DT) (inSh : Shape) (inDt : DT)
    {o : Obj K} (h : mkDiag cfg d dsh ddt inSh inDt = .ok o)
    (hmode : RealK K ∨ (inDt.isComplex = true ∧ ddt.isComplex = true)) :
    Sound o (diagMx o.md.outShape inSh dsh (trunc dsh.size d).get)
    ∧ o.md.inShape = inSh ∧ bshapeS inSh dsh = .ok o.md.outShape := by
  unfold mkDiag at h
  split at h
  · cases h
  · rename_i outSh hout
    injection h with h; subst h
    refine ⟨?_, rfl, hout⟩
    have hev : Acts _ outSh.size inSh.size (diagMx outSh inSh dsh (trunc dsh.size d).get) :=
      Acts.vbmul outSh.size inSh.size (bidxS outSh dsh) (bidxS outSh inSh) (trunc dsh.size d)
    exact
    { lin := by simp
      evSz := fun _ => rfl
      adSz := fun _ => autoAdjWith_size ..
      ev := hev
      ad := autoAdj_acts _ _ inDt _ _ _ hev (hmode.imp id (fun h => h.1))
      pl := by
        simp only [PayloadIs]
        refine ⟨hout, ?_, ?_⟩
        · intro k hk; simp [Nat.not_lt.mpr hk]
        · intro i j _ _; rfl
      mode := by
        rcases hmode with h | h
        · exact Or.inl h
        · refine Or.inr ⟨h.1, ?_, h.2⟩
          show (if cfg.diagOutDt = true then resultType ddt inDt else inDt).isComplex = true
          split
          · exact rt_complex_left h.2
          · exact h.1 }

theorem mkSid_sound (cfg : Cfg) (c : K) (sk : SK) (sh : Shape) (inDt : DT)
    (hmode : RealK K ∨ inDt.isComplex = true) :
    Sound (mkSid cfg c sk sh inDt) (fun i j => if i = j then c else 0) := by
  -- `ScaledIdentity(c)` is `c` times the identity, already as closures
  have hev : Acts _ sh.size sh.size (fun i j => if i = j then c else 0) :=
    (Acts.smul c (Acts.vtrunc sh.size)).congr (fun i j _ _ => by simp [selMx])
  exact
  { lin := by simp [mkSid]
    evSz := fun _ => rfl
    adSz := fun _ => autoAdjWith_size ..
    ev := hev
    ad := autoAdj_acts _ _ inDt _ _ _ hev hmode
    pl := by
      simp only [PayloadIs, mkSid]
      exact ⟨trivial, fun i j _ _ => by simp⟩
    mode := by
      rcases hmode with h | h
      · exact Or.inl h
      · refine Or.inr ⟨h, ?_, rtS_complex _ h⟩
        show (if cfg.diagOutDt = true then resultType (resultTypeS inDt sk) inDt else inDt).isComplex = true
        split
        · exact rt_complex_right h
        · exact h }

theorem mkIdent_sound (sh : Shape) (inDt : DT) (hmode : RealK K ∨ inDt.isComplex = true) :
    Sound (mkIdent sh inDt : Obj K) (fun i j => if i = j then 1 else 0) := by
  have hev : Acts _ sh.size sh.size (fun i j => if i = j then (1 : K) else 0) :=
    (Acts.vtrunc sh.size).congr (fun i j _ _ => by simp [selMx])
  exact
  { lin := by simp [mkIdent]
    evSz := fun _ => rfl
    adSz := fun _ => autoAdjWith_size ..
    ev := hev
    ad := autoAdj_acts _ _ inDt _ _ _ hev hmode
    pl := by
      simp only [PayloadIs, mkIdent]
      exact ⟨trivial, by simp, fun i j _ _ => by simp⟩
    mode := hmode.imp id fun h => ⟨h, h, h⟩ }

omit [StarRing K] [HasRe K] in
theorem diagMx_const (sh : Shape) (c : K) {i : Nat} (hi : i < sh.size) (j : Nat) :
    diagMx sh sh sh (trunc sh.size (fun _ => c)).get i j = if i = j then c else 0 := by
  simp only [diagMx, selMx]
  rw [bidxS_self _ i hi]
  simp [hi]

/-- the `diagonal` property of any member of the family describes the denoted matrix -/
theorem diagonal_spec {a : Obj K} {Da : Mx K} (ha : Sound a Da) (hc : IsDiagCls a.md.cls) :
    bshapeS a.md.inShape a.diagonal.2.1 = .ok a.md.outShape
    ∧ (∀ i j, i < a.m → j < a.n → Da i j = diagMx a.md.outShape a.md.inShape a.diagonal.2.1 a.diagonal.1.get i j)
    ∧ (RealK K ∨ a.diagonal.2.2.isComplex = true)
    ∧ (∀ k, a.diagonal.2.1.size ≤ k → a.diagonal.1.get k = 0) := by
  have hpl := ha.pl
  rcases hc with hc | hc | hc
  · simp only [PayloadIs, hc] at hpl
    simp only [Obj.diagonal, hc]
    refine ⟨hpl.1, ?_, ?_, hpl.2.1⟩
    · intro i j hi hj; exact hpl.2.2 i j hi hj
    · exact ha.mode.imp id (·.datC)
  · obtain ⟨hio, hD⟩ := sid_payload ha (Or.inl hc)
    have hmn : a.m = a.n := (conform_sizes hio).symm
    simp only [Obj.diagonal, hc]
    refine ⟨by rw [← hio]; exact bshapeS_self _, ?_, ?_, fun k hk => by simp [Obj.n, Nat.not_lt.mpr hk]⟩
    · intro i j hi hj
      rw [hD i j (hmn ▸ hi) hj, ← hio]
      exact (diagMx_const _ _ (show i < a.n from hmn ▸ hi) j).symm
    · exact ha.mode.imp id fun h => rt_complex_right h.inC
  · obtain ⟨hio, hD⟩ := ident_payload ha hc
    have hmn : a.m = a.n := (conform_sizes hio).symm
    simp only [Obj.diagonal, hc]
    refine ⟨by rw [← hio]; exact bshapeS_self _, ?_, ?_, fun k hk => by simp [Obj.n, Nat.not_lt.mpr hk]⟩
    · intro i j hi hj
      rw [hD i j (hmn ▸ hi) hj, ← hio]
      exact (diagMx_const _ _ (show i < a.n from hmn ▸ hi) j).symm
    · exact ha.mode.imp id (·.inC)

theorem rediag_fixed (d : V K) (dsh : Shape) (ddt : DT) (inSh : Shape) (inDt? : Option DT) :
    rediag Cfg.fixed d dsh ddt inSh inDt? = mkDiag Cfg.fixed d dsh ddt inSh (inDt?.getD ddt) := by
  cases inDt? <;> rfl

/-- the dtypes `Diagonal.__init__` is called with are complex when the dtype of the diagonal and an explicit
    `input_dtype` are -/
theorem getD_complex {ddt : DT} {inDt? : Option DT}
    (h : ddt.isComplex = true ∧ ∀ t, inDt? = some t → t.isComplex = true) :
    (inDt?.getD ddt).isComplex = true ∧ ddt.isComplex = true := by
  refine ⟨?_, h.1⟩
  cases inDt? with
  | none => exact h.1
  | some t => exact h.2 t rfl

theorem rediag_sound {a o : Obj K} {Da : Mx K} (ha : Sound a Da) (hca : IsDiagCls a.md.cls)
    (g : V K) (ddt : DT) (inDt? : Option DT)
    (h : rediag Cfg.fixed g a.diagonal.2.1 ddt a.md.inShape inDt? = .ok o)
    (hmode : RealK K ∨ (ddt.isComplex = true ∧ ∀ t, inDt? = some t → t.isComplex = true)) :
    SoundD o (diagMx a.md.outShape a.md.inShape a.diagonal.2.1 (trunc a.diagonal.2.1.size g).get) a.m a.n := by
  obtain ⟨hsa, _, _, _⟩ := diagonal_spec ha hca
  rw [rediag_fixed] at h
  obtain ⟨hS, hi', hbo⟩ := mkDiag_sound _ _ _ _ _ _ h (hmode.imp id getD_complex)
  have hoo : o.md.outShape = a.md.outShape := by
    rw [hsa] at hbo; injection hbo with hbo; exact hbo.symm
  refine ⟨?_, congrArg Shape.size hoo, congrArg Shape.size hi'⟩
  rw [← hoo]; exact hS

theorem diagAddSub_sound (sub : Bool) {a b o : Obj K} {Da Db : Mx K} (ha : Sound a Da)
    (hb : Sound b Db) (hca : IsDiagCls a.md.cls) (hcb : IsDiagCls b.md.cls)
    (hs : a.sameShape b = true) (h : diagAddSub Cfg.fixed sub a b = .ok o) :
    SoundD o (fun i j => pm sub (Da i j) (Db i j)) a.m a.n := by
  obtain ⟨_, hDa, hma, hza⟩ := diagonal_spec ha hca
  obtain ⟨_, hDb, _, hzb⟩ := diagonal_spec hb hcb
  obtain ⟨hin, hout⟩ := sameShape_iff.mp hs
  unfold diagAddSub at h
  have hss : a.diagonal.2.1 = b.diagonal.2.1 := (ite_ok_error h).1
  obtain ⟨hS, hom, hon⟩ := rediag_sound ha hca (fun i => pm sub (a.diagonal.1.get i) (b.diagonal.1.get i)) _ none
    (ite_ok_error h).2 (hma.imp id fun h => ⟨rt_complex_left h, by simp⟩)
  refine ⟨hS.congr (fun i j hi hj => ?_), hom, hon⟩
  rw [hDa i j (hom ▸ hi) (hon ▸ hj), hDb i j (sameShape_m hs ▸ hom ▸ hi) (sameShape_n hs ▸ hon ▸ hj)]
  unfold diagMx selMx
  rw [← hss, ← hin, ← hout]
  by_cases hp : bidxS a.md.outShape a.md.inShape i = j
  · simp only [hp, if_true, trunc_get]
    by_cases hq : bidxS a.md.outShape a.diagonal.2.1 i < a.diagonal.2.1.size
    · simp [hq]
    · rw [hza _ (Nat.le_of_not_lt hq), hzb _ (hss ▸ Nat.le_of_not_lt hq)]
      simp [hq, pm_zero]
  · simp [hp, pm_zero]

/-- element-wise image of the diagonal by a map fixing zero -/
theorem rediag_map_sound {a o : Obj K} {Da : Mx K} (ha : Sound a Da) (hca : IsDiagCls a.md.cls)
    (f : K → K) (hf0 : f 0 = 0) (ddt : DT) (inDt? : Option DT)
    (h : rediag Cfg.fixed (fun i => f (a.diagonal.1.get i)) a.diagonal.2.1 ddt a.md.inShape inDt? = .ok o)
    (hmode : RealK K ∨ (ddt.isComplex = true ∧ ∀ t, inDt? = some t → t.isComplex = true)) :
    SoundD o (fun i j => f (Da i j)) a.m a.n := by
  obtain ⟨_, hDa, _, hza⟩ := diagonal_spec ha hca
  obtain ⟨hS, hom, hon⟩ := rediag_sound ha hca _ ddt inDt? h hmode
  refine ⟨hS.congr (fun i j hi hj => ?_), hom, hon⟩
  rw [hDa i j (hom ▸ hi) (hon ▸ hj)]
  unfold diagMx selMx
  by_cases hp : bidxS a.md.outShape a.md.inShape i = j
  · simp only [hp, if_true, trunc_get]
    by_cases hq : bidxS a.md.outShape a.diagonal.2.1 i < a.diagonal.2.1.size
    · simp [hq]
    · rw [hza _ (Nat.le_of_not_lt hq)]; simp [hq, hf0]
  · simp [hp, hf0]

theorem Sound.modeDat {a : Obj K} {Da : Mx K} (ha : Sound a Da) (hca : IsDiagCls a.md.cls) :
    RealK K ∨ a.diagonal.2.2.isComplex = true := (diagonal_spec ha hca).2.2.1

theorem Sound.modeDiagIn {a : Obj K} {Da : Mx K} (ha : Sound a Da) (hc : a.md.cls = .diag) :
    RealK K ∨ (a.diagonal.2.2.isComplex = true ∧ ∀ t, some a.md.inDt = some t → t.isComplex = true) :=
  ha.mode.imp id fun h =>
    ⟨by simp only [Obj.diagonal, hc]; exact h.datC, fun t ht => Option.some.inj ht ▸ h.inC⟩

theorem diagMul_sound {a o : Obj K} {Da : Mx K} (c : Scal K) (ha : Sound a Da)
    (hca : IsDiagCls a.md.cls) (h : diagMul Cfg.fixed a c = .ok o) :
    SoundD o (fun i j => c.val * Da i j) a.m a.n := by
  obtain ⟨hS, hi, ho⟩ := rediag_map_sound ha hca (fun t => t * c.val) (by simp) _ none (ite_ok_error h).2
    ((ha.modeDat hca).imp id (fun h => ⟨rtS_complex _ h, by simp⟩))
  exact ⟨hS.congr (fun i j _ _ => by ring), hi, ho⟩

theorem diagDiv_sound {a o : Obj K} {Da : Mx K} (c : Scal K) (ha : Sound a Da)
    (hca : IsDiagCls a.md.cls) (h : diagDiv Cfg.fixed a c = .ok o) :
    SoundD o (fun i j => Da i j / c.val) a.m a.n := by
  exact rediag_map_sound ha hca (fun t => t / c.val) (by simp) _ none (ite_ok_error h).2
    ((ha.modeDat hca).imp id (fun h => ⟨rtS_complex _ h, by simp⟩))

theorem mkSid_soundD {a : Obj K} {Da : Mx K} (ha : Sound a Da)
    (hc : IsSidFam a.md.cls) (c : K) (sk : SK) (E : Mx K)
    (hE : ∀ i j, i < a.n → j < a.n → (if i = j then c else 0) = E i j) :
    SoundD (mkSid Cfg.fixed c sk a.md.inShape a.md.inDt) E a.m a.n :=
  ⟨(mkSid_sound Cfg.fixed c sk a.md.inShape a.md.inDt ha.modeIn).congr hE,
    by simp only [Obj.m, mkSid, (sid_payload ha hc).1], rfl⟩

theorem sidAddSub_sound (sub : Bool) {a b o : Obj K} {Da Db : Mx K} (ha : Sound a Da)
    (hb : Sound b Db) (hca : IsSidFam a.md.cls)
    (hcb : IsSidFam b.md.cls)
    (hs : a.sameShape b = true) (h : sidAddSub Cfg.fixed sub a b = .ok o) :
    SoundD o (fun i j => pm sub (Da i j) (Db i j)) a.m a.n := by
  obtain ⟨_, hDa⟩ := sid_payload ha hca
  obtain ⟨_, hDb⟩ := sid_payload hb hcb
  obtain ⟨_, h⟩ := ite_ok_error h; cases h
  refine mkSid_soundD ha hca _ _ _ (fun i j hi hj => ?_)
  rw [hDa i j hi hj, hDb i j (sameShape_n hs ▸ hi) (sameShape_n hs ▸ hj)]
  by_cases hij : i = j <;> simp [hij, pm_zero]

theorem sidMul_sound {a o : Obj K} {Da : Mx K} (c : Scal K) (ha : Sound a Da)
    (hca : IsSidFam a.md.cls) (h : sidMul Cfg.fixed a c = .ok o) :
    SoundD o (fun i j => c.val * Da i j) a.m a.n := by
  obtain ⟨_, hDa⟩ := sid_payload ha hca
  obtain ⟨_, h⟩ := ite_ok_error h; cases h
  refine mkSid_soundD ha hca _ _ _ (fun i j hi hj => ?_)
  rw [hDa i j hi hj]
  by_cases hij : i = j <;> simp [hij, mul_comm]

theorem sidDiv_sound {a o : Obj K} {Da : Mx K} (c : Scal K) (ha : Sound a Da)
    (hca : IsSidFam a.md.cls) (h : sidDiv Cfg.fixed a c = .ok o) :
    SoundD o (fun i j => Da i j / c.val) a.m a.n := by
  obtain ⟨_, hDa⟩ := sid_payload ha hca
  obtain ⟨_, h⟩ := ite_ok_error h; cases h
  refine mkSid_soundD ha hca _ _ _ (fun i j hi hj => ?_)
  rw [hDa i j hi hj]
  by_cases hij : i = j <;> simp [hij]

theorem diag_square {a : Obj K} {Da : Mx K} (ha : Sound a Da) (hca : IsDiagCls a.md.cls)
    (hsq : a.md.inShape = a.md.outShape) :
    ∀ i j, i < a.n → j < a.n → Da i j = if i = j then Da i i else 0 := by
  obtain ⟨_, hDa, _, _⟩ := diagonal_spec ha hca
  have hmn : a.m = a.n := (conform_sizes hsq).symm
  intro i j hi hj
  have hi' : i < a.md.outShape.size := by rw [← hsq]; exact hi
  rw [hDa i j (hmn ▸ hi) hj, hDa i i (hmn ▸ hi) hi]
  unfold diagMx selMx
  rw [hsq, bidxS_self _ i hi']
  by_cases hij : i = j <;> simp [hij]

theorem diag_square_symm {a : Obj K} {Da : Mx K} (ha : Sound a Da) (hca : IsDiagCls a.md.cls)
    (hsq : a.md.inShape = a.md.outShape) (i j : Nat) (hi : i < a.n) (hj : j < a.n) :
    Da i j = Da j i := by
  by_cases hij : i = j
  · rw [hij]
  · rw [diag_square ha hca hsq i j hi hj, diag_square ha hca hsq j i hj hi, if_neg hij,
      if_neg (Ne.symm hij)]

omit [Field K] [StarRing K] [HasRe K] in
/-- on the repaired tree a non-square member of the family takes the generic `LinearOperator` view `x`, a square one
    the closed form `y` -/
theorem keep_ite {β : Type} (a : Obj K) (x y : β) :
    (if (Cfg.fixed.diagKeep && !isSquare a) = true then x else y) = if a.md.inShape = a.md.outShape then y else x := by
  by_cases h : a.md.inShape = a.md.outShape <;> simp [Cfg.fixed, isSquare, h]

theorem diagT_sound {a : Obj K} {Da : Mx K} (ha : Sound a Da) (hca : IsDiagCls a.md.cls) :
    SoundD (diagT Cfg.fixed a) (matT Da) a.n a.m := by
  unfold diagT
  rw [keep_ite]
  split
  · rename_i hsq
    have hmn : a.m = a.n := (conform_sizes hsq).symm
    refine ⟨ha.congr (fun i j hi hj => ?_), hmn, hmn.symm⟩
    exact diag_square_symm ha hca hsq i j (hmn ▸ hi) hj
  · exact linT_sound ha

theorem diagConj_sound {a o : Obj K} {Da : Mx K} (ha : Sound a Da) (hca : IsDiagCls a.md.cls)
    (h : diagConj Cfg.fixed a = .ok o) :
    SoundD o (matConj Da) a.m a.n := by
  refine diagFam_cases (P := fun o => SoundD o (matConj Da) a.m a.n) hca (fun hc => ?_) (fun hc => ?_)
    (fun hc h => rediag_map_sound ha (Or.inl hc) (fun t => star t) (by simp) _ _ h (ha.modeDiagIn hc)) h
  · obtain ⟨hio, hDa⟩ := ident_payload ha hc
    have hmn : a.m = a.n := (conform_sizes hio).symm
    refine ⟨ha.congr (fun i j hi hj => ?_), rfl, rfl⟩
    simp only [matConj, conj_eq_star]
    rw [hDa i j (hmn ▸ hi) hj]
    by_cases hij : i = j <;> simp [hij]
  · obtain ⟨_, hDa⟩ := sid_payload ha (Or.inl hc)
    refine mkSid_soundD ha (Or.inl hc) _ _ _ (fun i j hi hj => ?_)
    simp only [matConj, conj_eq_star]
    rw [hDa i j hi hj]
    by_cases hij : i = j <;> simp [hij]

theorem diagH_sound {a o : Obj K} {Da : Mx K} (ha : Sound a Da) (hca : IsDiagCls a.md.cls)
    (h : diagH Cfg.fixed a = .ok o) :
    SoundD o (matH Da) a.n a.m := by
  unfold diagH at h
  rw [keep_ite] at h
  rcases ite_eq h with ⟨hsq, h⟩ | ⟨_, h⟩
  · obtain ⟨hS, hom, hon⟩ := diagConj_sound ha hca h
    have hmn : a.m = a.n := (conform_sizes hsq).symm
    refine ⟨hS.congr (fun i j hi' hj' => ?_), hom.trans hmn, hon.trans hmn.symm⟩
    have hi2 : i < a.n := by rw [← hmn, ← hom]; exact hi'
    have hj2 : j < a.n := by rw [← hon]; exact hj'
    exact congrArg conj (diag_square_symm ha hca hsq i j hi2 hj2)
  · cases h
    exact linH_sound ha

theorem gram_of_diag (k : Nat) (D : Mx K)
    (hD : ∀ i j, i < k → j < k → D i j = if i = j then D i i else 0) (i j : Nat)
    (hi : i < k) (hj : j < k) :
    matMul k (matH D) D i j = if i = j then star (D i i) * D i i else 0 :=
  matMul_of_selMx (p := id) (q := id) (α := fun i => star (D i i)) (β := fun i => D i i)
    (fun l hl => by
      unfold matH selMx
      rw [hD l i hl hi]
      by_cases h : l = i
      · subst h; simp [conj_eq_star]
      · simp [h, Ne.symm h, conj_eq_star]) hi (hD i j hi hj)

theorem diagGram_sound {a o : Obj K} {Da : Mx K} (ha : Sound a Da) (hca : IsDiagCls a.md.cls)
    (h : diagGram Cfg.fixed a = .ok o) :
    SoundD o (matMul a.m (matH Da) Da) a.n a.n := by
  refine diagFam_cases (P := fun o => SoundD o (matMul a.m (matH Da) Da) a.n a.n) hca (fun hc => ?_) (fun hc => ?_)
    (fun hc h => ?_) h
  · obtain ⟨hio, hDa⟩ := ident_payload ha hc
    have hmn : a.m = a.n := (conform_sizes hio).symm
    refine ⟨ha.congr (fun i j hi hj => ?_), hmn, rfl⟩
    have hsqD := diag_square ha (Or.inr (Or.inr hc)) hio
    have hi2 : i < a.n := hmn ▸ hi
    rw [hmn, gram_of_diag a.n Da hsqD i j hi2 hj, hDa i j hi2 hj, hDa i i hi2 hi2]
    by_cases hij : i = j <;> simp [hij]
  · obtain ⟨hio, hDa⟩ := sid_payload ha (Or.inl hc)
    have hmn : a.m = a.n := (conform_sizes hio).symm
    refine (mkSid_soundD ha (Or.inl hc) _ _ _ (fun i j hi hj => ?_)).cast hmn rfl
    have hsqD := diag_square ha (Or.inr (Or.inl hc)) hio
    rw [hmn, gram_of_diag a.n Da hsqD i j (hmn ▸ hi) hj, hDa i i (hmn ▸ hi) (hmn ▸ hi)]
    by_cases hij : i = j <;> simp [hij, conj_eq_star, mul_comm]
  · rw [keep_ite] at h
    rcases ite_eq h with ⟨hsq, h⟩ | ⟨_, h⟩
    · have hmn : a.m = a.n := (conform_sizes hsq).symm
      obtain ⟨hS, hom, hon⟩ := rediag_map_sound ha (Or.inl hc) (fun t => star t * t) (by simp) _ _ h
        (ha.modeDiagIn hc)
      refine ⟨hS.congr (fun i j hi' hj' => ?_), hom.trans hmn, hon⟩
      have hsqD := diag_square ha (Or.inl hc) hsq
      have hi2 : i < a.n := by rw [← hmn, ← hom]; exact hi'
      have hj2 : j < a.n := by rw [← hon]; exact hj'
      rw [hmn, gram_of_diag a.n Da hsqD i j hi2 hj2, hsqD i j hi2 hj2]
      by_cases hij : i = j <;> simp [hij]
    · cases h
      exact linGram_sound _ ha

/-- `ScaledIdentity @ ScaledIdentity`: the product of the scalars -/
theorem sidSid_sound {a b : Obj K} {Da Db : Mx K} (ha : Sound a Da) (hb : Sound b Db)
    (hca : a.md.cls = .scaledId) (hcb : IsSidFam b.md.cls) (hsh : a.md.inShape = b.md.outShape) :
    SoundD (mkSid Cfg.fixed (a.dat 0 * b.dat 0) (.strong (resultType a.md.datDt b.md.datDt)) a.md.inShape a.md.inDt)
      (matMul a.n Da Db) a.m b.n := by
  obtain ⟨hio, hDa⟩ := sid_payload ha (Or.inl hca)
  obtain ⟨hbio, hDb⟩ := sid_payload hb hcb
  have hk : a.n = b.m := conform_sizes hsh
  have hbn : b.n = b.m := conform_sizes hbio
  refine (mkSid_soundD ha (Or.inl hca) _ _ _ (fun i j hi hj => ?_)).cast rfl (hk.trans hbn.symm)
  rw [matMul_sid_left a.n Da Db _ hDa i j hi, hDb i j (by omega) (by omega)]
  by_cases hij : i = j <;> simp [hij]

/-- `ScaledIdentity @ Diagonal`: the diagonal scaled -/
theorem sidDiag_sound {a b o : Obj K} {Da Db : Mx K} (ha : Sound a Da) (hb : Sound b Db)
    (hca : a.md.cls = .scaledId) (hcb : b.md.cls = .diag) (hsh : a.md.inShape = b.md.outShape)
    (h : rediag Cfg.fixed (fun i => a.dat 0 * b.diagonal.1 i) b.diagonal.2.1
      (resultType a.md.datDt b.diagonal.2.2) b.md.inShape none = .ok o) :
    SoundD o (matMul a.n Da Db) a.m b.n := by
  obtain ⟨hio, hDa⟩ := sid_payload ha (Or.inl hca)
  have hk : a.n = b.m := conform_sizes hsh
  obtain ⟨hS, hom, hon⟩ := rediag_map_sound hb (Or.inl hcb) (fun t => a.dat.get 0 * t) (by simp) _ none h
    (ha.mode.imp id fun h => ⟨rt_complex_left h.datC, by simp⟩)
  refine ⟨hS.congr (fun i j hi' _ => ?_), by rw [hom, ← hk]; exact conform_sizes hio, hon⟩
  rw [matMul_sid_left a.n Da Db _ hDa i j (by rw [hk, ← hom]; exact hi')]

/-- "plain" = no broadcasting *between* the two diagonals: both diagonal arrays have the same shape and the right operand is
    square.  Half of `DiagProductOk`; not used by `diagMatmul_sound_all` below -/
def DiagProductPlain (a b : Obj K) : Prop :=
  a.diagonal.2.1 = b.diagonal.2.1 ∧ b.md.inShape = b.md.outShape

/-- "plain" = non-block: input shape and diagonal shape of a member of the `Diagonal` family are plain lists.  The other half
    of `DiagProductOk`; not used by `diagMatmul_sound_all` below -/
def PlainObj (a : Obj K) : Prop := ∃ i d, a.md.inShape = .plain i ∧ a.diagonal.2.1 = .plain d

/-- `Diagonal @ Diagonal-family`, any shapes (plain or block) and any broadcasting between the two diagonal arrays.  Both
    factors are matrices with one entry per row (`diagMx` is a `selMx`), `matMul_of_selMx` multiplies them (columns `q ∘ p`,
    entries `α i * β (p i)`), and the broadcasting calculus identifies the result with the `diagMx` of the rebuilt `Diagonal` -/
theorem diagMatmul_sound_all {a b o : Obj K} {Da Db : Mx K} {sh : Shape} (ha : Sound a Da) (hb : Sound b Db)
    (hca : IsDiagCls a.md.cls) (hbD : IsDiagCls b.md.cls) (hsh : a.md.inShape = b.md.outShape)
    (hsh2 : bshapeS a.diagonal.2.1 b.diagonal.2.1 = .ok sh)
    (h : rediag Cfg.fixed (fun i => a.diagonal.1.get (bidxS sh a.diagonal.2.1 i) * b.diagonal.1.get (bidxS sh b.diagonal.2.1 i))
      sh (resultType a.diagonal.2.2 b.diagonal.2.2) b.md.inShape none = .ok o) :
    SoundD o (matMul a.n Da Db) a.m b.n := by
  obtain ⟨hsa, hDa, hmA, _⟩ := diagonal_spec ha hca
  obtain ⟨hsb, hDb, _, _⟩ := diagonal_spec hb hbD
  rw [rediag_fixed] at h
  obtain ⟨hS, hoi, hoo⟩ := mkDiag_sound _ _ _ _ _ _ h
    (hmA.imp id fun h' => ⟨rt_complex_left h', rt_complex_left h'⟩)
  rw [hsh] at hsa
  -- the output shape is that of `a`: `(b.in ∨ b.d) ∨ a.d = b.in ∨ (b.d ∨ a.d)` with `b.in ∨ b.d = b.out = a.in`
  have hout : a.md.outShape = o.md.outShape := bshapeS_assoc hsb hsa (by rw [bshapeS_comm]; exact hsh2) hoo
  obtain ⟨c_bin_bout, c_bd_bout⟩ := bshapeS_BcSh hsb
  obtain ⟨c_bout_aout, c_ad_aout⟩ := bshapeS_BcSh hsa
  obtain ⟨c_ad_sh, c_bd_sh⟩ := bshapeS_BcSh hsh2
  obtain ⟨_, c_sh_oout⟩ := bshapeS_BcSh hoo
  rw [← hout] at c_sh_oout
  have hom : o.m = a.m := congrArg Shape.size hout.symm
  have hon : o.n = b.n := congrArg Shape.size hoi
  refine ⟨hS.congr (fun i j hi' hj' => ?_), hom, hon⟩
  have hi : i < a.md.outShape.size := by rw [hout]; exact hi'
  have hj : j < b.n := hon ▸ hj'
  have hk : bidxS a.md.outShape b.md.outShape i < b.md.outShape.size := bidxS_lt c_bout_aout hi
  simp only [diagMx] at hDa hDb
  rw [hsh] at hDa
  -- every index map of the product factors through the output shape of `a` (`bidxS_comp`, four times below)
  rw [matMul_of_selMx (p := bidxS a.md.outShape b.md.outShape) (fun l hl => hDa i l hi hl) (conform_sizes hsh ▸ hk)
    (hDb _ j hk hj)]
  unfold diagMx selMx
  have ht : bidxS a.md.outShape sh i < sh.size := bidxS_lt c_sh_oout hi
  simp only [← hout, trunc_get, Function.comp, ht, if_true, bidxS_comp c_bin_bout c_bout_aout hi,
    bidxS_comp c_bd_bout c_bout_aout hi, bidxS_comp c_ad_sh c_sh_oout hi, bidxS_comp c_bd_sh c_sh_oout hi]

/-- the side condition the C05 / C12 statements carry for a `Diagonal @ Diagonal-family` product: all shapes plain, or the two
    diagonals have one shape and the right factor is square.  `diagMatmul_sound_all` holds without it, so the proofs ignore it -/
def DiagProductOk (a b : Obj K) : Prop := (PlainObj a ∧ PlainObj b) ∨ DiagProductPlain a b

end
end Scico.OpAlg
