/-
  `loss._dep_cubic_root` / `loss._cbrt` (scico/loss.py) as modelled in `Scico/Model/Prox.lean` (`depCubicRoot`, `cbrtC`,
  `cpowThird`, `csqrtReal`) — the closed-form root is a root.

  The code computes in complex arithmetic: `Δ = q²/4 + p³/27`, `w³ = -q/2 + sqrt(Δ + 0j)` (or `-q` when `|p| ≤ 1e-7`),
  `w = _cbrt(w³)` (principal complex power, with a sign trick), `r = Re(w - p/(3w))`.  Contracts (instance `HasTrig ℝ`):
  `angle = Complex.arg`, `cos/sin = Real.cos/sin`, `x ** (1/3) = Real.rpow x (1/3)` for `x ≥ 0`, and the principal complex
  power in polar form `z ** (1/3) = |z|^(1/3) (cos(θ/3) + i sin(θ/3))`, `θ = angle z`.

  For `q ≤ 0` (what `SquaredL2SquaredAbsLoss.prox` passes) and `p = 0 ∨ eps < |p|` the value is a non-negative root of
  `r³ + p r + q`, by three cases: `p = 0` (`r = ∛(-q)`), `Δ ≥ 0` (Cardano with real radicals, Vieta's substitution), `Δ < 0`
  (trigonometric form `2√(-p/3) cos(θ/3)` through `cos 3x = 4cos³x - 3cos x`).  Inside the band `0 < |p| ≤ eps` it is in
  general not a root (documented compromise of the code): the residual is `p³/(27 q)`.

  At the end what `SquaredL2SquaredAbsLoss.prox` needs of the root (`CubicRootOK`), the minimiser of one entry given it
  (`isGMin_sqL2SqAbs_entry`), and that the model of `_dep_cubic_root` delivers it (`cubicRootOK_model`).
-/
import Scico.Proofs.ProxNonconvex
import Mathlib.Analysis.SpecialFunctions.Complex.Arg
import Mathlib.Analysis.SpecialFunctions.Pow.Real
import Mathlib.Analysis.SpecialFunctions.Trigonometric.Basic
import Mathlib.Tactic.Linarith
import Mathlib.Tactic.FieldSimp

namespace Scico.ProxCubic
open Scico.Prox Scico.ProxBridge

noncomputable instance : HasTrig ℝ :=
  ⟨Real.cos, Real.sin, fun y x => Complex.arg ⟨x, y⟩, fun x => x ^ (1 / 3 : ℝ), Real.pi⟩

@[simp] theorem trig_cos (x : ℝ) : HasTrig.cos x = Real.cos x := rfl
@[simp] theorem trig_sin (x : ℝ) : HasTrig.sin x = Real.sin x := rfl
@[simp] theorem trig_cbrt (x : ℝ) : HasTrig.cbrt x = x ^ (1 / 3 : ℝ) := rfl
@[simp] theorem trig_pi : (HasTrig.pi : ℝ) = Real.pi := rfl
theorem trig_atan2 (y x : ℝ) : HasTrig.atan2 y x = Complex.arg ⟨x, y⟩ := rfl

theorem cbrt_cube {x : ℝ} (hx : 0 ≤ x) : (x ^ (1 / 3 : ℝ)) ^ 3 = x := by
  rw [← Real.rpow_natCast, ← Real.rpow_mul hx]; norm_num

theorem cbrt_pos {x : ℝ} (hx : 0 < x) : 0 < x ^ (1 / 3 : ℝ) := Real.rpow_pos_of_pos hx _

theorem cabs_real {a : ℝ} (ha : 0 ≤ a) : cabs (a, (0 : ℝ)) = a := by
  unfold cabs; simp [Real.sqrt_mul_self ha]

theorem atan2_real {a : ℝ} (ha : 0 ≤ a) : HasTrig.atan2 (0 : ℝ) a = 0 := by
  rw [trig_atan2]
  have : (⟨a, 0⟩ : ℂ) = (a : ℂ) := by apply Complex.ext <;> simp
  rw [this, Complex.arg_ofReal_of_nonneg ha]

theorem cpowThird_real {a : ℝ} (ha : 0 ≤ a) : cpowThird (a, (0 : ℝ)) = (a ^ (1 / 3 : ℝ), 0) := by
  unfold cpowThird
  simp only [cabs_real ha, atan2_real ha]
  rcases eq_or_lt_of_le ha with h | h
  · subst h; simp
  · rw [if_pos h]; simp

theorem cbrtC_real {a : ℝ} (ha : 0 ≤ a) : cbrtC (a, (0 : ℝ)) = (a ^ (1 / 3 : ℝ), 0) := by
  unfold cbrtC
  simp only [atan2_real ha, hasAbs_abs, abs_zero, trig_pi]
  rw [if_neg (by intro h; linarith only [h, Real.pi_pos]), cpowThird_real ha]

/-- upper half plane, right quadrant: `_cbrt` is the principal power, written in polar form -/
theorem cbrtC_quadrant {a b : ℝ} (ha : 0 ≤ a) (hb : 0 < b) :
    cbrtC (a, b) = (cabs (a, b) ^ (1 / 3 : ℝ) * Real.cos (Complex.arg ⟨a, b⟩ / 3),
      cabs (a, b) ^ (1 / 3 : ℝ) * Real.sin (Complex.arg ⟨a, b⟩ / 3)) := by
  have harg : |Complex.arg ⟨a, b⟩| ≤ Real.pi / 2 := Complex.abs_arg_le_pi_div_two_iff.mpr ha
  have hpos : 0 < cabs (a, b) := by
    rw [cabs_eq]; apply norm_pos_iff.mpr; intro h
    have := congrArg Complex.im h; simp at this; linarith
  unfold cbrtC
  simp only [trig_atan2, hasAbs_abs, trig_pi]
  rw [if_neg (by intro h; linarith only [harg, h, Real.pi_pos])]
  unfold cpowThird
  simp only [trig_atan2, trig_cos, trig_sin, trig_cbrt]
  rw [if_pos hpos]

/-- Vieta's substitution `r = c - p/(3c)` turns `r³ + p r` into `c³ - p³/(27c³)` -/
theorem vieta {c : ℝ} (hc : c ≠ 0) (p : ℝ) :
    (c - p / (3 * c)) ^ 3 + p * (c - p / (3 * c)) = c ^ 3 - p ^ 3 / (27 * c ^ 3) := by
  field_simp; ring

theorem vieta_nonneg {c p : ℝ} (hc : 0 < c) (h : p ^ 3 / 27 ≤ (c ^ 3) ^ 2) : 0 ≤ c - p / (3 * c) := by
  have hc2 : p / 3 ≤ c ^ 2 :=
    le_of_pow_le_pow_left₀ three_ne_zero (sq_nonneg c) (calc (p / 3) ^ 3 = p ^ 3 / 27 := by ring
      _ ≤ (c ^ 3) ^ 2 := h
      _ = (c ^ 2) ^ 3 := by ring)
  rw [sub_nonneg, div_le_iff₀ (by positivity)]
  linarith

/-- the trigonometric form: with `m³ = ρ`, `p = -3m²`, `ρ cos θ = a = -q/2`, `2 m cos(θ/3)` is a root,
    by `cos 3x = 4cos³x - 3cos x` -/
theorem cubic_trig_root {m ρ θ a p q : ℝ} (hm3 : m ^ 3 = ρ) (hm2 : p = -3 * m ^ 2) (hcos : ρ * Real.cos θ = a) (ha : q = -2 * a) :
    (2 * (m * Real.cos (θ / 3))) ^ 3 + p * (2 * (m * Real.cos (θ / 3))) + q = 0 := by
  have h3 := Real.cos_three_mul (θ / 3)
  rw [mul_div_cancel₀ θ (by norm_num : (3 : ℝ) ≠ 0)] at h3
  linear_combination (2 * m * Real.cos (θ / 3)) * hm2 + ha + 2 * hcos + 2 * Real.cos θ * hm3 - 2 * m ^ 3 * h3

/-- `Re(p/(3w))` for real `w = t` (at `t = 0` both sides are `0`) -/
theorem reNoNanDivC_real (p t : ℝ) : reNoNanDivC p (cscale 3 (t, 0)) = p / (3 * t) := by
  unfold reNoNanDivC cscale
  by_cases h : 3 * t = 0
  · simp [h, isZero_iff]
  · simp only [isZero_false h, Bool.false_and, Bool.false_eq_true, if_false]
    rw [mul_zero, mul_zero, add_zero, mul_div_mul_right _ _ h]

/-- `Re(p/(3w))` for `w = m(cos φ + i sin φ)` -/
theorem reNoNanDivC_polar {m : ℝ} (hm : 0 < m) (p φ : ℝ) :
    reNoNanDivC p (cscale 3 (m * Real.cos φ, m * Real.sin φ)) = p * Real.cos φ / (3 * m) := by
  have hden : 3 * (m * Real.cos φ) * (3 * (m * Real.cos φ)) + 3 * (m * Real.sin φ) * (3 * (m * Real.sin φ)) = 9 * m ^ 2 := by
    linear_combination 9 * m ^ 2 * Real.cos_sq_add_sin_sq φ
  unfold reNoNanDivC cscale
  dsimp only
  split_ifs with h
  · rw [Bool.and_eq_true, isZero_iff, isZero_iff] at h
    rw [h.1, h.2, mul_zero, zero_add] at hden
    exact absurd hden.symm (by positivity)
  · rw [hden]; field_simp; ring

/-- outside the band `w³ = -q/2 + √Δ`, the square root taken in `ℂ`: real for `Δ ≥ 0`, imaginary for `Δ < 0` -/
theorem depCubicRoot_outside {eps p q : ℝ} (hb : eps < |p|) :
    depCubicRoot eps p q =
      (cbrtC (cadd (-q / 2, 0) (csqrtReal (q * q / 4 + p * p * p / 27)))).1
        - reNoNanDivC p (cscale 3 (cbrtC (cadd (-q / 2, 0) (csqrtReal (q * q / 4 + p * p * p / 27))))) := by
  unfold depCubicRoot
  simp only [hasAbs_abs]
  rw [if_pos hb]

theorem csqrtReal_of_nonneg {d : ℝ} (hd : 0 ≤ d) : csqrtReal d = (√d, 0) := by
  unfold csqrtReal; rw [if_neg (not_lt.2 hd), hasSqrt_sqrt]

theorem csqrtReal_of_neg {d : ℝ} (hd : d < 0) : csqrtReal d = (0, √(-d)) := by
  unfold csqrtReal; rw [if_pos hd, hasSqrt_sqrt]

/-- the value when `w³ = -q` (inside the band, and at `p = 0`) -/
theorem depCubicRoot_band {eps p q : ℝ} (hq : q ≤ 0) (hp : |p| ≤ eps) :
    depCubicRoot eps p q = (-q) ^ (1 / 3 : ℝ) - p / (3 * (-q) ^ (1 / 3 : ℝ)) := by
  unfold depCubicRoot
  simp only [hasAbs_abs]
  rw [if_neg (not_lt.2 hp), cbrtC_real (neg_nonneg.2 hq), reNoNanDivC_real]

/-- `Δ ≥ 0`, one real root (or a double root): Cardano with real radicals -/
theorem depCubicRoot_ok_cardano {eps p q : ℝ} (hq : q ≤ 0) (hp0 : p ≠ 0) (hb : eps < |p|)
    (hd : 0 ≤ q * q / 4 + p * p * p / 27) :
    0 ≤ depCubicRoot eps p q ∧ depCubicRoot eps p q ^ 3 + p * depCubicRoot eps p q + q = 0 ∧
      (depCubicRoot eps p q = 0 → 0 ≤ p) := by
  obtain ⟨s, hs⟩ : ∃ s, s = √(q * q / 4 + p * p * p / 27) := ⟨_, rfl⟩
  have hs0 : 0 ≤ s := hs ▸ Real.sqrt_nonneg _
  have hs2 : s * s = q * q / 4 + p * p * p / 27 := hs ▸ Real.mul_self_sqrt hd
  obtain ⟨a, ha⟩ : ∃ a, a = -q / 2 + s := ⟨_, rfl⟩
  have ha0 : 0 ≤ a := ha ▸ add_nonneg (div_nonneg (neg_nonneg.2 hq) zero_le_two) hs0
  -- `a = w³` solves the resolvent quadratic
  have hquad : a * a + q * a = p * p * p / 27 := by rw [ha]; linear_combination hs2
  have hapos : 0 < a := lt_of_le_of_ne ha0 fun h => hp0 <| by
    rw [← h, mul_zero, mul_zero, add_zero] at hquad
    exact pow_eq_zero_iff (n := 3) (by norm_num) |>.1 (by linear_combination (-27 : ℝ) * hquad)
  obtain ⟨c, hc⟩ : ∃ c, c = a ^ (1 / 3 : ℝ) := ⟨_, rfl⟩
  have hcpos : 0 < c := hc ▸ cbrt_pos hapos
  have hc3 : c ^ 3 = a := hc ▸ cbrt_cube ha0
  have hval : depCubicRoot eps p q = c - p / (3 * c) := by
    have e : cadd (-q / 2, (0 : ℝ)) (s, 0) = (a, 0) := by rw [ha]; exact Prod.ext rfl (add_zero 0)
    rw [depCubicRoot_outside hb, csqrtReal_of_nonneg hd, ← hs, e, cbrtC_real ha0, ← hc, reNoNanDivC_real]
  rw [hval]
  have hneg : p < 0 → 0 < c - p / (3 * c) := fun h => by
    linarith only [hcpos, div_neg_of_neg_of_pos h (mul_pos zero_lt_three hcpos)]
  refine ⟨?_, ?_, fun h0 => not_lt.1 fun h => (hneg h).ne' h0⟩
  · rcases lt_or_gt_of_ne hp0 with h | h
    · exact (hneg h).le
    · refine vieta_nonneg hcpos ?_
      rw [hc3]
      linarith only [hquad, mul_nonneg (neg_nonneg.2 hq) ha0]
  · rw [vieta hcpos.ne', hc3]
    field_simp
    linear_combination 27 * hquad

/-- `Δ < 0`, three real roots: `w³ = -q/2 + i√(-Δ)` lies in the closed first quadrant, `|w|² = -p/3`, and the value is
    `2|w| cos(θ/3)` -/
theorem depCubicRoot_ok_trig {eps p q : ℝ} (hq : q ≤ 0) (hb : eps < |p|) (hd : q * q / 4 + p * p * p / 27 < 0) :
    0 < depCubicRoot eps p q ∧ depCubicRoot eps p q ^ 3 + p * depCubicRoot eps p q + q = 0 := by
  have hpneg : p < 0 := not_le.1 fun hc => hd.not_ge <|
    add_nonneg (div_nonneg (mul_self_nonneg q) zero_le_four) (div_nonneg (mul_nonneg (mul_nonneg hc hc) hc) (by norm_num))
  obtain ⟨b, hbdef⟩ : ∃ b, b = √(-(q * q / 4 + p * p * p / 27)) := ⟨_, rfl⟩
  have hbpos : 0 < b := hbdef ▸ Real.sqrt_pos.2 (neg_pos.2 hd)
  have hb2 : b * b = -(q * q / 4 + p * p * p / 27) := hbdef ▸ Real.mul_self_sqrt (neg_pos.2 hd).le
  have ha0 : 0 ≤ -q / 2 := div_nonneg (neg_nonneg.2 hq) zero_le_two
  obtain ⟨ρ, hρ⟩ : ∃ ρ, ρ = cabs (-q / 2, b) := ⟨_, rfl⟩
  obtain ⟨θ, hθ⟩ : ∃ θ, θ = Complex.arg ⟨-q / 2, b⟩ := ⟨_, rfl⟩
  have hne : (⟨-q / 2, b⟩ : ℂ) ≠ 0 := fun h => hbpos.ne' (congrArg Complex.im h)
  have hρpos : 0 < ρ := by rw [hρ, cabs_eq]; exact norm_pos_iff.2 hne
  have hρ2 : ρ ^ 2 = -q / 2 * (-q / 2) + b * b := by
    rw [hρ]; unfold cabs; rw [hasSqrt_sqrt, Real.sq_sqrt (add_nonneg (mul_self_nonneg _) (mul_self_nonneg _))]
  have hcosθ : ρ * Real.cos θ = -q / 2 := by rw [hρ, hθ, cabs_eq]; exact Complex.norm_mul_cos_arg _
  have hθ0 : 0 ≤ θ := hθ ▸ Complex.arg_nonneg_iff.2 hbpos.le
  have hθ1 : θ ≤ Real.pi / 2 := hθ ▸ (abs_le.1 (Complex.abs_arg_le_pi_div_two_iff.2 ha0)).2
  obtain ⟨m, hm⟩ : ∃ m, m = ρ ^ (1 / 3 : ℝ) := ⟨_, rfl⟩
  have hmpos : 0 < m := hm ▸ cbrt_pos hρpos
  have hm3 : m ^ 3 = ρ := hm ▸ cbrt_cube hρpos.le
  have hm2 : m ^ 2 = -p / 3 :=
    (pow_left_inj₀ (sq_nonneg m) (div_nonneg (neg_nonneg.2 hpneg.le) zero_le_three) three_ne_zero).mp (calc (m ^ 2) ^ 3 = (m ^ 3) ^ 2 := by ring
      _ = (-p / 3) ^ 3 := by rw [hm3, hρ2, hb2]; ring)
  have hp : p = -3 * m ^ 2 := by linear_combination 3 * hm2
  have hcpos : 0 < Real.cos (θ / 3) :=
    Real.cos_pos_of_mem_Ioo ⟨(neg_lt_zero.2 (half_pos Real.pi_pos)).trans_le (div_nonneg hθ0 zero_le_three),
      (div_le_div_of_nonneg_right hθ1 zero_le_three).trans_lt (div_lt_self (half_pos Real.pi_pos) (by norm_num))⟩
  have hval : depCubicRoot eps p q = 2 * (m * Real.cos (θ / 3)) := by
    have e : cadd (-q / 2, (0 : ℝ)) (0, b) = (-q / 2, b) := Prod.ext (add_zero _) (zero_add _)
    rw [depCubicRoot_outside hb, csqrtReal_of_neg hd, ← hbdef, e, cbrtC_quadrant ha0 hbpos, ← hρ, ← hθ, ← hm,
      reNoNanDivC_polar hmpos]
    rw [hp]; field_simp; ring
  rw [hval]
  exact ⟨mul_pos two_pos (mul_pos hmpos hcpos), cubic_trig_root hm3 hp hcosθ (by ring)⟩

/-- `_dep_cubic_root` returns the required root (`q ≤ 0` is what `SquaredL2SquaredAbsLoss.prox` passes):
    outside the band `0 < |p| ≤ eps` (where the code deliberately replaces `w³` by `-q`) the value is a non-negative
    root of `r³ + p r + q`, and it is `0` only if `p ≥ 0`. -/
theorem depCubicRoot_ok {eps p q : ℝ} (heps : 0 ≤ eps) (hq : q ≤ 0) (hband : p = 0 ∨ eps < |p|) :
    0 ≤ depCubicRoot eps p q ∧ depCubicRoot eps p q ^ 3 + p * depCubicRoot eps p q + q = 0 ∧
      (depCubicRoot eps p q = 0 → 0 ≤ p) := by
  by_cases hp0 : p = 0
  · -- `w³ = -q`, `r = ∛(-q)`
    subst hp0
    rw [depCubicRoot_band hq (abs_zero.trans_le heps), zero_div, sub_zero]
    exact ⟨Real.rpow_nonneg (neg_nonneg.2 hq) _, by rw [cbrt_cube (neg_nonneg.2 hq)]; ring, fun _ => le_refl _⟩
  · have hb := hband.resolve_left hp0
    by_cases hd : q * q / 4 + p * p * p / 27 < 0
    · obtain ⟨h1, h2⟩ := depCubicRoot_ok_trig hq hb hd
      exact ⟨h1.le, h2, fun h => absurd h h1.ne'⟩
    · exact depCubicRoot_ok_cardano hq hp0 hb (not_lt.1 hd)

/-- the error of `_dep_cubic_root` inside its band, exactly: there the code returns `c - p/(3c)`, `c = ∛(-q)`, the first-order
    correction of `∛(-q)`, and the residual of the cubic at it is `p³/(27 q)` -/
theorem depCubicRoot_band_residual_eq {eps p q : ℝ} (hq : q < 0) (hp : |p| ≤ eps) :
    depCubicRoot eps p q ^ 3 + p * depCubicRoot eps p q + q = p ^ 3 / (27 * q) := by
  have hc := cbrt_pos (neg_pos.2 hq)
  rw [depCubicRoot_band hq.le hp, vieta hc.ne', cbrt_cube (neg_pos.2 hq).le]
  field_simp
  ring

open Scico.ProxSpec Scico.ProxNonconvex

variable {E : Type*} [NormedAddCommGroup E] [InnerProductSpace ℝ E]

/-- what `SquaredL2SquaredAbsLoss.prox` needs from the value `r` returned by `_dep_cubic_root(p, q)` for one entry
    (`alpha = 4·lam·scale·w`, `p = (1 - alpha y)/alpha`, `q = -|v|/alpha`): a non-negative root of `r³ + p r + q`,
    which is `0` only if `alpha·y ≤ 1`.  Nothing is required where `alpha = 0` (the prox returns `v` there). -/
def CubicRootOK (lam scale w y absv r : ℝ) : Prop :=
  0 < lam * 4 * scale * w →
    0 ≤ r ∧ r ^ 3 + depCubicP scale w y lam * r + depCubicQ scale w absv lam = 0 ∧
      (r = 0 → lam * 4 * scale * w * y ≤ 1)

theorem depCubicP_of_pos {scale w y lam : ℝ} (h : 0 < lam * 4 * scale * w) :
    depCubicP scale w y lam = (1 - lam * 4 * scale * w * y) / (lam * 4 * scale * w) := by
  unfold depCubicP; rw [noNanDiv_eq, if_neg h.ne']

theorem depCubicQ_of_pos {scale w absv lam : ℝ} (h : 0 < lam * 4 * scale * w) :
    depCubicQ scale w absv lam = -absv / (lam * 4 * scale * w) := by
  unfold depCubicQ; rw [noNanDiv_eq, if_neg h.ne']

/-- `SquaredL2SquaredAbsLoss.prox` on one entry of a real (`E = ℝ`) or complex (`E = ℂ`) array, given the root relation -/
theorem isGMin_sqL2SqAbs_entry {lam scale w y r : ℝ} (hlam : 0 < lam) (hs : 0 ≤ scale) (hw : 0 ≤ w) (v u : E)
    (hu : ‖u‖ = 1) (hroot : CubicRootOK lam scale w y ‖v‖ r) :
    IsGMin Set.univ (fun x : E => scale * w * (y - ‖x‖ ^ 2) ^ 2) lam v
      (if 0 < lam * 4 * scale * w then (if 0 < ‖v‖ then (r / ‖v‖) • v else r • u) else v) := by
  have e4 : lam * 4 * scale * w = 4 * lam * (scale * w) := by ring
  by_cases hα : 0 < lam * 4 * scale * w
  · rw [if_pos hα]
    obtain ⟨hr0, hrt, hsel⟩ := hroot hα
    rw [depCubicP_of_pos hα, depCubicQ_of_pos hα] at hrt
    rw [e4] at hα hrt hsel
    refine isGMin_sqL2SqAbs hlam ((mul_pos_iff_of_pos_left (mul_pos four_pos hlam)).1 hα) v u hu hr0 ?_ hsel
    generalize 4 * lam * (scale * w) = A at hα hrt ⊢
    have h2 : A * (r ^ 3 + (1 - A * y) / A * r + -‖v‖ / A) = A * r ^ 3 + (1 - A * y) * r - ‖v‖ := by
      field_simp
      ring
    rw [← h2, hrt, mul_zero]
  · rw [if_neg hα]
    have h0 : scale * w = 0 := by
      rw [e4] at hα
      exact le_antisymm (not_lt.1 fun h => hα (mul_pos (mul_pos four_pos hlam) h)) (mul_nonneg hs hw)
    -- zero weight: the loss term vanishes and `prox v = v`
    rw [h0]
    exact ⟨trivial, fun x _ => by
      simp only [zero_mul, mul_zero, sub_self, norm_zero]; linear_combination (1 / 2) * sq_nonneg ‖x - v‖⟩

/-- the model of `_dep_cubic_root` discharges the root relation for the coefficients that
    `SquaredL2SquaredAbsLoss.prox` hands to it, outside the band `0 < |p| ≤ eps` -/
theorem cubicRootOK_model {eps lam scale w y absv : ℝ} (heps : 0 ≤ eps) (habs : 0 ≤ absv)
    (hband : 0 < lam * 4 * scale * w → depCubicP scale w y lam = 0 ∨ eps < |depCubicP scale w y lam|) :
    CubicRootOK lam scale w y absv
      (depCubicRoot eps (depCubicP scale w y lam) (depCubicQ scale w absv lam)) := by
  intro hα
  have hq : depCubicQ scale w absv lam ≤ 0 := by
    rw [depCubicQ_of_pos hα]
    exact div_nonpos_of_nonpos_of_nonneg (neg_nonpos.2 habs) hα.le
  obtain ⟨h1, h2, h3⟩ := depCubicRoot_ok heps hq (hband hα)
  refine ⟨h1, h2, fun h0 => ?_⟩
  have hp := h3 h0
  rw [depCubicP_of_pos hα, le_div_iff₀ hα, zero_mul] at hp
  exact sub_nonneg.1 hp

end Scico.ProxCubic
