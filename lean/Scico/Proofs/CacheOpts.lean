/-
  Constructor options and shared defaults (`Scico.Model.Cache` §5): the invariant of constructors that build a new
  dictionary per object, and what one dictionary object holds along a history.
-/
import Scico.Model.Cache
import Mathlib.Data.List.Nodup

namespace Scico.Cache

variable {ν : Type}

/-- the in-place mutations of a history that target dictionary object `id`, applied in order
    (specification: what an observer of that one object sees, ignoring everything else) -/
def mutsOn (id : Nat) : List (OptOp ν) → Dict ν → Dict ν
  | [], d => d
  | .mutate j k v :: os, d => mutsOn id os (if j = id then d.set k v else d)
  | _ :: os, d => mutsOn id os d

theorem OptWorld.view_last (w' : OptWorld ν) (insts : List Nat) (id : Nat) (h : w'.insts = insts ++ [id]) :
    w'.view insts.length = w'.dicts[id]? := by
  rw [OptWorld.view, h, List.getElem?_concat_length]

/-- the default object exists; the instances hold existing, pairwise different dictionaries, none of them the
    default object -/
structure OptWorld.Own (w : OptWorld ν) : Prop where
  pos : 0 < w.dicts.length
  inb : ∀ id ∈ w.insts, 0 < id ∧ id < w.dicts.length
  nodup : w.insts.Nodup

theorem OptWorld.own_init (lit : Dict ν) : (OptWorld.init lit).Own :=
  ⟨Nat.zero_lt_one, fun _ h => (nomatch h), List.nodup_nil⟩

theorem OptWorld.Own.keep {w w' : OptWorld ν} (hw : w.Own) (hlen : w.dicts.length ≤ w'.dicts.length)
    (hins : w'.insts = w.insts) : w'.Own :=
  ⟨Nat.lt_of_lt_of_le hw.pos hlen, fun id hid => (hw.inb id (hins ▸ hid)).imp_right (Nat.lt_of_lt_of_le · hlen),
    hins ▸ hw.nodup⟩

theorem OptWorld.Own.push {w w' : OptWorld ν} (hw : w.Own) (hlen : w.dicts.length < w'.dicts.length)
    (hins : w'.insts = w.insts ++ [w.dicts.length]) : w'.Own := by
  refine ⟨Nat.lt_trans hw.pos hlen, fun id hid => ?_, ?_⟩
  · rcases List.mem_append.mp (hins ▸ hid) with h | h
    · exact (hw.inb id h).imp_right (Nat.lt_trans · hlen)
    · cases List.mem_singleton.mp h; exact ⟨hw.pos, hlen⟩
  · rw [hins]
    exact hw.nodup.append (List.nodup_singleton _) fun id h h' =>
      Nat.lt_irrefl _ (List.mem_singleton.mp h' ▸ (hw.inb id h).2)

theorem OptWorld.own_apply_copyUpdate (lit : Dict ν) (w : OptWorld ν) (hw : w.Own) (o : OptOp ν) :
    (w.apply .copyUpdate lit o).Own := by
  cases o with
  | userDict d => exact hw.keep (by simp [OptWorld.apply]) rfl
  | mutate id k v => exact hw.keep (by simp [OptWorld.apply]) rfl
  | ctor arg => exact hw.push (by simp [OptWorld.apply, OptWorld.ctor]) rfl

theorem OptWorld.own_run_copyUpdate (lit : Dict ν) (ops : List (OptOp ν)) :
    ∀ w : OptWorld ν, w.Own → (w.run .copyUpdate lit ops).Own := by
  induction ops with
  | nil => exact fun _ hw => hw
  | cons o os ih => exact fun w hw => ih _ (OptWorld.own_apply_copyUpdate lit w hw o)

theorem OptWorld.ctor_byRef_dicts (lit : Dict ν) (w : OptWorld ν) (arg : Option Nat) :
    (w.ctor .byRef lit arg).dicts = w.dicts := by
  cases arg with
  | none => rfl
  | some a => simp only [OptWorld.ctor]; split <;> rfl

theorem OptWorld.dict_run (p : OptPattern) (hp : p ≠ .classUpdate) (lit : Dict ν) (ops : List (OptOp ν)) (id : Nat) :
    ∀ (w : OptWorld ν) (d : Dict ν), w.dicts[id]? = some d →
      (w.run p lit ops).dicts[id]? = some (mutsOn id ops d) := by
  induction ops with
  | nil => exact fun _ _ h => h
  | cons o os ih =>
    intro w d h
    have hlt : id < w.dicts.length := (List.getElem?_eq_some_iff.mp h).1
    have hpush : ∀ u, (w.dicts ++ [u])[id]? = some d := fun u => (List.getElem?_append_left hlt).trans h
    cases o with
    | userDict u => exact ih _ _ (hpush u)
    | mutate j k v =>
      refine ih _ _ ?_
      simp only [OptWorld.apply, List.getElem?_modify, h]
      by_cases hj : j = id <;> simp [hj]
    | ctor arg =>
      refine ih _ _ ?_
      cases p with
      | classUpdate => exact absurd rfl hp
      | copyUpdate => exact hpush _
      | byRef => exact (congrArg (·[id]?) (OptWorld.ctor_byRef_dicts lit w arg)).trans h

theorem mutsOn_none (id : Nat) (ops : List (OptOp ν)) (hno : ∀ k v, OptOp.mutate id k v ∉ ops) (d : Dict ν) :
    mutsOn id ops d = d := by
  induction ops generalizing d with
  | nil => rfl
  | cons o os ih =>
    have hos : ∀ k v, OptOp.mutate id k v ∉ os := fun k v h => hno k v (List.mem_cons_of_mem _ h)
    cases o with
    | userDict u => exact ih hos d
    | ctor arg => exact ih hos d
    | mutate j k v =>
      have hj : j ≠ id := fun hj => hno k v (hj ▸ List.mem_cons_self)
      simp only [mutsOn, hj, if_false]; exact ih hos d

end Scico.Cache
