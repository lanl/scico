/-
  `NuclearNorm.prox` (scico/functional/_norm.py) on matrices, not only on the singular values.

  Setting: inner-product spaces `H₁`, `H₂` over `𝕜 ∈ {ℝ, ℂ}` (columns, rows), a REAL inner-product space `E` (matrices, `Re` of the
  Frobenius inner product) and rank-one elements `outer u w = u wᴴ` with `⟪u wᴴ, u' w'ᴴ⟫ = Re(⟪u,u'⟫ · conj⟪w,w'⟫)` (`IsOuter`).
  `IsSVD Z u s w`: `Z = Σ s_i u_i w_iᴴ`, `u`, `w` orthonormal, `s ≥ 0` — what `svd(v, full_matrices=False)` returns.

  The nuclear norm is specified as the DUAL of the operator norm, `nucDual Z = sup { ⟪G, Z⟫ : G ∈ opBall }`, where
  `opBall = { G : ⟪G, x yᴴ⟫ ≤ 1 for all unit x, y }` (no operators, no SVD in the definition).  Every `Σ g_i u_i w_iᴴ` with `g ∈ [0,1]` lies
  in the ball (Bessel and Cauchy–Schwarz only: no trace inequality), so on every element that has a thin SVD `nucDual` is the sum of its
  singular values — what `NuclearNorm.__call__` computes — and `Σ max(0, s_i - lam) u_i w_iᴴ` carries the sub-gradient certificate at
  `V = Σ s_i u_i w_iᴴ` (`cert_nuclear_dual`; the only hypothesis about SVDs is the one of `V` itself, what `svd(v)` returned).

  The other specification, "the sum of the singular values of any thin SVD" (`nucNorm`, given that every element has one), is a corollary:
  under its hypotheses that functional IS `nucDual`, and the ball is bounded by the singular values (`cert_nuclear`).
-/
import Scico.Proofs.ProxBridge
import Mathlib.Analysis.InnerProductSpace.Orthonormal
import Mathlib.Analysis.Real.Sqrt
import Mathlib.Order.ConditionallyCompleteLattice.Basic

namespace Scico.ProxNuclear

open Scico.ProxSpec Finset

variable {𝕜 : Type*} [RCLike 𝕜] {E H₁ H₂ : Type*} [NormedAddCommGroup E] [InnerProductSpace ℝ E]
  [NormedAddCommGroup H₁] [InnerProductSpace 𝕜 H₁] [NormedAddCommGroup H₂] [InnerProductSpace 𝕜 H₂]

local notation "⟪" x ", " y "⟫ₖ" => inner 𝕜 x y

/-- rank-one elements `outer u w` (`u wᴴ` for matrices with the Frobenius inner product): only the identity
    `⟪u wᴴ, u' w'ᴴ⟫ = Re(⟪u,u'⟫ · conj⟪w,w'⟫)` is used -/
def IsOuter (𝕜 : Type*) [RCLike 𝕜] {E H₁ H₂ : Type*} [NormedAddCommGroup E] [InnerProductSpace ℝ E]
    [NormedAddCommGroup H₁] [InnerProductSpace 𝕜 H₁] [NormedAddCommGroup H₂] [InnerProductSpace 𝕜 H₂]
    (outer : H₁ → H₂ → E) : Prop :=
  ∀ u w u' w', inner ℝ (outer u w) (outer u' w') = RCLike.re (inner 𝕜 u u' * (starRingEnd 𝕜) (inner 𝕜 w w'))

/-- `Z = Σ_i s_i · u_i w_iᵀ` with orthonormal families `u`, `w` and `s ≥ 0`: a thin singular value decomposition
    (what `svd(v, full_matrices=False)` returns: `Z = U diag(s) Vh`, `u_i` the columns of `U`, `w_i` the rows of `Vh`) -/
structure IsSVD (𝕜 : Type*) [RCLike 𝕜] {E H₁ H₂ : Type*} [NormedAddCommGroup E] [InnerProductSpace ℝ E]
    [NormedAddCommGroup H₁] [InnerProductSpace 𝕜 H₁] [NormedAddCommGroup H₂] [InnerProductSpace 𝕜 H₂]
    (outer : H₁ → H₂ → E) {k : ℕ} (Z : E) (u : Fin k → H₁) (s : Fin k → ℝ) (w : Fin k → H₂) : Prop where
  ou : Orthonormal 𝕜 u
  ow : Orthonormal 𝕜 w
  nonneg : ∀ i, 0 ≤ s i
  eq : Z = ∑ i, s i • outer (u i) (w i)

/-- Bessel + Cauchy–Schwarz: for orthonormal families `u`, `w`, unit vectors `x`, `y` and weights `g ∈ [0,1]`,
    `Σ_i g_i ⟪u_i,x⟫⟪w_i,y⟫ ≤ 1` (the operator norm of `Σ g_i u_i w_iᵀ` is at most one) -/
theorem bilinear_le_one {k : ℕ} {u : Fin k → H₁} {w : Fin k → H₂} (hu : Orthonormal 𝕜 u) (hw : Orthonormal 𝕜 w)
    {g : Fin k → ℝ} (hg0 : ∀ i, 0 ≤ g i) (hg1 : ∀ i, g i ≤ 1) {x : H₁} {y : H₂} (hx : ‖x‖ = 1) (hy : ‖y‖ = 1) :
    ∑ i, g i * RCLike.re (⟪u i, x⟫ₖ * (starRingEnd 𝕜) ⟪w i, y⟫ₖ) ≤ 1 := by
  have h1 : ∑ i, g i * RCLike.re (⟪u i, x⟫ₖ * (starRingEnd 𝕜) ⟪w i, y⟫ₖ) ≤ ∑ i, ‖⟪u i, x⟫ₖ‖ * ‖⟪w i, y⟫ₖ‖ := by
    refine sum_le_sum fun i _ => ?_
    calc g i * RCLike.re (⟪u i, x⟫ₖ * (starRingEnd 𝕜) ⟪w i, y⟫ₖ)
        ≤ g i * ‖⟪u i, x⟫ₖ * (starRingEnd 𝕜) ⟪w i, y⟫ₖ‖ := mul_le_mul_of_nonneg_left (RCLike.re_le_norm _) (hg0 i)
      _ ≤ 1 * ‖⟪u i, x⟫ₖ * (starRingEnd 𝕜) ⟪w i, y⟫ₖ‖ := mul_le_mul_of_nonneg_right (hg1 i) (norm_nonneg _)
      _ = _ := by rw [one_mul, norm_mul, RCLike.norm_conj]
  have h2 := Real.sum_mul_le_sqrt_mul_sqrt univ (fun i => ‖⟪u i, x⟫ₖ‖) (fun i => ‖⟪w i, y⟫ₖ‖)
  have bu : ∑ i, ‖⟪u i, x⟫ₖ‖ ^ 2 ≤ 1 := (hu.sum_inner_products_le x (s := univ)).trans_eq (by rw [hx, one_pow])
  have bw : ∑ i, ‖⟪w i, y⟫ₖ‖ ^ 2 ≤ 1 := (hw.sum_inner_products_le y (s := univ)).trans_eq (by rw [hy, one_pow])
  exact h1.trans (h2.trans (mul_le_one₀ (Real.sqrt_le_one.mpr bu) (Real.sqrt_nonneg _) (Real.sqrt_le_one.mpr bw)))

theorem inner_sum_outer_self {outer : H₁ → H₂ → E} (hO : IsOuter 𝕜 outer) {k : ℕ} {u : Fin k → H₁} {w : Fin k → H₂}
    (hu : Orthonormal 𝕜 u) (hw : Orthonormal 𝕜 w) (c d : Fin k → ℝ) :
    ⟪∑ i, c i • outer (u i) (w i), ∑ j, d j • outer (u j) (w j)⟫ = ∑ j, d j * c j := by
  rw [inner_sum]
  refine sum_congr rfl fun j _ => ?_
  rw [sum_inner]
  rw [Fintype.sum_eq_single j]
  · rw [real_inner_smul_left, real_inner_smul_right, hO, (orthonormal_iff_ite.mp hu) j j, (orthonormal_iff_ite.mp hw) j j]
    simp [mul_comm]
  · intro i hij
    rw [real_inner_smul_left, real_inner_smul_right, hO, hu.2 hij]; simp

/-- the slope of the soft threshold `t = max 0 (s - lam)` of `s ≥ 0`: `g = (s - t)/lam ∈ [0,1]` and `g = 1` where `t ≠ 0` -/
theorem thresh_slope {lam s : ℝ} (hlam : 0 < lam) (hs : 0 ≤ s) :
    0 ≤ (s - max 0 (s - lam)) / lam ∧ (s - max 0 (s - lam)) / lam ≤ 1 ∧
      max 0 (s - lam) * ((s - max 0 (s - lam)) / lam) = max 0 (s - lam) := by
  rcases le_total 0 (s - lam) with h | h
  · rw [max_eq_right h, sub_sub_cancel, div_self hlam.ne', mul_one]; exact ⟨zero_le_one, le_rfl, rfl⟩
  · rw [max_eq_left h, sub_zero, zero_mul]
    exact ⟨div_nonneg hs hlam.le, (div_le_one hlam).mpr (by linarith), rfl⟩

/-- the unit ball of the operator norm, written without operators: `G` pairs to at most `1` with every unit rank-one element -/
def opBall (𝕜 : Type*) [RCLike 𝕜] {E H₁ H₂ : Type*} [NormedAddCommGroup E] [InnerProductSpace ℝ E]
    [NormedAddCommGroup H₁] [InnerProductSpace 𝕜 H₁] [NormedAddCommGroup H₂] [InnerProductSpace 𝕜 H₂]
    (outer : H₁ → H₂ → E) : Set E :=
  {G | ∀ (x : H₁) (y : H₂), ‖x‖ = 1 → ‖y‖ = 1 → inner ℝ G (outer x y) ≤ 1}

variable (𝕜) in
/-- the pairings of `Z` with the ball; `nucDual` is the supremum of this set -/
abbrev dualPairings (outer : H₁ → H₂ → E) (Z : E) : Set ℝ := {r | ∃ G ∈ opBall 𝕜 outer, r = inner ℝ G Z}

/-- the nuclear norm as the dual of the operator norm, `sup { ⟪G, Z⟫ : ‖G‖_op ≤ 1 }`: no SVD in the definition -/
noncomputable def nucDual (𝕜 : Type*) [RCLike 𝕜] {E H₁ H₂ : Type*} [NormedAddCommGroup E] [InnerProductSpace ℝ E]
    [NormedAddCommGroup H₁] [InnerProductSpace 𝕜 H₁] [NormedAddCommGroup H₂] [InnerProductSpace 𝕜 H₂]
    (outer : H₁ → H₂ → E) (Z : E) : ℝ :=
  sSup {r | ∃ G ∈ opBall 𝕜 outer, r = inner ℝ G Z}

theorem zero_mem_opBall (outer : H₁ → H₂ → E) : (0 : E) ∈ opBall 𝕜 outer := by
  intro x y _ _; simp

theorem sum_outer_mem_opBall {outer : H₁ → H₂ → E} (hO : IsOuter 𝕜 outer) {k : ℕ} {u : Fin k → H₁} {w : Fin k → H₂}
    (hu : Orthonormal 𝕜 u) (hw : Orthonormal 𝕜 w) {g : Fin k → ℝ} (hg0 : ∀ i, 0 ≤ g i) (hg1 : ∀ i, g i ≤ 1) :
    (∑ i, g i • outer (u i) (w i)) ∈ opBall 𝕜 outer := by
  intro x y hx hy
  rw [sum_inner]
  have : ∀ i, ⟪g i • outer (u i) (w i), outer x y⟫ = g i * RCLike.re (inner 𝕜 (u i) x * (starRingEnd 𝕜) (inner 𝕜 (w i) y)) := by
    intro i; rw [real_inner_smul_left, hO]
  simp only [this]
  exact bilinear_le_one hu hw hg0 hg1 hx hy

theorem sum_sv_mem_upperBounds {outer : H₁ → H₂ → E} {k : ℕ} {Z : E} {u : Fin k → H₁} {s : Fin k → ℝ} {w : Fin k → H₂}
    (hZ : IsSVD 𝕜 outer Z u s w) : ∑ j, s j ∈ upperBounds (dualPairings 𝕜 outer Z) := by
  rintro r ⟨G, hG, rfl⟩
  rw [hZ.eq, inner_sum]
  refine sum_le_sum fun j _ => ?_
  rw [real_inner_smul_right]
  exact (mul_le_mul_of_nonneg_left (hG (u j) (w j) (hZ.ou.1 j) (hZ.ow.1 j)) (hZ.nonneg j)).trans_eq (mul_one _)

/-- the dual norm is the sum of the singular values of any thin SVD (so `nucDual` is what `NuclearNorm.__call__`
    computes, `sum(svd(x, compute_uv=False))`, on every matrix for which `svd` delivers a decomposition) -/
theorem nucDual_eq_sum_sv {outer : H₁ → H₂ → E} (hO : IsOuter 𝕜 outer) {k : ℕ} {Z : E} {u : Fin k → H₁} {s : Fin k → ℝ}
    {w : Fin k → H₂} (hZ : IsSVD 𝕜 outer Z u s w) : nucDual 𝕜 outer Z = ∑ j, s j := by
  unfold nucDual
  apply le_antisymm
  · exact csSup_le ⟨inner ℝ (0 : E) Z, 0, zero_mem_opBall outer, rfl⟩ (sum_sv_mem_upperBounds hZ)
  · apply le_csSup ⟨_, sum_sv_mem_upperBounds hZ⟩
    · -- attained at the partial isometry `Σ u_i w_iᴴ`
      refine ⟨∑ i, (1 : ℝ) • outer (u i) (w i),
        sum_outer_mem_opBall hO hZ.ou hZ.ow (fun _ => zero_le_one) (fun _ => le_refl _), ?_⟩
      conv_rhs => rw [hZ.eq]
      rw [inner_sum_outer_self hO hZ.ou hZ.ow]
      simp only [mul_one]

/-- `NuclearNorm.prox` is the prox of the dual norm, with no assumption on the existence of decompositions of other
    elements: only the factors of `V` itself (`hV`) and boundedness of the ball (`hbdd`, automatic for matrices) -/
theorem cert_nuclear_dual {outer : H₁ → H₂ → E} (hO : IsOuter 𝕜 outer)
    (hbdd : ∀ Z : E, BddAbove (dualPairings 𝕜 outer Z))
    {lam : ℝ} (hlam : 0 < lam) {k : ℕ} {V : E} {u : Fin k → H₁} {s : Fin k → ℝ} {w : Fin k → H₂}
    (hV : IsSVD 𝕜 outer V u s w) :
    Cert Set.univ (nucDual 𝕜 outer) lam V (∑ i, max 0 (s i - lam) • outer (u i) (w i)) := by
  -- the slope `G = (V - P)/lam = Σ g_i u_i w_iᴴ`, `g ∈ [0,1]`, lies in the ball, so `⟪G, z⟫ ≤ nucDual z`; and `⟪G, P⟫ = Σ t_i = nucDual P`
  have hth := fun i => thresh_slope hlam (hV.nonneg i)
  have hG : V - ∑ i, max 0 (s i - lam) • outer (u i) (w i)
      = lam • ∑ i, ((s i - max 0 (s i - lam)) / lam) • outer (u i) (w i) := by
    conv_lhs => rw [hV.eq]
    rw [← sum_sub_distrib, smul_sum]
    refine sum_congr rfl fun i _ => ?_
    rw [← sub_smul, smul_smul, mul_div_cancel₀ _ hlam.ne']
  refine cert_of_slope hlam.ne' hG trivial fun z _ => ?_
  rw [inner_sub_right, nucDual_eq_sum_sv hO ⟨hV.ou, hV.ow, fun _ => le_max_left _ _, rfl⟩,
    inner_sum_outer_self hO hV.ou hV.ow, sum_congr rfl fun i _ => (hth i).2.2]
  have hz : ⟪∑ i, ((s i - max 0 (s i - lam)) / lam) • outer (u i) (w i), z⟫ ≤ nucDual 𝕜 outer z :=
    le_csSup (hbdd z) ⟨_, sum_outer_mem_opBall hO hV.ou hV.ow (fun i => (hth i).1) (fun i => (hth i).2.1), rfl⟩
  linarith

/-! ### the norm specified as "the sum of the singular values of any thin SVD" (given that every element has one): corollaries -/

theorem sum_sv_unique {outer : H₁ → H₂ → E} (hO : IsOuter 𝕜 outer) {k k' : ℕ} {Z : E} {u : Fin k → H₁} {s : Fin k → ℝ}
    {w : Fin k → H₂} {u' : Fin k' → H₁} {s' : Fin k' → ℝ} {w' : Fin k' → H₂}
    (h : IsSVD 𝕜 outer Z u s w) (h' : IsSVD 𝕜 outer Z u' s' w') : ∑ i, s i = ∑ j, s' j :=
  (nucDual_eq_sum_sv hO h).symm.trans (nucDual_eq_sum_sv hO h')

/-- Assumptions (contracts of `jnp.linalg.svd`, stated as hypotheses): every `Z` has a thin SVD (`hex`) and `f Z` is the
    sum of the singular values of ANY thin SVD of `Z` (`hf`; this is how `NuclearNorm.__call__` computes it).  Then `f` is `nucDual`
    and the ball is bounded by the singular values. -/
theorem cert_nuclear {outer : H₁ → H₂ → E} (hO : IsOuter 𝕜 outer) {f : E → ℝ}
    (hf : ∀ (k : ℕ) (Z : E) (u : Fin k → H₁) (s : Fin k → ℝ) (w : Fin k → H₂), IsSVD 𝕜 outer Z u s w → f Z = ∑ i, s i)
    (hex : ∀ Z : E, ∃ (k : ℕ) (u : Fin k → H₁) (s : Fin k → ℝ) (w : Fin k → H₂), IsSVD 𝕜 outer Z u s w)
    {lam : ℝ} (hlam : 0 < lam) {k : ℕ} {V : E} {u : Fin k → H₁} {s : Fin k → ℝ} {w : Fin k → H₂}
    (hV : IsSVD 𝕜 outer V u s w) :
    Cert Set.univ f lam V (∑ i, max 0 (s i - lam) • outer (u i) (w i)) := by
  have hfd : f = nucDual 𝕜 outer := funext fun Z => by
    obtain ⟨k, u, s, w, h⟩ := hex Z
    rw [hf _ _ _ _ _ h, nucDual_eq_sum_sv hO h]
  have hbdd : ∀ Z, BddAbove (dualPairings 𝕜 outer Z) := fun Z => by
    obtain ⟨k, u, s, w, h⟩ := hex Z
    exact ⟨_, sum_sv_mem_upperBounds h⟩
  rw [hfd]
  exact cert_nuclear_dual hO hbdd hlam hV

/-- the nuclear norm as the sum of the singular values of a thin SVD (`hex`: one exists for every `Z`) -/
noncomputable def nucNorm {outer : H₁ → H₂ → E}
    (hex : ∀ Z : E, ∃ (k : ℕ) (u : Fin k → H₁) (s : Fin k → ℝ) (w : Fin k → H₂), IsSVD 𝕜 outer Z u s w) (Z : E) : ℝ :=
  ∑ i, (hex Z).choose_spec.choose_spec.choose i

theorem nucNorm_eq {outer : H₁ → H₂ → E} (hO : IsOuter 𝕜 outer)
    (hex : ∀ Z : E, ∃ (k : ℕ) (u : Fin k → H₁) (s : Fin k → ℝ) (w : Fin k → H₂), IsSVD 𝕜 outer Z u s w)
    {k : ℕ} {Z : E} {u : Fin k → H₁} {s : Fin k → ℝ} {w : Fin k → H₂} (h : IsSVD 𝕜 outer Z u s w) :
    nucNorm hex Z = ∑ i, s i :=
  sum_sv_unique hO (hex Z).choose_spec.choose_spec.choose_spec.choose_spec h


section Matrix
open WithLp

variable {m n k : ℕ}

/-- `m × n` matrices as a Euclidean space (Frobenius inner product) -/
abbrev MatE (m n : ℕ) := EuclideanSpace ℝ (Fin m × Fin n)

noncomputable def matE (M : Fin m → Fin n → ℝ) : MatE m n := toLp 2 (fun ij => M ij.1 ij.2)

/-- `u wᵀ` -/
noncomputable def outerM (u : EuclideanSpace ℝ (Fin m)) (w : EuclideanSpace ℝ (Fin n)) : MatE m n :=
  toLp 2 (fun ij => u ij.1 * w ij.2)

theorem isOuter_outerM : IsOuter ℝ (outerM (m := m) (n := n)) := by
  intro u w u' w'
  simp only [RCLike.re_to_real, conj_trivial]
  rw [PiLp.inner_apply, PiLp.inner_apply, PiLp.inner_apply, Fintype.sum_prod_type, Finset.sum_mul_sum]
  refine sum_congr rfl fun i _ => sum_congr rfl fun j _ => ?_
  simp only [outerM, RCLike.inner_apply, conj_trivial]
  ring

noncomputable def colE (U : Fin m → Fin k → ℝ) (l : Fin k) : EuclideanSpace ℝ (Fin m) := toLp 2 (fun i => U i l)
noncomputable def rowE (Vh : Fin k → Fin n → ℝ) (l : Fin k) : EuclideanSpace ℝ (Fin n) := toLp 2 (fun j => Vh l j)

theorem matE_usv (U : Fin m → Fin k → ℝ) (s : Fin k → ℝ) (Vh : Fin k → Fin n → ℝ) :
    matE (fun i j => ∑ l, U i l * s l * Vh l j) = ∑ l, s l • outerM (colE U l) (rowE Vh l) := by
  ext ij
  simp only [matE, outerM, colE, rowE, WithLp.ofLp_sum, WithLp.ofLp_smul, Finset.sum_apply, Pi.smul_apply, smul_eq_mul]
  refine sum_congr rfl fun l _ => ?_
  ring

theorem matE_usvMat (U : Fin m → Fin k → ℝ) (s : Fin k → ℝ) (Vh : Fin k → Fin n → ℝ) :
    matE (Prox.usvMat U s Vh) = ∑ l, s l • outerM (colE U l) (rowE Vh l) := by
  rw [← matE_usv]; congr 1; funext i j; exact Vec.sum_eq _

theorem matE_nuclearProx (U : Fin m → Fin k → ℝ) (s : Fin k → ℝ) (Vh : Fin k → Fin n → ℝ) (lam : ℝ) :
    matE (Prox.nuclearProx U s Vh lam) = ∑ l, max 0 (s l - lam) • outerM (colE U l) (rowE Vh l) := by
  rw [← matE_usv]; congr 1; funext i j
  unfold Prox.nuclearProx Prox.nuclearSvProx
  rw [Vec.sum_eq]
  simp only [ProxBridge.maxP_eq]

/-- `NuclearNorm.prox` on matrices: with `v = U diag(s) Vh` a thin SVD (orthonormal columns of `U`, orthonormal rows of `Vh`,
    `s ≥ 0`), `U diag(max(0, s - lam)) Vh` carries the certificate of the sum of singular values. -/
theorem cert_nuclear_matrix {f : MatE m n → ℝ}
    (hf : ∀ (k : ℕ) (Z : MatE m n) (u : Fin k → EuclideanSpace ℝ (Fin m)) (s : Fin k → ℝ)
      (w : Fin k → EuclideanSpace ℝ (Fin n)), IsSVD ℝ outerM Z u s w → f Z = ∑ i, s i)
    (hex : ∀ Z : MatE m n, ∃ (k : ℕ) (u : Fin k → EuclideanSpace ℝ (Fin m)) (s : Fin k → ℝ)
      (w : Fin k → EuclideanSpace ℝ (Fin n)), IsSVD ℝ outerM Z u s w)
    {lam : ℝ} (hlam : 0 < lam) (U : Fin m → Fin k → ℝ) (s : Fin k → ℝ) (Vh : Fin k → Fin n → ℝ)
    (hU : Orthonormal ℝ (colE U)) (hV : Orthonormal ℝ (rowE Vh)) (hs : ∀ l, 0 ≤ s l) :
    Cert Set.univ f lam (matE (fun i j => ∑ l, U i l * s l * Vh l j))
      (matE (fun i j => ∑ l, U i l * max 0 (s l - lam) * Vh l j)) := by
  rw [matE_usv, matE_usv]
  exact cert_nuclear isOuter_outerM hf hex hlam ⟨hU, hV, hs, rfl⟩

end Matrix

/-! ### the instance: complex `m × n` matrices, real inner product `Re tr(AᴴB)` -/

section MatrixC
open WithLp

variable {m n k : ℕ}

/-- complex `m × n` matrices as a REAL inner-product space (`Re⟨·,·⟩_F`) -/
abbrev MatC (m n : ℕ) := PiLp 2 (fun _ : Fin m × Fin n => ℂ)

noncomputable def matC (M : Fin m → Fin n → ℂ) : MatC m n := toLp 2 (fun ij => M ij.1 ij.2)

/-- `u wᴴ` -/
noncomputable def outerC (u : EuclideanSpace ℂ (Fin m)) (w : EuclideanSpace ℂ (Fin n)) : MatC m n :=
  toLp 2 (fun ij => u ij.1 * (starRingEnd ℂ) (w ij.2))

theorem isOuter_outerC : IsOuter ℂ (outerC (m := m) (n := n)) := by
  intro u w u' w'
  rw [PiLp.inner_apply, PiLp.inner_apply, PiLp.inner_apply, Fintype.sum_prod_type, map_sum, Finset.sum_mul_sum,
    map_sum]
  refine sum_congr rfl fun i _ => ?_
  rw [map_sum]
  refine sum_congr rfl fun j _ => ?_
  simp only [outerC, Complex.inner, RCLike.inner_apply, map_mul, Complex.conj_conj, RCLike.re_to_complex]
  ring_nf

/-- column `l` of `U`; the conjugated row `l` of `Vh` (so that `U diag(s) Vh = Σ s_l u_l w_lᴴ`) -/
noncomputable def colC (U : Fin m → Fin k → ℂ) (l : Fin k) : EuclideanSpace ℂ (Fin m) := toLp 2 (fun i => U i l)
noncomputable def rowConjC (Vh : Fin k → Fin n → ℂ) (l : Fin k) : EuclideanSpace ℂ (Fin n) :=
  toLp 2 (fun j => (starRingEnd ℂ) (Vh l j))

theorem matC_usv (U : Fin m → Fin k → ℂ) (s : Fin k → ℝ) (Vh : Fin k → Fin n → ℂ) :
    matC (fun i j => ∑ l, (s l : ℂ) * (U i l * Vh l j)) = ∑ l, s l • outerC (colC U l) (rowConjC Vh l) := by
  ext ij
  simp only [matC, outerC, colC, rowConjC, WithLp.ofLp_sum, WithLp.ofLp_smul, Finset.sum_apply, Pi.smul_apply,
    Complex.conj_conj, Complex.real_smul]

/-- the same for complex factors given as pairs: `t = s` is `usvMatC`, `t = max 0 (s - lam)` is `nuclearProxC` -/
theorem matC_sum_pairs (U : Fin m → Fin k → ℝ × ℝ) (t : Fin k → ℝ) (Vh : Fin k → Fin n → ℝ × ℝ) :
    matC (fun i j => ProxBridge.toC (∑ l, t l * (Prox.cmul (U i l) (Vh l j)).1, ∑ l, t l * (Prox.cmul (U i l) (Vh l j)).2))
      = ∑ l, t l • outerC (colC (fun i l => ProxBridge.toC (U i l)) l) (rowConjC (fun l j => ProxBridge.toC (Vh l j)) l) := by
  rw [← matC_usv]; congr 1; funext i j
  rw [ProxBridge.toC_sum_mul]; simp only [ProxBridge.toC_cmul]

theorem matC_usvMatC (U : Fin m → Fin k → ℝ × ℝ) (s : Fin k → ℝ) (Vh : Fin k → Fin n → ℝ × ℝ) :
    matC (fun i j => ProxBridge.toC (Prox.usvMatC U s Vh i j))
      = ∑ l, s l • outerC (colC (fun i l => ProxBridge.toC (U i l)) l) (rowConjC (fun l j => ProxBridge.toC (Vh l j)) l) := by
  rw [← matC_sum_pairs]; congr 1; funext i j; simp only [Prox.usvMatC, Vec.sum_eq]

theorem matC_nuclearProxC (U : Fin m → Fin k → ℝ × ℝ) (s : Fin k → ℝ) (Vh : Fin k → Fin n → ℝ × ℝ) (lam : ℝ) :
    matC (fun i j => ProxBridge.toC (Prox.nuclearProxC U s Vh lam i j))
      = ∑ l, max 0 (s l - lam) • outerC (colC (fun i l => ProxBridge.toC (U i l)) l)
          (rowConjC (fun l j => ProxBridge.toC (Vh l j)) l) := by
  rw [← matC_sum_pairs]; congr 1; funext i j
  simp only [Prox.nuclearProxC, Prox.nuclearSvProx, Vec.sum_eq, ProxBridge.maxP_eq]

theorem cert_nuclear_matrixC
    (hex : ∀ Z : MatC m n, ∃ (k : ℕ) (u : Fin k → EuclideanSpace ℂ (Fin m)) (s : Fin k → ℝ)
      (w : Fin k → EuclideanSpace ℂ (Fin n)), IsSVD ℂ outerC Z u s w)
    {lam : ℝ} (hlam : 0 < lam) (U : Fin m → Fin k → ℂ) (s : Fin k → ℝ) (Vh : Fin k → Fin n → ℂ)
    (hU : Orthonormal ℂ (colC U)) (hV : Orthonormal ℂ (rowConjC Vh)) (hs : ∀ l, 0 ≤ s l) :
    Cert Set.univ (nucNorm hex) lam (matC (fun i j => ∑ l, (s l : ℂ) * (U i l * Vh l j)))
      (matC (fun i j => ∑ l, ((max 0 (s l - lam) : ℝ) : ℂ) * (U i l * Vh l j))) := by
  rw [matC_usv, matC_usv]
  exact cert_nuclear isOuter_outerC (fun _ _ _ _ _ h => nucNorm_eq isOuter_outerC hex h) hex hlam ⟨hU, hV, hs, rfl⟩

end MatrixC

/-! ### for matrices the ball is bounded -/

section Bounded
open WithLp
variable {m n : ℕ}

theorem inner_le_norm_of_unit {F : Type*} [NormedAddCommGroup F] [InnerProductSpace ℝ F] {g : F}
    (h : ∀ c : F, ‖c‖ = 1 → ⟪g, c⟫ ≤ 1) (z : F) : ⟪g, z⟫ ≤ ‖z‖ := by
  rcases eq_or_ne z 0 with rfl | hz
  · simp
  · have := h ((‖z‖⁻¹ : ℝ) • z) (norm_smul_inv_norm hz)
    rwa [real_inner_smul_right, inv_mul_le_iff₀ (norm_pos_iff.mpr hz), mul_one] at this

/-- if every unit multiple `c e_i` of a coordinate vector is `outer x y` for unit `x`, `y`, the entries of the elements of
    the ball are bounded by one, so the ball is bounded -/
theorem bddAbove_of_outer_single {ι F : Type*} [Fintype ι] [DecidableEq ι] [NormedAddCommGroup F] [InnerProductSpace ℝ F]
    {outer : H₁ → H₂ → PiLp 2 (fun _ : ι => F)}
    (hsingle : ∀ (i : ι) (c : F), ‖c‖ = 1 → ∃ x y, ‖x‖ = 1 ∧ ‖y‖ = 1 ∧ outer x y = toLp 2 (Pi.single i c))
    (Z : PiLp 2 (fun _ : ι => F)) : BddAbove (dualPairings 𝕜 outer Z) := by
  refine ⟨∑ i, ‖Z i‖, ?_⟩
  rintro r ⟨G, hG, rfl⟩
  rw [PiLp.inner_apply]
  refine sum_le_sum fun i _ => inner_le_norm_of_unit (fun c hc => ?_) (Z i)
  obtain ⟨x, y, hx, hy, hxy⟩ := hsingle i c hc
  have h := hG x y hx hy
  rw [hxy, PiLp.inner_apply, Fintype.sum_eq_single i (fun j hj => by simp [hj])] at h
  simpa using h

theorem outerM_single (a : Fin m) (b : Fin n) (c : ℝ) :
    outerM (EuclideanSpace.single a c) (EuclideanSpace.single b 1) = toLp 2 (Pi.single (a, b) c) := by
  ext ij; simp [outerM, Pi.single_apply, Prod.ext_iff, ← ite_and, and_comm]

theorem outerC_single (a : Fin m) (b : Fin n) (c : ℂ) :
    outerC (EuclideanSpace.single a c) (EuclideanSpace.single b 1) = toLp 2 (Pi.single (a, b) c) := by
  ext ij; simp [outerC, Pi.single_apply, Prod.ext_iff, ← ite_and, and_comm]

theorem bddAbove_matE (Z : MatE m n) :
    BddAbove (dualPairings ℝ outerM Z) :=
  bddAbove_of_outer_single (fun ab c hc => ⟨EuclideanSpace.single ab.1 c, EuclideanSpace.single ab.2 1, by simp [hc], by simp,
    outerM_single ab.1 ab.2 c⟩) Z

theorem bddAbove_matC (Z : MatC m n) :
    BddAbove (dualPairings ℂ outerC Z) :=
  bddAbove_of_outer_single (fun ab c hc => ⟨EuclideanSpace.single ab.1 c, EuclideanSpace.single ab.2 1, by simp [hc], by simp,
    outerC_single ab.1 ab.2 c⟩) Z

end Bounded

end Scico.ProxNuclear
