/-
  C15, the interval timer over an ARBITRARY clock: `scico.util.Timer` (model `Scico.Driver.Clock`)
  returns what the history-based gap-summing stop-watch `Clock.specElapsed` prescribes, for clock
  values in any additive commutative group (ℤ, ℚ, ℝ — no order is needed for the equality); the step for
  one event is `Clock.elapsedEntry_mach` of `DriverStopwatch.lean`, an identity in a group.
  The tick (`ℕ`) transcription is the ℤ instance of the generic one on every non-decreasing history
  (`timer_nat_is_clock`); that the tick-counting and the gap-summing ideal stop-watches then agree there is read off
  in `C15_timer_nat_is_clock`.
-/
import Scico.Proofs.DriverStopwatch
import Mathlib.Tactic.Abel
import Mathlib.Algebra.Order.Group.Defs

namespace Scico.Driver.Clock
open Scico.Driver.Spec (Cfg)

variable {L τ : Type} [DecidableEq L]

theorem sinceReset_snoc (es : List (τ × Op)) (t : τ) (k : Op) :
    sinceReset (es ++ [(t, k)]) = if k = .reset then [] else sinceReset es ++ [(t, k)] := by
  induction es with
  | nil => cases k <;> simp [sinceReset]
  | cons e es ih =>
    simp only [List.cons_append, sinceReset, List.any_append, List.any_cons, List.any_nil, Bool.or_false, ih]
    by_cases hk : k = .reset
    · simp [hk]
    · have hb : (k == Op.reset) = false := by simpa using hk
      simp only [hb, Bool.or_false, if_neg hk]
      by_cases h1 : es.any (fun x => x.2 == Op.reset) = true
      · simp [h1]
      · by_cases h2 : (e.2 == Op.reset) = true <;> simp [h1, h2]

theorem sinceReset_sublist (es : List (τ × Op)) : (sinceReset es).Sublist es := by
  induction es with
  | nil => simp [sinceReset]
  | cons e es ih =>
    unfold sinceReset
    by_cases h1 : es.any (fun x => x.2 == Op.reset) = true
    · simp only [h1, if_true]; exact ih.trans (List.sublist_cons_self _ _)
    · by_cases h2 : (e.2 == Op.reset) = true
      · simp only [h1, h2, if_true, Bool.false_eq_true, if_false]; exact List.sublist_cons_self _ _
      · simp [h1, h2]

variable [AddCommGroup τ]

theorem gapSum_snoc (es : List (τ × Op)) (t : τ) (k : Op) (T : τ) :
    gapSum (es ++ [(t, k)]) T = gapSum es t + (if k = .start then T - t else 0) := by
  induction es with
  | nil => cases k <;> simp [gapSum]
  | cons e es ih =>
    cases es with
    | nil =>
      simp only [List.cons_append, List.nil_append, gapSum]
      cases k <;> rfl
    | cons e' es =>
      have ih' : gapSum (e' :: es ++ [(t, k)]) T = gapSum (e' :: es) t + (if k = .start then T - t else 0) := ih
      simp only [List.cons_append] at ih' ⊢
      simp only [gapSum, ih', add_assoc]

theorem specTotal_snoc (es : List (τ × Op)) (t : τ) (k : Op) (T : τ) :
    specTotal (es ++ [(t, k)]) T =
      (if k = .reset then 0 else specTotal es t) + (if k = .start then T - t else 0) := by
  unfold specTotal
  rw [sinceReset_snoc]
  cases k <;> simp [gapSum, gapSum_snoc]

theorem elapsedEntry_total (e : Entry τ) (T : τ) :
    elapsedEntry e true T = (match e.t0 with | some s => T - s | none => 0) + e.td := by
  unfold elapsedEntry; cases e.t0 <;> simp

/-- the accumulators against the history — for EVERY query time `T` (over a group the identity is
    algebraic; the order of the clock values plays no role) -/
theorem specTotal_machFold (es : List (τ × Op)) (T : τ) :
    specTotal es T = elapsedEntry (machFold es) true T := by
  induction es using List.reverseRecOn generalizing T with
  | nil => simp [specTotal, sinceReset, gapSum, elapsedEntry, machFold, Entry.fresh]
  | append_singleton es ev ih =>
    obtain ⟨t, k⟩ := ev
    rw [specTotal_snoc, ih t, machFold_snoc, elapsedEntry_mach]
    intro s _
    abel

theorem elapsedEntry_machFold (es : List (τ × Op)) (T : τ) (total : Bool) :
    elapsedEntry (machFold es) total T = if total then specTotal es T else specCurrent es T := by
  cases total with
  | true => simp [specTotal_machFold]
  | false =>
    simp only [Bool.false_eq_true, if_false, elapsedEntry, specCurrent, machFold_t0]
    cases (trailingStarts es).head? <;> simp

theorem timer_refines_stopwatch (c : Cfg L) (h : List (Call L τ)) (now : τ) (label : Option L) (total : Bool) :
    ((Timer.init c.init c.dflt c.all).run h).elapsed label total now = specElapsed c h label total now := by
  rw [elapsed_of_represents (represents_init_run c h), elapsedEntry_machFold, specElapsed]

/-! ### between two readings

With no call in between, the ideal stop-watch advances by exactly the clock difference while the
label is running and not at all while it is stopped; this needs no order on the clock. -/

/-- is the stop-watch that received the events `es` running (last event since the reset a `start`)? -/
def running (es : List (τ × Op)) : Bool :=
  match (sinceReset es).getLast? with
  | some e => e.2 == .start
  | none => false

theorem gapSum_advance (es : List (τ × Op)) (now now' : τ) :
    gapSum es now' - gapSum es now =
      (match es.getLast? with
       | some e => if e.2 == .start then now' - now else 0
       | none => 0) := by
  induction es with
  | nil => simp [gapSum]
  | cons e es ih =>
    cases es with
    | nil =>
      simp only [gapSum, List.getLast?_singleton]
      split
      · abel
      · simp
    | cons e' es =>
      simp only [gapSum]
      rw [List.getLast?_cons_cons]
      rw [← ih]
      abel

theorem specTotal_advance (es : List (τ × Op)) (now now' : τ) :
    specTotal es now' - specTotal es now = if running es then now' - now else 0 := by
  unfold specTotal running
  rw [gapSum_advance]
  cases (sinceReset es).getLast? with
  | none => simp
  | some e => simp

section Ordered
variable [LinearOrder τ] [IsOrderedAddMonoid τ]

theorem gapSum_nonneg (es : List (τ × Op)) (now : τ) (hs : es.Pairwise (fun a b => a.1 ≤ b.1))
    (hn : ∀ e ∈ es, e.1 ≤ now) : 0 ≤ gapSum es now := by
  induction es with
  | nil => simp [gapSum]
  | cons e es ih =>
    cases es with
    | nil =>
      simp only [gapSum]
      split
      · exact sub_nonneg.mpr (hn e (by simp))
      · exact le_refl _
    | cons e' es =>
      rw [List.pairwise_cons] at hs
      simp only [gapSum]
      apply add_nonneg
      · split
        · exact sub_nonneg.mpr (hs.1 e' (by simp))
        · exact le_refl _
      · exact ih hs.2 (fun x hx => hn x (by simp [hx]))

end Ordered

end Scico.Driver.Clock

namespace Scico.Driver
open Scico.Driver.Spec

variable {L : Type} [DecidableEq L]

/-- a call of the tick model seen on the integer clock -/
def castCall (c : Call L) : Clock.Call L Int := ⟨(c.time : Int), c.op, c.arg⟩

def castEv (e : Nat × Op) : Int × Op := ((e.1 : Int), e.2)

def castEntry (e : Clock.Entry Nat) : Clock.Entry Int := ⟨e.t0.map (fun s => (s : Int)), (e.td : Int)⟩

theorem known_cast (c : Cfg L) (h : List (Call L)) (l : L) :
    Clock.known c (h.map castCall) l = known c h l :=
  congrFun (known_via _ c h) l

theorem labelHistory_cast (c : Cfg L) (h : List (Call L)) (l : L) :
    Clock.labelHistory c (h.map castCall) l = (labelHistory c h l).map castEv :=
  labelHistoryFrom_via _ c l [] h

/-- on a time-ordered history the integer-clock machine is the cast of the tick machine
    (every `t - t0` of the tick machine is exact) -/
theorem machFold_cast (es : List (Nat × Op)) (hs : es.Pairwise (fun a b => a.1 ≤ b.1)) :
    Clock.machFold (es.map castEv) = castEntry (Clock.machFold es) := by
  induction es using List.reverseRecOn with
  | nil => simp [Clock.machFold, castEntry, Clock.Entry.fresh]
  | append_singleton es ev ih =>
    rw [List.pairwise_append] at hs
    obtain ⟨h1, _, h3⟩ := hs
    rw [List.map_append, List.map_cons, List.map_nil, Clock.machFold_snoc, Clock.machFold_snoc, ih h1]
    obtain ⟨t, k⟩ := ev
    cases k with
    | start =>
      cases h0 : (Clock.machFold es).t0 <;> simp [Clock.mach, castEv, castEntry, Clock.startEntry, h0]
    | stop =>
      cases h0 : (Clock.machFold es).t0 with
      | none => simp [Clock.mach, castEv, castEntry, Clock.stopEntry, h0]
      | some s =>
        have hle : s ≤ t := Clock.machFold_t0_le es t (fun ev hev => h3 ev hev (t, .stop) (by simp)) s h0
        simp [Clock.mach, castEv, castEntry, Clock.stopEntry, h0]
        omega
    | reset => simp [Clock.mach, castEv, castEntry, Clock.resetEntry]

theorem elapsedEntry_cast (e : Clock.Entry Nat) (now : Nat) (hn : ∀ s, e.t0 = some s → s ≤ now) (total : Bool) :
    Clock.elapsedEntry (castEntry e) total (now : Int) = ((Clock.elapsedEntry e total now : Nat) : Int) := by
  cases h0 : e.t0 with
  | none => cases total <;> simp [Clock.elapsedEntry, castEntry, h0]
  | some s =>
    have hle : s ≤ now := hn s h0
    cases total <;> simp [Clock.elapsedEntry, castEntry, h0] <;> omega

theorem timer_nat_is_clock (c : Cfg L) (h : List (Call L)) (now : Nat) (hm : Monotone h now)
    (label : Option L) (total : Bool) :
    (((Timer.init c.init c.dflt c.all).run h).elapsed label total now).map (fun v => (v : Int)) =
      ((Clock.Timer.init c.init c.dflt c.all : Clock.Timer L Int).run (h.map castCall)).elapsed label total (now : Int) := by
  rw [← toClock_elapsed, Clock.elapsed_of_represents (represents_init_run c h),
    Clock.elapsed_of_represents (Clock.represents_init_run c (h.map castCall)), known_via id, labelHistory_toClock,
    known_cast, labelHistory_cast]
  have ⟨hs, hle⟩ := labelHistory_sorted c hm (label.getD c.dflt)
  rw [machFold_cast _ hs, elapsedEntry_cast _ now (Clock.machFold_t0_le _ now hle)]
  cases known c h (label.getD c.dflt) <;> cases label <;> rfl

end Scico.Driver
