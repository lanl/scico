/-
  Control flow of the step-size model (`Scico.Model.StepSize`) for an arbitrary scalar type `S`: which value the
  search loop returns, and which expression each policy and each `step` method evaluates where.
  No arithmetic facts are used, so everything here holds at `Float` as well.
-/
import Scico.Model.StepSize
import Mathlib.Tactic.Common

namespace Scico.StepSize

/-- `L·γ·γ·…·γ` (`k` factors), multiplied in the order the loop does -/
def geom {S : Type} [Mul S] (L γ : S) : Nat → S
  | 0 => L
  | k + 1 => geom (L * γ) γ k

theorem geom_rec {S : Type} [Mul S] (P : S → Prop) {L γ : S} (hL : P L) (hγ : ∀ a, P a → P (a * γ)) : ∀ k, P (geom L γ k)
  | 0 => hL
  | k + 1 => geom_rec P (hγ L hL) hγ k

theorem searchLoop_succ_spec {S β : Type} [Mul S] (γu : S) (trial : Nat → S → β) (ok : S → β → Bool)
    (fuel it : Nat) (L : S) :
    ∃ k, k ≤ fuel ∧
      searchLoop γu trial ok (fuel + 1) it L = some (geom L γu k, trial (it + k) (geom L γu k), it + k + 1) ∧
      (∀ j, j < k → ok (geom L γu j) (trial (it + j) (geom L γu j)) = false) ∧
      (ok (geom L γu k) (trial (it + k) (geom L γu k)) = true ∨ k = fuel) := by
  induction fuel generalizing it L with
  | zero =>
    refine ⟨0, Nat.le_refl 0, ?_, fun j hj => absurd hj (Nat.not_lt_zero j), Or.inr rfl⟩
    simp only [searchLoop, ite_self]; rfl
  | succ f ih =>
    cases hok : ok L (trial it L) with
    | true =>
      refine ⟨0, Nat.zero_le _, ?_, fun j hj => absurd hj (Nat.not_lt_zero j), Or.inl hok⟩
      simp only [searchLoop, hok, if_true]; rfl
    | false =>
      -- the budget of the recursive call starts at `it + 1`: trial `j` there is trial `j + 1` here
      obtain ⟨k, hk, hs, hrej, hlast⟩ := ih (it + 1) (L * γu)
      simp only [Nat.add_right_comm it 1] at hs hrej hlast
      refine ⟨k + 1, Nat.succ_le_succ hk, ?_, ?_, hlast.imp id (congrArg (· + 1))⟩
      · simp only [searchLoop, hok, Bool.false_eq_true, if_false]; exact hs
      · intro j hj
        cases j with
        | zero => exact hok
        | succ j => exact hrej j (Nat.lt_of_succ_lt_succ hj)

theorem searchLoop_none_iff {S β : Type} [Mul S] (γu : S) (trial : Nat → S → β) (ok : S → β → Bool)
    (fuel it : Nat) (L : S) : searchLoop γu trial ok fuel it L = none ↔ fuel = 0 := by
  cases fuel with
  | zero => exact ⟨fun _ => rfl, fun _ => rfl⟩
  | succ f =>
    obtain ⟨k, _, hs, _⟩ := searchLoop_succ_spec γu trial ok f it L
    simp [hs]

theorem searchLoop_spec {S β : Type} [Mul S] (γu : S) (trial : Nat → S → β) (ok : S → β → Bool)
    (fuel it : Nat) (L L' : S) (b : β) (n : Nat) (h : searchLoop γu trial ok fuel it L = some (L', b, n)) :
    ∃ k, k < fuel ∧ n = it + k + 1 ∧ L' = geom L γu k ∧ b = trial (it + k) L' ∧
      (∀ j, j < k → ok (geom L γu j) (trial (it + j) (geom L γu j)) = false) ∧
      (ok L' b = true ∨ k + 1 = fuel) := by
  cases fuel with
  | zero => cases h
  | succ f =>
    obtain ⟨k, hk, hs, hrej, hlast⟩ := searchLoop_succ_spec γu trial ok f it L
    obtain ⟨rfl, rfl, rfl⟩ : geom L γu k = L' ∧ trial (it + k) (geom L γu k) = b ∧ it + k + 1 = n := by
      simpa [hs] using h
    exact ⟨k, Nat.lt_succ_of_le hk, rfl, rfl, rfl, hrej, hlast.imp id (congrArg (· + 1))⟩

section generic

variable {V S : Type} [Zero S] [One S] [Add S] [Mul S] [Div S] [LE S] [DecidableLE S] [LT S]
  [DecidableLT S] [IEEE S] [HasSqrt S]

/-- the acceptance test of a line search at the point `v` for the value `M`:
    `f(z) ≤ f̂_M(z, v)` with `z = x_step(v, M)` -/
def Accept (env : Env V S) (v : V) (M : S) : Prop :=
  env.f (xstep env v M) ≤ fquad env (xstep env v M) v M

/-- `Zrb` as the robust line search reads it: `pgm.x` before the first call -/
def zrbOf (ps : PolState V S) (x : V) : V :=
  match ps.Zrb with
  | none => x
  | some z => z

/-- the acceptance test of the robust line search for the value `M` (auxiliary point `y(M)`) -/
def AcceptR (env : Env V S) (x : V) (Tk : S) (Zrb : V) (M : S) : Prop :=
  env.f (rlsTrial env x Tk Zrb M).2.2.2 ≤
    fquad env (rlsTrial env x Tk Zrb M).2.2.2 (rlsTrial env x Tk Zrb M).2.2.1 M

theorem update_ls (env : Env V S) (γu : S) (maxiter : Nat) (x : V) (L : S) (ps : PolState V S) (v : V)
    (L' : S) (ps' : PolState V S) (h : update env (.ls γu maxiter) x L ps v = some (L', ps')) :
    (maxiter = 0 ∧ L' = L ∧ ps'.tried = 0) ∨
    ∃ k, k < maxiter ∧ L' = geom L γu k ∧ ps'.tried = k + 1 ∧
      (∀ j, j < k → ¬ Accept env v (geom L γu j)) ∧ (Accept env v L' ∨ k + 1 = maxiter) := by
  simp only [update] at h
  split at h
  · rename_i hs
    cases h
    exact Or.inl ⟨(searchLoop_none_iff _ _ _ _ _ _).1 hs, rfl, rfl⟩
  · rename_i hs
    cases h
    -- the loop's test on the candidate `trial j M` is `Accept env v M`, decided
    obtain ⟨k, hk, rfl, rfl, rfl, hrej, hlast⟩ := searchLoop_spec _ _ _ _ _ _ _ _ _ hs
    exact Or.inr ⟨k, hk, rfl, congrArg (· + 1) (Nat.zero_add k), fun j hj => (of_decide_eq_false (hrej j hj) :),
      hlast.elim (fun h => Or.inl (of_decide_eq_true h :)) Or.inr⟩

theorem update_rls (env : Env V S) (γd γu : S) (maxiter : Nat) (x : V) (L : S) (ps : PolState V S) (v : V)
    (L' : S) (ps' : PolState V S) (h : update env (.rls γd γu maxiter) x L ps v = some (L', ps')) :
    ∃ k, k < maxiter ∧ L' = geom (L * γd) γu k ∧ ps'.tried = k + 1 ∧
      (∀ j, j < k → ¬ AcceptR env x ps.Tk (zrbOf ps x) (geom (L * γd) γu j)) ∧
      (AcceptR env x ps.Tk (zrbOf ps x) L' ∨ k + 1 = maxiter) ∧
      ps'.Z = some (rlsTrial env x ps.Tk (zrbOf ps x) L').2.2.2 ∧
      ps'.Tk = (rlsTrial env x ps.Tk (zrbOf ps x) L').2.1 ∧
      ps'.Zrb = some (env.add (zrbOf ps x) (env.smul ((rlsTrial env x ps.Tk (zrbOf ps x) L').1 * L')
        (env.sub (rlsTrial env x ps.Tk (zrbOf ps x) L').2.2.2 (rlsTrial env x ps.Tk (zrbOf ps x) L').2.2.1))) := by
  simp only [update] at h
  -- the `match` on `ps.Zrb` inside `update` is `zrbOf ps x`
  change (match searchLoop γu (fun _ L => rlsTrial env x ps.Tk (zrbOf ps x) L) _ maxiter 0 (L * γd) with
    | none => none
    | some (L', (t, T, y, z), n) => _) = _ at h
  split at h
  · cases h
  · rename_i L'' t T y z n hs
    cases h
    obtain ⟨k, hk, rfl, rfl, hb, hrej, hlast⟩ := searchLoop_spec _ _ _ _ _ _ _ _ _ hs
    have hb' : rlsTrial env x ps.Tk (zrbOf ps x) (geom (L * γd) γu k) = (t, T, y, z) := hb.symm
    refine ⟨k, hk, rfl, congrArg (· + 1) (Nat.zero_add k), fun j hj => (of_decide_eq_false (hrej j hj) :), ?_, ?_⟩
    · rw [hb] at hlast
      exact hlast.elim (fun h => Or.inl (of_decide_eq_true h :)) Or.inr
    · rw [hb']; exact ⟨rfl, rfl, rfl⟩

theorem pgmStep_some (env : Env V S) (pol : Policy S) (s s' : PGMState V S) (h : pgmStep env pol s = some s') :
    update env pol s.x s.L s.ps s.x = some (s'.L, s'.ps) ∧ s'.x = xstep env s.x s'.L := by
  unfold pgmStep at h
  split at h
  · cases h
  · rename_i L ps hu
    simp only [Option.some.injEq] at h
    subst h
    exact ⟨hu, rfl⟩

variable [Sub S] in
theorem apgmStep_some (env : Env V S) (pol : Policy S) (s s' : PGMState V S) (h : apgmStep env pol s = some s') :
    update env pol s.x s.L s.ps (apgmPoint pol s) = some (s'.L, s'.ps) ∧
      match pol with
      | .rls _ _ _ => s'.ps.Z = some s'.x ∧ s'.v = s.v ∧ s'.t = s.t
      | _ => s'.x = xstep env s.v s'.L ∧ s'.t = half * (1 + sqrt (1 + four * (s.t * s.t))) ∧
          s'.v = env.add s'.x (env.smul ((s.t - 1) / s'.t) (env.sub s'.x s.x)) := by
  unfold apgmStep at h
  simp only at h
  split at h
  · cases h
  · rename_i L ps hu
    cases pol with
    | rls γd γu m =>
      simp only at h
      split at h
      · cases h
      · rename_i z hz
        simp only [Option.some.injEq] at h
        subst h
        exact ⟨hu, hz, rfl, rfl⟩
    | _ =>
      simp only [Option.some.injEq] at h
      subst h
      exact ⟨hu, rfl, rfl, rfl⟩

end generic

theorem iterate_pred {V S : Type} (step : PGMState V S → Option (PGMState V S)) (P : PGMState V S → Prop)
    (hstep : ∀ s s', P s → step s = some s' → P s') :
    ∀ (k : Nat) (s0 s : PGMState V S), P s0 → iterate step k s0 = some s → P s := by
  intro k
  induction k with
  | zero => intro s0 s h0 h; simp only [iterate, Option.some.injEq] at h; exact h ▸ h0
  | succ k ih =>
    intro s0 s h0 h
    simp only [iterate] at h
    split at h
    · cases h
    · rename_i s1 hs1
      exact ih s1 s (hstep s0 s1 h0 hs1) h

end Scico.StepSize
