/-
  `DiagonalReplicated`: axis normalisation, declared shapes, and the documented block formula
  `H(x)_k = A(x_k)` through the index maps of the replicate axes (after repo commit 9420b1a).
-/
import Scico.Proofs.OpAlgFreeze
import Scico.Proofs.OpAlgBidx
import Scico.Proofs.Index
namespace Scico.OpAlg

/-! `joinIdx N P k r` is position `(r / P, k, r % P)` of an `(outer, N, P)` array: the split of `Index.decomp_idx`. -/

theorem repK_joinIdx (N P k r : Nat) (hP : 0 < P) (hk : k < N) : repK N P (joinIdx N P k r) = k :=
  (Index.decomp_idx (r / P) k (r % P) N P hk (Nat.mod_lt _ hP)).2.2

theorem repRest_joinIdx (N P k r : Nat) (hP : 0 < P) (hk : k < N) :
    repRest N P (joinIdx N P k r) = r := by
  obtain ⟨e1, e2, _⟩ := Index.decomp_idx (r / P) k (r % P) N P hk (Nat.mod_lt _ hP)
  unfold repRest joinIdx
  rw [e1, e2, Nat.div_add_mod']

theorem joinIdx_lt (N P A k r : Nat) (hP : 0 < P) (hk : k < N) (hr : r < A * P) :
    joinIdx N P k r < N * (A * P) := by
  rw [show N * (A * P) = A * N * P by rw [Nat.mul_comm A N, Nat.mul_assoc]]
  exact Index.digit_lt (Index.digit_lt (Index.div_lt_of_lt_mul hr) hk) (Nat.mod_lt _ hP)

/-- every flat index of the replicated array is entry `repRest t` of replicate `repK t` -/
theorem joinIdx_repK_repRest (N P t : Nat) (hP : 0 < P) :
    joinIdx N P (repK N P t) (repRest N P t) = t := by
  unfold joinIdx repK repRest
  have hr : t % P < P := Nat.mod_lt _ hP
  rw [Index.digit_div _ hr, Index.digit_mod _ hr]
  have h3 : t / (N * P) = t / P / N := by rw [Nat.mul_comm N P, Nat.div_div_eq_div_mul]
  rw [h3, Nat.div_add_mod' (t / P) N]
  exact Nat.div_add_mod' t P

/-- resolving an axis among `d + 1` positions is Python's index normalisation -/
theorem normAxis_eq_normIdx (d : Nat) (ax : Int) : normAxis d ax = normIdx (d + 1) ax := by
  unfold normAxis normIdx
  by_cases hneg : ax < 0
  · simp only [hneg, if_true]
    by_cases h : ax < -((d + 1 : Nat) : Int)
    · rw [if_pos (Or.inl (by omega)), if_pos (Or.inl h)]
    · rw [if_neg (by omega), if_neg (by omega)]
      congr 2; omega
  · simp only [hneg, if_false, false_or]
    by_cases h : ax > (d : Int)
    · rw [if_pos h, if_pos (Or.inr (by omega))]
    · rw [if_neg h, if_neg (by omega)]

theorem normAxis_le {d : Nat} {ax : Int} {a : Nat} (h : normAxis d ax = some a) : a ≤ d :=
  Nat.le_of_lt_succ (normIdx_lt (normAxis_eq_normIdx d ax ▸ h))

/-- a negative axis counts from the end (of the shape WITH the replicate axis) -/
theorem normAxis_neg (d : Nat) (ax : Int) (h1 : -(d : Int) - 1 ≤ ax) (h2 : ax < 0) :
    normAxis d ax = normAxis d ((d : Int) + 1 + ax) := by
  rw [normAxis_eq_normIdx, normAxis_eq_normIdx, normIdx_neg (d + 1) ax (by omega) h2]
  congr 1; omega

theorem prodL_take_drop (dims : List Nat) (a : Nat) : prodL (dims.take a) * prodL (dims.drop a) = prodL dims := by
  rw [← prodL_append, List.take_append_drop]

theorem prodL_insertDim (dims : List Nat) (a N : Nat) : prodL (insertDim dims a N) = N * prodL dims := by
  unfold insertDim
  rw [prodL_append, prodL_cons, ← prodL_take_drop dims a]
  ring

section
variable {α : Type} [Zero α]

theorem vgather_get (tot N P : Nat) (ys : List (Vc α)) (t : Nat) :
    (vgather tot N P ys).get t = if t < tot then (ys.getD (repK N P t) zeroV).get (repRest N P t) else 0 := rfl

theorem vtake_get (n N P k : Nat) (x : Vc α) (j : Nat) :
    (vtake n N P k x).get j = if j < n then x.get (joinIdx N P k j) else 0 := rfl

/-- what `drep` builds (both axes resolved to positions `a`, `b`): the declared metadata, the evaluation and
    (linear case) the adjoint -/
theorem drep_spec (lin : Bool) (o : Obj α) (N : Nat) (ia : Int) (oa : Option Int) (r : Obj α)
    (h : drep lin o N ia oa = .ok r) :
    ∃ din dout a b,
      (o.md.inShape = .plain din ∧ o.md.outShape = .plain dout
        ∧ normAxis din.length ia = some a ∧ a ≤ din.length ∧ b ≤ dout.length
        ∧ (match (motive := Option Int → Prop) oa with | none => b = a | some ax => normAxis dout.length ax = some b)
        ∧ r.md.inShape = .plain (insertDim din a N) ∧ r.md.outShape = .plain (insertDim dout b N)
        ∧ r.md.inDt = o.md.inDt ∧ r.md.outDt = o.md.outDt
        ∧ r.md.inShape.size = N * o.md.inShape.size ∧ r.md.outShape.size = N * o.md.outShape.size)
      ∧ (∀ x, r.eval x = vgather (N * o.m) N (prodL (dout.drop b))
            ((List.range N).map (fun k => o.eval (vtake o.n N (prodL (din.drop a)) k x))))
      ∧ (lin = true → ∀ y, r.adj y = vgather (N * o.n) N (prodL (din.drop a))
            ((List.range N).map (fun k => o.adj (vtake o.m N (prodL (dout.drop b)) k y)))) := by
  unfold drep at h
  obtain ⟨_, h⟩ := ite_error_ok h
  cases hia : normAxis (axesOf o.md.inShape) ia with
  | none => simp only [hia] at h; cases h
  | some a =>
    simp only [hia] at h
    cases hin : o.md.inShape with
    | nested bs => simp only [hin] at h; cases h
    | plain din =>
      cases hout : o.md.outShape with
      | nested bs => simp only [hin, hout] at h; cases h
      | plain dout =>
        simp only [hin, hout] at h
        rw [hin] at hia
        split at h
        · cases h
        · rename_i b hb
          have hab : b ≤ dout.length ∧ (match (motive := Option Int → Prop) oa with
              | none => b = a | some ax => normAxis dout.length ax = some b) := by
            cases oa with
            | none =>
              rcases ite_eq hb with ⟨_, hb⟩ | ⟨hle, hb⟩
              · cases hb
              · obtain rfl := Option.some.inj hb
                exact ⟨Nat.le_of_not_gt hle, rfl⟩
            | some ax => exact ⟨normAxis_le hb, hb⟩
          cases lin <;>
            (cases h
             exact ⟨din, dout, a, b, ⟨rfl, rfl, hia, normAxis_le hia, hab.1, hab.2, rfl, rfl, rfl, rfl,
               prodL_insertDim _ _ _, prodL_insertDim _ _ _⟩, fun _ => rfl, fun hl _ => by cases hl <;> rfl⟩)

/-- **the documented block formula** `H(x)_k = A(x_k)`: entry `r` of replicate `k` of the output is entry
    `r` of `A` applied to replicate `k` of the input, both addressed through the replicate axes -/
theorem vgather_block (N P Q m : Nat) (hm : m = Q * P) (hP : 0 < P) (f : Nat → Vc α) (k r : Nat)
    (hk : k < N) (hr : r < m) :
    (vgather (N * m) N P ((List.range N).map f)).get (joinIdx N P k r) = (f k).get r := by
  rw [vgather_get]
  have hlt : joinIdx N P k r < N * m := by rw [hm]; exact joinIdx_lt N P Q k r hP hk (hm ▸ hr)
  simp only [hlt, if_true]
  rw [repK_joinIdx N P k r hP hk, repRest_joinIdx N P k r hP hk]
  simp [List.getD, hk]

/-- a negative `output_axis` is the axis counted from the end (the defect repaired by 9420b1a) -/
theorem drep_neg_output_axis (lin : Bool) (o : Obj α) (N : Nat) (ia : Int) (dout : List Nat)
    (hout : o.md.outShape = .plain dout) (ax : Int) (h1 : -(dout.length : Int) - 1 ≤ ax) (h2 : ax < 0) :
    drep lin o N ia (some ax) = drep lin o N ia (some ((dout.length : Int) + 1 + ax)) := by
  unfold drep
  by_cases hc : (lin && decide (o.md.cls = .op)) = true
  · rw [if_pos hc, if_pos hc]
  · rw [if_neg hc, if_neg hc]
    cases normAxis (axesOf o.md.inShape) ia with
    | none => rfl
    | some a =>
      cases hin : o.md.inShape with
      | nested bs => rfl
      | plain din => simp only [hout, normAxis_neg dout.length ax h1 h2]

/-- an `output_axis` outside `[-(d+1), d]` is rejected -/
theorem drep_reject_output_axis (lin : Bool) (o : Obj α) (N : Nat) (ia : Int) (dout : List Nat)
    (hout : o.md.outShape = .plain dout) (ax : Int) (h : ax < -(dout.length : Int) - 1 ∨ (dout.length : Int) < ax) :
    ∃ e, drep lin o N ia (some ax) = .error e := by
  have hn : normAxis dout.length ax = none :=
    (normAxis_eq_normIdx _ _).trans ((normIdx_none_iff _ _).mpr (by omega))
  unfold drep
  split
  · exact ⟨_, rfl⟩
  · cases normAxis (axesOf o.md.inShape) ia with
    | none => exact ⟨_, rfl⟩
    | some a =>
      cases hin : o.md.inShape with
      | nested bs => exact ⟨_, rfl⟩
      | plain din => simp only [hout, hn]; exact ⟨_, rfl⟩

end
end Scico.OpAlg
