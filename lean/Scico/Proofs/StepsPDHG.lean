/-
  Proofs/StepsPDHG — PDHG (Chambolle–Pock; the form implemented is the variant of Pock–Chambolle 2011) with linear `C`
  and extrapolation `alpha`, as a proximal-point iteration in the metric

      M_α(a, b) = ‖a‖²/τ − 2α⟪C a, b⟫ + ‖b‖²/σ        (a ∈ X primal, b ∈ Z dual;  M = M_1).

  The sub-gradient inequalities of one documented iteration from ANY state `(x, z)`, against a saddle point `(x*, z*)`
  and with `∂f` `m`-strongly monotone (`m = 0`: every `f`), add up to

      m‖x⁺ − x*‖² ≤ ⟪x⁺ − x*, x − x⁺⟫/τ + ⟪z⁺ − z*, z − z⁺⟫/σ − ⟪C(x⁺ − x*), z − z⁺⟫ − α⟪C(x − x⁺), z⁺ − z*⟫   (`pdhg_step_key`)

  and with the three-point identity of the metric this is

      M_α(w⁺ − w*) + M_α(w − w⁺) + 2m‖x⁺ − x*‖² + 2(1−α)⟪C(x⁺ − x*), z − z⁺⟫ ≤ M_α(w − w*) .

  * `alpha = 1`: Fejér monotonicity in `M`; for `τσ‖C‖² ≤ θ² < 1`, `M(a,b) ≥ (1−θ)(‖a‖²/τ + ‖b‖²/σ)`, so the iterates stay
    bounded and the residuals reported by `norm_primal_residual()` / `norm_dual_residual()` tend to `0`, from every start.
  * `alpha ∈ [0,1]`, `‖Ca‖ ≤ L‖a‖`, `τσL² ≤ 1`: Young's inequality absorbs the cross term and the increment,
    `M_α(w⁺ − w*) + (2m − (1−α)σL²)‖x⁺ − x*‖² ≤ M_α(w − w*)`, so `x_k → x*` from every start when `(1−α)σL² < 2m`
    (`alpha = 1`: any `m > 0`; `alpha = 0`, Arrow–Hurwicz: `σ‖C‖² < 2m`; for merely convex `f` and `alpha = 0` the
    iteration need not converge: `pdhgA0` at the end of the file).
-/
import Scico.Proofs.StepsConvex
import Scico.Proofs.StepsIter
import Mathlib.Tactic.Abel
import Mathlib.Tactic.NormNum

set_option linter.unusedSectionVars false

namespace Scico.Steps

variable {X Z : Type} [NormedAddCommGroup X] [InnerProductSpace ℝ X]
  [NormedAddCommGroup Z] [InnerProductSpace ℝ Z]

/-- the squared `M`-norm of a primal–dual pair -/
noncomputable def pdM (C : X → Z) (tau sigma : ℝ) (a : X) (b : Z) : ℝ :=
  ‖a‖ ^ 2 / tau - 2 * ⟪C a, b⟫ + ‖b‖ ^ 2 / sigma

/-- the metric with extrapolation weight `alpha` -/
noncomputable def pdMA (C : X → Z) (tau sigma alpha : ℝ) (a : X) (b : Z) : ℝ :=
  ‖a‖ ^ 2 / tau - 2 * alpha * ⟪C a, b⟫ + ‖b‖ ^ 2 / sigma

theorem pdMA_one (C : X → Z) (tau sigma : ℝ) (a : X) (b : Z) : pdMA C tau sigma 1 a b = pdM C tau sigma a b := by
  unfold pdMA pdM; rw [mul_one]

/-- three-point identity of the metric, `w − w* = (w⁺ − w*) + (w − w⁺)` -/
theorem pdMA_three (C : X → Z) (hadd : ∀ x y, C (x + y) = C x + C y) (tau sigma alpha : ℝ) (x xn xs : X) (z zn zs : Z) :
    pdMA C tau sigma alpha (x - xs) (z - zs)
      = pdMA C tau sigma alpha (xn - xs) (zn - zs) + pdMA C tau sigma alpha (x - xn) (z - zn)
        + 2 * (⟪xn - xs, x - xn⟫ / tau + ⟪zn - zs, z - zn⟫ / sigma
            - alpha * (⟪C (xn - xs), z - zn⟫ + ⟪C (x - xn), zn - zs⟫)) := by
  rw [← sub_add_sub_cancel' xn xs x, ← sub_add_sub_cancel' zn zs z]
  unfold pdMA
  rw [norm_add_sq_real, norm_add_sq_real, hadd, inner_add_left, inner_add_right, inner_add_right]
  ring

/-- Young's inequality with weight `σ`: `2|⟪Ca, b⟫| ≤ σL²‖a‖² + ‖b‖²/σ` -/
theorem young_C (C : X → Z) {sigma Lc : ℝ} (hs : 0 < sigma) (hbd : ∀ a, ‖C a‖ ≤ Lc * ‖a‖) (a : X) (b : Z) :
    2 * |⟪C a, b⟫| ≤ sigma * Lc ^ 2 * ‖a‖ ^ 2 + ‖b‖ ^ 2 / sigma := by
  have hcs : |⟪C a, b⟫| ≤ ‖C a‖ * ‖b‖ := abs_real_inner_le_norm _ _
  have key : 0 ≤ (sigma * ‖C a‖ - ‖b‖) ^ 2 / sigma := div_nonneg (sq_nonneg _) hs.le
  have e : (sigma * ‖C a‖ - ‖b‖) ^ 2 / sigma = sigma * ‖C a‖ ^ 2 + ‖b‖ ^ 2 / sigma - 2 * (‖C a‖ * ‖b‖) := by
    field_simp; ring
  have h3 := mul_le_mul_of_nonneg_left (sq_norm_le_of_bound hbd a) hs.le
  linarith

theorem pdMA_lower (C : X → Z) {tau sigma alpha Lc : ℝ} (hs : 0 < sigma) (ha : 0 ≤ alpha)
    (hbd : ∀ a, ‖C a‖ ≤ Lc * ‖a‖) (a : X) (b : Z) :
    (1 / tau - alpha * (sigma * Lc ^ 2)) * ‖a‖ ^ 2 + (1 - alpha) * (‖b‖ ^ 2 / sigma) ≤ pdMA C tau sigma alpha a b := by
  have h2 := mul_le_mul_of_nonneg_left ((mul_le_mul_of_nonneg_left (le_abs_self ⟪C a, b⟫) zero_le_two).trans
    (young_C C hs hbd a b)) ha
  unfold pdMA
  rw [← one_div_mul_eq_div tau (‖a‖ ^ 2)]
  linarith

/-- for `u = ‖a‖`, `v = ‖b‖`: `τσL² ≤ θ²` ⇒ `2Luv ≤ θ(u²/τ + v²/σ)` (both sides are non-negative, compare squares) -/
theorem two_mul_le_theta {tau sigma Lc theta u v : ℝ} (ht : 0 < tau) (hs : 0 < sigma) (hL : 0 ≤ Lc) (hth : 0 ≤ theta)
    (hu : 0 ≤ u) (hv : 0 ≤ v) (hts : tau * sigma * Lc ^ 2 ≤ theta ^ 2) :
    2 * (Lc * u * v) ≤ theta * (u ^ 2 / tau + v ^ 2 / sigma) := by
  have hA : 0 ≤ u ^ 2 / tau := div_nonneg (sq_nonneg u) ht.le
  have hB : 0 ≤ v ^ 2 / sigma := div_nonneg (sq_nonneg v) hs.le
  refine (pow_le_pow_iff_left₀ (mul_nonneg zero_le_two (mul_nonneg (mul_nonneg hL hu) hv))
    (mul_nonneg hth (add_nonneg hA hB)) two_ne_zero).1 ?_
  have e1 : (2 * (Lc * u * v)) ^ 2 = 4 * ((tau * sigma * Lc ^ 2) * ((u ^ 2 / tau) * (v ^ 2 / sigma))) := by
    rw [mul_right_comm (tau * sigma), mul_mul_mul_comm tau, mul_div_cancel₀ _ ht.ne', mul_div_cancel₀ _ hs.ne']
    ring
  have e2 := mul_le_mul_of_nonneg_right hts (mul_nonneg hA hB)
  have e3 := mul_nonneg (sq_nonneg theta) (sq_nonneg (u ^ 2 / tau - v ^ 2 / sigma))
  rw [e1]
  linarith

theorem pdM_bounds (C : X → Z) {tau sigma Lc theta : ℝ} (ht : 0 < tau) (hs : 0 < sigma) (hL : 0 ≤ Lc)
    (hth : 0 ≤ theta) (hbd : ∀ a, ‖C a‖ ≤ Lc * ‖a‖) (hts : tau * sigma * Lc ^ 2 ≤ theta ^ 2) (a : X) (b : Z) :
    (1 - theta) * (‖a‖ ^ 2 / tau + ‖b‖ ^ 2 / sigma) ≤ pdM C tau sigma a b ∧
    pdM C tau sigma a b ≤ (1 + theta) * (‖a‖ ^ 2 / tau + ‖b‖ ^ 2 / sigma) := by
  have hcs := abs_le.1 (abs_real_inner_le_norm (C a) b)
  have h1 : ‖C a‖ * ‖b‖ ≤ Lc * ‖a‖ * ‖b‖ := mul_le_mul_of_nonneg_right (hbd a) (norm_nonneg _)
  have h2 := two_mul_le_theta ht hs hL hth (norm_nonneg a) (norm_nonneg b) hts
  unfold pdM
  constructor <;> linarith

/-- the two sub-gradient inequalities of one iteration (`cb` stands for `C` at the extrapolated point), added -/
theorem pdhg_core (C : X → Z) (Cadj : Z → X) (hadj : ∀ w x, ⟪Cadj w, x⟫ = ⟪w, C x⟫) {tau sigma alpha m : ℝ}
    (ht : 0 < tau) (hs : 0 < sigma) (x xn xs : X) (z zn zs cb : Z)
    (hcb : cb - C xs = C (xn - xs) - alpha • C (x - xn))
    (hA : m * ‖xn - xs‖ ^ 2 ≤ ⟪(1 / tau) • (x - tau • Cadj z - xn) - (-(Cadj zs)), xn - xs⟫)
    (hB : 0 ≤ ⟪zn - zs, (1 / sigma) • (z + sigma • cb - zn) - C xs⟫) :
    m * ‖xn - xs‖ ^ 2 ≤ ⟪xn - xs, x - xn⟫ / tau + ⟪zn - zs, z - zn⟫ / sigma
      - ⟪C (xn - xs), z - zn⟫ - alpha * ⟪C (x - xn), zn - zs⟫ := by
  have eA : (1 / tau) • (x - tau • Cadj z - xn) - (-(Cadj zs)) = (1 / tau) • (x - xn) - (Cadj z - Cadj zs) := by
    rw [sub_right_comm, smul_sub, smul_smul, one_div_mul_cancel ht.ne', one_smul, sub_neg_eq_add, sub_add]
  have eB : (1 / sigma) • (z + sigma • cb - zn) - C xs = (1 / sigma) • (z - zn) + (cb - C xs) := by
    rw [add_sub_right_comm, smul_add, smul_smul, one_div_mul_cancel hs.ne', one_smul, add_sub_assoc]
  rw [eA, inner_sub_left, inner_sub_left, real_inner_smul_left, hadj, hadj, ← inner_sub_left,
    ← sub_add_sub_cancel' zn zs z, inner_add_left, real_inner_comm (xn - xs), one_div_mul_eq_div] at hA
  rw [eB, hcb, inner_add_right, inner_sub_right, real_inner_smul_right, real_inner_smul_right,
    real_inner_comm (C (x - xn)), one_div_mul_eq_div] at hB
  rw [real_inner_comm (z - zn) (C (xn - xs))]
  linarith

/-- the documented problem class and a saddle point: what `PDHGHyp` (`alpha = 1`) and `PDHGHypA` (any `alpha`) share; that
    `C` is linear at the extrapolated point `x⁺ + α(x⁺ − x)` follows from the adjoint (`add_of_adj`, `smul_of_adj`).  `dual` says
    that the dual proximal step is a resolvent of a monotone relation containing `(z*, Cx*)`; it follows from the contract on
    `g*` (`pdhg_dual_of_conj`) or on `g` with `conj_prox` computed by Moreau's decomposition (`pdhg_dual_of_moreau`) -/
structure PDHGBase (p : PDHGParams ℝ X Z) (F : Fn X) (xs : X) (zs : Z) : Prop where
  lin : p.linear = true
  tau : 0 < p.tau
  sigma : 0 < p.sigma
  adj : ∀ w x, ⟪p.Cadj w, x⟫ = ⟪w, p.C x⟫
  proxf : IsProx F p.proxf
  kktx : F.Subgrad xs (-(p.Cadj zs))
  dual : ∀ lam, 0 < lam → ∀ v, 0 ≤ ⟪p.proxgConj lam v - zs, (1 / lam) • (v - p.proxgConj lam v) - p.C xs⟫

theorem pdhgSpec_x (p : PDHGParams ℝ X Z) (hlin : p.linear = true) (s : PDHGState X Z) :
    (pdhgSpecStep p s).x = p.proxf p.tau (s.x - p.tau • p.Cadj s.z) := by
  unfold pdhgSpecStep; simp only [hlin]

theorem pdhgSpec_z (p : PDHGParams ℝ X Z) (s : PDHGState X Z) :
    (pdhgSpecStep p s).z
      = p.proxgConj p.sigma (s.z + p.sigma • p.C ((1 + p.alpha) • (pdhgSpecStep p s).x - p.alpha • s.x)) := rfl

/-- one documented iteration from any state, `∂f` `m`-strongly monotone, any `alpha` -/
theorem pdhg_step_key {p : PDHGParams ℝ X Z} {F : Fn X} {xs : X} {zs : Z} (H : PDHGBase p F xs zs) {m : ℝ}
    (hsm : StrongSub F m) (s : PDHGState X Z) :
    m * ‖(pdhgSpecStep p s).x - xs‖ ^ 2
      ≤ ⟪(pdhgSpecStep p s).x - xs, s.x - (pdhgSpecStep p s).x⟫ / p.tau
        + ⟪(pdhgSpecStep p s).z - zs, s.z - (pdhgSpecStep p s).z⟫ / p.sigma
        - ⟪p.C ((pdhgSpecStep p s).x - xs), s.z - (pdhgSpecStep p s).z⟫
        - p.alpha * ⟪p.C (s.x - (pdhgSpecStep p s).x), (pdhgSpecStep p s).z - zs⟫ := by
  have hA := hsm _ _ _ _ (H.proxf p.tau H.tau (s.x - p.tau • p.Cadj s.z)) H.kktx
  have hB := H.dual p.sigma H.sigma (s.z + p.sigma • p.C ((1 + p.alpha) • (pdhgSpecStep p s).x - p.alpha • s.x))
  rw [← pdhgSpec_x p H.lin s] at hA
  rw [← pdhgSpec_z p s] at hB
  generalize (pdhgSpecStep p s).x = xn at hA hB ⊢
  generalize (pdhgSpecStep p s).z = zn at hA hB ⊢
  refine pdhg_core p.C p.Cadj H.adj H.tau H.sigma s.x xn xs s.z zn zs _ ?_ hA hB
  rw [← sub_of_adj H.adj, ← smul_of_adj H.adj, ← sub_of_adj H.adj]
  congr 1
  rw [add_smul, one_smul, smul_sub]; abel

/-- … in the metric `M_α` -/
theorem pdhg_fejer_step_gen {p : PDHGParams ℝ X Z} {F : Fn X} {xs : X} {zs : Z} (H : PDHGBase p F xs zs) {m : ℝ}
    (hsm : StrongSub F m) (s : PDHGState X Z) :
    pdMA p.C p.tau p.sigma p.alpha ((pdhgSpecStep p s).x - xs) ((pdhgSpecStep p s).z - zs)
        + pdMA p.C p.tau p.sigma p.alpha (s.x - (pdhgSpecStep p s).x) (s.z - (pdhgSpecStep p s).z)
        + 2 * (m * ‖(pdhgSpecStep p s).x - xs‖ ^ 2)
        + 2 * (1 - p.alpha) * ⟪p.C ((pdhgSpecStep p s).x - xs), s.z - (pdhgSpecStep p s).z⟫
      ≤ pdMA p.C p.tau p.sigma p.alpha (s.x - xs) (s.z - zs) := by
  rw [pdMA_three p.C (add_of_adj H.adj) p.tau p.sigma p.alpha s.x (pdhgSpecStep p s).x xs s.z (pdhgSpecStep p s).z zs]
  linarith [pdhg_step_key H hsm s]

/-- … and in `M = M_1` for every `alpha`: the Fejér inequality up to the defect `2(1−α)⟪z⁺−z*, C(x−x⁺)⟫` -/
theorem pdhg_fejer_step_defect {p : PDHGParams ℝ X Z} {F : Fn X} {xs : X} {zs : Z} (H : PDHGBase p F xs zs)
    (s : PDHGState X Z) :
    pdM p.C p.tau p.sigma ((pdhgSpecStep p s).x - xs) ((pdhgSpecStep p s).z - zs)
        + pdM p.C p.tau p.sigma (s.x - (pdhgSpecStep p s).x) (s.z - (pdhgSpecStep p s).z)
      ≤ pdM p.C p.tau p.sigma (s.x - xs) (s.z - zs)
        + 2 * (1 - p.alpha) * ⟪(pdhgSpecStep p s).z - zs, p.C (s.x - (pdhgSpecStep p s).x)⟫ := by
  simp only [← pdMA_one]
  rw [pdMA_three p.C (add_of_adj H.adj) p.tau p.sigma 1 s.x (pdhgSpecStep p s).x xs s.z (pdhgSpecStep p s).z zs,
    real_inner_comm (p.C (s.x - (pdhgSpecStep p s).x))]
  linarith [pdhg_step_key H (strongSub_zero F) s]

/-- hypotheses of the PDHG theorems: documented problem class, `alpha = 1`, linear `C`, a saddle point (the parameter range is
    `PDHGRange`) -/
structure PDHGHyp (p : PDHGParams ℝ X Z) (F : Fn X) (xs : X) (zs : Z) : Prop where
  lin : p.linear = true
  alpha1 : p.alpha = 1
  tau : 0 < p.tau
  sigma : 0 < p.sigma
  add : ∀ x y, p.C (x + y) = p.C x + p.C y
  adj : ∀ w x, ⟪p.Cadj w, x⟫ = ⟪w, p.C x⟫
  proxf : IsProx F p.proxf
  /-- `−Cᵀz* ∈ ∂f(x*)` -/
  kktx : F.Subgrad xs (-(p.Cadj zs))
  /-- the dual proximal step is a resolvent of a monotone relation containing `(z*, Cx*)`:
      `⟪prox_{σg*}(v) − z*, (v − prox_{σg*}(v))/σ − Cx*⟫ ≥ 0` (see `pdhg_dual_of_conj`, `pdhg_dual_of_moreau`) -/
  dual : ∀ lam, 0 < lam → ∀ v, 0 ≤ ⟪p.proxgConj lam v - zs, (1 / lam) • (v - p.proxgConj lam v) - p.C xs⟫

/-- hypotheses as `PDHGHyp` without `alpha = 1`, plus homogeneity of `C` -/
structure PDHGHypA (p : PDHGParams ℝ X Z) (F : Fn X) (xs : X) (zs : Z) : Prop where
  lin : p.linear = true
  tau : 0 < p.tau
  sigma : 0 < p.sigma
  add : ∀ x y, p.C (x + y) = p.C x + p.C y
  smul : ∀ (c : ℝ) x, p.C (c • x) = c • p.C x
  adj : ∀ w x, ⟪p.Cadj w, x⟫ = ⟪w, p.C x⟫
  proxf : IsProx F p.proxf
  kktx : F.Subgrad xs (-(p.Cadj zs))
  dual : ∀ lam, 0 < lam → ∀ v, 0 ≤ ⟪p.proxgConj lam v - zs, (1 / lam) • (v - p.proxgConj lam v) - p.C xs⟫

theorem PDHGHyp.base {p : PDHGParams ℝ X Z} {F : Fn X} {xs : X} {zs : Z} (H : PDHGHyp p F xs zs) : PDHGBase p F xs zs :=
  ⟨H.lin, H.tau, H.sigma, H.adj, H.proxf, H.kktx, H.dual⟩

theorem PDHGHypA.base {p : PDHGParams ℝ X Z} {F : Fn X} {xs : X} {zs : Z} (H : PDHGHypA p F xs zs) : PDHGBase p F xs zs :=
  ⟨H.lin, H.tau, H.sigma, H.adj, H.proxf, H.kktx, H.dual⟩

/-- contract on the conjugate: `proxgConj` is the proximal map of `Gc = g*`, `Cx* ∈ ∂g*(z*)` -/
theorem pdhg_dual_of_conj (p : PDHGParams ℝ X Z) (Gc : Fn Z) (hg : IsProx Gc p.proxgConj) (xs : X) (zs : Z)
    (h2 : Gc.Subgrad zs (p.C xs)) :
    ∀ lam, 0 < lam → ∀ v, 0 ≤ ⟪p.proxgConj lam v - zs, (1 / lam) • (v - p.proxgConj lam v) - p.C xs⟫ := by
  intro lam hl v
  rw [real_inner_comm]
  exact Fn.subgrad_monotone (hg lam hl v) h2

/-- the code path: `conj_prox` computed from `g.prox` by the extended Moreau decomposition, `z* ∈ ∂g(Cx*)` -/
theorem pdhg_dual_of_moreau (p : PDHGParams ℝ X Z) (G : Fn Z) (proxg : ℝ → Z → Z) (hg : IsProx G proxg)
    (hconj : ∀ lam v, p.proxgConj lam v = v - lam • proxg (1 / lam) ((1 / lam) • v)) (xs : X) (zs : Z)
    (h2 : G.Subgrad (p.C xs) zs) :
    ∀ lam, 0 < lam → ∀ v, 0 ≤ ⟪p.proxgConj lam v - zs, (1 / lam) • (v - p.proxgConj lam v) - p.C xs⟫ := by
  intro lam hl v
  have hc := hg (1 / lam) (one_div_pos.2 hl) ((1 / lam) • v)
  -- with `w = prox_{g/λ}(v/λ)`: `hc : λ(v/λ − w) ∈ ∂g(w)`, and `λ(v/λ − w) = proxgConj λ v`, `(v − proxgConj λ v)/λ = w`
  rw [one_div_one_div, smul_sub, smul_smul, mul_one_div_cancel hl.ne', one_smul, ← hconj] at hc
  have e : (1 / lam) • (v - p.proxgConj lam v) = proxg (1 / lam) ((1 / lam) • v) := by
    rw [hconj, sub_sub_cancel, smul_smul, one_div_mul_cancel hl.ne', one_smul]
  rw [e]
  exact Fn.subgrad_monotone hc h2

/-- the documented parameter range `τσ‖C‖² ≤ θ² < 1` (with `‖C a‖ ≤ L‖a‖`) -/
structure PDHGRange (p : PDHGParams ℝ X Z) (Lc theta : ℝ) : Prop where
  L0 : 0 ≤ Lc
  th0 : 0 ≤ theta
  th1 : theta < 1
  bd : ∀ a, ‖p.C a‖ ≤ Lc * ‖a‖
  ts : p.tau * p.sigma * Lc ^ 2 ≤ theta ^ 2

/-- the parameter range: `‖Ca‖ ≤ L‖a‖`, `τσL² ≤ 1` (documented), `alpha ∈ [0,1]` (documented) and `(1−α)σL² ≤ 2m − gap` -/
structure PDHGRangeA (p : PDHGParams ℝ X Z) (Lc m gap : ℝ) : Prop where
  L0 : 0 ≤ Lc
  bd : ∀ a, ‖p.C a‖ ≤ Lc * ‖a‖
  a0 : 0 ≤ p.alpha
  a1 : p.alpha ≤ 1
  ts : p.tau * p.sigma * Lc ^ 2 ≤ 1
  gap : (1 - p.alpha) * (p.sigma * Lc ^ 2) + gap ≤ 2 * m

/-- for `alpha = 1` the second range asks nothing more than the first, with `gap = 2m` -/
theorem PDHGRange.rangeA {p : PDHGParams ℝ X Z} {Lc theta : ℝ} (R : PDHGRange p Lc theta) (ha : p.alpha = 1) (m : ℝ) :
    PDHGRangeA p Lc m (2 * m) :=
  ⟨R.L0, R.bd, ha ▸ zero_le_one, ha.le, R.ts.trans (pow_le_one₀ R.th0 R.th1.le),
   by rw [ha, sub_self, zero_mul, zero_add]⟩

theorem pdM_lower (p : PDHGParams ℝ X Z) {Lc theta : ℝ} (ht : 0 < p.tau) (hs : 0 < p.sigma) (R : PDHGRange p Lc theta)
    (a : X) (b : Z) : (1 - theta) * (‖a‖ ^ 2 / p.tau + ‖b‖ ^ 2 / p.sigma) ≤ pdM p.C p.tau p.sigma a b :=
  (pdM_bounds p.C ht hs R.L0 R.th0 R.bd R.ts a b).1

theorem pdM_nonneg (p : PDHGParams ℝ X Z) {Lc theta : ℝ} (ht : 0 < p.tau) (hs : 0 < p.sigma) (R : PDHGRange p Lc theta)
    (a : X) (b : Z) : 0 ≤ pdM p.C p.tau p.sigma a b :=
  le_trans (mul_nonneg (sub_nonneg.2 R.th1.le) (add_nonneg (div_nonneg (sq_nonneg _) ht.le) (div_nonneg (sq_nonneg _) hs.le)))
    (pdM_lower p ht hs R a b)

/-- `ατσL² ≤ 1`, as the coefficient of `‖a‖²` in `pdMA_lower` -/
theorem PDHGRangeA.coef_nonneg {p : PDHGParams ℝ X Z} {Lc m gap : ℝ} (R : PDHGRangeA p Lc m gap) (ht : 0 < p.tau)
    (hs : 0 < p.sigma) : 0 ≤ 1 / p.tau - p.alpha * (p.sigma * Lc ^ 2) := by
  have h1 := mul_le_one₀ R.a1 (mul_nonneg (mul_nonneg ht.le hs.le) (sq_nonneg Lc)) R.ts
  rw [sub_nonneg, le_div_iff₀ ht]
  linarith

theorem pdMA_nonneg (p : PDHGParams ℝ X Z) {Lc m gap : ℝ} (ht : 0 < p.tau) (hs : 0 < p.sigma) (R : PDHGRangeA p Lc m gap)
    (a : X) (b : Z) : 0 ≤ pdMA p.C p.tau p.sigma p.alpha a b :=
  le_trans (add_nonneg (mul_nonneg (R.coef_nonneg ht hs) (sq_nonneg _))
      (mul_nonneg (sub_nonneg.2 R.a1) (div_nonneg (sq_nonneg _) hs.le)))
    (pdMA_lower p.C hs R.a0 R.bd a b)

/-- Fejér inequality in `M_α` with the gain `gap · ‖x⁺ − x*‖²`, `gap = 2m − (1−α)σL²`: Young's inequality on the cross term of
    `pdhg_fejer_step_gen` costs `(1−α)(σL²‖x⁺−x*‖² + ‖z−z⁺‖²/σ)`, and `M_α(w − w⁺) ≥ (1−α)‖z−z⁺‖²/σ` -/
theorem pdhg_fejer_step_alpha_strong {p : PDHGParams ℝ X Z} {F : Fn X} {xs : X} {zs : Z} (H : PDHGBase p F xs zs)
    {Lc m gap : ℝ} (R : PDHGRangeA p Lc m gap) (hsm : StrongSub F m) (s : PDHGState X Z) :
    pdMA p.C p.tau p.sigma p.alpha ((pdhgSpecStep p s).x - xs) ((pdhgSpecStep p s).z - zs)
        + gap * ‖(pdhgSpecStep p s).x - xs‖ ^ 2
      ≤ pdMA p.C p.tau p.sigma p.alpha (s.x - xs) (s.z - zs) := by
  have core := pdhg_fejer_step_gen H hsm s
  generalize (pdhgSpecStep p s).x = xn at core ⊢
  generalize (pdhgSpecStep p s).z = zn at core ⊢
  have hy := young_C p.C H.sigma R.bd (xn - xs) (s.z - zn)
  have hcross := mul_le_mul_of_nonneg_left
    (show -(p.sigma * Lc ^ 2 * ‖xn - xs‖ ^ 2 + ‖s.z - zn‖ ^ 2 / p.sigma) ≤ 2 * ⟪p.C (xn - xs), s.z - zn⟫ by
      linarith [neg_abs_le ⟪p.C (xn - xs), s.z - zn⟫])
    (sub_nonneg.2 R.a1)
  have low := pdMA_lower p.C (tau := p.tau) H.sigma R.a0 R.bd (s.x - xn) (s.z - zn)
  have hc := mul_nonneg (R.coef_nonneg H.tau H.sigma) (sq_nonneg ‖s.x - xn‖)
  have hg := mul_le_mul_of_nonneg_right R.gap (sq_nonneg ‖xn - xs‖)
  linarith

theorem pdhg_descent_alpha {p : PDHGParams ℝ X Z} {F : Fn X} {xs : X} {zs : Z} (H : PDHGBase p F xs zs)
    {Lc m gap : ℝ} (R : PDHGRangeA p Lc m gap) (hgap : 0 ≤ gap) (hsm : StrongSub F m) :
    Descent (pdhgSpecStep p) (fun _ => True) (fun s => pdMA p.C p.tau p.sigma p.alpha (s.x - xs) (s.z - zs))
      (fun s => gap * ‖(pdhgSpecStep p s).x - xs‖ ^ 2) :=
  ⟨fun _ _ => trivial, fun _ _ => pdMA_nonneg p H.tau H.sigma R _ _, fun _ _ => mul_nonneg hgap (sq_nonneg _),
    fun s _ => pdhg_fejer_step_alpha_strong H R hsm s⟩

theorem pdhg_x_tendsto_alpha {p : PDHGParams ℝ X Z} {F : Fn X} {xs : X} {zs : Z} (H : PDHGBase p F xs zs)
    {Lc m gap : ℝ} (R : PDHGRangeA p Lc m gap) (hgap : 0 < gap) (hsm : StrongSub F m) (s : PDHGState X Z) :
    Filter.Tendsto (fun k => (iter (pdhgSpecStep p) k s).x) Filter.atTop (nhds xs) :=
  (pdhg_descent_alpha H R hgap.le hsm).tendsto_of_mul_sq_dist_le (s := s) trivial (π := PDHGState.x) hgap fun _ _ => le_rfl

theorem pdhg_fejer_step (p : PDHGParams ℝ X Z) (F : Fn X) (xs : X) (zs : Z) (H : PDHGHyp p F xs zs)
    (s : PDHGState X Z) :
    pdM p.C p.tau p.sigma ((pdhgSpecStep p s).x - xs) ((pdhgSpecStep p s).z - zs)
        + pdM p.C p.tau p.sigma (s.x - (pdhgSpecStep p s).x) (s.z - (pdhgSpecStep p s).z)
      ≤ pdM p.C p.tau p.sigma (s.x - xs) (s.z - zs) := by
  have h := pdhg_fejer_step_defect H.base s
  rwa [H.alpha1, sub_self, mul_zero, zero_mul, add_zero] at h

theorem pdhg_descent {p : PDHGParams ℝ X Z} {F : Fn X} {xs : X} {zs : Z} (H : PDHGHyp p F xs zs) {Lc theta : ℝ}
    (R : PDHGRange p Lc theta) :
    Descent (pdhgSpecStep p) (fun _ => True) (fun s => pdM p.C p.tau p.sigma (s.x - xs) (s.z - zs))
      (fun s => pdM p.C p.tau p.sigma (s.x - (pdhgSpecStep p s).x) (s.z - (pdhgSpecStep p s).z)) :=
  ⟨fun _ _ => trivial, fun _ _ => pdM_nonneg p H.tau H.sigma R _ _, fun _ _ => pdM_nonneg p H.tau H.sigma R _ _,
    fun s _ => pdhg_fejer_step p F xs zs H s⟩

/-- `r_k²/t ≤ c·M_k`, `M_k → 0` ⇒ `r_k/t → 0` (`r = ‖x_{k+1} − x_k‖`, `t = τ`, and the dual twin) -/
theorem tendsto_div_of_sq_div_le {r M : ℕ → ℝ} {t c : ℝ} (ht : 0 < t) (hr : ∀ k, 0 ≤ r k)
    (h : ∀ k, r k ^ 2 / t ≤ c * M k) (hM : Filter.Tendsto M Filter.atTop (nhds 0)) :
    Filter.Tendsto (fun k => r k / t) Filter.atTop (nhds 0) := by
  have hb := (hM.const_mul c).const_mul (1 / t)
  rw [mul_zero, mul_zero] at hb
  refine tendsto_zero_of_sq_le (fun k => div_nonneg (hr k) ht.le) (fun k => ?_) hb
  rw [div_pow, sq t, ← div_div, ← one_div_mul_eq_div t]
  exact mul_le_mul_of_nonneg_left (h k) (one_div_pos.2 ht).le

theorem pdM_dominates (p : PDHGParams ℝ X Z) {Lc theta : ℝ} (ht : 0 < p.tau) (hs : 0 < p.sigma) (R : PDHGRange p Lc theta)
    (a : X) (b : Z) :
    ‖a‖ ^ 2 / p.tau ≤ (1 - theta)⁻¹ * pdM p.C p.tau p.sigma a b ∧
    ‖b‖ ^ 2 / p.sigma ≤ (1 - theta)⁻¹ * pdM p.C p.tau p.sigma a b := by
  have hth : 0 < 1 - theta := sub_pos.2 R.th1
  have low := pdM_lower p ht hs R a b
  have hA := mul_nonneg hth.le (div_nonneg (sq_nonneg ‖a‖) ht.le)
  have hB := mul_nonneg hth.le (div_nonneg (sq_nonneg ‖b‖) hs.le)
  rw [inv_mul_eq_div, le_div_iff₀' hth, le_div_iff₀' hth]
  constructor <;> linarith

theorem pdhg_residuals_tendsto (p : PDHGParams ℝ X Z) (F : Fn X) (xs : X) (zs : Z) (H : PDHGHyp p F xs zs)
    {Lc theta : ℝ} (R : PDHGRange p Lc theta) (hnx : p.normX = fun v => ‖v‖) (hnz : p.normZ = fun v => ‖v‖)
    (s : PDHGState X Z) :
    Filter.Tendsto (fun k => pdhgNormPrimalImpl p (iter (pdhgSpecStep p) (k + 1) s)) Filter.atTop (nhds 0) ∧
    Filter.Tendsto (fun k => pdhgNormDualImpl p (iter (pdhgSpecStep p) (k + 1) s)) Filter.atTop (nhds 0) := by
  have hI : Filter.Tendsto (fun k => pdM p.C p.tau p.sigma ((iter (pdhgSpecStep p) k s).x - (iter (pdhgSpecStep p) (k + 1) s).x)
      ((iter (pdhgSpecStep p) k s).z - (iter (pdhgSpecStep p) (k + 1) s).z)) Filter.atTop (nhds 0) := by
    simpa only [iter_succ'] using (pdhg_descent H R).tendsto (s := s) trivial
  have hold : ∀ k, (iter (pdhgSpecStep p) (k + 1) s).xOld = (iter (pdhgSpecStep p) k s).x ∧
      (iter (pdhgSpecStep p) (k + 1) s).zOld = (iter (pdhgSpecStep p) k s).z := fun k => by
    rw [iter_succ']; exact ⟨rfl, rfl⟩
  have hx := tendsto_div_of_sq_div_le H.tau
    (fun k => norm_nonneg ((iter (pdhgSpecStep p) (k + 1) s).x - (iter (pdhgSpecStep p) k s).x))
    (fun k => by rw [norm_sub_rev]; exact (pdM_dominates p H.tau H.sigma R _ _).1) hI
  have hz := tendsto_div_of_sq_div_le H.sigma
    (fun k => norm_nonneg ((iter (pdhgSpecStep p) (k + 1) s).z - (iter (pdhgSpecStep p) k s).z))
    (fun k => by rw [norm_sub_rev]; exact (pdM_dominates p H.tau H.sigma R _ _).2) hI
  exact ⟨hx.congr fun k => by simp only [pdhgNormPrimalImpl, hnx, hold],
    hz.congr fun k => by simp only [pdhgNormDualImpl, hnz, hold]⟩

/-- The defect of `pdhg_fejer_step_defect` is real.  `f = 0`, `g* = 0`, `C = I` on ℝ, `τ = σ = 1/2` (`τσ‖C‖² = 1/4 < 1`),
    `alpha = 0`, inside the documented range; the field `g` (the indicator of `{0}`, not real-valued) is not read by the iteration
    and set to `0` -/
noncomputable def pdhgA0 : PDHGParams ℝ ℝ ℝ :=
  { f := fun _ => 0, g := fun _ => 0, proxf := fun _ v => v, proxgConj := fun _ v => v, C := id, linear := true,
    Cadj := id, JCadj := fun _ z => z, tau := 1 / 2, sigma := 1 / 2, alpha := 0, normX := fun v => |v|, normZ := fun v => |v| }

theorem pdhgA0_step (x z : ℝ) (xo zo : ℝ) :
    (pdhgSpecStep pdhgA0 { x := x, xOld := xo, z := z, zOld := zo }).x = x - z / 2 ∧
    (pdhgSpecStep pdhgA0 { x := x, xOld := xo, z := z, zOld := zo }).z = x / 2 + 3 * z / 4 := by
  unfold pdhgSpecStep pdhgA0
  simp only [smul_eq_mul, id]
  constructor <;> ring

/-- the invariant quadratic form of the `alpha = 0` iteration -/
def qA0 (x z : ℝ) : ℝ := 2 * x ^ 2 - x * z + 2 * z ^ 2

theorem pdhgA0_invariant (s : PDHGState ℝ ℝ) :
    qA0 (pdhgSpecStep pdhgA0 s).x (pdhgSpecStep pdhgA0 s).z = qA0 s.x s.z := by
  obtain ⟨h1, h2⟩ := pdhgA0_step s.x s.z s.xOld s.zOld
  have e : s = { x := s.x, xOld := s.xOld, z := s.z, zOld := s.zOld } := rfl
  rw [e, h1, h2]
  unfold qA0
  ring

theorem qA0_le (x z : ℝ) : qA0 x z ≤ 5 / 2 * (x ^ 2 + z ^ 2) := by
  unfold qA0; linarith [sq_nonneg (x + z)]

theorem qA0_ge (x z : ℝ) : 3 / 2 * (x ^ 2 + z ^ 2) ≤ qA0 x z := by
  unfold qA0; linarith [sq_nonneg (x - z)]

/-- the instance is inside the documented problem class and parameter range (`τσ‖C‖² = 1/4`), saddle point `(0,0)` -/
theorem pdhgA0_hyp : PDHGHypA pdhgA0 (Fn.ofReal (fun _ : ℝ => (0 : ℝ))) 0 0 ∧ PDHGRange pdhgA0 1 (1 / 2) ∧
    pdhgA0.alpha = 0 := by
  refine ⟨⟨rfl, by norm_num [pdhgA0], by norm_num [pdhgA0], fun _ _ => rfl, fun _ _ => rfl, fun _ _ => rfl, isProx_zero,
    ⟨trivial, fun y _ => by simp [pdhgA0, Fn.ofReal]⟩, fun lam _ v => by simp [pdhgA0]⟩,
    ⟨by norm_num, by norm_num, by norm_num, fun a => by simp [pdhgA0], by norm_num [pdhgA0]⟩, rfl⟩

/-- no orbit converges to the saddle point except the constant one: `x_k² + z_k² ≥ (3/5)(x_0² + z_0²)` for all `k` -/
theorem pdhgA0_no_convergence (s : PDHGState ℝ ℝ) (k : Nat) :
    3 / 5 * (s.x ^ 2 + s.z ^ 2) ≤ (iter (pdhgSpecStep pdhgA0) k s).x ^ 2 + (iter (pdhgSpecStep pdhgA0) k s).z ^ 2 := by
  have h1 := iter_invariant (f := pdhgSpecStep pdhgA0) (P := fun t => qA0 t.x t.z = qA0 s.x s.z)
    (fun t ht => (pdhgA0_invariant t).trans ht) k s (Eq.refl (qA0 s.x s.z))
  have h2 := qA0_le (iter (pdhgSpecStep pdhgA0) k s).x (iter (pdhgSpecStep pdhgA0) k s).z
  have h3 := qA0_ge s.x s.z
  linarith

/-- and the `M`-distance to the saddle point increases in the step from `(0, 1)` -/
theorem pdhgA0_not_fejer :
    pdM pdhgA0.C pdhgA0.tau pdhgA0.sigma (0 - 0) (1 - 0)
      < pdM pdhgA0.C pdhgA0.tau pdhgA0.sigma
          ((pdhgSpecStep pdhgA0 { x := 0, xOld := 0, z := 1, zOld := 1 }).x - 0)
          ((pdhgSpecStep pdhgA0 { x := 0, xOld := 0, z := 1, zOld := 1 }).z - 0) := by
  obtain ⟨h1, h2⟩ := pdhgA0_step 0 1 0 1
  rw [h1, h2]
  unfold pdM pdhgA0
  simp only [id, sub_zero, Real.norm_eq_abs, sq_abs, real_inner_eq_re_inner]
  norm_num

end Scico.Steps
