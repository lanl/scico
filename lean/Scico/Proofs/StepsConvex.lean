/-
  Proofs/StepsConvex — the convex-analysis vocabulary of property C03, over an arbitrary real
  inner-product space `E` (ℝⁿ, ℂⁿ under `Re⟨·,·⟩`, products = block arrays are instances).
  A proximal map enters through its contract in sub-gradient (certificate) form, `(v − prox λ v)/λ ∈ ∂F(prox λ v)`, equivalent
  to the `argmin` definition for convex `F`.
  The certificate is `ProxSpec.Cert` by definition (`Fn.subgrad_iff_cert`, `isProx_iff_cert`), the proximal objective
  `ProxSpec.IsGMin` up to the factor `λ` (`Fn.isProxPt_iff_isGMin`): the proximal-point facts are those of `ProxSpec`.
-/
import Scico.Proofs.ProxSpec
import Mathlib.Analysis.InnerProductSpace.Basic
import Mathlib.Analysis.Convex.Function
import Mathlib.Tactic.Linarith
import Mathlib.Tactic.Ring
import Mathlib.Tactic.FieldSimp
import Mathlib.Tactic.Positivity

namespace Scico.Steps

variable {E : Type} [NormedAddCommGroup E] [InnerProductSpace ℝ E]

/-- extended-real-valued function: `+∞` outside `dom`, `val` on `dom` -/
structure Fn (E : Type) where
  dom : Set E
  val : E → ℝ

open Scico.ProxSpec (Cert IsGMin)

namespace Fn

def ofReal (f : E → ℝ) : Fn E := ⟨Set.univ, f⟩

def indicator (S : Set E) : Fn E := ⟨S, fun _ => 0⟩

def IsConvex (F : Fn E) : Prop := ConvexOn ℝ F.dom F.val

/-- `g ∈ ∂F(x)` -/
def Subgrad (F : Fn E) (x g : E) : Prop :=
  x ∈ F.dom ∧ ∀ y ∈ F.dom, F.val x + ⟪g, y - x⟫ ≤ F.val y

def IsMin (F : Fn E) (x : E) : Prop := x ∈ F.dom ∧ ∀ y ∈ F.dom, F.val x ≤ F.val y

/-- `p` minimises `F + (1/2λ)‖· − v‖²` -/
def IsProxPt (F : Fn E) (lam : ℝ) (v p : E) : Prop :=
  p ∈ F.dom ∧ ∀ y ∈ F.dom, F.val p + 1 / (2 * lam) * ‖p - v‖ ^ 2 ≤ F.val y + 1 / (2 * lam) * ‖y - v‖ ^ 2

theorem isMin_iff_subgrad_zero (F : Fn E) (x : E) : F.IsMin x ↔ F.Subgrad x 0 := by
  unfold IsMin Subgrad
  simp

/-- `∂F` is a monotone relation (no convexity needed) -/
theorem subgrad_monotone {F : Fn E} {x y g h : E} (hx : F.Subgrad x g) (hy : F.Subgrad y h) :
    0 ≤ ⟪g - h, x - y⟫ := by
  have h1 := hx.2 y hy.1
  have h2 := hy.2 x hx.1
  have e1 : ⟪g, y - x⟫ = -⟪g, x - y⟫ := by rw [← inner_neg_right]; congr 1; abel
  rw [inner_sub_left]
  linarith

/-- scaled form: `ρ g ∈ ∂F(x)`, `ρ h ∈ ∂F(y)` with `ρ > 0` give `⟪g − h, x − y⟫ ≥ 0`
    (multipliers `ρ u` of ADMM, certificates `(1/λ)(v − p)` of proximal points) -/
theorem subgrad_smul_monotone {F : Fn E} {rho : ℝ} (hrho : 0 < rho) {x y g h : E}
    (hx : F.Subgrad x (rho • g)) (hy : F.Subgrad y (rho • h)) : 0 ≤ ⟪g - h, x - y⟫ := by
  have m := subgrad_monotone hx hy
  rw [← smul_sub, real_inner_smul_left] at m
  exact nonneg_of_mul_nonneg_right m hrho

theorem norm_sub_sq_expand (a b : E) : ‖a - b‖ ^ 2 = ‖a‖ ^ 2 - 2 * ⟪a, b⟫ + ‖b‖ ^ 2 :=
  norm_sub_sq_real a b

/-- a sub-gradient in certificate form is the certificate that C02 proves of every scico proximal map -/
theorem subgrad_iff_cert (F : Fn E) (lam : ℝ) (v p : E) :
    F.Subgrad p ((1 / lam) • (v - p)) ↔ Cert F.dom F.val lam v p := Iff.rfl

omit [InnerProductSpace ℝ E] in
/-- the two proximal objectives differ by the factor `λ` -/
theorem isProxPt_iff_isGMin (F : Fn E) {lam : ℝ} (hlam : 0 < lam) (v p : E) :
    F.IsProxPt lam v p ↔ IsGMin F.dom F.val lam v p := by
  refine and_congr Iff.rfl (forall₂_congr fun y _ => ?_)
  rw [← mul_le_mul_iff_of_pos_left hlam]
  have e : ∀ a b : ℝ, lam * (a + 1 / (2 * lam) * b) = lam * a + 1 / 2 * b := fun a b => by field_simp
  rw [e, e]

/-- certificate ⇒ minimiser (no convexity needed) -/
theorem isProxPt_of_subgrad {F : Fn E} {lam : ℝ} (hlam : 0 < lam) {v p : E}
    (h : F.Subgrad p ((1 / lam) • (v - p))) : F.IsProxPt lam v p :=
  (F.isProxPt_iff_isGMin hlam v p).2 (ProxSpec.prox_of_cert hlam h).isGMin

/-- minimiser ⇒ certificate, for convex `F` -/
theorem subgrad_of_isProxPt {F : Fn E} (hc : F.IsConvex) {lam : ℝ} (hlam : 0 < lam) {v p : E}
    (h : F.IsProxPt lam v p) : F.Subgrad p ((1 / lam) • (v - p)) :=
  ProxSpec.cert_of_min_convex hlam (fun x hx y hy t ht ht1 => by
    rw [← ProxSpec.segment_eq]
    exact ⟨hc.1 hx hy (sub_nonneg.2 ht1) ht (sub_add_cancel 1 t),
      hc.2 hx hy (sub_nonneg.2 ht1) ht (sub_add_cancel 1 t)⟩) ((F.isProxPt_iff_isGMin hlam v p).1 h)

end Fn

/-- contract of a proximal map, certificate form: `(v − prox λ v)/λ ∈ ∂F(prox λ v)` for `λ > 0` -/
def IsProx (F : Fn E) (prox : ℝ → E → E) : Prop :=
  ∀ lam : ℝ, 0 < lam → ∀ v : E, F.Subgrad (prox lam v) ((1 / lam) • (v - prox lam v))

/-- the contract C03 asks of a proximal map is the certificate C02 concludes, for every `λ > 0` and `v` -/
theorem isProx_iff_cert (F : Fn E) (prox : ℝ → E → E) :
    IsProx F prox ↔ ∀ lam, 0 < lam → ∀ v, Cert F.dom F.val lam v (prox lam v) := Iff.rfl

/-- the zero functional, whose proximal map is the identity -/
theorem isProx_zero : IsProx (Fn.ofReal (fun _ : E => (0 : ℝ))) (fun _ v => v) := by
  intro lam _ v
  refine ⟨trivial, fun y _ => ?_⟩
  simp [Fn.ofReal]

/-- `argmin` form of the contract -/
def IsProxArgmin (F : Fn E) (prox : ℝ → E → E) : Prop :=
  ∀ lam : ℝ, 0 < lam → ∀ v : E, F.IsProxPt lam v (prox lam v)

/-- a point with a certificate is *the* proximal point -/
theorem IsProx.unique {F : Fn E} {prox : ℝ → E → E} (hp : IsProx F prox) {lam : ℝ} (hlam : 0 < lam)
    {v p : E} (h : F.Subgrad p ((1 / lam) • (v - p))) : prox lam v = p :=
  (ProxSpec.prox_of_cert hlam h).unique (ProxSpec.prox_of_cert hlam (hp lam hlam v)).isGMin

theorem IsProx.fixed_iff {F : Fn E} {prox : ℝ → E → E} (hp : IsProx F prox) {lam : ℝ} (hlam : 0 < lam)
    {x g : E} : prox lam (x + lam • g) = x ↔ F.Subgrad x g := by
  have e : (1 / lam) • (x + lam • g - x) = g := by
    rw [add_sub_cancel_left, smul_smul, one_div_mul_cancel hlam.ne', one_smul]
  constructor
  · intro h
    have := hp lam hlam (x + lam • g)
    rwa [h, e] at this
  · intro h
    exact hp.unique hlam (by rwa [e])

/-- `g ∈ ∂F(x)` ⇒ `prox λ (x + λ g) = x` : optimal points are fixed by proximal steps -/
theorem IsProx.fixed {F : Fn E} {prox : ℝ → E → E} (hp : IsProx F prox) {lam : ℝ} (hlam : 0 < lam)
    {x g : E} (h : F.Subgrad x g) : prox lam (x + lam • g) = x :=
  (hp.fixed_iff hlam).2 h

/-- firm non-expansiveness: `‖p − q‖² ≤ ⟪p − q, v − w⟫` -/
theorem IsProx.firm {F : Fn E} {prox : ℝ → E → E} (hp : IsProx F prox) {lam : ℝ} (hlam : 0 < lam)
    (v w : E) : ‖prox lam v - prox lam w‖ ^ 2 ≤ ⟪prox lam v - prox lam w, v - w⟫ :=
  ProxSpec.prox_firm hlam (hp lam hlam v) (hp lam hlam w)

theorem IsProx.nonexpansive {F : Fn E} {prox : ℝ → E → E} (hp : IsProx F prox) {lam : ℝ}
    (hlam : 0 < lam) (v w : E) : ‖prox lam v - prox lam w‖ ≤ ‖v - w‖ :=
  ProxSpec.prox_nonexpansive hlam (hp lam hlam v) (hp lam hlam w)

/-- strong monotonicity of `∂F` with modulus `m` (`m = 0`: monotone, true for every `F`) -/
def StrongSub {X : Type} [NormedAddCommGroup X] [InnerProductSpace ℝ X] (F : Fn X) (m : ℝ) : Prop :=
  ∀ x g y h, F.Subgrad x g → F.Subgrad y h → m * ‖x - y‖ ^ 2 ≤ ⟪g - h, x - y⟫

theorem strongSub_zero (F : Fn E) : StrongSub F 0 := fun x g y h hx hy => by
  rw [zero_mul]; exact Fn.subgrad_monotone hx hy

end Scico.Steps
