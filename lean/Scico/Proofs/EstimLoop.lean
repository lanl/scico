/-
  The loop of `power_iteration` on an inner-product space over `𝕜 = ℝ` or `ℂ`, for a bounded operator `B`: the model has two loops,
  `powerLoop` over `VOps` (one scalar type) and `powerLoopC` over `VOpsC` (Rayleigh quotient in `𝕜`, norms in `ℝ`).  The first is the
  second at `β = α` (`powerLoop_toC`), and both `(opsOf B).toC` (real, `Proofs/Estim.lean`) and `opsOfC B` (complex) are `opsOfK B` by
  `rfl`, so the loop equations, the invariant rule `powerLoopC_pred` and the bound `‖rqC B v‖ ≤ ‖B‖` are proved once, on
  `powerLoopC (opsOfK B)`.
-/
import Scico.Model.Estim
import Mathlib.Analysis.InnerProductSpace.Basic
import Mathlib.Analysis.Normed.Operator.Basic

namespace Scico.Estim

theorem powerLoopC_succ {V α β : Type} [Zero α] [Zero β] [Mul β] [LE β] [DecidableLE β] (ops : VOpsC V α β) (k : Nat)
    (mu : Option α) (v : V) :
    powerLoopC ops (k + 1) mu v =
      if ops.norm (ops.apply v) ≤ 0 ∧ 0 ≤ ops.norm (ops.apply v) then (some 0, ops.apply v)
      else powerLoopC ops k (some (ops.cdivr (ops.inner v (ops.apply v)) (ops.norm v * ops.norm v)))
        (ops.sdiv (ops.apply v) (ops.norm (ops.apply v))) := rfl

theorem powerIterationC_eq_ok {V α β : Type} [Zero α] [Zero β] [Mul β] [LE β] [DecidableLE β] {ops : VOpsC V α β}
    {maxiter : Nat} {v0 v : V} {mu : α} :
    powerIterationC ops maxiter v0 = .ok (mu, v) ↔
      1 ≤ maxiter ∧ powerLoopC ops maxiter none (ops.sdiv v0 (ops.norm v0)) = (some mu, v) := by
  unfold powerIterationC
  constructor
  · intro h
    split at h
    · cases h
    · dsimp only at h
      split at h
      · rename_i hlt m v' hp
        cases h
        exact ⟨by omega, hp⟩
      · cases h
  · rintro ⟨h1, hl⟩
    rw [if_neg (Nat.not_lt.2 h1)]
    simp only [hl]

theorem powerLoopC_isSome {V α β : Type} [Zero α] [Zero β] [Mul β] [LE β] [DecidableLE β] (ops : VOpsC V α β) (k : Nat) :
    ∀ (mu : Option α) (v : V), ∃ m w, powerLoopC ops (k + 1) mu v = (some m, w) := by
  induction k with
  | zero => intro mu v; rw [powerLoopC_succ]; split <;> exact ⟨_, _, rfl⟩
  | succ k ih => intro mu v; rw [powerLoopC_succ]; split; exacts [⟨_, _, rfl⟩, ih _ _]

section bridge

variable {V α : Type} [Zero α] [Mul α] [Div α] [LE α] [DecidableLE α]

theorem powerLoop_succ (ops : VOps V α) (k : Nat) (mu : Option α) (v : V) :
    powerLoop ops (k + 1) mu v =
      if ops.norm (ops.apply v) ≤ 0 ∧ 0 ≤ ops.norm (ops.apply v) then (some 0, ops.apply v)
      else powerLoop ops k (some (ops.inner v (ops.apply v) / (ops.norm v * ops.norm v)))
        (ops.sdiv (ops.apply v) (ops.norm (ops.apply v))) := rfl

/-- `VOps` is the case `β = α`, `cdivr = (· / ·)` of `VOpsC` -/
def VOps.toC (ops : VOps V α) : VOpsC V α α := ⟨ops.apply, ops.inner, ops.norm, ops.sdiv, (· / ·)⟩

theorem powerLoop_toC (ops : VOps V α) : ∀ k mu v, powerLoop ops k mu v = powerLoopC ops.toC k mu v
  | 0, _, _ => rfl
  | k + 1, mu, v => by
    rw [powerLoop_succ, powerLoopC_succ, powerLoop_toC ops k]
    rfl

theorem powerLoop_isSome (ops : VOps V α) (k : Nat) (mu : Option α) (v : V) :
    ∃ m w, powerLoop ops (k + 1) mu v = (some m, w) := by
  rw [powerLoop_toC]
  exact powerLoopC_isSome ops.toC k mu v

theorem powerIteration_toC (ops : VOps V α) (m : Nat) (v0 : V) :
    powerIteration ops m v0 = powerIterationC ops.toC m v0 := by
  simp only [powerIteration, powerIterationC, powerLoop_toC]
  rfl

theorem powerIteration_eq_ok {ops : VOps V α} {maxiter : Nat} {v0 v : V} {mu : α} :
    powerIteration ops maxiter v0 = .ok (mu, v) ↔
      1 ≤ maxiter ∧ powerLoop ops maxiter none (ops.sdiv v0 (ops.norm v0)) = (some mu, v) := by
  rw [powerIteration_toC, powerLoop_toC]
  exact powerIterationC_eq_ok

end bridge

section generic

variable {𝕜 E : Type} [RCLike 𝕜] [NormedAddCommGroup E] [InnerProductSpace 𝕜 E]

/-- the operations `power_iteration` performs on arrays with entries in `𝕜`, for a bounded `𝕜`-linear operator:
    `sum(v.conj() * w)` is in `𝕜`, norms are real, and so are the divisors -/
noncomputable def opsOfK (B : E →L[𝕜] E) : VOpsC E 𝕜 ℝ where
  apply := fun v => B v
  inner := fun a b => inner 𝕜 a b
  norm := fun v => ‖v‖
  sdiv := fun v c => ((c⁻¹ : ℝ) : 𝕜) • v
  cdivr := fun z r => z / (r : 𝕜)

/-- Rayleigh quotient as the code computes it -/
noncomputable def rqC (B : E →L[𝕜] E) (v : E) : 𝕜 := inner 𝕜 v (B v) / ((‖v‖ * ‖v‖ : ℝ) : 𝕜)

/-- the next (normalised) iterate -/
noncomputable def nxtC (B : E →L[𝕜] E) (v : E) : E := ((‖B v‖⁻¹ : ℝ) : 𝕜) • B v

theorem powerLoopC_succ_zero (B : E →L[𝕜] E) (k : Nat) (mu : Option 𝕜) (v : E) (h : B v = 0) :
    powerLoopC (opsOfK B) (k + 1) mu v = (some 0, B v) := by
  rw [powerLoopC_succ, if_pos ⟨(norm_le_zero_iff.2 h : ‖B v‖ ≤ 0), norm_nonneg (B v)⟩]
  rfl

theorem powerLoopC_succ_ne (B : E →L[𝕜] E) (k : Nat) (mu : Option 𝕜) (v : E) (h : B v ≠ 0) :
    powerLoopC (opsOfK B) (k + 1) mu v = powerLoopC (opsOfK B) k (some (rqC B v)) (nxtC B v) := by
  rw [powerLoopC_succ, if_neg fun hh => h (norm_le_zero_iff.1 (hh.1 : ‖B v‖ ≤ 0))]
  rfl

theorem normalizeC_ne_zero (v0 : E) (h : v0 ≠ 0) : ((‖v0‖⁻¹ : ℝ) : 𝕜) • v0 ≠ 0 :=
  smul_ne_zero (RCLike.ofReal_ne_zero.2 (inv_ne_zero (norm_ne_zero_iff.2 h))) h

theorem powerLoopC_pred (B : E →L[𝕜] E) (P : 𝕜 → Prop) (hP0 : P 0) (hP : ∀ v, v ≠ 0 → P (rqC B v)) :
    ∀ (k : Nat) (mu : Option 𝕜) (v : E), v ≠ 0 → (∀ m, mu = some m → P m) →
      ∀ m, (powerLoopC (opsOfK B) k mu v).1 = some m → P m := by
  intro k
  induction k with
  | zero => intro mu v _ hmu m hm; exact hmu m hm
  | succ k ih =>
    intro mu v hv _ m hm
    by_cases h : B v = 0
    · rw [powerLoopC_succ_zero B k mu v h] at hm
      exact Option.some.inj hm ▸ hP0
    · rw [powerLoopC_succ_ne B k mu v h] at hm
      exact ih _ _ (normalizeC_ne_zero (B v) h) (fun m' hm' => Option.some.inj hm' ▸ hP v hv) m hm

theorem powerIterationC_pred (B : E →L[𝕜] E) (P : 𝕜 → Prop) (hP0 : P 0) (hP : ∀ v, v ≠ 0 → P (rqC B v))
    {maxiter : Nat} {v0 v : E} {mu : 𝕜} (hv0 : v0 ≠ 0) (h : powerIterationC (opsOfK B) maxiter v0 = .ok (mu, v)) :
    P mu :=
  powerLoopC_pred B P hP0 hP maxiter none _ (normalizeC_ne_zero v0 hv0) (fun _ hm => nomatch hm) mu
    (congrArg Prod.fst (powerIterationC_eq_ok.1 h).2)

theorem norm_rqC_le (B : E →L[𝕜] E) (v : E) (hv : v ≠ 0) : ‖rqC B v‖ ≤ ‖B‖ := by
  have hnn : 0 < ‖v‖ * ‖v‖ := mul_pos (norm_pos_iff.2 hv) (norm_pos_iff.2 hv)
  unfold rqC
  rw [norm_div, RCLike.norm_ofReal, abs_of_pos hnn, div_le_iff₀ hnn]
  calc ‖inner 𝕜 v (B v)‖ ≤ ‖v‖ * ‖B v‖ := norm_inner_le_norm _ _
    _ ≤ ‖v‖ * (‖B‖ * ‖v‖) := mul_le_mul_of_nonneg_left (B.le_opNorm v) (norm_nonneg v)
    _ = ‖B‖ * (‖v‖ * ‖v‖) := mul_left_comm ..

end generic

section complex

variable {E : Type} [NormedAddCommGroup E] [InnerProductSpace ℂ E]

/-- the operations of `power_iteration` on complex arrays, for a bounded ℂ-linear operator: `opsOfK B` at `𝕜 = ℂ` by `rfl`, which is
    how the lemmas above apply to it -/
noncomputable def opsOfC (B : E →L[ℂ] E) : VOpsC E ℂ ℝ where
  apply := fun v => B v
  inner := fun a b => inner ℂ a b
  norm := fun v => ‖v‖
  sdiv := fun v c => ((c⁻¹ : ℝ) : ℂ) • v
  cdivr := fun z r => z / (r : ℂ)

theorem rqC_im_eq_zero (B : E →L[ℂ] E) (hB : ∀ x y, inner ℂ (B x) y = inner ℂ x (B y)) (v : E) : (rqC B v).im = 0 := by
  unfold rqC
  -- `conj ⟨Bv,v⟩ = ⟨v,Bv⟩ = ⟨Bv,v⟩`
  have h1 : (inner ℂ v (B v) : ℂ).im = 0 :=
    Complex.conj_eq_iff_im.1 ((inner_conj_symm (𝕜 := ℂ) (B v) v).trans (hB v v))
  exact (Complex.div_ofReal_im _ _).trans (by rw [h1, zero_div])

end complex

end Scico.Estim
