/-
  N-d DFT over all axes (`dftNd`) or a subset of the axes (`dftAxes`) of a row-major array: linearity, inversion, the
  zero-padded transform with its documented and its coded inverse; for the optical propagators `F⁻¹ D F`: the forward
  transform undoes the coded inverse.
-/
import Scico.Proofs.LinOpsDFT

namespace Scico.LinOps
open Finset Scico.Index

variable {K : Type} [Field K]

/-- one entry per axis: a primitive root of the axis length on a transformed axis; every axis non-empty -/
def RootsOpt : List Nat → List (Option K) → Prop
  | [], [] => True
  | n :: ds, some w :: ws => IsPrimitiveRoot w n ∧ 0 < n ∧ RootsOpt ds ws
  | n :: ds, none :: ws => 0 < n ∧ RootsOpt ds ws
  | _, _ => False

theorem RootsOpt.induction {motive : ∀ dims (ws : List (Option K)), RootsOpt dims ws → Prop} (nil : motive [] [] trivial)
    (some : ∀ n ds w ws (hw : IsPrimitiveRoot w n) (hn : 0 < n) (h : RootsOpt ds ws),
      motive ds ws h → motive (n :: ds) (some w :: ws) ⟨hw, hn, h⟩)
    (none : ∀ n ds ws (hn : 0 < n) (h : RootsOpt ds ws), motive ds ws h → motive (n :: ds) (none :: ws) ⟨hn, h⟩) :
    ∀ dims ws (h : RootsOpt dims ws), motive dims ws h
  | [], [], _ => nil
  | n :: ds, .some w :: ws, h => some n ds w ws h.1 h.2.1 h.2.2 (RootsOpt.induction nil some none ds ws h.2.2)
  | n :: ds, .none :: ws, h => none n ds ws h.1 h.2 (RootsOpt.induction nil some none ds ws h.2)
  | [], _ :: _, h | _ :: _, [], h => h.elim

theorem rootsOpt_pos (dims : List Nat) (ws : List (Option K)) (h : RootsOpt dims ws) : ∀ n ∈ dims, 0 < n := by
  induction dims, ws, h using RootsOpt.induction with
  | nil => simp
  | some n ds _ _ _ hn _ ih | none n ds _ hn _ ih =>
      intro m hm
      rcases List.mem_cons.mp hm with rfl | hm'
      · exact hn
      · exact ih m hm'

theorem dftAxes_cons_some (n : Nat) (ds : List Nat) (w : K) (ws : List (Option K)) (x : V K) (p : Nat) :
    dftAxes (n :: ds) (some w :: ws) x p
      = ∑ j ∈ range n, dftAxes ds ws (slab (prodL ds) j x) (p % prodL ds) * w ^ (j * (p / prodL ds)) := by
  simp only [dftAxes, sumTo_eq_sum, npow_eq_pow]

theorem dftAxes_congr : ∀ (dims : List Nat) (ws : List (Option K)) (x y : V K) (p : Nat),
    (∀ q, q < prodL dims → x q = y q) → p < prodL dims → dftAxes dims ws x p = dftAxes dims ws y p
  | [], ws, x, y, p, h, hp => by cases ws <;> simpa [dftAxes] using h p hp
  | n :: ds, [], x, y, p, h, hp => by simpa [dftAxes] using h p hp
  | n :: ds, some w :: ws, x, y, p, h, hp => by
      rw [dftAxes_cons_some, dftAxes_cons_some]
      refine sum_congr rfl (fun j hj => ?_)
      congr 1
      apply dftAxes_congr ds ws _ _ _ _ (mod_lt_of_lt_mul hp)
      intro q hq
      apply h
      have hj' := mem_range.mp hj
      exact digit_lt hj' hq
  | n :: ds, none :: ws, x, y, p, h, hp => by
      have hj0 : p / prodL ds < n := div_lt_of_lt_mul hp
      simp only [dftAxes]
      apply dftAxes_congr ds ws _ _ _ _ (mod_lt_of_lt_mul hp)
      intro q hq
      apply h
      exact digit_lt hj0 hq

theorem dftAxes_lin {ι : Type} (S : Finset ι) : ∀ (dims : List Nat) (ws : List (Option K)) (cf : ι → K) (F : ι → V K) (p : Nat),
    dftAxes dims ws (fun q => ∑ a ∈ S, cf a * F a q) p = ∑ a ∈ S, cf a * dftAxes dims ws (F a) p
  | [], ws, cf, F, p => by cases ws <;> simp [dftAxes]
  | n :: ds, [], cf, F, p => by simp [dftAxes]
  | n :: ds, some w :: ws, cf, F, p => by
      rw [dftAxes_cons_some]
      have e : ∀ j, slab (prodL ds) j (fun q => ∑ a ∈ S, cf a * F a q)
          = fun r => ∑ a ∈ S, cf a * slab (prodL ds) j (F a) r := fun j => rfl
      simp only [e, dftAxes_lin S ds ws, dftAxes_cons_some]
      simp only [sum_mul, mul_sum, mul_assoc]
      rw [sum_comm]
  | n :: ds, none :: ws, cf, F, p => by
      simp only [dftAxes]
      have e : ∀ j, slab (prodL ds) j (fun q => ∑ a ∈ S, cf a * F a q)
          = fun r => ∑ a ∈ S, cf a * slab (prodL ds) j (F a) r := fun j => rfl
      rw [e, dftAxes_lin S ds ws]

theorem dftAxes_inv_raw (dims : List Nat) (ws : List (Option K)) (x : V K) (p : Nat) (hr : RootsOpt dims ws)
    (hp : p < prodL dims) :
    dftAxes dims (ws.map (Option.map (·⁻¹))) (dftAxes dims ws x) p = (dftAxesSize dims ws : K) * x p := by
  induction dims, ws, hr using RootsOpt.induction generalizing x p with
  | nil => simp [dftAxes, dftAxesSize]
  | none n ds ws hn hr' ih =>
      have hj' : p % prodL ds < prodL ds := mod_lt_of_lt_mul hp
      simp only [List.map_cons, Option.map_none, dftAxes, dftAxesSize]
      have e1 : ∀ r, r < prodL ds → slab (prodL ds) (p / prodL ds) (fun p => dftAxes ds ws (slab (prodL ds) (p / prodL ds) x) (p % prodL ds)) r
          = dftAxes ds ws (slab (prodL ds) (p / prodL ds) x) r := by
        intro r hr
        simp only [slab, digit_div _ hr, digit_mod _ hr]
      rw [dftAxes_congr ds _ _ _ _ e1 hj', ih _ _ hj']
      simp only [slab, Nat.div_add_mod' p (prodL ds)]
  | some n ds w ws hw hn hr' ih =>
      have hj' : p % prodL ds < prodL ds := mod_lt_of_lt_mul hp
      have hj0 : p / prodL ds < n := div_lt_of_lt_mul hp
      have IH := fun (x' : V K) => ih x' (p % prodL ds) hj'
      rw [List.map_cons, Option.map_some, dftAxes_cons_some]
      -- slab `f0` of the transform is a combination of the transforms of the slabs of `x` (`e1`); by linearity the inner
      -- inverse acts on each of them, where the induction hypothesis applies; `root_sum_select` then inverts the leading axis
      have e : ∀ f0 ∈ range n,
          dftAxes ds (ws.map (Option.map (·⁻¹))) (slab (prodL ds) f0 (dftAxes (n :: ds) (some w :: ws) x)) (p % prodL ds)
            * w⁻¹ ^ (f0 * (p / prodL ds))
          = ∑ b ∈ range n, ((dftAxesSize ds ws : K) * x (b * prodL ds + p % prodL ds))
              * (w ^ (b * f0) * w⁻¹ ^ ((p / prodL ds) * f0)) := by
        intro f0 _
        have e1 : ∀ r, r < prodL ds → slab (prodL ds) f0 (dftAxes (n :: ds) (some w :: ws) x) r
            = ∑ b ∈ range n, w ^ (b * f0) * dftAxes ds ws (slab (prodL ds) b x) r := by
          intro r hr
          simp only [slab, dftAxes_cons_some, digit_div f0 hr, digit_mod f0 hr]
          exact sum_congr rfl (fun b _ => by ring)
        rw [dftAxes_congr ds _ _ _ _ e1 hj', dftAxes_lin, sum_mul]
        refine sum_congr rfl (fun b _ => ?_)
        rw [IH, Nat.mul_comm f0]
        simp only [slab]; ring
      rw [sum_congr rfl e, root_sum_select hw hn _ (p / prodL ds), Nat.mod_eq_of_lt hj0, Nat.div_add_mod' p (prodL ds)]
      simp only [dftAxesSize]; push_cast; ring

theorem dftAxes_inv (dims : List Nat) (ws : List (Option K)) (s s' : K) (x : V K) (p : Nat)
    (hr : RootsOpt dims ws) (hs : s * s' * (dftAxesSize dims ws : K) = 1) (hp : p < prodL dims) :
    s' * dftAxes dims (ws.map (Option.map (·⁻¹))) (fun f => s * dftAxes dims ws x f) p = x p := by
  have e := dftAxes_lin (Finset.range 1) dims (ws.map (Option.map (·⁻¹))) (fun _ => s) (fun _ => dftAxes dims ws x) p
  simp only [Finset.sum_range_one] at e
  rw [e, dftAxes_inv_raw dims ws x p hr hp]
  calc s' * (s * ((dftAxesSize dims ws : K) * x p)) = (s * s' * (dftAxesSize dims ws : K)) * x p := by ring
    _ = x p := by rw [hs, one_mul]

/-! ### all axes: `dftNd` is `dftAxes` with every axis marked -/

/-- `ws[a]` is a primitive `dims[a]`-th root of unity, every axis is non-empty -/
def Roots : List Nat → List K → Prop
  | [], [] => True
  | n :: ds, w :: ws => IsPrimitiveRoot w n ∧ 0 < n ∧ Roots ds ws
  | _, _ => False

theorem dftNd_eq_dftAxes : ∀ (dims : List Nat) (ws : List K) (x : V K), dftNd dims ws x = dftAxes dims (ws.map some) x
  | [], ws, x => by cases ws <;> rfl
  | _ :: _, [], _ => rfl
  | n :: ds, w :: ws, x => by
      funext p
      simp only [dftNd, dftAxes, List.map_cons, dftNd_eq_dftAxes ds ws]

theorem Roots.induction {motive : ∀ dims (ws : List K), Roots dims ws → Prop} (nil : motive [] [] trivial)
    (cons : ∀ n ds w ws (hw : IsPrimitiveRoot w n) (hn : 0 < n) (h : Roots ds ws),
      motive ds ws h → motive (n :: ds) (w :: ws) ⟨hw, hn, h⟩) :
    ∀ dims ws (h : Roots dims ws), motive dims ws h
  | [], [], _ => nil
  | n :: ds, w :: ws, h => cons n ds w ws h.1 h.2.1 h.2.2 (Roots.induction nil cons ds ws h.2.2)
  | [], _ :: _, h | _ :: _, [], h => h.elim

theorem Roots.opt {dims : List Nat} {ws : List K} (h : Roots dims ws) : RootsOpt dims (ws.map some) := by
  induction dims, ws, h using Roots.induction with
  | nil => trivial
  | cons _ _ _ _ hw hn _ ih => exact ⟨hw, hn, ih⟩

theorem dftAxesSize_some {dims : List Nat} {ws : List K} (h : Roots dims ws) :
    dftAxesSize dims (ws.map some) = prodL dims := by
  induction dims, ws, h using Roots.induction with
  | nil => rfl
  | cons _ _ _ _ _ _ _ ih => simp only [List.map_cons, dftAxesSize, prodL, ih]

theorem map_some_inv (ws : List K) : (ws.map some).map (Option.map (·⁻¹)) = (ws.map (·⁻¹)).map some := by
  simp only [List.map_map]; rfl

theorem dftNd_congr (dims : List Nat) (ws : List K) (x y : V K) (p : Nat)
    (h : ∀ q, q < prodL dims → x q = y q) (hp : p < prodL dims) : dftNd dims ws x p = dftNd dims ws y p := by
  rw [dftNd_eq_dftAxes, dftNd_eq_dftAxes]
  exact dftAxes_congr dims _ x y p h hp

theorem dftNd_lin {ι : Type} (S : Finset ι) (dims : List Nat) (ws : List K) (cf : ι → K) (F : ι → V K) (p : Nat) :
    dftNd dims ws (fun q => ∑ a ∈ S, cf a * F a q) p = ∑ a ∈ S, cf a * dftNd dims ws (F a) p := by
  simp only [dftNd_eq_dftAxes]
  exact dftAxes_lin S dims _ cf F p

theorem roots_pos (dims : List Nat) (ws : List K) (h : Roots dims ws) : ∀ n ∈ dims, 0 < n :=
  rootsOpt_pos dims _ h.opt

theorem dftNd_cons (n : Nat) (ds : List Nat) (w : K) (ws : List K) (x : V K) (p : Nat) :
    dftNd (n :: ds) (w :: ws) x p
      = ∑ j ∈ range n, dftNd ds ws (slab (prodL ds) j x) (p % prodL ds) * w ^ (j * (p / prodL ds)) := by
  simp only [dftNd, sumTo_eq_sum, npow_eq_pow]

theorem dftNd_lead (n : Nat) (ds : List Nat) (w : K) (ws : List K) (x : V K) (f0 r : Nat)
    (hr : r < prodL ds) :
    dftNd (n :: ds) (w :: ws) x (f0 * prodL ds + r)
      = ∑ b ∈ range n, dftNd ds ws (slab (prodL ds) b x) r * w ^ (b * f0) := by
  rw [dftNd_cons, digit_div f0 hr, digit_mod f0 hr]

/-- pointwise `ns ≤ ms`, same length, every axis of `ns` non-empty -/
def FitsPad : List Nat → List Nat → Prop
  | [], [] => True
  | n :: ns, m :: ms => 0 < n ∧ n ≤ m ∧ FitsPad ns ms
  | _, _ => False

theorem FitsPad.induction {motive : ∀ ns ms, FitsPad ns ms → Prop} (nil : motive [] [] trivial)
    (cons : ∀ n ns m ms (hn : 0 < n) (hnm : n ≤ m) (h : FitsPad ns ms), motive ns ms h → motive (n :: ns) (m :: ms) ⟨hn, hnm, h⟩) :
    ∀ ns ms (h : FitsPad ns ms), motive ns ms h
  | [], [], _ => nil
  | n :: ns, m :: ms, h => cons n ns m ms h.1 h.2.1 h.2.2 (FitsPad.induction nil cons ns ms h.2.2)
  | [], _ :: _, h | _ :: _, [], h => h.elim

theorem embedIdx_lt (ns ms : List Nat) (p : Nat) (h : FitsPad ns ms) (hp : p < prodL ns) : embedIdx ns ms p < prodL ms := by
  induction ns, ms, h using FitsPad.induction generalizing p with
  | nil => simpa [embedIdx, prodL] using hp
  | cons n ns m ms hn hnm h' ih =>
      have hi : p / prodL ns < n := div_lt_of_lt_mul hp
      simp only [embedIdx, prodL]
      exact digit_lt (Nat.lt_of_lt_of_le hi hnm) (ih (p % prodL ns) (mod_lt_of_lt_mul hp))

/-- cropping the zero-padded array gives back the array (`Crop ∘ Pad = id` in N dimensions) -/
theorem padNd_embed {K : Type} [Zero K] (ns ms : List Nat) (x : V K) (p : Nat) (h : FitsPad ns ms) (hp : p < prodL ns) :
    padNd ns ms x (embedIdx ns ms p) = x p := by
  induction ns, ms, h using FitsPad.induction generalizing x p with
  | nil => simp [padNd, embedIdx]
  | cons n ns m ms hn hnm h' ih =>
      have hi : p / prodL ns < n := div_lt_of_lt_mul hp
      have hlt := embedIdx_lt ns ms (p % prodL ns) h' (mod_lt_of_lt_mul hp)
      simp only [padNd, embedIdx, digit_div _ hlt, digit_mod _ hlt, if_pos hi,
        ih _ _ (mod_lt_of_lt_mul hp), slab, Nat.div_add_mod' p (prodL ns)]

theorem embedIdx_self : ∀ (ns : List Nat) (p : Nat), embedIdx ns ns p = p
  | [], p => by simp [embedIdx]
  | n :: ns, p => by simp only [embedIdx, embedIdx_self ns, Nat.div_add_mod' p (prodL ns)]

theorem fitsPad_self : ∀ (ns : List Nat), (∀ n ∈ ns, 0 < n) → FitsPad ns ns
  | [], _ => trivial
  | n :: ns, h => ⟨h n (by simp), le_refl _, fitsPad_self ns (fun m hm => h m (by simp [hm]))⟩

theorem padNd_self {K : Type} [Zero K] (ns : List Nat) (hpos : ∀ n ∈ ns, 0 < n) (y : V K) (q : Nat) (hq : q < prodL ns) :
    padNd ns ns y q = y q := by
  have := padNd_embed ns ns y q (fitsPad_self ns hpos) hq
  rwa [embedIdx_self] at this

theorem dftPad_inv_documented (ns ms : List Nat) (ws : List (Option K)) (s s' : K) (x : V K) (p : Nat)
    (hfit : FitsPad ns ms) (hr : RootsOpt ms ws) (hs : s * s' * (dftAxesSize ms ws : K) = 1) (hp : p < prodL ns) :
    dftInvDocNd ns ms (ws.map (Option.map (·⁻¹))) s' (dftFwdPad ns ms ws s x) p = x p := by
  unfold dftInvDocNd dftFwdPad
  rw [dftAxes_inv ms ws s s' _ _ hr hs (embedIdx_lt ns ms p hfit hp), padNd_embed ns ms x p hfit hp]

theorem dftInvCoded_unpadded (ns : List Nat) (ws : List (Option K)) (s s' : K) (x : V K) (p : Nat)
    (hr : RootsOpt ns ws) (hs : s * s' * (dftAxesSize ns ws : K) = 1) (hp : p < prodL ns) :
    dftInvCodedNd ns ns (ws.map (Option.map (·⁻¹))) s' (dftFwdPad ns ns ws s x) p = x p := by
  have h1 := dftPad_inv_documented ns ns ws s s' x p (fitsPad_self ns (rootsOpt_pos ns ws hr)) hr hs hp
  unfold dftInvDocNd at h1
  rw [embedIdx_self] at h1
  unfold dftInvCodedNd
  rw [dftAxes_congr ns _ _ _ p (fun q hq => padNd_self ns (rootsOpt_pos ns ws hr) _ q hq) hp]
  exact h1

/-! ### a leading axis of length 1 that is not transformed: the N-d model is the 1-d model -/

theorem dftAxes_unit_lead (n : Nat) (w : K) (y : V K) (p : Nat) (hp : p < n) :
    dftAxes [1, n] [none, some w] y p = sumTo n (fun j => y j * dftEval.npow w (j * p)) := by
  simp only [dftAxes, prodL, Nat.mul_one, slab, Nat.div_one, Nat.mod_one, Nat.div_eq_of_lt hp, Nat.mod_eq_of_lt hp,
    Nat.zero_mul, Nat.zero_add, Nat.add_zero]

theorem padNd_unit_lead (m n : Nat) (z : V K) (p : Nat) (hp : p < n) :
    padNd [1, m] [1, n] z p = if p < m then z p else 0 := by
  simp only [padNd, prodL, Nat.mul_one, slab, Nat.div_one, Nat.mod_one, Nat.div_eq_of_lt hp, Nat.mod_eq_of_lt hp,
    Nat.zero_mul, Nat.zero_add, Nat.add_zero, Nat.zero_lt_one, if_true]

theorem dftInvCodedNd_unit_lead (n m : Nat) (ω ω' s s' : K) (x : V K) (j : Nat) (hj : j < n) :
    dftInvCodedNd [1, n] [1, m] [none, some ω'] s' (dftFwdPad [1, n] [1, m] [none, some ω] s x) j
      = dftInvEval ω' s' n m (dftEval ω s n m x) j := by
  unfold dftInvCodedNd dftInvEval
  rw [dftAxes_unit_lead n ω' _ j hj]
  congr 1
  refine sumTo_congr (fun k hk => ?_)
  rw [padNd_unit_lead m n _ k hk, Nat.mul_comm k j]
  by_cases hk' : k < m
  · rw [if_pos hk', if_pos hk']
    unfold dftFwdPad dftEval
    rw [dftAxes_unit_lead m ω _ k hk']
    congr 2
    exact sumTo_congr (fun i hi => by rw [padNd_unit_lead n m x i hi])
  · rw [if_neg hk', if_neg hk']

theorem rootsOpt_inv (dims : List Nat) (ws : List (Option K)) (h : RootsOpt dims ws) :
    RootsOpt dims (ws.map (Option.map (·⁻¹))) := by
  induction dims, ws, h using RootsOpt.induction with
  | nil => trivial
  | some _ _ _ _ hw hn _ ih => exact ⟨hw.inv, hn, ih⟩
  | none _ _ _ hn _ ih => exact ⟨hn, ih⟩

theorem dftAxesSize_map {β γ : Type} (g : β → γ) : ∀ (dims : List Nat) (ws : List (Option β)),
    dftAxesSize dims (ws.map (Option.map g)) = dftAxesSize dims ws
  | [], ws => by cases ws <;> rfl
  | _ :: _, [] => rfl
  | n :: ds, some w :: ws => by simp only [List.map_cons, Option.map_some, dftAxesSize, dftAxesSize_map g ds ws]
  | n :: ds, none :: ws => by simp only [List.map_cons, Option.map_none, dftAxesSize, dftAxesSize_map g ds ws]

/-- `F (F⁻¹ z) = z` (unpadded): the forward transform undoes the coded inverse -/
theorem dftFwd_inv (ns : List Nat) (ws : List (Option K)) (s s' : K) (z : V K) (f : Nat)
    (hr : RootsOpt ns ws) (hs : s * s' * (dftAxesSize ns ws : K) = 1) (hf : f < prodL ns) :
    dftFwdPad ns ns ws s (dftInvCodedNd ns ns (ws.map (Option.map (·⁻¹))) s' z) f = z f := by
  have h := dftInvCoded_unpadded ns (ws.map (Option.map (·⁻¹))) s' s z f (rootsOpt_inv ns ws hr)
    (by rw [dftAxesSize_map]; rw [← hs]; ring) hf
  have e : (ws.map (Option.map (·⁻¹))).map (Option.map (·⁻¹)) = ws := by simp [Function.comp_def, Option.map_map]
  rwa [e] at h

end Scico.LinOps
