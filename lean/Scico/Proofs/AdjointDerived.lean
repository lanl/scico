/-
  Adjoint engine: `DiagonalReplicated` with arbitrary replication axes (index arithmetic of the inserted axis,
  re-indexing of sums, `drep_isAdjW`), and the induction over derivation trees of unbounded depth.

  `derived_isAdjW` : if the adjoint identity (relative to a test functional ρ) holds for every leaf, it holds for
  every operator derived from the leaves by the constructions of `_linop.py` / `_stack.py`, provided the tree
  passes the shape checks scico itself performs (`wf`).  No condition on the scalar factors and divisors:
  scico applies `conj c` to the argument of the operand's adjoint (`adj_fn = self.adj(conj(c)*y)`), so the scalar is
  never pulled out of ρ (this is what makes complex multiples of real→complex operators adjoint pairs in `Re⟪·,·⟫`).
-/
import Scico.Proofs.Adjoint
import Scico.Proofs.Index
import Scico.Proofs.Sums

namespace Scico.Adjoint
open Finset

section replicated
open Op

section index
open Scico.Index

/-! `repIx k Q r j` is position `(j / Q, r, j % Q)` of an `(outer, k, Q)` array: the split of `Index.decomp_idx`. -/

theorem repR_repIx {k Q r j : Nat} (hQ : 0 < Q) (hr : r < k) : repR k Q (repIx k Q r j) = r :=
  (decomp_idx (j / Q) r (j % Q) k Q hr (Nat.mod_lt _ hQ)).2.2

theorem repJ_repIx {k Q r j : Nat} (hQ : 0 < Q) (hr : r < k) : repJ k Q (repIx k Q r j) = j := by
  obtain ⟨e1, e2, _⟩ := decomp_idx (j / Q) r (j % Q) k Q hr (Nat.mod_lt _ hQ)
  unfold repJ repIx
  rw [Nat.mul_comm Q k, e1, e2, Nat.div_add_mod']

theorem sum_range_rep {M : Type} [AddCommMonoid M] (k P Q : Nat) (f : Nat → M) :
    ∑ o ∈ range (k * (P * Q)), f o = ∑ r ∈ range k, ∑ j ∈ range (P * Q), f (repIx k Q r j) := by
  rw [show k * (P * Q) = P * k * Q by ring, sum_range_mul3, sum_comm]
  refine sum_congr rfl fun r _ => ?_
  rw [sum_range_mul]
  refine sum_congr rfl fun p _ => sum_congr rfl fun q hq => ?_
  have hq := mem_range.mp hq
  simp only [repIx, digit_div p hq, digit_mod p hq]

end index

section drep
variable {K : Type} [Field K] [StarRing K] {ρ : K → K}

theorem ip_rep (k P Q : Nat) (u w : V K) :
    ip (k * (P * Q)) u w = ∑ r ∈ range k, ip (P * Q) (slab k Q r u) (slab k Q r w) := by
  simp only [ip_eq, slab]
  exact sum_range_rep k P Q (fun o => u o * star (w o))

theorem drep_isAdjW (hρ : Test ρ) {A : Op K} (hA : IsAdjW ρ A) {k Qi Qo Pi Po : Nat}
    (hQi : 0 < Qi) (hQo : 0 < Qo) (hin : A.nin = Pi * Qi) (hout : A.nout = Po * Qo) :
    IsAdjW ρ (Op.drep k Qi Qo A) := by
  intro x y
  simp only [Op.drep]
  rw [hout, hin, ip_rep k Po Qo, ip_rep k Pi Qi, hρ.sum, hρ.sum]
  apply Finset.sum_congr rfl
  intro r hr
  have hr' : r < k := Finset.mem_range.mp hr
  have e1 : ip (Po * Qo) (slab k Qo r fun o => A.eval (slab k Qi (repR k Qo o) x) (repJ k Qo o)) (slab k Qo r y)
      = ip A.nout (A.eval (slab k Qi r x)) (slab k Qo r y) := by
    rw [hout]
    apply ip_congr
    · intro j _
      simp only [slab, repR_repIx hQo hr', repJ_repIx hQo hr']
    · intro j _; rfl
  have e2 : ip (Pi * Qi) (slab k Qi r x) (slab k Qi r fun i => A.adj (slab k Qo (repR k Qi i) y) (repJ k Qi i))
      = ip A.nin (slab k Qi r x) (A.adj (slab k Qo r y)) := by
    rw [hin]
    apply ip_congr
    · intro j _; rfl
    · intro j _
      simp only [slab, repR_repIx hQi hr', repJ_repIx hQi hr']
  rw [e1, e2, hA]

end drep

end replicated

variable {K : Type} [Field K] [StarRing K]

/-- divisors are non-zero.  A hypothesis of `C01_derived`, `C01_derived_re`, `C01_xray_projector`, `C01_typed_tree`; no proof
    uses it (`sdiv_eq_smul` holds for every divisor). -/
def divOK : Expr K → Prop
  | .leaf _ => True
  | .add a b => divOK a ∧ divOK b
  | .sub a b => divOK a ∧ divOK b
  | .neg a => divOK a
  | .smul _ a => divOK a
  | .sdiv c a => c ≠ 0 ∧ divOK a
  | .comp a b => divOK a ∧ divOK b
  | .tr _ a => divOK a
  | .herm a => divOK a
  | .cj a => divOK a
  | .gram a => divOK a
  | .vnil _ => True
  | .vcons a s => divOK a ∧ divOK s
  | .dnil => True
  | .dcons a s => divOK a ∧ divOK s
  | .drep _ _ _ a => divOK a

section wf
variable {env : Nat → Op K} {a b s : Expr K}

theorem wf_add : wf env (.add a b) = true ↔ wf env a = true ∧ wf env b = true
    ∧ (run env a).nin = (run env b).nin ∧ (run env a).nout = (run env b).nout := by
  simp only [wf, Bool.and_eq_true, beq_iff_eq, and_assoc]

theorem wf_sub : wf env (.sub a b) = true ↔ wf env a = true ∧ wf env b = true
    ∧ (run env a).nin = (run env b).nin ∧ (run env a).nout = (run env b).nout := by
  simp only [wf, Bool.and_eq_true, beq_iff_eq, and_assoc]

theorem wf_comp : wf env (.comp a b) = true ↔ wf env a = true ∧ wf env b = true ∧ (run env a).nin = (run env b).nout := by
  simp only [wf, Bool.and_eq_true, beq_iff_eq, and_assoc]

theorem wf_vcons : wf env (.vcons a s) = true ↔ wf env a = true ∧ wf env s = true ∧ (run env a).nin = (run env s).nin := by
  simp only [wf, Bool.and_eq_true, beq_iff_eq, and_assoc]

theorem wf_dcons : wf env (.dcons a s) = true ↔ wf env a = true ∧ wf env s = true := by
  simp only [wf, Bool.and_eq_true]

theorem wf_drep {k Qi Qo : Nat} : wf env (.drep k Qi Qo a) = true ↔ wf env a = true ∧ 0 < Qi ∧ 0 < Qo
    ∧ (run env a).nin % Qi = 0 ∧ (run env a).nout % Qo = 0 ∧ 0 < k := by
  simp only [wf, Bool.and_eq_true, beq_iff_eq, decide_eq_true_eq, and_assoc]

end wf

theorem derived_isAdjW {ρ : K → K} (hρ : Test ρ) (env : Nat → Op K) (henv : ∀ i, IsAdjW ρ (env i)) :
    ∀ e : Expr K, wf env e = true → IsAdjW ρ (run env e) := by
  intro e
  induction e with
  | leaf i => exact fun _ => henv i
  | add a b iha ihb =>
    intro hw
    obtain ⟨ha, hb, hi, ho⟩ := wf_add.1 hw
    exact add_isAdjW hρ (iha ha) (ihb hb) hi ho
  | sub a b iha ihb =>
    intro hw
    obtain ⟨ha, hb, hi, ho⟩ := wf_sub.1 hw
    exact sub_isAdjW hρ (iha ha) (ihb hb) hi ho
  | neg a ih => exact fun hw => neg_isAdjW (ih hw)
  | smul c a ih => exact fun hw => smul_isAdjW (ih hw) c
  | sdiv c a ih => exact fun hw => sdiv_isAdjW (ih hw) c
  | comp a b iha ihb =>
    intro hw
    obtain ⟨ha, hb, hi⟩ := wf_comp.1 hw
    exact comp_isAdjW (iha ha) (ihb hb) hi
  | tr c a ih => exact fun hw => tr_isAdjW hρ (ih hw) c
  | herm a ih => exact fun hw => herm_isAdjW hρ (ih hw)
  | cj a ih => exact fun hw => cj_isAdjW hρ (ih hw)
  | gram a ih => exact fun hw => gram_isAdjW hρ (ih hw)
  | vnil n => exact fun _ => vnil_isAdjW n
  | vcons a s iha ihs =>
    intro hw
    obtain ⟨ha, hb, hi⟩ := wf_vcons.1 hw
    exact vcons_isAdjW hρ (iha ha) (ihs hb) hi
  | dnil => exact fun _ => dnil_isAdjW
  | dcons a s iha ihs =>
    exact fun hw => dcons_isAdjW hρ (iha (wf_dcons.1 hw).1) (ihs (wf_dcons.1 hw).2)
  | drep k Qi Qo a ih =>
    intro hw
    obtain ⟨ha, hQi, hQo, hmi, hmo, _⟩ := wf_drep.1 hw
    obtain ⟨Pi, hPi⟩ := Nat.dvd_of_mod_eq_zero hmi
    obtain ⟨Po, hPo⟩ := Nat.dvd_of_mod_eq_zero hmo
    exact drep_isAdjW hρ (ih ha) hQi hQo (by rw [hPi, Nat.mul_comm]) (by rw [hPo, Nat.mul_comm])

theorem run_dims_herm (env : Nat → Op K) (a : Expr K) :
    (run env (.herm a)).nin = (run env a).nout ∧ (run env (.herm a)).nout = (run env a).nin := by
  simp [run, Op.herm]

end Scico.Adjoint
