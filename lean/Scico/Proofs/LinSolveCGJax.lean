/-
  The jax conjugate-gradient solver (`jax.scipy.sparse.linalg.cg`, selectable in `LinearSubproblemSolver`), C14.
  Model `jaxCg*` in `Scico/Model/LinSolve.lean` (a contract of third-party code, tied iterate by iterate in `harness/c14.py`):
  invariant, the loop as an iterate of its body, and identity of its iterates with those of `scico.solver.cg` for Hermitian
  `A`, `M` (`jax_iterates_eq`; only the stopping tests differ, the jax one looks at the TRUE residual also with a preconditioner).
-/
import Mathlib.Analysis.InnerProductSpace.Basic
import Scico.Proofs.LinSolveCGConj

namespace Scico.LinSolve
open RCLike

variable {𝕜 V : Type} [RCLike 𝕜] [NormedAddCommGroup V] [InnerProductSpace 𝕜 V]

/-- `_vdot_real_tree`, `.astype(dtype)`, `.real` at an abstract inner-product space -/
noncomputable def rcJaxOps (𝕜 V : Type) [RCLike 𝕜] [NormedAddCommGroup V] [InnerProductSpace 𝕜 V] : JaxOps 𝕜 ℝ V where
  vdotRe x y := re (inner 𝕜 x y)
  ofReal t := (t : 𝕜)
  re s := re s

structure JaxInv (A M : V → V) (b : V) (s : JaxCGState 𝕜 V) : Prop where
  res : s.r = b - A s.x
  gam : s.gamma = ((re (inner 𝕜 s.r (M s.r)) : ℝ) : 𝕜)

theorem jaxCgStep_inv (A : V →ₗ[𝕜] V) (M : V → V) (b : V) (s : JaxCGState 𝕜 V) (h : JaxInv (⇑A) M b s) :
    JaxInv (⇑A) M b (jaxCgStep (rcJaxOps 𝕜 V) A M s) :=
  ⟨residual_step A h.res _ _, rfl⟩

theorem jaxCgRun_inv (A : V →ₗ[𝕜] V) (M : V → V) (b : V) (mIsId : Bool) (maxiter : Nat) (atol2 : ℝ) :
    ∀ (fuel : Nat) (s : JaxCGState 𝕜 V), JaxInv (⇑A) M b s →
      ∀ t ∈ jaxCgRun (rcJaxOps 𝕜 V) A M mIsId maxiter atol2 fuel s, JaxInv (⇑A) M b t :=
  fuelRun_inv _ _ (jaxCgRun (rcJaxOps 𝕜 V) A M mIsId maxiter atol2) (fun _ => rfl) (fun _ _ => rfl) _ (jaxCgStep_inv A M b)

def CGState.toJax (s : CGState 𝕜 V) : JaxCGState 𝕜 V := { x := s.x, r := s.r, gamma := s.num, p := s.p, k := s.ii }

theorem jaxCgInit_eq (A M : V → V) (hM : ∀ x y, inner 𝕜 (M x) y = inner 𝕜 x (M y)) (b x0 : V) :
    jaxCgInit (rcJaxOps 𝕜 V) A M b x0 = (cgInit (rcOps 𝕜 V) A M b x0).toJax := by
  simp only [jaxCgInit, cgInit, CGState.toJax, rcJaxOps, rcOps, ofReal_re_inner_herm M hM]

theorem jaxCgStep_eq (A M : V → V) (hAs : ∀ x y, inner 𝕜 (A x) y = inner 𝕜 x (A y))
    (hM : ∀ x y, inner 𝕜 (M x) y = inner 𝕜 x (M y)) (s : CGState 𝕜 V) :
    jaxCgStep (rcJaxOps 𝕜 V) A M s.toJax = (cgStep (rcOps 𝕜 V) A M s).toJax := by
  simp only [jaxCgStep, cgStep, CGState.toJax, rcJaxOps, rcOps, ofReal_re_inner_herm M hM, ofReal_re_inner_herm A hAs]

theorem jax_iterates_eq (A M : V → V) (hAs : ∀ x y, inner 𝕜 (A x) y = inner 𝕜 x (A y))
    (hM : ∀ x y, inner 𝕜 (M x) y = inner 𝕜 x (M y)) (b x0 : V) (j : ℕ) :
    (jaxCgStep (rcJaxOps 𝕜 V) A M)^[j] (jaxCgInit (rcJaxOps 𝕜 V) A M b x0) = (cgSeq (𝕜 := 𝕜) A M b x0 j).toJax := by
  induction j with
  | zero => exact jaxCgInit_eq A M hM b x0
  | succ j ih => rw [Function.iterate_succ_apply', ih, jaxCgStep_eq A M hAs hM, cgSeq_succ]

theorem jaxCgLoop_eq_cgSeq (A M : V → V) (hAs : ∀ x y, inner 𝕜 (A x) y = inner 𝕜 x (A y))
    (hM : ∀ x y, inner 𝕜 (M x) y = inner 𝕜 x (M y)) (b x0 : V) (mIsId : Bool) (maxiter : ℕ) (atol2 : ℝ) :
    ∃ k, jaxCgLoop (rcJaxOps 𝕜 V) A M mIsId maxiter atol2 maxiter (jaxCgInit (rcJaxOps 𝕜 V) A M b x0)
        = (cgSeq (𝕜 := 𝕜) A M b x0 k).toJax ∧
      jaxCgCond (rcJaxOps 𝕜 V) mIsId maxiter atol2 (cgSeq (𝕜 := 𝕜) A M b x0 k).toJax = false ∧
      ∀ k0, jaxCgCond (rcJaxOps 𝕜 V) mIsId maxiter atol2 (cgSeq (𝕜 := 𝕜) A M b x0 k0).toJax = false → k ≤ k0 := by
  simp only [← jax_iterates_eq A M hAs hM b x0]
  obtain ⟨k, _, h⟩ := countedLoop_least _ _ (jaxCgLoop (rcJaxOps 𝕜 V) A M mIsId maxiter atol2) (fun _ => rfl) (fun _ _ => rfl)
    JaxCGState.k (fun _ => rfl) maxiter (fun _ h => of_decide_eq_true (Bool.and_eq_true _ _ ▸ h).2)
    (jaxCgInit (rcJaxOps 𝕜 V) A M b x0) rfl
  exact ⟨k, h⟩

theorem jaxCgCond_false_of_zero (mIsId : Bool) (maxiter : ℕ) (atol2 : ℝ) (h0 : 0 ≤ atol2) (s : JaxCGState 𝕜 V)
    (hg : s.gamma = 0) (hr : s.r = 0) : jaxCgCond (rcJaxOps 𝕜 V) mIsId maxiter atol2 s = false := by
  have : ¬ atol2 < 0 := not_lt.2 h0
  simp [jaxCgCond, rcJaxOps, hg, hr, this]

/-- `M = None` is the identity, which is Hermitian positive definite -/
theorem precondOf_herm_posDef (M : Option (V → V))
    (hM : ∀ m, M = some m → (∀ x y, inner 𝕜 (m x) y = inner 𝕜 x (m y)) ∧ ∀ x, x ≠ 0 → 0 < re (inner 𝕜 x (m x))) :
    (∀ x y, inner 𝕜 (precondOf M x) y = inner 𝕜 x (precondOf M y)) ∧
      ∀ x, x ≠ 0 → 0 < re (inner 𝕜 x (precondOf M x)) := by
  cases M with
  | none => exact ⟨fun _ _ => rfl, fun _ hx => re_inner_self_pos.2 hx⟩
  | some m => exact hM m rfl

end Scico.LinSolve
