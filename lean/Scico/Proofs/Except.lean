/-
  Reading an equation `… = .ok b` about a computation in `Except`: a `do` block that returned a value ran each of its
  actions successfully, a guard `if c then .error e else …` that was passed had a false condition.  With these a proof
  about a model's checked constructor need not unfold `bind` or split on the whole hypothesis.  Core Lean only.
-/

namespace Scico

theorem bind_eq_ok {ε β γ : Type} {x : Except ε β} {f : β → Except ε γ} {c : γ} :
    (x >>= f) = .ok c ↔ ∃ a, x = .ok a ∧ f a = .ok c := by
  cases x with
  | error e => exact ⟨fun h => (by cases h), fun ⟨_, h, _⟩ => (by cases h)⟩
  | ok a => exact ⟨fun h => ⟨a, rfl, h⟩, fun ⟨_, h, h'⟩ => (by cases h; exact h')⟩

theorem map_eq_ok {ε β γ : Type} {x : Except ε β} {f : β → γ} {c : γ} :
    x.map f = .ok c ↔ ∃ a, x = .ok a ∧ f a = c := by
  cases x with
  | error e => exact ⟨fun h => (by cases h), fun ⟨_, h, _⟩ => (by cases h)⟩
  | ok a => exact ⟨fun h => ⟨a, rfl, by cases h; rfl⟩, fun ⟨_, h, h'⟩ => (by cases h; cases h'; rfl)⟩

theorem map_bind {ε β γ δ : Type} (x : Except ε β) (f : β → Except ε γ) (g : γ → δ) :
    (x >>= f).map g = x >>= fun a => (f a).map g := by cases x <;> rfl

theorem ite_error_ok {c : Prop} [Decidable c] {ε β : Type} {e : ε} {x : Except ε β} {b : β}
    (h : (if c then .error e else x) = .ok b) : ¬ c ∧ x = .ok b := by
  by_cases hc : c
  · rw [if_pos hc] at h; cases h
  · rw [if_neg hc] at h; exact ⟨hc, h⟩

theorem ite_ok_error {c : Prop} [Decidable c] {ε β : Type} {e : ε} {x : Except ε β} {b : β}
    (h : (if c then x else .error e) = .ok b) : c ∧ x = .ok b := by
  by_cases hc : c
  · rw [if_pos hc] at h; exact ⟨hc, h⟩
  · rw [if_neg hc] at h; cases h

theorem ite_eq {c : Prop} [Decidable c] {β : Type} {x y b : β} (h : (if c then x else y) = b) :
    (c ∧ x = b) ∨ (¬ c ∧ y = b) := by
  by_cases hc : c
  · rw [if_pos hc] at h; exact Or.inl ⟨hc, h⟩
  · rw [if_neg hc] at h; exact Or.inr ⟨hc, h⟩

end Scico
