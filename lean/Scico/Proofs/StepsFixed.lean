/-
  Proofs/StepsFixed — property C03: a primal–dual optimal (KKT) point of the documented
  problem is left unchanged by the documented iteration (`…SpecStep`, which equals `step()` by C11).  Each step map is a proximal step
  from a point of the form `x ± c w`; the forms of `IsProx.fixed` below are these shapes.

  KKT conditions are in sub-gradient form (`Fn.Subgrad`), proximal maps satisfy the certificate
  contract `IsProx` (equivalent to the argmin definition for convex functionals, `C03_prox_contract_iff_argmin`),
  the ADMM x-update satisfies its stationarity contract.  Operators enter only through the values the
  equations use, so non-linear `C` / `H` are covered through their Jacobian products.
-/
import Scico.Model.Steps
import Scico.Proofs.StepsConvex
import Mathlib.Analysis.Real.Sqrt
import Mathlib.Tactic.Abel

namespace Scico.Steps

/-- `√` on ℝ for the executable model's `HasSqrt` -/
@[reducible] noncomputable def realHasSqrt : HasSqrt ℝ := ⟨Real.sqrt⟩

variable {X Z U : Type} [NormedAddCommGroup X] [InnerProductSpace ℝ X]
  [NormedAddCommGroup Z] [InnerProductSpace ℝ Z] [NormedAddCommGroup U] [InnerProductSpace ℝ U]

theorem IsProx.fixed_of_eq {E : Type} [NormedAddCommGroup E] [InnerProductSpace ℝ E] {F : Fn E}
    {prox : ℝ → E → E} (hp : IsProx F prox) {lam : ℝ} (hlam : 0 < lam) {x g v : E}
    (h : F.Subgrad x g) (hv : v = x + lam • g) : prox lam v = x := by
  rw [hv]; exact hp.fixed hlam h

/-- a backward step from `x − λ w` returns `x` when `−w ∈ ∂F(x)` -/
theorem IsProx.fixed_sub {E : Type} [NormedAddCommGroup E] [InnerProductSpace ℝ E] {F : Fn E}
    {prox : ℝ → E → E} (hp : IsProx F prox) {lam : ℝ} (hlam : 0 < lam) {x w : E}
    (h : F.Subgrad x (-w)) : prox lam (x - lam • w) = x :=
  hp.fixed_of_eq hlam h (by rw [smul_neg, sub_eq_add_neg])

/-- … and from `x − c w` when `−(d w) ∈ ∂F(x)` and `c = λ d` (step size and multiplier scaling of the ADMM variants) -/
theorem IsProx.fixed_sub_smul {E : Type} [NormedAddCommGroup E] [InnerProductSpace ℝ E] {F : Fn E}
    {prox : ℝ → E → E} (hp : IsProx F prox) {lam : ℝ} (hlam : 0 < lam) {x w : E} {c d : ℝ}
    (h : F.Subgrad x (-(d • w))) (hc : c = lam * d) : prox lam (x - c • w) = x := by
  rw [hc, mul_smul]
  exact hp.fixed_sub hlam h

/-- the z-update of ADMM: step size `1/ρ` from `w + u`, with `ρ u ∈ ∂F(w)` -/
theorem IsProx.fixed_one_div {E : Type} [NormedAddCommGroup E] [InnerProductSpace ℝ E] {F : Fn E}
    {prox : ℝ → E → E} (hp : IsProx F prox) {rho : ℝ} (hrho : 0 < rho) {w u : E} (h : F.Subgrad w (rho • u)) :
    prox (1 / rho) (w + u) = w :=
  hp.fixed_of_eq (one_div_pos.2 hrho) h (by rw [smul_smul, one_div_mul_cancel hrho.ne', one_smul])

/-- the proximal steps of the ProximalADMM family: step size `1/(ρμ)` from `x − w/μ`, with `−ρw ∈ ∂F(x)` -/
theorem IsProx.fixed_inv_mul {E : Type} [NormedAddCommGroup E] [InnerProductSpace ℝ E] {F : Fn E}
    {prox : ℝ → E → E} (hp : IsProx F prox) {rho mu : ℝ} (hrho : 0 < rho) (hmu : 0 < mu) {x w : E}
    (h : F.Subgrad x (-(rho • w))) : prox (rho⁻¹ * mu⁻¹) (x - mu⁻¹ • w) = x :=
  hp.fixed_sub_smul (mul_pos (inv_pos.2 hrho) (inv_pos.2 hmu)) h
    (by rw [mul_right_comm, inv_mul_cancel₀ hrho.ne', one_mul])

/-- `min f(x) + g(z)` s.t. `Ax + Bz = c`; `u*` is the scaled multiplier, `y* = ρ u*` -/
theorem padmm_fixed (p : PADMMParams ℝ X Z U) (F : Fn X) (G : Fn Z)
    (hf : IsProx F p.proxf) (hg : IsProx G p.proxg)
    (hrho : 0 < p.rho) (hmu : 0 < p.mu) (hnu : 0 < p.nu)
    (xs : X) (zs : Z) (us : U)
    (hfeas : p.A xs + p.B zs = p.c)
    (h1 : F.Subgrad xs (-(p.rho • p.AH us))) (h2 : G.Subgrad zs (-(p.rho • p.BH us))) :
    padmmSpecStep p { x := xs, z := zs, zOld := zs, u := us, uOld := us }
      = { x := xs, z := zs, zOld := zs, u := us, uOld := us } := by
  have hx : p.proxf (p.rho⁻¹ * p.mu⁻¹) (xs - p.mu⁻¹ • p.AH ((2 : ℝ) • us - us)) = xs := by
    rw [two_smul, add_sub_cancel_right]
    exact hf.fixed_inv_mul hrho hmu h1
  have hz : p.proxg (p.rho⁻¹ * p.nu⁻¹) (zs - p.nu⁻¹ • p.BH (p.A xs + p.B zs - p.c + us)) = zs := by
    rw [hfeas, sub_self, zero_add]
    exact hg.fixed_inv_mul hrho hnu h2
  unfold padmmSpecStep
  simp only [hx, hz]
  rw [add_assoc, hfeas, add_sub_cancel_right]

/-- the dual step enters through `hz` only: either `proxgConj` is the proximal map of `g*` (`IsProx.fixed`), or it is
    computed from `prox_g` by the Moreau decomposition (`conjProx_fixed`) -/
theorem pdhg_fixed (p : PDHGParams ℝ X Z) (F : Fn X) (hf : IsProx F p.proxf) (htau : 0 < p.tau)
    (xs : X) (zs : Z)
    (h1 : F.Subgrad xs (-(match p.linear with
      | true => p.Cadj zs
      | false => p.JCadj xs zs)))
    (hz : p.proxgConj p.sigma (zs + p.sigma • p.C xs) = zs) :
    pdhgSpecStep p { x := xs, xOld := xs, z := zs, zOld := zs }
      = { x := xs, xOld := xs, z := zs, zOld := zs } := by
  have ex : (1 + p.alpha) • xs - p.alpha • xs = xs := by
    rw [add_smul, one_smul, add_sub_cancel_right]
  unfold pdhgSpecStep
  cases hl : p.linear <;> simp only [hl] at h1 <;> simp only [hf.fixed_sub htau h1, ex, hz]

/-- `Functional.conj_prox` as the code computes it (extended Moreau decomposition) maps
    `z* + σ Cx*` to `z*` whenever `z* ∈ ∂g(Cx*)` -/
theorem conjProx_fixed {G : Fn Z} {proxg : ℝ → Z → Z} (hg : IsProx G proxg) {sigma : ℝ}
    (hsig : 0 < sigma) {w zs : Z} (h : G.Subgrad w zs) :
    (zs + sigma • w) - sigma • proxg (1 / sigma) ((1 / sigma) • (zs + sigma • w)) = zs := by
  rw [hg.fixed_of_eq (one_div_pos.2 hsig) h
    (by rw [smul_add, smul_smul, one_div_mul_cancel hsig.ne', one_smul, add_comm]), add_sub_cancel_right]

theorem pgm_fixed {σ : Type} (p : PGMParams σ ℝ X) (G : Fn X) (hg : IsProx G p.proxg)
    (hnorm : p.normX = fun v => ‖v‖) (s : PGMState σ ℝ X)
    (hL : 0 < (p.pol.update s.mem s.L s.x s.x).1)
    (h : G.Subgrad s.x (-(p.gradf s.x))) :
    (pgmSpecStep p s).x = s.x ∧ (pgmSpecStep p s).fpr = 0 := by
  have hx : p.proxg (p.pol.update s.mem s.L s.x s.x).1⁻¹
      (s.x - (p.pol.update s.mem s.L s.x s.x).1⁻¹ • p.gradf s.x) = s.x := by
    exact hg.fixed_sub (by positivity) h
  unfold pgmSpecStep
  simp only [hx, hnorm, sub_self, norm_zero, and_self]

/-- with the base step-size object the whole state except the residual is unchanged -/
theorem pgm_fixed_base (p : PGMParams Unit ℝ X) (G : Fn X) (hg : IsProx G p.proxg)
    (hnorm : p.normX = fun v => ‖v‖) (z0 : X) (hpol : p.pol = basePolicy z0) (s : PGMState Unit ℝ X)
    (hL : 0 < s.L) (h : G.Subgrad s.x (-(p.gradf s.x))) :
    pgmSpecStep p s = { s with fpr := 0 } := by
  have hu : p.pol.update s.mem s.L s.x s.x = (s.L, s.mem) := by rw [hpol]; rfl
  obtain ⟨h1, h2⟩ := pgm_fixed p G hg hnorm s (by rw [hu]; exact hL) h
  have h3 : (pgmSpecStep p s).L = s.L := by unfold pgmSpecStep; simp only [hu]
  have h4 : (pgmSpecStep p s).mem = s.mem := by unfold pgmSpecStep; simp only [hu]
  cases hs : pgmSpecStep p s
  simp_all

attribute [local instance] realHasSqrt

/-- away from the robust line search the documented step is a proximal-gradient step at `v` followed by the
    momentum update; `a` is the point (`x` or `v`) at which the step-size object is consulted -/
theorem apgmSpecStep_of_not_robust {σ : Type} (p : PGMParams σ ℝ X) (s : APGMState σ ℝ X)
    (hk : p.pol.kind ≠ .robust) :
    ∃ a, apgmSpecStep p s =
      let L := (p.pol.update s.mem s.L s.x a).1
      let xn := p.proxg L⁻¹ (s.v - L⁻¹ • p.gradf s.v)
      { x := xn, v := xn + ((s.t - 1) / fistaTImpl s.t) • (xn - s.x), t := fistaTImpl s.t, L := L,
        fpr := p.normX (xn - s.v), mem := (p.pol.update s.mem s.L s.x a).2 } := by
  unfold apgmSpecStep fistaTImpl
  cases hkk : p.pol.kind
  case robust => exact absurd hkk hk
  all_goals exact ⟨_, rfl⟩

/-- one constraint of an ADMM problem.  `G` is the functional the theorems reason about, `g` its values as the model's
    `objective()` evaluates them (`admmOfCons`); nothing ties the two, no theorem needs it -/
structure Con (X Z : Type) where
  rho : ℝ
  C : X → Z
  Cadj : Z → X
  G : Fn Z
  g : Z → ℝ
  prox : ℝ → Z → Z

/-- the model's ADMM parameters of a list of constraints, with the Euclidean norms -/
def admmOfCons (f : Option (X → ℝ)) (alpha : ℝ) (solveX : List Z → List Z → X → X) (cons : List (Con X Z)) :
    ADMMParams ℝ X Z :=
  { f := f, g := cons.map (·.g), proxg := cons.map (·.prox), C := cons.map (·.C), Cadj := cons.map (·.Cadj),
    rho := cons.map (·.rho), alpha := alpha, solveX := solveX, normX := fun v => ‖v‖, normZ := fun v => ‖v‖ }

/-- `Σ_i ρ_i C_iᵀ (z_i − u_i − C_i x)` : minus the gradient of the quadratic part of the x-sub-problem -/
def xGrad (cons : List (Con X Z)) (z u : List Z) (x : X) : X :=
  ((cons.zip (z.zip u)).map (fun t => t.1.rho • t.1.Cadj (t.2.1 - t.2.2 - t.1.C x))).sum

/-- contract of the x-update: the returned point is stationary for
    `f(x) + Σ ρ_i/2 ‖z_i − u_i − C_i x‖²` (for convex `f`: it is a minimiser), and the sub-problem
    has at most one stationary point (strict convexity) -/
structure XSolver (F : Fn X) (cons : List (Con X Z)) (solveX : List Z → List Z → X → X) : Prop where
  stationary : ∀ z u x0, F.Subgrad (solveX z u x0) (xGrad cons z u (solveX z u x0))
  unique : ∀ z u x x', F.Subgrad x (xGrad cons z u x) → F.Subgrad x' (xGrad cons z u x') → x = x'

omit [NormedAddCommGroup X] [InnerProductSpace ℝ X] in
theorem admmSpecZU_fixed (alpha : ℝ) (xs : X) :
    ∀ (cons : List (Con X Z)) (us : List Z),
      List.Forall₂ (fun (c : Con X Z) u => 0 < c.rho ∧ IsProx c.G c.prox ∧ c.G.Subgrad (c.C xs) (c.rho • u)) cons us →
      admmSpecZU alpha xs (cons.map (·.rho)) (cons.map (·.prox)) (cons.map (·.C)) (cons.map (fun c => c.C xs)) us
        = (cons.map (fun c => c.C xs)).zip us := by
  intro cons us h
  induction h with
  | nil => simp [admmSpecZU]
  | @cons c u cs us hcu _ ih =>
    obtain ⟨hrho, hprox, hsub⟩ := hcu
    simp only [List.map_cons, admmSpecZU, List.zip_cons_cons]
    have e1 : alpha • c.C xs + (1 - alpha) • c.C xs = c.C xs := by
      rw [← add_smul, add_sub_cancel, one_smul]
    rw [e1, hprox.fixed_one_div hrho hsub, ih]
    congr 2
    abel

end Scico.Steps
