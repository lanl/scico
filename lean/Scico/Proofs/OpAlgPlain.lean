/-
  Two definitions that only the statement of `C05_run_eq_den_plain` mentions: `PlainShapes e`, every leaf of the expression
  has plain (non-block) shapes.  The proof of that theorem does not use the hypothesis (`infer_sound`).
-/
import Scico.Proofs.OpAlgMain

namespace Scico.OpAlg
attribute [local instance] starConj

section
variable {K : Type} [Field K] [StarRing K] [HasRe K]

/-- "plain" = non-block -/
def Shape.isPlain : Shape → Prop
  | .plain _ => True
  | .nested _ => False

/-- every leaf has plain (non-block) shapes: the hypothesis `hs` of `C05_run_eq_den_plain`; no proof uses it -/
def PlainShapes : LExpr K → Prop
  | .mat _ _ _ _ => True
  | .diag dsh _ inSh? _ _ => dsh.isPlain ∧ ∀ s, inSh? = some s → s.isPlain
  | .scaledId _ _ sh _ => sh.isPlain
  | .ident sh _ => sh.isPlain
  | .lin inSh outSh _ _ _ _ => inSh.isPlain ∧ outSh.isPlain
  | .nonlin inSh outSh _ _ _ => inSh.isPlain ∧ outSh.isPlain
  | .add a b | .sub a b | .had _ a b | .comp a b | .matmul a b => PlainShapes a ∧ PlainShapes b
  | .neg a | .smulL _ a | .smulR a _ | .sdiv a _ | .rdiv _ a | .addS _ _ a _
  | .T a | .H a | .conj a | .gram a => PlainShapes a

end
end Scico.OpAlg
