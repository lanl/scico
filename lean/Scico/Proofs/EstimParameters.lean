/-
  The parameter estimator `pdhgEst` (`PDHG.estimate_parameters`); what is proved of `padmmEst` is short enough to stand in
  `Props/C17.lean`.
  For a positive norm estimate `c`: `τσc² = 1/factor`, both parameters positive; a squared estimate with relative error below
  `1 − 1/factor` is within the safety factor (`lt_factor_of_gap`).  For a norm estimate that is exactly `0` (zero operator,
  `C17_zero_exact`), over the IEEE-extended reals `XR ℝ` of `Model/StepSize.lean` (division by an exact zero is `±inf`,
  `inf·0 = NaN`): `PDHG.estimate_parameters` returns `τ = σ = +inf`, so the documented `τσ‖C‖² < 1` does *not* hold there
  (`ProximalADMM` / `NonLinearPADMM.estimate_parameters` at `0`: `C17_padmm_est_zero`).
-/
import Scico.Proofs.EstimRealLists
import Scico.Proofs.XR

namespace Scico.Estim

theorem pdhgEst_prod (c ratio fac : ℝ) (hc : 0 < c) (hr : 0 < ratio) (hf : 0 < fac) :
    (pdhgEst c ratio (some fac)).1 * (pdhgEst c ratio (some fac)).2 * c ^ 2 = 1 / fac := by
  simp only [pdhgEst, hasSqrt_real]
  have hs : 0 < Real.sqrt (fac * ratio) := Real.sqrt_pos.2 (mul_pos hf hr)
  have hsq : Real.sqrt (fac * ratio) * Real.sqrt (fac * ratio) = fac * ratio :=
    Real.mul_self_sqrt (le_of_lt (mul_pos hf hr))
  have hne : Real.sqrt (fac * ratio) * c ≠ 0 := ne_of_gt (mul_pos hs hc)
  field_simp
  rw [show Real.sqrt (fac * ratio) ^ 2 = fac * ratio by rw [sq]; exact hsq]

theorem pdhgEst_pos (c ratio fac : ℝ) (hc : 0 < c) (hr : 0 < ratio) (hf : 0 < fac) :
    0 < (pdhgEst c ratio (some fac)).1 ∧ 0 < (pdhgEst c ratio (some fac)).2 := by
  simp only [pdhgEst, hasSqrt_real]
  have hs : 0 < Real.sqrt (fac * ratio) := Real.sqrt_pos.2 (mul_pos hf hr)
  constructor
  · positivity
  · positivity

/-- a squared estimate `csq ≥ L·(1 − x)` with relative error `x < 1 − 1/fac` is within the safety factor: `L < fac·csq` -/
theorem lt_factor_of_gap {L x fac csq : ℝ} (hL : 0 < L) (hf : 1 < fac) (hx : x < 1 - 1 / fac)
    (h : L - L * x ≤ csq) : L < fac * csq := by
  have hf0 : 0 < fac := one_pos.trans hf
  have h1 : L * x < L * (1 - 1 / fac) := mul_lt_mul_of_pos_left hx hL
  have h2 : L - L * (1 - 1 / fac) = L / fac := by rw [mul_sub, mul_one, mul_one_div, sub_sub_cancel]
  rw [mul_comm]
  exact (div_lt_iff₀ hf0).1 (h2 ▸ (sub_lt_sub_left h1 L).trans_le h)

open Scico.StepSize Scico.StepSize.XR

theorem pdhgEst_zero (ratio fac : ℝ) (hr : 0 < ratio) (hf : 0 < fac) :
    pdhgEst (fin 0 : XR ℝ) (fin ratio) (some (fin fac)) = (pinf, pinf) := by
  -- `1 / (√(fac·ratio) · 0) = 1/0 = +inf`, `ratio · inf = +inf`
  simp only [pdhgEst, fin_mul_fin, sqrt_fin (mul_pos hf hr).le, mul_zero]
  rw [one_def, fin_div_zero one_pos, fin_mul_pinf hr]

end Scico.Estim
