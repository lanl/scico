/-
  Soundness of `prox` and `eval` for *every* tree of the model `Scico.Model.ProxCalc`.

  The denotation (`den`, `dom`) is written on the model's own argument type (plain array = list of
  entries, block array = list of lists; complex data interleaved, so `Arg.dist2` is the squared ℓ²
  distance in both cases), and `IsProxA` compares a point with the competitors of the *shape of the argument* only.
  The rules for scaling, translation and separable sums are therefore proved here a second time, beside their
  statements in an inner-product space (`ProxCalcAbs`), which cannot be cited: the model's data are no vector
  space (`zipWith` truncates, an array and a block array do not add), so there is no norm to instantiate.
  `ProxTo.sound` (induction on the run): whatever `prox` returns is a proximal point of the denoted
  functional as soon as the base functionals' proximal maps are proximal maps *at the parameters they
  are actually called with* (`ParamsOk`); no hypothesis on the signs of the scale factors.  A
  non-positive `ScaledFunctional` / `Loss` scale forwards a non-positive parameter to the base prox,
  which is outside its contract — this is exactly what goes wrong there, no more
  (`C08_loss_nonpositive_counterexample`).  With the flag set, positive `Loss` scales and `lam > 0` all
  parameters are positive (`paramsOk_pos`).
-/
import Scico.Proofs.ProxCalcTree
import Scico.Proofs.FuncEval
import Scico.Proofs.Sums

namespace Scico.ProxCalc
open Scico.FuncEval

def sq2 (a b : List ℝ) : ℝ := (List.zipWith (fun x y => (x - y) ^ 2) a b).sum

def _root_.Scico.FuncEval.Arg.dist2 : Arg ℝ → Arg ℝ → ℝ
  | .arr a, .arr b => sq2 a b
  | .blk a, .blk b => (List.zipWith sq2 a b).sum
  | _, _ => 0

structure LeafSem where
  dom : Nat → Arg ℝ → Prop
  val : Nat → Arg ℝ → ℝ

/-- `p` is a proximal point of `lam·f` (domain `D`) at `v`, among arguments of the shape of `v` -/
def IsProxA (D : Arg ℝ → Prop) (f : Arg ℝ → ℝ) (lam : ℝ) (v p : Arg ℝ) : Prop :=
  p.shapeEq v ∧ D p ∧
    ∀ x, x.shapeEq v → D x → lam * f p + (1 / 2) * p.dist2 v ≤ lam * f x + (1 / 2) * x.dist2 v

/-- hypothesis on the leaves: the proximal map of every base functional that has one is a proximal map -/
def LeafSound (E : Env ℝ) (S : LeafSem) : Prop :=
  ∀ i v lam, 0 < lam → E.hasProx i = true → IsProxA (S.dom i) (S.val i) lam v (E.prox i v lam)

/-- the functional a tree denotes (specification, written independently of `eval`) -/
noncomputable def den (E : Env ℝ) (S : LeafSem) : Fn ℝ → Arg ℝ → ℝ
  | .leaf i, x => S.val i x
  | .scaled c f, x => c * den E S f x
  | .sum f g, x => den E S f x + den E S g x
  | .snil, _ => 0
  | .scons f r, .blk (b :: bs) => den E S f (.arr b) + den E S r (.blk bs)
  | .scons _ _, _ => 0
  | .lossNone _ _ _, _ => 0
  | .loss y A f s, x => s * den E S f (Arg.zipT (· - ·) (E.applyOpt A x) y)
  | .sqL2 y A w s, x =>
    -- `s · Σ w_i |y_i − (A x)_i|²` (documented weighted squared ℓ² loss); `0` where `A x` is not defined
    match OpK.apply E A x with
    | .ok ax => s * wsum w (sqmags E.cplx (Arg.zipT (· - ·) y ax).flat)
    | .error _ => 0

def dom (E : Env ℝ) (S : LeafSem) : Fn ℝ → Arg ℝ → Prop
  | .leaf i, x => S.dom i x
  | .scaled _ f, x => dom E S f x
  | .sum f g, x => dom E S f x ∧ dom E S g x
  | .snil, _ => True
  | .scons f r, .blk (b :: bs) => dom E S f (.arr b) ∧ dom E S r (.blk bs)
  | .scons _ _, _ => True
  | .lossNone _ _ _, _ => True
  | .loss y A f _, x => dom E S f (Arg.zipT (· - ·) (E.applyOpt A x) y)
  | .sqL2 _ _ _ _, _ => True

theorem sq2_sub_sub (x v y : List ℝ) (h1 : x.length = v.length) (h2 : v.length = y.length) :
    sq2 (List.zipWith (· - ·) x y) (List.zipWith (· - ·) v y) = sq2 x v := by
  unfold sq2
  congr 1
  apply List.ext_getElem <;> simp [h1, h2]

theorem zipWith_add_sub (q y : List ℝ) (h : q.length = y.length) :
    List.zipWith (· - ·) (List.zipWith (· + ·) q y) y = q := by
  apply List.ext_getElem <;> simp [h]

theorem length_of_map_length {a b : List (List ℝ)} (h : a.map List.length = b.map List.length) (i : Nat)
    (h1 : i < a.length) (h2 : i < b.length) : a[i].length = b[i].length := by
  have := congrArg (fun l => l[i]?) h
  simpa [h1, h2] using this

theorem blk_sub_sub (x v y : List (List ℝ)) (h1 : x.map List.length = v.map List.length)
    (h2 : v.map List.length = y.map List.length) :
    (List.zipWith sq2 (List.zipWith (List.zipWith (· - ·)) x y) (List.zipWith (List.zipWith (· - ·)) v y)).sum
      = (List.zipWith sq2 x v).sum := by
  have hl1 : x.length = v.length := by simpa using congrArg List.length h1
  have hl2 : v.length = y.length := by simpa using congrArg List.length h2
  congr 1
  apply List.ext_getElem
  · simp [hl1, hl2]
  · intro i _ hi
    have hx : i < x.length := by simp at hi; omega
    simp only [List.getElem_zipWith]
    exact sq2_sub_sub _ _ _ (length_of_map_length h1 i hx (hl1 ▸ hx))
      (length_of_map_length h2 i (hl1 ▸ hx) (hl2 ▸ hl1 ▸ hx))

theorem blk_add_sub (q y : List (List ℝ)) (h : q.map List.length = y.map List.length) :
    List.zipWith (List.zipWith (· - ·)) (List.zipWith (List.zipWith (· + ·)) q y) y = q := by
  have hl : q.length = y.length := by simpa using congrArg List.length h
  apply List.ext_getElem
  · simp [hl]
  · intro i _ hi
    simp only [List.getElem_zipWith]
    exact zipWith_add_sub _ _ (length_of_map_length h i hi (hl ▸ hi))

theorem Arg.dist2_sub_sub {x v y : Arg ℝ} (h1 : x.shapeEq v) (h2 : v.shapeEq y) :
    (Arg.zipT (· - ·) x y).dist2 (Arg.zipT (· - ·) v y) = x.dist2 v := by
  cases x <;> cases v <;> cases y <;> simp only [Arg.shapeEq] at h1 h2
  · exact sq2_sub_sub _ _ _ h1 h2
  · exact blk_sub_sub _ _ _ h1 h2

theorem Arg.add_sub_cancel {q y : Arg ℝ} (h : q.shapeEq y) :
    Arg.zipT (· - ·) (Arg.zipT (· + ·) q y) y = q := by
  cases q <;> cases y <;> simp only [Arg.shapeEq] at h
  · simp [Arg.zipT, zipWith_add_sub _ _ h]
  · simp [Arg.zipT, blk_add_sub _ _ h]

theorem sq2_nonneg (a b : List ℝ) : 0 ≤ sq2 a b :=
  zipWith_sum_nonneg _ a b fun _ _ _ _ => sq_nonneg _

theorem sq2_self (a : List ℝ) : sq2 a a = 0 := by
  simp [sq2]

theorem Arg.dist2_nonneg (a b : Arg ℝ) : 0 ≤ a.dist2 b := by
  cases a <;> cases b <;> simp only [Arg.dist2, le_refl]
  · exact sq2_nonneg _ _
  · exact zipWith_sum_nonneg _ _ _ fun _ _ _ _ => sq2_nonneg _ _

theorem Arg.dist2_self (a : Arg ℝ) : a.dist2 a = 0 := by
  cases a with
  | arr v => exact sq2_self v
  | blk bs => simp [Arg.dist2, sq2_self]

/-- the zero functional with the identity as prox (what `ZeroFunctional` is) satisfies `LeafSound` -/
theorem isProxA_zero (lam : ℝ) (v : Arg ℝ) : IsProxA (fun _ => True) (fun _ => 0) lam v v := by
  refine ⟨Arg.shapeEq_refl v, trivial, fun x _ _ => ?_⟩
  rw [Arg.dist2_self]
  have := Arg.dist2_nonneg x v
  linarith

/-- the parameters with which the base functionals' `prox` are reached from `t.prox(·, lam)` all
    satisfy `ok` -/
def ParamsOk (ok : Nat → ℝ → Prop) (okQ : Arg ℝ → OpK ℝ → Option (List ℝ) → ℝ → ℝ → Prop) : Fn ℝ → ℝ → Prop
  | .leaf i, lam => ok i lam
  | .scaled c f, lam => ParamsOk ok okQ f (lam * c)
  | .sum _ _, _ => True
  | .snil, _ => True
  | .scons f r, lam => ParamsOk ok okQ f lam ∧ ParamsOk ok okQ r lam
  | .lossNone _ _ _, _ => True
  | .loss _ _ f s, lam => ParamsOk ok okQ f (s * lam)
  | .sqL2 y A w s, lam => okQ y A w s lam

/-- the `SquaredL2Loss` nodes return proximal points of `s·Σ w|y − A x|²` under the condition `okQ`
    (closed-form branch: `sqL2_diag_sound`; CG branch: contract on the solver, property C14) -/
def SqSoundOn (E : Env ℝ) (S : LeafSem) (okQ : Arg ℝ → OpK ℝ → Option (List ℝ) → ℝ → ℝ → Prop) : Prop :=
  ∀ y A w s v lam p, okQ y A w s lam → prox E (.sqL2 y A w s) v lam = .ok p →
    IsProxA (fun _ => True) (den E S (.sqL2 y A w s)) lam v p

/-- the base functionals' prox maps are proximal maps for the parameters in `ok`
    (`LeafSound E S` is `LeafSoundOn E S (fun _ l => 0 < l)`, by definition) -/
def LeafSoundOn (E : Env ℝ) (S : LeafSem) (ok : Nat → ℝ → Prop) : Prop :=
  ∀ i v lam, ok i lam → E.hasProx i = true → IsProxA (S.dom i) (S.val i) lam v (E.prox i v lam)

theorem ProxTo.sound {E : Env ℝ} {S : LeafSem} {ok : Nat → ℝ → Prop}
    {okQ : Arg ℝ → OpK ℝ → Option (List ℝ) → ℝ → ℝ → Prop} (hS : LeafSoundOn E S ok) (hQ : SqSoundOn E S okQ)
    {t : Fn ℝ} {v p : Arg ℝ} {lam : ℝ} (h : ProxTo E t v lam p) (hok : ParamsOk ok okQ t lam) :
    IsProxA (dom E S t) (den E S t) lam v p := by
  induction h with
  | leaf h => exact hS _ _ _ hok h
  | scaled _ ih =>
    obtain ⟨h1, h2, h3⟩ := ih hok
    exact ⟨h1, h2, fun x hx hdx => by have := h3 x hx hdx; simp only [den]; linarith⟩
  | snil =>
    refine ⟨Arg.shapeEq_refl _, trivial, fun x hx _ => ?_⟩
    rw [Arg.shapeEq_blk_nil.1 hx]
  | scons _ _ ihf ihr =>
    obtain ⟨a1, a2, a3⟩ := ihf hok.1
    obtain ⟨r1, r2, r3⟩ := ihr hok.2
    refine ⟨Arg.shapeEq_blk_cons.2 ⟨_, _, rfl, a1, r1⟩, ⟨a2, r2⟩, fun x hx hdx => ?_⟩
    obtain ⟨x0, xs, rfl, h0, hs⟩ := Arg.shapeEq_blk_cons.1 hx
    have i1 := a3 (.arr x0) h0 hdx.1
    have i2 := r3 (.blk xs) hs hdx.2
    simp only [den, Arg.dist2, List.zipWith_cons_cons, List.sum_cons] at i1 i2 ⊢
    linarith
  | @loss y f s v lam q _ hvy _ hqy ih =>
    -- a competitor `x` of `v` is the competitor `x − y` of `v − y`, at the same distance, and `(q + y) − y = q`
    obtain ⟨q1, q2, q3⟩ := ih hok
    have hdv : (Arg.zipT (· - ·) v y).shapeEq v := Arg.zipT_shapeEq hvy
    have hpv : (Arg.zipT (· + ·) q y).shapeEq v :=
      Arg.shapeEq_trans (Arg.zipT_shapeEq hqy) (Arg.shapeEq_trans q1 hdv)
    refine ⟨hpv, ?_, fun x hx hdx => ?_⟩
    · simp only [dom, Env.applyOpt, Arg.add_sub_cancel hqy]; exact q2
    · simp only [dom, den, Env.applyOpt] at hdx ⊢
      have hx' : (Arg.zipT (· - ·) x y).shapeEq (Arg.zipT (· - ·) v y) :=
        Arg.shapeEq_trans (Arg.zipT_shapeEq (Arg.shapeEq_trans hx hvy))
          (Arg.shapeEq_trans hx (Arg.shapeEq_symm hdv))
      have i1 := q3 _ hx' hdx
      have e2 := Arg.dist2_sub_sub hpv hvy
      rw [Arg.dist2_sub_sub hx hvy] at i1
      rw [Arg.add_sub_cancel hqy] at e2 ⊢
      rw [e2] at i1
      linarith
  | sqL2 h => simpa [dom] using hQ _ _ _ _ _ _ _ hok h

theorem zipWith_ones_mul (x : List ℝ) (n : Nat) (h : x.length ≤ n) : List.zipWith (· * ·) (onesL n) x = x := by
  apply List.ext_getElem
  · simpa [onesL] using h
  · intro i _ _; simp [onesL]

theorem onesL_length (n : Nat) : (onesL n : List ℝ).length = n := by simp [onesL]

theorem onesL_nonneg (n : Nat) : ∀ a ∈ (onesL n : List ℝ), 0 ≤ a := by
  intro a ha
  simp only [onesL, List.mem_replicate] at ha
  rw [ha.2]; exact zero_le_one

/-- data conditions of the closed-form branch as proved here: real data, plain measurement, `A` the
    Identity or a Diagonal, weights (if given) non-negative and of the measurement's length,
    positive scale and prox parameter -/
def SqDiagOk (E : Env ℝ) (y : Arg ℝ) (A : OpK ℝ) (w : Option (List ℝ)) (s lam : ℝ) : Prop :=
  E.cplx = false ∧ 0 < s ∧ 0 < lam ∧
  (∃ yy, y = .arr yy ∧ ∀ wl, w = some wl → wl.length = yy.length ∧ ∀ a ∈ wl, 0 ≤ a) ∧
  (A = .ident ∨ ∃ d, A = .diag d)

theorem sqL2_diag_isProxA {s lam : ℝ} (hs : 0 < s) (hl : 0 < lam) (wl a yy vv : List ℝ)
    (hw : ∀ c ∈ wl, 0 ≤ c) (h1 : wl.length = vv.length) (h2 : a.length = vv.length) (h3 : yy.length = vv.length) :
    IsProxA (fun _ => True)
      (fun x => s * wsum (some wl) (sqmags false (List.zipWith (· - ·) yy (List.zipWith (· * ·) a x.flat))))
      lam (.arr vv) (.arr (sqL2DiagProx false s lam (some wl) a yy vv)) := by
  have hc : (0 : ℝ) ≤ (1 + 1) * s * lam := mul_nonneg (mul_nonneg (add_nonneg zero_le_one zero_le_one) hs.le) hl.le
  have hlen : (sqL2DiagProx false s lam (some wl) a yy vv).length = vv.length := by
    simp [sqL2DiagProx, edivR, emul, econj, rmulL, sqmags, h1, h2, h3]
  refine ⟨hlen, trivial, fun x hx _ => ?_⟩
  obtain ⟨x, rfl, hx⟩ := Arg.shapeEq_arr.1 hx
  have := sqL2DiagProx_minimises_real hc wl a yy vv x hw h1 h2 h3 hx
  simp only [diagObj] at this
  simp only [Arg.flat, Arg.dist2, sq2, wsum]
  linarith

theorem isProxA_congr {D : Arg ℝ → Prop} {f g : Arg ℝ → ℝ} {lam : ℝ} {v p : Arg ℝ}
    (hfg : ∀ x, x.shapeEq v → f x = g x) (h : IsProxA D g lam v p) : IsProxA D f lam v p := by
  obtain ⟨h1, h2, h3⟩ := h
  refine ⟨h1, h2, fun x hx hdx => ?_⟩
  rw [hfg p h1, hfg x hx]
  exact h3 x hx hdx

theorem sqL2_diag_sound (E : Env ℝ) (S : LeafSem) : SqSoundOn E S (SqDiagOk E) := by
  intro y A w s v lam p hok hr
  obtain ⟨hE, hs, hl, ⟨yy, rfl, hw⟩, hA⟩ := hok
  obtain ⟨wl, hF1, hF2, hwlen, hwpos⟩ : ∃ wl : List ℝ,
      (∀ a v' : List ℝ, v'.length = yy.length →
        sqL2DiagProx false s lam w a yy v' = sqL2DiagProx false s lam (some wl) a yy v') ∧
      (∀ L : List ℝ, L.length ≤ yy.length → wsum w L = wsum (some wl) L) ∧
      wl.length = yy.length ∧ ∀ c ∈ wl, 0 ≤ c := by
    cases w with
    | none =>
      -- no weights are weights all equal to one
      exact ⟨onesL yy.length, fun a v' h => by simp [sqL2DiagProx, nEntries, h],
        fun L hL => by simp only [wsum]; rw [zipWith_ones_mul L _ hL],
        onesL_length _, onesL_nonneg _⟩
    | some wl => exact ⟨wl, fun _ _ _ => rfl, fun _ _ => rfl, (hw wl rfl).1, (hw wl rfl).2⟩
  cases v with
  | blk vs => rw [prox_sqL2_arr_blk E yy vs w s lam hA] at hr; cases hr
  | arr vv =>
    -- the diagonal `a` the closed form is evaluated with (all ones for the Identity), and `A x = a ⊙ x`
    obtain ⟨a, ha, hap⟩ : ∃ a, diagOf E.cplx (nEntries E.cplx vv) A = some a ∧
        ∀ x : List ℝ, a.length = vv.length → x.length = vv.length →
          OpK.apply E A (.arr x) = .ok (.arr (List.zipWith (· * ·) a x)) := by
      rcases hA with rfl | ⟨d, rfl⟩
      · refine ⟨onesL vv.length, by simp [diagOf, hE, nEntries], fun x _ hx => ?_⟩
        rw [zipWith_ones_mul x vv.length (le_of_eq hx)]; rfl
      · refine ⟨d, rfl, fun x hd hx => ?_⟩
        have hem : (List.zipWith (fun x1 x2 : ℝ => x1 * x2) d x).length = x.length := by simp [hd, hx]
        simp only [OpK.apply, hE, emul, Bool.false_eq_true, if_false, if_pos hem]
    rw [prox_sqL2_arr E yy vv w s lam ha, hE] at hr
    split at hr
    · rename_i hlen
      obtain ⟨hav, hyv⟩ := hlen
      cases hr
      rw [hF1 _ vv hyv.symm]
      refine isProxA_congr (fun x hx => ?_) (sqL2_diag_isProxA hs hl wl a yy vv hwpos (hwlen.trans hyv) hav hyv)
      obtain ⟨x, rfl, hx⟩ := Arg.shapeEq_arr.1 hx
      simp only [den, hap x hav hx, hE, Arg.zipT, Arg.flat]
      rw [hF2 _ (by rw [sqmags_real, List.length_map]; simp)]
    · cases hr

/-- every generic `Loss` node has a positive scale (documented use of `Loss`: `α f(y − A x)`, `α > 0`;
    the flag of a `Loss` does not look at its scale) -/
def LossScalesPos : Fn ℝ → Prop
  | .leaf _ => True
  | .scaled _ f => LossScalesPos f
  | .sum f g => LossScalesPos f ∧ LossScalesPos g
  | .snil => True
  | .scons f r => LossScalesPos f ∧ LossScalesPos r
  | .lossNone _ _ s => 0 < s
  | .loss _ _ f s => 0 < s ∧ LossScalesPos f
  | .sqL2 _ _ _ s => 0 < s

/-- the flag rule **with the proposed repair** `fixes/loss-nonpositive-scale.patch`: as `hasProx`, and in
    addition a `Loss` (generic or `SquaredL2Loss`) advertises its prox only while its scale is positive -/
noncomputable def hasProxR (E : Env ℝ) : Fn ℝ → Bool
  | .leaf i => E.hasProx i
  | .scaled c f => hasProxR E f && decide (0 < c)
  | .sum _ _ => false
  | .snil => true
  | .scons f r => hasProxR E f && hasProxR E r
  | .lossNone _ _ _ => false
  | .loss _ A f s => A.isNone && hasProxR E f && decide (0 < s)
  | .sqL2 y A w s => hasProx E (.sqL2 y A w s) && decide (0 < s)

/-- every `SquaredL2Loss` node of the tree is in the scope of `sqL2_diag_sound`: the conjuncts of `SqDiagOk` that
    do not speak of scale and parameter — real data, plain measurement, Identity / Diagonal forward operator,
    weights `≥ 0` of the measurement's length (vacuous for trees without `SquaredL2Loss` nodes, i.e. implied by `Generic`) -/
def SqNodesDiag (E : Env ℝ) : Fn ℝ → Prop
  | .leaf _ => True
  | .scaled _ f => SqNodesDiag E f
  | .sum f g => SqNodesDiag E f ∧ SqNodesDiag E g
  | .snil => True
  | .scons f r => SqNodesDiag E f ∧ SqNodesDiag E r
  | .lossNone _ _ _ => True
  | .loss _ _ f _ => SqNodesDiag E f
  | .sqL2 y A w _ => E.cplx = false ∧
      (∃ yy, y = .arr yy ∧ ∀ wl, w = some wl → wl.length = yy.length ∧ ∀ a ∈ wl, 0 ≤ a) ∧
      (A = .ident ∨ ∃ d, A = .diag d)

theorem sqNodesDiag_of_generic (E : Env ℝ) : ∀ t : Fn ℝ, Generic t → SqNodesDiag E t := by
  intro t
  induction t with
  | leaf i => intro _; trivial
  | scaled c f ih => exact ih
  | sum f g ihf ihg => intro h; exact ⟨ihf h.1, ihg h.2⟩
  | snil => intro _; trivial
  | scons f r ihf ihr => intro h; exact ⟨ihf h.1, ihr h.2⟩
  | lossNone y A s => intro _; trivial
  | loss y A f s ih => exact ih
  | sqL2 y A w s => intro h; exact h.elim

theorem paramsOk_pos (E : Env ℝ) : ∀ (t : Fn ℝ) (lam : ℝ), 0 < lam → hasProx E t = true → SqNodesDiag E t →
    LossScalesPos t → ParamsOk (fun _ l => 0 < l) (SqDiagOk E) t lam := by
  intro t
  induction t with
  | leaf i => intro lam hl _ _ _; exact hl
  | scaled c f ih =>
    intro lam hl h hd hls
    exact ih (lam * c) (mul_pos hl (hasProx_scaled.1 h).2) (hasProx_scaled.1 h).1 hd hls
  | sum f g _ _ => intro _ _ _ _ _; trivial
  | snil => intro _ _ _ _ _; trivial
  | scons f r ihf ihr =>
    intro lam hl h hd hls
    exact ⟨ihf lam hl (hasProx_scons.1 h).1 hd.1 hls.1, ihr lam hl (hasProx_scons.1 h).2 hd.2 hls.2⟩
  | lossNone y A s => intro _ _ _ _ _; trivial
  | loss y A f s ih =>
    intro lam hl h hd hls
    exact ih (s * lam) (mul_pos hls.1 hl) (hasProx_loss.1 h).2 hd hls.2
  | sqL2 y A w s => intro lam hl _ hd hls; exact ⟨hd.1, hls, hl, hd.2.1, hd.2.2⟩

theorem hasProx_of_hasProxR (E : Env ℝ) : ∀ t : Fn ℝ, hasProxR E t = true → hasProx E t = true ∧ LossScalesPos t := by
  intro t
  induction t with
  | leaf i => exact fun h => ⟨h, trivial⟩
  | scaled c f ih =>
    intro h; simp only [hasProxR, Bool.and_eq_true, decide_eq_true_eq] at h
    exact ⟨hasProx_scaled.2 ⟨(ih h.1).1, h.2⟩, (ih h.1).2⟩
  | sum f g _ _ => intro h; simp [hasProxR] at h
  | snil => intro _; exact ⟨rfl, trivial⟩
  | scons f r ihf ihr =>
    intro h; simp only [hasProxR, Bool.and_eq_true] at h
    exact ⟨hasProx_scons.2 ⟨(ihf h.1).1, (ihr h.2).1⟩, (ihf h.1).2, (ihr h.2).2⟩
  | lossNone y A s => intro h; simp [hasProxR] at h
  | loss y A f s ih =>
    intro h; simp only [hasProxR, Bool.and_eq_true, decide_eq_true_eq, Option.isNone_iff_eq_none] at h
    exact ⟨hasProx_loss.2 ⟨h.1.1, (ih h.1.2).1⟩, h.2, (ih h.1.2).2⟩
  | sqL2 y A w s =>
    intro h; simp only [hasProxR, Bool.and_eq_true, decide_eq_true_eq] at h
    exact h

/-- `L1Norm.prox` entrywise on real data: `sign(v) · ½ (|v| − lam + ||v| − lam|)` -/
noncomputable def soft (lam a : ℝ) : ℝ :=
  (if a < 0 then -1 else if 0 < a then 1 else 0) * ((1 / 2) * ((absR a - lam) + absR (absR a - lam)))

/-- environment whose single base functional is `L1Norm` on real data -/
noncomputable def l1Env : Env ℝ where
  hasEval := fun _ => true
  hasProx := fun _ => true
  eval := fun _ x => l1 false x
  prox := fun _ v lam => Arg.map (soft lam) v
  opEval := fun _ x => x
  solve := fun _ _ _ _ v => v
  cplx := false

theorem EvalTo.eq_den {E : Env ℝ} {S : LeafSem} (hS : ∀ i x, E.hasEval i = true → E.eval i x = S.val i x)
    {t x r} (h : EvalTo E t x r) : r = den E S t x := by
  induction h with
  | leaf h => exact hS _ _ h
  | scaled _ ih => rw [ih]; rfl
  | sum _ _ ihf ihg => rw [ihf, ihg]; rfl
  | snil => rfl
  | scons _ _ ihf ihr => rw [ihf, ihr]; rfl
  | loss _ _ ih => rw [ih]; rfl
  | sqL2 h1 _ => simp only [den, h1]

end Scico.ProxCalc
