/-
  Scalar inequalities that several engines use.  Cauchy–Schwarz as an ordering of quotients: for numbers `a = ‖x‖²`,
  `b = ⟪x,y⟫ > 0`, `c = ‖y‖²` the inequality `b² ≤ a·c` says `b/a ≤ c/b`; with `y = Qx` the left side is the Rayleigh quotient of
  `Q` at `x`, so the two Barzilai–Borwein values of a step (`x = Δx`, `y = Δg`) are ordered, and one step `v ↦ Bv` of power
  iteration on a Gram operator does not decrease the Rayleigh quotient (the inequality for `(v, Bv)`, then for `(Av, ABv)`).
  And the first-order test along a segment: a slope `G` with `t·G ≤ ½ t² N` for all small `t > 0` is non-positive.
-/
import Mathlib.Algebra.Order.Field.Basic
import Mathlib.Tactic.Linarith
import Mathlib.Tactic.Ring

namespace Scico

variable {K : Type} [Field K] [LinearOrder K] [IsStrictOrderedRing K]

theorem div_le_div_of_mul_self_le {a b c : K} (ha : 0 < a) (hb : 0 < b) (h : b * b ≤ a * c) : b / a ≤ c / b := by
  rw [div_le_div_iff₀ ha hb, mul_comm c a]
  exact h

theorem nonpos_of_forall_small {G N : K} (hN : 0 ≤ N) (h : ∀ t, 0 < t → t ≤ 1 → t * G ≤ 1 / 2 * t ^ 2 * N) :
    G ≤ 0 := by
  by_contra hG
  push Not at hG
  have hN1 : 0 < N + 1 := by linarith
  have htpos : 0 < min 1 (G / (N + 1)) := lt_min one_pos (div_pos hG hN1)
  have ht2 : min 1 (G / (N + 1)) * (N + 1) ≤ G := (le_div_iff₀ hN1).mp (min_le_right _ _)
  obtain ⟨t, ht⟩ : ∃ t, t = min 1 (G / (N + 1)) := ⟨_, rfl⟩
  rw [← ht] at htpos ht2
  have h1 : t * G ≤ t * (1 / 2 * t * N) := (h t htpos (ht ▸ min_le_left _ _)).trans_eq (by ring)
  have h2 := le_of_mul_le_mul_left h1 htpos
  have h3 : t * N ≤ t * (N + 1) := mul_le_mul_of_nonneg_left (le_add_of_nonneg_right zero_le_one) htpos.le
  linarith

end Scico
