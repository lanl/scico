/-
  The convolution theorem in N dimensions.  Two inductions over the axes — the spectral-multiplier form (any spectrum)
  and the shift theorem — give, with the N-d circulant of `LinOpsCirc`, the theorem for integer centres, whose phases
  are the ones the constructor builds.
-/
import Scico.Proofs.LinOpsCircFFT
import Scico.Proofs.LinOpsDFTNd

namespace Scico.LinOps
open Finset Scico.Index

section Nd
variable {K : Type} [Field K]

/-- N-d spectral-multiplier form (unscaled): `idftn(H · dftn(x)) = Σ_q idftn(H)[(p − q) mod dims] · x[q]` for ANY
    spectrum `H` -/
theorem circNdSpec_raw (dims : List Nat) (ws : List K) (H x : V K) (p : Nat) (hr : Roots dims ws) (hp : p < prodL dims) :
    dftNd dims (ws.map (·⁻¹)) (fun f => H f * dftNd dims ws x f) p
      = ∑ q ∈ range (prodL dims),
          dftNd dims (ws.map (·⁻¹)) H (shiftIdx dims (List.replicate dims.length 0) p q) * x q := by
  induction dims, ws, hr using Roots.induction generalizing H x p with
  | nil =>
      have hp0 : p = 0 := by simpa [prodL] using hp
      subst hp0
      simp [dftNd, shiftIdx, prodL]
  | cons n ds w ws hw hn hr' ih =>
      have hj' : p % prodL ds < prodL ds := mod_lt_of_lt_mul hp
      have IH := fun (H' x' : V K) => ih H' x' (p % prodL ds) hj'
      rw [List.map_cons, dftNd_cons]
      -- left-hand side, slab by slab
      have elhs : ∀ f0 ∈ range n,
          dftNd ds (ws.map (·⁻¹)) (slab (prodL ds) f0 (fun f => H f * dftNd (n :: ds) (w :: ws) x f)) (p % prodL ds)
            * w⁻¹ ^ (f0 * (p / prodL ds))
          = ∑ b ∈ range n, ∑ q' ∈ range (prodL ds),
              (dftNd ds (ws.map (·⁻¹)) (slab (prodL ds) f0 H)
                  (shiftIdx ds (List.replicate ds.length 0) (p % prodL ds) q') * (w ^ (b * f0) * w⁻¹ ^ ((p / prodL ds) * f0)))
                * x (b * prodL ds + q') := by
        intro f0 _
        have e1 : ∀ r, r < prodL ds →
            slab (prodL ds) f0 (fun f => H f * dftNd (n :: ds) (w :: ws) x f) r
              = ∑ b ∈ range n, w ^ (b * f0) * (slab (prodL ds) f0 H r * dftNd ds ws (slab (prodL ds) b x) r) := by
          intro r hr
          simp only [slab, dftNd_lead n ds w ws _ f0 r hr, mul_sum]
          exact sum_congr rfl (fun b _ => by ring)
        rw [dftNd_congr ds _ _ _ _ e1 hj', dftNd_lin, sum_mul]
        refine sum_congr rfl (fun b _ => ?_)
        rw [IH, mul_sum, sum_mul]
        refine sum_congr rfl (fun q' _ => ?_)
        simp only [slab]
        rw [Nat.mul_comm f0]
        ring
      rw [sum_congr rfl elhs]
      simp only [prodL]
      rw [sum_range_mul, sum_comm]
      refine sum_congr rfl (fun b hb => ?_)
      rw [sum_comm]
      refine sum_congr rfl (fun q' hq' => ?_)
      have hq := mem_range.mp hq'
      have hlt := shiftIdx_lt ds (List.replicate ds.length 0) (p % prodL ds) q' (roots_pos ds ws hr')
      simp only [List.length_cons, List.replicate_succ, shiftIdx, digit_div b hq, digit_mod b hq, Nat.add_zero]
      rw [dftNd_cons, digit_div _ hlt, digit_mod _ hlt, sum_mul]
      refine sum_congr rfl (fun f0 _ => ?_)
      rw [Nat.mul_comm f0 ((p / prodL ds + n - b) % n), root_shift hw hn b (p / prodL ds) f0 (mem_range.mp hb)]

/-- shift theorem: the inverse transform of `dftn(y) · Π_a ζ_a⁻¹^(c_a f_a)` is `y` shifted by `c` (cyclically, axis by axis),
    unscaled; `c = 0` is the inversion -/
theorem dftNd_shift (dims : List Nat) (ws : List K) (cs : List Nat) (y : V K) (p : Nat) (hr : Roots dims ws)
    (hl : cs.length = dims.length) (hp : p < prodL dims) :
    dftNd dims (ws.map (·⁻¹)) (fun f => dftNd dims ws y f * phaseNd dims (ws.map (·⁻¹)) cs f) p
      = (prodL dims : K) * y (shiftIdx dims cs p 0) := by
  induction dims, ws, hr using Roots.induction generalizing cs y p with
  | nil =>
      have hp0 : p = 0 := by simpa [prodL] using hp
      subst hp0
      cases cs <;> simp [dftNd, phaseNd, shiftIdx, prodL]
  | cons n ds w ws hw hn hr' ih =>
      obtain ⟨c, cs, rfl⟩ := List.exists_cons_of_length_eq_add_one hl
      have hj' : p % prodL ds < prodL ds := mod_lt_of_lt_mul hp
      have IH := fun (y' : V K) => ih cs y' (p % prodL ds) (by simpa using hl) hj'
      rw [List.map_cons, dftNd_cons]
      have e : ∀ f0 ∈ range n,
          dftNd ds (ws.map (·⁻¹)) (slab (prodL ds) f0 (fun f => dftNd (n :: ds) (w :: ws) y f
              * phaseNd (n :: ds) (w⁻¹ :: ws.map (·⁻¹)) (c :: cs) f)) (p % prodL ds)
            * w⁻¹ ^ (f0 * (p / prodL ds))
          = ∑ b ∈ range n, ((prodL ds : K) * y (b * prodL ds + shiftIdx ds cs (p % prodL ds) 0))
              * (w ^ (b * f0) * w⁻¹ ^ ((c + p / prodL ds) * f0)) := by
        intro f0 _
        have e1 : ∀ r, r < prodL ds → slab (prodL ds) f0 (fun f => dftNd (n :: ds) (w :: ws) y f
              * phaseNd (n :: ds) (w⁻¹ :: ws.map (·⁻¹)) (c :: cs) f) r
            = ∑ b ∈ range n, (w ^ (b * f0) * w⁻¹ ^ (c * f0))
                * (dftNd ds ws (slab (prodL ds) b y) r * phaseNd ds (ws.map (·⁻¹)) cs r) := by
          intro r hr
          simp only [slab, dftNd_lead n ds w ws _ f0 r hr, phaseNd, npow_eq_pow, digit_div f0 hr,
            digit_mod f0 hr, sum_mul]
          exact sum_congr rfl (fun b _ => by ring)
        rw [dftNd_congr ds _ _ _ _ e1 hj', dftNd_lin, sum_mul]
        refine sum_congr rfl (fun b _ => ?_)
        rw [IH, Nat.add_mul c, pow_add, Nat.mul_comm f0]
        simp only [slab]; ring
      rw [sum_congr rfl e, root_sum_select hw hn _ (c + p / prodL ds), Nat.add_comm c, ← Nat.add_mod_right]
      simp only [shiftIdx, prodL, Nat.zero_div, Nat.zero_mod, Nat.sub_zero]
      push_cast; ring

end Nd

section PhaseNd
variable {K : Type} [Field K] {Q : Type} [Field Q] [CharZero Q]

/-- for integer centres the N-d phases of the constructor are the phases `Π_a ζ_a⁻¹^(c_a f_a)` of `C04_circ_nd_fft`
    with `ζ_a = E(−1/n_a) = exp(−2πi/n_a)` -/
theorem shiftPhaseNd_nat {E C : Q → K} (h : ExpContract E C) : ∀ (dims cs : List Nat) (p : Nat),
    (∀ n ∈ dims, 0 < n) → cs.length = dims.length → p < prodL dims →
    shiftPhaseNd E C (fun m => (m : Q)) (cs.map (fun (c : Nat) => -((c : Nat) : Q))) dims p
      = phaseNd dims (dims.map (fun (n : Nat) => (E (-(1 / ((n : Nat) : Q))))⁻¹)) cs p
  | [], [], p, _, _, _ => by simp [shiftPhaseNd, phaseNd]
  | [], _ :: _, _, _, hl, _ => by simp at hl
  | _ :: _, [], _, _, hl, _ => by simp at hl
  | n :: ds, c :: cs, p, hpos, hl, hp => by
      have hn : 0 < n := hpos n (by simp)
      have hds : ∀ m ∈ ds, 0 < m := fun m hm => hpos m (by simp [hm])
      have hf : p / prodL ds < n := div_lt_of_lt_mul hp
      rw [List.map_cons, List.map_cons]
      unfold shiftPhaseNd phaseNd
      rw [npow_eq_pow]
      rw [shiftPhase_nat h c n (p / prodL ds) hn hf,
        shiftPhaseNd_nat h ds cs (p % prodL ds) hds (by simpa using hl) (mod_lt_of_lt_mul hp)]

end PhaseNd

end Scico.LinOps
