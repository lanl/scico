/-
  A function with a quadratic expansion `J (x + h) = J x + 2 re⟪g x, h⟫ + q h`, `q ≥ 0` homogeneous of degree two, is
  minimised exactly where `g` vanishes (real and complex): the lemma behind the normal equations of `lstsq` (C14) and of
  the ADMM x-update (C10), whose terms have such expansions (`quadA`, `quadC`).
-/
import Mathlib.Analysis.InnerProductSpace.Basic
import Mathlib.Tactic.Ring
import Scico.Proofs.Inequalities

namespace Scico.LinSolve
open RCLike

variable {𝕜 V : Type} [RCLike 𝕜] [NormedAddCommGroup V] [InnerProductSpace 𝕜 V]

theorem argmin_iff_grad_zero {E : Type} [NormedAddCommGroup E] [InnerProductSpace 𝕜 E]
    (J : E → ℝ) (g : E → E) (q : E → ℝ) (hq : ∀ h, 0 ≤ q h)
    (hq2 : ∀ (t : ℝ) (h : E), q ((t : 𝕜) • h) = t ^ 2 * q h)
    (hexp : ∀ x h, J (x + h) = J x + 2 * re (inner 𝕜 (g x) h) + q h) (x : E) :
    (∀ x', J x ≤ J x') ↔ g x = 0 := by
  constructor
  · intro hmin
    by_contra hg
    -- along the test direction `h = -t g x` the objective changes by `−2 t ‖g x‖² + t² q (g x)`: not `≥ 0` for small `t > 0`
    have hdir : ∀ t : ℝ, 2 * t * ‖g x‖ ^ 2 ≤ t ^ 2 * q (g x) := fun t => by
      have h1 := hmin (x + ((-t : ℝ) : 𝕜) • g x)
      rw [hexp, hq2, inner_smul_right, inner_self_eq_norm_sq_to_K] at h1
      have : re (((-t : ℝ) : 𝕜) * ((‖g x‖ : ℝ) : 𝕜) ^ 2) = -t * ‖g x‖ ^ 2 := by
        norm_cast
      rw [this] at h1
      linarith
    exact absurd (nonpos_of_forall_small (G := 2 * ‖g x‖ ^ 2) (N := 2 * q (g x)) (by linarith [hq (g x)])
      fun t _ _ => by linarith [hdir t]) (not_le.2 (by positivity))
  · intro hg x'
    have := hexp x (x' - x)
    rw [add_sub_cancel, hg, inner_zero_left, AddMonoidHom.map_zero, mul_zero, add_zero] at this
    linarith [hq (x' - x)]

theorem argmin_sum_iff {ι E : Type} [Fintype ι] [NormedAddCommGroup E] [InnerProductSpace 𝕜 E]
    (J : ι → E → ℝ) (g : ι → E → E) (q : ι → E → ℝ) (c : ι → ℝ) (hc : ∀ i, 0 ≤ c i) (hq : ∀ i h, 0 ≤ q i h)
    (hq2 : ∀ i (t : ℝ) (h : E), q i ((t : 𝕜) • h) = t ^ 2 * q i h)
    (hexp : ∀ i x h, J i (x + h) = J i x + 2 * re (inner 𝕜 (g i x) h) + q i h) (x : E) :
    (∀ x', ∑ i, c i * J i x ≤ ∑ i, c i * J i x') ↔ ∑ i, ((2 * c i : ℝ) : 𝕜) • g i x = 0 := by
  have h2 : ∑ i, ((2 * c i : ℝ) : 𝕜) • g i x = (2 : 𝕜) • ∑ i, ((c i : ℝ) : 𝕜) • g i x := by
    rw [Finset.smul_sum]
    exact Finset.sum_congr rfl fun i _ => by rw [smul_smul, ofReal_mul, ofReal_ofNat]
  rw [h2, smul_eq_zero_iff_right two_ne_zero]
  refine argmin_iff_grad_zero (𝕜 := 𝕜) (fun x => ∑ i, c i * J i x) (fun x => ∑ i, ((c i : ℝ) : 𝕜) • g i x)
    (fun h => ∑ i, c i * q i h) (fun h => Finset.sum_nonneg fun i _ => mul_nonneg (hc i) (hq i h)) ?_ ?_ x
  · intro t h
    rw [Finset.mul_sum]
    exact Finset.sum_congr rfl fun i _ => by rw [hq2, mul_left_comm]
  · intro x h
    simp only [hexp, sum_inner, inner_smul_left, conj_ofReal, map_sum, re_ofReal_mul, mul_add, Finset.sum_add_distrib,
      Finset.mul_sum]
    congr 2
    exact Finset.sum_congr rfl fun i _ => by ring

/-- expansion of a weighted least-squares term `⟪A x − y, W (A x − y)⟫` (the data term of the x-step) -/
theorem quadA {Y : Type} [NormedAddCommGroup Y] [InnerProductSpace 𝕜 Y] (A : V →ₗ[𝕜] Y) (AH : Y →ₗ[𝕜] V) (hA : ∀ x y, inner 𝕜 (A x) y = inner 𝕜 x (AH y))
    (W : Y →ₗ[𝕜] Y) (hWs : ∀ u v, inner 𝕜 (W u) v = inner 𝕜 u (W v)) (y : Y) (x h : V) :
    re (inner 𝕜 (A (x + h) - y) (W (A (x + h) - y))) =
      re (inner 𝕜 (A x - y) (W (A x - y))) + 2 * re (inner 𝕜 (AH (W (A x - y))) h) + re (inner 𝕜 (A h) (W (A h))) := by
  have e : A (x + h) - y = (A x - y) + A h := by rw [LinearMap.map_add]; abel
  set r := A x - y
  rw [e, LinearMap.map_add, inner_add_left, inner_add_right, inner_add_right]
  have h1 : inner 𝕜 r (W (A h)) = inner 𝕜 (AH (W r)) h := by
    rw [← hWs, ← inner_conj_symm, hA, inner_conj_symm]
  have h2 : re (inner 𝕜 (A h) (W r)) = re (inner 𝕜 (AH (W r)) h) := by
    rw [hA, ← inner_conj_symm, conj_re]
  simp only [AddMonoidHom.map_add, h1, h2]
  ring

/-- an unweighted term `‖v − C x‖²` (a splitting term of the x-step, the objective of `lstsq`) is the case `W = id` -/
theorem quadC {U : Type} [NormedAddCommGroup U] [InnerProductSpace 𝕜 U]
    (C : V →ₗ[𝕜] U) (CH : U →ₗ[𝕜] V) (hC : ∀ x y, inner 𝕜 (C x) y = inner 𝕜 x (CH y)) (v : U) (x h : V) :
    ‖v - C (x + h)‖ ^ 2 = ‖v - C x‖ ^ 2 + 2 * re (inner 𝕜 (CH (C x - v)) h) + ‖C h‖ ^ 2 := by
  have := quadA C CH hC LinearMap.id (fun _ _ => rfl) v x h
  simp only [LinearMap.id_apply, inner_self_eq_norm_sq (𝕜 := 𝕜)] at this
  rw [norm_sub_rev v, norm_sub_rev v]
  exact this

theorem quadA_smul {Y : Type} [NormedAddCommGroup Y] [InnerProductSpace 𝕜 Y] (A : V →ₗ[𝕜] Y) (W : Y →ₗ[𝕜] Y) (t : ℝ) (h : V) :
    re (inner 𝕜 (A ((t : 𝕜) • h)) (W (A ((t : 𝕜) • h)))) = t ^ 2 * re (inner 𝕜 (A h) (W (A h))) := by
  rw [LinearMap.map_smul, LinearMap.map_smul, inner_smul_left, inner_smul_right, conj_ofReal, ← mul_assoc, ← ofReal_mul,
    re_ofReal_mul]
  ring

theorem quadC_smul {U : Type} [NormedAddCommGroup U] [InnerProductSpace 𝕜 U] (C : V →ₗ[𝕜] U) (t : ℝ) (h : V) :
    ‖C ((t : 𝕜) • h)‖ ^ 2 = t ^ 2 * ‖C h‖ ^ 2 := by
  rw [LinearMap.map_smul, norm_smul, mul_pow, RCLike.norm_ofReal, sq_abs]

theorem eq_of_re_inner_pos {N : V → V} (hsub : ∀ a b, N (a - b) = N a - N b)
    (hpd : ∀ h, h ≠ 0 → 0 < re (inner 𝕜 h (N h))) {x1 x2 : V} (h : N x1 = N x2) : x1 = x2 := by
  by_contra hne
  have := hpd _ (sub_ne_zero.2 hne)
  rw [hsub, h, sub_self, inner_zero_right, AddMonoidHom.map_zero] at this
  exact lt_irrefl _ this

end Scico.LinSolve
