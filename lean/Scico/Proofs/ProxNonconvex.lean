/-
  Global minimisers for the NON-CONVEX functionals (C02), proved directly:
  * L0 "norm": exact characterisation of the inputs on which the coded hard threshold `|v| ≥ lam`
    is optimal (`isGMin_l0_iff`), and optimality of the threshold `|v|² ≥ 2 lam` (`isGMin_l0_spec`);
  * `SquaredL2AbsLoss`, `SquaredL2SquaredAbsLoss` per entry, in any real inner-product space
    (`ℝ` for real data, `ℂ` for complex data), by radial reduction to a 1-D problem (`isGMin_radial_point`).
-/
import Scico.Proofs.ProxBridge
import Mathlib.Tactic.Linarith
import Mathlib.Tactic.Positivity

set_option linter.unusedSectionVars false

namespace Scico.ProxNonconvex

open Scico.Prox Scico.ProxSpec Scico.ProxBridge

variable {E : Type*} [NormedAddCommGroup E] [InnerProductSpace ℝ E]

open Classical in
/-- the L0 penalty of one entry (real or complex) -/
noncomputable def l0Fn1 (x : E) : ℝ := if x = 0 then 0 else 1

/-- the input condition under which the CODED threshold is optimal -/
def L0Cond (t lam : ℝ) : Prop := (lam ≤ t → 2 * lam ≤ t ^ 2) ∧ (t < lam → t ^ 2 ≤ 2 * lam)

theorem l0Fn1_zero : l0Fn1 (0 : E) = 0 := by unfold l0Fn1; simp
theorem l0Fn1_ne {x : E} (hx : x ≠ 0) : l0Fn1 x = 1 := by unfold l0Fn1; simp [hx]
theorem l0Fn1_le (x : E) : l0Fn1 x ≤ 1 := by unfold l0Fn1; split_ifs <;> norm_num

/-- `0` is a global minimiser of `lam·‖x‖₀ + ½‖x-v‖²` iff `‖v‖² ≤ 2 lam`: the only competitor that matters is `v` -/
theorem isGMin_l0_zero_iff {lam : ℝ} (hlam : 0 < lam) (v : E) :
    IsGMin Set.univ (l0Fn1 (E := E)) lam v 0 ↔ ‖v‖ ^ 2 ≤ 2 * lam := by
  unfold IsGMin
  rw [l0Fn1_zero, zero_sub, norm_neg]
  constructor
  · rintro ⟨_, H⟩
    by_cases hv : v = 0
    · rw [hv, norm_zero]; linear_combination 2 * hlam
    · have := H v trivial
      rw [l0Fn1_ne hv, sub_self, norm_zero] at this
      linear_combination 2 * this
  · refine fun h => ⟨trivial, fun x _ => ?_⟩
    by_cases hx : x = 0
    · rw [hx, l0Fn1_zero, zero_sub, norm_neg]
    · rw [l0Fn1_ne hx]; linear_combination (1 / 2) * h + (1 / 2) * sq_nonneg ‖x - v‖

/-- `v ≠ 0` is a global minimiser iff `2 lam ≤ ‖v‖²`: the only competitor that matters is `0` -/
theorem isGMin_l0_self_iff {lam : ℝ} {v : E} (hv : v ≠ 0) :
    IsGMin Set.univ (l0Fn1 (E := E)) lam v v ↔ 2 * lam ≤ ‖v‖ ^ 2 := by
  unfold IsGMin
  rw [l0Fn1_ne hv, sub_self, norm_zero]
  constructor
  · rintro ⟨_, H⟩
    have := H 0 trivial
    rw [l0Fn1_zero, zero_sub, norm_neg] at this
    linear_combination 2 * this
  · refine fun h => ⟨trivial, fun x _ => ?_⟩
    by_cases hx : x = 0
    · rw [hx, l0Fn1_zero, zero_sub, norm_neg]; linear_combination (1 / 2) * h
    · rw [l0Fn1_ne hx]; linear_combination (1 / 2) * sq_nonneg ‖x - v‖

/-- keeping `v` iff `‖v‖ ≥ lam` (what `L0Norm.prox` does) is a global
    minimiser of `lam·‖x‖₀ + ½‖x-v‖²` iff `L0Cond ‖v‖ lam`. -/
theorem isGMin_l0_iff {lam : ℝ} (hlam : 0 < lam) (v : E) :
    IsGMin Set.univ (l0Fn1 (E := E)) lam v (if ‖v‖ < lam then 0 else v) ↔ L0Cond ‖v‖ lam := by
  unfold L0Cond
  by_cases h : ‖v‖ < lam
  · rw [if_pos h, isGMin_l0_zero_iff hlam]
    exact ⟨fun H => ⟨fun h' => absurd h (not_lt.2 h'), fun _ => H⟩, fun H => H.2 h⟩
  · have hv : v ≠ 0 := fun hv => h (by rw [hv, norm_zero]; exact hlam)
    rw [if_neg h, isGMin_l0_self_iff hv]
    exact ⟨fun H => ⟨fun _ => H, fun h' => absurd h' h⟩, fun H => H.1 (not_lt.1 h)⟩

/-- the threshold `‖v‖² ≥ 2 lam` is always optimal (what the minimiser actually is) -/
theorem isGMin_l0_spec {lam : ℝ} (hlam : 0 < lam) (v : E) :
    IsGMin Set.univ (l0Fn1 (E := E)) lam v (if ‖v‖ ^ 2 < 2 * lam then 0 else v) := by
  by_cases h : ‖v‖ ^ 2 < 2 * lam
  · rw [if_pos h]; exact (isGMin_l0_zero_iff hlam v).2 h.le
  · have hv : v ≠ 0 := fun hv => h (by rw [hv, norm_zero]; linarith only [hlam])
    rw [if_neg h]; exact (isGMin_l0_self_iff hv).2 (not_lt.1 h)

theorem toC_l0ProxC1_eq (z : ℝ × ℝ) (lam : ℝ) : toC (l0ProxC1 z lam) = if ‖toC z‖ < lam then 0 else toC z := by
  unfold l0ProxC1; rw [cabs_eq]; split_ifs <;> rfl

/-- radial functionals `x ↦ φ‖x‖`, no convexity: if `s ≥ 0` minimises the 1-D objective `lam φ ρ + ½(ρ - ‖v‖)²` over `ρ ≥ 0`,
    the point of norm `s` in the direction of `v` (of any unit vector `u` when `v = 0`) is a global minimiser. -/
theorem isGMin_radial_point {φ : ℝ → ℝ} {lam s : ℝ} (hs : 0 ≤ s) (v u : E) (hu : ‖u‖ = 1)
    (h1 : ∀ ρ, 0 ≤ ρ → lam * φ s + 1 / 2 * (s - ‖v‖) ^ 2 ≤ lam * φ ρ + 1 / 2 * (ρ - ‖v‖) ^ 2) :
    IsGMin Set.univ (fun x : E => φ ‖x‖) lam v (if 0 < ‖v‖ then (s / ‖v‖) • v else s • u) := by
  refine isGMin_radial (R := Set.univ) (Set.mem_univ s) ?_ ?_ fun ρ _ => h1 ρ
  · split_ifs with h
    · rw [norm_smul, Real.norm_eq_abs, abs_of_nonneg (div_nonneg hs h.le), div_mul_cancel₀ _ h.ne']
    · rw [norm_smul, Real.norm_eq_abs, abs_of_nonneg hs, hu, mul_one]
  · split_ifs with h
    · rw [real_inner_smul_right, real_inner_self_eq_norm_sq, sq, ← mul_assoc, div_mul_cancel₀ _ h.ne', mul_comm]
    · rw [norm_eq_zero.1 (le_antisymm (not_lt.1 h) (norm_nonneg v)), inner_zero_left, norm_zero, zero_mul]

/-- the 1-D problem of `SquaredL2AbsLoss`, `al = 2 lam a`: `g(ρ) - g(b) = (al+1)/2·(ρ-b)²` at the stationary point
    `b (al+1) = al y + t` -/
theorem sqL2Abs_radial {lam a y t b al : ℝ} (hal : 0 ≤ al) (he : al = 2 * lam * a) (hb : b * (al + 1) = al * y + t) (ρ : ℝ) :
    lam * (a * (y - b) ^ 2) + 1 / 2 * (b - t) ^ 2 ≤ lam * (a * (y - ρ) ^ 2) + 1 / 2 * (ρ - t) ^ 2 := by
  subst he
  have h : 0 ≤ (2 * lam * a + 1) / 2 * (ρ - b) ^ 2 := by positivity
  linear_combination h + (b - ρ) * hb

/-- `SquaredL2AbsLoss` on one entry of a real (`E = ℝ`) or complex (`E = ℂ`) array: `φ(x) = scale·w (y - ‖x‖)²`, `w ≥ 0`, `y ≥ 0`;
    `alpha = 2 lam scale w`, `b = (alpha y + ‖v‖)/(alpha + 1)`; the prox is `b` in the direction of `v`
    (any unit direction `u` when `v = 0`; the code takes `u = 1`). -/
theorem isGMin_sqL2Abs {lam scale w y : ℝ} (hlam : 0 < lam) (hs : 0 ≤ scale) (hw : 0 ≤ w) (hy : 0 ≤ y) (v u : E) (hu : ‖u‖ = 1) :
    IsGMin Set.univ (fun x : E => scale * w * (y - ‖x‖) ^ 2) lam v
      (if 0 < ‖v‖ then ((lam * 2 * scale * w * y + ‖v‖) / (lam * 2 * scale * w + 1) / ‖v‖) • v
        else ((lam * 2 * scale * w * y + ‖v‖) / (lam * 2 * scale * w + 1)) • u) := by
  have hal : 0 ≤ lam * 2 * scale * w := mul_nonneg (mul_nonneg (mul_nonneg hlam.le zero_le_two) hs) hw
  have hd : 0 < lam * 2 * scale * w + 1 := add_pos_of_nonneg_of_pos hal one_pos
  exact isGMin_radial_point (φ := fun ρ => scale * w * (y - ρ) ^ 2)
    (div_nonneg (add_nonneg (mul_nonneg hal hy) (norm_nonneg v)) hd.le) v u hu
    fun ρ _ => sqL2Abs_radial hal (by ring) (div_mul_cancel₀ _ hd.ne') ρ

/-- `sqL2AbsProx1` in the form of `isGMin_sqL2Abs` -/
theorem sqL2AbsProx1_eq (scale w y v lam : ℝ) :
    sqL2AbsProx1 scale w y v lam =
      if 0 < ‖v‖ then ((lam * 2 * scale * w * y + ‖v‖) / (lam * 2 * scale * w + 1) / ‖v‖) • v
      else ((lam * 2 * scale * w * y + ‖v‖) / (lam * 2 * scale * w + 1)) • (1 : ℝ) := by
  unfold sqL2AbsProx1
  simp only [hasAbs_abs, Real.norm_eq_abs, smul_eq_mul, mul_one]

/-- `sqL2AbsProxC1` as a complex number, in the form of `isGMin_sqL2Abs` -/
theorem toC_sqL2AbsProxC1_eq (scale w y : ℝ) (z : ℝ × ℝ) (lam : ℝ) :
    toC (sqL2AbsProxC1 scale w y z lam) =
      if 0 < ‖toC z‖ then ((lam * 2 * scale * w * y + ‖toC z‖) / (lam * 2 * scale * w + 1) / ‖toC z‖) • toC z
      else ((lam * 2 * scale * w * y + ‖toC z‖) / (lam * 2 * scale * w + 1)) • (1 : ℂ) := by
  unfold sqL2AbsProxC1
  simp only [cabs_eq]
  split_ifs
  · rw [toC_cscale]
  · apply Complex.ext <;>
      simp only [toC_re, toC_im, Complex.smul_re, Complex.smul_im, Complex.one_re, Complex.one_im, smul_eq_mul, mul_one, mul_zero]

/-- `sqL2SqAbsProx1` in the form used by `ProxCubic.isGMin_sqL2SqAbs_entry` -/
theorem sqL2SqAbsProx1_eq (scale w v lam r : ℝ) :
    sqL2SqAbsProx1 scale w v lam r =
      if 0 < lam * 4 * scale * w then (if 0 < ‖v‖ then (r / ‖v‖) • v else r • (1 : ℝ)) else v := by
  unfold sqL2SqAbsProx1
  simp only [hasAbs_abs, Real.norm_eq_abs, smul_eq_mul]
  split_ifs
  · rw [mul_div_assoc', div_mul_eq_mul_div]
  · rfl
  · rfl

/-- `sqL2SqAbsProxC1` as a complex number, in the same form -/
theorem toC_sqL2SqAbsProxC1_eq (scale w : ℝ) (z : ℝ × ℝ) (lam r : ℝ) :
    toC (sqL2SqAbsProxC1 scale w z lam r) =
      if 0 < lam * 4 * scale * w then (if 0 < ‖toC z‖ then (r / ‖toC z‖) • toC z else r • (1 : ℂ))
      else toC z := by
  unfold sqL2SqAbsProxC1
  simp only [cabs_eq]
  split_ifs
  · apply Complex.ext <;>
      simp only [toC_re, toC_im, cscale, cdivr, Complex.smul_re, Complex.smul_im, smul_eq_mul] <;> ring
  · apply Complex.ext <;>
      simp only [toC_re, toC_im, cscale, Complex.smul_re, Complex.smul_im, smul_eq_mul, Complex.one_re, Complex.one_im]
  · rfl

/-- the 1-D problem of `SquaredL2SquaredAbsLoss`, `al = 4 lam a > 0`: at a root `r ≥ 0` of `al r³ + (1 - al y) r = t`,
    `g(ρ) - g(r) = (ρ-r)² Q(ρ)` with `Q(ρ) = al/4·(ρ² + 2rρ + 3r²) + (1 - al y)/2`, and `Q ≥ 0` on `ρ ≥ 0`: for `r = 0` by the
    selection hypothesis, for `r > 0` because `r Q(0) = al/4·r³ + t/2 ≥ 0`. -/
theorem sqL2SqAbs_radial {lam a y t r ρ : ℝ} (hal : 0 < 4 * lam * a) (ht : 0 ≤ t) (hr : 0 ≤ r) (hρ : 0 ≤ ρ)
    (hroot : (4 * lam * a) * r ^ 3 + (1 - (4 * lam * a) * y) * r - t = 0) (hsel : r = 0 → (4 * lam * a) * y ≤ 1) :
    lam * (a * (y - r ^ 2) ^ 2) + 1 / 2 * (r - t) ^ 2 ≤ lam * (a * (y - ρ ^ 2) ^ 2) + 1 / 2 * (ρ - t) ^ 2 := by
  have hQ : 0 ≤ (4 * lam * a) / 4 * (ρ ^ 2 + 2 * r * ρ + 3 * r ^ 2) + (1 - (4 * lam * a) * y) / 2 := by
    rcases eq_or_lt_of_le hr with h0 | hpos
    · rw [← h0]
      linear_combination (1 / 2) * hsel h0.symm + (1 / 4) * mul_nonneg hal.le (sq_nonneg ρ)
    · have h2 : 0 ≤ r * (3 * (4 * lam * a) / 4 * r ^ 2 + (1 - (4 * lam * a) * y) / 2) := by
        linear_combination (1 / 4) * mul_nonneg hal.le (pow_nonneg hr 3) + (1 / 2) * ht - (1 / 2) * hroot
      linear_combination nonneg_of_mul_nonneg_right h2 hpos + (1 / 4) * mul_nonneg hal.le (sq_nonneg ρ) +
        (1 / 2) * mul_nonneg hal.le (mul_nonneg hr hρ)
  linear_combination mul_nonneg (sq_nonneg (ρ - r)) hQ + (r - ρ) * hroot

/-- `SquaredL2SquaredAbsLoss` on one entry: `φ(x) = a (y - ‖x‖²)²`, `alpha = 4 lam a > 0`.
    HYPOTHESIS ON THE ROOT (what `_dep_cubic_root` is required to return):
    `r ≥ 0`, `alpha r³ + (1 - alpha y) r - ‖v‖ = 0`, and `r = 0` only if `alpha y ≤ 1`. -/
theorem isGMin_sqL2SqAbs {lam a y r : ℝ} (hlam : 0 < lam) (ha : 0 < a) (v u : E) (hu : ‖u‖ = 1)
    (hr0 : 0 ≤ r) (hroot : (4 * lam * a) * r ^ 3 + (1 - (4 * lam * a) * y) * r - ‖v‖ = 0)
    (hsel : r = 0 → (4 * lam * a) * y ≤ 1) :
    IsGMin Set.univ (fun x : E => a * (y - ‖x‖ ^ 2) ^ 2) lam v (if 0 < ‖v‖ then (r / ‖v‖) • v else r • u) :=
  isGMin_radial_point (φ := fun ρ => a * (y - ρ ^ 2) ^ 2) hr0 v u hu fun _ hρ =>
    sqL2SqAbs_radial (mul_pos (mul_pos zero_lt_four hlam) ha) (norm_nonneg v) hr0 hρ hroot hsel

end Scico.ProxNonconvex
