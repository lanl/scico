/-
  Proofs/StepsOpialPDHG — PDHG in finite dimension, merely convex problem (no strong convexity), linear `C`, `alpha = 1`,
  `τσ‖C‖² < 1`: the iterates `(x_k, z_k)` converge from every start to a saddle point `(x̄, z̄)` — so `minimizer()`
  converges to a minimiser of `f + g∘C` (`C03_pdhg_converges_findim`).  `OpialStep` with the metric `M` of `StepsPDHG` (no
  extra term, no invariant).
-/
import Scico.Proofs.StepsPDHG
import Scico.Proofs.StepsOpial

set_option linter.unusedSectionVars false

namespace Scico.Steps

section iteration
variable {X Z : Type} [NormedAddCommGroup X] [InnerProductSpace ℝ X] [NormedAddCommGroup Z] [InnerProductSpace ℝ Z]

/-- the PDHG iteration on the pair `(x, z)` (linear `C`, `alpha = 1`); `alpha` is written as the literal `1` inside `1 + α` and
    `α • ·`, not simplified to `2 • x⁺ − x`, so that `pdhgT_step` is `pdhgSpecStep` with `alpha = 1` rewritten and nothing else -/
def pdhgT (p : PDHGParams ℝ X Z) (w : X × Z) : X × Z :=
  (p.proxf p.tau (w.1 - p.tau • p.Cadj w.2),
   p.proxgConj p.sigma (w.2 + p.sigma • p.C ((1 + 1 : ℝ) • p.proxf p.tau (w.1 - p.tau • p.Cadj w.2) - (1 : ℝ) • w.1)))

theorem pdhgT_step (p : PDHGParams ℝ X Z) (hlin : p.linear = true) (ha : p.alpha = 1) (s : PDHGState X Z) :
    ((pdhgSpecStep p s).x, (pdhgSpecStep p s).z) = pdhgT p (s.x, s.z) := by
  unfold pdhgSpecStep pdhgT
  simp only [hlin, ha]

theorem pdM_prod_bounds {p : PDHGParams ℝ X Z} {Lc theta : ℝ} (ht : 0 < p.tau) (hs : 0 < p.sigma)
    (R : PDHGRange p Lc theta) (w : X × Z) :
    (1 - theta) * min (1 / p.tau) (1 / p.sigma) * ‖w‖ ^ 2 ≤ pdM p.C p.tau p.sigma w.1 w.2 ∧
    pdM p.C p.tau p.sigma w.1 w.2 ≤ (1 + theta) * (1 / p.tau + 1 / p.sigma) * ‖w‖ ^ 2 := by
  obtain ⟨hl, hu⟩ := pdM_bounds p.C ht hs R.L0 R.th0 R.bd R.ts w.1 w.2
  obtain ⟨wl, wu⟩ := prod_weighted_sq_bounds (one_div_pos.2 ht).le (one_div_pos.2 hs).le w
  rw [one_div_mul_eq_div, one_div_mul_eq_div] at wl wu
  have h1 := mul_le_mul_of_nonneg_left wl (sub_nonneg.2 R.th1.le)
  have h2 := mul_le_mul_of_nonneg_left wu (add_nonneg zero_le_one R.th0)
  constructor <;> linarith

end iteration

variable {X Z : Type} [NormedAddCommGroup X] [InnerProductSpace ℝ X] [FiniteDimensional ℝ X]
  [NormedAddCommGroup Z] [InnerProductSpace ℝ Z] [FiniteDimensional ℝ Z]

/-- hypotheses that do not mention a particular saddle point -/
structure PDHGConvHyp (p : PDHGParams ℝ X Z) (F : Fn X) (Gc : Fn Z) (Lc theta : ℝ) : Prop where
  lin : p.linear = true
  alpha1 : p.alpha = 1
  tau : 0 < p.tau
  sigma : 0 < p.sigma
  add : ∀ x y, p.C (x + y) = p.C x + p.C y
  adj : ∀ w x, ⟪p.Cadj w, x⟫ = ⟪w, p.C x⟫
  proxf : IsProx F p.proxf
  proxgc : IsProx Gc p.proxgConj
  range : PDHGRange p Lc theta

/-- a saddle point: `−Cᵀz ∈ ∂f(x)`, `Cx ∈ ∂g*(z)` -/
def IsSaddle (p : PDHGParams ℝ X Z) (F : Fn X) (Gc : Fn Z) (w : X × Z) : Prop :=
  F.Subgrad w.1 (-(p.Cadj w.2)) ∧ Gc.Subgrad w.2 (p.C w.1)

theorem PDHGConvHyp.hyp {p : PDHGParams ℝ X Z} {F : Fn X} {Gc : Fn Z} {Lc theta : ℝ} (H : PDHGConvHyp p F Gc Lc theta)
    {w : X × Z} (hw : IsSaddle p F Gc w) : PDHGHyp p F w.1 w.2 :=
  ⟨H.lin, H.alpha1, H.tau, H.sigma, H.add, H.adj, H.proxf, hw.1, pdhg_dual_of_conj p Gc H.proxgc w.1 w.2 hw.2⟩

/-- fixed points of the iteration are exactly the saddle points: each component is a fixed proximal step -/
theorem pdhgT_fixed_iff {p : PDHGParams ℝ X Z} {F : Fn X} {Gc : Fn Z} {Lc theta : ℝ} (H : PDHGConvHyp p F Gc Lc theta)
    (w : X × Z) : pdhgT p w = w ↔ IsSaddle p F Gc w := by
  have hx : p.proxf p.tau (w.1 - p.tau • p.Cadj w.2) = w.1 ↔ F.Subgrad w.1 (-(p.Cadj w.2)) := by
    rw [sub_eq_add_neg, ← smul_neg]
    exact H.proxf.fixed_iff H.tau
  have hz : p.proxgConj p.sigma (w.2 + p.sigma • p.C w.1) = w.2 ↔ Gc.Subgrad w.2 (p.C w.1) :=
    H.proxgc.fixed_iff H.sigma
  rw [IsSaddle, ← hx, ← hz, Prod.ext_iff]
  refine and_congr_right fun h1 => ?_
  change p.proxgConj p.sigma (w.2 + p.sigma • p.C ((1 + 1 : ℝ) • p.proxf p.tau (w.1 - p.tau • p.Cadj w.2) - (1 : ℝ) • w.1))
    = w.2 ↔ _
  rw [show p.proxf p.tau (w.1 - p.tau • p.Cadj w.2) = w.1 from h1, add_smul, one_smul, add_sub_cancel_right]

theorem pdhgT_continuous {p : PDHGParams ℝ X Z} {F : Fn X} {Gc : Fn Z} {Lc theta : ℝ} (H : PDHGConvHyp p F Gc Lc theta) :
    Continuous (pdhgT p) := by
  have hC := continuous_of_sub_of_bound (sub_of_adj H.adj) H.range.L0 H.range.bd
  have hCa := adjoint_continuous H.adj H.range.L0 H.range.bd
  have hpf := H.proxf.continuous H.tau
  have hpg := H.proxgc.continuous H.sigma
  unfold pdhgT
  fun_prop

/-- PDHG as an instance of `OpialStep`: `pdhg_fejer_step` is the step inequality, its second term the dissipation -/
theorem pdhg_opialStep {p : PDHGParams ℝ X Z} {F : Fn X} {Gc : Fn Z} {Lc theta : ℝ} (H : PDHGConvHyp p F Gc Lc theta) :
    OpialStep (pdhgSpecStep p) (fun s => (s.x, s.z)) (pdhgT p) (fun _ => True)
      (fun v => pdM p.C p.tau p.sigma v.1 v.2) (fun _ => 0)
      (fun s => pdM p.C p.tau p.sigma (s.x - (pdhgSpecStep p s).x) (s.z - (pdhgSpecStep p s).z)) := by
  have hc : 0 < (1 - theta) * min (1 / p.tau) (1 / p.sigma) :=
    mul_pos (sub_pos.2 H.range.th1) (lt_min (one_div_pos.2 H.tau) (one_div_pos.2 H.sigma))
  exact .of_fejer (pdhgT_continuous H) (fun _ _ => trivial) (fun s _ => pdhgT_step p H.lin H.alpha1 s)
    ⟨_, hc, fun v => (pdM_prod_bounds H.tau H.sigma H.range v).1⟩ ⟨_, fun v => (pdM_prod_bounds H.tau H.sigma H.range v).2⟩
    (fun ws hws s _ => pdhg_fejer_step p F ws.1 ws.2 (H.hyp ((pdhgT_fixed_iff H ws).1 hws)) s)
    ⟨_, hc, fun s _ => by
      rw [norm_sub_rev]
      exact (pdM_prod_bounds H.tau H.sigma H.range ((s.x, s.z) - ((pdhgSpecStep p s).x, (pdhgSpecStep p s).z))).1⟩

end Scico.Steps
