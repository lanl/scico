/-
  Convergence of power iteration under a spectral gap (C17: "converges as the iteration budget grows when the largest
  singular value is separated from the rest").  `B` is diagonal in an orthonormal basis `b` (`IsDiagIn`; for a Gram operator
  on a finite-dimensional space the spectral theorem provides one, see `Props/C17.lean`), the largest eigenvalue `lam1 > 0`
  is attained on the index set `D` and `0 ≤ lam i ≤ r · lam1` for `i ∉ D` (`Dominant`; multiplicity allowed: a complex
  operator seen as a real one has every eigenvalue twice).  No powers of `B` are needed: the invariant
  `head v > 0 ∧ tail v ≤ q · head v` is mapped by one iteration `v ↦ Bv/‖Bv‖` to the same statement with `r²·q` (`tail_le_head_nxt`)
  and implies `lam1 − lam1·q ≤ rq B v ≤ lam1` (`rq_bounds`).
-/
import Scico.Proofs.Estim
import Scico.Proofs.EstimRealLists
import Mathlib.Analysis.InnerProductSpace.PiL2
import Mathlib.Analysis.SpecificLimits.Basic

set_option linter.unusedSectionVars false

namespace Scico.Estim

variable {E : Type} [NormedAddCommGroup E] [InnerProductSpace ℝ E]
variable {ι : Type} [Fintype ι]

/-- `b` is an eigenbasis of `B` with eigenvalues `lam` -/
def IsDiagIn (B : E →L[ℝ] E) (b : OrthonormalBasis ι ℝ E) (lam : ι → ℝ) : Prop :=
  ∀ i, B (b i) = lam i • b i

/-- the coordinate of `v` along `b i` -/
noncomputable def co (b : OrthonormalBasis ι ℝ E) (v : E) (i : ι) : ℝ := inner ℝ (b i) v

theorem co_apply {B : E →L[ℝ] E} {b : OrthonormalBasis ι ℝ E} {lam : ι → ℝ} (hB : IsDiagIn B b lam)
    (v : E) (i : ι) : co b (B v) i = lam i * co b v i := by
  unfold co
  -- expand `v` in the basis: `Bv = Σ ⟨bⱼ,v⟩ lamⱼ bⱼ`, whose `i`-th coordinate is read off by orthonormality
  have hv : B v = ∑ j, (inner ℝ (b j) v * lam j) • b j := by
    conv_lhs => rw [← b.sum_repr' v, map_sum]
    exact Finset.sum_congr rfl fun j _ => by rw [map_smul, hB j, smul_smul]
  rw [hv, b.orthonormal.inner_right_fintype, mul_comm]

theorem co_smul (b : OrthonormalBasis ι ℝ E) (s : ℝ) (v : E) (i : ι) : co b (s • v) i = s * co b v i :=
  inner_smul_right ..

/-- Parseval -/
theorem inner_eq_sum_co (b : OrthonormalBasis ι ℝ E) (v w : E) : inner ℝ v w = ∑ i, co b v i * co b w i := by
  rw [← b.sum_inner_mul_inner v w]
  exact Finset.sum_congr rfl fun i _ => by unfold co; rw [real_inner_comm]

theorem norm_sq_eq_sum_co (b : OrthonormalBasis ι ℝ E) (v : E) : ‖v‖ * ‖v‖ = ∑ i, co b v i * co b v i := by
  rw [← real_inner_self_eq_norm_mul_norm, inner_eq_sum_co b]

/-- squared norm of the component of `v` in the span of the `b i`, `i ∈ D` -/
noncomputable def head (b : OrthonormalBasis ι ℝ E) (D : Finset ι) (v : E) : ℝ := ∑ i ∈ D, co b v i * co b v i

/-- squared norm of the component of `v` orthogonal to it -/
noncomputable def tail (b : OrthonormalBasis ι ℝ E) (D : Finset ι) (v : E) : ℝ := ‖v‖ * ‖v‖ - head b D v

theorem head_eq_sum_sq (b : OrthonormalBasis ι ℝ E) (D : Finset ι) (v : E) :
    head b D v = ∑ i ∈ D, inner ℝ (b i) v ^ 2 :=
  Finset.sum_congr rfl fun _ _ => (sq _).symm

theorem tail_eq_sub (b : OrthonormalBasis ι ℝ E) (D : Finset ι) (v : E) :
    tail b D v = ‖v‖ ^ 2 - ∑ i ∈ D, inner ℝ (b i) v ^ 2 := by
  rw [tail, head_eq_sum_sq, sq]

theorem head_zero (b : OrthonormalBasis ι ℝ E) (D : Finset ι) : head b D (0 : E) = 0 :=
  Finset.sum_eq_zero fun i _ => by unfold co; rw [inner_zero_right, mul_zero]

variable [DecidableEq ι]

theorem tail_eq_sum (b : OrthonormalBasis ι ℝ E) (D : Finset ι) (v : E) :
    tail b D v = ∑ i ∈ Dᶜ, co b v i * co b v i := by
  unfold tail head
  rw [norm_sq_eq_sum_co b, ← Finset.sum_add_sum_compl D (fun i => co b v i * co b v i), add_sub_cancel_left]

theorem head_nonneg (b : OrthonormalBasis ι ℝ E) (D : Finset ι) (v : E) : 0 ≤ head b D v :=
  Finset.sum_nonneg (fun _ _ => mul_self_nonneg _)

theorem tail_nonneg (b : OrthonormalBasis ι ℝ E) (D : Finset ι) (v : E) : 0 ≤ tail b D v := by
  rw [tail_eq_sum]
  exact Finset.sum_nonneg (fun i _ => mul_self_nonneg _)

/-- Bessel -/
theorem head_le_norm_sq (b : OrthonormalBasis ι ℝ E) (D : Finset ι) (v : E) : head b D v ≤ ‖v‖ * ‖v‖ :=
  sub_nonneg.1 (tail_nonneg b D v)

theorem head_smul (b : OrthonormalBasis ι ℝ E) (D : Finset ι) (s : ℝ) (v : E) :
    head b D (s • v) = s * s * head b D v := by
  unfold head
  rw [Finset.mul_sum]
  exact Finset.sum_congr rfl fun i _ => by rw [co_smul, mul_mul_mul_comm]

theorem tail_smul (b : OrthonormalBasis ι ℝ E) (D : Finset ι) (s : ℝ) (v : E) :
    tail b D (s • v) = s * s * tail b D v := by
  unfold tail
  rw [head_smul, norm_smul, mul_mul_mul_comm, Real.norm_eq_abs, abs_mul_abs_self, mul_sub]

theorem head_singleton (b : OrthonormalBasis ι ℝ E) (i0 : ι) (v : E) :
    head b {i0} v = co b v i0 * co b v i0 := by
  unfold head; rw [Finset.sum_singleton]

theorem ne_zero_of_head_pos {b : OrthonormalBasis ι ℝ E} {D : Finset ι} {v : E} (hc : 0 < head b D v) : v ≠ 0 := by
  rintro rfl
  rw [head_zero] at hc
  exact lt_irrefl _ hc

section gap

variable {B : E →L[ℝ] E} {b : OrthonormalBasis ι ℝ E} {lam : ι → ℝ} {D : Finset ι} {lam1 r : ℝ}

/-- the dominance hypothesis: the eigenvalue `lam1 > 0` is attained on `D` (the dominant eigenspace) and every
    other eigenvalue lies in `[0, r·lam1]` -/
structure Dominant (lam : ι → ℝ) (D : Finset ι) (lam1 r : ℝ) : Prop where
  pos : 0 < lam1
  r_nonneg : 0 ≤ r
  r_le_one : r ≤ 1
  top : ∀ i, i ∈ D → lam i = lam1
  others : ∀ i, i ∉ D → 0 ≤ lam i ∧ lam i ≤ r * lam1

theorem Dominant.le_top (hd : Dominant lam D lam1 r) (i : ι) : lam i ≤ lam1 := by
  by_cases hi : i ∈ D
  · exact (hd.top i hi).le
  · exact (hd.others i hi).2.trans (mul_le_of_le_one_left hd.pos.le hd.r_le_one)

theorem head_apply (hB : IsDiagIn B b lam) (hd : Dominant lam D lam1 r) (v : E) :
    head b D (B v) = lam1 * lam1 * head b D v := by
  unfold head
  rw [Finset.mul_sum]
  exact Finset.sum_congr rfl fun i hi => by rw [co_apply hB, hd.top i hi, mul_mul_mul_comm]

theorem apply_ne_zero_of_head (hB : IsDiagIn B b lam) (hd : Dominant lam D lam1 r) (v : E) (hc : 0 < head b D v) :
    B v ≠ 0 := by
  apply ne_zero_of_head_pos (b := b) (D := D)
  rw [head_apply hB hd]
  exact mul_pos (mul_pos hd.pos hd.pos) hc

theorem tail_apply_le (hB : IsDiagIn B b lam) (hd : Dominant lam D lam1 r) (v : E) :
    tail b D (B v) ≤ (r * lam1) * (r * lam1) * tail b D v := by
  rw [tail_eq_sum, tail_eq_sum, Finset.mul_sum]
  apply Finset.sum_le_sum
  intro i hi
  obtain ⟨h0, h1⟩ := hd.others i (Finset.mem_compl.1 hi)
  rw [co_apply hB, mul_mul_mul_comm]
  exact mul_le_mul_of_nonneg_right (mul_self_le_mul_self h0 h1) (mul_self_nonneg _)

theorem tail_le_head_nxt (hB : IsDiagIn B b lam) (hd : Dominant lam D lam1 r) (v : E) (hc : 0 < head b D v) (q : ℝ)
    (hq : tail b D v ≤ q * head b D v) :
    0 < head b D (nxt B v) ∧ tail b D (nxt B v) ≤ (r ^ 2 * q) * head b D (nxt B v) := by
  have hn : 0 < ‖B v‖⁻¹ := inv_pos.2 (norm_pos_iff.2 (apply_ne_zero_of_head hB hd v hc))
  unfold nxt
  rw [head_smul, tail_smul, head_apply hB hd]
  refine ⟨mul_pos (mul_pos hn hn) (mul_pos (mul_pos hd.pos hd.pos) hc), ?_⟩
  calc ‖B v‖⁻¹ * ‖B v‖⁻¹ * tail b D (B v)
      ≤ ‖B v‖⁻¹ * ‖B v‖⁻¹ * ((r * lam1) * (r * lam1) * (q * head b D v)) :=
        mul_le_mul_of_nonneg_left
          ((tail_apply_le hB hd v).trans (mul_le_mul_of_nonneg_left hq (mul_self_nonneg _))) (mul_self_nonneg _)
    _ = r ^ 2 * q * (‖B v‖⁻¹ * ‖B v‖⁻¹ * (lam1 * lam1 * head b D v)) := by ring

theorem inner_apply_eq_sum (hB : IsDiagIn B b lam) (v : E) :
    inner ℝ v (B v) = ∑ i, lam i * (co b v i * co b v i) := by
  rw [inner_eq_sum_co b]
  exact Finset.sum_congr rfl fun i _ => by rw [co_apply hB, mul_left_comm]

/-- `H`, `T`: head and tail of `v`, `S = Σ_{i∉D} lamᵢ cᵢ²`: the quotient `(lam1·H + S)/(H + T)` lies in
    `[lam1·(1 − q), lam1]` when `0 ≤ S ≤ lam1·T` and `T ≤ q·H` -/
theorem quotient_bounds {lam1 q H T S : ℝ} (hl : 0 < lam1) (hH : 0 < H) (hT : 0 ≤ T) (hq : T ≤ q * H)
    (hS0 : 0 ≤ S) (hS : S ≤ lam1 * T) :
    (lam1 * H + S) / (H + T) ≤ lam1 ∧ lam1 - lam1 * q ≤ (lam1 * H + S) / (H + T) := by
  have hN : 0 < H + T := add_pos_of_pos_of_nonneg hH hT
  have hq0 : 0 ≤ q := nonneg_of_mul_nonneg_left (hT.trans hq) hH
  have h1 : lam1 * T ≤ lam1 * (q * H) := mul_le_mul_of_nonneg_left hq hl.le
  have h2 : 0 ≤ lam1 * q * T := mul_nonneg (mul_nonneg hl.le hq0) hT
  rw [div_le_iff₀ hN, le_div_iff₀ hN]
  constructor <;> linarith

theorem rq_bounds (hB : IsDiagIn B b lam) (hd : Dominant lam D lam1 r) (v : E) (hc : 0 < head b D v) (q : ℝ)
    (hq : tail b D v ≤ q * head b D v) :
    rq B v ≤ lam1 ∧ lam1 - lam1 * q ≤ rq B v := by
  have hN : ‖v‖ * ‖v‖ = head b D v + tail b D v := (add_sub_cancel _ _).symm
  have hnum : inner ℝ v (B v) = lam1 * head b D v + ∑ i ∈ Dᶜ, lam i * (co b v i * co b v i) := by
    rw [inner_apply_eq_sum hB, ← Finset.sum_add_sum_compl D, head, Finset.mul_sum]
    exact congrArg (· + _) (Finset.sum_congr rfl fun i hi => by rw [hd.top i hi])
  unfold rq
  rw [hnum, hN]
  refine quotient_bounds hd.pos hc (tail_nonneg b D v) hq ?_ ?_
  · exact Finset.sum_nonneg fun i hi => mul_nonneg (hd.others i (Finset.mem_compl.1 hi)).1 (mul_self_nonneg _)
  · rw [tail_eq_sum, Finset.mul_sum]
    exact Finset.sum_le_sum fun i _ => mul_le_mul_of_nonneg_right (hd.le_top i) (mul_self_nonneg _)

theorem powerLoop_gap (hB : IsDiagIn B b lam) (hd : Dominant lam D lam1 r) :
    ∀ (k : Nat) (mu : Option ℝ) (v : E) (q : ℝ), 0 < head b D v → tail b D v ≤ q * head b D v →
      ∃ m w, powerLoop (opsOf B) (k + 1) mu v = (some m, w) ∧
        m ≤ lam1 ∧ lam1 - lam1 * (r ^ (2 * k) * q) ≤ m ∧
        ‖w‖ = 1 ∧ tail b D w ≤ r ^ (2 * (k + 1)) * q * head b D w := by
  intro k
  induction k with
  | zero =>
    intro mu v q hc hq
    have hBv := apply_ne_zero_of_head hB hd v hc
    obtain ⟨h1, h2⟩ := rq_bounds hB hd v hc q hq
    refine ⟨rq B v, nxt B v, powerLoop_succ_ne B 0 mu v hBv, h1, ?_, norm_nxt B v hBv,
      (tail_le_head_nxt hB hd v hc q hq).2⟩
    rwa [pow_zero, one_mul]
  | succ k ih =>
    intro mu v q hc hq
    obtain ⟨hc', hq'⟩ := tail_le_head_nxt hB hd v hc q hq
    obtain ⟨m, w, hm, h1, h2, h3, h4⟩ := ih (some (rq B v)) (nxt B v) (r ^ 2 * q) hc' hq'
    have e : ∀ n, r ^ (2 * n) * (r ^ 2 * q) = r ^ (2 * (n + 1)) * q := fun n => by rw [Nat.mul_succ, pow_add, mul_assoc]
    rw [e] at h2 h4
    exact ⟨m, w, (powerLoop_succ_ne B (k + 1) mu v (apply_ne_zero_of_head hB hd v hc)).trans hm, h1, h2, h3, h4⟩

theorem powerIteration_gap (hB : IsDiagIn B b lam) (hd : Dominant lam D lam1 r) (v0 : E)
    (hc0 : 0 < ∑ i ∈ D, inner ℝ (b i) v0 ^ 2) (k : Nat) (mu : ℝ) (v : E)
    (h : powerIteration (opsOf B) (k + 1) v0 = .ok (mu, v)) :
    mu ≤ lam1 ∧
      lam1 - lam1 * (r ^ (2 * k) * ((‖v0‖ ^ 2 - ∑ i ∈ D, inner ℝ (b i) v0 ^ 2) / ∑ i ∈ D, inner ℝ (b i) v0 ^ 2)) ≤ mu ∧
      ‖v‖ = 1 ∧
      ‖v‖ ^ 2 - ∑ i ∈ D, inner ℝ (b i) v ^ 2 ≤
        r ^ (2 * (k + 1)) * ((‖v0‖ ^ 2 - ∑ i ∈ D, inner ℝ (b i) v0 ^ 2) / ∑ i ∈ D, inner ℝ (b i) v0 ^ 2) := by
  rw [← head_eq_sum_sq] at hc0
  rw [← tail_eq_sub, ← tail_eq_sub, ← head_eq_sum_sq]
  have hn : 0 < ‖v0‖⁻¹ := inv_pos.2 (norm_pos_iff.2 (ne_zero_of_head_pos hc0))
  -- normalising the start changes neither the hypothesis nor the ratio
  have hc : 0 < head b D (‖v0‖⁻¹ • v0) := by
    rw [head_smul]
    exact mul_pos (mul_pos hn hn) hc0
  have hq : tail b D (‖v0‖⁻¹ • v0) ≤ tail b D v0 / head b D v0 * head b D (‖v0‖⁻¹ • v0) := by
    rw [head_smul, tail_smul, mul_left_comm, div_mul_cancel₀ _ hc0.ne']
  obtain ⟨m, w, hm, h1, h2, h3, h5⟩ := powerLoop_gap hB hd k none (‖v0‖⁻¹ • v0) _ hc hq
  obtain ⟨hm1, rfl⟩ := Prod.mk.inj (hm.symm.trans (powerIteration_eq_ok.1 h).2)
  obtain rfl := Option.some.inj hm1
  have hC : 0 ≤ r ^ (2 * (k + 1)) * (tail b D v0 / head b D v0) :=
    mul_nonneg (pow_nonneg hd.r_nonneg _) (div_nonneg (tail_nonneg b D v0) hc0.le)
  have hle : head b D w ≤ 1 := (head_le_norm_sq b D w).trans_eq (by rw [h3, mul_one])
  exact ⟨h1, h2, h3, h5.trans (mul_le_of_le_one_right hC hle)⟩

theorem tendsto_of_geometric_gap {a : ℕ → ℝ} {L r C : ℝ} (hr0 : 0 ≤ r) (hr : r < 1)
    (h : ∀ k, a k ≤ L ∧ L - L * (r ^ (2 * k) * C) ≤ a k) : Filter.Tendsto a Filter.atTop (nhds L) := by
  have hlow : Filter.Tendsto (fun k : ℕ => L - L * (r ^ (2 * k) * C)) Filter.atTop (nhds L) := by
    have h1 : Filter.Tendsto (fun k : ℕ => L * ((r ^ 2) ^ k * C)) Filter.atTop (nhds (L * (0 * C))) :=
      ((tendsto_pow_atTop_nhds_zero_of_lt_one (sq_nonneg r) (pow_lt_one₀ hr0 hr two_ne_zero)).mul_const C).const_mul L
    rw [zero_mul, mul_zero] at h1
    simp only [← pow_mul] at h1
    simpa only [sub_zero] using (tendsto_const_nhds (x := L)).sub h1
  exact tendsto_of_tendsto_of_tendsto_of_le_of_le hlow tendsto_const_nhds (fun k => (h k).2) (fun k => (h k).1)

end gap

theorem operatorNorm_ok {V : Type} (ops : VOps V ℝ) (m : Nat) (v0 : V) (c : ℝ)
    (h : operatorNorm ops m v0 = .ok c) : ∃ mu v, powerIteration ops m v0 = .ok (mu, v) ∧ c = Real.sqrt mu := by
  unfold operatorNorm at h
  split at h
  · rename_i mu v hp
    exact ⟨mu, v, hp, (Except.ok.inj h).symm⟩
  · cases h

/-! ### Gram operators: the dominant eigenvalue is `‖A‖²`, so `operator_norm` converges to `‖A‖₂` -/

section gramconv

variable {F : Type} [NormedAddCommGroup F] [InnerProductSpace ℝ F]
variable {B : E →L[ℝ] E} {A : E →L[ℝ] F} {b : OrthonormalBasis ι ℝ E} {lam : ι → ℝ} {D : Finset ι} {lam1 r : ℝ}

theorem IsGram.eigen_eq (hG : IsGram B A) (hB : IsDiagIn B b lam) (i : ι) : lam i = ‖A (b i)‖ ^ 2 := by
  have h := hG.inner_self (b i)
  rwa [hB i, inner_smul_right, b.inner_eq_one, mul_one] at h

theorem IsGram.eigen_nonneg (hG : IsGram B A) (hB : IsDiagIn B b lam) (i : ι) : 0 ≤ lam i := by
  rw [hG.eigen_eq hB i]; exact sq_nonneg _

/-- for a Gram operator the dominance hypothesis only needs the upper bounds -/
theorem IsGram.dominant (hG : IsGram B A) (hB : IsDiagIn B b lam) (hpos : 0 < lam1) (hr0 : 0 ≤ r) (hr1 : r ≤ 1)
    (htop : ∀ i, i ∈ D → lam i = lam1) (h : ∀ i, i ∉ D → lam i ≤ r * lam1) : Dominant lam D lam1 r :=
  ⟨hpos, hr0, hr1, htop, fun i hi => ⟨hG.eigen_nonneg hB i, h i hi⟩⟩

theorem IsGram.norm_sq_apply_bounds (hG : IsGram B A) (hB : IsDiagIn B b lam) (c : ℝ) (v : E) :
    ((∀ i, lam i ≤ c) → ‖A v‖ ^ 2 ≤ c * (‖v‖ * ‖v‖)) ∧ ((∀ i, c ≤ lam i) → c * (‖v‖ * ‖v‖) ≤ ‖A v‖ ^ 2) := by
  rw [← hG.inner_self v, inner_apply_eq_sum hB, norm_sq_eq_sum_co b, Finset.mul_sum]
  exact ⟨fun h => Finset.sum_le_sum fun i _ => mul_le_mul_of_nonneg_right (h i) (mul_self_nonneg _),
    fun h => Finset.sum_le_sum fun i _ => mul_le_mul_of_nonneg_right (h i) (mul_self_nonneg _)⟩

theorem IsGram.opNorm_eq_sqrt (hG : IsGram B A) (hB : IsDiagIn B b lam) (i0 : ι) (hmax : ∀ i, lam i ≤ lam i0) :
    ‖A‖ = Real.sqrt (lam i0) := by
  apply le_antisymm
  · refine ContinuousLinearMap.opNorm_le_bound _ (Real.sqrt_nonneg _) fun v => ?_
    have h2 : ‖A v‖ ^ 2 ≤ (Real.sqrt (lam i0) * ‖v‖) ^ 2 := by
      rw [mul_pow, Real.sq_sqrt (hG.eigen_nonneg hB i0), sq ‖v‖]
      exact (hG.norm_sq_apply_bounds hB _ v).1 hmax
    exact (abs_le_of_sq_le_sq' h2 (mul_nonneg (Real.sqrt_nonneg _) (norm_nonneg _))).2
  · rw [hG.eigen_eq hB i0, Real.sqrt_sq (norm_nonneg _)]
    simpa only [b.orthonormal.1 i0, mul_one] using A.le_opNorm (b i0)

theorem IsGram.sigma_min (hG : IsGram B A) (hB : IsDiagIn B b lam) (i0 : ι) (hmin : ∀ i, lam i0 ≤ lam i) :
    (∀ x : E, Real.sqrt (lam i0) * ‖x‖ ≤ ‖A x‖) ∧ ‖A (b i0)‖ = Real.sqrt (lam i0) * ‖b i0‖ := by
  constructor
  · intro v
    have h2 : (Real.sqrt (lam i0) * ‖v‖) ^ 2 ≤ ‖A v‖ ^ 2 := by
      rw [mul_pow, Real.sq_sqrt (hG.eigen_nonneg hB i0), sq ‖v‖]
      exact (hG.norm_sq_apply_bounds hB _ v).2 hmin
    exact (abs_le_of_sq_le_sq' h2 (norm_nonneg _)).2
  · rw [b.orthonormal.1 i0, mul_one, hG.eigen_eq hB i0, Real.sqrt_sq (norm_nonneg _)]

theorem IsGram.top_eq_opNorm_sq (hG : IsGram B A) (hB : IsDiagIn B b lam) (hd : Dominant lam D lam1 r) (hD : D.Nonempty) :
    lam1 = ‖A‖ ^ 2 := by
  obtain ⟨i0, hi0⟩ := hD
  have hn : ‖A‖ = Real.sqrt lam1 :=
    hd.top i0 hi0 ▸ hG.opNorm_eq_sqrt hB i0 fun i => (hd.le_top i).trans (hd.top i0 hi0).ge
  rw [hn, Real.sq_sqrt hd.pos.le]

theorem IsGram.operatorNorm_gap (hG : IsGram B A) (hB : IsDiagIn B b lam) (hd : Dominant lam D lam1 r) (v0 : E)
    (hc0 : 0 < ∑ i ∈ D, inner ℝ (b i) v0 ^ 2) (k : Nat) (c : ℝ) (h : operatorNorm (opsOf B) (k + 1) v0 = .ok c) :
    0 ≤ c ∧ c ^ 2 ≤ ‖A‖ ^ 2 ∧
      ‖A‖ ^ 2 - ‖A‖ ^ 2 * (r ^ (2 * k) * ((‖v0‖ ^ 2 - ∑ i ∈ D, inner ℝ (b i) v0 ^ 2) / ∑ i ∈ D, inner ℝ (b i) v0 ^ 2)) ≤
        c ^ 2 := by
  obtain ⟨mu, v, hmu, rfl⟩ := operatorNorm_ok _ _ _ _ h
  have hv0 : v0 ≠ 0 := ne_zero_of_head_pos (hc0.trans_eq (head_eq_sum_sq b D v0).symm)
  have hmu0 : 0 ≤ mu := powerIteration_pred B (0 ≤ ·) le_rfl (fun w _ => hG.rq_nonneg w) hv0 hmu
  obtain ⟨h1, h2, -⟩ := powerIteration_gap hB hd v0 hc0 k mu v hmu
  rw [Real.sq_sqrt hmu0, ← hG.top_eq_opNorm_sq hB hd (Finset.nonempty_of_sum_ne_zero hc0.ne')]
  exact ⟨Real.sqrt_nonneg _, h1, h2⟩

end gramconv

/-! ### the hypotheses are satisfiable for every spectrum: the operator `Σ lamᵢ ⟨bᵢ,·⟩ bᵢ` -/

section exist

noncomputable def diagOp (b : OrthonormalBasis ι ℝ E) (lam : ι → ℝ) : E →L[ℝ] E :=
  ∑ i, lam i • ((innerSL ℝ (b i)).smulRight (b i))

theorem diagOp_apply (b : OrthonormalBasis ι ℝ E) (lam : ι → ℝ) (v : E) :
    diagOp b lam v = ∑ i, (lam i * co b v i) • b i := by
  unfold diagOp co
  rw [_root_.sum_apply]
  exact Finset.sum_congr rfl fun i _ => smul_smul _ _ _

theorem isDiagIn_diagOp (b : OrthonormalBasis ι ℝ E) (lam : ι → ℝ) : IsDiagIn (diagOp b lam) b lam := by
  intro j
  rw [diagOp_apply, Fintype.sum_eq_single j]
  · unfold co; rw [b.inner_eq_one, mul_one]
  · intro i hi
    unfold co; rw [b.inner_eq_zero hi, mul_zero, zero_smul]

theorem isGram_diagOp (b : OrthonormalBasis ι ℝ E) (lam : ι → ℝ) (h : ∀ i, 0 ≤ lam i) :
    IsGram (diagOp b lam) (diagOp b (fun i => Real.sqrt (lam i))) := by
  intro x y
  rw [inner_eq_sum_co b, inner_eq_sum_co b]
  refine Finset.sum_congr rfl fun i _ => ?_
  rw [co_apply (isDiagIn_diagOp b lam), co_apply (isDiagIn_diagOp b _), co_apply (isDiagIn_diagOp b _),
    mul_mul_mul_comm, Real.mul_self_sqrt (h i), mul_assoc]

end exist

end Scico.Estim
