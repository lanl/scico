/-
  `jax.jit` in `Scico.Model.Cache`: invariant of the slots `_eval`, `_adj`, `_gram` of a linear operator under
  `jit()` (§6), and of the traces an object caches per input signature (§7).
-/
import Scico.Model.Cache
import Mathlib.Data.List.Basic

namespace Scico.Cache

/-- invariant of the slots after a history containing `n` calls of `jit()` -/
structure LinOpState.Inv (v : LinOpVariant) (n : Nat) (s : LinOpState) : Prop where
  ev : s.evalDepth = n
  adjOk : s.adj = none ∨ s.adj = some (specAdjSrc v, n)
  gramOk : s.gram = none ∨ s.gram = some n
  jitted : 0 < n → s.adj ≠ none ∧ s.gram ≠ none
  given : v ≠ .plain → s.adj ≠ none

theorem eq_of_none_or_some {β : Type} {x : Option β} {v a : β} (h : x = none ∨ x = some v) (ha : x = some a) : a = v :=
  Option.some.inj (ha.symm.trans (h.resolve_left fun hno => nomatch hno.symm.trans ha))

theorem LinOpState.needAdj_some (s : LinOpState) : s.needAdj.adj ≠ none := by
  unfold LinOpState.needAdj; cases ha : s.adj <;> simp [ha]

theorem LinOpState.needGram_some (s : LinOpState) : s.needGram.gram ≠ none := by
  unfold LinOpState.needGram; cases hg : s.gram <;> simp [hg]

theorem LinOpState.needGram_adj (s : LinOpState) : s.needGram.adj = s.adj := by
  unfold LinOpState.needGram; cases s.gram <;> rfl

theorem LinOpState.Inv.needAdj {v : LinOpVariant} {n : Nat} {s : LinOpState} (h : s.Inv v n) : s.needAdj.Inv v n := by
  unfold LinOpState.needAdj
  cases ha : s.adj with
  | some a => exact h
  | none =>
    have hv : v = .plain := by
      by_contra hv; exact h.given hv ha
    have hn0 : n = 0 := Nat.eq_zero_of_not_pos fun hn => (h.jitted hn).1 ha
    subst hn0 hv
    exact ⟨h.ev, Or.inr rfl, h.gramOk, nofun, fun _ => nofun⟩

theorem LinOpState.Inv.needGram {v : LinOpVariant} {n : Nat} {s : LinOpState} (h : s.Inv v n) : s.needGram.Inv v n := by
  unfold LinOpState.needGram
  cases hg : s.gram with
  | some g => exact h
  | none =>
    have hn0 : n = 0 := Nat.eq_zero_of_not_pos fun hn => (h.jitted hn).2 hg
    subst hn0
    exact ⟨h.ev, h.adjOk, Or.inr rfl, nofun, h.given⟩

theorem LinOpState.Inv.jit {v : LinOpVariant} {n : Nat} {s : LinOpState} (h : s.Inv v n) : s.jit.Inv v (n + 1) := by
  have h2 := h.needAdj.needGram
  have ha := h2.adjOk.resolve_left (s.needAdj.needGram_adj ▸ s.needAdj_some)
  have hg := h2.gramOk.resolve_left s.needAdj.needGram_some
  simp only [LinOpState.jit, ha, hg, h2.ev]
  exact ⟨rfl, .inr rfl, .inr rfl, fun _ => ⟨nofun, nofun⟩, fun _ => nofun⟩

theorem jitCalls_cons (o : LinOpOp) (os : List LinOpOp) :
    ((o :: os).filter (· == .jit)).length = ([o].filter (· == .jit)).length + (os.filter (· == .jit)).length := by
  rw [← List.length_append, ← List.filter_append]; rfl

theorem LinOpState.Inv.step {v : LinOpVariant} {n : Nat} {s : LinOpState} (h : s.Inv v n) (o : LinOpOp) :
    (s.step o).Inv v (n + ([o].filter (· == .jit)).length) := by
  cases o with
  | jit => exact h.jit
  | call => exact h
  | adj => exact h.needAdj
  | gram => exact h.needGram.needAdj
  | gramOp => exact h.needGram

theorem LinOpState.Inv.run {v : LinOpVariant} (ops : List LinOpOp) :
    ∀ {n : Nat} {s : LinOpState}, s.Inv v n → (s.run ops).Inv v (n + (ops.filter (· == .jit)).length) := by
  induction ops with
  | nil => exact fun h => h
  | cons o os ih =>
    intro n s h
    rw [jitCalls_cons, ← Nat.add_assoc]
    exact ih (h.step o)

theorem LinOpState.inv_init0 (v : LinOpVariant) : (LinOpState.init0 v).Inv v 0 := by
  cases v
  · exact ⟨rfl, Or.inr rfl, Or.inr rfl, nofun, fun _ => nofun⟩
  · exact ⟨rfl, Or.inr rfl, Or.inl rfl, nofun, fun _ => nofun⟩
  · exact ⟨rfl, Or.inl rfl, Or.inl rfl, nofun, fun h => absurd rfl h⟩

theorem LinOpState.inv_init (v : LinOpVariant) (jit : Bool) : (LinOpState.init v jit).Inv v (if jit then 1 else 0) := by
  cases jit
  · exact LinOpState.inv_init0 v
  · exact (LinOpState.inv_init0 v).jit

theorem LinOpState.jit_specOwn (n : Nat) : (specOwnSlots n).jit = specOwnSlots (n + 1) := by
  cases n <;> rfl

theorem LinOpState.runOwn_spec (ops : List LinOpOp) :
    ∀ n, (specOwnSlots n).runOwn ops = specOwnSlots (n + (ops.filter (· == .jit)).length) := by
  induction ops with
  | nil => exact fun _ => rfl
  | cons o os ih =>
    intro n
    rw [jitCalls_cons, ← Nat.add_assoc, ← ih]
    cases o with
    | jit => exact congrArg (LinOpState.runOwn · os) (LinOpState.jit_specOwn n)
    | _ => rfl

section trace
variable {ν : Type}

def TracedObj.Fresh (traced : String → Bool) (o : TracedObj ν) : Prop :=
  ∀ e ∈ o.cache, ∀ a, traced a = true → e.2 a = o.attrs a

theorem TracedObj.fresh_step (traced : String → Bool) (o : TracedObj ν) (h : o.Fresh traced) (op : TraceOp ν)
    (hop : ∀ a v, op = .set a v → traced a = false) : (o.step op).Fresh traced := by
  cases op with
  | set a v =>
    intro e he b hb
    have hab : b ≠ a := fun hba => Bool.noConfusion ((hba ▸ hb).symm.trans (hop a v rfl))
    exact (h e he b hb).trans (if_neg hab).symm
  | call sig =>
    simp only [TracedObj.step]
    split
    · intro e he b hb
      rcases List.mem_append.mp he with he | he
      · exact h e he b hb
      · cases List.mem_singleton.mp he; rfl
    · exact h

theorem TracedObj.fresh_run (traced : String → Bool) (ops : List (TraceOp ν))
    (hops : ∀ a v, TraceOp.set a v ∈ ops → traced a = false) :
    ∀ o : TracedObj ν, o.Fresh traced → (o.run ops).Fresh traced := by
  induction ops with
  | nil => exact fun _ h => h
  | cons op ops ih =>
    intro o h
    exact ih (fun a v hm => hops a v (List.mem_cons_of_mem _ hm)) _
      (TracedObj.fresh_step traced o h op fun a v e => hops a v (e ▸ List.mem_cons_self))

theorem TracedObj.effective_of_fresh (traced : String → Bool) (o : TracedObj ν) (h : o.Fresh traced) (sig : Nat) :
    o.effective traced sig = o.attrs := by
  unfold TracedObj.effective
  split
  · rfl
  · next e hf =>
    funext a
    split
    · next ht => exact h e (List.mem_of_find?_eq_some hf) a ht
    · rfl

end trace

end Scico.Cache
