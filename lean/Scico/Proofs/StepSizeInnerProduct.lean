/-
  The solver's view (`Env`) of a problem on a real inner-product space, with exact arithmetic embedded in the
  IEEE-extended reals, and the acceptance test of the line searches unfolded there; Cauchy–Schwarz in the form the
  Barzilai–Borwein bounds use, and the real inner product of `ℂⁿ` as the sum the code computes.
-/
import Scico.Proofs.StepSize
import Mathlib.Analysis.InnerProductSpace.Basic
import Mathlib.Analysis.InnerProductSpace.PiL2
import Mathlib.Analysis.Complex.Basic

namespace Scico.StepSize

open XR

variable {E : Type} [NormedAddCommGroup E] [InnerProductSpace ℝ E]

/-- the solver's view of a problem on a real inner-product space (`ℝⁿ`; `ℂⁿ` with `Re⟨·,·⟩`;
    block arrays = product spaces): exact arithmetic embedded in the extended reals -/
noncomputable def envOfSpace (f : E → ℝ) (grad : E → E) (prox : E → XR ℝ → E)
    (smul : XR ℝ → E → E) : Env E (XR ℝ) where
  sdiv := fun v c => smul (1 / c) v
  f := fun x => fin (f x)
  grad := grad
  prox := prox
  add := (· + ·)
  sub := (· - ·)
  smul := smul
  reInner := fun a b => fin (inner ℝ a b)
  norm := fun a => fin ‖a‖

theorem accept_iff (f : E → ℝ) (grad : E → E) (prox : E → XR ℝ → E) (smul : XR ℝ → E → E) (v : E) (m : ℝ) :
    Accept (envOfSpace f grad prox smul) v (fin m) ↔
      f (xstep (envOfSpace f grad prox smul) v (fin m)) ≤
        f v + inner ℝ (grad v) (xstep (envOfSpace f grad prox smul) v (fin m) - v) +
          1 / 2 * m * (‖xstep (envOfSpace f grad prox smul) v (fin m) - v‖ * ‖xstep (envOfSpace f grad prox smul) v (fin m) - v‖) := by
  unfold Accept fquad
  generalize xstep (envOfSpace f grad prox smul) v (fin m) = z
  simp only [envOfSpace, half_eq, fin_mul_fin, fin_add_fin, fin_le_fin]

/-- `hdesc` is the descent lemma with constant `Lf`; the prox plays no role -/
theorem accept_of_descent (f : E → ℝ) (grad : E → E) (prox : E → XR ℝ → E) (smul : XR ℝ → E → E) {Lf : ℝ}
    (hdesc : ∀ x y : E, f y ≤ f x + inner ℝ (grad x) (y - x) + Lf / 2 * (‖y - x‖ * ‖y - x‖)) (v : E) {m : ℝ}
    (hm : Lf ≤ m) : Accept (envOfSpace f grad prox smul) v (fin m) := by
  rw [accept_iff]
  generalize xstep (envOfSpace f grad prox smul) v (fin m) = z
  have h : Lf / 2 * (‖z - v‖ * ‖z - v‖) ≤ 1 / 2 * m * (‖z - v‖ * ‖z - v‖) :=
    mul_le_mul_of_nonneg_right (by rw [one_div, inv_mul_eq_div]; exact div_le_div_of_nonneg_right hm zero_le_two)
      (mul_self_nonneg _)
  exact (hdesc v z).trans (add_le_add le_rfl h)

theorem inner_mul_inner_le (a b : E) : inner ℝ a b * inner ℝ a b ≤ ‖a‖ ^ 2 * ‖b‖ ^ 2 := by
  rw [← real_inner_self_eq_norm_sq, ← real_inner_self_eq_norm_sq]
  exact real_inner_mul_inner_self_le a b

open ComplexConjugate in
/-- `ℂⁿ` as a real inner-product space: `⟨a,b⟩ = Re Σ conj(aᵢ)·bᵢ`, what `snp.real(snp.sum(Δx.conj() * Δg))` computes
    (`BBStepSize.update`, `AdaptiveBBStepSize.update`) -/
theorem real_inner_complex {n : Nat} (a b : EuclideanSpace ℂ (Fin n)) :
    inner ℝ a b = (∑ i, conj (a i) * b i).re := by
  rw [PiLp.inner_apply, Complex.re_sum]
  exact Finset.sum_congr rfl fun i _ => by rw [Complex.inner, mul_comm]

end Scico.StepSize
