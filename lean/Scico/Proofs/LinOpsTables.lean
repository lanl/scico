/-
  Hand-written tables of the LinOps engine (C04): the DATA of the scico source that the model, the driver and the
  configuration grid rely on — constructor defaults, accepted option values, constants, the list of operator classes.
  `harness/linops_translate.py` re-reads the same data from the working tree on every run into
  `Scico/Generated/LinOpsTables.lean` (`def src : Tables`) and states `src.defaults = modelTables.defaults`, likewise `options` and
  `constants`, there by reflexivity; `src.exported` is not compared but covered (every exported name stands in `covered` or
  `excluded`, by positions, `Proofs/Tables`), the stored attributes are checked by evaluation.  So a change of the source that
  this file does not follow breaks an obligation.  Mathlib-free.
-/
import Scico.Model.LinOps
import Scico.Proofs.Tables

namespace Scico.LinOpsTables
open Scico.LinOps

structure Tables where
  defaults : List (String × String × String)
  options : List (String × List String)
  constants : List (String × String)
  exported : List String
deriving DecidableEq, Repr

/-- (function, argument, source text of the default) -/
def modelDefaults : List (String × String × String) := [
  ("FiniteDifference.__init__", "input_dtype", "np.float32"),
  ("FiniteDifference.__init__", "axes", "None"),
  ("FiniteDifference.__init__", "prepend", "None"),
  ("FiniteDifference.__init__", "append", "None"),
  ("FiniteDifference.__init__", "circular", "False"),
  ("FiniteDifference.__init__", "jit", "True"),
  ("SingleAxisFiniteDifference.__init__", "input_dtype", "np.float32"),
  ("SingleAxisFiniteDifference.__init__", "axis", "-1"),
  ("SingleAxisFiniteDifference.__init__", "prepend", "None"),
  ("SingleAxisFiniteDifference.__init__", "append", "None"),
  ("SingleAxisFiniteDifference.__init__", "circular", "False"),
  ("SingleAxisFiniteDifference.__init__", "jit", "True"),
  ("DFT.__init__", "axes", "None"),
  ("DFT.__init__", "axes_shape", "None"),
  ("DFT.__init__", "norm", "None"),
  ("DFT.__init__", "jit", "True"),
  ("CircularConvolve.__init__", "ndims", "None"),
  ("CircularConvolve.__init__", "input_dtype", "snp.float32"),
  ("CircularConvolve.__init__", "h_is_dft", "False"),
  ("CircularConvolve.__init__", "h_center", "None"),
  ("CircularConvolve.__init__", "jit", "True"),
  ("CircularConvolve.from_operator", "ndims", "None"),
  ("CircularConvolve.from_operator", "center", "None"),
  ("CircularConvolve.from_operator", "jit", "True"),
  ("Convolve.__init__", "input_dtype", "np.float32"),
  ("Convolve.__init__", "mode", "'full'"),
  ("Convolve.__init__", "jit", "True"),
  ("ConvolveByX.__init__", "input_dtype", "np.float32"),
  ("ConvolveByX.__init__", "mode", "'full'"),
  ("ConvolveByX.__init__", "jit", "True"),
  ("BiConvolve.__init__", "input_dtype", "np.float32"),
  ("BiConvolve.__init__", "mode", "'full'"),
  ("BiConvolve.__init__", "jit", "True"),
  ("linop_from_function.__init__", "input_dtype", "snp.float32"),
  ("linop_from_function.__init__", "output_shape", "None"),
  ("linop_from_function.__init__", "output_dtype", "None"),
  ("linop_from_function.__init__", "jit", "True"),
  ("_linear_pad", "mode", "'constant'"),
  ("Crop.__init__", "input_dtype", "snp.float32"),
  ("Crop.__init__", "jit", "True"),
  ("Slice.__init__", "input_dtype", "snp.float32"),
  ("Slice.__init__", "jit", "True"),
  ("ProjectedGradient.__init__", "axes", "None"),
  ("ProjectedGradient.__init__", "coord", "None"),
  ("ProjectedGradient.__init__", "cdiff", "False"),
  ("ProjectedGradient.__init__", "input_dtype", "np.float32"),
  ("ProjectedGradient.__init__", "jit", "True"),
  ("PolarGradient.__init__", "axes", "None"),
  ("PolarGradient.__init__", "center", "None"),
  ("PolarGradient.__init__", "angular", "True"),
  ("PolarGradient.__init__", "radial", "True"),
  ("PolarGradient.__init__", "cdiff", "False"),
  ("PolarGradient.__init__", "input_dtype", "np.float32"),
  ("PolarGradient.__init__", "jit", "True"),
  ("CylindricalGradient.__init__", "axes", "None"),
  ("CylindricalGradient.__init__", "center", "None"),
  ("CylindricalGradient.__init__", "angular", "True"),
  ("CylindricalGradient.__init__", "radial", "True"),
  ("CylindricalGradient.__init__", "axial", "True"),
  ("CylindricalGradient.__init__", "cdiff", "False"),
  ("CylindricalGradient.__init__", "input_dtype", "np.float32"),
  ("CylindricalGradient.__init__", "jit", "True"),
  ("SphericalGradient.__init__", "axes", "None"),
  ("SphericalGradient.__init__", "center", "None"),
  ("SphericalGradient.__init__", "azimuthal", "True"),
  ("SphericalGradient.__init__", "polar", "True"),
  ("SphericalGradient.__init__", "radial", "True"),
  ("SphericalGradient.__init__", "cdiff", "False"),
  ("SphericalGradient.__init__", "input_dtype", "np.float32"),
  ("SphericalGradient.__init__", "jit", "True"),
  ("VerticalStack.__init__", "collapse_output", "True"),
  ("VerticalStack.__init__", "jit", "True"),
  ("DiagonalStack.__init__", "collapse_input", "True"),
  ("DiagonalStack.__init__", "collapse_output", "True"),
  ("DiagonalStack.__init__", "jit", "True"),
  ("DiagonalReplicated.__init__", "input_axis", "0"),
  ("DiagonalReplicated.__init__", "output_axis", "None"),
  ("DiagonalReplicated.__init__", "map_type", "'auto'"),
  ("linop_over_axes", "axes", "None"),
  ("normalize_axes", "shape", "None"),
  ("normalize_axes", "default", "None"),
  ("normalize_axes", "sort", "False"),
  ("XRayTransform2D.__init__", "x0", "None"),
  ("XRayTransform2D.__init__", "dx", "None"),
  ("XRayTransform2D.__init__", "y0", "None"),
  ("XRayTransform2D.__init__", "det_count", "None"),
  ("XRayTransform3D.matrices_from_euler_angles", "degrees", "False"),
  ("XRayTransform3D.matrices_from_euler_angles", "voxel_spacing", "None"),
  ("XRayTransform3D.matrices_from_euler_angles", "det_spacing", "None"),
  ("XRayTransform3D._calc_weights", "slice_offset", "0"),
  ("Propagator.__init__", "pad_factor", "1"),
  ("AngularSpectrumPropagator.__init__", "pad_factor", "1"),
  ("AngularSpectrumPropagator.__init__", "jit", "True"),
  ("FresnelPropagator.__init__", "pad_factor", "1"),
  ("FresnelPropagator.__init__", "jit", "True"),
  ("FraunhoferPropagator.__init__", "jit", "True"),
  ("SingleAxisFiniteSum.__init__", "input_dtype", "snp.float32"),
  ("SingleAxisFiniteSum.__init__", "axis", "-1"),
  ("SingleAxisFiniteSum.__init__", "jit", "True"),
  ("FiniteSum.__init__", "input_dtype", "snp.float32"),
  ("FiniteSum.__init__", "axes", "None"),
  ("FiniteSum.__init__", "jit", "True"),
  ("SingleAxisHaarTransform.__init__", "input_dtype", "snp.float32"),
  ("SingleAxisHaarTransform.__init__", "axis", "-1"),
  ("SingleAxisHaarTransform.__init__", "jit", "True"),
  ("HaarTransform.__init__", "input_dtype", "snp.float32"),
  ("HaarTransform.__init__", "axes", "None"),
  ("HaarTransform.__init__", "jit", "True")
]

def modelOptions : List (String × List String) := [
  ("pad.modes", ["'constant'", "'edge'", "'wrap'", "'reflect'", "'symmetric'", "'mean'", "'empty'"]),
  ("Convolve.mode", ["'full'", "'valid'", "'same'"]),
  ("ConvolveByX.mode", ["'full'", "'valid'", "'same'"]),
  ("BiConvolve.mode", ["'full'", "'valid'", "'same'"]),
  ("fd.prepend", ["None", "0", "1"]),
  ("fd.append", ["None", "0", "1"]),
  ("DiagonalReplicated.map_type", ["'auto'", "'pmap'", "'vmap'"]),
  ("optics.ndim", ["1", "2"])
]

def modelConstants : List (String × String) := [
  ("XRayTransform3D._project.MAX_SLICE_LEN", "10"),
  ("XRayTransform3D._back_project.MAX_SLICE_LEN", "10"),
  ("XRayTransform3D._calc_weights.w", "0.5"),
  ("XRayTransform3D._calc_weights.x", "jnp.mgrid[:input_shape[0], :input_shape[1], :input_shape[2]] + 0.5"),
  ("XRayTransform2D.__init__.dx", "2 * (np.sqrt(2) / 2,)")
]

/-- the names scico exports (/repo at the pinned commit; kept only so that `modelTables` is a complete `Tables` value; the obligations on
    the exported names are `exported_covered` / `covered_exported` of the generated module) -/
def modelExported : List String := ["AbelTransform", "AngularSpectrumPropagator", "CircularConvolve", "ComposedLinearOperator", "Convolve", "Crop", "CylindricalGradient", "DFT", "Diagonal", "DiagonalReplicated", "DiagonalStack", "FiniteDifference", "FraunhoferPropagator", "FresnelPropagator", "Identity", "LinearOperator", "MatrixOperator", "Pad", "PolarGradient", "ProjectedGradient", "Propagator", "Reshape", "ScaledIdentity", "SingleAxisFiniteDifference", "Slice", "SphericalGradient", "Sum", "Transpose", "VerticalStack", "XRayTransform2D", "XRayTransform3D", "jacobian", "linop_from_function", "linop_over_axes", "operator_norm", "power_iteration", "valid_adjoint"]

def modelTables : Tables := ⟨modelDefaults, modelOptions, modelConstants, modelExported⟩

/-- the operator classes of the configuration grid `harness/opgrid.py` (`CLASSES`) -/
def covered : List String := ["SingleAxisFiniteDifference", "FiniteDifference", "DFT", "CircularConvolve", "Convolve", "ConvolveByX", "Pad", "Crop", "Reshape", "Transpose", "Sum", "Slice", "Identity", "ScaledIdentity", "Diagonal", "MatrixOperator", "VerticalStack", "DiagonalStack", "DiagonalReplicated", "ComposedLinearOperator", "ProjectedGradient", "PolarGradient", "CylindricalGradient", "SphericalGradient", "XRayTransform2D", "XRayTransform3D", "AngularSpectrumPropagator", "FresnelPropagator", "FraunhoferPropagator", "AbelTransform", "SingleAxisFiniteSum", "FiniteSum", "SingleAxisHaarTransform", "HaarTransform", "linop_from_function"]

/-- exported names that are deliberately NOT in the grid: abstract base classes and functions that are not operators -/
def excluded : List String := ["LinearOperator", "Propagator", "jacobian", "linop_over_axes", "operator_norm", "power_iteration", "valid_adjoint"]

/-- grid classes that are not exported by scico.linop / scico.linop.xray / optics / abel (`ConvolveByX` is imported by
    scico.linop but missing from its `__all__`; the others live in scico.functional._tvnorm) -/
def notExported : List String := ["ConvolveByX", "SingleAxisFiniteSum", "FiniteSum", "SingleAxisHaarTransform", "HaarTransform"]

def lookupDefault (f a : String) : Option String :=
  (modelDefaults.find? (fun t => t.1 = f ∧ t.2.1 = a)).map (·.2.2)

def lookupOption (k : String) : Option (List String) := (modelOptions.find? (fun t => t.1 = k)).map (·.2)
def lookupConstant (k : String) : Option String := (modelConstants.find? (fun t => t.1 = k)).map (·.2)

/-- Python spelling of the model's enumerations -/
def _root_.Scico.LinOps.Ext.py : Ext → String | .no => "None" | .b0 => "0" | .b1 => "1"
def _root_.Scico.LinOps.ConvMode.py : ConvMode → String | .full => "'full'" | .valid => "'valid'" | .same => "'same'"
def _root_.Scico.LinOps.PadMode.py : PadMode → String | .edge => "'edge'" | .wrap => "'wrap'" | .reflect => "'reflect'" | .symmetric => "'symmetric'"

/-- the boundary flags the constructor accepts are exactly the values of the model's `Ext`, and the defaults are
    `prepend = append = None`, `circular = False` (the plain difference matrix of `C04_fd`) -/
theorem fd_options : lookupOption "fd.prepend" = some ([Ext.no, .b0, .b1].map Ext.py)
    ∧ lookupOption "fd.append" = some ([Ext.no, .b0, .b1].map Ext.py)
    ∧ lookupDefault "SingleAxisFiniteDifference.__init__" "prepend" = some Ext.no.py
    ∧ lookupDefault "SingleAxisFiniteDifference.__init__" "append" = some Ext.no.py
    ∧ lookupDefault "SingleAxisFiniteDifference.__init__" "circular" = some "False"
    ∧ lookupDefault "FiniteDifference.__init__" "axes" = some "None" := by decide +kernel

/-- the convolution modes are exactly the constructors of `ConvMode` (for the three classes), default `full` -/
theorem conv_options : lookupOption "Convolve.mode" = some ([ConvMode.full, .valid, .same].map ConvMode.py)
    ∧ lookupOption "ConvolveByX.mode" = lookupOption "Convolve.mode" ∧ lookupOption "BiConvolve.mode" = lookupOption "Convolve.mode"
    ∧ lookupDefault "Convolve.__init__" "mode" = some ConvMode.full.py := by decide +kernel

/-- the linear pad modes: `constant` (zero pad of `C04_pad_crop`), the four gather modes of `C04_pad_modes`, `mean`
    (`C04_pad_mean`) and `empty` (undefined values: no documented map, outside the grid); default `constant` -/
theorem pad_options : lookupOption "pad.modes"
      = some (["'constant'"] ++ [PadMode.edge, .wrap, .reflect, .symmetric].map PadMode.py ++ ["'mean'", "'empty'"])
    ∧ lookupDefault "_linear_pad" "mode" = some "'constant'" := by decide +kernel

/-- circular convolution: centre at the origin, all axes, filter in the signal domain by default; DFT: all axes, no
    padding, backward normalisation by default -/
theorem circ_dft_defaults : lookupDefault "CircularConvolve.__init__" "h_center" = some "None"
    ∧ lookupDefault "CircularConvolve.__init__" "ndims" = some "None"
    ∧ lookupDefault "CircularConvolve.__init__" "h_is_dft" = some "False"
    ∧ lookupDefault "DFT.__init__" "axes" = some "None" ∧ lookupDefault "DFT.__init__" "axes_shape" = some "None"
    ∧ lookupDefault "DFT.__init__" "norm" = some "None" := by decide +kernel

/-- 3-D projector: slabs of 10 slices in `_project` and `_back_project` alike, footprint width `w = 1/2`
    (`x3ToNext … w`, `C04_xray3d_split` needs `0 < w ≤ 1`), voxel centres at `index + 1/2` (documented convention) -/
theorem xray3_constants : lookupConstant "XRayTransform3D._project.MAX_SLICE_LEN" = some "10"
    ∧ lookupConstant "XRayTransform3D._back_project.MAX_SLICE_LEN" = lookupConstant "XRayTransform3D._project.MAX_SLICE_LEN"
    ∧ lookupConstant "XRayTransform3D._calc_weights.w" = some "0.5" := by decide +kernel

/-- error cases of the modelled constructors / helpers: (function, guard, exception class) of every `if guard: raise …` -/
def modelRaises : List (String × String × String) := [
  ("SingleAxisFiniteDifference.__init__", "not isinstance(axis, int)", "TypeError"),
  ("SingleAxisFiniteDifference.__init__", "axis < 0 or axis >= len(input_shape)", "ValueError"),
  ("SingleAxisFiniteDifference.__init__", "circular and (prepend is not None or append is not None)", "ValueError"),
  ("SingleAxisFiniteDifference.__init__", "prepend not in [None, 0, 1]", "ValueError"),
  ("SingleAxisFiniteDifference.__init__", "append not in [None, 0, 1]", "ValueError"),
  ("DFT.__init__", "axes is not None and axes_shape is not None and (len(axes) != len(axes_shape))", "ValueError"),
  ("CircularConvolve.__init__", "h_is_dft and h_center is not None", "ValueError"),
  ("CircularConvolve.__init__", "self.real and snp.dtype(input_dtype).kind == 'c'", "ValueError"),
  ("CircularConvolve.__init__", "except ValueError", "ValueError"),
  ("CircularConvolve.from_operator", "is_nested(H.input_shape)", "ValueError"),
  ("Convolve.__init__", "h.ndim != len(input_shape)", "ValueError"),
  ("Convolve.__init__", "mode not in ['full', 'valid', 'same']", "ValueError"),
  ("ConvolveByX.__init__", "x.ndim != len(input_shape)", "ValueError"),
  ("ConvolveByX.__init__", "not snp.util.is_arraylike(x)", "TypeError"),
  ("ConvolveByX.__init__", "mode not in ['full', 'valid', 'same']", "ValueError"),
  ("_linear_pad", "callable(mode) or mode not in _LINEAR_PAD_MODES", "ValueError"),
  ("_linear_pad", "key in kwargs and np.any(np.asarray(kwargs[key]) != 0)", "ValueError"),
  ("ProjectedGradient.__init__", "snp.any(np.array(axes) >= len(input_shape))", "ValueError"),
  ("PolarGradient.__init__", "len(input_shape) < 2", "ValueError"),
  ("PolarGradient.__init__", "axes is not None and len(axes) != 2", "ValueError"),
  ("PolarGradient.__init__", "not angular and (not radial)", "ValueError"),
  ("CylindricalGradient.__init__", "len(input_shape) < 3", "ValueError"),
  ("CylindricalGradient.__init__", "axes is not None and len(axes) != 3", "ValueError"),
  ("CylindricalGradient.__init__", "not angular and (not radial) and (not axial)", "ValueError"),
  ("SphericalGradient.__init__", "len(input_shape) < 3", "ValueError"),
  ("SphericalGradient.__init__", "axes is not None and len(axes) != 3", "ValueError"),
  ("SphericalGradient.__init__", "not azimuthal and (not polar) and (not radial)", "ValueError"),
  ("normalize_axes", "shape is None", "ValueError"),
  ("normalize_axes", "max(axes) >= len(shape) or min(axes) < 0", "ValueError"),
  ("normalize_axes", "len(set(axes)) != len(axes)", "ValueError"),
  ("slice_length", "idx < -length or idx > length - 1", "ValueError"),
  ("slice_length", "not isinstance(idx, slice)", "ValueError"),
  ("indexed_shape", "sum((1 for ax_idx in idx if ax_idx is not None and ax_idx is not Ellipsis)) > len(shape)", "ValueError"),
  ("DiagonalReplicated.__init__", "map_type not in ['auto', 'pmap', 'vmap']", "ValueError"),
  ("DiagonalReplicated.__init__", "input_axis < 0 or input_axis > len(op.input_shape)", "ValueError"),
  ("DiagonalReplicated.__init__", "is_nested(op.input_shape)", "ValueError"),
  ("DiagonalReplicated.__init__", "is_nested(op.output_shape)", "ValueError"),
  ("DiagonalReplicated.__init__", "output_axis < 0 or output_axis > len(op.output_shape)", "ValueError"),
  ("DiagonalReplicated.__init__", "map_type == 'pmap' and replicates > jax.device_count()", "ValueError"),
  ("radial_transverse_frequency", "ndim not in (1, 2)", "ValueError"),
  ("radial_transverse_frequency", "len(dx) != ndim", "ValueError"),
  ("Propagator.__init__", "ndim not in (1, 2)", "ValueError"),
  ("Propagator.__init__", "len(dx) != ndim", "ValueError"),
  ("FraunhoferPropagator.__init__", "ndim not in (1, 2)", "ValueError"),
  ("FraunhoferPropagator.__init__", "len(dx) != ndim", "ValueError")
]

/-- attributes of operator objects that the adapter (`harness/c04.py`) or the tie read: they must be stored by the constructor -/
def usedAttrs : List (String × List String) := [
  ("DFT", ["axes", "inv_axes_shape"]),
  ("CircularConvolve", ["real", "h_dft", "ndims"]),
  ("XRayTransform2D", ["x0", "dx", "nx", "angles", "y0", "ny"]),
  ("XRayTransform3D", ["matrices", "det_shape"]),
  ("Propagator", ["kp", "D", "F"]),
  ("AbelTransform", ["proj_mat_quad"]),
  ("ProjectedGradient", ["axes", "coord", "cdiff"])
]

/-- the guards that have a counterpart in the Lean model (`FDCfg.valid`, `normAxes`, `dftInit`, `circInit`, `convInit`) and
    are exercised by the malformed stream of the adapter; all of them are error cases of the source -/
def modelledGuards : List (String × String) := [
  ("SingleAxisFiniteDifference.__init__", "axis < 0 or axis >= len(input_shape)"),
  ("SingleAxisFiniteDifference.__init__", "circular and (prepend is not None or append is not None)"),
  ("DFT.__init__", "axes is not None and axes_shape is not None and (len(axes) != len(axes_shape))"),
  ("CircularConvolve.__init__", "h_is_dft and h_center is not None"),
  ("CircularConvolve.__init__", "except ValueError"),
  ("Convolve.__init__", "h.ndim != len(input_shape)"),
  ("Convolve.__init__", "mode not in ['full', 'valid', 'same']"),
  ("ConvolveByX.__init__", "x.ndim != len(input_shape)"),
  ("ConvolveByX.__init__", "mode not in ['full', 'valid', 'same']"),
  ("normalize_axes", "max(axes) >= len(shape) or min(axes) < 0"),
  ("normalize_axes", "len(set(axes)) != len(axes)")
]

/-- the guard added in e839754 (`self.real` with a complex input dtype) can only fire through the `output_dtype` keyword
    (closed forms of sums / scalar multiples): for the constructor arguments the model covers, `circInit` never declares a
    real output for a complex input -/
theorem circInit_real_guard_unreachable (hs is : List Nat) (nd : Option Nat) (hd hc : Bool) (a b : DT) (out : List Nat)
    (odt : DT) (h : circInit hs is nd hd hc a b = some (out, odt, true)) : b.cx = false := by
  unfold circInit at h
  by_cases h1 : (hd && hc) = true
  · simp [h1] at h
  · rw [if_neg h1] at h
    cases hd
    · simp only [Bool.false_eq_true, if_false] at h
      split at h
      · cases h
      · simp only [Option.some.injEq, Prod.mk.injEq] at h
        obtain ⟨_, h2, h3⟩ := h
        subst h2
        revert h3
        cases a <;> cases b <;> decide
    · simp only [if_true] at h
      split at h
      · cases h
      · simp only [Option.some.injEq, Prod.mk.injEq] at h
        obtain ⟨_, h2, h3⟩ := h
        subst h2
        revert h3
        cases b <;> decide

theorem modelledGuards_are_error_cases :
    modelledGuards.all (fun g => modelRaises.any (fun r => r.1 = g.1 ∧ r.2.1 = g.2)) = true := by
  -- the positions of the modelled guards in `modelRaises`: comparing equal string literals is free, a search is not
  have h := Tables.all_contains_of_pick (expected := modelledGuards) (got := modelRaises.map (fun r => (r.1, r.2.1)))
    [1, 2, 5, 6, 8, 10, 11, 12, 14, 28, 29] rfl
  simp only [List.all_eq_true, List.contains_iff_mem, List.mem_map] at h
  simp only [List.all_eq_true, List.any_eq_true, decide_eq_true_eq]
  intro g hg
  obtain ⟨r, hr, rfl⟩ := h g hg
  exact ⟨r, hr, rfl, rfl⟩

/-- every error case of the modelled functions raises `ValueError`, except the two type checks -/
theorem raises_classes : modelRaises.all (fun r => r.2.2 = "ValueError" ∨ r.2.2 = "TypeError") = true
    ∧ (modelRaises.filter (fun r => r.2.2 = "TypeError")).map (·.1)
        = ["SingleAxisFiniteDifference.__init__", "ConvolveByX.__init__"] := by decide +kernel

end Scico.LinOpsTables
