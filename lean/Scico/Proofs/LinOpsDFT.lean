/-
  1-d DFT over a field with a primitive root of unity: orthogonality of the characters, inversion (cropped / zero-padded
  input); shape bookkeeping of the `DFT` constructor.
-/
import Scico.Proofs.LinOps
import Mathlib.Algebra.Field.GeomSum
import Mathlib.RingTheory.RootsOfUnity.PrimitiveRoots

namespace Scico.LinOps
open Finset

section DFT
variable {K : Type} [Field K]

theorem npow_eq_pow (a : K) (e : Nat) : dftEval.npow a e = a ^ e := by
  induction e with
  | zero => simp [dftEval.npow]
  | succ e ih => simp [dftEval.npow, ih, pow_succ]

/-- orthogonality of the characters of `ℤ/n` -/
theorem root_orthogonality {ζ : K} {n : Nat} (hζ : IsPrimitiveRoot ζ n) (a b : Nat) (ha : a < n) (hb : b < n) :
    ∑ k ∈ range n, ζ ^ (a * k) * ζ⁻¹ ^ (b * k) = if a = b then (n : K) else 0 := by
  have hζ0 : ζ ≠ 0 := hζ.ne_zero (by omega)
  have hterm : ∀ k, ζ ^ (a * k) * ζ⁻¹ ^ (b * k) = (ζ ^ a * ζ⁻¹ ^ b) ^ k := by
    intro k; rw [mul_pow, ← pow_mul, ← pow_mul]
  simp only [hterm]
  split
  · rename_i hab
    subst hab
    rw [← mul_pow, mul_inv_cancel₀ hζ0, one_pow]
    simp only [one_pow, sum_const, card_range, nsmul_eq_mul, mul_one]
  · rename_i hab
    -- a geometric sum with ratio `r = ζ^a ζ^(-b) ≠ 1`, `r^n = 1`
    have hr1 : ζ ^ a * ζ⁻¹ ^ b ≠ 1 := by
      intro h
      rw [inv_pow, mul_inv_eq_one₀ (pow_ne_zero _ hζ0)] at h
      exact hab (hζ.pow_inj ha hb h)
    have hrn : (ζ ^ a * ζ⁻¹ ^ b) ^ n = 1 := by
      rw [mul_pow, ← pow_mul, ← pow_mul, Nat.mul_comm a, Nat.mul_comm b, pow_mul, pow_mul, inv_pow, hζ.pow_eq_one,
        inv_one, one_pow, one_pow, mul_one]
    rw [geom_sum_eq hr1, hrn, sub_self, zero_div]

theorem pow_mod_root {ζ : K} {n : Nat} (hζ : IsPrimitiveRoot ζ n) (e : Nat) : ζ ^ e = ζ ^ (e % n) := by
  conv_lhs => rw [← Nat.div_add_mod e n, pow_add, pow_mul, hζ.pow_eq_one, one_pow, one_mul]

theorem root_orthogonality_mod {ζ : K} {n : Nat} (hζ : IsPrimitiveRoot ζ n) (hn : 0 < n) (a b : Nat) :
    ∑ k ∈ range n, ζ ^ (a * k) * ζ⁻¹ ^ (b * k) = if a % n = b % n then (n : K) else 0 := by
  rw [← root_orthogonality hζ (a % n) (b % n) (Nat.mod_lt _ hn) (Nat.mod_lt _ hn)]
  refine sum_congr rfl (fun k _ => ?_)
  rw [pow_mul ζ a k, pow_mul ζ (a % n) k, ← pow_mod_root hζ a, inv_pow, inv_pow, pow_mul ζ b k, pow_mul ζ (b % n) k,
    ← pow_mod_root hζ b]

/-- 1-d inversion with a shift: summing `A b · ζ^(b f) · ζ⁻¹^(k f)` over `b, f < n` leaves `n · A (k mod n)` -/
theorem root_sum_select {ζ : K} {n : Nat} (hζ : IsPrimitiveRoot ζ n) (hn : 0 < n) (A : V K) (k : Nat) :
    ∑ f ∈ range n, ∑ b ∈ range n, A b * (ζ ^ (b * f) * ζ⁻¹ ^ (k * f)) = (n : K) * A (k % n) := by
  rw [sum_comm]
  have e : ∀ b ∈ range n, ∑ f ∈ range n, A b * (ζ ^ (b * f) * ζ⁻¹ ^ (k * f))
      = A b * (if b = k % n then (n : K) else 0) := by
    intro b hb
    rw [← mul_sum, root_orthogonality_mod hζ hn, Nat.mod_eq_of_lt (mem_range.mp hb)]
  rw [sum_congr rfl e, sum_eq_single_of_mem (k % n) (mem_range.mpr (Nat.mod_lt _ hn))
    (fun b _ hne => by rw [if_neg hne, mul_zero]), if_pos rfl, mul_comm]

/-- the `m`-point inverse applied to the `m`-point transform of the (cropped / zero-padded) input
    returns that cropped / zero-padded input -/
theorem dft_invCrop {ζ : K} {m : Nat} (hζ : IsPrimitiveRoot ζ m) (s s' : K) (hs : s * s' * (m : K) = 1)
    (n : Nat) (x : V K) (j : Nat) (hj : j < m) :
    dftInvCropEval ζ⁻¹ s' m (dftEval ζ s n m x) j = if j < n then x j else 0 := by
  unfold dftInvCropEval dftEval
  simp only [sumTo_eq_sum, npow_eq_pow]
  have e : ∀ k ∈ range m, (s * ∑ i ∈ range m, (if i < n then x i else 0) * ζ ^ (i * k)) * ζ⁻¹ ^ (j * k)
      = ∑ i ∈ range m, s * (if i < n then x i else 0) * (ζ ^ (i * k) * ζ⁻¹ ^ (j * k)) := by
    intro k _
    rw [mul_sum, sum_mul]
    exact sum_congr rfl (fun i _ => by ring)
  rw [sum_congr rfl e, root_sum_select hζ (Nat.zero_lt_of_lt hj) _ j, Nat.mod_eq_of_lt hj]
  calc s' * ((m : K) * (s * (if j < n then x j else 0))) = (s * s' * (m : K)) * (if j < n then x j else 0) := by ring
    _ = _ := by rw [hs, one_mul]

/-- with no cropping / padding (`m = n`) the coded inverse is the `n`-point inverse -/
theorem dftInv_eq_crop_of_eq (ω' s' : K) (n : Nat) (z : V K) (j : Nat) :
    dftInvEval ω' s' n n z j = dftInvCropEval ω' s' n z j := by
  unfold dftInvEval dftInvCropEval
  congr 1
  exact sumTo_congr (fun k hk => by simp [hk])

end DFT

section DFTShape

/-- successive `list[i] = v` assignments -/
def setMany (o : List Nat) (ps : List (Nat × Nat)) : List Nat := ps.foldl (fun o p => o.set p.1 p.2) o

theorem setMany_nil (o : List Nat) : setMany o [] = o := rfl

theorem setMany_cons (o : List Nat) (p : Nat × Nat) (ps : List (Nat × Nat)) :
    setMany o (p :: ps) = setMany (o.set p.1 p.2) ps := rfl

theorem setMany_length (o : List Nat) (ps : List (Nat × Nat)) : (setMany o ps).length = o.length := by
  induction ps generalizing o with
  | nil => rfl
  | cons p ps ih => rw [setMany_cons, ih, List.length_set]

theorem setMany_getElem?_of_not_mem (o : List Nat) (ps : List (Nat × Nat)) (i : Nat)
    (h : i ∉ ps.map (·.1)) : (setMany o ps)[i]? = o[i]? := by
  induction ps generalizing o with
  | nil => rfl
  | cons p ps ih =>
    simp only [List.map_cons, List.mem_cons, not_or] at h
    rw [setMany_cons, ih (o.set p.1 p.2) h.2, List.getElem?_set_ne (Ne.symm h.1)]

theorem setMany_getElem?_of_mem (o : List Nat) (ps : List (Nat × Nat)) (hnd : (ps.map (·.1)).Nodup)
    (i v : Nat) (h : (i, v) ∈ ps) (hi : i < o.length) : (setMany o ps)[i]? = some v := by
  induction ps generalizing o with
  | nil => simp at h
  | cons p ps ih =>
    simp only [List.map_cons, List.nodup_cons] at hnd
    rw [setMany_cons]
    rcases List.mem_cons.mp h with h1 | h1
    · subst h1
      rw [setMany_getElem?_of_not_mem (o.set i v) ps i hnd.1]; simp [hi]
    · exact ih (o.set p.1 p.2) hnd.2 h1 (by simpa using hi)

/-- assigning to every listed position the value a fixed array has there gives back that array -/
theorem setMany_restore (base o : List Nat) (ax : List Nat) (hlen : o.length = base.length)
    (hrest : ∀ i, i ∉ ax → o[i]? = base[i]?) :
    setMany o (ax.zip (ax.map (fun i => base.getD i 0))) = base := by
  induction ax generalizing o with
  | nil =>
    rw [List.map_nil, List.zip_nil_right, setMany_nil]
    exact List.ext_getElem? (fun i => hrest i (by simp))
  | cons a ax ih =>
    rw [List.map_cons, List.zip_cons_cons, setMany_cons]
    apply ih
    · simpa using hlen
    · intro i hi
      by_cases hia : i = a
      · subst hia
        by_cases hlt : i < base.length
        · rw [List.getElem?_set_self (by omega)]
          simp [List.getD, hlt]
        · have h1 : o.length ≤ i := by omega
          rw [List.getElem?_eq_none (by simpa using h1), List.getElem?_eq_none (by omega)]
      · rw [List.getElem?_set_ne (Ne.symm hia)]
        exact hrest i (by simp [hia, hi])

end DFTShape

end Scico.LinOps
