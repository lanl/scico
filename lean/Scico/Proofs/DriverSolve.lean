/-
  C15, the `solve` loop: what one pass does to each component of the state; the invariant of the
  loop (`ResumedAt`), stated relative to the state in which the *first* call started and at an index
  that counts the iterations of all calls so far, so that a later call re-enters it where the earlier
  ones left it; `solve` from such an entry, uninterrupted or stopped by the first iteration that
  trips the NaN stop; and from these one call (`LoopAt`, `SolveDone`) and any number of calls
  with pauses (`DoneAt`, `TrippedAt`).
-/
import Scico.Proofs.DriverTimer

namespace Scico.Driver
open Scico.Driver.Spec

variable {ω ρ ξ α L : Type} [DecidableEq L]

theorem start_none_store (T : Timer L) (c : Nat) :
    (T.start .none c).store =
      T.store.set T.dflt (startEntry ((T.store.get T.dflt).getD Entry.fresh) c) :=
  start_single T .none T.dflt c rfl

@[simp] theorem start_dflt (T : Timer L) (a : Arg L) (c : Nat) : (T.start a c).dflt = T.dflt := rfl
@[simp] theorem start_all (T : Timer L) (a : Arg L) (c : Nat) : (T.start a c).all = T.all := rfl

/-- the default timer of `T` is running and reads `e` at clock `c`; all else is as in `T0` -/
def RunningAt (T0 T : Timer L) (c e : Nat) : Prop :=
  T.dflt = T0.dflt ∧ T.all = T0.all ∧
    ∃ s td, T.store = T0.store.set T0.dflt ⟨some s, td⟩ ∧ s ≤ c ∧ td + (c - s) = e

/-- the default timer of `T` is stopped with `e` accumulated; all else is as in `T0` -/
def StoppedAt (T0 T : Timer L) (e : Nat) : Prop :=
  T.dflt = T0.dflt ∧ T.all = T0.all ∧ T.store = T0.store.set T0.dflt ⟨none, e⟩

theorem RunningAt.after {T0 T : Timer L} {c e : Nat} (h : RunningAt T0 T c e) (t : Nat) :
    RunningAt T0 T (c + t) (e + t) ∧ T.elapsedDefault true (c + t) = e + t := by
  obtain ⟨hd, ha, s, td, hs, hle, he⟩ := h
  have hsub : td + (c + t - s) = e + t := by rw [Nat.sub_add_comm hle, ← Nat.add_assoc, he]
  refine ⟨⟨hd, ha, s, td, hs, Nat.le_add_right_of_le hle, hsub⟩, ?_⟩
  simp only [Timer.elapsedDefault, hs, hd, Store.get_set, if_true, elapsedEntry]
  rw [Nat.add_comm]
  exact hsub

theorem RunningAt.stop {T0 T : Timer L} {c e : Nat} (h : RunningAt T0 T c e) (hda : T0.dflt ≠ T0.all) :
    (T.stop .none c).2 = true ∧ StoppedAt T0 (T.stop .none c).1 e := by
  obtain ⟨hd, ha, s, td, hs, hle, he⟩ := h
  have hg : T.store.get T.dflt = some ⟨some s, td⟩ := by simp [hs, hd, Store.get_set]
  have hda' : T.dflt ≠ T.all := by rw [hd, ha]; exact hda
  rw [stop_single T .none T.dflt c (if_neg hda'), hg]
  refine ⟨rfl, hd, ha, ?_⟩
  simp [hs, hd, Store.set_set, stopEntry, he]

theorem StoppedAt.start {T0 T : Timer L} {e : Nat} (h : StoppedAt T0 T e) (c : Nat) :
    RunningAt T0 (T.start .none c) c e := by
  obtain ⟨hd, ha, hs⟩ := h
  refine ⟨by simp [Timer.start, hd], by simp [Timer.start, ha], c, e, ?_, Nat.le_refl _, by omega⟩
  rw [start_none_store, hs, hd]
  simp [Store.get_set, Store.set_set, startEntry]

/-- start times of a running default timer are not in the future -/
def TimerWF (T : Timer L) (c : Nat) : Prop :=
  ∀ e, T.store.get T.dflt = some e → ∀ s, e.t0 = some s → s ≤ c

theorem RunningAt.wf {T0 T : Timer L} {c e : Nat} (h : RunningAt T0 T c e) : TimerWF T c := by
  obtain ⟨hd, _, s, td, hs, hle, _⟩ := h
  intro e' he' s' hs'
  rw [hs, hd, Store.get_set] at he'
  simp only [if_true, Option.some.injEq] at he'
  subst he'
  simp only [Option.some.injEq] at hs'
  omega

theorem StoppedAt.read {T0 T : Timer L} {e : Nat} (h : StoppedAt T0 T e) (c : Nat) :
    T.elapsedDefault true c = e := by
  obtain ⟨hd, _, hs⟩ := h
  simp [Timer.elapsedDefault, hs, hd, Store.get_set, elapsedEntry]

theorem StoppedAt.wf {T0 T : Timer L} {e : Nat} (h : StoppedAt T0 T e) (c : Nat) : TimerWF T c := by
  obtain ⟨hd, _, hs⟩ := h
  intro e' he' s hs'
  rw [hs, hd, Store.get_set] at he'
  simp only [if_true, Option.some.injEq] at he'
  subst he'
  simp at hs'

theorem elapsedDefault_start (T : Timer L) (c : Nat) (total : Bool) :
    (T.start .none c).elapsedDefault total c = T.elapsedDefault total c := by
  simp only [Timer.elapsedDefault, start_none_store, start_dflt, Store.get_set, if_true]
  cases h : T.store.get T.dflt with
  | none => cases total <;> simp [startEntry, Entry.fresh, elapsedEntry]
  | some e =>
    cases h0 : e.t0 <;> simp [startEntry, h0, elapsedEntry]

/-- `self.timer.start()` at the beginning of `solve`: whatever the state of the default timer
    (absent, stopped, still running after an exception), it now runs and reads what it read -/
theorem running_after_start (T : Timer L) (c : Nat) (hwf : TimerWF T c) :
    RunningAt (T.start .none c) (T.start .none c) c (T.elapsedDefault true c) := by
  refine ⟨rfl, rfl, ?_⟩
  have hst := start_none_store T c
  cases h : T.store.get T.dflt with
  | none =>
    refine ⟨c, 0, ?_, Nat.le_refl _, ?_⟩
    · rw [start_dflt, hst, h]; simp [Store.set_set, startEntry, Entry.fresh]
    · simp [Timer.elapsedDefault, h]
  | some e =>
    cases h0 : e.t0 with
    | none =>
      refine ⟨c, e.td, ?_, Nat.le_refl _, ?_⟩
      · rw [start_dflt, hst, h]; simp [Store.set_set, startEntry, h0]
      · simp [Timer.elapsedDefault, h, elapsedEntry, h0]
    | some s =>
      refine ⟨s, e.td, ?_, hwf e h s h0, ?_⟩
      · rw [start_dflt, hst, h]
        simp only [Option.getD_some, startEntry, h0, Store.set_set]
        congr 1
        cases e; simp_all
      · simp [Timer.elapsedDefault, h, elapsedEntry, h0]; omega

theorem stepTime_succ (E : Env ω ρ ξ α) (cb : Option (Callback ω)) (w : ω) (n : Nat) :
    stepTime E cb w (n + 1) = stepTime E cb w n + E.stepTicks (worldAt E cb w n) := by
  simp [stepTime, List.range_succ]

theorem cbTime_succ (E : Env ω ρ ξ α) (cb : Option (Callback ω)) (w : ω) (n : Nat) :
    cbTime E cb w (n + 1) = cbTime E cb w n + cbTicks cb (afterStep E cb w n) := by
  simp [cbTime, List.range_succ]

theorem allFinite_eq_false_iff {α : Type} (fin : α → Bool) (v : Var α) :
    allFinite fin v = false ↔ match v with
      | .plain xs => ∃ x ∈ xs, fin x = false
      | .block bs => ∃ b ∈ bs, ∃ x ∈ b, fin x = false := by
  cases v <;> simp [allFinite, Var.any]

theorem workingVarsFinite_eq_false_iff {α : Type} (fin : α → Bool) (vars : List (Var α)) :
    workingVarsFinite fin vars = false ↔ hasNonFinite fin vars := by
  simp only [workingVarsFinite, hasNonFinite, List.all_eq_false, Bool.not_eq_true]
  exact exists_congr fun v => and_congr_right fun _ => allFinite_eq_false_iff fin v

/-- the test `self.nanstop and not self._working_vars_finite()` -/
def tripsB (E : Env ω ρ ξ α) (nanstop : Bool) (w : ω) : Bool :=
  nanstop && !(workingVarsFinite E.fin (E.vars w))

theorem tripsB_iff (E : Env ω ρ ξ α) (cb : Option (Callback ω)) (w : ω) (nanstop : Bool) (k : Nat) :
    tripsB E nanstop (afterStep E cb w k) = true ↔ tripsAt E cb w nanstop k := by
  unfold tripsB tripsAt
  rw [← workingVarsFinite_eq_false_iff]
  cases nanstop <;> cases workingVarsFinite E.fin (E.vars (afterStep E cb w k)) <;> simp

theorem tripsB_false_iff (E : Env ω ρ ξ α) (cb : Option (Callback ω)) (w : ω) (nanstop : Bool) (k : Nat) :
    tripsB E nanstop (afterStep E cb w k) = false ↔ ¬ tripsAt E cb w nanstop k := by
  rw [← tripsB_iff, Bool.not_eq_true]

/-- `n` passes of any loop body, loop values `i, i+1, …`, ended by the first exception: the shape
    shared by `loop`, `loopX` and `loopN` -/
def iterate {σ : Type} (body : σ → Int → σ × Outcome) : Nat → Int → σ → σ × Outcome
  | 0, _, d => (d, .ok)
  | n + 1, i, d =>
    match body d i with
    | (d', .ok) => iterate body n (i + 1) d'
    | r => r

/-- Proved again, by the same case split, for `loopX` and `loopN` (`DriverCallbacks`): a lemma for any function with
    the two equations of `loop` does not spare it, since `loop E cb (n + 1) i d = match body E cb d i with …` is not
    `rfl` (the `match` compiled into the recursive definition is another term than one written in a statement). -/
theorem loop_eq_iterate (E : Env ω ρ ξ α) (cb : Option (Callback ω)) (n : Nat) (i : Int) (d : Drv ω ρ L) :
    loop E cb n i d = iterate (body E cb) n i d := by
  induction n generalizing i d with
  | zero => rfl
  | succ n ih =>
    simp only [loop, iterate, ih]
    rcases body E cb d i with ⟨d', o⟩
    cases o <;> rfl

section
variable {σ σ' : Type} (b : σ → Int → σ × Outcome)

theorem iterate_add (m n : Nat) (i : Int) (d : σ) :
    iterate b (m + n) i d =
      match iterate b m i d with
      | (d', .ok) => iterate b n (i + m) d'
      | r => r := by
  induction m generalizing i d with
  | zero => simp [iterate]
  | succ m ih =>
    rw [Nat.succ_add]
    simp only [iterate]
    rcases b d i with ⟨d', o⟩
    cases o with
    | ok => simp only [ih]; rw [show i + 1 + (m : Int) = i + ((m + 1 : Nat) : Int) by omega]
    | nan => rfl
    | key => rfl

theorem iterate_succ (n : Nat) (i : Int) (d : σ) :
    iterate b (n + 1) i d =
      match iterate b n i d with
      | (d', .ok) => b d' (i + n)
      | r => r := by
  rw [iterate_add]
  rcases iterate b n i d with ⟨d', o⟩
  cases o with
  | ok =>
    simp only [iterate]
    rcases b d' (i + n) with ⟨d2, o2⟩
    cases o2 <;> rfl
  | nan => rfl
  | key => rfl

/-- two loops whose passes keep a relation `R` and raise together stay in `R`: how `loopX` and `loopN` are tied to `loop` -/
theorem iterate_rel (b' : σ' → Int → σ' × Outcome) (R : σ → σ' → Prop)
    (hb : ∀ d d' i, R d d' → (b' d' i).2 = (b d i).2 ∧ R (b d i).1 (b' d' i).1)
    (n : Nat) (i : Int) (d : σ) (d' : σ') (h : R d d') :
    (iterate b' n i d').2 = (iterate b n i d).2 ∧ R (iterate b n i d).1 (iterate b' n i d').1 := by
  induction n generalizing i d d' with
  | zero => exact ⟨rfl, h⟩
  | succ n ih =>
    obtain ⟨ho, hs⟩ := hb d d' i h
    simp only [iterate]
    rcases hbd : b d i with ⟨d1, o⟩
    rcases hbd' : b' d' i with ⟨d1', o'⟩
    rw [hbd, hbd'] at ho hs
    simp only at ho hs
    subst ho
    cases o' with
    | ok => exact ih (i + 1) d1 d1' hs
    | nan => exact ⟨rfl, hs⟩
    | key => exact ⟨rfl, hs⟩

/-- `n` passes none of which raises carry an invariant indexed by the number of completed passes from `0` to `n`:
    every closed form of a loop (`loop_resumed`, `loopX_clean`) is an instance -/
theorem iterate_ok (P : Nat → σ → Prop) (i : Int) (d : σ) (n : Nat) (h0 : P 0 d)
    (hstep : ∀ k < n, ∀ s, P k s → (b s (i + k)).2 = .ok ∧ P (k + 1) (b s (i + k)).1) :
    (iterate b n i d).2 = .ok ∧ P n (iterate b n i d).1 := by
  induction n with
  | zero => exact ⟨rfl, h0⟩
  | succ n ih =>
    obtain ⟨ok, hP⟩ := ih (fun k hk => hstep k (by omega))
    rw [iterate_succ]
    rcases hit : iterate b n i d with ⟨s, o⟩
    rw [hit] at ok hP
    cases ok
    exact hstep n (by omega) s hP

theorem iterate_stop (j n : Nat) (hj : j < n) (i : Int) (d dj : σ) (h : iterate b j i d = (dj, .ok))
    (hb : (b dj (i + j)).2 ≠ .ok) : iterate b n i d = b dj (i + j) := by
  obtain ⟨k, rfl⟩ : ∃ k, n = j + (k + 1) := ⟨n - j - 1, by omega⟩
  rw [iterate_add, h]
  simp only [iterate]
  rcases hbd : b dj (i + j) with ⟨d', o⟩
  rw [hbd] at hb
  cases o <;> first | exact absurd rfl hb | rfl
end

/-- `for self.itnum in …` + `self.step()` -/
def stepped (E : Env ω ρ ξ α) (d : Drv ω ρ L) (i : Int) : Drv ω ρ L :=
  { d with itnum := i, world := E.step d.world, clock := d.clock + E.stepTicks d.world }

/-- `self.itstat_object.insert(self.itstat_insert_func(self))` -/
def recorded (E : Env ω ρ ξ α) (d : Drv ω ρ L) : Drv ω ρ L :=
  { d with rows := statsInsert d.rows ⟨d.itnum, d.timer.elapsedDefault true d.clock, E.fields d.world⟩ }

/-- `callback(self)` with its ghost record -/
def called (c : Callback ω) (d : Drv ω ρ L) : Drv ω ρ L :=
  { d with world := c.run d.world, clock := d.clock + c.ticks d.world,
           cblog := d.cblog ++ [⟨d.itnum, d.world, d.clock, d.clock + c.ticks d.world⟩] }

theorem body_eq (E : Env ω ρ ξ α) (cb : Option (Callback ω)) (d : Drv ω ρ L) (i : Int) :
    body E cb d i =
      if tripsB E (stepped E d i).nanstop (stepped E d i).world then (stepped E d i, .nan)
      else match cb with
        | none => (recorded E (stepped E d i), .ok)
        | some c =>
          match (recorded E (stepped E d i)).timerStop with
          | (d3, false) => (d3, .key)
          | (d3, true) => ((called c d3).timerStart, .ok) := by
  cases cb <;> rfl

/-- state of the driver after `n` clean iterations of a loop that started in `d0` with loop
    values `i0, i0+1, …`, `e0` ticks on the running default timer (`T0` = the timer object at
    that moment).  Every use has `i0 = d0.itnum`; the invariant the proofs carry is `ResumedAt`, of which this
    is the case of one call that nothing preceded (`ResumedAt.loopAt`). -/
structure LoopAt (E : Env ω ρ ξ α) (cb : Option (Callback ω)) (T0 : Timer L) (d0 : Drv ω ρ L)
    (i0 : Int) (e0 : Nat) (n : Nat) (d : Drv ω ρ L) : Prop where
  world : d.world = worldAt E cb d0.world n
  clock : d.clock = d0.clock + stepTime E cb d0.world n + cbTime E cb d0.world n
  itnum : d.itnum = if n = 0 then d0.itnum else i0 + ((n : Int) - 1)
  maxiter : d.maxiter = d0.maxiter
  nanstop : d.nanstop = d0.nanstop
  rows : d.rows = d0.rows ++ (List.range n).map (specRow E cb d0.world i0 e0)
  cblog : d.cblog = d0.cblog ++
    (if cb.isSome then (List.range n).map (specCb E cb d0.world i0 d0.clock) else [])
  tlog : d.tlog = d0.tlog ++
    (if cb.isSome then (List.range n).flatMap (specBracket E cb d0.world d0.clock) else [])
  timer : RunningAt T0 d.timer d.clock (e0 + stepTime E cb d0.world n)

/-- the pass that trips the NaN stop: the step has run, the counter shows the iteration, nothing
    else has happened (no record, no callback, timer left running) -/
theorem body_trip (E : Env ω ρ ξ α) (cb : Option (Callback ω)) (d : Drv ω ρ L) (i : Int)
    (h : tripsB E d.nanstop (E.step d.world) = true) :
    body E cb d i = (stepped E d i, .nan) := by
  rw [body_eq]
  simp [stepped, h]

theorem body_some (E : Env ω ρ ξ α) (c : Callback ω) (d : Drv ω ρ L) (i : Int) :
    body E (some c) d i =
      match bodyHead E d i with
      | (d3, .ok) => ((called c d3).timerStart, .ok)
      | r => r := by
  simp only [body, bodyHead]
  split
  · rfl
  · split <;> rfl

theorem bodyHead_step (E : Env ω ρ ξ α) (T0 : Timer L) (d : Drv ω ρ L) (i : Int) (e : Nat)
    (hda : T0.dflt ≠ T0.all) (hrun : RunningAt T0 d.timer d.clock e)
    (hclean : tripsB E d.nanstop (E.step d.world) = false) :
    bodyHead E d i =
      ({ d with
          itnum := i, world := E.step d.world, clock := d.clock + E.stepTicks d.world
          rows := d.rows ++ [⟨i, e + E.stepTicks d.world, E.fields (E.step d.world)⟩]
          timer := (d.timer.stop .none (d.clock + E.stepTicks d.world)).1
          tlog := d.tlog ++ [⟨d.clock + E.stepTicks d.world, .stop, .none⟩] }, .ok) ∧
      StoppedAt T0 (d.timer.stop .none (d.clock + E.stepTicks d.world)).1 (e + E.stepTicks d.world) := by
  obtain ⟨hadv, hread⟩ := hrun.after (E.stepTicks d.world)
  have hstop := hadv.stop hda
  have hnot : (d.nanstop && !workingVarsFinite E.fin (E.vars (E.step d.world))) = false := hclean
  simp only [bodyHead, hnot, Bool.false_eq_true, if_false, Drv.timerStop, hstop.1, statsInsert, hread]
  exact ⟨trivial, hstop.2⟩

theorem body_step (E : Env ω ρ ξ α) (cb : Option (Callback ω)) (T0 : Timer L) (d : Drv ω ρ L) (i : Int) (e : Nat)
    (hda : T0.dflt ≠ T0.all) (hrun : RunningAt T0 d.timer d.clock e)
    (hclean : tripsB E d.nanstop (E.step d.world) = false) :
    (body E cb d i).2 = .ok ∧
      (body E cb d i).1.world = cbRun cb (E.step d.world) ∧
      (body E cb d i).1.clock = d.clock + E.stepTicks d.world + cbTicks cb (E.step d.world) ∧
      (body E cb d i).1.itnum = i ∧ (body E cb d i).1.maxiter = d.maxiter ∧ (body E cb d i).1.nanstop = d.nanstop ∧
      (body E cb d i).1.rows = d.rows ++ [⟨i, e + E.stepTicks d.world, E.fields (E.step d.world)⟩] ∧
      (body E cb d i).1.cblog = d.cblog ++ (if cb.isSome then
        [⟨i, E.step d.world, d.clock + E.stepTicks d.world,
          d.clock + E.stepTicks d.world + cbTicks cb (E.step d.world)⟩] else []) ∧
      (body E cb d i).1.tlog = d.tlog ++ (if cb.isSome then
        [⟨d.clock + E.stepTicks d.world, .stop, .none⟩,
          ⟨d.clock + E.stepTicks d.world + cbTicks cb (E.step d.world), .start, .none⟩] else []) ∧
      RunningAt T0 (body E cb d i).1.timer (body E cb d i).1.clock (e + E.stepTicks d.world) := by
  cases cb with
  | none =>
    obtain ⟨hadv, hread⟩ := hrun.after (E.stepTicks d.world)
    have hnot : tripsB E (stepped E d i).nanstop (stepped E d i).world = false := hclean
    rw [body_eq, hnot]
    exact ⟨rfl, rfl, rfl, rfl, rfl, rfl, by simp [recorded, stepped, statsInsert, hread], by simp [recorded, stepped],
      by simp [recorded, stepped], hadv⟩
  | some c =>
    obtain ⟨hb, hT⟩ := bodyHead_step E T0 d i e hda hrun hclean
    rw [body_some, hb]
    exact ⟨rfl, rfl, rfl, rfl, rfl, rfl, rfl, by simp [called, Drv.timerStart, cbTicks],
      by simp [called, Drv.timerStart, cbTicks], hT.start _⟩

theorem specRow_snoc (E : Env ω ρ ξ α) (cb : Option (Callback ω)) (w : ω) (i0 : Int) (e0 n : Nat) :
    (List.range n).map (specRow E cb w i0 e0) ++
        [⟨i0 + n, e0 + stepTime E cb w n + E.stepTicks (worldAt E cb w n), E.fields (afterStep E cb w n)⟩] =
      (List.range (n + 1)).map (specRow E cb w i0 e0) := by
  rw [List.range_succ, List.map_append]
  simp only [List.map_cons, List.map_nil, specRow, stepTime_succ, Nat.add_assoc]

/-- State of the driver in the course of a `solve` call that started in `dS`, after `n` clean passes of
    that call, when `m` iterations and pauses of `g` ticks in all lie before the call, counted from `d0`
    (a first call: `m = g = 0`, and `dS` is `d0`, with `maxiter` assigned and the timer started when `solve`
    enters: `Ready.enter`).  What the iterations produce is stated relative to `d0` at index
    `m + n`: nothing in it depends on where one call ended and the next began, so a later call takes the
    invariant up where the earlier one left it, and several calls need no argument of their own.  Only the
    counter, `maxiter` and the timer log look at `dS`.  `T0`, `e0`: the timer object and the reading of the
    default timer when the loop of the first call started.  The callback and timer logs record clock values,
    which a pause shifts: they are given for `g = 0`. -/
structure ResumedAt (E : Env ω ρ ξ α) (cb : Option (Callback ω)) (T0 : Timer L) (d0 : Drv ω ρ L) (e0 m g : Nat)
    (dS : Drv ω ρ L) (n : Nat) (d : Drv ω ρ L) : Prop where
  start : dS.itnum = d0.itnum + (m : Int)
  world : d.world = worldAt E cb d0.world (m + n)
  clock : d.clock = d0.clock + stepTime E cb d0.world (m + n) + cbTime E cb d0.world (m + n) + g
  itnum : d.itnum = if n = 0 then dS.itnum else dS.itnum + ((n : Int) - 1)
  maxiter : d.maxiter = dS.maxiter
  nanstop : d.nanstop = d0.nanstop
  rows : d.rows = d0.rows ++ (List.range (m + n)).map (specRow E cb d0.world d0.itnum e0)
  cblog : g = 0 → d.cblog = d0.cblog ++
    (if cb.isSome then (List.range (m + n)).map (specCb E cb d0.world d0.itnum d0.clock) else [])
  tlog : g = 0 → d.tlog = dS.tlog ++
    (if cb.isSome then (List.range n).flatMap (fun k => specBracket E cb d0.world d0.clock (m + k)) else [])
  timer : RunningAt T0 d.timer d.clock (e0 + stepTime E cb d0.world (m + n))

theorem ResumedAt.loopAt {E : Env ω ρ ξ α} {cb : Option (Callback ω)} {T0 : Timer L} {d0 d : Drv ω ρ L} {e0 n : Nat}
    (h : ResumedAt E cb T0 d0 e0 0 0 d0 n d) : LoopAt E cb T0 d0 d0.itnum e0 n d := by
  obtain ⟨_, w, c, i, mx, ns, r, b, t, T⟩ := h
  simp only [Nat.zero_add, Nat.add_zero] at w c r b t T
  exact ⟨w, c, i, mx, ns, r, b trivial, t trivial, T⟩

theorem resumedAt_zero (E : Env ω ρ ξ α) (cb : Option (Callback ω)) (T0 : Timer L) (d0 : Drv ω ρ L) (e0 : Nat)
    (h : RunningAt T0 d0.timer d0.clock e0) : ResumedAt E cb T0 d0 e0 0 0 d0 0 d0 :=
  ⟨by simp, rfl, by simp [stepTime, cbTime], rfl, rfl, rfl, by simp, fun _ => by simp, fun _ => by simp, h⟩

theorem body_resumed (E : Env ω ρ ξ α) (cb : Option (Callback ω)) (T0 : Timer L) (d0 dS : Drv ω ρ L)
    (e0 m g n : Nat) (d : Drv ω ρ L) (hda : T0.dflt ≠ T0.all) (h : ResumedAt E cb T0 d0 e0 m g dS n d)
    (hclean : ¬ tripsAt E cb d0.world d0.nanstop (m + n)) :
    (body E cb d (dS.itnum + n)).2 = .ok ∧ ResumedAt E cb T0 d0 e0 m g dS (n + 1) (body E cb d (dS.itnum + n)).1 := by
  have hw : E.step d.world = afterStep E cb d0.world (m + n) := by rw [h.world]; rfl
  obtain ⟨ok, bw, bc, bi, bm, bn, br, bb, bt, bT⟩ := body_step E cb T0 d (dS.itnum + n) _ hda h.timer
    (by rw [h.nanstop, hw]; exact (tripsB_false_iff E cb d0.world d0.nanstop (m + n)).mpr hclean)
  rw [hw] at bw bc br bb bt
  rw [h.world] at bc br bb bt bT
  -- the pass is iteration `m + n` counted from `d0`
  have hi : dS.itnum + (n : Int) = d0.itnum + ((m + n : Nat) : Int) := by rw [h.start]; push_cast; omega
  -- without a pause the clock values the logs record are those of the specification
  have he : g = 0 → d0.clock + stepTime E cb d0.world (m + n + 1) + cbTime E cb d0.world (m + n) =
      d.clock + E.stepTicks (worldAt E cb d0.world (m + n)) := fun hg => by rw [h.clock, stepTime_succ]; omega
  refine ⟨ok, h.start, bw, ?_, by simpa using bi, bm.trans h.maxiter, bn.trans h.nanstop, ?_, fun hg => ?_, fun hg => ?_,
    ?_⟩
  · show _ = _ + stepTime E cb d0.world (m + n + 1) + cbTime E cb d0.world (m + n + 1) + g
    rw [bc, h.clock, stepTime_succ, cbTime_succ]; omega
  · show _ = _ ++ (List.range (m + n + 1)).map _
    rw [br, h.rows, List.append_assoc, hi, specRow_snoc]
  · show _ = _ ++ if cb.isSome then (List.range (m + n + 1)).map _ else []
    rw [bb, h.cblog hg, hi]
    cases cb with
    | none => simp
    | some c =>
      simp only [Option.isSome_some, if_true, List.range_succ, List.map_append, List.append_assoc, List.map_cons,
        List.map_nil, specCb, he hg]
  · rw [bt, h.tlog hg]
    cases cb with
    | none => simp
    | some c =>
      simp only [Option.isSome_some, if_true, List.range_succ, List.flatMap_append, List.append_assoc,
        List.flatMap_cons, List.flatMap_nil, List.append_nil, specBracket, specCb, he hg]
  · show RunningAt _ _ _ (e0 + stepTime E cb d0.world (m + n + 1))
    rw [stepTime_succ, ← Nat.add_assoc]; exact bT

theorem loop_resumed {E : Env ω ρ ξ α} {cb : Option (Callback ω)} {T0 : Timer L} {d0 dS : Drv ω ρ L}
    {e0 m g : Nat} (h0 : ResumedAt E cb T0 d0 e0 m g dS 0 dS) (hda : T0.dflt ≠ T0.all) (n : Nat)
    (hclean : ∀ k < n, ¬ tripsAt E cb d0.world d0.nanstop (m + k)) :
    ∃ dn, loop E cb n dS.itnum dS = (dn, .ok) ∧ ResumedAt E cb T0 d0 e0 m g dS n dn := by
  obtain ⟨ok, h⟩ := iterate_ok (body E cb) (ResumedAt E cb T0 d0 e0 m g dS) dS.itnum dS n h0
    (fun k hk s hs => body_resumed E cb T0 d0 dS e0 m g k s hda hs (hclean k hk))
  rw [← loop_eq_iterate] at ok h
  exact ⟨_, Prod.ext rfl ok, h⟩

theorem loop_clean (E : Env ω ρ ξ α) (cb : Option (Callback ω)) (T0 : Timer L) (d0 : Drv ω ρ L)
    (e0 : Nat) (hda : T0.dflt ≠ T0.all) (hrun : RunningAt T0 d0.timer d0.clock e0) (n : Nat)
    (hclean : ∀ k < n, ¬ tripsAt E cb d0.world d0.nanstop k) :
    ∃ dn, loop E cb n d0.itnum d0 = (dn, .ok) ∧ LoopAt E cb T0 d0 d0.itnum e0 n dn :=
  let ⟨dn, hl, h⟩ := loop_resumed (resumedAt_zero E cb T0 d0 e0 hrun) hda n
    (fun k hk => by rw [Nat.zero_add]; exact hclean k hk)
  ⟨dn, hl, h.loopAt⟩

/-- what is assumed of the optimiser object when `solve` is called: its timer is the
    `Timer()` the constructor made (default label ≠ all-label), and a default timer that is still
    running (left so by an earlier NaN stop) was not started in the future -/
structure Ready (d : Drv ω ρ L) : Prop where
  labels : d.timer.dflt ≠ d.timer.all
  past : TimerWF d.timer d.clock

/-- state after a `solve()` that was not interrupted: `m = max(maxiter, 0)` iterations -/
structure SolveDone (E : Env ω ρ ξ α) (cb : Option (Callback ω)) (d r : Drv ω ρ L) : Prop where
  world : r.world = worldAt E cb d.world d.maxiter.toNat
  clock : r.clock = d.clock + stepTime E cb d.world d.maxiter.toNat + cbTime E cb d.world d.maxiter.toNat
  itnum : r.itnum = d.itnum + (d.maxiter.toNat : Int)
  maxiter : r.maxiter = d.maxiter
  nanstop : r.nanstop = d.nanstop
  rows : r.rows = d.rows ++
    (List.range d.maxiter.toNat).map (specRow E cb d.world d.itnum (d.timer.elapsedDefault true d.clock))
  cblog : r.cblog = d.cblog ++
    (if cb.isSome then (List.range d.maxiter.toNat).map (specCb E cb d.world d.itnum d.clock) else [])
  timer : StoppedAt (d.timer.start .none d.clock) r.timer
    (d.timer.elapsedDefault true d.clock + stepTime E cb d.world d.maxiter.toNat)
  tlog : r.tlog = d.tlog ++ [⟨d.clock, .start, .none⟩] ++
    (if cb.isSome then (List.range d.maxiter.toNat).flatMap (specBracket E cb d.world d.clock) else []) ++
    [⟨r.clock, .stop, .none⟩]

/-- `solve` read off its loop: the `start()` before the loop changes neither counter nor `maxiter` -/
theorem solve_eq (E : Env ω ρ ξ α) (cb : Option (Callback ω)) (d : Drv ω ρ L) :
    solve E cb d =
      match loop E cb d.maxiter.toNat d.itnum d.timerStart with
      | (d1, .ok) =>
        match d1.timerStop with
        | (d2, false) => (d2, .key)
        | (d2, true) => (if d2.maxiter > 0 then { d2 with itnum := d2.itnum + 1 } else d2, .ok)
      | r => r := rfl

section
omit [DecidableEq L]
@[simp] theorem setMaxiter_world (d : Drv ω ρ L) (m : Int) : (d.setMaxiter m).world = d.world := rfl
@[simp] theorem setMaxiter_clock (d : Drv ω ρ L) (m : Int) : (d.setMaxiter m).clock = d.clock := rfl
@[simp] theorem setMaxiter_itnum (d : Drv ω ρ L) (m : Int) : (d.setMaxiter m).itnum = d.itnum := rfl
@[simp] theorem setMaxiter_nanstop (d : Drv ω ρ L) (m : Int) : (d.setMaxiter m).nanstop = d.nanstop := rfl
@[simp] theorem setMaxiter_timer (d : Drv ω ρ L) (m : Int) : (d.setMaxiter m).timer = d.timer := rfl
@[simp] theorem setMaxiter_rows (d : Drv ω ρ L) (m : Int) : (d.setMaxiter m).rows = d.rows := rfl
@[simp] theorem setMaxiter_cblog (d : Drv ω ρ L) (m : Int) : (d.setMaxiter m).cblog = d.cblog := rfl
@[simp] theorem setMaxiter_tlog (d : Drv ω ρ L) (m : Int) : (d.setMaxiter m).tlog = d.tlog := rfl
@[simp] theorem setMaxiter_maxiter (d : Drv ω ρ L) (m : Int) : (d.setMaxiter m).maxiter = m := rfl
@[simp] theorem tick_world (d : Drv ω ρ L) (g : Nat) : (d.tick g).world = d.world := rfl
@[simp] theorem tick_itnum (d : Drv ω ρ L) (g : Nat) : (d.tick g).itnum = d.itnum := rfl
@[simp] theorem tick_nanstop (d : Drv ω ρ L) (g : Nat) : (d.tick g).nanstop = d.nanstop := rfl
@[simp] theorem tick_timer (d : Drv ω ρ L) (g : Nat) : (d.tick g).timer = d.timer := rfl
@[simp] theorem tick_rows (d : Drv ω ρ L) (g : Nat) : (d.tick g).rows = d.rows := rfl
@[simp] theorem tick_cblog (d : Drv ω ρ L) (g : Nat) : (d.tick g).cblog = d.cblog := rfl
@[simp] theorem tick_tlog (d : Drv ω ρ L) (g : Nat) : (d.tick g).tlog = d.tlog := rfl
@[simp] theorem tick_maxiter (d : Drv ω ρ L) (g : Nat) : (d.tick g).maxiter = d.maxiter := rfl
@[simp] theorem tick_clock (d : Drv ω ρ L) (g : Nat) : (d.tick g).clock = d.clock + g := rfl
end

theorem StoppedAt.timer_eq {T0 T T' : Timer L} {e : Nat} (h : StoppedAt T0 T e) (h' : StoppedAt T0 T' e) :
    T = T' := by
  obtain ⟨hd, ha, hs⟩ := h
  obtain ⟨hd', ha', hs'⟩ := h'
  cases T; cases T'; simp_all

/-- state `r` reached from `d` by uninterrupted `solve()` calls with the same callback: `m`
    iterations in all, pauses of `g` ticks in all between the calls.  Everything but the clock and
    the callback log (which records clock values) is that of one call with `m` iterations. -/
structure DoneAt (E : Env ω ρ ξ α) (cb : Option (Callback ω)) (d r : Drv ω ρ L) (m g : Nat) : Prop where
  world : r.world = worldAt E cb d.world m
  clock : r.clock = d.clock + stepTime E cb d.world m + cbTime E cb d.world m + g
  itnum : r.itnum = d.itnum + (m : Int)
  nanstop : r.nanstop = d.nanstop
  rows : r.rows = d.rows ++
    (List.range m).map (specRow E cb d.world d.itnum (d.timer.elapsedDefault true d.clock))
  cblog : g = 0 → r.cblog = d.cblog ++
    (if cb.isSome then (List.range m).map (specCb E cb d.world d.itnum d.clock) else [])
  timer : StoppedAt (d.timer.start .none d.clock) r.timer
    (d.timer.elapsedDefault true d.clock + stepTime E cb d.world m)

/-- state `r` reached from `d` by `solve()` calls with the same callback, the last of which raised in
    iteration `j` (0-based, counted from `d`) because of the NaN stop; pauses of `g` ticks in all between the
    calls.  The step of iteration `j` has run and nothing after it: the default timer is left running and
    reads the time at the first call plus the durations of the steps `0..j`. -/
structure TrippedAt (E : Env ω ρ ξ α) (cb : Option (Callback ω)) (d r : Drv ω ρ L) (j g : Nat) : Prop where
  world : r.world = afterStep E cb d.world j
  itnum : r.itnum = d.itnum + (j : Int)
  rows : r.rows = d.rows ++
    (List.range j).map (specRow E cb d.world d.itnum (d.timer.elapsedDefault true d.clock))
  cblog : g = 0 → r.cblog = d.cblog ++
    (if cb.isSome then (List.range j).map (specCb E cb d.world d.itnum d.clock) else [])
  clock : r.clock = d.clock + stepTime E cb d.world (j + 1) + cbTime E cb d.world j + g
  timer : RunningAt (d.timer.start .none d.clock) r.timer r.clock
    (d.timer.elapsedDefault true d.clock + stepTime E cb d.world (j + 1))

/-- the call about to start in `r` continues the iterations counted from `d` at index `m`, pauses of `g` ticks
    having passed: the invariant holds, with no pass made, of the state in which `solve` enters its loop -/
def Enters (E : Env ω ρ ξ α) (cb : Option (Callback ω)) (d r : Drv ω ρ L) (m g : Nat) : Prop :=
  ResumedAt E cb (d.timer.start .none d.clock) d (d.timer.elapsedDefault true d.clock) m g r.timerStart 0 r.timerStart

section
variable {E : Env ω ρ ξ α} {cb : Option (Callback ω)} {d r : Drv ω ρ L} {m g : Nat}

/-- such a call, no pass tripping the NaN stop: `maxiter` passes, the final `stop()` succeeds, the counter
    moves on by their number -/
theorem solve_done (h0 : Enters E cb d r m g) (hda : d.timer.dflt ≠ d.timer.all)
    (hclean : ∀ k < m + r.maxiter.toNat, ¬ tripsAt E cb d.world d.nanstop k) :
    (solve E cb r).2 = .ok ∧ DoneAt E cb d (solve E cb r).1 (m + r.maxiter.toNat) g ∧
      (solve E cb r).1.maxiter = r.maxiter ∧
      (g = 0 → (solve E cb r).1.tlog = r.timerStart.tlog ++
        (if cb.isSome then (List.range r.maxiter.toNat).flatMap (fun k => specBracket E cb d.world d.clock (m + k))
          else []) ++ [⟨(solve E cb r).1.clock, .stop, .none⟩]) := by
  obtain ⟨d1, hl, hat⟩ := loop_resumed h0 hda r.maxiter.toNat (fun k hk => hclean (m + k) (by omega))
  have hl' : loop E cb r.maxiter.toNat r.itnum r.timerStart = (d1, .ok) := hl
  have hstop := hat.timer.stop hda
  have hts : d1.timerStop =
      ({ d1 with
          timer := (d1.timer.stop .none d1.clock).1,
          tlog := d1.tlog ++ [⟨d1.clock, .stop, .none⟩] }, true) := Prod.ext rfl hstop.1
  have hm : d1.maxiter = r.maxiter := hat.maxiter
  -- the final `if maxiter > 0: self.itnum += 1` touches the counter only
  have hi : d1.itnum = if r.maxiter.toNat = 0 then r.itnum else r.itnum + ((r.maxiter.toNat : Int) - 1) := hat.itnum
  have hs : solve E cb r =
      ({ d1 with
          timer := (d1.timer.stop .none d1.clock).1
          tlog := d1.tlog ++ [⟨d1.clock, .stop, .none⟩]
          itnum := r.itnum + (r.maxiter.toNat : Int) }, .ok) := by
    rw [solve_eq, hl']
    simp only [hts, hm]
    split
    · rw [show d1.itnum + 1 = r.itnum + (r.maxiter.toNat : Int) by rw [hi]; split <;> omega]
    · rw [show d1.itnum = r.itnum + (r.maxiter.toNat : Int) by rw [hi]; split <;> omega]
  have hS : r.itnum = d.itnum + (m : Int) := hat.start
  rw [hs]
  exact ⟨rfl, ⟨hat.world, hat.clock, by show r.itnum + _ = _; rw [hS]; push_cast; omega, hat.nanstop, hat.rows,
    hat.cblog, hstop.2⟩, hm, fun hg => by show d1.tlog ++ _ = _; rw [hat.tlog hg]⟩

/-- … and when its pass `j` is the first to trip the NaN stop: iteration `m + j` counted from `d` -/
theorem solve_tripped (h0 : Enters E cb d r m g) (hda : d.timer.dflt ≠ d.timer.all) (j : Nat)
    (hj : j < r.maxiter.toNat)
    (hclean : ∀ k < m + j, ¬ tripsAt E cb d.world d.nanstop k) (htrip : tripsAt E cb d.world d.nanstop (m + j)) :
    (solve E cb r).2 = .nan ∧ TrippedAt E cb d (solve E cb r).1 (m + j) g := by
  obtain ⟨dj, hl, hat⟩ := loop_resumed h0 hda j (fun k hk => hclean (m + k) (by omega))
  have hl' : iterate (body E cb) j r.itnum r.timerStart = (dj, .ok) := by rw [← loop_eq_iterate]; exact hl
  have hb : body E cb dj (r.itnum + j) = (stepped E dj (r.itnum + j), .nan) :=
    body_trip E cb dj _ (by rw [hat.nanstop, hat.world]; exact (tripsB_iff E cb d.world d.nanstop (m + j)).mpr htrip)
  have hs : solve E cb r = (stepped E dj (r.itnum + j), .nan) := by
    rw [solve_eq, loop_eq_iterate, iterate_stop (body E cb) j _ hj _ _ dj hl' (by rw [hb]; simp), hb]
  have hS : r.itnum = d.itnum + (m : Int) := hat.start
  rw [hs]
  refine ⟨rfl, ?_, ?_, hat.rows, hat.cblog, ?_, ?_⟩
  · show E.step _ = _
    rw [hat.world]; rfl
  · show r.itnum + (j : Int) = _
    rw [hS]; push_cast; omega
  · show _ + E.stepTicks _ = _
    rw [hat.clock, hat.world, stepTime_succ]; omega
  · show RunningAt _ dj.timer (dj.clock + E.stepTicks dj.world) _
    rw [stepTime_succ, ← Nat.add_assoc, ← hat.world]; exact (hat.timer.after _).1

/-- a first call (after `solver.maxiter = mx`, if that is assigned) enters at `m = g = 0` -/
theorem Ready.enter (hr : Ready d) (E : Env ω ρ ξ α) (cb : Option (Callback ω)) (mx : Int) :
    Enters E cb d (d.setMaxiter mx) 0 0 :=
  ⟨by simp [Drv.timerStart, Drv.setMaxiter], rfl, by simp [Drv.timerStart, Drv.setMaxiter, stepTime, cbTime], rfl, rfl,
    rfl, by simp [Drv.timerStart, Drv.setMaxiter], fun _ => by simp [Drv.timerStart, Drv.setMaxiter], fun _ => by simp,
    running_after_start d.timer d.clock hr.past⟩

/-- a later call enters where the earlier calls left off -/
theorem DoneAt.enter (D : DoneAt E cb d r m g) : Enters E cb d r m g :=
  ⟨D.itnum, D.world, D.clock, rfl, rfl, D.nanstop, D.rows, D.cblog, fun _ => by simp, D.timer.start r.clock⟩

end

/-- no iteration of this `solve()` call trips the NaN stop -/
def NoTrip (E : Env ω ρ ξ α) (cb : Option (Callback ω)) (d : Drv ω ρ L) : Prop :=
  ∀ k < d.maxiter.toNat, ¬ tripsAt E cb d.world d.nanstop k

theorem solve_clean (E : Env ω ρ ξ α) (cb : Option (Callback ω)) (d : Drv ω ρ L) (hr : Ready d)
    (hclean : NoTrip E cb d) :
    (solve E cb d).2 = .ok ∧ SolveDone E cb d (solve E cb d).1 := by
  have h := solve_done (r := d) (hr.enter E cb d.maxiter) hr.labels
  simp only [Nat.zero_add] at h
  obtain ⟨ok, D, hm, ht⟩ := h hclean
  exact ⟨ok, D.world, D.clock, D.itnum, hm, D.nanstop, D.rows, D.cblog rfl, D.timer,
    by simpa only [Drv.timerStart] using ht trivial⟩

theorem solve_trip (E : Env ω ρ ξ α) (cb : Option (Callback ω)) (d : Drv ω ρ L) (hr : Ready d) (j : Nat)
    (hj : j < d.maxiter.toNat) (hclean : ∀ k < j, ¬ tripsAt E cb d.world d.nanstop k)
    (htrip : tripsAt E cb d.world d.nanstop j) :
    (solve E cb d).2 = .nan ∧ TrippedAt E cb d (solve E cb d).1 j 0 := by
  have h := solve_tripped (r := d) (hr.enter E cb d.maxiter) hr.labels j hj
  simp only [Nat.zero_add] at h
  exact h hclean htrip

theorem doneAt_solve (E : Env ω ρ ξ α) (cb : Option (Callback ω)) (d : Drv ω ρ L) (m : Nat) (hr : Ready d)
    (hclean : ∀ k < m, ¬ tripsAt E cb d.world d.nanstop k) :
    (solve E cb (d.setMaxiter m)).2 = .ok ∧ DoneAt E cb d (solve E cb (d.setMaxiter m)).1 m 0 := by
  have h := solve_done (hr.enter E cb m) hr.labels
  simp only [Nat.zero_add, setMaxiter_maxiter, Int.toNat_natCast] at h
  exact ⟨(h hclean).1, (h hclean).2.1⟩

theorem trippedAt_solve (E : Env ω ρ ξ α) (cb : Option (Callback ω)) (d : Drv ω ρ L) (m : Nat) (hr : Ready d)
    (j : Nat) (hj : j < m) (hclean : ∀ k < j, ¬ tripsAt E cb d.world d.nanstop k)
    (htrip : tripsAt E cb d.world d.nanstop j) :
    (solve E cb (d.setMaxiter m)).2 = .nan ∧ TrippedAt E cb d (solve E cb (d.setMaxiter m)).1 j 0 := by
  have h := solve_tripped (hr.enter E cb m) hr.labels j (by simpa using hj)
  simp only [Nat.zero_add] at h
  exact h hclean htrip

section
variable {E : Env ω ρ ξ α} {cb : Option (Callback ω)} {d r : Drv ω ρ L} {m g : Nat}

/-- a pause of `g'` ticks and `solver.maxiter = m'` between calls -/
theorem DoneAt.pause (D : DoneAt E cb d r m g) (g' : Nat) (m' : Int) :
    DoneAt E cb d ((r.tick g').setMaxiter m') m (g + g') :=
  ⟨D.world, by show r.clock + g' = _; rw [D.clock]; omega, D.itnum, D.nanstop, D.rows,
    fun h => D.cblog (by omega), D.timer⟩

/-- one more uninterrupted call: its iterations are the iterations `m, m+1, …` counted from `d` -/
theorem DoneAt.next (D : DoneAt E cb d r m g) (hda : d.timer.dflt ≠ d.timer.all) (g' m' : Nat)
    (hclean : ∀ k < m + m', ¬ tripsAt E cb d.world d.nanstop k) :
    (solve E cb ((r.tick g').setMaxiter m')).2 = .ok ∧
      DoneAt E cb d (solve E cb ((r.tick g').setMaxiter m')).1 (m + m') (g + g') := by
  have h := solve_done (D.pause g' m').enter hda
  rw [setMaxiter_maxiter, Int.toNat_natCast] at h
  exact ⟨(h hclean).1, (h hclean).2.1⟩

/-- the next call trips the NaN stop in its iteration `j`: iteration `m + j` counted from `d` -/
theorem DoneAt.next_trip (D : DoneAt E cb d r m g) (hda : d.timer.dflt ≠ d.timer.all) (g' m' j : Nat)
    (hj : j < m') (hclean : ∀ k < m + j, ¬ tripsAt E cb d.world d.nanstop k)
    (htrip : tripsAt E cb d.world d.nanstop (m + j)) :
    (solve E cb ((r.tick g').setMaxiter m')).2 = .nan ∧
      TrippedAt E cb d (solve E cb ((r.tick g').setMaxiter m')).1 (m + j) (g + g') :=
  solve_tripped (D.pause g' m').enter hda j (by rw [setMaxiter_maxiter, Int.toNat_natCast]; exact hj) hclean htrip

/-- a run that trips and one that trips in the same iteration after other pauses differ by the pauses only -/
theorem TrippedAt.agree {r' : Drv ω ρ L} {j g' : Nat} (T : TrippedAt E cb d r j g) (T' : TrippedAt E cb d r' j g') :
    r.world = r'.world ∧ r.itnum = r'.itnum ∧ r.rows = r'.rows ∧ r.clock + g' = r'.clock + g :=
  ⟨T.world.trans T'.world.symm, T.itnum.trans T'.itnum.symm, T.rows.trans T'.rows.symm,
    by rw [T.clock, T'.clock]; omega⟩

/-- two runs with the same number of iterations differ by their pauses only -/
theorem DoneAt.agree {r' : Drv ω ρ L} {g' : Nat} (D : DoneAt E cb d r m g) (D' : DoneAt E cb d r' m g') :
    r.world = r'.world ∧ r.itnum = r'.itnum ∧ r.rows = r'.rows ∧ r.timer = r'.timer ∧
      r.clock + g' = r'.clock + g :=
  ⟨D.world.trans D'.world.symm, D.itnum.trans D'.itnum.symm, D.rows.trans D'.rows.symm,
    D.timer.timer_eq D'.timer, by rw [D.clock, D'.clock]; omega⟩

end

theorem first_trip (p : Nat → Prop) (m : Nat) :
    (∀ k < m, ¬ p k) ∨ ∃ j < m, (∀ k < j, ¬ p k) ∧ p j := by
  induction m with
  | zero => left; intro k hk; omega
  | succ m ih =>
    rcases ih with h | ⟨j, hj, hc, ht⟩
    · by_cases hp : p m
      · right; exact ⟨m, by omega, h, hp⟩
      · left; intro k hk
        by_cases hkm : k = m
        · subst hkm; exact hp
        · exact h k (by omega)
    · right; exact ⟨j, by omega, hc, ht⟩

theorem ready_init (w : ω) (o : Options) (dflt all : L) (c : Nat) (h : dflt ≠ all) :
    Ready (Drv.init (ρ := ρ) w o dflt all c) := by
  refine ⟨h, ?_⟩
  intro e he
  simp [Drv.init, Timer.init, Store.get] at he

/-- `solver.maxiter = m; solver.solve(cb)` for each `(m, cb)` in turn -/
def runSolves (E : Env ω ρ ξ α) : List (Int × Option (Callback ω)) → Drv ω ρ L → Drv ω ρ L
  | [], d => d
  | c :: cs, d => runSolves E cs (solve E c.2 (d.setMaxiter c.1)).1

/-- none of the calls raises -/
def AllOk (E : Env ω ρ ξ α) : List (Int × Option (Callback ω)) → Drv ω ρ L → Prop
  | [], _ => True
  | c :: cs, d => (solve E c.2 (d.setMaxiter c.1)).2 = .ok ∧ AllOk E cs (solve E c.2 (d.setMaxiter c.1)).1

def totalIters (calls : List (Int × Option (Callback ω))) : Nat := (calls.map (fun c => c.1.toNat)).sum

/-- a state whose timer is that of `d`, restarted — left running (not later than its own clock, and
    after any pause) or stopped — is `Ready` again -/
theorem Ready.of_running {d r : Drv ω ρ L} {e : Nat} (hr : Ready d)
    (h : RunningAt (d.timer.start .none d.clock) r.timer r.clock e) (g : Nat) : Ready (r.tick g) :=
  ⟨by show r.timer.dflt ≠ r.timer.all; rw [h.1, h.2.1]; exact hr.labels, (h.after g).1.wf⟩

theorem Ready.of_stopped {d r : Drv ω ρ L} {e : Nat} (hr : Ready d)
    (h : StoppedAt (d.timer.start .none d.clock) r.timer e) (g : Nat) : Ready (r.tick g) :=
  ⟨by show r.timer.dflt ≠ r.timer.all; rw [h.1, h.2.1]; exact hr.labels, h.wf _⟩

theorem noTrip_of_ok (E : Env ω ρ ξ α) (cb : Option (Callback ω)) (d : Drv ω ρ L) (hr : Ready d)
    (hok : (solve E cb d).2 = .ok) : NoTrip E cb d := by
  rcases first_trip (tripsAt E cb d.world d.nanstop) d.maxiter.toNat with h | ⟨j, hj, hc, ht⟩
  · exact h
  · obtain ⟨o, _⟩ := solve_trip E cb d hr j hj hc ht
    rw [o] at hok
    cases hok

theorem runSolves_numbering (E : Env ω ρ ξ α) (calls : List (Int × Option (Callback ω)))
    (d : Drv ω ρ L) (hr : Ready d) (hok : AllOk E calls d) :
    (runSolves E calls d).itnum = d.itnum + (totalIters calls : Int) ∧
      (runSolves E calls d).rows.map (·.iter) =
        d.rows.map (·.iter) ++ (List.range (totalIters calls)).map (fun (k : Nat) => d.itnum + (k : Int)) ∧
      Ready (runSolves E calls d) := by
  induction calls generalizing d with
  | nil => simp [runSolves, totalIters, hr]
  | cons c cs ih =>
    obtain ⟨ok, rest⟩ := hok
    have hr1 : Ready (d.setMaxiter c.1) := ⟨hr.labels, hr.past⟩
    obtain ⟨_, S⟩ := solve_clean E c.2 (d.setMaxiter c.1) hr1 (noTrip_of_ok E c.2 _ hr1 ok)
    have hr2 : Ready (solve E c.2 (d.setMaxiter c.1)).1 := hr1.of_stopped S.timer 0
    obtain ⟨hi, hrows, hrd⟩ := ih _ hr2 rest
    have Si := S.itnum
    have Sr := S.rows
    simp only [setMaxiter_maxiter, setMaxiter_itnum, setMaxiter_rows] at Si Sr
    have htot : totalIters (c :: cs) = c.1.toNat + totalIters cs := by simp [totalIters]
    refine ⟨?_, ?_, hrd⟩
    · simp only [runSolves]; rw [hi, Si, htot]; push_cast; omega
    · simp only [runSolves]
      rw [hrows, Sr, htot, List.range_add, List.map_append, List.map_append, List.map_map, List.map_map,
        List.append_assoc]
      congr 2
      apply List.map_congr_left
      intro k _
      simp only [Function.comp, Si]
      push_cast; omega

/-- `solver.maxiter = m₀; solver.solve(cb)`, then for each `(g, m)` of the list: a pause of `g`
    ticks, `solver.maxiter = m; solver.solve(cb)` -/
def runSeq (E : Env ω ρ ξ α) (cb : Option (Callback ω)) (d : Drv ω ρ L) (m0 : Nat)
    (rest : List (Nat × Nat)) : Drv ω ρ L :=
  rest.foldl (fun d p => (solve E cb ((d.tick p.1).setMaxiter p.2)).1) (solve E cb (d.setMaxiter m0)).1

/-- iterations requested by the later calls -/
def seqIters (rest : List (Nat × Nat)) : Nat := (rest.map (·.2)).sum

def seqPause (rest : List (Nat × Nat)) : Nat := (rest.map (·.1)).sum

theorem runSeq_cons (E : Env ω ρ ξ α) (cb : Option (Callback ω)) (d : Drv ω ρ L) (m0 : Nat)
    (p : Nat × Nat) (rest : List (Nat × Nat)) :
    runSeq E cb d m0 (p :: rest) = runSeq E cb ((solve E cb (d.setMaxiter m0)).1.tick p.1) p.2 rest := rfl

theorem foldl_doneAt {E : Env ω ρ ξ α} {cb : Option (Callback ω)} {d : Drv ω ρ L}
    (hda : d.timer.dflt ≠ d.timer.all) (rest : List (Nat × Nat)) (r : Drv ω ρ L) (m g : Nat)
    (D : DoneAt E cb d r m g)
    (hclean : ∀ k < m + seqIters rest, ¬ tripsAt E cb d.world d.nanstop k) :
    DoneAt E cb d (rest.foldl (fun d p => (solve E cb ((d.tick p.1).setMaxiter p.2)).1) r)
      (m + seqIters rest) (g + seqPause rest) := by
  induction rest generalizing r m g with
  | nil => simpa [seqIters, seqPause] using D
  | cons p rest ih =>
    have hi : seqIters (p :: rest) = p.2 + seqIters rest := by simp [seqIters]
    have hp : seqPause (p :: rest) = p.1 + seqPause rest := by simp [seqPause]
    rw [hi, hp, ← Nat.add_assoc, ← Nat.add_assoc]
    exact ih _ _ _ (D.next hda p.1 p.2 (fun k hk => hclean k (by omega))).2
      (fun k hk => hclean k (by omega))

end Scico.Driver
