/-
  Index maps: `Slice`, zero `Pad` / `Crop`, `Transpose` (`Reshape` keeps the flat index: `ravel_unravel` of `Proofs/LinOps`), and
  the non-constant pad modes.
-/
import Scico.Proofs.LinOps
import Scico.Proofs.Shape

namespace Scico.LinOps

section Index
variable {K : Type} [CommRing K]

/-- element `t` of the enumeration used by C12 is `start + t·step` -/
theorem rangeList_getElem (fuel : Nat) (a b s : Int) (t : Nat) (ht : t < (Shape.rangeList fuel a b s).length) :
    (Shape.rangeList fuel a b s)[t] = a + t * s := by
  induction fuel generalizing a t with
  | zero => simp [Shape.rangeList] at ht
  | succ f ih =>
    unfold Shape.rangeList at ht ⊢
    split at ht
    · rename_i hc
      simp only [hc, if_true]
      cases t with
      | zero => simp
      | succ t =>
        simp only [List.length_cons, Nat.add_lt_add_iff_right] at ht
        simp only [List.getElem_cons_succ]
        rw [ih (a + s) t ht]
        push_cast; ring
    · simp at ht

/-- position `t` of a slice lies inside the axis: it is element `t` of C12's enumeration, whose elements lie between the
    bounds established for `slice.indices` -/
theorem slice_pos_in_range {n : Nat} {a b s : Int} (hs : s ≠ 0)
    (hpos : 0 < s → 0 ≤ a ∧ a ≤ n ∧ 0 ≤ b ∧ b ≤ n)
    (hneg : s < 0 → -1 ≤ a ∧ a ≤ (n : Int) - 1 ∧ -1 ≤ b ∧ b ≤ (n : Int) - 1)
    (t : Nat) (ht : (t : Int) < Shape.rangeLen a b s) : 0 ≤ a + t * s ∧ a + t * s < n := by
  have hl := Shape.rangeList_length n a b s hs (Shape.rangeLen_le_of_bounds hs hpos hneg)
  have ht' : t < (Shape.rangeList n a b s).length := by omega
  have hm := Shape.rangeList_mem n a b s _ (List.getElem_mem ht')
  rw [rangeList_getElem n a b s t ht'] at hm
  rcases hm with ⟨h, h1, h2⟩ | ⟨h, h1, h2⟩
  · have := hpos h; omega
  · have := hneg h; omega

theorem padEval_eq_mulVec (lo n : Nat) (x : V K) (i : Nat) :
    padEval lo n x i = mulVec (padMatrix lo) n x i := by
  unfold padEval mulVec padMatrix
  by_cases h : lo ≤ i ∧ i < lo + n
  · rw [if_pos h]
    exact (sumTo_select (q := i - lo) (by omega) (fun j _ => by omega) x).symm
  · rw [if_neg h]
    exact (sumTo_eq_zero fun j hj => by rw [if_neg (by omega), zero_mul]).symm

theorem cropEval_eq_mulVec (lo p : Nat) (y : V K) (i : Nat) (hi : i + lo < p) :
    cropEval lo y i = mulVec (cropMatrix lo) p y i := by
  unfold cropEval mulVec cropMatrix
  exact (sumTo_select hi (fun _ _ => Iff.rfl) y).symm

end Index

section Transpose

theorem inBounds_length (dims idx : List Nat) (h : InBounds dims idx) : idx.length = dims.length :=
  (inBounds_iff.1 h).length_eq

theorem inBounds_getD (dims idx : List Nat) (h : InBounds dims idx) (a : Nat) (ha : a < dims.length) :
    idx.getD a 0 < dims.getD a 1 := by
  obtain ⟨hl, hg⟩ := List.forall₂_iff_get.1 (inBounds_iff.1 h)
  rw [getD_eq_getElem idx a 0 (hl ▸ ha), getD_eq_getElem dims a 1 ha]
  exact hg a (hl ▸ ha) ha

theorem inBounds_map (dims idx : List Nat) (h : InBounds dims idx) :
    ∀ (perm : List Nat), (∀ a ∈ perm, a < dims.length) →
      InBounds (perm.map (fun a => dims.getD a 1)) (perm.map (fun a => idx.getD a 0))
  | [], _ => by simp [InBounds]
  | a :: perm, hp => by
    simp only [List.map_cons, InBounds]
    exact ⟨inBounds_getD dims idx h a (hp a (by simp)), inBounds_map dims idx h perm (fun b hb => hp b (by simp [hb]))⟩

theorem transposeEval_spec {α : Type} (dims perm idx : List Nat) (x : V α)
    (hperm : perm.Perm (List.range dims.length)) (hidx : InBounds dims idx) :
    transposeEval dims perm x
        (ravel (perm.map (fun a => dims.getD a 1)) (perm.map (fun a => idx.getD a 0)))
      = x (ravel dims idx) := by
  have hmem : ∀ a, a ∈ perm ↔ a < dims.length := by
    intro a; rw [hperm.mem_iff]; simp
  have hb := inBounds_map dims idx hidx perm (fun a ha => (hmem a).mp ha)
  unfold transposeEval
  simp only
  rw [unravel_ravel _ _ hb]
  congr 2
  have hlen := inBounds_length dims idx hidx
  apply List.ext_getElem
  · simp [hlen]
  · intro b h1 h2
    simp only [List.getElem_map, List.getElem_range]
    have hbm : b ∈ perm := (hmem b).mpr (by simpa using h1)
    have hlt : perm.idxOf b < perm.length := List.idxOf_lt_length_iff.mpr hbm
    rw [getD_eq_getElem _ _ _ (by simpa using hlt)]
    simp only [List.getElem_map, List.getElem_idxOf hlt]
    rw [getD_eq_getElem _ _ _ h2]

end Transpose

section PadModes

theorem padSrc_range (mode : PadMode) (n : Nat) (hn : 0 < n) (t : Int) :
    0 ≤ padSrc mode n t ∧ padSrc mode n t < n := by
  have hn' : (0 : Int) < n := by exact_mod_cast hn
  cases mode <;> simp only [padSrc]
  · split
    · omega
    · split <;> omega
  · exact ⟨Int.emod_nonneg _ (by omega), Int.emod_lt_of_pos _ hn'⟩
  · split
    · omega
    · rename_i h1
      have h2 : (0 : Int) < 2 * (n : Int) - 2 := by omega
      have := Int.emod_nonneg t (by omega : 2 * (n : Int) - 2 ≠ 0)
      have := Int.emod_lt_of_pos t h2
      split <;> omega
  · have h2 : (0 : Int) < 2 * (n : Int) := by omega
    have := Int.emod_nonneg t (by omega : 2 * (n : Int) ≠ 0)
    have := Int.emod_lt_of_pos t h2
    split <;> omega

theorem padSrc_interior (mode : PadMode) (n : Nat) (t : Int) (h0 : 0 ≤ t) (h1 : t < n) : padSrc mode n t = t := by
  cases mode <;> simp only [padSrc]
  · rw [if_neg (by omega), if_pos h1]
  · exact Int.emod_eq_of_lt h0 h1
  · split
    · omega
    · rw [Int.emod_eq_of_lt h0 (by omega)]; simp [h1]
  · rw [Int.emod_eq_of_lt h0 (by omega)]; simp [h1]

theorem neg_emod_cases (t P : Int) (hP : 0 < P) :
    (t % P = 0 ∧ (-t) % P = 0) ∨ (0 < t % P ∧ (-t) % P = P - t % P) := by
  have h0 := Int.emod_nonneg t (by omega : P ≠ 0)
  rw [Int.neg_emod]
  by_cases hd : P ∣ t
  · exact Or.inl ⟨Int.emod_eq_zero_of_dvd hd, if_pos hd⟩
  · have : t % P ≠ 0 := fun h => hd (Int.dvd_of_emod_eq_zero h)
    exact Or.inr ⟨by omega, by rw [if_neg hd, Int.natAbs_of_nonneg hP.le]⟩

theorem neg_one_sub_emod (t P : Int) (hP : 0 < P) : (-1 - t) % P = P - 1 - t % P := by
  have h0 := Int.emod_nonneg t (by omega : P ≠ 0)
  have h1 := Int.emod_lt_of_pos t hP
  rw [show -1 - t = (P - 1 - t % P) + P * (-(t / P) - 1) by have := Int.mul_ediv_add_emod t P; linarith,
    Int.add_mul_emod_self_left, Int.emod_eq_of_lt (by omega) (by omega)]

/-- `edge`: constant continuation by the first / last value -/
theorem padSrc_edge (n : Nat) (t : Int) : (t < 0 → padSrc .edge n t = 0) ∧ ((n : Int) ≤ t → padSrc .edge n t = n - 1) := by
  constructor
  · intro h; simp [padSrc, h]
  · intro h; simp only [padSrc]; rw [if_neg (by omega), if_neg (by omega)]

/-- `wrap`: periodic continuation with period `n` -/
theorem padSrc_wrap (n : Nat) (t : Int) : padSrc .wrap n (t + n) = padSrc .wrap n t := by
  simp [padSrc]

/-- `reflect`: mirrored about the first and about the last sample (the edge sample is not repeated) -/
theorem padSrc_reflect (n : Nat) (hn : 2 ≤ n) (t : Int) :
    padSrc .reflect n (-t) = padSrc .reflect n t
    ∧ padSrc .reflect n ((n : Int) - 1 + t) = padSrc .reflect n ((n : Int) - 1 - t) := by
  have hP : (0 : Int) < 2 * (n : Int) - 2 := by omega
  have hn1 : n ≠ 1 := by omega
  have key : ∀ t : Int, padSrc .reflect n (-t) = padSrc .reflect n t := by
    intro t
    simp only [padSrc, if_neg hn1]
    have h0 := Int.emod_nonneg t (by omega : 2 * (n : Int) - 2 ≠ 0)
    have h1 := Int.emod_lt_of_pos t hP
    rcases neg_emod_cases t _ hP with ⟨ha, hb⟩ | ⟨ha, hb⟩
    · rw [ha, hb]
    · -- the residue `u` of `t` becomes `P − u` (`P = 2n − 2`): `u < n` and `u ≥ n` change places, the folded value stays
      rw [hb]; split <;> split <;> omega
  refine ⟨key t, ?_⟩
  -- mirror about the last sample: shift by the period
  have e : (n : Int) - 1 + t = -((n : Int) - 1 - t) + (2 * (n : Int) - 2) * 1 := by ring
  have hper : ∀ u : Int, padSrc .reflect n (u + (2 * (n : Int) - 2) * 1) = padSrc .reflect n u := by
    intro u; simp only [padSrc, if_neg hn1, Int.add_mul_emod_self_left]
  rw [e, hper, key]

/-- `symmetric`: mirrored about the array edges (the edge sample is repeated) -/
theorem padSrc_symmetric (n : Nat) (hn : 0 < n) (t : Int) :
    padSrc .symmetric n (-1 - t) = padSrc .symmetric n t
    ∧ padSrc .symmetric n ((n : Int) + t) = padSrc .symmetric n ((n : Int) - 1 - t) := by
  have hP : (0 : Int) < 2 * (n : Int) := by omega
  have key : ∀ t : Int, padSrc .symmetric n (-1 - t) = padSrc .symmetric n t := by
    intro t
    simp only [padSrc]
    have h0 := Int.emod_nonneg t (by omega : 2 * (n : Int) ≠ 0)
    have h1 := Int.emod_lt_of_pos t hP
    rw [neg_one_sub_emod t _ hP]
    generalize t % (2 * (n : Int)) = u at h0 h1 ⊢
    -- the residue `u` of `t` has become `2n − 1 − u`: `u < n` and `u ≥ n` change places, the folded value stays
    split <;> split <;> omega
  refine ⟨key t, ?_⟩
  have e : (n : Int) + t = (-1 - ((n : Int) - 1 - t)) + (2 * (n : Int)) * 1 := by ring
  have hper : ∀ u : Int, padSrc .symmetric n (u + (2 * (n : Int)) * 1) = padSrc .symmetric n u := by
    intro u; simp only [padSrc, Int.add_mul_emod_self_left]
  rw [e, hper, key]

end PadModes

end Scico.LinOps
