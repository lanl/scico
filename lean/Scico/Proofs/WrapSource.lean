/-
  Source structure of the functions of scico/solver.py that `Scico.Model.Wrap` transcribes (C18), each entry
  naming the model definitions that follow it; see `Scico/Proofs/BlockSource.lean` for the mechanism.  Mathlib-free.
-/
import Scico.Proofs.BlockSource

namespace Scico.Wrap.Source

def pinned : List (String × List String) :=
  [
    -- model: ravel
    ("scico/solver.py:_ravel",
     ["def _ravel(x):",
      "  if isinstance(x, BlockArray):",
      "    return jnp.concatenate([jnp.ravel(blk) for blk in x])",
      "  return jnp.ravel(x)"]),
    -- model: cumsumFrom, splitIdx, reshape, mapO, unravel
    ("scico/solver.py:_unravel",
     ["def _unravel(x, shape):",
      "  if snp.util.is_nested(shape):",
      "    idx = np.cumsum([prod(s) for s in shape])[:-1]",
      "    return snp.blockarray([jnp.reshape(blk, s) for blk, s in zip(jnp.split(x, idx), shape)])",
      "  return jnp.reshape(x, shape)"]),
    -- model: objective, objectiveArgs (gradient-free path)
    ("scico/solver.py:_wrap_func",
     ["def _wrap_func(func, shape, dtype):",
      "  val_func = jax.jit(func)",
      "  @wraps(func)",
      "  def wrapper(x, *args):",
      "    val = val_func(_unravel(x, shape).astype(dtype), *args)",
      "    val = np.array(val).astype(float)",
      "    val = val.item() if val.ndim == 0 else val[0].item()",
      "    return val",
      "  return wrapper"]),
    -- model: objective, objectiveArgs; flat gradient = _ravel(grad) (C18_gradient_pairing)
    ("scico/solver.py:_wrap_func_and_grad",
     ["def _wrap_func_and_grad(func, shape, dtype):",
      "  val_grad_func = jax.jit(jax.value_and_grad(func, argnums=0))",
      "  @wraps(func)",
      "  def wrapper(x, *args):",
      "    val, grad = val_grad_func(_unravel(x, shape).astype(dtype), *args)",
      "    val = np.array(val).astype(float).item()",
      "    grad = np.array(_ravel(grad)).astype(float)",
      "    return (val, grad)",
      "  return wrapper"]),
    -- model: splitArr, splitVal
    ("scico/solver.py:_split_real_imag",
     ["def _split_real_imag(x):",
      "  if isinstance(x, BlockArray):",
      "    return snp.blockarray([_split_real_imag(_) for _ in x])",
      "  return snp.stack((snp.real(x), snp.imag(x)))"]),
    -- model: joinArr, joinVal
    ("scico/solver.py:_join_real_imag",
     ["def _join_real_imag(x):",
      "  if isinstance(x, BlockArray):",
      "    return snp.blockarray([_join_real_imag(_) for _ in x])",
      "  return x[0] + 1j * x[1]"]),
    -- model: DT.isInexact (TypeError), prepare / workShape / x0flat (split -> shape, dtype -> ravel), usesGrad (method list), the scipy call (generated Kwargs tables), result (astype -> unravel -> join)
    ("scico/solver.py:minimize",
     ["def minimize(func, x0, args=(), method='L-BFGS-B', hess=None, hessp=None, bounds=None, constraints=(), tol=None, callback=None, options=None):",
      "  if not jnp.issubdtype(x0.dtype, jnp.inexact):",
      "    raise TypeError",
      "  if snp.util.is_complex_dtype(x0.dtype):",
      "    iscomplex = True",
      "    func_ = lambda x, *args: func(_join_real_imag(x), *args)",
      "    x0 = _split_real_imag(x0)",
      "  else:",
      "    iscomplex = False",
      "    func_ = func",
      "  x0_shape = x0.shape",
      "  x0_dtype = x0.dtype",
      "  x0 = _ravel(x0)",
      "  if isinstance(method, str) and method.lower() in 'cg, bfgs, newton-cg, l-bfgs-b, tnc, slsqp, dogleg, trust-ncg, trust-krylov, trust-exact, trust-constr'.split(', '):",
      "    min_func = _wrap_func_and_grad(func_, x0_shape, x0_dtype)",
      "    jac = True",
      "  else:",
      "    min_func = _wrap_func(func_, x0_shape, x0_dtype)",
      "    jac = False",
      "  res = spopt.OptimizeResult({'x': None})",
      "  def fun(x0):",
      "    nonlocal res",
      "    res = spopt.minimize(min_func, x0=np.asarray(x0, dtype=float), args=args, jac=jac, method=method, hess=hess, hessp=hessp, bounds=bounds, constraints=constraints, tol=tol, callback=callback, options=options)",
      "    return res.x.astype(x0_dtype)",
      "  res.x = jax.pure_callback(fun, jax.ShapeDtypeStruct(x0.shape, x0_dtype), x0)",
      "  res.x = _unravel(res.x, x0_shape)",
      "  if iscomplex:",
      "    res.x = _join_real_imag(res.x)",
      "  return res"]),
    -- model: scalarOf (wrapper f), generated Kwargs table (forwarded keywords)
    ("scico/solver.py:minimize_scalar",
     ["def minimize_scalar(func, bracket=None, bounds=None, args=(), method=None, tol=None, options=None):",
      "  def f(x, *args):",
      "    y = func(x, *args)",
      "    return y.item() if y.ndim == 0 else y[0].item()",
      "  res = spopt.minimize_scalar(fun=f, bracket=bracket, bounds=bounds, args=args, method=method, tol=tol, options=options)",
      "  return res"])
  ]

end Scico.Wrap.Source
