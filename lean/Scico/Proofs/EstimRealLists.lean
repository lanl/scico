/-
  The scalar classes of the model at `ℝ` (`HasSqrt`, `HasAbs`) and the list operations of `Scico.Model.Estim` on lists of reals:
  `lsum` is the sum, `lmax`/`lmin` return an element that bounds the list (`IsMaxOf`, `IsMinOf`).
-/
import Scico.Model.Estim
import Scico.Proofs.Sums
import Mathlib.Analysis.Real.Sqrt
import Mathlib.Algebra.BigOperators.Fin

namespace Scico.Estim

noncomputable instance instHasSqrtReal : HasSqrt ℝ := ⟨Real.sqrt⟩
noncomputable instance instHasAbsReal : HasAbs ℝ := ⟨fun x => |x|⟩

@[simp] theorem hasSqrt_real (x : ℝ) : HasSqrt.sqrt x = Real.sqrt x := rfl
@[simp] theorem hasAbs_real (x : ℝ) : HasAbs.abs x = |x| := rfl

theorem lsum_eq_sum (l : List ℝ) : lsum l = l.sum := by
  unfold lsum
  rw [List.sum_eq_foldl]

theorem lsum_ofFn {n : Nat} (f : Fin n → ℝ) : lsum (List.ofFn f) = ∑ i, f i := by
  rw [lsum_eq_sum, List.sum_ofFn]

def IsMaxOf (m : ℝ) (l : List ℝ) : Prop := m ∈ l ∧ ∀ x ∈ l, x ≤ m
def IsMinOf (m : ℝ) (l : List ℝ) : Prop := m ∈ l ∧ ∀ x ∈ l, m ≤ x

theorem lmax_spec {l : List ℝ} {m : ℝ} (h : lmax l = some m) : IsMaxOf m l := by
  cases l with
  | nil => cases h
  | cons a t => exact Option.some.inj h ▸ foldl_max_mem_le t a

theorem lmin_spec {l : List ℝ} {m : ℝ} (h : lmin l = some m) : IsMinOf m l := by
  cases l with
  | nil => cases h
  | cons a t => exact Option.some.inj h ▸ foldl_max_mem_le (α := ℝᵒᵈ) t a

/-- `x.max()` of a non-empty array -/
theorem lmax_ofFn {k : Nat} (hk : 0 < k) (f : Fin k → ℝ) :
    ∃ m, lmax (List.ofFn f) = some m ∧ IsMaxOf m (List.ofFn f) := by
  obtain ⟨k, rfl⟩ := Nat.exists_eq_succ_of_ne_zero hk.ne'
  rw [List.ofFn_succ]
  exact ⟨_, rfl, lmax_spec rfl⟩

/-- `x.min()` of a non-empty array -/
theorem lmin_ofFn {k : Nat} (hk : 0 < k) (f : Fin k → ℝ) :
    ∃ m, lmin (List.ofFn f) = some m ∧ IsMinOf m (List.ofFn f) := by
  obtain ⟨k, rfl⟩ := Nat.exists_eq_succ_of_ne_zero hk.ne'
  rw [List.ofFn_succ]
  exact ⟨_, rfl, lmin_spec rfl⟩

theorem IsMaxOf.exists_ofFn {k : Nat} {f : Fin k → ℝ} {m : ℝ} (h : IsMaxOf m (List.ofFn f)) : ∃ i, f i = m :=
  (List.mem_ofFn' _ _).1 h.1

theorem IsMaxOf.ofFn_le {k : Nat} {f : Fin k → ℝ} {m : ℝ} (h : IsMaxOf m (List.ofFn f)) (i : Fin k) : f i ≤ m :=
  h.2 _ ((List.mem_ofFn' _ _).2 ⟨i, rfl⟩)

theorem IsMinOf.exists_ofFn {k : Nat} {f : Fin k → ℝ} {m : ℝ} (h : IsMinOf m (List.ofFn f)) : ∃ i, f i = m :=
  (List.mem_ofFn' _ _).1 h.1

theorem IsMinOf.le_ofFn {k : Nat} {f : Fin k → ℝ} {m : ℝ} (h : IsMinOf m (List.ofFn f)) (i : Fin k) : m ≤ f i :=
  h.2 _ ((List.mem_ofFn' _ _).2 ⟨i, rfl⟩)

end Scico.Estim
