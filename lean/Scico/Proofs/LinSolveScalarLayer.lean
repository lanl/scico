/-
  The scalar layer of `Scico.Model.LinSolve` over a linearly ordered field: the tests and functions the models write with `<`
  only (`isZero`, `sgn`, `absv`, `vmaxAbs`, the numerals `two`) are the usual ones, and `freeze` (`thaw ∘ Array.ofFn`) is the
  identity.
-/
import Mathlib.Algebra.Order.Field.Basic
import Mathlib.Tactic.NormNum
import Scico.Model.LinSolve

namespace Scico.LinSolve

variable {K : Type} [Field K] [LinearOrder K]

theorem two_eq {K : Type} [Field K] : (two : K) = 2 := one_add_one_eq_two

theorem thaw_ofFn {α : Type} [Inhabited α] {n : Nat} (f : Fin n → α) : thaw (Array.ofFn f) = f := by
  funext i
  simp [thaw, Array.getD]

/-- the `<`-written test is exact in an ordered field (what `LawfulIsZero` assumes of the class test `isZ`) -/
theorem isZero_iff (x : K) : isZero x = true ↔ x = 0 := by
  simp only [isZero, Bool.and_eq_true, Bool.not_eq_true', decide_eq_false_iff_not, not_lt]
  constructor
  · rintro ⟨h1, h2⟩; exact le_antisymm h2 h1
  · rintro rfl; exact ⟨le_rfl, le_rfl⟩

theorem sgn_pos {x : K} (h : 0 < x) : sgn x = 1 := by simp [sgn, h]
theorem sgn_neg {x : K} (h : x < 0) : sgn x = -1 := by simp [sgn, h, not_lt.2 h.le]
theorem sgn_zero : sgn (0 : K) = 0 := by simp [sgn]

variable [IsStrictOrderedRing K]

/-- `sign(x) * sign(y) == 1` iff `x y > 0` -/
theorem sameSign_iff (x y : K) : isZero (sgn x * sgn y - 1) = true ↔ 0 < x * y := by
  rw [isZero_iff]
  rcases lt_trichotomy x 0 with hx | rfl | hx <;> rcases lt_trichotomy y 0 with hy | rfl | hy
  · simp [sgn_neg hx, sgn_neg hy, mul_pos_of_neg_of_neg hx hy]
  · simp [sgn_zero]
  · simp [sgn_neg hx, sgn_pos hy, not_lt.2 (mul_nonpos_of_nonpos_of_nonneg hx.le hy.le)]; norm_num
  · simp [sgn_zero]
  · simp [sgn_zero]
  · simp [sgn_zero]
  · simp [sgn_pos hx, sgn_neg hy, not_lt.2 (mul_nonpos_of_nonneg_of_nonpos hx.le hy.le)]; norm_num
  · simp [sgn_zero]
  · simp [sgn_pos hx, sgn_pos hy, mul_pos hx hy]

theorem absv_eq_abs (x : K) : absv x = |x| := by
  unfold absv
  split
  · rename_i h; rw [abs_of_neg h]
  · rename_i h; rw [abs_of_nonneg (not_lt.1 h)]

theorem foldl_max_ge {L : Type} [LinearOrder L] (l : List L) :
    ∀ (init : L), init ≤ l.foldl max init ∧ ∀ x ∈ l, x ≤ l.foldl max init := by
  induction l with
  | nil => intro init; simp
  | cons y ys ih =>
    intro init
    obtain ⟨h1, h2⟩ := ih (max init y)
    simp only [List.foldl_cons, List.mem_cons]
    refine ⟨le_trans (le_max_left _ _) h1, ?_⟩
    rintro x (rfl | hx)
    · exact le_trans (le_max_right _ _) h1
    · exact h2 x hx

theorem le_vmaxAbs [Inhabited K] {n : Nat} (v : Vec K n) (i : Fin n) : |v i| ≤ vmaxAbs v := by
  unfold vmaxAbs
  rw [← absv_eq_abs]
  exact (foldl_max_ge _ 0).2 _ (List.mem_ofFn.2 ⟨i, rfl⟩)

end Scico.LinSolve
