/-
  Dtype-uniform expressions (every leaf, every strong scalar factor of one dtype `dt`; weak Python
  scalars that do not change `dt`): every object scico builds declares `dt` throughout, hence the
  agreement conditions `DtAgrees` of `OpAlgDt` hold and declared dtype = returned dtype.
-/
import Scico.Proofs.OpAlgDt
import Scico.Proofs.OpAlgMeta

namespace Scico.OpAlg
open Scico.DType

section
variable {α : Type} [Add α] [Sub α] [Mul α] [Div α] [Neg α] [Zero α] [One α] [HasConj α] [HasRe α]

/-- every declared dtype of the object is `dt` -/
abbrev UniformMeta (dt : DT) (o : Obj α) : Prop := MdIn (· = dt) (fun _ => True) o

theorem uniform_closed (dt : DT) : MdClosed (· = dt) (fun _ => True) :=
  ⟨fun ha hb => by rw [ha, hb, rt_idem], fun _ => trivial, fun _ _ _ => trivial⟩

/-- scalar factors that leave the dtype unchanged -/
def ScalOk (dt : DT) (c : Scal α) : Prop := resultTypeS dt c.kind.sk = dt

/-- every leaf is declared with the one dtype `dt`; scalar factors do not change it -/
def Uniform (dt : DT) : LExpr α → Prop
  | .mat _ _ d _ => d = dt
  | .diag _ ddt _ inDt? _ => ddt = dt ∧ (inDt? = none ∨ inDt? = some dt)
  | .scaledId _ ck _ d => d = dt ∧ resultTypeS dt ck.sk = dt
  | .ident _ d => d = dt
  | .lin _ _ inDt gDt _ _ => inDt = dt ∧ gDt = dt
  | .nonlin _ _ inDt gDt _ => inDt = dt ∧ gDt = dt
  | .add a b | .sub a b | .had _ a b | .comp a b | .matmul a b => Uniform dt a ∧ Uniform dt b
  | .smulL c a | .smulR a c | .sdiv a c | .rdiv c a | .addS _ _ a c => ScalOk dt c ∧ Uniform dt a
  | .neg a | .T a | .H a | .conj a | .gram a => Uniform dt a

theorem leafAdjOk_self (dt : DT) : LeafAdjOk dt dt := by cases dt <;> rfl

/-- on a dtype-uniform expression every built object declares `dt` throughout and is dtype-sound -/
theorem build_uniform (dt : DT) (e : LExpr α) (o : Obj α) (hu : Uniform dt e) (h : build e = .ok o) :
    UniformMeta dt o ∧ DtOk o := by
  have hc := uniform_closed dt
  have agree : ∀ {a b : Obj α}, UniformMeta dt a → UniformMeta dt b → DtAgree a b := fun ua ub =>
    ⟨ua.inD.trans ub.inD.symm, ua.outD.trans ub.outD.symm⟩
  have chain : ∀ {a b : Obj α}, UniformMeta dt a → UniformMeta dt b → a.md.inDt = b.md.outDt := fun ua ub =>
    ua.inD.trans ub.outD.symm
  -- the output dtype `MatrixOperator.__call__` infers is what the dtype-sound chain returns
  have auto : ∀ {a b : Obj α}, UniformMeta dt a ∧ DtOk a → UniformMeta dt b ∧ DtOk b → ∀ outDt,
      (do let d ← b.evalDt b.md.inDt; a.evalDt d) = .ok outDt → outDt = dt := fun pa pb outDt hev =>
    (Except.ok.inj (hev.symm.trans (comp_evalDt pa.2 pb.2 (chain pa.1 pb.1)))).trans pa.1.outD
  have scal : ∀ {c : Scal α}, ScalOk dt c → ∀ {d}, d = dt → resultTypeS d c.kind.sk = dt :=
    fun hk _ hd => by rw [hd]; exact hk
  revert hu
  refine build_ind (P := fun e o => Uniform dt e → UniformMeta dt o ∧ DtOk o) ?mat ?diag ?scaledId ?ident ?lin ?nonlin ?add ?sub ?neg ?smulL ?smulR ?sdiv
    ?rdiv ?addS ?had ?comp ?matmul ?T ?H ?conj ?gram e o h
  case mat => exact fun _ _ _ _ hu => ⟨mkMat_md hc _ _ _ hu, mkMat_dt ..⟩
  case diag =>
    intro _ _ _ inDt? _ _ h hu
    refine ⟨mkDiag_md hc hu.1 ?_ trivial trivial h, mkDiag_dt h⟩
    rcases hu.2 with h2 | h2 <;> subst h2
    · exact hu.1
    · rfl
  case scaledId => exact fun _ _ _ _ hu => ⟨mkSid_md hc _ _ hu.1 (by rw [hu.1]; exact hu.2) trivial, mkSid_dt ..⟩
  case ident => exact fun _ _ hu => ⟨⟨hu, hu, hu, trivial, trivial, trivial⟩, mkIdent_dt ..⟩
  case lin =>
    intro inSh outSh inDt gDt hasAdj G hu
    obtain ⟨rfl, rfl⟩ := hu
    refine ⟨?_, mkLinLeaf_dt _ _ _ _ _ _ (fun _ => leafAdjOk_self _)⟩
    cases hasAdj <;> exact ⟨rfl, rt_idem _, rfl, trivial, trivial, trivial⟩
  case nonlin =>
    intro inSh outSh inDt gDt G hu
    obtain ⟨rfl, rfl⟩ := hu
    exact ⟨⟨rfl, rt_idem _, rfl, trivial, trivial, trivial⟩, mkNonlinLeaf_dt ..⟩
  case add =>
    exact fun _ _ _ _ _ _ _ pa pb h hu =>
      ⟨addSub_md hc false (pa hu.1).1 (pb hu.2).1 h,
        addSub_dt false (pa hu.1).2 (pb hu.2).2 (fun _ => agree (pa hu.1).1 (pb hu.2).1) h⟩
  case sub =>
    exact fun _ _ _ _ _ _ _ pa pb h hu =>
      ⟨addSub_md hc true (pa hu.1).1 (pb hu.2).1 h,
        addSub_dt true (pa hu.1).2 (pb hu.2).2 (fun _ => agree (pa hu.1).1 (pb hu.2).1) h⟩
  case neg => exact fun _ _ _ _ pa h hu => ⟨neg_md hc (pa hu).1 h, neg_dt (pa hu).2 h⟩
  case smulL => exact fun c _ _ _ _ pa h hu => ⟨smul_md hc c (scal hu.1) (pa hu.2).1 h, smul_dt c (pa hu.2).2 h⟩
  case smulR => exact fun _ c _ _ _ pa h hu => ⟨smul_md hc c (scal hu.1) (pa hu.2).1 h, smul_dt c (pa hu.2).2 h⟩
  case sdiv => exact fun _ c _ _ _ pa h hu => ⟨sdiv_md hc c (scal hu.1) (pa hu.2).1 h, sdiv_dt c (pa hu.2).2 h⟩
  case rdiv =>
    exact fun _ _ _ _ _ pa _ h hu =>
      ⟨matScal_md hc (scal hu.1) (pa hu.2).1 h, matScal_ok h ▸ mkMat_dt ..⟩
  case addS =>
    exact fun _ _ _ _ _ _ _ pa _ h hu =>
      ⟨matScal_md hc (scal hu.1) (pa hu.2).1 h, matScal_ok h ▸ mkMat_dt ..⟩
  case had =>
    exact fun _ _ _ _ _ _ _ _ pa pb _ h hu =>
      ⟨matHadamard_md hc _ (pa hu.1).1 (pb hu.2).1 h, matHadamard_dt h⟩
  case comp =>
    exact fun _ _ _ _ _ _ _ pa pb h hu =>
      ⟨(call_out h).md hc (pa hu.1).1 (pb hu.2).1 (auto (pa hu.1) (pb hu.2)),
        (call_out h).dt (pa hu.1).2 (pb hu.2).2 (fun _ => chain (pa hu.1).1 (pb hu.2).1)⟩
  case matmul =>
    exact fun _ _ _ _ _ _ _ pa pb h hu =>
      ⟨(matmul_out h).md hc (pa hu.1).1 (pb hu.2).1 (auto (pa hu.1) (pb hu.2)),
        (matmul_out h).dt (pa hu.1).2 (pb hu.2).2 (fun _ _ => chain (pa hu.1).1 (pb hu.2).1)⟩
  case T => exact fun _ _ _ _ pa h hu => ⟨opT_md hc (pa hu).1 h, opT_dt (pa hu).2 h⟩
  case H => exact fun _ _ _ _ pa h hu => ⟨opH_md hc (pa hu).1 h, opH_dt (pa hu).2 h⟩
  case conj => exact fun _ _ _ _ pa h hu => ⟨opConj_md hc (pa hu).1 h, opConj_dt (pa hu).2 h⟩
  case gram => exact fun _ _ _ _ pa h hu => ⟨opGram_md hc (pa hu).1 h, opGram_dt (pa hu).2 h⟩

end
end Scico.OpAlg
