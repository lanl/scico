/-
  Abel transform: the quadrant assembly is a row-wise map with a mirror-symmetric matrix.
-/
import Scico.Proofs.LinOps

namespace Scico.LinOps
open Finset Scico.Index

section Abel
variable {K : Type} [CommRing K]

theorem sum_left_half (d mc : Nat) (X Q : Nat → K) :
    ∑ i ∈ range mc, X (mc - 1 - i) * Q i = ∑ c ∈ range (mc + d), (if c < mc then Q (mc - 1 - c) else 0) * X c := by
  rw [sum_range_add]
  have e1 : ∑ c ∈ range d, (if mc + c < mc then Q (mc - 1 - (mc + c)) else 0) * X (mc + c) = 0 :=
    sum_eq_zero (fun c _ => by rw [if_neg (by omega), zero_mul])
  rw [e1, add_zero, ← Finset.sum_range_reflect (fun c => (if c < mc then Q (mc - 1 - c) else 0) * X c) mc]
  refine sum_congr rfl (fun i hi => ?_)
  have hi' := mem_range.mp hi
  have e : mc - 1 - (mc - 1 - i) = i := by omega
  rw [if_pos (by omega), e]; ring

theorem sum_right_half (d mc : Nat) (X Q : Nat → K) :
    ∑ i ∈ range mc, X (d + i) * Q i = ∑ c ∈ range (d + mc), (if d ≤ c then Q (c - d) else 0) * X c := by
  rw [sum_range_add]
  have e1 : ∑ c ∈ range d, (if d ≤ c then Q (c - d) else 0) * X c = 0 :=
    sum_eq_zero (fun c hc => by rw [if_neg (by have := mem_range.mp hc; omega), zero_mul])
  rw [e1, zero_add]
  refine sum_congr rfl (fun i _ => ?_)
  have e : d + i - d = i := by omega
  rw [if_pos (by omega), e]; ring

/-- the quadrant pipeline (extract, flip, `Q·P`, trim, reassemble) acts on every image row by `abelRowMatrix`;
    of `mc = ⌈m/2⌉` only `mc ≤ m` is used, `nc` only decides which (identical) copy of the middle row is kept -/
theorem abelEval_row (P : M K) (n m nc mc : Nat) (hmc : mc ≤ m) (x : V K) (p : Nat)
    (hp : p < n * m) :
    abelEval P n m nc mc x p = ∑ c' ∈ range m, abelRowMatrix P m mc (p % m) c' * x (p / m * m + c') := by
  have hr : p / m < n := div_lt_of_lt_mul hp
  unfold abelEval abelRowMatrix abelQuad
  simp only [sumTo_eq_sum]
  generalize p / m = r at hr ⊢
  generalize p % m = c
  have hflip : n - 1 - (n - 1 - r) = r := by omega
  obtain ⟨d, rfl⟩ : ∃ d, m = d + mc := ⟨m - mc, by omega⟩
  have hd : d + mc - mc = d := by omega
  simp only [hd, hflip, ite_self]
  by_cases h2 : c < d <;> simp only [h2, if_true, if_false]
  · rw [sum_left_half d mc (fun c' => x (r * (d + mc) + c')) (fun i => P i (mc - 1 - c)), Nat.add_comm mc d]
  · rw [sum_right_half d mc (fun c' => x (r * (d + mc) + c')) (fun i => P i (c - d))]

theorem abelRowMatrix_mirror (P : M K) (mc c c' : Nat) (hc : c < 2 * mc) (hc' : c' < 2 * mc) :
    abelRowMatrix P (2 * mc) mc (2 * mc - 1 - c) (2 * mc - 1 - c') = abelRowMatrix P (2 * mc) mc c c' := by
  -- the reflection `r c = 2·mc − 1 − c` swaps the two halves and turns the distance to the centre into itself
  have refl : ∀ c, c < 2 * mc → (2 * mc - 1 - c < mc ↔ mc ≤ c) ∧ (c < mc → 2 * mc - 1 - c - mc = mc - 1 - c)
      ∧ (mc ≤ c → mc - 1 - (2 * mc - 1 - c) = c - mc) := by
    intro c hc; omega
  obtain ⟨a1, a2, a3⟩ := refl c hc
  obtain ⟨b1, b2, b3⟩ := refl c' hc'
  unfold abelRowMatrix
  rw [show 2 * mc - mc = mc by omega]
  by_cases g1 : c < mc
  · rw [if_neg (fun h => Nat.not_le.mpr g1 (a1.mp h)), if_pos g1]
    by_cases g2 : c' < mc
    · rw [if_pos (Nat.not_lt.mp (fun h => Nat.not_le.mpr g2 (b1.mp h))), if_pos g2, a2 g1, b2 g2]
    · rw [if_neg (Nat.not_le.mpr (b1.mpr (Nat.not_lt.mp g2))), if_neg g2]
  · rw [if_pos (a1.mpr (Nat.not_lt.mp g1)), if_neg g1]
    by_cases g2 : mc ≤ c'
    · rw [if_pos (b1.mpr g2), if_pos g2, a3 (Nat.not_lt.mp g1), b3 g2]
    · rw [if_neg (fun h => g2 (b1.mp h)), if_neg g2]

end Abel

end Scico.LinOps
