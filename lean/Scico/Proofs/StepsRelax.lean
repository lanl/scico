/-
  Proofs/StepsRelax — ADMM with over/under-relaxation `alpha` (Eckstein–Bertsekas; Boyd et al. §3.4.3),
  `N` constraints: the Douglas–Rachford quantity

      W = Σ_i ρ_i ‖(z_i + u_i) − (C_i x* + u_i*)‖²

  satisfies, along the documented iteration from a dual-feasible state,

      W⁺ + α(2−α) Σ_i ρ_i ‖C_i x⁺ − z_i‖² + 2 α m ‖x⁺ − x*‖²  ≤  W

  (`m ≥ 0` the strong-monotonicity modulus of `∂f`; `m = 0` is plain convexity).  Consequences, for
  `0 < α < 2`: `W_k` non-increasing, the terms are summable along every trajectory, hence
  `C_i x_{k+1} − z_i^k → 0`, `z^{k+1} − z^k → 0`, the primal and (bounded adjoints) the dual residual `→ 0`, and for strongly convex `f`
  the iterates `x_k` converge to the minimiser.  The lemmas start from a dual-feasible state (`RS.OK`); after the first step every
  state is one (`RS.next_ok`), which is how `Props/C03` states them from every start.

  Per row the inequality is the identity `relaxW_row` plus monotonicity of `∂g_i` between the (dual-feasible) current
  state and the KKT point; the rows are summed against (strong) monotonicity of `∂f` between `x⁺` and `x*`.
-/
import Scico.Proofs.StepsLyap
import Scico.Proofs.StepsIter
import Scico.Proofs.Sums
import Mathlib.Tactic.Abel

set_option linter.unusedSectionVars false

namespace Scico.Steps

variable {X Z : Type} [NormedAddCommGroup X] [InnerProductSpace ℝ X]
  [NormedAddCommGroup Z] [InnerProductSpace ℝ Z]

/-- the hypotheses on a row that do not involve the current state -/
structure RowBase (xs : X) (r : Row X Z) : Prop where
  add : ∀ x y, r.c.C (x - y) = r.c.C x - r.c.C y
  adj : ∀ w x, ⟪r.c.Cadj w, x⟫ = ⟪w, r.c.C x⟫
  rho : 0 < r.c.rho
  prox : IsProx r.c.G r.c.prox
  kkt : r.c.G.Subgrad (r.c.C xs) (r.c.rho • r.us)

theorem RowOK.base {xs : X} {r : Row X Z} (h : RowOK xs r) : RowBase xs r :=
  ⟨h.add, h.adj, h.rho, h.prox, h.kkt⟩

theorem RowBase.ok {xs : X} {r : Row X Z} (h : RowBase xs r) (hp : r.c.G.Subgrad r.z (r.c.rho • r.u)) :
    RowOK xs r := ⟨h.add, h.adj, h.rho, h.prox, h.kkt, hp⟩

/-- the new `(z_i, u_i)` of every row is dual feasible, whatever the previous state was -/
theorem row_feasibleA (alpha : ℝ) (xn : X) (r : Row X Z) (hrho : 0 < r.c.rho) (hprox : IsProx r.c.G r.c.prox) :
    r.c.G.Subgrad (r.znA alpha xn) (r.c.rho • r.unA alpha xn) :=
  r.c.feasible hrho hprox (r.chat alpha xn) r.u

noncomputable def rowsW (xs : X) (rows : List (Row X Z)) (zf uf : Row X Z → Z) : ℝ :=
  (rows.map (fun r => r.c.rho * ‖(zf r + uf r) - (r.c.C xs + r.us)‖ ^ 2)).sum

noncomputable def rowsQ (rows : List (Row X Z)) (xn : X) : ℝ :=
  (rows.map (fun r => r.c.rho * ‖r.c.C xn - r.z‖ ^ 2)).sum

theorem list_sum_mul_sq_nonneg {ι : Type} (l : List ι) (w a : ι → ℝ) (hw : ∀ i ∈ l, 0 ≤ w i) :
    0 ≤ (l.map (fun i => w i * a i ^ 2)).sum :=
  List.sum_nonneg (List.forall_mem_map.2 fun i hi => mul_nonneg (hw i hi) (sq_nonneg _))

theorem rowsQ_nonneg (rows : List (Row X Z)) (xn : X) (h : ∀ r ∈ rows, 0 < r.c.rho) : 0 ≤ rowsQ rows xn :=
  list_sum_mul_sq_nonneg rows _ _ fun r hr => (h r hr).le

theorem row_relaxW (alpha : ℝ) (ha : 0 ≤ alpha) (xs xn : X) (r : Row X Z) (h : RowOK xs r) :
    r.c.rho * ‖(r.znA alpha xn + r.unA alpha xn) - (r.c.C xs + r.us)‖ ^ 2
        + alpha * (2 - alpha) * (r.c.rho * ‖r.c.C xn - r.z‖ ^ 2)
        + 2 * alpha *
          ⟪r.c.rho • r.c.Cadj (r.z - r.u - r.c.C xn) - r.c.rho • r.c.Cadj (r.c.C xs - r.us - r.c.C xs), xn - xs⟫
      ≤ r.c.rho * ‖(r.z + r.u) - (r.c.C xs + r.us)‖ ^ 2 := by
  have key := mul_le_mul_of_nonneg_left (relaxW_row alpha r.z r.u r.us (r.c.C xs) (r.c.C xn)).le h.rho.le
  have q0 := mul_nonneg (mul_nonneg (mul_nonneg zero_le_two ha) h.rho.le)
    (Fn.subgrad_smul_monotone h.rho h.pre h.kkt)
  rw [r.znA_add_unA, add_sub_right_comm, r.c.inner_xterm h.add h.adj]
  linarith

theorem admm_relax_descent (alpha : ℝ) (ha : 0 ≤ alpha) (rows : List (Row X Z))
    (solveX : List Z → List Z → X → X) (F : Fn X) (m : ℝ) (hsm : StrongSub F m)
    (hsolve : ∀ z u x0, F.Subgrad (solveX z u x0) (xGrad (rows.map (·.c)) z u (solveX z u x0)))
    (xs : X) (hok : ∀ r ∈ rows, RowOK xs r)
    (hkx : F.Subgrad xs (xGrad (rows.map (·.c)) (rows.map (fun r => r.c.C xs)) (rows.map (·.us)) xs))
    (x : X) :
    let xn := solveX (rows.map (·.z)) (rows.map (·.u)) x
    rowsW xs rows (fun r => r.znA alpha xn) (fun r => r.unA alpha xn)
        + alpha * (2 - alpha) * rowsQ rows xn + 2 * alpha * (m * ‖xn - xs‖ ^ 2)
      ≤ rowsW xs rows (·.z) (·.u) := by
  intro xn
  have m1 := hsm _ _ _ _ (hsolve (rows.map (·.z)) (rows.map (·.u)) x) hkx
  rw [inner_xGrad_sub_rows rows (·.z) (·.u) (fun r => r.c.C xs) (·.us)] at m1
  have key := list_sum_le_of_forall_c rows (2 * alpha) _ _ _ (fun r hr => row_relaxW alpha ha xs xn r (hok r hr))
  rw [List.sum_map_add, List.sum_map_mul_left] at key
  unfold rowsW rowsQ
  linarith [mul_le_mul_of_nonneg_left m1 (mul_nonneg zero_le_two ha)]

/-- an ADMM state viewed through its rows -/
structure RS (X Z : Type) where
  rows : List (Row X Z)
  x : X
  zOld : List Z

def RS.state (s : RS X Z) : ADMMState X Z :=
  { x := s.x, z := s.rows.map (·.z), zOld := s.zOld, u := s.rows.map (·.u) }

def RS.xn (solveX : List Z → List Z → X → X) (s : RS X Z) : X := solveX (s.rows.map (·.z)) (s.rows.map (·.u)) s.x

/-- one documented iteration on rows -/
noncomputable def RS.next (alpha : ℝ) (solveX : List Z → List Z → X → X) (s : RS X Z) : RS X Z :=
  { rows := s.rows.map (fun r => { r with z := r.znA alpha (s.xn solveX), u := r.unA alpha (s.xn solveX) }),
    x := s.xn solveX, zOld := s.rows.map (·.z) }

/-- a function of the rows after a step, read on the rows before it -/
theorem RS.next_rows_map {β : Type} (f : Row X Z → β) (alpha : ℝ) (solveX : List Z → List Z → X → X) (s : RS X Z) :
    (s.next alpha solveX).rows.map f
      = s.rows.map fun r => f { r with z := r.znA alpha (s.xn solveX), u := r.unA alpha (s.xn solveX) } :=
  List.map_map

theorem RS.next_c (alpha : ℝ) (solveX : List Z → List Z → X → X) (s : RS X Z) :
    (s.next alpha solveX).rows.map (·.c) = s.rows.map (·.c) :=
  RS.next_rows_map (·.c) alpha solveX s

theorem RS.next_us (alpha : ℝ) (solveX : List Z → List Z → X → X) (s : RS X Z) :
    (s.next alpha solveX).rows.map (·.us) = s.rows.map (·.us) :=
  RS.next_rows_map (·.us) alpha solveX s

theorem RS.step_eq (alpha : ℝ) (f : Option (X → ℝ)) (solveX : List Z → List Z → X → X) (s : RS X Z) :
    admmSpecStep (admmOfCons f alpha solveX (s.rows.map (·.c))) s.state = (s.next alpha solveX).state := by
  unfold RS.state
  rw [admm_relax_step_eq, RS.next_rows_map (·.z), RS.next_rows_map (·.u)]
  rfl

theorem RS.iter_eq (alpha : ℝ) (f : Option (X → ℝ)) (solveX : List Z → List Z → X → X) (cons : List (Con X Z)) :
    ∀ (k : Nat) (s : RS X Z), s.rows.map (·.c) = cons →
      iter (admmSpecStep (admmOfCons f alpha solveX cons)) k s.state = (iter (RS.next alpha solveX) k s).state ∧
      (iter (RS.next alpha solveX) k s).rows.map (·.c) = cons := by
  intro k s hs
  have hP : ∀ s : RS X Z, s.rows.map (·.c) = cons → (s.next alpha solveX).rows.map (·.c) = cons :=
    fun s hs => (RS.next_c alpha solveX s).trans hs
  exact ⟨(iter_semiconj_on (φ := RS.state) hP (fun s hs => hs ▸ (RS.step_eq alpha f solveX s).symm) k s hs).symm,
    iter_invariant hP k s hs⟩

/-- per-state hypotheses: the constraint part / the KKT multipliers are those of the problem, rows satisfy `RowBase` -/
structure RS.Base (xs : X) (cons : List (Con X Z)) (uss : List Z) (s : RS X Z) : Prop where
  hc : s.rows.map (·.c) = cons
  hu : s.rows.map (·.us) = uss
  hb : ∀ r ∈ s.rows, RowBase xs r

/-- additionally dual feasible -/
structure RS.OK (xs : X) (cons : List (Con X Z)) (uss : List Z) (s : RS X Z) : Prop extends RS.Base xs cons uss s where
  hpre : ∀ r ∈ s.rows, r.c.G.Subgrad r.z (r.c.rho • r.u)

/-- after one documented iteration from ANY state the state is dual feasible -/
theorem RS.next_ok (alpha : ℝ) (solveX : List Z → List Z → X → X) {xs : X} {cons : List (Con X Z)} {uss : List Z}
    {s : RS X Z} (h : RS.Base xs cons uss s) : RS.OK xs cons uss (s.next alpha solveX) := by
  refine ⟨⟨(RS.next_c alpha solveX s).trans h.hc, (RS.next_us alpha solveX s).trans h.hu,
    List.forall_mem_map.2 fun r0 hr0 => ?_⟩, List.forall_mem_map.2 fun r0 hr0 => ?_⟩
  · have h0 := h.hb r0 hr0
    exact ⟨h0.add, h0.adj, h0.rho, h0.prox, h0.kkt⟩
  · have h0 := h.hb r0 hr0
    exact row_feasibleA alpha _ r0 h0.rho h0.prox

theorem RS.iter_ok (alpha : ℝ) (solveX : List Z → List Z → X → X) {xs : X} {cons : List (Con X Z)} {uss : List Z} :
    ∀ (k : Nat) {s : RS X Z}, RS.OK xs cons uss s → RS.OK xs cons uss (iter (RS.next alpha solveX) k s) :=
  fun k s h => iter_invariant (fun _ hs => RS.next_ok alpha solveX hs.toBase) k s h

noncomputable def RS.W (xs : X) (s : RS X Z) : ℝ := rowsW xs s.rows (·.z) (·.u)

/-- the decrease of `W` in the step that leaves `s` -/
noncomputable def RS.D (alpha m : ℝ) (xs : X) (solveX : List Z → List Z → X → X) (s : RS X Z) : ℝ :=
  alpha * (2 - alpha) * rowsQ s.rows (s.xn solveX) + 2 * alpha * (m * ‖s.xn solveX - xs‖ ^ 2)

/-- the problem-level hypotheses of the relaxed-ADMM theorems -/
structure RelaxHyp (alpha m : ℝ) (cons : List (Con X Z)) (uss : List Z) (solveX : List Z → List Z → X → X)
    (F : Fn X) (xs : X) : Prop where
  a0 : 0 ≤ alpha
  a2 : alpha ≤ 2
  m0 : 0 ≤ m
  strong : StrongSub F m
  solve : ∀ z u x0, F.Subgrad (solveX z u x0) (xGrad cons z u (solveX z u x0))
  kktx : F.Subgrad xs (xGrad cons (cons.map (fun c => c.C xs)) uss xs)

theorem RS.W_next (alpha : ℝ) (solveX : List Z → List Z → X → X) (xs : X) (s : RS X Z) :
    (s.next alpha solveX).W xs
      = rowsW xs s.rows (fun r => r.znA alpha (s.xn solveX)) (fun r => r.unA alpha (s.xn solveX)) :=
  congrArg List.sum (RS.next_rows_map _ alpha solveX s)

/-- the x-update contract and the KKT condition on `x*`, read on the rows of a state -/
theorem RS.Base.solve_rows {xs : X} {cons : List (Con X Z)} {uss : List Z} {s : RS X Z} (h : RS.Base xs cons uss s)
    {solveX : List Z → List Z → X → X} {F : Fn X}
    (hsolve : ∀ z u x0, F.Subgrad (solveX z u x0) (xGrad cons z u (solveX z u x0))) :
    ∀ z u x0, F.Subgrad (solveX z u x0) (xGrad (s.rows.map (·.c)) z u (solveX z u x0)) := by
  rw [h.hc]; exact hsolve

theorem RS.Base.kktx_rows {xs : X} {cons : List (Con X Z)} {uss : List Z} {s : RS X Z} (h : RS.Base xs cons uss s)
    {F : Fn X} (hkx : F.Subgrad xs (xGrad cons (cons.map (fun c => c.C xs)) uss xs)) :
    F.Subgrad xs (xGrad (s.rows.map (·.c)) (s.rows.map (fun r => r.c.C xs)) (s.rows.map (·.us)) xs) := by
  have : s.rows.map (fun r => r.c.C xs) = cons.map (fun c => c.C xs) := by
    rw [← h.hc, List.map_map]; rfl
  rw [h.hu, h.hc, this]; exact hkx

theorem RS.descent {alpha m : ℝ} {cons : List (Con X Z)} {uss : List Z} {solveX : List Z → List Z → X → X}
    {F : Fn X} {xs : X} (H : RelaxHyp alpha m cons uss solveX F xs) {s : RS X Z} (h : RS.OK xs cons uss s) :
    (s.next alpha solveX).W xs + s.D alpha m xs solveX ≤ s.W xs := by
  rw [RS.W_next]
  have := admm_relax_descent alpha H.a0 s.rows solveX F m H.strong (h.solve_rows H.solve) xs
    (fun r hr => (h.hb r hr).ok (h.hpre r hr)) (h.kktx_rows H.kktx) s.x
  simp only [RS.D, RS.xn, RS.W] at this ⊢
  linarith

theorem RS.V_next_le {cons : List (Con X Z)} {uss : List Z} {solveX : List Z → List Z → X → X} {F : Fn X} {xs : X}
    (hsolve : ∀ z u x0, F.Subgrad (solveX z u x0) (xGrad cons z u (solveX z u x0)))
    (hkx : F.Subgrad xs (xGrad cons (cons.map (fun c => c.C xs)) uss xs)) {s : RS X Z} (h : RS.OK xs cons uss s) :
    rowsV xs (s.next 1 solveX).rows (·.z) (·.u) ≤ rowsV xs s.rows (·.z) (·.u) := by
  obtain ⟨-, -, hd⟩ := admm_lyapunov_rows s.rows none solveX F (h.solve_rows hsolve) xs
    (fun r hr => (h.hb r hr).ok (h.hpre r hr)) (h.kktx_rows hkx) s.x s.zOld
  have hV : rowsV xs (s.next 1 solveX).rows (·.z) (·.u)
      = rowsV xs s.rows (fun r => r.zn (s.xn solveX)) (fun r => r.un (s.xn solveX)) := by
    simp only [rowsV, RS.next_rows_map, Row.znA_one, Row.unA_one]
  rw [hV]
  exact le_trans (le_add_of_nonneg_right (List.sum_nonneg (List.forall_mem_map.2 fun r hr =>
    mul_nonneg (h.hb r hr).rho.le (by positivity)))) hd

theorem rowsV_descent {cons : List (Con X Z)} {uss : List Z} {solveX : List Z → List Z → X → X} {F : Fn X} {xs : X}
    (hsolve : ∀ z u x0, F.Subgrad (solveX z u x0) (xGrad cons z u (solveX z u x0)))
    (hkx : F.Subgrad xs (xGrad cons (cons.map (fun c => c.C xs)) uss xs)) :
    Descent (RS.next 1 solveX) (RS.OK xs cons uss) (fun s => rowsV xs s.rows (·.z) (·.u)) (fun _ => 0) :=
  ⟨fun _ h => RS.next_ok 1 solveX h.toBase,
    fun s h => List.sum_nonneg (List.forall_mem_map.2 fun r hr => mul_nonneg (h.hb r hr).rho.le (by positivity)),
    fun _ _ => le_rfl, fun s h => by rw [add_zero]; exact RS.V_next_le hsolve hkx h⟩

theorem RS.D_nonneg {alpha m : ℝ} {cons : List (Con X Z)} {uss : List Z} {solveX : List Z → List Z → X → X}
    {F : Fn X} {xs : X} (H : RelaxHyp alpha m cons uss solveX F xs) {s : RS X Z} (h : RS.Base xs cons uss s) :
    0 ≤ s.D alpha m xs solveX :=
  add_nonneg (mul_nonneg (mul_nonneg H.a0 (sub_nonneg.2 H.a2)) (rowsQ_nonneg _ _ fun r hr => (h.hb r hr).rho))
    (mul_nonneg (mul_nonneg zero_le_two H.a0) (mul_nonneg H.m0 (sq_nonneg _)))

theorem RS.W_nonneg {xs : X} {cons : List (Con X Z)} {uss : List Z} {s : RS X Z} (h : RS.Base xs cons uss s) :
    0 ≤ s.W xs := list_sum_mul_sq_nonneg s.rows _ _ fun r hr => (h.hb r hr).rho.le

theorem rowsW_descent {alpha m : ℝ} {cons : List (Con X Z)} {uss : List Z} {solveX : List Z → List Z → X → X}
    {F : Fn X} {xs : X} (H : RelaxHyp alpha m cons uss solveX F xs) :
    Descent (RS.next alpha solveX) (RS.OK xs cons uss) (RS.W xs) (RS.D alpha m xs solveX) :=
  ⟨fun _ h => RS.next_ok alpha solveX h.toBase, fun _ h => RS.W_nonneg h.toBase, fun _ h => RS.D_nonneg H h.toBase,
    fun _ h => RS.descent H h⟩

/-- `‖z_i⁺ − z_i‖ ≤ α ‖C_i x⁺ − z_i‖` from a dual-feasible state (monotonicity of `∂g_i` between consecutive iterates) -/
theorem row_dz_le (alpha : ℝ) (ha : 0 ≤ alpha) (xn : X) (r : Row X Z) (hrho : 0 < r.c.rho)
    (hprox : IsProx r.c.G r.c.prox) (hpre : r.c.G.Subgrad r.z (r.c.rho • r.u)) :
    ‖r.znA alpha xn - r.z‖ ≤ alpha * ‖r.c.C xn - r.z‖ := by
  have m3 := Fn.subgrad_smul_monotone hrho (row_feasibleA alpha xn r hrho hprox) hpre
  -- `u⁺ − u = α q − d` with `q = C x⁺ − z`, `d = z⁺ − z`, so `‖d‖² ≤ ⟪d, α q⟫`
  have e : r.unA alpha xn - r.u = alpha • (r.c.C xn - r.z) - (r.znA alpha xn - r.z) := by
    rw [sub_eq_sub_iff_add_eq_add, ← add_sub_assoc, add_comm (r.unA alpha xn), r.znA_add_unA]
    abel
  rw [e, inner_sub_left, real_inner_self_eq_norm_sq, real_inner_comm] at m3
  have := ProxSpec.norm_le_of_sq_le_inner (sub_nonneg.1 m3)
  rwa [norm_smul, Real.norm_of_nonneg ha] at this

theorem row_primal_le (alpha : ℝ) (ha : 0 ≤ alpha) (xn : X) (r : Row X Z) (hrho : 0 < r.c.rho)
    (hprox : IsProx r.c.G r.c.prox) (hpre : r.c.G.Subgrad r.z (r.c.rho • r.u)) :
    ‖r.c.C xn - r.znA alpha xn‖ ≤ (1 + alpha) * ‖r.c.C xn - r.z‖ := by
  have h1 := row_dz_le alpha ha xn r hrho hprox hpre
  have e : r.c.C xn - r.znA alpha xn = (r.c.C xn - r.z) - (r.znA alpha xn - r.z) := by abel
  rw [e]
  have := norm_sub_le (r.c.C xn - r.z) (r.znA alpha xn - r.z)
  linarith

/-- `Σ ρ_i ‖C_i x − z_i‖²` at the current `x` : the square of `norm_primal_residual()` -/
noncomputable def RS.primalSq (s : RS X Z) : ℝ := (s.rows.map (fun r => r.c.rho * ‖r.c.C s.x - r.z‖ ^ 2)).sum

/-- `Σ ρ_i ‖z_i − z_i^old‖²` in the step that leaves `s` -/
noncomputable def RS.dzSq (alpha : ℝ) (solveX : List Z → List Z → X → X) (s : RS X Z) : ℝ :=
  (s.rows.map (fun r => r.c.rho * ‖r.znA alpha (s.xn solveX) - r.z‖ ^ 2)).sum

theorem list_sum_mul_sq_le {ι : Type} (l : List ι) (w a b : ι → ℝ) (c : ℝ) (hw : ∀ i ∈ l, 0 ≤ w i)
    (ha : ∀ i ∈ l, 0 ≤ a i) (h : ∀ i ∈ l, a i ≤ c * b i) :
    (l.map (fun i => w i * a i ^ 2)).sum ≤ c ^ 2 * (l.map (fun i => w i * b i ^ 2)).sum := by
  rw [← List.sum_map_mul_left]
  refine List.sum_le_sum fun i hi => ?_
  calc w i * a i ^ 2 ≤ w i * (c * b i) ^ 2 :=
        mul_le_mul_of_nonneg_left (pow_le_pow_left₀ (ha i hi) (h i hi) 2) (hw i hi)
    _ = c ^ 2 * (w i * b i ^ 2) := by ring

theorem RS.primalSq_next_le (alpha : ℝ) (ha : 0 ≤ alpha) (solveX : List Z → List Z → X → X) {xs : X}
    {cons : List (Con X Z)} {uss : List Z} {s : RS X Z} (h : RS.OK xs cons uss s) :
    (s.next alpha solveX).primalSq ≤ (1 + alpha) ^ 2 * rowsQ s.rows (s.xn solveX) := by
  unfold RS.primalSq rowsQ
  rw [RS.next_rows_map]
  exact list_sum_mul_sq_le s.rows _ _ _ _ (fun r hr => (h.hb r hr).rho.le) (fun _ _ => norm_nonneg _)
    (fun r hr => row_primal_le alpha ha (s.xn solveX) r (h.hb r hr).rho (h.hb r hr).prox (h.hpre r hr))

theorem RS.dzSq_le (alpha : ℝ) (ha : 0 ≤ alpha) (solveX : List Z → List Z → X → X) {xs : X}
    {cons : List (Con X Z)} {uss : List Z} {s : RS X Z} (h : RS.OK xs cons uss s) :
    s.dzSq alpha solveX ≤ alpha ^ 2 * rowsQ s.rows (s.xn solveX) :=
  list_sum_mul_sq_le s.rows _ _ _ _ (fun r hr => (h.hb r hr).rho.le) (fun _ _ => norm_nonneg _)
    (fun r hr => row_dz_le alpha ha (s.xn solveX) r (h.hb r hr).rho (h.hb r hr).prox (h.hpre r hr))

/-- From a dual-feasible state (`RS.OK`) the terms of the decrease of `W` tend to `0`: `Σρ_i‖C_i x⁺ − z_i‖²` here, then the square of
    `norm_primal_residual()` (`primalSq`), `Σρ_i‖z_i⁺ − z_i‖²` (`dzSq`, which bounds `norm_dual_residual()`), and `x_k → x*` -/
theorem RS.Q_tendsto {alpha m : ℝ} {cons : List (Con X Z)} {uss : List Z} {solveX : List Z → List Z → X → X}
    {F : Fn X} {xs : X} (H : RelaxHyp alpha m cons uss solveX F xs) (ha : 0 < alpha) (ha2 : alpha < 2)
    {s : RS X Z} (h : RS.OK xs cons uss s) :
    Filter.Tendsto (fun k => rowsQ (iter (RS.next alpha solveX) k s).rows ((iter (RS.next alpha solveX) k s).xn solveX))
      Filter.atTop (nhds 0) :=
  (rowsW_descent H).tendsto_of_mul_le h (g := fun s => rowsQ s.rows (s.xn solveX)) (mul_pos ha (sub_pos.2 ha2))
    (fun _ hs => rowsQ_nonneg _ _ fun r hr => (hs.hb r hr).rho)
    fun _ _ => le_add_of_nonneg_right (mul_nonneg (mul_nonneg zero_le_two H.a0) (mul_nonneg H.m0 (sq_nonneg _)))

theorem RS.primalSq_tendsto {alpha m : ℝ} {cons : List (Con X Z)} {uss : List Z} {solveX : List Z → List Z → X → X}
    {F : Fn X} {xs : X} (H : RelaxHyp alpha m cons uss solveX F xs) (ha : 0 < alpha) (ha2 : alpha < 2)
    {s : RS X Z} (h : RS.OK xs cons uss s) :
    Filter.Tendsto (fun k => (iter (RS.next alpha solveX) (k + 1) s).primalSq) Filter.atTop (nhds 0) := by
  refine tendsto_zero_of_le_mul ((1 + alpha) ^ 2) (fun k => ?_) (fun k => ?_) (RS.Q_tendsto H ha ha2 h)
  · exact list_sum_mul_sq_nonneg _ _ _ fun r hr => ((RS.iter_ok alpha solveX (k + 1) h).hb r hr).rho.le
  · rw [iter_succ']
    exact RS.primalSq_next_le alpha ha.le solveX (RS.iter_ok alpha solveX k h)

theorem RS.dzSq_tendsto {alpha m : ℝ} {cons : List (Con X Z)} {uss : List Z} {solveX : List Z → List Z → X → X}
    {F : Fn X} {xs : X} (H : RelaxHyp alpha m cons uss solveX F xs) (ha : 0 < alpha) (ha2 : alpha < 2)
    {s : RS X Z} (h : RS.OK xs cons uss s) :
    Filter.Tendsto (fun k => (iter (RS.next alpha solveX) k s).dzSq alpha solveX) Filter.atTop (nhds 0) := by
  refine tendsto_zero_of_le_mul (alpha ^ 2) (fun k => ?_) (fun k => ?_) (RS.Q_tendsto H ha ha2 h)
  · exact list_sum_mul_sq_nonneg _ _ _ fun r hr => ((RS.iter_ok alpha solveX k h).hb r hr).rho.le
  · exact RS.dzSq_le alpha ha.le solveX (RS.iter_ok alpha solveX k h)

theorem RS.x_tendsto {alpha m : ℝ} {cons : List (Con X Z)} {uss : List Z} {solveX : List Z → List Z → X → X}
    {F : Fn X} {xs : X} (H : RelaxHyp alpha m cons uss solveX F xs) (ha : 0 < alpha) (hm : 0 < m)
    {s : RS X Z} (h : RS.OK xs cons uss s) :
    Filter.Tendsto (fun k => (iter (RS.next alpha solveX) k s).x) Filter.atTop (nhds xs) :=
  (rowsW_descent H).tendsto_of_mul_sq_dist_le h (π := RS.x) (mul_pos (mul_pos zero_lt_two ha) hm) fun s hs => by
    rw [mul_assoc]
    exact le_add_of_nonneg_left (mul_nonneg (mul_nonneg H.a0 (sub_nonneg.2 H.a2))
      (rowsQ_nonneg _ _ fun r hr => (hs.hb r hr).rho))

attribute [local instance] realHasSqrt

/-- `norm_primal_residual()` of the model at a state given by rows -/
theorem RS.normPrimal_eq (f : Option (X → ℝ)) (alpha : ℝ) (solveX : List Z → List Z → X → X) {cons : List (Con X Z)}
    (s : RS X Z) (hc : s.rows.map (·.c) = cons) :
    admmNormPrimalImpl (admmOfCons f alpha solveX cons) s.state none = Real.sqrt s.primalSq := by
  subst hc
  rw [admm_normPrimal_none]
  unfold admmNormPrimalSpec RS.primalSq RS.state admmOfCons
  simp only [List.map_map]
  show Real.sqrt _ = Real.sqrt _
  congr 1
  generalize s.rows = rows
  induction rows with
  | nil => simp
  | cons r rs ih =>
    simp only [List.map_cons, List.zipWith_cons_cons, List.sum_cons, Function.comp]
    rw [ih]
    ring

theorem exists_rows (cons : List (Con X Z)) :
    ∀ (uss z u : List Z), uss.length = cons.length → z.length = cons.length → u.length = cons.length →
      ∃ rows : List (Row X Z), rows.map (·.c) = cons ∧ rows.map (·.us) = uss ∧ rows.map (·.z) = z ∧ rows.map (·.u) = u := by
  induction cons with
  | nil =>
    intro uss z u h1 h2 h3
    exact ⟨[], rfl, (List.length_eq_zero_iff.1 h1).symm, (List.length_eq_zero_iff.1 h2).symm,
      (List.length_eq_zero_iff.1 h3).symm⟩
  | cons c cs ih =>
    intro uss z u h1 h2 h3
    match uss, z, u, h1, h2, h3 with
    | us :: uss, z0 :: z, u0 :: u, h1, h2, h3 =>
      simp only [List.length_cons, Nat.add_right_cancel_iff] at h1 h2 h3
      obtain ⟨rows, r1, r2, r3, r4⟩ := ih uss z u h1 h2 h3
      exact ⟨{ c := c, z := z0, u := u0, us := us } :: rows, by simp [r1], by simp [r2], by simp [r3], by simp [r4]⟩

theorem norm_list_sum_le {ι : Type} (l : List ι) (f : ι → X) (g : ι → ℝ) (h : ∀ i ∈ l, ‖f i‖ ≤ g i) :
    ‖(l.map f).sum‖ ≤ (l.map g).sum := by
  induction l with
  | nil => simp
  | cons i l ih =>
    simp only [List.map_cons, List.sum_cons]
    have h1 := h i (by simp)
    have h2 := ih (fun j hj => h j (by simp [hj]))
    have := norm_add_le (f i) ((l.map f).sum)
    linarith

/-- `norm_dual_residual()` of the model at the state after a step, in terms of rows -/
theorem RS.normDual_next (f : Option (X → ℝ)) (alpha : ℝ) (solveX : List Z → List Z → X → X) (s : RS X Z) :
    admmNormDualImpl (admmOfCons f alpha solveX (s.rows.map (·.c))) (s.next alpha solveX).state
      = ‖(s.rows.map (fun r => r.c.rho • r.c.Cadj (r.znA alpha (s.xn solveX) - r.z))).sum‖ := by
  rw [admm_normDual_spec]
  unfold admmNormDualSpec RS.state RS.next admmOfCons
  simp only [List.map_map]
  congr 2
  generalize s.rows = rows
  generalize s.xn solveX = xn
  induction rows with
  | nil => simp
  | cons r rs ih =>
    simp only [List.map_cons, List.zipWith_cons_cons, Function.comp]
    rw [ih]

theorem RS.normDual_sq_le (f : Option (X → ℝ)) (alpha : ℝ) (solveX : List Z → List Z → X → X) (s : RS X Z)
    (Bd : ℝ) (hrho : ∀ r ∈ s.rows, 0 < r.c.rho) (hbd : ∀ r ∈ s.rows, ∀ w, ‖r.c.Cadj w‖ ≤ Bd * ‖w‖) :
    admmNormDualImpl (admmOfCons f alpha solveX (s.rows.map (·.c))) (s.next alpha solveX).state ^ 2
      ≤ Bd ^ 2 * ((s.rows.map (fun r => r.c.rho)).sum * s.dzSq alpha solveX) := by
  rw [RS.normDual_next]
  -- triangle inequality with `‖ρ_i C_iᵀ w‖ ≤ ρ_i Bd ‖w‖`, then Cauchy–Schwarz with the weights `ρ_i`
  have h1 := norm_list_sum_le s.rows (fun r => r.c.rho • r.c.Cadj (r.znA alpha (s.xn solveX) - r.z))
    (fun r => r.c.rho * (Bd * ‖r.znA alpha (s.xn solveX) - r.z‖)) (by
      intro r hr
      rw [norm_smul, Real.norm_eq_abs, abs_of_pos (hrho r hr)]
      exact mul_le_mul_of_nonneg_left (hbd r hr _) (hrho r hr).le)
  have h2 := list_weighted_cs s.rows (fun r => r.c.rho) (fun r => Bd * ‖r.znA alpha (s.xn solveX) - r.z‖)
    (fun r hr => (hrho r hr).le)
  have h0 : 0 ≤ ‖(s.rows.map (fun r => r.c.rho • r.c.Cadj (r.znA alpha (s.xn solveX) - r.z))).sum‖ := norm_nonneg _
  have h3 := pow_le_pow_left₀ h0 h1 2
  have e : (s.rows.map (fun r => r.c.rho * (Bd * ‖r.znA alpha (s.xn solveX) - r.z‖) ^ 2)).sum
      = Bd ^ 2 * s.dzSq alpha solveX := by
    unfold RS.dzSq
    rw [← List.sum_map_mul_left]
    congr 1
    apply List.map_congr_left
    intro r _
    ring
  rw [e] at h2
  calc _ ≤ _ := h3
    _ ≤ (s.rows.map (fun r => r.c.rho)).sum * (Bd ^ 2 * s.dzSq alpha solveX) := h2
    _ = _ := by ring

theorem RS.normDual_tendsto {alpha m : ℝ} {cons : List (Con X Z)} {uss : List Z} {solveX : List Z → List Z → X → X}
    {F : Fn X} {xs : X} (H : RelaxHyp alpha m cons uss solveX F xs) (ha : 0 < alpha) (ha2 : alpha < 2)
    (f : Option (X → ℝ)) (Bd : ℝ) (hbd : ∀ c ∈ cons, ∀ w, ‖c.Cadj w‖ ≤ Bd * ‖w‖)
    {s : RS X Z} (h : RS.OK xs cons uss s) :
    Filter.Tendsto (fun k => admmNormDualImpl (admmOfCons f alpha solveX cons) (iter (RS.next alpha solveX) (k + 1) s).state)
      Filter.atTop (nhds 0) := by
  have hdz := (RS.dzSq_tendsto H ha ha2 h).const_mul (Bd ^ 2 * (cons.map (fun c => c.rho)).sum)
  rw [mul_zero] at hdz
  refine tendsto_zero_of_sq_le (fun k => ?_) (fun k => ?_) hdz
  · rw [admm_normDual_spec]; unfold admmNormDualSpec admmOfCons; exact norm_nonneg _
  · have hk := RS.iter_ok alpha solveX k h
    have hc := hk.hc
    have := RS.normDual_sq_le f alpha solveX (iter (RS.next alpha solveX) k s) Bd
      (fun r hr => (hk.hb r hr).rho) (fun r hr w => by
        have : r.c ∈ cons := by rw [← hc]; exact List.mem_map_of_mem hr
        exact hbd _ this w)
    rw [hc] at this
    rw [iter_succ']
    have e : ((iter (RS.next alpha solveX) k s).rows.map (fun r => r.c.rho)) = cons.map (fun c => c.rho) := by
      rw [← hc, List.map_map]; rfl
    rw [e] at this
    linarith

end Scico.Steps
