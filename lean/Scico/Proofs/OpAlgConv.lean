/-
  Closed-form arithmetic of `Convolve` and `CircularConvolve` with operands of the same class: the
  operator built from the combined filter / spectrum is the pointwise combination of the operators
  (bilinearity of the convolution models of engine LinOps, imported read-only).
-/
import Scico.Proofs.LinOpsDFTNd
import Scico.Proofs.OpAlgSound

namespace Scico.OpAlg
open Scico.DType Scico.LinOps Finset

section
variable {K : Type} [Field K]

theorem convFull_lin (c1 c2 : K) (h1 h2 : LinOps.V K) (k : Nat) (x : LinOps.V K) (n i : Nat) :
    convFullEval (fun m => c1 * h1 m + c2 * h2 m) k x n i
      = c1 * convFullEval h1 k x n i + c2 * convFullEval h2 k x n i := by
  unfold convFullEval
  rw [LinOps.sumTo_eq_sum, LinOps.sumTo_eq_sum, LinOps.sumTo_eq_sum, mul_sum, mul_sum, ← sum_add_distrib]
  refine sum_congr rfl (fun m _ => ?_)
  by_cases hc : m ≤ i ∧ i - m < n
  · simp only [hc, and_self, if_true]; ring
  · simp only [hc, if_false]; ring

theorem convEval_lin (mode : ConvMode) (c1 c2 : K) (h1 h2 : LinOps.V K) (k : Nat) (x : LinOps.V K) (n i : Nat) :
    convEval mode (fun m => c1 * h1 m + c2 * h2 m) k x n i
      = c1 * convEval mode h1 k x n i + c2 * convEval mode h2 k x n i := by
  unfold convEval
  exact convFull_lin c1 c2 h1 h2 k x n _

theorem convEval_smul (mode : ConvMode) (c : K) (h : LinOps.V K) (k : Nat) (x : LinOps.V K) (n i : Nat) :
    convEval mode (fun m => c * h m) k x n i = c * convEval mode h k x n i := by
  have := convEval_lin mode c 0 h h k x n i
  simpa only [zero_mul, add_zero] using this

/-- **`Convolve ± Convolve`**: accepted iff same input length, output length, mode and filter length;
    the result convolves with `h_a ± h_b`, which is the pointwise sum / difference of the operators -/
theorem ConvOp.addSub_spec (sub : Bool) (a b : ConvOp K) :
    ((∃ r, ConvOp.addSub sub a b = .ok r) ↔ (a.n = b.n ∧ a.outLen = b.outLen ∧ a.mode = b.mode ∧ a.k = b.k))
    ∧ ∀ r, ConvOp.addSub sub a b = .ok r →
        r.n = a.n ∧ r.k = a.k ∧ r.mode = a.mode ∧ r.outLen = a.outLen
        ∧ r.inDt = resultType a.inDt b.inDt ∧ r.hDt = resultType a.hDt b.hDt
        ∧ ∀ x i, r.eval x i = pm sub (a.eval x i) (b.eval x i) := by
  -- the three checks of an accepted sum
  have chk : ∀ {r}, ConvOp.addSub sub a b = .ok r →
      (a.n = b.n ∧ a.outLen = b.outLen ∧ a.mode = b.mode ∧ a.k = b.k)
      ∧ r = { h := fun i => pm sub (a.h i) (b.h i), k := a.k, n := a.n, mode := a.mode
              inDt := resultType a.inDt b.inDt, hDt := resultType a.hDt b.hDt } := fun h => by
    obtain ⟨h1, h⟩ := ite_error_ok h
    obtain ⟨h2, h⟩ := ite_error_ok h
    obtain ⟨h3, h⟩ := ite_error_ok h
    exact ⟨⟨not_not.mp (not_or.mp h1).1, not_not.mp (not_or.mp h1).2, not_not.mp h2, not_not.mp h3⟩,
      (Except.ok.inj h).symm⟩
  refine ⟨⟨fun ⟨r, h⟩ => (chk h).1, fun ⟨q1, q2, q3, q4⟩ => ⟨_, by
    unfold ConvOp.addSub
    rw [if_neg (not_or.mpr ⟨not_not.mpr q1, not_not.mpr q2⟩), if_neg (not_not.mpr q3),
      if_neg (not_not.mpr q4)]⟩⟩, fun r h => ?_⟩
  obtain ⟨⟨hn, _, hm, hk⟩, rfl⟩ := chk h
  refine ⟨rfl, rfl, rfl, rfl, rfl, rfl, fun x i => ?_⟩
  show convEval a.mode (fun m => pm sub (a.h m) (b.h m)) a.k x a.n i
    = pm sub (convEval a.mode a.h a.k x a.n i) (convEval b.mode b.h b.k x b.n i)
  rw [← hm, ← hk, ← hn]
  cases sub
  · have := convEval_lin a.mode 1 1 a.h b.h a.k x a.n i
    simp only [one_mul] at this
    exact this
  · have := convEval_lin a.mode 1 (-1) a.h b.h a.k x a.n i
    simp only [one_mul, neg_one_mul, ← sub_eq_add_neg] at this
    exact this

/-- **`c · Convolve`, `Convolve / c`**: accepted iff `c` is scalar-equivalent; the result convolves with
    `h · c` / `h / c`, the scalar multiple / quotient of the operator; dtypes by `result_type` -/
theorem ConvOp.scal_spec (a : ConvOp K) (c : Scal K) :
    ((∃ r, a.smul c = .ok r) ↔ c.kind.isScalarEquiv = true)
    ∧ ((∃ r, a.sdiv c = .ok r) ↔ c.kind.isScalarEquiv = true)
    ∧ (∀ r, a.smul c = .ok r → r.n = a.n ∧ r.k = a.k ∧ r.mode = a.mode
        ∧ r.inDt = resultTypeS a.inDt c.kind.sk ∧ r.hDt = resultTypeS a.hDt c.kind.sk
        ∧ ∀ x i, r.eval x i = c.val * a.eval x i)
    ∧ (∀ r, a.sdiv c = .ok r → r.n = a.n ∧ r.k = a.k ∧ r.mode = a.mode
        ∧ r.inDt = resultTypeS a.inDt c.kind.sk ∧ r.hDt = resultTypeS a.hDt c.kind.sk
        ∧ ∀ x i, r.eval x i = a.eval x i / c.val) := by
  have acc : ∀ {x : Except Err (ConvOp K)},
      (∃ r, (if c.kind.isScalarEquiv = true then x else .error .type) = .ok r) → c.kind.isScalarEquiv = true :=
    fun ⟨_, h⟩ => (ite_ok_error h).1
  refine ⟨⟨acc, fun hc => ⟨_, if_pos hc⟩⟩, ⟨acc, fun hc => ⟨_, if_pos hc⟩⟩, fun r h => ?_, fun r h => ?_⟩
  · obtain rfl := Except.ok.inj (ite_ok_error h).2
    refine ⟨rfl, rfl, rfl, rfl, rfl, fun x i => ?_⟩
    show convEval a.mode (fun m => a.h m * c.val) a.k x a.n i = c.val * convEval a.mode a.h a.k x a.n i
    rw [← convEval_smul]; congr 1; funext m; exact mul_comm _ _
  · obtain rfl := Except.ok.inj (ite_ok_error h).2
    refine ⟨rfl, rfl, rfl, rfl, rfl, fun x i => ?_⟩
    show convEval a.mode (fun m => a.h m / c.val) a.k x a.n i = convEval a.mode a.h a.k x a.n i / c.val
    rw [div_eq_mul_inv, mul_comm, ← convEval_smul]; congr 1; funext m; rw [div_eq_mul_inv, mul_comm]

/-- **`CircularConvolve` closed forms** (`h_dft` combined in the DFT domain, any number of axes): the
    operator with spectrum `c₁·H₁ + c₂·H₂` is `c₁·A₁ + c₂·A₂` — covers `A ± B` (`c = 1, ±1`), `c·A`
    (`c₂ = 0`) and `A/c` (`c₁ = 1/c`) -/
theorem circNdSpec_lin (dims : List Nat) (ws wis : List K) (s c1 c2 : K) (H1 H2 x : LinOps.V K) (p : Nat) :
    circNdSpecEval dims ws wis s (fun f => c1 * H1 f + c2 * H2 f) x p
      = c1 * circNdSpecEval dims ws wis s H1 x p + c2 * circNdSpecEval dims ws wis s H2 x p := by
  unfold circNdSpecEval
  -- the two-term combination as a sum over `Bool`, the form `dftNd_lin` takes
  have e : (fun f => (c1 * H1 f + c2 * H2 f) * dftNd dims ws x f)
      = fun q => ∑ a : Bool, (bif a then c1 else c2)
          * (bif a then fun f => H1 f * dftNd dims ws x f else fun f => H2 f * dftNd dims ws x f) q := by
    funext f
    rw [Fintype.sum_bool]
    show _ = c1 * (H1 f * dftNd dims ws x f) + c2 * (H2 f * dftNd dims ws x f)
    ring
  rw [e, dftNd_lin, Fintype.sum_bool]
  show s * (c1 * dftNd dims wis (fun f => H1 f * dftNd dims ws x f) p
      + c2 * dftNd dims wis (fun f => H2 f * dftNd dims ws x f) p) = _
  ring

end
end Scico.OpAlg
