/-
  `FlaxMap.__call__` against its specification (`Scico.Model.Flax` §1), and `lookup` in a variable
  tree (§2).
-/
import Scico.Model.Flax

namespace Scico.Flax

/-- The cases of `FlaxMap.__call__`: rank 2, rank 3, and every other rank (to which nothing is added). -/
theorem rank_cases (s : List Nat) :
    (∃ a b, s = [a, b]) ∨ (∃ a b c, s = [a, b, c]) ∨ addedAxes s.length = [] ∧ s.length ≠ 2 ∧ s.length ≠ 3 := by
  match s with
  | [a, b] => exact Or.inl ⟨a, b, rfl⟩
  | [a, b, c] => exact Or.inr (Or.inl ⟨a, b, c, rfl⟩)
  | [] | [_] | _ :: _ :: _ :: _ :: _ => exact Or.inr (Or.inr (by simp [addedAxes]))

theorem insertAxes_singletons (s : List Nat) :
    (addedAxes s.length).all (fun a => (insertAxes s (addedAxes s.length))[a]? == some 1) = true := by
  rcases rank_cases s with ⟨a, b, rfl⟩ | ⟨a, b, c, rfl⟩ | ⟨h, _⟩
  · rfl
  · rfl
  · rw [h]; rfl

theorem removeAxes_insertAxes (s : List Nat) :
    removeAxes (insertAxes s (addedAxes s.length)) (addedAxes s.length) = s := by
  rcases rank_cases s with ⟨a, b, rfl⟩ | ⟨a, b, c, rfl⟩ | ⟨h, _⟩
  · rfl
  · rfl
  · rw [h]; rfl

theorem canon_length {α : Type} (x : Arr α) (hx : x.shape.length = 2 ∨ x.shape.length = 3 ∨ x.shape.length = 4) :
    (canon x).shape.length = 4 := by
  obtain ⟨s, d⟩ := x
  rcases rank_cases s with ⟨a, b, rfl⟩ | ⟨a, b, c, rfl⟩ | ⟨h, h2, h3⟩
  · rfl
  · rfl
  · rw [canon, h]; exact hx.resolve_left h2 |>.resolve_left h3

/-- On a rank-4 result, for the two axis lists the code uses, `squeeze(axis=axes)` tests what the
    specification tests and leaves what `removeAxes` leaves. -/
theorem flaxPost_squeeze {α : Type} (xndim : Nat) (axes : List Nat) (y : Arr α) (hy : y.shape.length = 4)
    (hx : xndim ≠ 4) (ha : axes = codeSqueeze2 ∨ axes = codeSqueeze3) :
    flaxPost xndim (some axes) y =
      if axes.all (fun a => y.shape[a]? == some 1) then .ok ⟨removeAxes y.shape axes, y.data⟩ else .error .shape := by
  obtain ⟨k, h, w, c, hs⟩ : ∃ k h w c, y.shape = [k, h, w, c] := by
    match y.shape, hy with
    | [k, h, w, c], _ => exact ⟨k, h, w, c, rfl⟩
  have hsq : squeezeAxes y.shape axes =
      if axes.all (fun a => y.shape[a]? == some 1) then some (removeAxes y.shape axes) else none := by
    rw [hs]; rcases ha with rfl | rfl <;> rfl
  rw [flaxPost, if_pos (by rw [hy]; exact Ne.symm hx), hsq]
  by_cases hc : (axes.all fun a => y.shape[a]? == some 1) = true
  · rw [if_pos hc, if_pos hc]
  · rw [if_neg hc, if_neg hc]

theorem flaxMap_eq_spec {α : Type} (net : Arr α → Arr α) (x : Arr α)
    (hy : (net (canon x)).shape.length = (canon x).shape.length) : flaxMap net x = specFlaxMap net x := by
  obtain ⟨s, d⟩ := x
  rcases rank_cases s with ⟨a, b, rfl⟩ | ⟨a, b, c, rfl⟩ | ⟨h, h2, h3⟩
  · exact flaxPost_squeeze 2 _ _ hy (by decide) (Or.inl rfl)
  · exact flaxPost_squeeze 3 _ _ hy (by decide) (Or.inr rfl)
  · have hc : canon (⟨s, d⟩ : Arr α) = ⟨s, d⟩ := by rw [canon, h]; rfl
    rw [hc] at hy
    simp only [flaxMap, flaxPre, specFlaxMap, h, if_neg h2, if_neg h3, hc, flaxPost, hy, ne_eq,
      not_true_eq_false, if_false]
    rfl

theorem lookup_cons_ne {τ : Type} (k k' : String) (v : τ) (t : VarTree τ) (h : k' ≠ k) :
    lookup ((k', v) :: t) k = lookup t k := by
  simp [lookup, List.find?, beq_false_of_ne h]

end Scico.Flax
