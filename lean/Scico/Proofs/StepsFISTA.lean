/-
  Proofs/StepsFISTA — the `O(1/k²)` objective bound of the accelerated proximal gradient method
  (`AcceleratedPGM` = FISTA, Beck–Teboulle 2009, Theorem 4.4) for the documented iteration
  `apgmSpecStep` with the base step-size object (`L` constant, `L ≥` Lipschitz constant of `∇f`).

  Potential (in the variables of the public state `(x, v, t)`):

      E(s) = 2 t (t − 1) (F(x) − F(x̄)) + L ‖t v − (t − 1) x − x̄‖²        (F = f + g, x̄ ∈ dom g arbitrary)

  `E(step s) ≤ E(s)` whenever `t ≥ 1` (`FistaReach` is what the iteration keeps); with `t_{k+1}(t_{k+1} − 1) = t_k²` and
  `t_k ≥ t_0 + k/2` the rate from any reachable state (`fista_rate_gen`), in particular

      F(x_{k+1}) − F(x̄) ≤ 2 L ‖x_0 − x̄‖² / (k + 2)²      for every `k` and every start `x_0` (`v_0 = x_0`, `t_0 = 1`).
-/
import Scico.Proofs.StepsPGM
import Mathlib.Tactic.Abel

namespace Scico.Steps

variable {E : Type} [NormedAddCommGroup E] [InnerProductSpace ℝ E]

/-- first-order convexity inequality of a differentiable `f` -/
def GradConvex (f : E → ℝ) (grad : E → E) : Prop := ∀ x y, f x + ⟪grad x, y - x⟫ ≤ f y

/-- strong convexity of a differentiable `f` in function form -/
def GradStrongConvex (f : E → ℝ) (grad : E → E) (m : ℝ) : Prop :=
  ∀ x y, f x + inner ℝ (grad x) (y - x) + m / 2 * ‖y - x‖ ^ 2 ≤ f y

theorem GradStrongConvex.gradConvex {f : E → ℝ} {grad : E → E} (h : GradStrongConvex f grad 0) : GradConvex f grad :=
  fun x y => by have := h x y; rwa [zero_div, zero_mul, add_zero] at this

theorem pgStep_three_point {f : E → ℝ} {grad : E → E} {prox : ℝ → E → E} {G : Fn E} (hp : IsProx G prox)
    {L : ℝ} (hL : 0 < L) (hd : DescentLemma f grad L) (hc : GradConvex f grad) (y x : E) (hx : x ∈ G.dom) :
    L / 2 * ‖pgStep grad prox L y - y‖ ^ 2 + L * ⟪y - x, pgStep grad prox L y - y⟫
      ≤ (f x + G.val x) - (f (pgStep grad prox L y) + G.val (pgStep grad prox L y)) :=
  pgStep_three_point_of hp hL hd y x hx (hc y x)

theorem quad_gradStrong (H : E → E) (b : E) (hadd : ∀ x y, H (x + y) = H x + H y)
    (hsym : ∀ x y, inner ℝ (H x) y = inner ℝ x (H y)) {m : ℝ} (hlb : ∀ x, m * ‖x‖ ^ 2 ≤ inner ℝ (H x) x) :
    GradStrongConvex (fun x => 1 / 2 * inner ℝ (H x) x - inner ℝ b x) (fun x => H x - b) m := by
  intro x y
  beta_reduce
  rw [quad_expand H b hadd hsym x y]
  linarith [hlb (y - x)]

theorem quad_gradConvex (H : E → E) (b : E) (hadd : ∀ x y, H (x + y) = H x + H y)
    (hsym : ∀ x y, ⟪H x, y⟫ = ⟪x, H y⟫) (hpsd : ∀ x, 0 ≤ ⟪H x, x⟫) :
    GradConvex (fun x => 1 / 2 * ⟪H x, x⟫ - ⟪b, x⟫) (fun x => H x - b) :=
  (quad_gradStrong H b hadd hsym fun x => by rw [zero_mul]; exact hpsd x).gradConvex

attribute [local instance] realHasSqrt

/-- hypotheses: base step-size object, proximal-map contract, descent lemma and convexity of `f` -/
structure FISTAHyp (p : PGMParams Unit ℝ E) (G : Fn E) (L : ℝ) : Prop where
  pol : ∃ z0, p.pol = basePolicy z0
  prox : IsProx G p.proxg
  Lpos : 0 < L
  descent : DescentLemma p.f p.gradf L
  convex : GradConvex p.f p.gradf

noncomputable def fistaE (p : PGMParams Unit ℝ E) (G : Fn E) (L : ℝ) (xb : E) (s : APGMState Unit ℝ E) : ℝ :=
  2 * (s.t * (s.t - 1)) * ((p.f s.x + G.val s.x) - (p.f xb + G.val xb))
    + L * ‖s.t • s.v - (s.t - 1) • s.x - xb‖ ^ 2

theorem FISTAHyp.not_robust {p : PGMParams Unit ℝ E} {G : Fn E} {L : ℝ} (h : FISTAHyp p G L) : p.pol.kind ≠ .robust := by
  obtain ⟨z0, hz⟩ := h.pol
  rw [hz]; simp [basePolicy]

theorem apgmSpec_base (p : PGMParams Unit ℝ E) {G : Fn E} {L : ℝ} (h : FISTAHyp p G L) (s : APGMState Unit ℝ E)
    (hsL : s.L = L) :
    (apgmSpecStep p s).x = pgStep p.gradf p.proxg L s.v ∧ (apgmSpecStep p s).L = L ∧
    (apgmSpecStep p s).t = fistaTImpl s.t ∧
    (apgmSpecStep p s).v = (apgmSpecStep p s).x + ((s.t - 1) / fistaTImpl s.t) • ((apgmSpecStep p s).x - s.x) := by
  obtain ⟨z0, hz⟩ := h.pol
  obtain ⟨a, e⟩ := apgmSpecStep_of_not_robust p s h.not_robust
  have hu : p.pol.update s.mem s.L s.x a = (s.L, s.mem) := by rw [hz]; rfl
  rw [e, hu, hsL]
  exact ⟨rfl, rfl, rfl, rfl⟩

/-- the centre `u = t v − (t − 1) x` of the potential after a momentum step `v⁺ = x⁺ + ((t − 1)/t⁺)(x⁺ − x)` is
    `u⁺ = t x⁺ − (t − 1) x`: it does not depend on the new `t⁺` -/
theorem momentum_centre (x xn : E) (t : ℝ) {tn : ℝ} (htn : tn ≠ 0) :
    tn • (xn + ((t - 1) / tn) • (xn - x)) - (tn - 1) • xn = t • xn - (t - 1) • x := by
  rw [smul_add, smul_smul, mul_div_cancel₀ _ htn]
  simp only [sub_smul, one_smul, smul_sub]
  abel

theorem apgm_centre_step (p : PGMParams Unit ℝ E) {G : Fn E} {L : ℝ} (h : FISTAHyp p G L) (s : APGMState Unit ℝ E)
    (hsL : s.L = L) (ht : 1 ≤ s.t) :
    (apgmSpecStep p s).t • (apgmSpecStep p s).v - ((apgmSpecStep p s).t - 1) • (apgmSpecStep p s).x
      = s.t • (apgmSpecStep p s).x - (s.t - 1) • s.x := by
  obtain ⟨-, -, ht', hv⟩ := apgmSpec_base p h s hsL
  rw [hv, ht']
  exact momentum_centre _ _ _ (by linarith [fistaT_ge s.t])

/-- With `c = t v − (t−1) x − x̄` and `b = x⁺ − v` the new centre `t x⁺ − (t−1) x − x̄` is `c + t b`, and
    `⟪c, b⟫ = (t−1)⟪v − x, b⟫ + ⟪v − x̄, b⟫`: the potential changes by `2t` times the sum of the two three-point inequalities
    `h1` (at `x`, weight `t − 1`) and `h2` (at `x̄`).  No momentum rule enters. -/
theorem potential_step_alg (x v xn xb : E) {t L Fx Fn Fb : ℝ} (ht : 0 ≤ t)
    (h1 : (t - 1) * (L / 2 * ‖xn - v‖ ^ 2 + L * ⟪v - x, xn - v⟫) ≤ (t - 1) * (Fx - Fn))
    (h2 : L / 2 * ‖xn - v‖ ^ 2 + L * ⟪v - xb, xn - v⟫ ≤ Fb - Fn) :
    2 * (t * t) * (Fn - Fb) + L * ‖t • xn - (t - 1) • x - xb‖ ^ 2
      ≤ 2 * (t * (t - 1)) * (Fx - Fb) + L * ‖t • v - (t - 1) • x - xb‖ ^ 2 := by
  have e_c : t • xn - (t - 1) • x - xb = (t • v - (t - 1) • x - xb) + t • (xn - v) := by
    rw [smul_sub t xn v]; abel
  have e_in : ⟪t • v - (t - 1) • x - xb, xn - v⟫ = (t - 1) * ⟪v - x, xn - v⟫ + ⟪v - xb, xn - v⟫ := by
    rw [← real_inner_smul_left, ← inner_add_left]
    congr 1
    simp only [sub_smul, one_smul, smul_sub]
    abel
  rw [e_c, norm_add_sq_real, inner_smul_right, norm_smul, mul_pow, Real.norm_eq_abs, sq_abs, e_in]
  linarith [mul_le_mul_of_nonneg_left (add_le_add h1 h2) (mul_nonneg zero_le_two ht)]

/-- one documented FISTA iteration does not increase the potential; the rule for `t` enters as `t⁺(t⁺ − 1) = t²` only -/
theorem fista_potential_step (p : PGMParams Unit ℝ E) {G : Fn E} {L : ℝ} (h : FISTAHyp p G L) (xb : E)
    (hxb : xb ∈ G.dom) (s : APGMState Unit ℝ E) (hsL : s.L = L) (ht : 1 ≤ s.t)
    (hdom : s.x ∈ G.dom ∨ s.t = 1) :
    fistaE p G L xb (apgmSpecStep p s) ≤ fistaE p G L xb s ∧
    (apgmSpecStep p s).x ∈ G.dom ∧ 1 ≤ (apgmSpecStep p s).t ∧ (apgmSpecStep p s).L = L := by
  obtain ⟨hx, hL', ht', -⟩ := apgmSpec_base p h s hsL
  have hL := h.Lpos
  have ht0 : 0 ≤ s.t := by linarith
  refine ⟨?_, by rw [hx]; exact (h.prox L⁻¹ (inv_pos.2 hL) _).1, by rw [ht']; linarith [fistaT_ge s.t], hL'⟩
  have h2 := pgStep_three_point h.prox hL h.descent h.convex s.v xb hxb
  have h1 : (s.t - 1) * (L / 2 * ‖pgStep p.gradf p.proxg L s.v - s.v‖ ^ 2
        + L * ⟪s.v - s.x, pgStep p.gradf p.proxg L s.v - s.v⟫)
      ≤ (s.t - 1) * ((p.f s.x + G.val s.x)
        - (p.f (pgStep p.gradf p.proxg L s.v) + G.val (pgStep p.gradf p.proxg L s.v))) := by
    rcases hdom with hd | h1
    · exact mul_le_mul_of_nonneg_left (pgStep_three_point h.prox hL h.descent h.convex s.v s.x hd) (by linarith)
    · rw [h1, sub_self, zero_mul, zero_mul]
  unfold fistaE
  rw [apgm_centre_step p h s hsL ht, ht', hx,
    show fistaTImpl s.t * (fistaTImpl s.t - 1) = s.t * s.t by linarith [fistaT_identity s.t]]
  exact potential_step_alg s.x s.v _ xb ht0 h1 h2

/-- what the base-policy iteration keeps: `L`, `t ≥ 1`, `x ∈ dom g` (after the first step), potential `≤ c`.  (The potential
    itself can be negative when `x̄` is not a minimiser.) -/
structure FistaReach (p : PGMParams Unit ℝ E) (G : Fn E) (L c : ℝ) (xb : E) (s : APGMState Unit ℝ E) : Prop where
  hL : s.L = L
  ht : 1 ≤ s.t
  hdom : s.x ∈ G.dom ∨ s.t = 1
  hE : fistaE p G L xb s ≤ c

theorem FistaReach.step {p : PGMParams Unit ℝ E} {G : Fn E} {L c : ℝ} (h : FISTAHyp p G L) {xb : E} (hxb : xb ∈ G.dom)
    {s : APGMState Unit ℝ E} (hs : FistaReach p G L c xb s) : FistaReach p G L c xb (apgmSpecStep p s) := by
  obtain ⟨a1, a2, a3, a4⟩ := fista_potential_step p h xb hxb s hs.hL hs.ht hs.hdom
  exact ⟨a4, a3, Or.inl a2, a1.trans hs.hE⟩

theorem FistaReach.iter {p : PGMParams Unit ℝ E} {G : Fn E} {L c : ℝ} (h : FISTAHyp p G L) {xb : E} (hxb : xb ∈ G.dom)
    {s : APGMState Unit ℝ E} (hs : FistaReach p G L c xb s) (k : Nat) :
    FistaReach p G L c xb (iter (apgmSpecStep p) k s) :=
  iter_invariant (fun _ hs => hs.step h hxb) k s hs

theorem fistaE_init (p : PGMParams Unit ℝ E) (G : Fn E) (L : ℝ) (xb : E) (s : APGMState Unit ℝ E) (ht : s.t = 1)
    (hv : s.v = s.x) : fistaE p G L xb s = L * ‖s.x - xb‖ ^ 2 := by
  unfold fistaE
  rw [ht, hv, one_smul, sub_self, zero_smul, sub_zero, mul_zero, mul_zero, zero_mul, zero_add]

theorem le_fistaE (p : PGMParams Unit ℝ E) (G : Fn E) {L : ℝ} (hL : 0 ≤ L) (xb : E) (s : APGMState Unit ℝ E) :
    2 * (s.t * (s.t - 1)) * ((p.f s.x + G.val s.x) - (p.f xb + G.val xb)) ≤ fistaE p G L xb s :=
  le_add_of_nonneg_right (mul_nonneg hL (sq_nonneg _))

/-- the arithmetic that turns a bound on the potential into a rate: `2 T a ≤ c` and `K/4 ≤ T` give `a K ≤ 2 c` -/
theorem rate_of_potential {a c T K : ℝ} (hK : 0 ≤ K) (hc : 0 ≤ c) (hT : K / 4 ≤ T) (h : 2 * T * a ≤ c) :
    a * K ≤ 2 * c := by
  rcases le_or_gt a 0 with ha | ha
  · linarith [mul_nonpos_of_nonpos_of_nonneg ha hK]
  · linarith [mul_le_mul_of_nonneg_left hT ha.le]

theorem fistaReach_init (p : PGMParams Unit ℝ E) (G : Fn E) {L : ℝ} (xb : E)
    (s : APGMState Unit ℝ E) (hsL : s.L = L) (ht : s.t = 1) (hv : s.v = s.x) :
    FistaReach p G L (L * ‖s.x - xb‖ ^ 2) xb s :=
  ⟨hsL, ht.ge, Or.inr ht, (fistaE_init p G L xb s ht hv).le⟩

/-- the content of the potential: `2 t_k² (F(x_{k+1}) − F(x̄)) ≤ c` (`t_{k+1}(t_{k+1} − 1) = t_k²`) -/
theorem fista_gap (p : PGMParams Unit ℝ E) {G : Fn E} {L c : ℝ} (h : FISTAHyp p G L) {xb : E} (hxb : xb ∈ G.dom)
    (s : APGMState Unit ℝ E) (hs : FistaReach p G L c xb s) (k : Nat) :
    2 * (iter (apgmSpecStep p) k s).t ^ 2 *
      ((p.f (iter (apgmSpecStep p) (k + 1) s).x + G.val (iter (apgmSpecStep p) (k + 1) s).x) - (p.f xb + G.val xb))
      ≤ c := by
  have hb := (le_fistaE p G h.Lpos.le xb _).trans (hs.iter h hxb (k + 1)).hE
  rwa [show (iter (apgmSpecStep p) (k + 1) s).t * ((iter (apgmSpecStep p) (k + 1) s).t - 1)
      = (iter (apgmSpecStep p) k s).t ^ 2 by
    rw [iter_succ', apgm_t_step p _ h.not_robust]
    linarith [fistaT_identity (iter (apgmSpecStep p) k s).t]] at hb

/-- the rate from any state with potential `≤ c`: `F(x_{k+1}) − F(x̄) ≤ 2c/(2t_0 + k)²` (`t_k ≥ t_0 + k/2`) -/
theorem fista_rate_gen (p : PGMParams Unit ℝ E) {G : Fn E} {L c : ℝ} (h : FISTAHyp p G L) {xb : E} (hxb : xb ∈ G.dom)
    (hc : 0 ≤ c) (s : APGMState Unit ℝ E) (hs : FistaReach p G L c xb s) (k : Nat) :
    ((p.f (iter (apgmSpecStep p) (k + 1) s).x + G.val (iter (apgmSpecStep p) (k + 1) s).x) - (p.f xb + G.val xb))
      * (2 * s.t + k) ^ 2 ≤ 2 * c := by
  have hlow := apgm_t_lower p h.not_robust k s
  have hT : (2 * s.t + k) ^ 2 / 4 ≤ (iter (apgmSpecStep p) k s).t ^ 2 := by
    have := pow_le_pow_left₀ (by linarith [hs.ht, (Nat.cast_nonneg k : (0 : ℝ) ≤ k)]) hlow 2
    linarith
  exact rate_of_potential (sq_nonneg _) hc hT (fista_gap p h hxb s hs k)

/-- Beck–Teboulle Theorem 4.4 for the documented iteration: from the constructor state (`v = x_0`, `t = 1`),
    `F(x_{k+1}) − F(x̄) ≤ 2 L ‖x_0 − x̄‖² / (k + 2)²` for every `k` and every comparison point `x̄ ∈ dom g`
    (in particular the minimiser) -/
theorem fista_rate (p : PGMParams Unit ℝ E) {G : Fn E} {L : ℝ} (h : FISTAHyp p G L) (xb : E) (hxb : xb ∈ G.dom)
    (s : APGMState Unit ℝ E) (hsL : s.L = L) (ht : s.t = 1) (hv : s.v = s.x) (k : Nat) :
    (p.f (iter (apgmSpecStep p) (k + 1) s).x + G.val (iter (apgmSpecStep p) (k + 1) s).x) - (p.f xb + G.val xb)
      ≤ 2 * L * ‖s.x - xb‖ ^ 2 / ((k : ℝ) + 2) ^ 2 := by
  have := fista_rate_gen p h hxb (mul_nonneg h.Lpos.le (sq_nonneg _)) s (fistaReach_init p G xb s hsL ht hv) k
  rw [le_div_iff₀ (by positivity), show (k : ℝ) + 2 = 2 * s.t + k by rw [ht]; ring]
  linarith

end Scico.Steps
