/-
  Proofs/StepsXSolve — the x-update of the LINEAR-SYSTEM family of ADMM sub-problem solvers (`LinearSubproblemSolver`,
  `MatrixSubproblemSolver`, `CircularConvolveSolver`, `FBlockCircularConvolveSolver`) meets the contract `XSolver` that every ADMM
  theorem of C03 assumes of `solveX`.

  Transcription of `_admmaux.py` (statement lists checked by the translator, rows `LinearSubproblemSolver.internal_init /
  compute_rhs / solve`):

      lhs_op  =  2·scale · Aᴴ W A  +  Σ_i ρ_i C_iᴴ C_i                       (`internal_init`; `f = None`: the sum only)
      rhs     =  2·scale · Aᴴ W y  +  Σ_i ρ_i C_iᴴ (z_i − u_i)               (`compute_rhs`)
      solve   :  x  with  lhs_op x = rhs                                       (`solve`: CG / Cholesky / DFT division — C10, C14)

  `f = scale‖A x − y‖²_W` is differentiable with gradient `2·scale·AᴴW(Ax − y)` (`QuadLoss`).  Then

      lhs_op x = rhs   ⟺   Σ_i ρ_i C_iᴴ(z_i − u_i − C_i x) = ∇f(x)   ⟺   x is the stationary point `XSolver` asks for,

  and injectivity of `lhs_op` (positive definiteness, the well-posedness condition of the solvers) gives `XSolver.unique`.
-/
import Scico.Proofs.StepsLyap

set_option linter.unusedSectionVars false

namespace Scico.Steps

variable {X Y Z : Type} [NormedAddCommGroup X] [InnerProductSpace ℝ X]
  [NormedAddCommGroup Y] [InnerProductSpace ℝ Y] [NormedAddCommGroup Z] [InnerProductSpace ℝ Z]

/-- `compute_rhs`: `2·scale·AᴴWy + Σ ρ_i C_iᴴ(z_i − u_i)`; `g0 = 2·scale·AᴴWy` (`0` for `f = None`) -/
def linRhs (cons : List (Con X Z)) (g0 : X) (z u : List Z) : X :=
  g0 + ((cons.zip (z.zip u)).map (fun t => t.1.rho • t.1.Cadj (t.2.1 - t.2.2))).sum

/-- `lhs_op` applied to `x`: `H x + Σ ρ_i C_iᴴ C_i x` with `H = 2·scale·AᴴWA` (`0` for `f = None`) -/
def linLhs (cons : List (Con X Z)) (H : X → X) (x : X) : X :=
  H x + (cons.map (fun c => c.rho • c.Cadj (c.C x))).sum

/-- the same sum over the constraints that have a `(z_i, u_i)` pair; equal to `linLhs` on well-formed states -/
def linLhsT (cons : List (Con X Z)) (H : X → X) (z u : List Z) (x : X) : X :=
  H x + ((cons.zip (z.zip u)).map (fun t => t.1.rho • t.1.Cadj (t.1.C x))).sum

theorem zip_map_fst {α β : Type} (f : α → X) (l : List α) (m : List β) (h : l.length ≤ m.length) :
    ((l.zip m).map (fun t => f t.1)).sum = (l.map f).sum := by
  conv_rhs => rw [← List.map_fst_zip h, List.map_map]
  rfl

/-- on the states the optimiser reaches (`C11_admm_wf_reachable`: all lists of length `N`) the truncated sum is `lhs_op` -/
theorem linLhsT_eq (cons : List (Con X Z)) (H : X → X) (z u : List Z) (hz : z.length = cons.length)
    (hu : u.length = cons.length) (x : X) : linLhsT cons H z u x = linLhs cons H x := by
  unfold linLhsT linLhs
  congr 1
  exact zip_map_fst (fun c : Con X Z => c.rho • c.Cadj (c.C x)) cons (z.zip u) (by simp [hz, hu])

/-- `xGrad = (rhs − g0) − (lhs − H x)`: the algebra behind the normal equations (`C_iᴴ` additive) -/
theorem xGrad_split (cons : List (Con X Z)) (hadd : ∀ c ∈ cons, ∀ a b, c.Cadj (a - b) = c.Cadj a - c.Cadj b)
    (g0 : X) (H : X → X) (z u : List Z) (x : X) :
    xGrad cons z u x = (linRhs cons g0 z u - g0) - (linLhsT cons H z u x - H x) := by
  unfold xGrad linRhs linLhsT
  rw [add_sub_cancel_left, add_sub_cancel_left, list_sum_map_sub]
  congr 1
  apply List.map_congr_left
  intro t ht
  have hc : t.1 ∈ cons := (List.of_mem_zip ht).1
  rw [← smul_sub, ← hadd t.1 hc]

/-- `f` is differentiable with gradient `gradf`: the gradient is a sub-gradient and the only one -/
structure QuadLoss (F : Fn X) (gradf : X → X) : Prop where
  grad : ∀ x, F.Subgrad x (gradf x)
  only : ∀ x g, F.Subgrad x g → g = gradf x

/-- the x-update of the linear-system solvers meets the `XSolver` contract: `solveX` returns a solution of
    `lhs_op x = compute_rhs()`, `∇f(x) = H x − g0` (quadratic loss: `H = 2·scale·AᴴWA`, `g0 = 2·scale·AᴴWy`; `f = None`: both `0`),
    `lhs_op` injective -/
theorem linear_solver_XSolver (F : Fn X) (gradf : X → X) (Q : QuadLoss F gradf) (cons : List (Con X Z))
    (hadd : ∀ c ∈ cons, ∀ a b, c.Cadj (a - b) = c.Cadj a - c.Cadj b)
    (g0 : X) (H : X → X) (hgrad : ∀ x, gradf x = H x - g0)
    (solveX : List Z → List Z → X → X)
    (hsolve : ∀ z u x0, linLhsT cons H z u (solveX z u x0) = linRhs cons g0 z u)
    (hinj : ∀ z u x x', linLhsT cons H z u x = linLhsT cons H z u x' → x = x') :
    XSolver F cons solveX := by
  have key : ∀ z u x, xGrad cons z u x = gradf x ↔ linLhsT cons H z u x = linRhs cons g0 z u := fun z u x => by
    rw [xGrad_split cons hadd g0 H z u x, hgrad x, sub_eq_iff_eq_add, sub_add_sub_cancel', sub_left_inj, eq_comm]
  refine ⟨fun z u x0 => ?_, fun z u x x' hx hx' => ?_⟩
  · rw [(key z u _).2 (hsolve z u x0)]
    exact Q.grad _
  · have h1 := (key z u x).1 (Q.only x _ hx)
    have h2 := (key z u x').1 (Q.only x' _ hx')
    exact hinj z u x x' (h1.trans h2.symm)

end Scico.Steps
