/-
  Adjoint engine over `ℂ`: the real inner product `Re⟪·,·⟫`, operators from a real into a complex space,
  the contract `JaxTransposeRC` for branch 2 of `scico.linear_adjoint` (its theorems are `C01_real_to_complex`,
  `C01_linear_adjoint_real_to_complex`), "Re-identity + complex linearity ⇒ complex identity", basis lifting in `Re⟪·,·⟫`,
  and the real parts taken by `CircularConvolve` for real input / output spaces (`creal`, the projection `_to_output_space` uses,
  is defined here; its theorem is `C01_smul_complex_on_real_output`).
-/
import Mathlib.Data.Complex.Basic
import Mathlib.Data.Complex.BigOperators
import Scico.Proofs.AdjointMatrix

namespace Scico.Adjoint
open Finset

theorem reTest_complex (z : ℂ) : reTest z = ((2 * z.re : ℝ) : ℂ) := by
  apply Complex.ext <;> simp [reTest]; ring

theorem isAdjRe_iff (A : Op ℂ) :
    IsAdjRe A ↔ ∀ x y, (ip A.nout (A.eval x) y).re = (ip A.nin x (A.adj y)).re := by
  unfold IsAdjRe IsAdjW
  constructor
  · intro h x y
    have := h x y
    rw [reTest_complex, reTest_complex] at this
    have := congrArg Complex.re this
    simp only [Complex.ofReal_re] at this
    exact mul_left_cancel₀ (two_ne_zero) this
  · intro h x y
    rw [reTest_complex, reTest_complex, h x y]

def vre (x : V ℂ) : V ℂ := fun i => ((x i).re : ℂ)

theorem ip_re_right (n : Nat) (u w : V ℂ) :
    (ip n (vre u) (vre w)).re = ∑ i ∈ range n, (u i).re * (w i).re := by
  simp [ip_eq, vre, Complex.re_sum]

/-- An operator from a REAL space into a complex space, as scico holds it: `eval x = M x` on real `x`
    (extended to complex arguments through `Re`), `adj y = Re(Mᴴ y)`. -/
def realToComplex (m n : Nat) (M : Nat → Nat → ℂ) : Op ℂ where
  nin := n
  nout := m
  eval := fun x => mulVec n M (vre x)
  adj := fun y => vre (mulVec m (fun j i => star (M i j)) y)

/-- contract of `jax.linear_transpose` for a REAL primal and a complex matrix: the real part of `Mᵀ ct` -/
def JaxTransposeRC (jt : Bool → Nat → Nat → (V ℂ → V ℂ) → V ℂ → V ℂ) : Prop :=
  ∀ (m n : Nat) (M : Nat → Nat → ℂ) (y : V ℂ), ∀ j < n,
    jt false m n (mulVec n M) y j = (((∑ i ∈ range m, M i j * y i).re : ℝ) : ℂ)

/-- a function meeting the contract (non-vacuity): probe with basis vectors, keep the real part for a real primal -/
def probeTransposeRC : Bool → Nat → Nat → (V ℂ → V ℂ) → V ℂ → V ℂ :=
  fun pc m _ g y j =>
    if pc then ∑ i ∈ range m, g (basis j) i * y i else (((∑ i ∈ range m, g (basis j) i * y i).re : ℝ) : ℂ)

theorem probeTransposeRC_ok : JaxTransposeRC probeTransposeRC := by
  intro m n M y j hj
  simp only [probeTransposeRC, Bool.false_eq_true, if_false, mulVec_basis n M j hj]

def CommutesI (f : V ℂ → V ℂ) : Prop := ∀ x, f (vsmul Complex.I x) = vsmul Complex.I (f x)

theorem re_to_complex {A : Op ℂ} (hre : IsAdjRe A) (hE : CommutesI A.eval) : IsAdj A := by
  rw [isAdjRe_iff] at hre
  intro x y
  apply Complex.ext
  · exact hre x y
  · -- Im ⟪u,w⟫ = Re ⟪-i u, w⟫
    have h := hre (vsmul (-Complex.I) x) y
    have e : A.eval (vsmul (-Complex.I) x) = vsmul (-Complex.I) (A.eval x) := by
      have h1 := hE (vsmul (-Complex.I) x)
      have h2 : vsmul Complex.I (vsmul (-Complex.I) x) = x := by
        funext i; simp [vsmul, ← mul_assoc]
      rw [h2] at h1
      funext i
      have := congrFun h1 i
      simp only [vsmul] at this ⊢
      rw [this, ← mul_assoc]
      simp
    rw [e, ip_smul_left, ip_smul_left] at h
    simpa [Complex.mul_re] using h

structure IsRLinear (n : Nat) (f : V ℂ → V ℂ) : Prop where
  add : ∀ x y, f (vadd x y) = vadd (f x) (f y)
  smul : ∀ (r : ℝ) x, f (vsmul (r : ℂ) x) = vsmul (r : ℂ) (f x)
  ext : ∀ x x', (∀ j < n, x j = x' j) → f x = f x'

def ibasis (j : Nat) : V ℂ := vsmul Complex.I (basis j)

theorem IsLinear.isRLinear {n : Nat} {f : V ℂ → V ℂ} (h : IsLinear n f) : IsRLinear n f :=
  ⟨h.add, fun r x => h.smul r x, h.ext⟩

theorem IsRLinear.zero {n : Nat} {f : V ℂ → V ℂ} (h : IsRLinear n f) : f vzero = vzero :=
  map_vzero_of_smul (by simpa only [Complex.ofReal_zero] using h.smul 0 vzero)

theorem IsRLinear.smul_basis {n : Nat} {f : V ℂ → V ℂ} (h : IsRLinear n f) (c : ℂ) (j i : Nat) :
    f (vsmul c (basis j)) i = (c.re : ℂ) * f (basis j) i + (c.im : ℂ) * f (ibasis j) i := by
  have e : vsmul c (basis j) = vadd (vsmul (c.re : ℂ) (basis j)) (vsmul (c.im : ℂ) (ibasis j)) := by
    funext t
    simp only [vadd, vsmul, ibasis, ← mul_assoc, ← add_mul, Complex.re_add_im]
  rw [e, h.add, h.smul, h.smul]
  rfl

theorem ip_ibasis_left (n j : Nat) (hj : j < n) (w : V ℂ) : ip n (ibasis j) w = Complex.I * star (w j) := by
  rw [ibasis, ip_smul_left, ip_basis_left _ _ hj]

theorem ip_ibasis_right (n i : Nat) (hi : i < n) (u : V ℂ) : ip n u (ibasis i) = -Complex.I * u i := by
  rw [ip_swap, ip_ibasis_left _ _ hi, star_mul', star_star, Complex.star_def, Complex.conj_I]

theorem basis_lift_re {A : Op ℂ} (hE : IsRLinear A.nin A.eval) (hB : IsRLinear A.nout A.adj)
    (h11 : ∀ j < A.nin, ∀ i < A.nout, (ip A.nout (A.eval (basis j)) (basis i)).re = (ip A.nin (basis j) (A.adj (basis i))).re)
    (h1i : ∀ j < A.nin, ∀ i < A.nout, (ip A.nout (A.eval (basis j)) (ibasis i)).re = (ip A.nin (basis j) (A.adj (ibasis i))).re)
    (hi1 : ∀ j < A.nin, ∀ i < A.nout, (ip A.nout (A.eval (ibasis j)) (basis i)).re = (ip A.nin (ibasis j) (A.adj (basis i))).re)
    (hii : ∀ j < A.nin, ∀ i < A.nout, (ip A.nout (A.eval (ibasis j)) (ibasis i)).re = (ip A.nin (ibasis j) (A.adj (ibasis i))).re) :
    IsAdjRe A := by
  refine single_lift test_re hE.add hE.zero hE.ext hB.add hB.zero hB.ext fun j hj i hi c d => ?_
  have k11 : (A.eval (basis j) i).re = (A.adj (basis i) j).re := by
    have := h11 j hj i hi
    rw [ip_basis_right _ _ hi, ip_basis_left _ _ hj] at this
    simpa using this
  have k1i : (A.eval (basis j) i).im = (A.adj (ibasis i) j).re := by
    have := h1i j hj i hi
    rw [ip_ibasis_right _ _ hi, ip_basis_left _ _ hj] at this
    simpa using this
  have ki1 : (A.eval (ibasis j) i).re = (A.adj (basis i) j).im := by
    have := hi1 j hj i hi
    rw [ip_basis_right _ _ hi, ip_ibasis_left _ _ hj] at this
    simpa using this
  have kii : (A.eval (ibasis j) i).im = (A.adj (ibasis i) j).im := by
    have := hii j hj i hi
    rw [ip_ibasis_right _ _ hi, ip_ibasis_left _ _ hj] at this
    simpa using this
  have e : (A.eval (vsmul c (basis j)) i * star d).re = (c * star (A.adj (vsmul d (basis i)) j)).re := by
    rw [hE.smul_basis, hB.smul_basis]
    simp only [Complex.mul_re, Complex.mul_im, Complex.add_re, Complex.add_im, Complex.ofReal_re, Complex.ofReal_im,
      Complex.star_def, Complex.conj_re, Complex.conj_im, map_add, map_mul, Complex.conj_ofReal, k11, k1i, ki1, kii]
    ring
  rw [reTest_complex, reTest_complex, e]

/-- projection on the real subfield, as a complex number (`y.real` of `_to_output_space`); `vre x` is `fun i => creal (x i)` -/
def creal (z : ℂ) : ℂ := ((z.re : ℝ) : ℂ)

theorem re_ip_vre_left (n : Nat) (u w : V ℂ) : (ip n (vre u) w).re = (ip n u (vre w)).re := by
  simp [ip_eq, vre, Complex.re_sum, Complex.mul_re]

theorem wrapRR_isAdjRe {A : Op ℂ} (hA : IsAdjRe A) : IsAdjRe (Op.wrapRR creal A) := by
  rw [isAdjRe_iff] at hA ⊢
  intro x y
  show (ip A.nout (vre (A.eval (vre x))) y).re = (ip A.nin x (vre (A.adj (vre y)))).re
  rw [re_ip_vre_left, hA (vre x) (vre y), re_ip_vre_left]

theorem wrapRC_isAdjRe {A : Op ℂ} (hA : IsAdjRe A) : IsAdjRe (Op.wrapRC creal A) := by
  rw [isAdjRe_iff] at hA ⊢
  intro x y
  show (ip A.nout (A.eval (vre x)) y).re = (ip A.nin x (vre (A.adj y))).re
  rw [hA (vre x) y, re_ip_vre_left]

end Scico.Adjoint
