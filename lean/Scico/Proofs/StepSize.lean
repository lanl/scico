/-
  The step-size policies (`Scico.Model.StepSize`) at the IEEE-extended scalars `XR K` over a linear ordered field `K`.
  One gate, `unusable x = false ↔ PosFin x`, carries the invariant "`L` and the remembered ratios are finite and positive" through
  every policy (`update_posFin`, `iterate_posFin`; `PolOK` is what it asks of `γ_u`, `γ_d`).  The adaptive rule is put in the normal
  form `keep` / `abbSelect` (`abbRule_eq`); its memory after a history is the most recent usable ratio (`lastUsable`, `abbMem_eq`,
  along the calls of `update`: `runCalls_abb`), and the value it returns lies between the two Barzilai–Borwein estimates, which
  Cauchy–Schwarz orders (`abbRule_between`).  A line search rejects only values below the curvature (`update_ls_of_accept`).
-/
import Scico.Proofs.StepSizeControlFlow
import Scico.Proofs.XR
import Scico.Proofs.Inequalities

namespace Scico.StepSize

open XR

variable {K : Type} [Field K] [LinearOrder K] [IsStrictOrderedRing K]

theorem unusable_eq_false_iff (x : XR K) : unusable x = false ↔ PosFin x := by
  cases x with
  | fin a => simp [unusable, fin_le_fin, posFin_fin]
  | pinf | ninf | nan => simp [unusable]

theorem bbRule_posFin {Lprev : XR K} (hL : PosFin Lprev) (xg gg : XR K) : PosFin (bbRule Lprev xg gg) := by
  simp only [bbRule]
  split
  · exact hL
  · exact (unusable_eq_false_iff _).1 (Bool.eq_false_iff.2 ‹_›)

/-- the memory update of one ratio in `AdaptiveBBStepSize.update` -/
def keep (m : Option (XR K)) (r : XR K) : Option (XR K) := if unusable r then m else some r

/-- the selection between the two (remembered or fresh) estimates -/
def abbSelect (κ Lprev : XR K) : Option (XR K) → Option (XR K) → XR K
  | some a, some b => if (a / b) < κ then b else a
  | _, _ => Lprev

omit [IsStrictOrderedRing K] in
theorem abbRule_eq (κ Lprev : XR K) (m1 m2 : Option (XR K)) (xx xg gg : XR K) :
    abbRule κ Lprev m1 m2 xx xg gg =
      (abbSelect κ Lprev (keep m1 (xg / xx)) (keep m2 (gg / xg)), keep m1 (xg / xx), keep m2 (gg / xg)) := by
  unfold abbRule keep
  simp only
  -- the `match` of `abbRule` and the one of `abbSelect` are different functions: equal constructor by constructor
  generalize (if unusable (xg / xx) = true then m1 else some (xg / xx)) = l1
  generalize (if unusable (gg / xg) = true then m2 else some (gg / xg)) = l2
  cases l1 <;> cases l2 <;> rfl

def OptPos (m : Option (XR K)) : Prop := ∀ a, m = some a → PosFin a

omit [IsStrictOrderedRing K] in
theorem optPos_none : OptPos (none : Option (XR K)) := fun _ h => nomatch h

theorem keep_optPos {m : Option (XR K)} (hm : OptPos m) (r : XR K) : OptPos (keep m r) := by
  unfold keep
  cases h : unusable r
  · rintro a ⟨rfl⟩
    exact (unusable_eq_false_iff _).1 h
  · exact hm

theorem abbSelect_fin (k : K) (Lprev : XR K) (a : K) {b : K} (hb : b ≠ 0) :
    abbSelect (fin k) Lprev (some (fin a)) (some (fin b)) = if a / b < k then fin b else fin a := by
  simp only [abbSelect, fin_div_fin hb, fin_lt_fin]

omit [IsStrictOrderedRing K] in
theorem abbSelect_posFin {κ Lprev : XR K} (hL : PosFin Lprev) {l1 l2 : Option (XR K)}
    (h1 : OptPos l1) (h2 : OptPos l2) : PosFin (abbSelect κ Lprev l1 l2) := by
  unfold abbSelect
  split
  · split
    · exact h2 _ rfl
    · exact h1 _ rfl
  · exact hL

theorem keep_fin_div (m : Option (XR K)) {a b : K} (ha : 0 < a) (hb : 0 < b) :
    keep m (fin a / fin b) = some (fin (a / b)) := by
  rw [keep, fin_div_fin hb.ne', (unusable_eq_false_iff _).2 (posFin_fin.2 (div_pos ha hb))]
  rfl

/-- the documented selection rule, in terms of the step sizes `α = 1/L`:
    `α_BB1 = ⟨Δx,Δx⟩/⟨Δx,Δg⟩`, `α_BB2 = ⟨Δx,Δg⟩/⟨Δg,Δg⟩`, `α = α_BB2 if α_BB2/α_BB1 < κ else α_BB1` -/
def abbAlpha (k xx xg gg : K) : K :=
  if (xg / gg) / (xx / xg) < k then xg / gg else xx / xg

/-- memory after a list of calls, oldest first (`(xx, xg, gg)` per call) -/
def abbMem : Option (XR K) × Option (XR K) → List (XR K × XR K × XR K) → Option (XR K) × Option (XR K)
  | m, [] => m
  | m, (xx, xg, gg) :: t => abbMem (keep m.1 (xg / xx), keep m.2 (gg / xg)) t

/-- specification of the memory: the most recent usable element of a list of ratios (oldest first) -/
def lastUsable : List (XR K) → Option (XR K)
  | [] => none
  | r :: t => match lastUsable t with
    | some v => some v
    | none => if unusable r then none else some r

omit [IsStrictOrderedRing K] in
theorem lastUsable_cons_orElse (r : XR K) (t : List (XR K)) (m : Option (XR K)) :
    (lastUsable (r :: t)).orElse (fun _ => m) = (lastUsable t).orElse fun _ => keep m r := by
  rw [lastUsable, keep]
  cases lastUsable t with
  | some v => rfl
  | none => cases unusable r <;> rfl

omit [IsStrictOrderedRing K] in
theorem abbMem_eq (m : Option (XR K) × Option (XR K)) (h : List (XR K × XR K × XR K)) :
    abbMem m h =
      ((lastUsable (h.map fun c => c.2.1 / c.1)).orElse (fun _ => m.1),
       (lastUsable (h.map fun c => c.2.2 / c.2.1)).orElse (fun _ => m.2)) := by
  induction h generalizing m with
  | nil => rfl
  | cons c t ih => rw [abbMem, ih, List.map_cons, List.map_cons, lastUsable_cons_orElse, lastUsable_cons_orElse]

/-! ### the Barzilai–Borwein values and curvature, for numbers `a = ‖Δx‖²`, `b = ⟨Δx,Δg⟩`, `c = ‖Δg‖²` -/

theorem abbRule_between {a b c : K} (ha : 0 < a) (hb : 0 < b) (hc : 0 < c) (hcs : b * b ≤ a * c) (k : K)
    (Lprev : XR K) (m1 m2 : Option (XR K)) :
    b / a ≤ c / b ∧ 0 < (b / a) / (c / b) ∧ (b / a) / (c / b) ≤ 1 ∧
    ∃ l : K, (abbRule (fin k) Lprev m1 m2 (fin a) (fin b) (fin c)).1 = fin l ∧ b / a ≤ l ∧ l ≤ c / b := by
  have hord : b / a ≤ c / b := div_le_div_of_mul_self_le ha hb hcs
  have h2 : 0 < c / b := div_pos hc hb
  refine ⟨hord, div_pos (div_pos hb ha) h2, (div_le_one h2).2 hord, ?_⟩
  rw [abbRule_eq, keep_fin_div m1 hb ha, keep_fin_div m2 hc hb, abbSelect_fin k Lprev _ h2.ne']
  split
  · exact ⟨_, rfl, hord, le_rfl⟩
  · exact ⟨_, rfl, le_rfl, hord⟩

theorem geom_posFin {L γ : XR K} (hL : PosFin L) (hγ : PosFin γ) (k : Nat) : PosFin (geom L γ k) :=
  geom_rec PosFin hL (fun _ ha => posFin_mul ha hγ) k

omit [IsStrictOrderedRing K] in
theorem geom_fin (l g : K) (k : Nat) : geom (fin l : XR K) (fin g) k = fin (l * g ^ k) := by
  induction k generalizing l with
  | zero => rw [pow_zero, mul_one]; rfl
  | succ k ih => rw [pow_succ', ← mul_assoc]; exact ih (l * g)

section env

variable {V : Type} [HasSqrt K]

/-- admissible constructor arguments: `γ_u`, `γ_d` finite and positive (as the documented `γ_u > 1`, `0 < γ_d < 1` are) -/
def PolOK : Policy (XR K) → Prop
  | .ls γu _ => PosFin γu
  | .rls γd γu _ => PosFin γd ∧ PosFin γu
  | _ => True

theorem update_posFin (env : Env V (XR K)) (pol : Policy (XR K)) (hpol : PolOK pol) (x : V) {L : XR K}
    (ps : PolState V (XR K)) (v : V) (hL : PosFin L) (h1 : OptPos ps.l1) (h2 : OptPos ps.l2)
    {L' : XR K} {ps' : PolState V (XR K)} (h : update env pol x L ps v = some (L', ps')) :
    PosFin L' ∧ OptPos ps'.l1 ∧ OptPos ps'.l2 := by
  cases pol with
  | base => cases h; exact ⟨hL, h1, h2⟩
  | bb =>
    cases hp : ps.prev with
    | none => simp only [update, hp] at h; cases h; exact ⟨hL, h1, h2⟩
    | some q => simp only [update, hp] at h; cases h; exact ⟨bbRule_posFin hL _ _, h1, h2⟩
  | abb κ =>
    cases hp : ps.prev with
    | none => simp only [update, hp] at h; cases h; exact ⟨hL, h1, h2⟩
    | some q =>
      simp only [update, hp, abbRule_eq] at h
      cases h
      exact ⟨abbSelect_posFin hL (keep_optPos h1 _) (keep_optPos h2 _), keep_optPos h1 _, keep_optPos h2 _⟩
  | ls γu maxiter =>
    simp only [update] at h
    split at h
    · cases h; exact ⟨hL, h1, h2⟩
    · rename_i hs
      cases h
      obtain ⟨k, _, _, rfl, _⟩ := searchLoop_spec _ _ _ _ _ _ _ _ _ hs
      exact ⟨geom_posFin hL hpol k, h1, h2⟩
  | rls γd γu maxiter =>
    simp only [update] at h
    split at h
    · cases h
    · rename_i hs
      cases h
      obtain ⟨k, _, _, rfl, _⟩ := searchLoop_spec _ _ _ _ _ _ _ _ _ hs
      exact ⟨geom_posFin (posFin_mul hL hpol.1) hpol.2 k, h1, h2⟩

omit [IsStrictOrderedRing K] in
/-- `hacc` is what the descent lemma with constant `Lf` gives on an inner-product space (`accept_of_descent`) -/
theorem update_ls_of_accept (env : Env V (XR K)) {Lf : K} {v : V} (hacc : ∀ m : K, Lf ≤ m → Accept env v (fin m))
    {l0 g : K} {maxiter : Nat} {x : V} {ps ps' : PolState V (XR K)} {L' : XR K}
    (h : update env (.ls (fin g) maxiter) x (fin l0) ps v = some (L', ps')) :
    ∃ k, L' = fin (l0 * g ^ k) ∧ (∀ j, j < k → l0 * g ^ j < Lf) ∧
      (Accept env v L' ∨ ∀ j, j < maxiter → l0 * g ^ j < Lf) := by
  have hrej : ∀ j, ¬ Accept env v (geom (fin l0) (fin g) j) → l0 * g ^ j < Lf := fun j hj =>
    lt_of_not_ge fun hc => hj (by rw [geom_fin]; exact hacc _ hc)
  rcases update_ls env _ _ _ _ _ _ _ _ h with ⟨rfl, rfl, _⟩ | ⟨k, hk, rfl, _, hall, hend⟩
  · exact ⟨0, by rw [pow_zero, mul_one], fun j hj => absurd hj (Nat.not_lt_zero j),
      Or.inr fun j hj => absurd hj (Nat.not_lt_zero j)⟩
  · refine ⟨k, geom_fin l0 g k, fun j hj => hrej j (hall j hj), ?_⟩
    by_cases hc : Accept env v (geom (fin l0) (fin g) k)
    · exact Or.inl hc
    · -- the last value was rejected, so the budget ended with it: trials `0, …, k` are all the trials
      have hlast : k + 1 = maxiter := hend.resolve_left hc
      refine Or.inr fun j hj => ?_
      rcases Nat.lt_or_eq_of_le (Nat.le_of_lt_succ (hlast ▸ hj)) with hlt | rfl
      · exact hrej j (hall j hlt)
      · exact hrej j hc

theorem iterate_posFin (env : Env V (XR K)) (pol : Policy (XR K)) (hpol : PolOK pol)
    (step : PGMState V (XR K) → Option (PGMState V (XR K)))
    (hstep : ∀ s s', step s = some s' → ∃ v, update env pol s.x s.L s.ps v = some (s'.L, s'.ps))
    (x0 : V) {L0 : XR K} (hL0 : PosFin L0) (inf : XR K) (k : Nat) (s : PGMState V (XR K))
    (h : iterate step k (PGMState.init x0 L0 inf) = some s) : PosFin s.L := by
  -- the invariant also covers the memory of the adaptive rule
  refine (iterate_pred step (fun s => PosFin s.L ∧ OptPos s.ps.l1 ∧ OptPos s.ps.l2) (fun s s' hs hs' => ?_) k _ s
    ⟨hL0, optPos_none, optPos_none⟩ h).1
  obtain ⟨v, hv⟩ := hstep s s' hs'
  exact update_posFin env pol hpol s.x s.ps v hs.1 hs.2.1 hs.2.2 hv

end env

/-! ### the adaptive rule along the call history of a policy object

The memory `(Lbb1prev, Lbb2prev)` after the calls `update(v₀), …, update(vₙ)` (whatever `pgm.L` was at each call) is
`abbMem` of the inner-product triples of consecutive call points: this ties the specification function `abbMem` to the
modelled method `update`. -/

section history

variable [HasSqrt K] {V : Type}

/-- `(⟨Δx,Δx⟩, ⟨Δx,Δg⟩, ⟨Δg,Δg⟩)` for the previous call point `p` and the current one `v` -/
def ipsOf (env : Env V (XR K)) (p v : V) : XR K × XR K × XR K :=
  let dx := env.sub v p
  let dg := env.sub (env.grad v) (env.grad p)
  (env.reInner dx dx, env.reInner dx dg, env.reInner dg dg)

/-- the triples of consecutive call points -/
def ipsAlong (env : Env V (XR K)) : V → List (V × XR K) → List (XR K × XR K × XR K)
  | _, [] => []
  | p, (v, _) :: t => ipsOf env p v :: ipsAlong env v t

/-- the policy state after a list of calls `(v, pgm.L at that call)`; `x` (= `pgm.x`) is irrelevant for this policy -/
def runCalls (env : Env V (XR K)) (pol : Policy (XR K)) (x : V) : PolState V (XR K) → List (V × XR K) → Option (PolState V (XR K))
  | ps, [] => some ps
  | ps, (v, L) :: t =>
    match update env pol x L ps v with
    | none => none
    | some (_, ps') => runCalls env pol x ps' t

omit [IsStrictOrderedRing K] in
theorem runCalls_abb (env : Env V (XR K)) (κ : XR K) (x : V) :
    ∀ (calls : List (V × XR K)) (ps : PolState V (XR K)) (p : V), ps.prev = some (p, env.grad p) →
      ∃ ps', runCalls env (.abb κ) x ps calls = some ps' ∧
        (ps'.l1, ps'.l2) = abbMem (ps.l1, ps.l2) (ipsAlong env p calls) := by
  intro calls
  induction calls with
  | nil => intro ps p _; exact ⟨ps, rfl, rfl⟩
  | cons c t ih =>
    intro ps p hp
    obtain ⟨v, L⟩ := c
    simp only [runCalls, update, hp, ipsAlong, abbMem, ipsOf]
    rw [abbRule_eq]
    exact ih _ v rfl

end history

end Scico.StepSize
