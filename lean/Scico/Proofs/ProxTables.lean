/-
  Expected tables of the Prox engine (C02) for the translator `harness/prox_translate.py`: the DATA of the scico source that the
  hand-written model (`Scico/Model/Prox.lean`), the driver and the harness rely on.  `Scico/Generated/ProxTables.lean` (rewritten from
  the working tree on every run) proves `checkFlags / checkDefaults / checkDispatch / checkBases … = true` (by kernel evaluation; the checks that are a table equality by reflexivity); a change of the
  source that the model does not follow breaks one of these obligations.  Mathlib-free.

  How the tables are used:
  * `expectedFlags`    : the classes of `_norm.py`, `_indicator.py`, `_dist.py`, `loss.py` (+ `ZeroFunctional`) with the flags they set at
                         class level — the families of the tie; `covered` = classes with a C02 theorem, `excluded` = classes that advertise
                         a prox but are documented approximations (TV norms, denoisers, proximal average) or belong to C08 (wrappers);
  * `expectedDefaults` : default arguments; `dflt` looks one up — the driver serves them (`op defaults`) and the harness uses THESE values for the
                         default-constructor stream, for the band `eps` of `depCubicRoot` and for the `tol` / `maxiter` of the CG stream;
  * `expectedDispatch` : constructor guards and `isinstance` dispatch of the losses — what `wGuard`, `sqL2LossGuard`, `absLossGuard` model
                         (order: `W` type, `W` sign, then `has_prox`; `SquaredL2Loss.prox`: not linear → NotImplementedError, `Diagonal` → closed form, else CG);
  * `expectedBases`    : `Identity < ScaledIdentity < Diagonal`, so `AArg.identity` / `AArg.none` take the `Diagonal` branch.
-/
import Scico.Model.Prox

namespace Scico.ProxTables

def anchoredFiles : List String := ["_norm.py", "_indicator.py", "_dist.py", "loss.py"]

/-- (file, class, bases, class-level has_eval, class-level has_prox) of the anchored files and `ZeroFunctional` -/
def expectedFlags : List (String × String × String × String × String) := [
  ("_norm.py", "L0Norm", "Functional", "True", "True"),
  ("_norm.py", "L1Norm", "Functional", "True", "True"),
  ("_norm.py", "SquaredL2Norm", "Functional", "True", "True"),
  ("_norm.py", "L2Norm", "Functional", "True", "True"),
  ("_norm.py", "L21Norm", "Functional", "True", "True"),
  ("_norm.py", "L1MinusL2Norm", "Functional", "True", "True"),
  ("_norm.py", "HuberNorm", "Functional", "True", "True"),
  ("_norm.py", "NuclearNorm", "Functional", "True", "True"),
  ("_indicator.py", "NonNegativeIndicator", "Functional", "True", "True"),
  ("_indicator.py", "L2BallIndicator", "Functional", "True", "True"),
  ("_dist.py", "SetDistance", "Functional", "True", "True"),
  ("_dist.py", "SquaredSetDistance", "Functional", "True", "True"),
  ("_functional.py", "ZeroFunctional", "Functional", "True", "True"),
  ("loss.py", "Loss", "functional.Functional", "unset", "unset"),
  ("loss.py", "SquaredL2Loss", "Loss", "unset", "unset"),
  ("loss.py", "PoissonLoss", "Loss", "unset", "unset"),
  ("loss.py", "SquaredL2AbsLoss", "Loss", "unset", "unset"),
  ("loss.py", "SquaredL2SquaredAbsLoss", "Loss", "unset", "unset")]

/-- classes whose prox is modelled and proved in `Props/C02.lean` -/
def covered : List String :=
  ["L0Norm", "L1Norm", "SquaredL2Norm", "L2Norm", "L21Norm", "L1MinusL2Norm", "HuberNorm", "NuclearNorm", "NonNegativeIndicator",
   "L2BallIndicator", "SetDistance", "SquaredSetDistance", "ZeroFunctional"]

/-- classes that advertise `has_prox = True` at class level but are excluded by the property (documented approximations / pseudo-functionals) -/
def excluded : List String := ["TVNorm", "BM3D", "BM4D", "DnCNN"]

def isAnchored (r : String × String × String × String × String) : Bool := anchoredFiles.contains r.1 || r.2.1 == "ZeroFunctional"

/-- the anchored rows are exactly the expected ones, and every class-level `has_prox = True` anywhere is covered or excluded -/
def checkFlags (gen : List (String × String × String × String × String)) : Bool :=
  (gen.filter isAnchored == expectedFlags) &&
    gen.all (fun r => r.2.2.2.2 != "True" || covered.contains r.2.1 || excluded.contains r.2.1)

/-- callables whose COMPLETE set of defaulted parameters is pinned -/
def relevantCallables : List String := ["L21Norm.__init__", "L1MinusL2Norm.__init__", "HuberNorm.__init__", "L2BallIndicator.__init__", "SetDistance.__init__", "SquaredSetDistance.__init__", "Loss.__init__", "SquaredL2Loss.__init__", "SquaredL2AbsLoss.__init__", "SquaredL2SquaredAbsLoss.__init__", "PoissonLoss.__init__", "SquaredL2Loss.default_prox_kwargs", "_dep_cubic_root", "solver.cg", "L0Norm.prox", "L1Norm.prox", "SquaredL2Norm.prox", "L2Norm.prox", "L21Norm.prox", "L1MinusL2Norm.prox", "HuberNorm.prox", "NuclearNorm.prox", "NonNegativeIndicator.prox", "L2BallIndicator.prox", "SetDistance.prox", "SquaredSetDistance.prox", "ZeroFunctional.prox", "Loss.prox", "SquaredL2Loss.prox", "SquaredL2AbsLoss.prox", "SquaredL2SquaredAbsLoss.prox"]

/-- (callable, parameter, default as written) -/
def expectedDefaults : List (String × String × String) := [
  ("L0Norm.prox", "lam", "1.0"),
  ("L1Norm.prox", "lam", "1.0"),
  ("SquaredL2Norm.prox", "lam", "1.0"),
  ("L2Norm.prox", "lam", "1.0"),
  ("L21Norm.__init__", "l2_axis", "0"),
  ("L21Norm.prox", "lam", "1.0"),
  ("L1MinusL2Norm.__init__", "beta", "1.0"),
  ("L1MinusL2Norm.prox", "lam", "1.0"),
  ("HuberNorm.__init__", "delta", "1.0"),
  ("HuberNorm.__init__", "separable", "True"),
  ("HuberNorm.prox", "lam", "1.0"),
  ("NuclearNorm.prox", "lam", "1.0"),
  ("NonNegativeIndicator.prox", "lam", "1.0"),
  ("L2BallIndicator.__init__", "radius", "1"),
  ("L2BallIndicator.prox", "lam", "1.0"),
  ("SetDistance.__init__", "args", "()"),
  ("SetDistance.prox", "lam", "1.0"),
  ("SquaredSetDistance.__init__", "args", "()"),
  ("SquaredSetDistance.prox", "lam", "1.0"),
  ("ZeroFunctional.prox", "lam", "1.0"),
  ("Loss.__init__", "A", "None"),
  ("Loss.__init__", "f", "None"),
  ("Loss.__init__", "scale", "1.0"),
  ("Loss.prox", "lam", "1"),
  ("SquaredL2Loss.__init__", "A", "None"),
  ("SquaredL2Loss.__init__", "scale", "0.5"),
  ("SquaredL2Loss.__init__", "W", "None"),
  ("SquaredL2Loss.__init__", "prox_kwargs", "None"),
  ("SquaredL2Loss.prox", "lam", "1.0"),
  ("PoissonLoss.__init__", "A", "None"),
  ("PoissonLoss.__init__", "scale", "0.5"),
  ("SquaredL2AbsLoss.__init__", "A", "None"),
  ("SquaredL2AbsLoss.__init__", "scale", "0.5"),
  ("SquaredL2AbsLoss.__init__", "W", "None"),
  ("SquaredL2AbsLoss.prox", "lam", "1.0"),
  ("SquaredL2SquaredAbsLoss.__init__", "A", "None"),
  ("SquaredL2SquaredAbsLoss.__init__", "scale", "0.5"),
  ("SquaredL2SquaredAbsLoss.__init__", "W", "None"),
  ("SquaredL2SquaredAbsLoss.prox", "lam", "1.0"),
  ("_dep_cubic_root", "band LtE", "1e-07"),
  ("SquaredL2Loss.default_prox_kwargs", "maxiter", "100"),
  ("SquaredL2Loss.default_prox_kwargs", "tol", "1e-05"),
  ("solver.cg", "x0", "None"),
  ("solver.cg", "tol", "1e-05"),
  ("solver.cg", "atol", "0.0"),
  ("solver.cg", "maxiter", "1000"),
  ("solver.cg", "info", "True"),
  ("solver.cg", "M", "None")]

def checkDefaults (gen : List (String × String × String)) : Bool :=
  expectedDefaults.all (fun r => gen.contains r) && gen.all (fun r => !relevantCallables.contains r.1 || expectedDefaults.contains r)

/-- default of `param` of `callable` as written in the source ("" if not recorded) -/
def dflt (callable param : String) : String :=
  match expectedDefaults.find? (fun r => r.1 == callable && r.2.1 == param) with
  | some r => r.2.2
  | none => ""

def expectedDispatch : List (String × String × List String) := [
  ("Loss", "__init__", ["if A is None", "if self.f is not None", "self.has_eval = bool(self.f.has_eval)", "else", "self.has_eval = type(self).__call__ is not Loss.__call__", "if self.f is not None and self.f.has_prox and isinstance(self.A, linop.Identity)", "self.has_prox = True", "else", "self.has_prox = False"]),
  ("Loss", "prox", ["if not self.has_prox", "raise NotImplementedError", "assert self.f is not None"]),
  ("Loss", "__call__", ["if self.f is None", "raise NotImplementedError"]),
  ("SquaredL2Loss", "__init__", ["if W is None", "if isinstance(W, linop.Diagonal)", "if snp.all(W.diagonal >= 0)", "else", "raise ValueError", "else", "raise TypeError", "if prox_kwargs", "if isinstance(self.A, linop.LinearOperator)", "self.has_prox = True"]),
  ("SquaredL2Loss", "prox", ["if not isinstance(self.A, linop.LinearOperator)", "raise NotImplementedError", "if isinstance(self.A, linop.Diagonal)", "if 'x0' in kwargs and kwargs['x0'] is not None", "else"]),
  ("SquaredL2Loss", "__call__", []),
  ("PoissonLoss", "__init__", []),
  ("PoissonLoss", "__call__", []),
  ("SquaredL2AbsLoss", "__init__", ["if W is None", "if isinstance(W, linop.Diagonal)", "if snp.all(W.diagonal >= 0)", "else", "raise ValueError", "else", "raise TypeError", "if isinstance(self.A, linop.Identity) and snp.all(y >= 0)", "self.has_prox = True"]),
  ("SquaredL2AbsLoss", "prox", ["if not self.has_prox", "raise NotImplementedError"]),
  ("SquaredL2AbsLoss", "__call__", []),
  ("SquaredL2SquaredAbsLoss", "__init__", ["if W is None", "if isinstance(W, linop.Diagonal)", "if snp.all(W.diagonal >= 0)", "else", "raise ValueError", "else", "raise TypeError", "if isinstance(self.A, linop.Identity) and snp.all(y >= 0)", "self.has_prox = True"]),
  ("SquaredL2SquaredAbsLoss", "prox", ["if not self.has_prox", "raise NotImplementedError"]),
  ("SquaredL2SquaredAbsLoss", "__call__", [])]

def checkDispatch (gen : List (String × String × List String)) : Bool := gen == expectedDispatch

def expectedBases : List (String × String) := [
  ("Diagonal", "LinearOperator"),
  ("ScaledIdentity", "Diagonal"),
  ("Identity", "ScaledIdentity")]

def checkBases (gen : List (String × String)) : Bool := gen == expectedBases

/-- transcribed helpers: `numpy/util.py::no_nan_divide` — the model `Scico.Prox.noNanDiv` (`if isZero y then 0 else x / y`) transcribes exactly this
    body: the denominator is tested for EXACT zero, nothing "small" is treated as zero -/
def expectedHelpers : List (String × String) := [
  ("no_nan_divide", "return snp.where(y != 0, snp.divide(x, snp.where(y != 0, y, 1)), 0)")]

def checkHelpers (gen : List (String × String)) : Bool := gen == expectedHelpers

-- the values the model side relies on, pinned (a change of the expected table without following it here does not compile)
example : dflt "_dep_cubic_root" "band LtE" = "1e-07" := by decide
example : dflt "SquaredL2Loss.default_prox_kwargs" "tol" = "1e-05" ∧ dflt "SquaredL2Loss.default_prox_kwargs" "maxiter" = "100" := by decide
example : dflt "HuberNorm.__init__" "delta" = "1.0" ∧ dflt "HuberNorm.__init__" "separable" = "True" := by decide
example : dflt "L2BallIndicator.__init__" "radius" = "1" ∧ dflt "L1MinusL2Norm.__init__" "beta" = "1.0" ∧ dflt "L21Norm.__init__" "l2_axis" = "0" := by decide
example : dflt "Loss.__init__" "scale" = "1.0" ∧ dflt "SquaredL2Loss.__init__" "scale" = "0.5" := by decide

end Scico.ProxTables
