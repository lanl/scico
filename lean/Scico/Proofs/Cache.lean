/-
  Invariants of the state machines of `Scico.Model.Cache` §1–§4 (property C19): operator cache, slots filled while
  tracing, loss heap, helper attachments, random generators; with the few specification-side definitions they are
  stated through (`Heap.rescale`: what `*` and `/` have in common; `adv`, `chainCalls`: successive generator calls
  threading the key).
-/
import Scico.Model.Cache
import Mathlib.Data.List.Nodup
import Mathlib.Logic.Function.Iterate

namespace Scico.Cache

theorem getElem?_concat_eq_some {β : Type} {l : List β} {x y : β} {i : Nat} :
    (l ++ [x])[i]? = some y ↔ l[i]? = some y ∨ (i = l.length ∧ y = x) := by
  rcases Nat.lt_trichotomy i l.length with h | rfl | h
  · rw [List.getElem?_append_left h]
    exact ⟨Or.inl, fun h' => h'.resolve_right fun e => Nat.ne_of_lt h e.1⟩
  · simp [eq_comm]
  · rw [List.getElem?_eq_none (by simp; omega), List.getElem?_eq_none (Nat.le_of_lt h)]
    exact ⟨nofun, fun h' => h'.elim nofun fun e => absurd e.1 (Nat.ne_of_gt h)⟩

section slot
variable {ι κ ω : Type} [DecidableEq κ] (opKey : ω → κ) (keyOf : ι → κ) (build : ι → ω)

def FromBuilder (slot : Option ω) : Prop := ∀ w, slot = some w → ∃ j, w = build j

theorem fromBuilder_none : FromBuilder build none := fun _ h => nomatch h

theorem fromBuilder_some (i : ι) : FromBuilder build (some (build i)) := fun _ h => ⟨i, (Option.some.inj h).symm⟩

theorem query_eq (hF : ∀ i j, keyOf i = keyOf j → build i = build j) (hK : ∀ i, opKey (build i) = keyOf i)
    (slot : Option ω) (hslot : FromBuilder build slot) (i : ι) :
    query opKey keyOf build slot i = (some (build i), build i) := by
  cases slot with
  | none => rfl
  | some w =>
    obtain ⟨j, rfl⟩ := hslot w rfl
    simp only [query]
    split_ifs with h
    · rw [hF j i (hK j ▸ h)]
    · rfl

theorem query_stale (hK : ∀ i, opKey (build i) = keyOf i) (i j : ι) (hk : keyOf i = keyOf j) :
    (query opKey keyOf build (query opKey keyOf build none i).1 j).2 = build i := by
  simp [query, hK, hk]

/-- what is in the slot was built by `build`, in a context out of `allowed` (the contexts a cached operator may come from) -/
def SlotOk (allowed : ExecCtx → Prop) (slot : Option (Built ω)) : Prop :=
  ∀ b, slot = some b → (∃ j, b.op = build j) ∧ allowed b.madeIn

theorem slotOk_built (allowed : ExecCtx → Prop) (i : ι) (m : ExecCtx) (hm : allowed m) :
    SlotOk build allowed (some ⟨build i, m⟩) := by
  rintro _ ⟨⟩; exact ⟨⟨i, rfl⟩, hm⟩

/-- context `c` can use whatever was created in an allowed context, and what it creates there is allowed again -/
def Serves (concrete : Bool) (allowed : ExecCtx → Prop) (c : ExecCtx) : Prop :=
  (∀ m, allowed m → usable m c = true) ∧ allowed (if concrete then ExecCtx.eager else c)

theorem serves_eager (c : ExecCtx) : Serves true (· = ExecCtx.eager) c :=
  ⟨fun m hm => by rw [hm]; rfl, rfl⟩

theorem serves_self (c : ExecCtx) : Serves false (· = c) c :=
  ⟨fun m hm => by rw [hm]; simp [usable], rfl⟩

theorem usable_trace_ne (t : Nat) (c : ExecCtx) (hct : c ≠ .trace t) : usable (.trace t) c = false := by
  cases c with
  | eager => rfl
  | trace t' => exact decide_eq_false fun h => hct h.symm

variable (concrete : Bool) (allowed : ExecCtx → Prop)
  (hF : ∀ i j, keyOf i = keyOf j → build i = build j) (hK : ∀ i, opKey (build i) = keyOf i)
include hF hK

theorem queryCtx_ok (c : ExecCtx) (hc : Serves concrete allowed c)
    (slot : Option (Built ω)) (hs : SlotOk build allowed slot) (i : ι) :
    (queryCtx concrete opKey keyOf build slot c i).2 = .ok (build i) ∧
      SlotOk build allowed (queryCtx concrete opKey keyOf build slot c i).1 := by
  have hfresh := slotOk_built build allowed i _ hc.2
  cases slot with
  | none => exact ⟨rfl, hfresh⟩
  | some b =>
    obtain ⟨⟨j, hj⟩, hal⟩ := hs b rfl
    by_cases h : opKey b.op = keyOf i
    · have hb : b.op = build i := hj.trans (hF j i (by rw [← hK j, ← hj]; exact h))
      simp only [queryCtx, h, if_true, hc.1 _ hal]
      exact ⟨congrArg _ hb, hs⟩
    · simp only [queryCtx, h, if_false]
      exact ⟨trivial, hfresh⟩

theorem runCtx_ok (h : List (ExecCtx × ι)) (hstep : ∀ p ∈ h, Serves concrete allowed p.1) :
    ∀ slot, SlotOk build allowed slot → SlotOk build allowed (runCtx concrete opKey keyOf build slot h) := by
  induction h with
  | nil => exact fun _ hs => hs
  | cons p ps ih =>
    intro slot hs
    exact ih (fun q hq => hstep q (List.mem_cons_of_mem _ hq)) _
      (queryCtx_ok opKey keyOf build concrete allowed hF hK p.1 (hstep p List.mem_cons_self) slot hs p.2).2

theorem queryCtx_run (hist : List (ExecCtx × ι)) (hstep : ∀ p ∈ hist, Serves concrete allowed p.1)
    (c : ExecCtx) (hc : Serves concrete allowed c) (i : ι) :
    (queryCtx concrete opKey keyOf build (runCtx concrete opKey keyOf build none hist) c i).2 = .ok (build i) :=
  (queryCtx_ok opKey keyOf build concrete allowed hF hK c hc _
    (runCtx_ok opKey keyOf build concrete allowed hF hK hist hstep none (fun _ hb => nomatch hb)) i).1

end slot

section tv
variable {ι κ ωG ωP : Type} [DecidableEq κ] (S : TVSpec ι κ ωG ωP)

def TV.Good (s : TV ωG ωP) : Prop := FromBuilder S.buildG s.G ∧ FromBuilder S.buildP s.P

omit [DecidableEq κ] in
theorem TV.init_good (pre : Option ι) : TV.Good S (TV.init S pre) := by
  cases pre with
  | none => exact ⟨fromBuilder_none _, fromBuilder_none _⟩
  | some i => exact ⟨fromBuilder_some _ i, fromBuilder_some _ i⟩

/-- the cached operator carries the key it was built for (`gKey`, `pKey`), and the builders depend on their input only through
    the key the code compares (`gFun`, `pFun`): where the second fails, a hit returns an operator built for another input -/
structure TVSpec.Sound : Prop where
  gKey : ∀ i, S.gKey (S.buildG i) = S.keyOf i
  pKey : ∀ i, S.pKey (S.buildP i) = S.keyOf i
  gFun : ∀ i j, S.keyOf i = S.keyOf j → S.buildG i = S.buildG j
  pFun : ∀ i j, S.keyOf i = S.keyOf j → S.buildP i = S.buildP j

theorem TV.step_good (hS : S.Sound) (s : TV ωG ωP) (hs : TV.Good S s) (o : TVOp ι) :
    (TV.step S s o).2 = TV.fresh S o ∧ TV.Good S (TV.step S s o).1 := by
  cases o with
  | call i =>
    simp only [TV.step, query_eq S.gKey S.keyOf S.buildG hS.gFun hS.gKey s.G hs.1 i]
    exact ⟨rfl, fromBuilder_some _ i, hs.2⟩
  | prox i =>
    simp only [TV.step, query_eq S.pKey S.keyOf S.buildP hS.pFun hS.pKey s.P hs.2 i]
    exact ⟨rfl, hs.1, fromBuilder_some _ i⟩

theorem TV.run_good (hS : S.Sound) (h : List (TVOp ι)) : ∀ s, TV.Good S s → TV.Good S (TV.run S s h) := by
  induction h with
  | nil => exact fun _ hs => hs
  | cons o os ih => exact fun s hs => ih _ (TV.step_good S hS s hs o).2

theorem TV.call_stale (hG : ∀ i, S.gKey (S.buildG i) = S.keyOf i) (i j : ι) (hk : S.keyOf i = S.keyOf j) :
    (TV.step S (TV.run S (TV.init S none) [.call i]) (.call j)).2 = .inl (S.buildG i) :=
  congrArg Sum.inl (query_stale S.gKey S.keyOf S.buildG hG i j hk)

theorem TV.prox_stale (hP : ∀ i, S.pKey (S.buildP i) = S.keyOf i) (i j : ι) (hk : S.keyOf i = S.keyOf j) :
    (TV.step S (TV.run S (TV.init S none) [.prox i]) (.prox j)).2 = .inr (S.buildP i) :=
  congrArg Sum.inr (query_stale S.pKey S.keyOf S.buildP hP i j hk)

end tv

section heap
variable {α : Type}

/-- `Loss.__mul__` and `Loss.__truediv__` alike: a copy of object `i`, bound to itself, with scale `f` of the old one;
    `h.mul i c` and `h.div i c` unfold to `h.rescale i (· * c)` and `h.rescale i (· / c)`.  (The same three operations on losses are
    modelled once more for C07, `Scico.Autograd.Heap` with invariant `Heap.SelfBound`: there for the value of the gradient.) -/
def Heap.rescale (h : Heap α) (i : Nat) (f : α → α) : Heap α :=
  match h[i]? with
  | none => h
  | some o => h.new (f o.scale)

theorem Heap.rescale_eq (h : Heap α) (i : Nat) (f : α → α) (o : LossObj α) (ho : h[i]? = some o) :
    h.rescale i f = h.new (f o.scale) := by
  rw [Heap.rescale, ho]

theorem Heap.mul_eq [Mul α] (h : Heap α) (i : Nat) (c : α) (o : LossObj α) (ho : h[i]? = some o) :
    h.mul i c = h.new (o.scale * c) :=
  Heap.rescale_eq h i (· * c) o ho

theorem Heap.div_eq [Div α] (h : Heap α) (i : Nat) (c : α) (o : LossObj α) (ho : h[i]? = some o) :
    h.div i c = h.new (o.scale / c) :=
  Heap.rescale_eq h i (· / c) o ho

/-- every object's gradient closure is bound to the object itself (reducible, so that `hw i o ho` applies where a
    `Heap.WF` is at hand) -/
@[reducible] def Heap.WF (h : Heap α) : Prop := ∀ (i : Nat) (o : LossObj α), h[i]? = some o → o.gradOf = i

theorem Heap.wf_nil : Heap.WF ([] : Heap α) := fun _ _ h => nomatch h

theorem Heap.wf_new (h : Heap α) (hw : h.WF) (s : α) : (h.new s).WF := by
  intro i o hi
  rcases getElem?_concat_eq_some.mp hi with h' | ⟨rfl, rfl⟩
  exacts [hw i o h', rfl]

theorem Heap.wf_setScale (h : Heap α) (hw : h.WF) (i : Nat) (s : α) : (h.setScale i s).WF := by
  intro j o hj
  rw [Heap.setScale, List.getElem?_modify] at hj
  obtain ⟨o', ho', rfl⟩ := Option.map_eq_some_iff.mp hj
  rw [← hw j o' ho']
  split <;> rfl

theorem Heap.wf_rescale (h : Heap α) (hw : h.WF) (i : Nat) (f : α → α) : (h.rescale i f).WF := by
  unfold Heap.rescale; split
  exacts [hw, Heap.wf_new h hw _]

theorem Heap.wf_apply [Mul α] [Div α] (h : Heap α) (hw : h.WF) (o : LossOp α) : (h.apply o).WF := by
  cases o with
  | new s => exact Heap.wf_new h hw s
  | mul i c => exact Heap.wf_rescale h hw i (· * c)
  | div i c => exact Heap.wf_rescale h hw i (· / c)
  | setScale i s => exact Heap.wf_setScale h hw i s

theorem Heap.wf_run [Mul α] [Div α] (ops : List (LossOp α)) : ∀ h : Heap α, h.WF → (h.run ops).WF := by
  induction ops with
  | nil => exact fun _ hw => hw
  | cons o os ih => exact fun h hw => ih _ (Heap.wf_apply h hw o)

theorem Heap.grad_eq_own [Mul α] (h : Heap α) (hw : h.WF) (i : Nat) (g : α) :
    h.grad i g = (h[i]?).map (fun o => o.scale * g) := by
  unfold Heap.grad
  cases ho : h[i]? with
  | none => rfl
  | some o => simp only [hw i o ho, ho, Option.map_some]

theorem Heap.new_no_alias [Mul α] (h : Heap α) (hw : h.WF) (s b g : α) :
    (∀ j, j < h.length → (h.new s)[j]? = h[j]? ∧ (h.new s).value j b = h.value j b ∧
        (h.new s).grad j g = h.grad j g) ∧
      (h.new s)[h.length]? = some ⟨s, h.length⟩ ∧
      (h.new s).value h.length b = some (s * b) ∧
      (h.new s).grad h.length g = some (s * g) ∧
      (h.new s).WF := by
  have hw' := Heap.wf_new h hw s
  have hnew : (h.new s)[h.length]? = some ⟨s, h.length⟩ := List.getElem?_concat_length
  refine ⟨?_, hnew, ?_, ?_, hw'⟩
  · intro j hj
    have hold : (h.new s)[j]? = h[j]? := List.getElem?_append_left hj
    refine ⟨hold, by rw [Heap.value, hold]; rfl, ?_⟩
    rw [Heap.grad_eq_own _ hw', Heap.grad_eq_own _ hw, hold]
  · rw [Heap.value, hnew]; rfl
  · rw [Heap.grad_eq_own _ hw', hnew]; rfl

theorem Heap.scales_new (h : Heap α) (s : α) : (h.new s).map (·.scale) = h.map (·.scale) ++ [s] := by
  simp [Heap.new]

theorem Heap.scales_rescale (h : Heap α) (i : Nat) (f : α → α) :
    (h.rescale i f).map (·.scale) =
      match (h.map (·.scale))[i]? with | none => h.map (·.scale) | some s => h.map (·.scale) ++ [f s] := by
  rw [List.getElem?_map]; unfold Heap.rescale
  cases h[i]? with
  | none => rfl
  | some o => exact Heap.scales_new h _

theorem Heap.scales_setScale (h : Heap α) (i : Nat) (s : α) :
    (h.setScale i s).map (·.scale) = (h.map (·.scale)).modify i (fun _ => s) := by
  apply List.ext_getElem?
  intro j
  simp only [Heap.setScale, List.getElem?_map, List.getElem?_modify]
  cases h[j]? <;> by_cases hij : i = j <;> simp [hij]

theorem Heap.scales_run [Mul α] [Div α] (ops : List (LossOp α)) :
    ∀ h : Heap α, (h.run ops).map (·.scale) = specScales (h.map (·.scale)) ops := by
  induction ops with
  | nil => exact fun _ => rfl
  | cons o os ih =>
    intro h
    refine (ih _).trans ?_
    cases o with
    | new s => exact congrArg (specScales · os) (Heap.scales_new h s)
    | mul i c => exact congrArg (specScales · os) (Heap.scales_rescale h i (· * c))
    | div i c => exact congrArg (specScales · os) (Heap.scales_rescale h i (· / c))
    | setScale i s => exact congrArg (specScales · os) (Heap.scales_setScale h i s)

theorem Heap.grad_run [Mul α] [Div α] (ops : List (LossOp α)) (h : Heap α) (hw : h.WF) (j : Nat) (g : α) :
    (h.run ops).grad j g = ((specScales (h.map (·.scale)) ops)[j]?).map (· * g) := by
  rw [Heap.grad_eq_own _ (Heap.wf_run ops h hw), ← Heap.scales_run, List.getElem?_map]
  cases (h.run ops)[j]? <;> rfl

end heap

/-- optimiser `b` is the last one in the list of constructions `ss` that was given helper `t` -/
def IsLast (ss : List Nat) (t b : Nat) : Prop := ss[b]? = some t ∧ ∀ c, b < c → ss[c]? ≠ some t

theorem isLast_concat_self (ss : List Nat) (s : Nat) : IsLast (ss ++ [s]) s ss.length :=
  ⟨List.getElem?_concat_length, fun c hc => by rw [List.getElem?_eq_none (by simp; omega)]; simp⟩

theorem isLast_concat_of_ne (ss : List Nat) {s t b : Nat} (hts : t ≠ s) (h : IsLast ss t b) : IsLast (ss ++ [s]) t b :=
  ⟨getElem?_concat_eq_some.mpr (.inl h.1), fun c hc e =>
    (getElem?_concat_eq_some.mp e).elim (h.2 c hc) fun h' => hts h'.2⟩

def World.Inv (w : World) : Prop := ∀ t ∈ w.helperOf, ∃ b, w.backref t = some b ∧ IsLast w.helperOf t b

theorem World.inv_construct (w : World) (hw : w.Inv) (s : Nat) : (w.construct s).Inv := by
  intro t ht
  by_cases hts : t = s
  · exact ⟨w.helperOf.length, if_pos hts, hts ▸ isLast_concat_self _ _⟩
  · obtain ⟨b, hb, hl⟩ := hw t ((List.mem_append.mp ht).resolve_right (by simpa using hts))
    exact ⟨b, (if_neg hts).trans hb, isLast_concat_of_ne _ hts hl⟩

theorem World.inv_run (ss : List Nat) : ∀ w : World, w.Inv → (w.run ss).Inv := by
  induction ss with
  | nil => exact fun _ hw => hw
  | cons s ss ih => exact fun w hw => ih _ (w.inv_construct hw s)

theorem World.helperOf_run (ss : List Nat) : ∀ w : World, (w.run ss).helperOf = w.helperOf ++ ss := by
  induction ss with
  | nil => exact fun w => (List.append_nil _).symm
  | cons s ss ih => exact fun w => (ih _).trans (List.append_cons ..).symm

theorem World.readsFrom_eq_backref (w : World) {a s : Nat} (ha : w.helperOf[a]? = some s) :
    w.readsFrom a = w.backref s := by
  rw [World.readsFrom, ha]

theorem World.Inv.reads {w : World} (hw : w.Inv) {a s : Nat} (ha : w.helperOf[a]? = some s) :
    ∃ b, w.readsFrom a = some b ∧ IsLast w.helperOf s b ∧ a ≤ b := by
  obtain ⟨b, hb, hl⟩ := hw s (List.mem_of_getElem? ha)
  exact ⟨b, (w.readsFrom_eq_backref ha).trans hb, hl, Nat.le_of_not_lt fun hlt => hl.2 a hlt ha⟩

theorem World.Inv.nodup_iff {w : World} (hw : w.Inv) :
    w.helperOf.Nodup ↔ ∀ a, a < w.helperOf.length → w.readsFrom a = some a := by
  constructor
  · intro hnd a ha
    have hs : w.helperOf[a]? = some w.helperOf[a] := List.getElem?_eq_getElem ha
    obtain ⟨b, hb, hl, -⟩ := hw.reads hs
    rw [hb, (List.getElem?_inj ha hnd).mp (hs.trans hl.1.symm)]
  · intro h  -- needs no invariant: optimisers holding the same helper read the same state
    rw [List.nodup_iff_getElem?_ne_getElem?]
    intro a b hab hb e
    have hr : w.readsFrom a = w.readsFrom b := by rw [World.readsFrom, World.readsFrom, e]
    rw [h a (Nat.lt_trans hab hb), h b hb] at hr
    exact Nat.ne_of_lt hab (Option.some.inj hr)

/-- the key a wrapped call hands back for the next call: `split(key)[0]` -/
def adv {κ ρ σ : Type} (R : RngOps κ ρ σ) (k : κ) : κ := (R.split k).1

theorem rngCall_kw {κ ρ σ τ : Type} (R : RngOps κ ρ σ) (numParams : Nat) (hnp : 0 < numParams)
    (kwKey : Option κ) (kwSeed : Option Int) (d : κ → τ) :
    rngCall R numParams 0 none none kwKey kwSeed d =
      match kwKey, kwSeed with
      | some _, some _ => .error .value
      | some k, none => .ok (d k, adv R k)
      | none, seed => .ok (d (R.prngKey (seed.getD 0)), adv R (R.prngKey (seed.getD 0))) := by
  have h0 : ¬ (0 ≥ numParams) := Nat.not_le.mpr hnp
  have h1 : ¬ (0 > numParams) := Nat.not_lt_zero _
  simp only [rngCall, h0, h1, if_false]
  rcases kwKey with _ | k <;> rcases kwSeed with _ | s <;> rfl

/-- `n` successive calls, each given the key returned by the previous one -/
def chainCalls {κ ρ σ : Type} (R : RngOps κ ρ σ) (numParams : Nat) (shape : σ ⊕ List σ) :
    Nat → κ → Except Err (List (ρ ⊕ List ρ) × κ)
  | 0, k => .ok ([], k)
  | n + 1, k =>
    match rngCall R numParams 0 none none (some k) none (drawShape R shape) with
    | .error e => .error e
    | .ok (r, k') =>
      match chainCalls R numParams shape n k' with
      | .error e => .error e
      | .ok (rs, kf) => .ok (r :: rs, kf)

end Scico.Cache
