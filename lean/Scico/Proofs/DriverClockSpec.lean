/-
  C15, interval timer over an ARBITRARY clock type `τ`: the history-based ideal stop-watch.
  Same shape as `DriverSpec.lean` (which counts integer ticks); here time is measured by adding up
  the lengths of the gaps between consecutive events of a label during which the watch runs.
  Mathlib-free, executable.  No `t0`/`td`/dictionary appears in it.
-/
import Scico.Proofs.DriverSpec

namespace Scico.Driver.Clock
open Scico.Driver.Spec (Cfg)

section
variable {L τ : Type} [DecidableEq L]

/-- a label exists after the calls `pre` iff it was given to the constructor or named by a `start` -/
def known (c : Cfg L) (pre : List (Call L τ)) (l : L) : Bool :=
  c.initLabels.contains l ||
    pre.any (fun k => k.op == .start && (c.startLabels k.arg).contains l)

/-- does the call deliver an event to label `l`?  (as `Spec.reaches`) -/
def reaches (c : Cfg L) (pre : List (Call L τ)) (k : Call L τ) (l : L) : Bool :=
  match k.op with
  | .start => (c.startLabels k.arg).contains l
  | _ =>
    match c.explicitTargets k.arg with
    | none => known c pre l
    | some ls => (ls.takeWhile (known c pre)).contains l

def raisesKey (c : Cfg L) (pre : List (Call L τ)) (k : Call L τ) : Bool :=
  match k.op with
  | .start => false
  | _ =>
    match c.explicitTargets k.arg with
    | none => false
    | some ls => !(ls.all (known c pre))

def labelHistoryFrom (c : Cfg L) (l : L) : List (Call L τ) → List (Call L τ) → List (τ × Op)
  | _, [] => []
  | pre, k :: rest =>
    (if reaches c pre k l then [(k.time, k.op)] else []) ++ labelHistoryFrom c l (pre ++ [k]) rest

def labelHistory (c : Cfg L) (h : List (Call L τ)) (l : L) : List (τ × Op) :=
  labelHistoryFrom c l [] h

end

section
variable {τ : Type} [Add τ] [Sub τ] [Zero τ]

/-- the events after the most recent `reset` (all of them if there is none) -/
def sinceReset : List (τ × Op) → List (τ × Op)
  | [] => []
  | e :: es =>
    if es.any (fun x => x.2 == .reset) then sinceReset es
    else if e.2 == .reset then es else e :: es

/-- time shown by an ideal stop-watch that has received the events `es` (no reset among them)
    when the clock shows `now`: the sum of the lengths of the gaps — between consecutive events,
    and from the last event to `now` — that begin with a `start` -/
def gapSum : List (τ × Op) → τ → τ
  | [], _ => 0
  | [e], now => if e.2 == .start then now - e.1 else 0
  | e :: e' :: es, now => (if e.2 == .start then e'.1 - e.1 else 0) + gapSum (e' :: es) now

/-- `elapsed(total=True)` of the ideal stop-watch -/
def specTotal (es : List (τ × Op)) (now : τ) : τ := gapSum (sinceReset es) now

/-- the maximal trailing run of `start` events -/
def trailingStarts (es : List (τ × Op)) : List (τ × Op) :=
  (es.reverse.takeWhile (fun e => e.2 == .start)).reverse

/-- `elapsed(total=False)`: time since the first `start` of the trailing run of `start`s -/
def specCurrent (es : List (τ × Op)) (now : τ) : τ :=
  match (trailingStarts es).head? with
  | some e => now - e.1
  | none => 0

variable {L : Type} [DecidableEq L]

/-- what `elapsed(label, total)` must return at clock value `now` after the calls `h` -/
def specElapsed (c : Cfg L) (h : List (Call L τ)) (label : Option L) (total : Bool) (now : τ) : Option τ :=
  let l := label.getD c.dflt
  if known c h l then
    some (if total then specTotal (labelHistory c h l) now else specCurrent (labelHistory c h l) now)
  else if label.isNone then some 0
  else none

end

/-- clock values along a history never decrease and none is after `now` -/
def Monotone {L τ : Type} [LE τ] (h : List (Call L τ)) (now : τ) : Prop :=
  h.Pairwise (fun a b => a.time ≤ b.time) ∧ ∀ k ∈ h, k.time ≤ now

end Scico.Driver.Clock
