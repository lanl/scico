/-
  The specification side of the block-array model (`Scico.Model.Block`): index-wise predicates,
  written independently of the code-shaped loops, and the characterisation of the model's
  building blocks against them.
-/
import Scico.Model.Block
import Scico.Proofs.Except
import Mathlib.Algebra.BigOperators.Group.List.Basic
import Mathlib.Algebra.Ring.Defs
import Mathlib.Order.MinMax

namespace Scico.Block

variable {α β δ : Type}

/-- `List.Forall₂ R`, said by index (`rel₂_iff_forall₂`): the form the property statements use -/
def Rel₂ {γ γ' : Type} (R : γ → γ' → Prop) (l : List γ) (l' : List γ') : Prop :=
  l'.length = l.length ∧ ∀ (i : Nat) (h1 : i < l.length) (h2 : i < l'.length), R l[i] l'[i]

theorem rel₂_iff_forall₂ {R : β → α → Prop} {l : List β} {l' : List α} :
    Rel₂ R l l' ↔ List.Forall₂ R l l' := by
  simp [List.forall₂_iff_get, Rel₂, eq_comm]

theorem mapE_ok_iff {g : β → Res α} {l : List β} {r : List α} :
    mapE g l = .ok r ↔ List.Forall₂ (fun x y => g x = .ok y) l r := by
  induction l generalizing r with
  | nil => simp [mapE, eq_comm]
  | cons x xs ih =>
    rw [List.forall₂_cons_left_iff, mapE]
    cases hx : g x with
    | error e => simp
    | ok y =>
      cases hxs : mapE g xs with
      | error e => simp [← ih, hxs]
      | ok ys => simp [← ih, hxs, eq_comm]

theorem mapE_rel₂ {g : β → Res α} {l : List β} {r : List α} :
    mapE g l = .ok r ↔ Rel₂ (fun x y => g x = .ok y) l r :=
  mapE_ok_iff.trans rel₂_iff_forall₂.symm

theorem mapE_ok_of_forall {g : β → Res α} {h : β → α} {l : List β}
    (hall : ∀ x ∈ l, g x = .ok (h x)) : mapE g l = .ok (l.map h) :=
  mapE_ok_iff.2 (List.forall₂_map_right_iff.2 (List.forall₂_same.2 hall))

theorem mapE_error_of {g : β → Res α} {e : Err} : ∀ {pre : List β} {x : β} {post : List β},
    (∀ y ∈ pre, ∃ z, g y = .ok z) → g x = .error e → mapE g (pre ++ x :: post) = .error e
  | [], x, post, _, hx => by simp [mapE, hx]
  | p :: pre, x, post, hpre, hx => by
    obtain ⟨z, hz⟩ := hpre p (by simp)
    have := mapE_error_of (g := g) (e := e) (pre := pre) (x := x) (post := post)
      (fun y hy => hpre y (by simp [hy])) hx
    simp [mapE, hz, this]

theorem mapE_error_at {g : β → Res α} {e : Err} {l : List β} {i : Nat} (hi : i < l.length)
    (hpre : ∀ j (hj : j < i), ∃ z, g l[j] = .ok z) (hx : g l[i] = .error e) :
    mapE g l = .error e := by
  rw [← List.take_append_drop i l, ← List.getElem_cons_drop hi]
  refine mapE_error_of (fun y hy => ?_) hx
  obtain ⟨j, hj, rfl⟩ := List.mem_take_iff_getElem.1 hy
  exact hpre j (by omega)

theorem mapE_map {γ : Type} {g : β → Res α} (φ : γ → β) : ∀ (l : List γ), mapE g (l.map φ) = mapE (fun x => g (φ x)) l
  | [] => rfl
  | x :: xs => by simp [mapE, mapE_map φ xs]

def Homog (E : Env α δ) (l : List α) : Prop := ∀ a ∈ l, ∀ b ∈ l, E.dt a = E.dt b

theorem homogeneous_iff [DecidableEq δ] (E : Env α δ) (l : List α) :
    homogeneous E l = true ↔ Homog E l := by
  cases l with
  | nil => simp [homogeneous, Homog]
  | cons a0 rest =>
    simp only [homogeneous, List.all_eq_true, decide_eq_true_eq, Homog]
    exact ⟨fun h a ha b hb => by rw [h a ha, h b hb], fun h a ha => h a ha a0 (by simp)⟩

/-- the class invariant of `BlockArray`: every block is an array, all of one dtype -/
def WF (E : Env α δ) (l : List α) : Prop := (∀ a ∈ l, E.isArr a = true) ∧ Homog E l

theorem WF.of_subset {E : Env α δ} {l l' : List α} (h : WF E l) (hs : ∀ x ∈ l', x ∈ l) : WF E l' :=
  ⟨fun x hx => h.1 x (hs x hx), fun x hx y hy => h.2 x (hs x hx) y (hs y hy)⟩

theorem forall_mem_set {P : α → Prop} {l : List α} {v : α} (hl : ∀ a ∈ l, P a) (hv : P v) (j : Nat) :
    ∀ a ∈ l.set j v, P a :=
  fun a ha => (List.mem_or_eq_of_mem_set ha).elim (hl a) fun e => e ▸ hv

theorem WF.set {E : Env α δ} {l : List α} {v : α} (h : WF E l) (hv : E.isArr v = true)
    (hdt : ∀ a ∈ l, E.dt a = E.dt v) (j : Nat) : WF E (l.set j v) := by
  have key := forall_mem_set (P := fun c => E.isArr c = true ∧ E.dt c = E.dt v)
    (fun a ha => ⟨h.1 a ha, hdt a ha⟩) ⟨hv, rfl⟩ j
  exact ⟨fun a ha => (key a ha).1, fun a ha b hb => by rw [(key a ha).2, (key b hb).2]⟩

theorem wf_map {E : Env α δ} {h : β → α} {xs : List β} (harr : ∀ x ∈ xs, E.isArr (h x) = true)
    (hdt : Homog E (xs.map h)) : WF E (xs.map h) :=
  ⟨fun a ha => by obtain ⟨x, hx, rfl⟩ := List.mem_map.1 ha; exact harr x hx, hdt⟩

theorem coerce_arr (E : Env α δ) {x : α} (h : E.isArr x = true) : coerce E x = .ok x := by
  simp [coerce, h]

theorem coerce_isArr (E : Env α δ) (hAs : ∀ x y, E.asArr x = .ok y → E.isArr y = true) {z y : α}
    (h : coerce E z = .ok y) : E.isArr y = true := by
  unfold coerce at h
  split at h
  · exact Except.ok.inj h ▸ ‹_›
  · exact hAs _ _ h

theorem mkFrom_error_of [DecidableEq δ] (E : Env α δ) {g : β → Res α} {e : Err}
    {pre : List β} {x : β} {post : List β}
    (hpre : ∀ y ∈ pre, ∃ z, g y = .ok z ∧ E.isArr z = true) (hx : g x = .error e) :
    mkFrom E g (pre ++ x :: post) = .error e := by
  unfold mkFrom
  have : mapE (fun x => (g x).bind (coerce E)) (pre ++ x :: post) = .error e :=
    mapE_error_of (fun y hy => by
      obtain ⟨z, hz, ha⟩ := hpre y hy
      exact ⟨z, by simp [hz, Except.bind, coerce_arr E ha]⟩) (by simp [hx, Except.bind])
  simp [this]

section constructor
variable [DecidableEq δ] (E : Env α δ) {g : β → Res α} {h : β → α} {xs : List β} {l self r : List α}

theorem mkFrom_ok_iff : mkFrom E g xs = .ok r ↔
    Rel₂ (fun x y => ∃ z, g x = .ok z ∧ coerce E z = .ok y) xs r ∧ Homog E r := by
  simp only [← bind_eq_ok, ← mapE_rel₂, ← homogeneous_iff, mkFrom]
  cases mapE (fun x => g x >>= coerce E) xs with
  | error e => exact ⟨fun h => (nomatch h), fun h => (nomatch h.1)⟩
  | ok a =>
    show (if _ then _ else _) = _ ↔ _
    by_cases h : homogeneous E a = true
    · rw [if_pos h]
      exact ⟨fun e => by cases e; exact ⟨rfl, h⟩, fun e => e.1⟩
    · rw [if_neg h]
      exact ⟨fun e => (nomatch e), fun e => absurd (Except.ok.inj e.1 ▸ e.2) h⟩

theorem mkFrom_eq_ite (hg : ∀ x ∈ xs, g x = .ok (h x)) (harr : ∀ x ∈ xs, E.isArr (h x) = true) :
    mkFrom E g xs = if homogeneous E (xs.map h) then .ok (xs.map h) else .error .dtype := by
  have : mapE (fun x => (g x).bind (coerce E)) xs = .ok (xs.map h) :=
    mapE_ok_of_forall (fun x hx => by simp [hg x hx, Except.bind, coerce_arr E (harr x hx)])
  simp only [mkFrom, this]

theorem mkFrom_of_arrays (hg : ∀ x ∈ xs, g x = .ok (h x)) (harr : ∀ x ∈ xs, E.isArr (h x) = true)
    (hdt : Homog E (xs.map h)) : mkFrom E g xs = .ok (xs.map h) := by
  rw [mkFrom_eq_ite E hg harr, if_pos ((homogeneous_iff E _).2 hdt)]

/-- blocks of different dtypes are rejected (`ValueError: Heterogeneous dtypes`) -/
theorem mkFrom_hetero (hg : ∀ x ∈ xs, g x = .ok (h x)) (harr : ∀ x ∈ xs, E.isArr (h x) = true)
    (hdt : ¬ Homog E (xs.map h)) : mkFrom E g xs = .error .dtype := by
  rw [mkFrom_eq_ite E hg harr, if_neg (mt (homogeneous_iff E _).1 hdt)]

theorem mkFrom_map {γ : Type} (φ : γ → β) (l : List γ) :
    mkFrom E g (l.map φ) = mkFrom E (fun x => g (φ x)) l := by
  unfold mkFrom
  rw [mapE_map]

/-- results of the constructor are well formed, provided `jnp.array` returns arrays -/
theorem mkFrom_wf (hAs : ∀ x y, E.asArr x = .ok y → E.isArr y = true) (h : mkFrom E g xs = .ok r) : WF E r := by
  obtain ⟨⟨hlen, hget⟩, hh⟩ := (mkFrom_ok_iff E).1 h
  refine ⟨fun a ha => ?_, hh⟩
  obtain ⟨i, hi, rfl⟩ := List.getElem_of_mem ha
  obtain ⟨z, _, hc⟩ := hget i (by omega) hi
  exact coerce_isArr E hAs hc

theorem mkBlock_eq_ite (harr : ∀ a ∈ l, E.isArr a = true) :
    mkBlock E l = if homogeneous E l then .ok l else .error .dtype := by
  simpa [mkBlock] using mkFrom_eq_ite E (g := Except.ok) (h := id) (xs := l) (fun _ _ => rfl) harr

theorem mkBlock_wf (h : WF E l) : mkBlock E l = .ok l := by
  rw [mkBlock_eq_ite E h.1, if_pos ((homogeneous_iff E l).2 h.2)]

theorem mkBlock_hetero (harr : ∀ a ∈ l, E.isArr a = true) (hdt : ¬ Homog E l) :
    mkBlock E l = .error .dtype :=
  mkFrom_hetero E (h := id) (fun _ _ => rfl) harr (by rwa [List.map_id])

theorem mkBlock_eq_of_arrays {b : List α} (harr : ∀ a ∈ l, E.isArr a = true)
    (h : mkBlock E l = .ok b) : b = l := by
  rw [mkBlock_eq_ite E harr] at h
  exact (Except.ok.inj (ite_ok_error h).2).symm

theorem binop_blk (op : α → α → Res (Option α)) (other : List α) : binop E op self (.blk other) =
    if self.length ≠ other.length then .error .type else (mkFrom E (opPair op) (List.zip self other)).map some := rfl

theorem binop_one {op : α → α → Res (Option α)} {o : α} {res : List (Option α)}
    (h : mapE (fun x => op x o) self = .ok res) : binop E op self (.one o) =
      if res.any Option.isNone then .ok none else (mkBlock E (res.filterMap id)).map some := by
  simp only [binop, h]

theorem liftMethod_nil (m : α → Res α) : liftMethod E m [] = .error .index := rfl

theorem liftMethod_cons {m : α → Res α} {r0 : α} {rs : List α} (h : mapE m self = .ok (r0 :: rs)) :
    liftMethod E m self = if E.isArr r0 then (mkBlock E (r0 :: rs)).map Out.blk else .ok (.tup (r0 :: rs)) := by
  simp only [liftMethod, h]

theorem binop_ok {op : α → α → Res (Option α)} {o : PyVal α} (h : binop E op self o = .ok (some r)) :
    (∃ other, o = .blk other ∧ mkFrom E (opPair op) (List.zip self other) = .ok r) ∨
    ∃ res, mkBlock E (List.filterMap id res) = .ok r := by
  cases o with
  | blk other =>
    obtain ⟨r', hm, hr⟩ := map_eq_ok.1 (ite_error_ok h).2
    exact .inl ⟨other, rfl, Option.some.inj hr ▸ hm⟩
  | one a =>
    simp only [binop] at h
    split at h
    · cases h
    · obtain ⟨r', hm, hr⟩ := map_eq_ok.1 ((ite_eq h).resolve_left fun c => nomatch c.2).2
      exact .inr ⟨_, Option.some.inj hr ▸ hm⟩

theorem liftMethod_ok {m : α → Res α} (h : liftMethod E m self = .ok (.blk r)) :
    ∃ res, mapE m self = .ok res ∧ mkBlock E res = .ok r := by
  simp only [liftMethod] at h
  split at h
  · cases h
  · cases h
  · rename_i r0 rs hm
    obtain ⟨r', hb, hr⟩ := map_eq_ok.1 ((ite_eq h).resolve_right fun c => nomatch c.2).2
    exact ⟨_, hm, Out.blk.inj hr ▸ hb⟩

theorem setItem_ok {k : Int} {v : α} (h : setItem E self k v = .ok r) :
    ∃ j, pyIndex self.length k = some j ∧ mkBlock E (self.set j v) = .ok r := by
  simp only [setItem] at h
  split at h
  · cases h
  · exact ⟨_, ‹_›, h⟩

end constructor

/-- `l` is the first block array among `vals`: only non-block values stand before it -/
def FirstBlk (vals : List (PyVal α)) (l : List α) : Prop :=
  ∃ pre post, vals = pre ++ PyVal.blk l :: post ∧ ∀ v ∈ pre, v.isBlk = false

def NoBlk (vals : List (PyVal α)) : Prop := ∀ v ∈ vals, v.isBlk = false

theorem FirstBlk.cons_iff (v : PyVal α) (rest : List (PyVal α)) (l : List α) :
    FirstBlk (v :: rest) l ↔ v = .blk l ∨ (v.isBlk = false ∧ FirstBlk rest l) := by
  constructor
  · rintro ⟨pre, post, heq, hpre⟩
    cases pre with
    | nil => exact .inl (List.cons.inj heq).1
    | cons p pre' =>
      obtain ⟨rfl, h2⟩ := List.cons.inj heq
      exact .inr ⟨hpre _ (by simp), pre', post, h2, fun w hw => hpre w (by simp [hw])⟩
  · rintro (rfl | ⟨hv, pre, post, rfl, hpre⟩)
    · exact ⟨[], rest, rfl, by simp⟩
    · exact ⟨v :: pre, post, rfl, by simpa [hv] using hpre⟩

theorem firstBlk_some {vals : List (PyVal α)} {l : List α} :
    firstBlk vals = some l ↔ FirstBlk vals l := by
  induction vals with
  | nil => simp [firstBlk, FirstBlk]
  | cons v rest ih => cases v <;> simp [firstBlk, FirstBlk.cons_iff, PyVal.isBlk, ih, eq_comm]

theorem firstBlk_none {vals : List (PyVal α)} : firstBlk vals = none ↔ NoBlk vals := by
  induction vals with
  | nil => simp [firstBlk, NoBlk]
  | cons v rest ih =>
    cases v with
    | blk l' => simp [firstBlk, NoBlk, PyVal.isBlk]
    | one a => simp [firstBlk, NoBlk, PyVal.isBlk, ih]

theorem firstBlk_append (a b : List (PyVal α)) :
    firstBlk (a ++ b) = (firstBlk a).orElse fun _ => firstBlk b := by
  induction a with
  | nil => rfl
  | cons v rest ih => cases v <;> simp [firstBlk, ih]

/-- the code's two-stage search (positional, then keyword values) is the search in the
    concatenated argument list -/
theorem numBlocks_eq (args : List (PyVal α)) (kwargs : List (String × PyVal α)) :
    numBlocksInArgs args kwargs =
      match firstBlk (args ++ kwargs.map Prod.snd) with
      | some l => l.length
      | none => 0 := by
  rw [firstBlk_append, numBlocksInArgs]
  cases firstBlk args <;> rfl

theorem numBlocks_noblk {args : List (PyVal α)} {kwargs : List (String × PyVal α)}
    (h : NoBlk (args ++ kwargs.map Prod.snd)) : numBlocksInArgs args kwargs = 0 := by
  rw [numBlocks_eq, firstBlk_none.2 h]

theorem numBlocks_first {args : List (PyVal α)} {kwargs : List (String × PyVal α)} {l : List α}
    (h : FirstBlk (args ++ kwargs.map Prod.snd) l) : numBlocksInArgs args kwargs = l.length := by
  rw [numBlocks_eq, firstBlk_some.2 h]

/-- specification: `w` is what block `i` of the computation receives for argument `v` -/
def Proj (i : Nat) (v w : PyVal α) : Prop :=
  match v with
  | .blk l => ∃ h : i < l.length, w = PyVal.one l[i]
  | .one a => w = PyVal.one a

theorem pick_ok_iff {i : Nat} {v w : PyVal α} : pick i v = .ok w ↔ Proj i v w := by
  cases v with
  | blk l =>
    unfold pick Proj
    by_cases h : i < l.length
    · simp [h, eq_comm]
    · simp [h]
  | one a => simp [pick, Proj, eq_comm]

theorem pick_total {i n : Nat} (hi : i < n) {v : PyVal α}
    (hv : ∀ l, v = PyVal.blk l → l.length = n) : ∃ w, pick i v = .ok w := by
  cases v with
  | blk l =>
    have := hv l rfl
    exact ⟨PyVal.one (l[i]'(by omega)), by simp [pick, List.getElem?_eq_getElem (show i < l.length by omega)]⟩
  | one a => exact ⟨PyVal.one a, rfl⟩

theorem proj_one (i : Nat) (a : α) : Proj i (PyVal.one a) (PyVal.one a) := rfl

theorem noblk_proj {i : Nat} {v : PyVal α} (h : v.isBlk = false) : Proj i v v := by
  cases v with
  | blk l => simp [PyVal.isBlk] at h
  | one a => rfl

theorem lensOk_iff {n : Nat} {vals : List (PyVal α)} :
    lensOk n vals = true ↔ ∀ v ∈ vals, ∀ l, v = PyVal.blk l → l.length = n := by
  simp only [lensOk, List.all_eq_true]
  refine forall₂_congr fun v _ => ?_
  cases v <;> simp

theorem mapE_pick {i : Nat} {args a : List (PyVal α)} :
    mapE (pick i) args = .ok a ↔ Rel₂ (Proj i) args a := by
  simp only [mapE_rel₂, pick_ok_iff]

theorem mapE_pick_kw {i : Nat} {kwargs k : List (String × PyVal α)} :
    mapE (fun (kv : String × PyVal α) => (pick i kv.2).map (fun v => (kv.1, v))) kwargs = .ok k ↔
      Rel₂ (fun kv kv' => kv'.1 = kv.1 ∧ Proj i kv.2 kv'.2) kwargs k := by
  have : ∀ kv kv' : String × PyVal α,
      (pick i kv.2).map (fun v => (kv.1, v)) = .ok kv' ↔ kv'.1 = kv.1 ∧ Proj i kv.2 kv'.2 := by
    intro kv kv'
    rw [map_eq_ok, ← pick_ok_iff]
    exact ⟨fun ⟨_, h, e⟩ => e ▸ ⟨rfl, h⟩, fun ⟨h1, h2⟩ => ⟨_, h2, Prod.ext h1.symm rfl⟩⟩
  simp only [mapE_rel₂, this]

theorem blockArgsKwargs_ok {n : Nat} {args : List (PyVal α)} {kwargs : List (String × PyVal α)}
    {A : Nat → List (PyVal α)} {K : Nat → List (String × PyVal α)}
    (hA : ∀ i, i < n → Rel₂ (Proj i) args (A i))
    (hK : ∀ i, i < n → Rel₂ (fun kv kv' => kv'.1 = kv.1 ∧ Proj i kv.2 kv'.2) kwargs (K i)) :
    blockArgsKwargs n args kwargs = .ok ((List.range n).map (fun i => (A i, K i))) := by
  unfold blockArgsKwargs
  apply mapE_ok_of_forall
  intro i hi
  have hi' : i < n := List.mem_range.1 hi
  simp [mapE_pick.2 (hA i hi'), mapE_pick_kw.2 (hK i hi')]

theorem blockArgsKwargs_conv {n : Nat} {args : List (PyVal α)} {kwargs : List (String × PyVal α)}
    {calls : List (List (PyVal α) × List (String × PyVal α))}
    (h : blockArgsKwargs n args kwargs = .ok calls) :
    calls.length = n ∧ ∀ (i : Nat) (hi : i < calls.length),
      Rel₂ (Proj i) args calls[i].1 ∧
      Rel₂ (fun kv kv' => kv'.1 = kv.1 ∧ Proj i kv.2 kv'.2) kwargs calls[i].2 := by
  obtain ⟨hlen, hget⟩ := mapE_rel₂.1 h
  rw [List.length_range] at hlen
  refine ⟨hlen, fun i hi => ?_⟩
  have := hget i (by simp; omega) hi
  simp only [List.getElem_range] at this
  split at this
  · cases this
  · rename_i a ha
    split at this
    · cases this
    · rename_i k hk
      rw [← Except.ok.inj this]
      exact ⟨mapE_pick.1 ha, mapE_pick_kw.1 hk⟩

theorem mapFuncOverBlocks_pos [DecidableEq δ] (E : Env α δ)
    (f : List (PyVal α) → List (String × PyVal α) → Res α)
    (args : List (PyVal α)) (kwargs : List (String × PyVal α)) (hpos : 0 < numBlocksInArgs args kwargs)
    {rs : List α} (h : mapFuncOverBlocks E f args kwargs = .ok (.blk rs)) :
    ∃ calls, blockArgsKwargs (numBlocksInArgs args kwargs) args kwargs = .ok calls ∧
      mkFrom E (fun (c : List (PyVal α) × List (String × PyVal α)) => f c.1 c.2) calls = .ok rs := by
  unfold mapFuncOverBlocks at h
  simp only [show ¬ numBlocksInArgs args kwargs = 0 by omega, if_false] at h
  split at h
  · cases h
  · split at h
    · cases h
    · rename_i calls hb
      obtain ⟨_, hm, hr⟩ := map_eq_ok.1 h
      exact ⟨calls, hb, PyVal.blk.inj hr ▸ hm⟩

theorem blockArgsKwargs_first {args : List (PyVal α)} {kwargs : List (String × PyVal α)} {l0 : List α}
    {A : Nat → List (PyVal α)} {K : Nat → List (String × PyVal α)}
    (hfirst : FirstBlk (args ++ kwargs.map Prod.snd) l0) (hpos : 0 < l0.length)
    (hlen : ∀ v ∈ args ++ kwargs.map Prod.snd, ∀ l, v = PyVal.blk l → l.length = l0.length)
    (hA : ∀ i, i < l0.length → Rel₂ (Proj i) args (A i))
    (hK : ∀ i, i < l0.length → Rel₂ (fun kv kv' => kv'.1 = kv.1 ∧ Proj i kv.2 kv'.2) kwargs (K i)) :
    ¬ numBlocksInArgs args kwargs = 0 ∧
    lensOk (numBlocksInArgs args kwargs) (args ++ kwargs.map Prod.snd) = true ∧
    blockArgsKwargs (numBlocksInArgs args kwargs) args kwargs
      = .ok ((List.range l0.length).map (fun i => (A i, K i))) := by
  rw [numBlocks_first hfirst]
  exact ⟨by omega, lensOk_iff.2 hlen, blockArgsKwargs_ok hA hK⟩

theorem hasKey_append {γ : Type} (k : String) (a b : List (String × γ)) :
    hasKey k (a ++ b) = (hasKey k a || hasKey k b) := by simp [hasKey, List.any_append]

theorem hasKey_zip {γ : Type} (k : String) : ∀ (ps : List String) (vs : List γ),
    hasKey k (List.zip ps vs) = decide (ps.idxOf k < vs.length ∧ ps.idxOf k < ps.length)
  | [], vs => by simp [hasKey]
  | p :: ps, [] => by simp [hasKey]
  | p :: ps, v :: vs => by
    have ih := hasKey_zip k ps vs
    simp only [hasKey] at ih ⊢
    simp only [List.zip_cons_cons, List.any_cons, ih, List.idxOf_cons]
    by_cases h : p = k
    · subst h; simp
    · have h' : (p == k) = false := by simpa using h
      simp [h']

theorem filter_isBlk_noblk {l : Bound α} (h : ∀ kv ∈ l, kv.2.isBlk = false) :
    l.filter (fun kv => kv.2.isBlk) = [] ∧ l.filter (fun kv => !kv.2.isBlk) = l := by
  constructor
  · rw [List.filter_eq_nil_iff]; intro kv hkv; simp [h kv hkv]
  · rw [List.filter_eq_self]; intro kv hkv; simp [h kv hkv]

theorem forall_vals_snoc {P : PyVal α → Prop} {pre post : Bound α} {k : String} {w : PyVal α}
    (hpre : ∀ kv ∈ pre, P kv.2) (hpost : ∀ kv ∈ post, P kv.2) (hw : P w) :
    ∀ v ∈ (pre ++ post ++ [(k, w)]).map Prod.snd, P v := by
  intro v hv
  simp only [List.map_append, List.map_cons, List.map_nil, List.mem_append, List.mem_map,
    List.mem_singleton] at hv
  rcases hv with (⟨kv, hkv, rfl⟩ | ⟨kv, hkv, rfl⟩) | rfl
  exacts [hpre kv hkv, hpost kv hkv, hw]

/-- one block argument among the bound arguments: with `axis` the inner (block-mapped) function gets
    the block array, moved behind the other arguments; without, the concatenation of its ravelled blocks -/
theorem addFullReduction_one (inner : Bound α → Res (PyVal α)) (cat : List α → Res α)
    {pre post : Bound α} (k : String) (bs : List α)
    (hpre : ∀ kv ∈ pre, kv.2.isBlk = false) (hpost : ∀ kv ∈ post, kv.2.isBlk = false) :
    addFullReduction inner cat (pre ++ (k, PyVal.blk bs) :: post) =
      if hasKey "axis" (pre ++ post) then inner (pre ++ post ++ [(k, PyVal.blk bs)])
      else match cat bs with
        | .error e => .error e
        | .ok c => inner (pre ++ post ++ [(k, PyVal.one c)]) := by
  obtain ⟨p1, p2⟩ := filter_isBlk_noblk hpre
  obtain ⟨q1, q2⟩ := filter_isBlk_noblk hpost
  have hb : PyVal.isBlk (PyVal.blk bs) = true := rfl
  simp only [addFullReduction, List.filter_append, List.filter_cons, hb, p1, p2, q1, q2, if_true,
    Bool.not_true, Bool.false_eq_true, if_false, List.nil_append, List.length_singleton, gt_iff_lt,
    Nat.lt_irrefl, mapE, catArg]
  cases cat bs <;> rfl

section numeric

theorem rsum_eq_sum [Add α] [Zero α] (l : List α) : rsum l = l.sum := List.sum_eq_foldr.symm

/-- `max` / `min` of a non-empty list as one fold (`rmax = foldOpt max`, `rmin = foldOpt min`) -/
def foldOpt (op : α → α → α) : List α → Option α
  | [] => none
  | x :: xs => some (xs.foldl op x)

variable {op : α → α → α}

theorem foldOpt_append (hop : ∀ a b c, op (op a b) c = op a (op b c)) (l1 l2 : List α) :
    foldOpt op (l1 ++ l2) = optCombine op [foldOpt op l1, foldOpt op l2] := by
  cases l1 with
  | nil => cases l2 <;> simp [foldOpt, optCombine]
  | cons x xs =>
    cases l2 with
    | nil => simp [foldOpt, optCombine]
    | cons y ys =>
      simp only [foldOpt, optCombine, List.cons_append, List.foldl_append, List.foldl_cons]
      congr 1
      have : Std.Associative op := ⟨hop⟩
      exact List.foldl_assoc

theorem optCombine_two (op : α → α → α) (a : Option α) (rest : List (Option α)) :
    optCombine op (a :: rest) = optCombine op [a, optCombine op rest] := by
  cases a <;> cases h : optCombine op rest <;> simp [optCombine, h]

theorem foldOpt_flatten (hop : ∀ a b c, op (op a b) c = op a (op b c)) (bs : List (List α)) :
    foldOpt op (ravelCat bs) = optCombine op (bs.map (foldOpt op)) := by
  induction bs with
  | nil => rfl
  | cons b rest ih =>
    unfold ravelCat at ih ⊢
    rw [List.flatten_cons, foldOpt_append hop, ih, List.map_cons]
    exact (optCombine_two op (foldOpt op b) (rest.map (foldOpt op))).symm

end numeric

/-- which key the draw uses: the given key; else `PRNGKey(seed)`; else `PRNGKey(0)` -/
inductive EffKey {κ σ β : Type} (P : RngPrims κ σ β) : RVal κ σ β → RVal κ σ β → RVal κ σ β → Prop where
  | given (key seed) : key.isNone = false → seed.isNone = true → EffKey P key seed key
  | seeded (key seed k) : key.isNone = true → seed.isNone = false → P.prngKey seed = .ok k →
      EffKey P key seed (.oth (.key k))
  | default (key seed k) : key.isNone = true → seed.isNone = true →
      P.prngKey (.oth (.seed P.seed0)) = .ok k → EffKey P key seed (.oth (.key k))

theorem addSeed_ok_iff {κ σ ρ : Type} (P : RngPrims κ σ β) (np : Nat)
    (f : RVal κ σ β → List (RVal κ σ β) → List (String × RVal κ σ β) → Res ρ)
    (args : List (RVal κ σ β)) (kwKey kwSeed : RVal κ σ β) (kwargs : List (String × RVal κ σ β))
    (r : ρ) (k' : κ) :
    addSeed P np f args kwKey kwSeed kwargs = .ok (r, k') ↔
      ∃ k, EffKey P (keyOf np args kwKey) (seedOf np args kwSeed) k ∧
        f k (args.take (np - 1)) kwargs = .ok r ∧ P.split0 k = .ok k' := by
  unfold addSeed addSeedCore
  generalize keyOf np args kwKey = key
  generalize seedOf np args kwSeed = seed
  constructor
  · intro h
    obtain ⟨hks, h⟩ := ite_error_ok h
    simp only [] at h
    split at h
    · cases h
    · rename_i k hk
      split at h
      · cases h
      · rename_i r0 hf
        split at h
        · cases h
        · rename_i k0 hsp
          cases h
          refine ⟨k, ?_, hf, hsp⟩
          -- the three ways `keyE` produces a key
          cases h1 : key.isNone <;> cases h2 : seed.isNone <;>
            simp only [h1, h2, Bool.not_false, Bool.not_true, Bool.and_self, Bool.and_false,
              Bool.false_and, not_true_eq_false, Bool.false_eq_true, if_true, if_false] at hks hk
          · cases hk; exact .given key seed h1 h2
          · cases hp : P.prngKey seed with
            | error e => simp [hp, Except.map] at hk
            | ok k1 =>
              simp only [hp, Except.map, Except.ok.injEq] at hk
              subst hk; exact .seeded key seed k1 h1 h2 hp
          · cases hp : P.prngKey (.oth (.seed P.seed0)) with
            | error e => simp [hp, Except.map] at hk
            | ok k1 =>
              simp only [hp, Except.map, Except.ok.injEq] at hk
              subst hk; exact .default key seed k1 h1 h2 hp
  · rintro ⟨k, hk, hf, hs⟩
    cases hk with
    | given h1 h2 => simp [h1, h2, hf, hs]
    | seeded k0 h1 h2 h3 => simp [h1, h2, h3, Except.map, hf, hs]
    | default k0 h1 h2 h3 => simp [h1, h2, h3, Except.map, hf, hs]

end Scico.Block
