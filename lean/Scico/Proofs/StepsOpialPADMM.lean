/-
  Proofs/StepsOpialPADMM — ProximalADMM (general `B`, `c`) in finite dimension, merely convex problem, `μ > ‖A‖²`, `ν ≥ ‖B‖²`:
  if a KKT point exists, the iterates `(x_k, z_k, u_k)` converge from EVERY start to a KKT point (`padmm_converges_triple`).  `OpialStep` on the triple
  of states produced by `step()` (where `u_old = u − (Ax + Bz − c)`): of the Lyapunov function `Ψ` of `StepsProxADMM` the part
  `D` is a quadratic form of `(x, z, u) − (x*, z*, u*)`, the rest `‖z − z_old‖²_{ρ(ν − BᵀB)}` does not depend on the KKT point
  and is at most the dissipation of the step before — so `ν = ‖B‖²` is allowed, which is where LinearizedADMM sits
  (`B = −I`, `ν = 1`): its convergence theorem (`C03_ladmm_converges_findim`) is the instance along `toPADMM`.
-/
import Scico.Proofs.StepsProxADMM
import Scico.Proofs.StepsOpial

set_option linter.unusedSectionVars false

namespace Scico.Steps

open Filter

section iteration
variable {X Z U : Type} [NormedAddCommGroup X] [InnerProductSpace ℝ X] [NormedAddCommGroup Z] [InnerProductSpace ℝ Z]
  [NormedAddCommGroup U] [InnerProductSpace ℝ U]

def PADMMState.triple (s : PADMMState X Z U) : X × Z × U := (s.x, s.z, s.u)

/-- the state with `u_old` reconstructed from the invariant `u − u_old = Ax + Bz − c`; the step does not read `z_old` -/
def padmmOfTriple (p : PADMMParams ℝ X Z U) (w : X × Z × U) : PADMMState X Z U :=
  { x := w.1, z := w.2.1, zOld := w.2.1, u := w.2.2, uOld := w.2.2 - (p.A w.1 + p.B w.2.1 - p.c) }

/-- the ProximalADMM iteration on `(x, z, u)` -/
noncomputable def padmmT (p : PADMMParams ℝ X Z U) (w : X × Z × U) : X × Z × U :=
  (padmmSpecStep p (padmmOfTriple p w)).triple

theorem padmmT_step (p : PADMMParams ℝ X Z U) (s : PADMMState X Z U) (hi : s.u = s.uOld + p.A s.x + p.B s.z - p.c) :
    (padmmSpecStep p s).triple = padmmT p s.triple := by
  have : s.u - (p.A s.x + p.B s.z - p.c) = s.uOld := by rw [hi]; abel
  unfold padmmT padmmOfTriple PADMMState.triple padmmSpecStep
  simp only [this]

/-- the parameter range: `‖Aa‖ ≤ L_A‖a‖`, `‖Bb‖ ≤ L_B‖b‖`, `μ > L_A²`, `ν ≥ L_B²` -/
structure PADMMRange (p : PADMMParams ℝ X Z U) (La Lb : ℝ) : Prop where
  La0 : 0 ≤ La
  Lb0 : 0 ≤ Lb
  bdA : ∀ a, ‖p.A a‖ ≤ La * ‖a‖
  bdB : ∀ b, ‖p.B b‖ ≤ Lb * ‖b‖
  strictA : La ^ 2 < p.mu
  leB : Lb ^ 2 ≤ p.nu

/-- KKT point with scaled multiplier -/
def IsPKKTTriple (p : PADMMParams ℝ X Z U) (F : Fn X) (G : Fn Z) (w : X × Z × U) : Prop :=
  p.A w.1 + p.B w.2.1 = p.c ∧ F.Subgrad w.1 (-(p.rho • p.AH w.2.2)) ∧ G.Subgrad w.2.1 (-(p.rho • p.BH w.2.2))

section
variable {p : PADMMParams ℝ X Z U} {F : Fn X} {G : Fn Z} {La Lb : ℝ}

theorem PADMMRange.sqA (R : PADMMRange p La Lb) (a : X) : ‖p.A a‖ ^ 2 ≤ p.mu * ‖a‖ ^ 2 :=
  (sq_norm_le_of_bound R.bdA a).trans (mul_le_mul_of_nonneg_right R.strictA.le (sq_nonneg _))

theorem PADMMRange.sqB (R : PADMMRange p La Lb) (b : Z) : ‖p.B b‖ ^ 2 ≤ p.nu * ‖b‖ ^ 2 :=
  (sq_norm_le_of_bound R.bdB b).trans (mul_le_mul_of_nonneg_right R.leB (sq_nonneg _))

theorem PADMMClass.hyp_of_kkt (C : PADMMClass p F G) (R : PADMMRange p La Lb) {w : X × Z × U} (hw : IsPKKTTriple p F G w) :
    PADMMHyp p F G w.1 w.2.1 w.2.2 :=
  C.hyp hw.1 hw.2.1 hw.2.2 R.sqB R.sqA

theorem padmmT_continuous (C : PADMMClass p F G) (R : PADMMRange p La Lb) : Continuous (padmmT p) := by
  have hA := continuous_of_sub_of_bound (sub_of_adj C.adjA) R.La0 R.bdA
  have hAH := adjoint_continuous C.adjA R.La0 R.bdA
  have hB := continuous_of_sub_of_bound (sub_of_adj C.adjB) R.Lb0 R.bdB
  have hBH := adjoint_continuous C.adjB R.Lb0 R.bdB
  have hpf := C.proxf.continuous (mul_pos (inv_pos.2 C.rho) (inv_pos.2 C.mu))
  have hpg := C.proxg.continuous (mul_pos (inv_pos.2 C.rho) (inv_pos.2 C.nu))
  unfold padmmT padmmSpecStep padmmOfTriple PADMMState.triple
  dsimp only
  fun_prop

theorem padmmT_fixed_iff (C : PADMMClass p F G) (w : X × Z × U) : padmmT p w = w ↔ IsPKKTTriple p F G w := by
  constructor
  · intro h
    -- the certificates of the two proximal maps, read at a fixed point
    set s := padmmOfTriple p w
    have h1 : (padmmSpecStep p s).x = w.1 := congrArg Prod.fst h
    have h2 : (padmmSpecStep p s).z = w.2.1 := congrArg (fun t => t.2.1) h
    have hfeas : p.A w.1 + p.B w.2.1 - p.c = 0 := by
      have h4 : w.2.2 + p.A (padmmSpecStep p s).x + p.B (padmmSpecStep p s).z - p.c = w.2.2 :=
        congrArg (fun t => t.2.2) h
      rwa [h1, h2, add_assoc, add_sub_assoc, add_eq_left] at h4
    have cx : F.Subgrad (padmmSpecStep p s).x ((p.rho * p.mu) • (w.1 - (padmmSpecStep p s).x)
        - p.rho • p.AH ((2 : ℝ) • w.2.2 - (w.2.2 - (p.A w.1 + p.B w.2.1 - p.c)))) :=
      padmm_x_subgrad C s
    have cz : G.Subgrad (padmmSpecStep p s).z ((p.rho * p.nu) • (w.2.1 - (padmmSpecStep p s).z)
        - p.rho • p.BH (p.A (padmmSpecStep p s).x + p.B w.2.1 - p.c + w.2.2)) :=
      (padmm_inv_step C s).i2
    rw [h1, sub_self, smul_zero, zero_sub, hfeas, sub_zero, two_smul, add_sub_cancel_right] at cx
    rw [h1, h2, sub_self, smul_zero, zero_sub, hfeas, zero_add] at cz
    exact ⟨sub_eq_zero.1 hfeas, cx, cz⟩
  · intro ⟨hfeas, hx, hz⟩
    have hf := padmm_fixed p F G C.proxf C.proxg C.rho C.mu C.nu w.1 w.2.1 w.2.2 hfeas hx hz
    have hq : padmmOfTriple p w = { x := w.1, z := w.2.1, zOld := w.2.1, u := w.2.2, uOld := w.2.2 } := by
      unfold padmmOfTriple
      rw [hfeas, sub_self, sub_zero]
    rw [padmmT, hq, hf]
    rfl

/-- `padmmPsi p x* z* u* s` is by definition `padmmD p (s.triple − (x*, z*, u*)) + padmmE p s`: the part that is a quadratic
    form of `(x, z, u) − (x*, z*, u*)` … -/
noncomputable def padmmD (p : PADMMParams ℝ X Z U) (v : X × Z × U) : ℝ :=
  p.rho * ‖v.2.2‖ ^ 2 + p.rho * (p.mu * ‖v.1‖ ^ 2 - ‖p.A v.1‖ ^ 2) + p.rho * p.nu * ‖v.2.1‖ ^ 2

/-- … and the rest, which does not depend on the KKT point -/
noncomputable def padmmE (p : PADMMParams ℝ X Z U) (s : PADMMState X Z U) : ℝ :=
  p.rho * (p.nu * ‖s.z - s.zOld‖ ^ 2 - ‖p.B (s.z - s.zOld)‖ ^ 2)

/-- at the increment of a step `D` is the dissipation of that step -/
theorem padmmD_increment (p : PADMMParams ℝ X Z U) (s s' : PADMMState X Z U) :
    padmmD p (s'.triple - s.triple) = padmmDiss p s s' := by
  show p.rho * ‖s'.u - s.u‖ ^ 2 + p.rho * (p.mu * ‖s'.x - s.x‖ ^ 2 - ‖p.A (s'.x - s.x)‖ ^ 2)
    + p.rho * p.nu * ‖s'.z - s.z‖ ^ 2 = _
  unfold padmmDiss; ring

theorem padmmD_lower (C : PADMMClass p F G) (R : PADMMRange p La Lb) : ∃ c, 0 < c ∧ ∀ v, c * ‖v‖ ^ 2 ≤ padmmD p v := by
  obtain ⟨m, hm0, hm1, hm2, hm3⟩ : ∃ m, 0 < m ∧ m ≤ 1 ∧ m ≤ p.mu - La ^ 2 ∧ m ≤ p.nu :=
    ⟨_, lt_min one_pos (lt_min (sub_pos.2 R.strictA) C.nu), min_le_left _ _,
      (min_le_right _ _).trans (min_le_left _ _), (min_le_right _ _).trans (min_le_right _ _)⟩
  refine ⟨p.rho * m, mul_pos C.rho hm0, fun ⟨a, b, e⟩ => ?_⟩
  have h1 : ‖(a, b, e)‖ ^ 2 ≤ ‖a‖ ^ 2 + (‖b‖ ^ 2 + ‖e‖ ^ 2) :=
    (prod_norm_sq_le a (b, e)).trans (add_le_add_right (prod_norm_sq_le b e) _)
  have key : m * ‖(a, b, e)‖ ^ 2 ≤ ‖e‖ ^ 2 + (p.mu * ‖a‖ ^ 2 - ‖p.A a‖ ^ 2) + p.nu * ‖b‖ ^ 2 := by
    linarith [mul_le_mul_of_nonneg_left h1 hm0.le, sq_norm_le_of_bound R.bdA a,
      mul_nonneg (sub_nonneg.2 hm1) (sq_nonneg ‖e‖), mul_nonneg (sub_nonneg.2 hm2) (sq_nonneg ‖a‖),
      mul_nonneg (sub_nonneg.2 hm3) (sq_nonneg ‖b‖)]
  have := mul_le_mul_of_nonneg_left key C.rho.le
  unfold padmmD
  linarith

theorem padmmD_upper (C : PADMMClass p F G) (v : X × Z × U) : padmmD p v ≤ p.rho * (1 + p.mu + p.nu) * ‖v‖ ^ 2 := by
  have h1 := sq_norm_fst_le v
  have h2 := (sq_norm_fst_le v.2).trans (sq_norm_snd_le v)
  have h3 := (sq_norm_snd_le v.2).trans (sq_norm_snd_le v)
  have key : ‖v.2.2‖ ^ 2 + (p.mu * ‖v.1‖ ^ 2 - ‖p.A v.1‖ ^ 2) + p.nu * ‖v.2.1‖ ^ 2 ≤ (1 + p.mu + p.nu) * ‖v‖ ^ 2 := by
    linarith [mul_le_mul_of_nonneg_left h1 C.mu.le, mul_le_mul_of_nonneg_left h2 C.nu.le, sq_nonneg ‖p.A v.1‖]
  have := mul_le_mul_of_nonneg_left key C.rho.le
  unfold padmmD
  linarith

/-- after a step the extra term is at most the dissipation of that step (`z_old⁺ = z`) -/
theorem padmmE_step_le (C : PADMMClass p F G) (R : PADMMRange p La Lb) (s : PADMMState X Z U) :
    padmmE p (padmmSpecStep p s) ≤ 1 * padmmDiss p s (padmmSpecStep p s) := by
  have hn := mul_nonneg C.rho.le (sq_nonneg ‖p.B ((padmmSpecStep p s).z - s.z)‖)
  have hu := mul_nonneg C.rho.le (sq_nonneg ‖(padmmSpecStep p s).u - s.u‖)
  have ha := mul_nonneg C.rho.le (sub_nonneg.2 (R.sqA ((padmmSpecStep p s).x - s.x)))
  show p.rho * (p.nu * ‖(padmmSpecStep p s).z - s.z‖ ^ 2 - ‖p.B ((padmmSpecStep p s).z - s.z)‖ ^ 2) ≤ 1 * _
  unfold padmmDiss
  linarith

/-- ProximalADMM as an instance of `OpialStep`: the fields are the lemmas of `StepsProxADMM` read on the triple (the step
    inequality is `padmm_lyapunov_step`, with `Ψ` unfolding to `D + E`) -/
theorem padmm_opialStep (C : PADMMClass p F G) (R : PADMMRange p La Lb) :
    OpialStep (padmmSpecStep p) PADMMState.triple (padmmT p) (PADMMInv p G) (padmmD p) (padmmE p)
      (fun s => padmmDiss p s (padmmSpecStep p s)) :=
  ⟨padmmT_continuous C R, fun s _ => padmm_inv_step C s, fun s hI => padmmT_step p s hI.i1,
    padmmD_lower C R, ⟨_, padmmD_upper C⟩, fun _ _ => mul_nonneg C.rho.le (sub_nonneg.2 (R.sqB _)),
    fun ws hws s hI => padmm_lyapunov_step (C.hyp_of_kkt R ((padmmT_fixed_iff C ws).1 hws)) s hI,
    (padmmD_lower C R).imp fun _ h => ⟨h.1, fun s _ => (h.2 _).trans_eq (padmmD_increment p s _)⟩,
    1, fun s _ => padmmE_step_le C R s⟩

end

end iteration

variable {X Z U : Type} [NormedAddCommGroup X] [InnerProductSpace ℝ X] [FiniteDimensional ℝ X]
  [NormedAddCommGroup Z] [InnerProductSpace ℝ Z] [FiniteDimensional ℝ Z]
  [NormedAddCommGroup U] [InnerProductSpace ℝ U] [FiniteDimensional ℝ U]

section
variable {p : PADMMParams ℝ X Z U} {F : Fn X} {G : Fn Z} {La Lb : ℝ}

theorem padmm_converges_triple (C : PADMMClass p F G) (R : PADMMRange p La Lb) (hk : ∃ w, IsPKKTTriple p F G w)
    (s : PADMMState X Z U) :
    ∃ wb : X × Z × U, IsPKKTTriple p F G wb ∧ Tendsto (fun k => (iter (padmmSpecStep p) k s).triple) atTop (nhds wb) := by
  -- the first iterate satisfies the invariant
  obtain ⟨wb, hwb, hlim⟩ := (padmm_opialStep C R).converges
    (hk.imp fun w hw => (padmmT_fixed_iff C w).2 hw) (padmmSpecStep p s) (padmm_inv_step C s)
  exact ⟨wb, (padmmT_fixed_iff C wb).1 hwb, (tendsto_add_atTop_iff_nat 1).1 hlim⟩

end

structure PADMMConvHyp (p : PADMMParams ℝ X Z U) (F : Fn X) (G : Fn Z) (La Lb : ℝ) : Prop where
  rho : 0 < p.rho
  mu : 0 < p.mu
  nu : 0 < p.nu
  addA : ∀ x y, p.A (x + y) = p.A x + p.A y
  addB : ∀ x y, p.B (x + y) = p.B x + p.B y
  adjA : ∀ w x, ⟪p.AH w, x⟫ = ⟪w, p.A x⟫
  adjB : ∀ w z, ⟪p.BH w, z⟫ = ⟪w, p.B z⟫
  proxf : IsProx F p.proxf
  proxg : IsProx G p.proxg
  La0 : 0 ≤ La
  Lb0 : 0 ≤ Lb
  bdA : ∀ a, ‖p.A a‖ ≤ La * ‖a‖
  bdB : ∀ b, ‖p.B b‖ ≤ Lb * ‖b‖
  /-- documented constraints, strict: `μ > ‖A‖²`, `ν > ‖B‖²` -/
  strictA : La ^ 2 < p.mu
  strictB : Lb ^ 2 < p.nu

/-- KKT point with scaled multiplier -/
def IsPKKT (p : PADMMParams ℝ X Z U) (F : Fn X) (G : Fn Z) (w : X × Z × Z × U) : Prop :=
  w.2.2.1 = w.2.1 ∧ p.A w.1 + p.B w.2.1 = p.c ∧ F.Subgrad w.1 (-(p.rho • p.AH w.2.2.2)) ∧
    G.Subgrad w.2.1 (-(p.rho • p.BH w.2.2.2))

theorem PADMMConvHyp.cls {p : PADMMParams ℝ X Z U} {F : Fn X} {G : Fn Z} {La Lb : ℝ} (H : PADMMConvHyp p F G La Lb) :
    PADMMClass p F G :=
  ⟨H.rho, H.mu, H.nu, H.adjA, H.adjB, H.proxf, H.proxg⟩

theorem PADMMConvHyp.range {p : PADMMParams ℝ X Z U} {F : Fn X} {G : Fn Z} {La Lb : ℝ} (H : PADMMConvHyp p F G La Lb) :
    PADMMRange p La Lb :=
  ⟨H.La0, H.Lb0, H.bdA, H.bdB, H.strictA, H.strictB.le⟩

structure LADMMConvHyp (p : LADMMParams ℝ X Z) (F : Fn X) (G : Fn Z) (Lc : ℝ) : Prop where
  mu : 0 < p.mu
  nu : 0 < p.nu
  add : ∀ x y, p.C (x + y) = p.C x + p.C y
  adj : ∀ w x, ⟪p.Cadj w, x⟫ = ⟪w, p.C x⟫
  proxf : IsProx F p.proxf
  proxg : IsProx G p.proxg
  L0 : 0 ≤ Lc
  bd : ∀ a, ‖p.C a‖ ≤ Lc * ‖a‖
  /-- documented constraint, strict: `μ ‖C‖² < ν` -/
  strict : p.mu * Lc ^ 2 < p.nu

/-- KKT point of `min f(x) + g(Cx)` with scaled multiplier -/
def IsLKKT (p : LADMMParams ℝ X Z) (F : Fn X) (G : Fn Z) (w : X × Z × Z) : Prop :=
  w.2.1 = p.C w.1 ∧ F.Subgrad w.1 (-((1 / p.nu) • p.Cadj w.2.2)) ∧ G.Subgrad (p.C w.1) ((1 / p.nu) • w.2.2)

theorem LADMMConvHyp.toPADMM_range {p : LADMMParams ℝ X Z} {F : Fn X} {G : Fn Z} {Lc : ℝ} (H : LADMMConvHyp p F G Lc) :
    PADMMRange p.toPADMM Lc 1 where
  La0 := H.L0
  Lb0 := zero_le_one
  bdA := H.bd
  bdB := fun b => by show ‖-b‖ ≤ 1 * ‖b‖; rw [norm_neg, one_mul]
  strictA := by show Lc ^ 2 < p.nu / p.mu; rw [lt_div_iff₀ H.mu, mul_comm]; exact H.strict
  leB := by show (1 : ℝ) ^ 2 ≤ 1; rw [one_pow]

theorem LADMMConvHyp.toPADMM_class {p : LADMMParams ℝ X Z} {F : Fn X} {G : Fn Z} {Lc : ℝ} (H : LADMMConvHyp p F G Lc) :
    PADMMClass p.toPADMM F G :=
  LADMMParams.toPADMM_class H.mu H.nu H.adj H.proxf H.proxg

theorem isPKKTTriple_toPADMM {p : LADMMParams ℝ X Z} {F : Fn X} {G : Fn Z} (w : X × Z × Z) :
    IsPKKTTriple p.toPADMM F G w ↔ IsLKKT p F G w := by
  show (p.C w.1 + -w.2.1 = 0 ∧ F.Subgrad w.1 (-((1 / p.nu) • p.Cadj w.2.2)) ∧ G.Subgrad w.2.1 (-((1 / p.nu) • -w.2.2)))
    ↔ (w.2.1 = p.C w.1 ∧ _ ∧ G.Subgrad (p.C w.1) ((1 / p.nu) • w.2.2))
  rw [smul_neg, neg_neg, add_neg_eq_zero, eq_comm]
  exact and_congr_right fun h => by rw [h]

end Scico.Steps
