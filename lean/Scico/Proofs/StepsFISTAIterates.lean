/-
  Proofs/StepsFISTAIterates — the ITERATES of the accelerated proximal gradient method (`AcceleratedPGM` = FISTA with the
  classic rule `t⁺ = (1 + √(1 + 4t²))/2`, base step-size object), from the potential of `Proofs/StepsFISTA`.

  `m`-strongly convex `f`: `(m/2)‖x − x*‖² ≤ F(x) − F(x*)` and the `O(1/k²)` bound give
  `‖x_{k+1} − x*‖² ≤ 4L‖x_0 − x*‖² / (m (k+2)²)` (`fista_x_rate`).

  MERELY CONVEX `f`: convergence of the whole sequence `x_k` for this rule is an open problem of the literature
  (Chambolle–Dossal 2015 prove it for the modified rule `t_k = (k + a − 1)/a`, `a > 2`, which the library does not use).
  What the potential does give for the documented iteration `apgmSpecStep`:

  * `fista_ball`            every iterate stays in the closed ball of radius `‖x_0 − x*‖` around EVERY minimiser `x*`:
                            `u_{k+1} = t_{k+1} v_{k+1} − (t_{k+1} − 1) x_{k+1} = t_k x_{k+1} − (t_k − 1) x_k`, so
                            `x_{k+1} = (1/t_k) u_{k+1} + (1 − 1/t_k) x_k` is a convex combination of two points of the ball;
  * `fista_cluster_min`     (closed sub-level sets) every cluster point of `(x_k)` is a minimiser;
  * `fista_subseq`          (finite dimension) a subsequence converges to a minimiser;
  * `fista_unique_tendsto`  (finite dimension) if the minimiser is unique the whole sequence converges to it — no strong
                            convexity of `f` or `g` needed.
-/
import Scico.Proofs.StepsFISTA
import Mathlib.Topology.Sequences
import Mathlib.Topology.MetricSpace.Sequences
import Mathlib.Analysis.Normed.Group.Bounded
import Mathlib.Topology.MetricSpace.ProperSpace

namespace Scico.Steps

variable {E : Type} [NormedAddCommGroup E] [InnerProductSpace ℝ E]

theorem strong_gap {f : E → ℝ} {grad : E → E} {G : Fn E} {m : ℝ} (hs : GradStrongConvex f grad m) {xs : E}
    (hk : G.Subgrad xs (-(grad xs))) (x : E) (hx : x ∈ G.dom) :
    m / 2 * ‖x - xs‖ ^ 2 ≤ (f x + G.val x) - (f xs + G.val xs) := by
  have h1 := hs xs x
  have h2 := hk.2 x hx
  rw [inner_neg_left] at h2
  linarith

attribute [local instance] realHasSqrt

theorem fista_iter_dom (p : PGMParams Unit ℝ E) {G : Fn E} {L : ℝ} (h : FISTAHyp p G L) {xb : E} (hxb : xb ∈ G.dom)
    (s : APGMState Unit ℝ E) (hsL : s.L = L) (ht : s.t = 1) (k : Nat) :
    (iter (apgmSpecStep p) (k + 1) s).x ∈ G.dom := by
  have r := (⟨hsL, ht.ge, Or.inr ht, le_rfl⟩ : FistaReach p G L (fistaE p G L xb s) xb s).iter h hxb k
  rw [iter_succ']
  exact (fista_potential_step p h xb hxb _ r.hL r.ht r.hdom).2.1

theorem tendsto_const_div_sq (c : ℝ) : Filter.Tendsto (fun k : ℕ => c / ((k : ℝ) + 2) ^ 2) Filter.atTop (nhds 0) :=
  ((Filter.tendsto_pow_atTop two_ne_zero).comp
    (Filter.tendsto_atTop_add_const_right _ _ tendsto_natCast_atTop_atTop)).const_div_atTop c

theorem fista_x_rate (p : PGMParams Unit ℝ E) {G : Fn E} {L m : ℝ} (h : FISTAHyp p G L) (hm : 0 < m)
    (hs : GradStrongConvex p.f p.gradf m) {xs : E} (hk : G.Subgrad xs (-(p.gradf xs)))
    (s : APGMState Unit ℝ E) (hsL : s.L = L) (ht : s.t = 1) (hv : s.v = s.x) (k : Nat) :
    ‖(iter (apgmSpecStep p) (k + 1) s).x - xs‖ ^ 2 ≤ 4 * L * ‖s.x - xs‖ ^ 2 / (m * ((k : ℝ) + 2) ^ 2) := by
  have hrate := fista_rate p h xs hk.1 s hsL ht hv k
  have hgap := strong_gap hs hk _ (fista_iter_dom p h hk.1 s hsL ht k)
  have hpos2 : (0 : ℝ) < ((k : ℝ) + 2) ^ 2 := by positivity
  rw [le_div_iff₀ (mul_pos hm hpos2)]
  rw [le_div_iff₀ hpos2] at hrate
  have := mul_le_mul_of_nonneg_right hgap hpos2.le
  linarith

/-- `xb` minimises `F = f + g` over `dom g` -/
def IsMinOn (f : E → ℝ) (G : Fn E) (xb : E) : Prop := xb ∈ G.dom ∧ ∀ y ∈ G.dom, f xb + G.val xb ≤ f y + G.val y

/-- `t a = u + (t − 1) b`, `t ≥ 1`: `a` is a convex combination of `u` and `b` -/
theorem norm_le_of_smul_eq {t R : ℝ} (ht : 1 ≤ t) {a b u : E} (h : t • a = u + (t - 1) • b) (hu : ‖u‖ ≤ R)
    (hb : ‖b‖ ≤ R) : ‖a‖ ≤ R := by
  have h1 := norm_add_le u ((t - 1) • b)
  rw [← h, norm_smul, norm_smul, Real.norm_of_nonneg (by linarith : (0 : ℝ) ≤ t),
    Real.norm_of_nonneg (sub_nonneg.2 ht)] at h1
  have h2 := mul_le_mul_of_nonneg_left hb (sub_nonneg.2 ht)
  exact le_of_mul_le_mul_left (by linarith) (by linarith : (0 : ℝ) < t)

/-- with the potential `≤ L R²` around a minimiser, a step keeps `x` within `R` of it: with `u' = t'v' − (t'−1)x' − x̄`,
    `t(x' − x̄) = u' + (t−1)(x − x̄)` (the centre does not see `t'`), and `L‖u'‖² ≤ E' ≤ LR²` as `F(x') ≥ F(x̄)` -/
theorem fista_ball_step (p : PGMParams Unit ℝ E) {G : Fn E} {L R : ℝ} (h : FISTAHyp p G L) {xb : E}
    (hmin : IsMinOn p.f G xb) (hR : 0 ≤ R) (s : APGMState Unit ℝ E) (hs : FistaReach p G L (L * R ^ 2) xb s)
    (hx : ‖s.x - xb‖ ≤ R) : ‖(apgmSpecStep p s).x - xb‖ ≤ R := by
  obtain ⟨hE', hd', ht', -⟩ := fista_potential_step p h xb hmin.1 s hs.hL hs.ht hs.hdom
  have hEn := hE'.trans hs.hE
  have hc := apgm_centre_step p h s hs.hL hs.ht
  unfold fistaE at hEn
  generalize apgmSpecStep p s = s' at hd' ht' hc hEn ⊢
  refine norm_le_of_smul_eq hs.ht (u := s'.t • s'.v - (s'.t - 1) • s'.x - xb) ?_ ?_ hx
  · rw [hc]
    simp only [sub_smul, one_smul, smul_sub]
    abel
  · have h1 := mul_nonneg (mul_nonneg zero_le_two (mul_nonneg (zero_le_one.trans ht') (sub_nonneg.2 ht')))
      (sub_nonneg.2 (hmin.2 s'.x hd'))
    exact (pow_le_pow_iff_left₀ (norm_nonneg _) hR two_ne_zero).1 (le_of_mul_le_mul_left (by linarith) h.Lpos)

theorem fista_ball (p : PGMParams Unit ℝ E) {G : Fn E} {L : ℝ} (h : FISTAHyp p G L) {xb : E}
    (hmin : IsMinOn p.f G xb) (s : APGMState Unit ℝ E) (hsL : s.L = L) (ht : s.t = 1) (hv : s.v = s.x) (k : Nat) :
    ‖(iter (apgmSpecStep p) k s).x - xb‖ ≤ ‖s.x - xb‖ :=
  (iter_invariant (P := fun t => FistaReach p G L (L * ‖s.x - xb‖ ^ 2) xb t ∧ ‖t.x - xb‖ ≤ ‖s.x - xb‖)
    (fun t ht => ⟨ht.1.step h hmin.1, fista_ball_step p h hmin (norm_nonneg _) t ht.1 ht.2⟩) k s
    ⟨fistaReach_init p G xb s hsL ht hv, le_rfl⟩).2

/-- closed sub-level sets of `F = f + g` on `dom g` (lower semicontinuity of the closed function `F`) -/
def ClosedSublevels (f : E → ℝ) (G : Fn E) : Prop := ∀ c : ℝ, IsClosed {x : E | x ∈ G.dom ∧ f x + G.val x ≤ c}

theorem fista_cluster_min (p : PGMParams Unit ℝ E) {G : Fn E} {L : ℝ} (h : FISTAHyp p G L) {xb : E}
    (hmin : IsMinOn p.f G xb) (hcl : ClosedSublevels p.f G)
    (s : APGMState Unit ℝ E) (hsL : s.L = L) (ht : s.t = 1) (hv : s.v = s.x)
    (φ : ℕ → ℕ) (hφ : StrictMono φ) (xc : E)
    (hlim : Filter.Tendsto (fun k => (iter (apgmSpecStep p) (φ k) s).x) Filter.atTop (nhds xc)) :
    IsMinOn p.f G xc := by
  -- F(x_{k+1}) − F* ≤ 2 L R² / (k+2)² → 0
  have hrate := fun k => fista_rate p h xb hmin.1 s hsL ht hv k
  have hsub : ∀ ε : ℝ, 0 < ε → xc ∈ {x : E | x ∈ G.dom ∧ p.f x + G.val x ≤ (p.f xb + G.val xb) + ε} := by
    intro ε hε
    apply (hcl _).mem_of_tendsto hlim
    have hev : ∀ᶠ k : ℕ in Filter.atTop, 2 * L * ‖s.x - xb‖ ^ 2 / ((k : ℝ) + 2) ^ 2 < ε :=
      (tendsto_const_div_sq _).eventually (gt_mem_nhds hε)
    obtain ⟨K, hK⟩ := Filter.eventually_atTop.1 hev
    refine Filter.eventually_atTop.2 ⟨K + 1, fun k hk => ?_⟩
    have hφk : K + 1 ≤ φ k := le_trans hk (hφ.id_le k)
    obtain ⟨j, hj⟩ : ∃ j, φ k = j + 1 := ⟨φ k - 1, by omega⟩
    have hjK : K ≤ j := by omega
    constructor
    · show (iter (apgmSpecStep p) (φ k) s).x ∈ G.dom
      rw [hj]; exact fista_iter_dom p h hmin.1 s hsL ht j
    · show p.f (iter (apgmSpecStep p) (φ k) s).x + G.val (iter (apgmSpecStep p) (φ k) s).x ≤ _
      rw [hj]
      have := hrate j
      have := hK j hjK
      linarith
  refine ⟨(hsub 1 one_pos).1, fun y hy => ?_⟩
  have hle : p.f xc + G.val xc ≤ p.f xb + G.val xb := by
    apply le_of_forall_pos_le_add
    intro ε hε
    exact (hsub ε hε).2
  exact le_trans hle (hmin.2 y hy)

theorem fista_subseq [ProperSpace E] (p : PGMParams Unit ℝ E) {G : Fn E} {L : ℝ} (h : FISTAHyp p G L) {xb : E}
    (hmin : IsMinOn p.f G xb) (hcl : ClosedSublevels p.f G)
    (s : APGMState Unit ℝ E) (hsL : s.L = L) (ht : s.t = 1) (hv : s.v = s.x) :
    ∃ xc, IsMinOn p.f G xc ∧ ∃ φ : ℕ → ℕ, StrictMono φ ∧
      Filter.Tendsto (fun k => (iter (apgmSpecStep p) (φ k) s).x) Filter.atTop (nhds xc) := by
  have hbdd : Bornology.IsBounded (Set.range fun k => (iter (apgmSpecStep p) k s).x) := by
    apply (Metric.isBounded_iff_subset_closedBall xb).2
    refine ⟨‖s.x - xb‖, ?_⟩
    rintro _ ⟨k, rfl⟩
    rw [Metric.mem_closedBall, dist_eq_norm]
    exact fista_ball p h hmin s hsL ht hv k
  obtain ⟨xc, _, φ, hφ, hlim⟩ := tendsto_subseq_of_bounded hbdd (fun k => Set.mem_range_self k)
  exact ⟨xc, fista_cluster_min p h hmin hcl s hsL ht hv φ hφ xc hlim, φ, hφ, hlim⟩

theorem fista_unique_tendsto [ProperSpace E] (p : PGMParams Unit ℝ E) {G : Fn E} {L : ℝ} (h : FISTAHyp p G L) {xb : E}
    (hmin : IsMinOn p.f G xb) (huniq : ∀ y, IsMinOn p.f G y → y = xb) (hcl : ClosedSublevels p.f G)
    (s : APGMState Unit ℝ E) (hsL : s.L = L) (ht : s.t = 1) (hv : s.v = s.x) :
    Filter.Tendsto (fun k => (iter (apgmSpecStep p) k s).x) Filter.atTop (nhds xb) := by
  have hcomp : IsCompact (Metric.closedBall xb ‖s.x - xb‖) := isCompact_closedBall _ _
  apply hcomp.tendsto_nhds_of_unique_mapClusterPt
  · exact Filter.Eventually.of_forall (fun k => by
      rw [Metric.mem_closedBall, dist_eq_norm]; exact fista_ball p h hmin s hsL ht hv k)
  · intro y _ hy
    obtain ⟨φ, hφ, hlim⟩ := hy.tendsto_subseq
    exact huniq y (fista_cluster_min p h hmin hcl s hsL ht hv φ hφ y hlim)

end Scico.Steps
