/-
  Membership of pinned rows in an extracted table, checked without evaluating `==` on strings.  The kernel has to
  encode a string literal in UTF-8, character by character, before it can compare it with another string, which
  makes a sweep `expected.all (got.contains ·)` over source text dear; a literal compared with itself as a term costs
  nothing.  So the translators print, as data, where in the extracted table each pinned row stands, and `rfl`
  compares the rows picked at these positions with the pinned ones, literal against literal.  A pinned row that is
  missing gets a position outside the table, the picked list comes out shorter, and `rfl` fails.  Core only.
-/

namespace Scico.Tables

variable {β : Type} [BEq β] [LawfulBEq β]

theorem all_contains_of_pick {expected got : List β} (idx : List Nat)
    (h : expected = idx.filterMap (got[·]?)) : expected.all (got.contains ·) = true := by
  subst h
  simp only [List.all_eq_true, List.mem_filterMap, List.contains_iff_mem]
  rintro e ⟨i, -, hi⟩
  exact List.mem_of_getElem? hi

/-- every element of `l` stands in `a` or in `b`: at the listed positions of `a ++ b` -/
theorem all_contains_or_of_pick {l a b : List β} (idx : List Nat) (h : l = idx.filterMap ((a ++ b)[·]?)) :
    l.all (fun n => a.contains n || b.contains n) = true := by
  have := all_contains_of_pick idx h
  simpa only [List.all_eq_true, List.contains_iff_mem, List.mem_append, Bool.or_eq_true] using this

/-- … which also says that what of `l` is not in `a` stands in `b` -/
theorem filter_all_contains_of_pick {l a b : List β} (idx : List Nat) (h : l = idx.filterMap ((a ++ b)[·]?)) :
    (l.filter (fun n => !a.contains n)).all (b.contains ·) = true := by
  have := List.all_eq_true.1 (all_contains_or_of_pick idx h)
  simp only [List.all_eq_true, List.mem_filter, Bool.not_eq_true', and_imp]
  intro n hn hna
  simpa only [hna, Bool.false_or] using this n hn

end Scico.Tables
