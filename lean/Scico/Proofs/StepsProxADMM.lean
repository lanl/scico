/-
  Proofs/StepsProxADMM — Lyapunov functions of proximal ADMM (`ProximalADMM`, general `B`, `c`) and of
  linearized ADMM (`LinearizedADMM`) under the documented parameter constraints
  `μ ≥ ‖A‖²`, `ν ≥ ‖B‖²` (resp. `μ ‖C‖² ≤ ν`).

  `ProximalADMM.step` is ADMM with the proximal terms `P = ρ(μ I − AᵀA)`, `Q = ρ(ν I − BᵀB)` added to the
  x- and z-sub-problems (on states with `u − u_old = A x + B z − c`, which holds after every step).  With
  `‖a‖²_P = ρ(μ‖a‖² − ‖A a‖²)`, `‖b‖²_Q = ρ(ν‖b‖² − ‖B b‖²)` the function

      Ψ = ρ‖u − u*‖² + ‖x − x*‖²_P + ρν‖z − z*‖² + ‖z − z_old‖²_Q

  satisfies  `Ψ⁺ + ‖x⁺ − x‖²_P + ρν‖z⁺ − z‖² + ρ‖u⁺ − u‖² ≤ Ψ`  along the documented iteration: `padmm_step_ineq` derives it
  from the monotonicity of `∂f`, `∂g` at the points of one step, `padmm_core` is the inner-product algebra behind it.
  `LinearizedADMM` is the instance `A = C`, `B = −I`, `c = 0`, `ρ = 1/ν`, `μ ↦ ν/μ`, `ν ↦ 1` (`Q = 0`) of `ProximalADMM`
  (`LADMMParams.toPADMM`, `ladmm_step_toPADMM`); its statements are transported along that map.
  (Convergence of the iterates, `StepsOpialPADMM`, needs `μ > ‖A‖²` strictly: with `μ = ‖A‖²` the form `‖·‖_P` does not see `x`.)
-/
import Scico.Proofs.StepsFixed
import Scico.Proofs.StepsIter
import Mathlib.Tactic.Abel

namespace Scico.Steps

variable {X Z U : Type} [NormedAddCommGroup X] [InnerProductSpace ℝ X]
  [NormedAddCommGroup Z] [InnerProductSpace ℝ Z] [NormedAddCommGroup U] [InnerProductSpace ℝ U]

/-- the inner-product algebra of the proximal-ADMM Lyapunov argument: `e• = • − •*` before the step and `e•'` after it,
    `d• = •⁺ − •`, `dzo = z − z_old`; `a1, a2, a1'` stand for `A ex, A dx, A ex'` and `b1, b2, b3, b1'` for
    `B ez, B dz, B dzo, B ez'` -/
theorem padmm_core {rho mu nu m : ℝ} (hrho : 0 < rho)
    {ex dx ex' : X} {ez dz dzo ez' : Z} {eu du eu' a1 a2 a1' b1 b2 b3 b1' : U}
    (hx : ex' = ex + dx) (hz : ez' = ez + dz) (hu : eu' = eu + du) (hd : du = a1' + b1')
    (ha : a1' = a1 + a2) (hb : b1' = b1 + b2)
    (hMx : m * ⟪ex', ex'⟫ ≤ -(rho * mu * ⟪dx, ex'⟫) - rho * ⟪eu + a1 + b1, a1'⟫)
    (hMz : 0 ≤ -(rho * nu * ⟪dz, ez'⟫) - rho * ⟪eu + a1' + b1, b1'⟫)
    (hMc : 0 ≤ -(rho * nu * ⟪dz - dzo, dz⟫) - rho * ⟪a1' + b1 + b3, b2⟫)
    (hQ : ⟪b3 - b2, b3 - b2⟫ ≤ nu * ⟪dzo - dz, dzo - dz⟫) :
    (rho * ⟪eu', eu'⟫ + rho * (mu * ⟪ex', ex'⟫ - ⟪a1', a1'⟫) + rho * nu * ⟪ez', ez'⟫ + rho * (nu * ⟪dz, dz⟫ - ⟪b2, b2⟫))
      + (rho * (mu * ⟪dx, dx⟫ - ⟪a2, a2⟫) + rho * nu * ⟪dz, dz⟫ + rho * ⟪du, du⟫) + 2 * (m * ⟪ex', ex'⟫)
    ≤ rho * ⟪eu, eu⟫ + rho * (mu * ⟪ex, ex⟫ - ⟪a1, a1⟫) + rho * nu * ⟪ez, ez⟫ + rho * (nu * ⟪dzo, dzo⟫ - ⟪b3, b3⟫) := by
  subst hx hz hu hd ha hb
  have hQ' := mul_le_mul_of_nonneg_left hQ hrho.le
  simp only [inner_add_left, inner_add_right, inner_sub_left, inner_sub_right] at hMx hMz hMc hQ' ⊢
  simp only [real_inner_comm eu a1, real_inner_comm eu a2, real_inner_comm eu b1, real_inner_comm eu b2,
    real_inner_comm a1 a2, real_inner_comm a1 b1, real_inner_comm a1 b2, real_inner_comm a2 b1, real_inner_comm a2 b2,
    real_inner_comm b1 b2, real_inner_comm b2 b3, real_inner_comm ez dz, real_inner_comm dz dzo, real_inner_comm ex dx]
    at hMx hMz hMc hQ' ⊢
  linear_combination 2 * hMx + 2 * hMz + 2 * hMc + hQ'

/-- problem-level hypotheses: documented problem class, KKT point, documented parameter constraints -/
structure PADMMHyp (p : PADMMParams ℝ X Z U) (F : Fn X) (G : Fn Z) (xs : X) (zs : Z) (us : U) : Prop where
  rho : 0 < p.rho
  mu : 0 < p.mu
  nu : 0 < p.nu
  addA : ∀ x y, p.A (x + y) = p.A x + p.A y
  addB : ∀ x y, p.B (x + y) = p.B x + p.B y
  adjA : ∀ w x, ⟪p.AH w, x⟫ = ⟪w, p.A x⟫
  adjB : ∀ w z, ⟪p.BH w, z⟫ = ⟪w, p.B z⟫
  proxf : IsProx F p.proxf
  proxg : IsProx G p.proxg
  feas : p.A xs + p.B zs = p.c
  kktx : F.Subgrad xs (-(p.rho • p.AH us))
  kktz : G.Subgrad zs (-(p.rho • p.BH us))
  /-- `ν ≥ ‖B‖²` -/
  bdB : ∀ w, ‖p.B w‖ ^ 2 ≤ p.nu * ‖w‖ ^ 2
  /-- `μ ≥ ‖A‖²` -/
  bdA : ∀ w, ‖p.A w‖ ^ 2 ≤ p.mu * ‖w‖ ^ 2

/-- the problem class alone: what `PADMMHyp` asks that mentions neither a KKT point nor the operator norms (additivity of
    `A`, `B` follows from the adjoints, `add_of_adj`) -/
structure PADMMClass (p : PADMMParams ℝ X Z U) (F : Fn X) (G : Fn Z) : Prop where
  rho : 0 < p.rho
  mu : 0 < p.mu
  nu : 0 < p.nu
  adjA : ∀ w x, ⟪p.AH w, x⟫ = ⟪w, p.A x⟫
  adjB : ∀ w z, ⟪p.BH w, z⟫ = ⟪w, p.B z⟫
  proxf : IsProx F p.proxf
  proxg : IsProx G p.proxg

theorem PADMMHyp.cls {p : PADMMParams ℝ X Z U} {F : Fn X} {G : Fn Z} {xs : X} {zs : Z} {us : U}
    (H : PADMMHyp p F G xs zs us) : PADMMClass p F G :=
  ⟨H.rho, H.mu, H.nu, H.adjA, H.adjB, H.proxf, H.proxg⟩

theorem PADMMClass.hyp {p : PADMMParams ℝ X Z U} {F : Fn X} {G : Fn Z} (C : PADMMClass p F G) {xs : X} {zs : Z} {us : U}
    (feas : p.A xs + p.B zs = p.c) (kktx : F.Subgrad xs (-(p.rho • p.AH us))) (kktz : G.Subgrad zs (-(p.rho • p.BH us)))
    (bdB : ∀ w, ‖p.B w‖ ^ 2 ≤ p.nu * ‖w‖ ^ 2) (bdA : ∀ w, ‖p.A w‖ ^ 2 ≤ p.mu * ‖w‖ ^ 2) : PADMMHyp p F G xs zs us :=
  ⟨C.rho, C.mu, C.nu, add_of_adj C.adjA, add_of_adj C.adjB, C.adjA, C.adjB, C.proxf, C.proxg, feas, kktx, kktz, bdB, bdA⟩

/-- what every state produced by `step()` satisfies: `i1` the multiplier update, `i2` the certificate of the z-update that
    produced `s.z` (what `padmm_step_ineq` compares the next z-update with) -/
structure PADMMInv (p : PADMMParams ℝ X Z U) (G : Fn Z) (s : PADMMState X Z U) : Prop where
  i1 : s.u = s.uOld + p.A s.x + p.B s.z - p.c
  i2 : G.Subgrad s.z ((p.rho * p.nu) • (s.zOld - s.z) - p.rho • p.BH (p.A s.x + p.B s.zOld - p.c + s.uOld))

noncomputable def padmmPsi (p : PADMMParams ℝ X Z U) (xs : X) (zs : Z) (us : U) (s : PADMMState X Z U) : ℝ :=
  p.rho * ‖s.u - us‖ ^ 2 + p.rho * (p.mu * ‖s.x - xs‖ ^ 2 - ‖p.A (s.x - xs)‖ ^ 2) + p.rho * p.nu * ‖s.z - zs‖ ^ 2
    + p.rho * (p.nu * ‖s.z - s.zOld‖ ^ 2 - ‖p.B (s.z - s.zOld)‖ ^ 2)

noncomputable def padmmDiss (p : PADMMParams ℝ X Z U) (s s' : PADMMState X Z U) : ℝ :=
  p.rho * (p.mu * ‖s'.x - s.x‖ ^ 2 - ‖p.A (s'.x - s.x)‖ ^ 2) + p.rho * p.nu * ‖s'.z - s.z‖ ^ 2
    + p.rho * ‖s'.u - s.u‖ ^ 2

/-- the certificate `(1/λ)(v − p)` of a proximal step `p = prox_λ(x − b⁻¹ w)` at `λ = 1/(ab)`, cleared of the inverses … -/
theorem smul_inv_mul_sub (a b : ℝ) (hb : 0 < b) {E : Type} [NormedAddCommGroup E] [InnerProductSpace ℝ E] (x xn w : E) :
    (1 / (a⁻¹ * b⁻¹)) • (x - b⁻¹ • w - xn) = (a * b) • (x - xn) - a • w := by
  rw [one_div, mul_inv, inv_inv, inv_inv, sub_right_comm, smul_sub, smul_smul, mul_inv_cancel_right₀ hb.ne']

/-- … and that certificate `ρc d − ρ Tᴴw` against a direction `e`, read in the constraint space -/
theorem inner_cert {V W : Type} [NormedAddCommGroup V] [InnerProductSpace ℝ V] [NormedAddCommGroup W]
    [InnerProductSpace ℝ W] {T : V → W} {TH : W → V} (hadj : ∀ w x, ⟪TH w, x⟫ = ⟪w, T x⟫) (r c : ℝ) (d e : V) (w : W) :
    ⟪(r * c) • d - r • TH w, e⟫ = r * c * ⟪d, e⟫ - r * ⟪w, T e⟫ := by
  rw [inner_sub_left, real_inner_smul_left, real_inner_smul_left, hadj]

section PADMM
variable {p : PADMMParams ℝ X Z U} {F : Fn X} {G : Fn Z} {xs : X} {zs : Z} {us : U}

theorem padmm_inv_step (C : PADMMClass p F G) (s : PADMMState X Z U) : PADMMInv p G (padmmSpecStep p s) := by
  have hrho := C.rho
  have hnu := C.nu
  refine ⟨rfl, ?_⟩
  have := C.proxg (p.rho⁻¹ * p.nu⁻¹) (by positivity)
    (s.z - p.nu⁻¹ • p.BH (p.A (padmmSpecStep p s).x + p.B s.z - p.c + s.u))
  rw [smul_inv_mul_sub p.rho p.nu hnu] at this
  exact this

theorem padmm_x_subgrad (C : PADMMClass p F G) (s : PADMMState X Z U) :
    F.Subgrad (padmmSpecStep p s).x
      ((p.rho * p.mu) • (s.x - (padmmSpecStep p s).x) - p.rho • p.AH ((2 : ℝ) • s.u - s.uOld)) := by
  have hrho := C.rho
  have hmu := C.mu
  have := C.proxf (p.rho⁻¹ * p.mu⁻¹) (by positivity) (s.x - p.mu⁻¹ • p.AH ((2 : ℝ) • s.u - s.uOld))
  rwa [smul_inv_mul_sub p.rho p.mu hmu] at this

/-- the Lyapunov inequality between two states related like the states before and after a step, from the three
    monotonicity inequalities the two proximal maps yield (against the KKT point, and for `g` against the previous step) -/
theorem padmm_step_ineq {p : PADMMParams ℝ X Z U} {F : Fn X} {G : Fn Z} {xs : X} {zs : Z} {us : U}
    (H : PADMMHyp p F G xs zs us) {m : ℝ} {s s' : PADMMState X Z U} (hu : s.u = s.uOld + p.A s.x + p.B s.z - p.c)
    (hu' : s'.u = s.u + p.A s'.x + p.B s'.z - p.c) (hzo : s'.zOld = s.z)
    (mx : m * ‖s'.x - xs‖ ^ 2
      ≤ ⟪(p.rho * p.mu) • (s.x - s'.x) - p.rho • p.AH ((2 : ℝ) • s.u - s.uOld) - -(p.rho • p.AH us), s'.x - xs⟫)
    (mz : 0 ≤ ⟪(p.rho * p.nu) • (s.z - s'.z) - p.rho • p.BH (p.A s'.x + p.B s.z - p.c + s.u) - -(p.rho • p.BH us),
      s'.z - zs⟫)
    (mc : 0 ≤ ⟪(p.rho * p.nu) • (s.z - s'.z) - p.rho • p.BH (p.A s'.x + p.B s.z - p.c + s.u)
      - ((p.rho * p.nu) • (s.zOld - s.z) - p.rho • p.BH (p.A s.x + p.B s.zOld - p.c + s.uOld)), s'.z - s.z⟫) :
    padmmPsi p xs zs us s' + padmmDiss p s s' + 2 * (m * ‖s'.x - xs‖ ^ 2) ≤ padmmPsi p xs zs us s := by
  have subA := map_sub_of_add H.addA
  have subB := map_sub_of_add H.addB
  have hc := H.feas
  unfold padmmPsi padmmDiss
  rw [hzo]
  simp only [← real_inner_self_eq_norm_sq] at mx ⊢
  refine padmm_core H.rho (ex := s.x - xs) (dx := s'.x - s.x) (ez := s.z - zs) (dz := s'.z - s.z) (dzo := s.z - s.zOld)
    (eu := s.u - us) (a1 := p.A (s.x - xs)) (a2 := p.A (s'.x - s.x)) (b1 := p.B (s.z - zs)) (b2 := p.B (s'.z - s.z))
    (b3 := p.B (s.z - s.zOld)) (b1' := p.B (s'.z - zs)) (by abel) (by abel) (by abel) ?_ ?_ ?_ ?_ ?_ ?_ ?_
  · rw [hu', subA, subB, ← hc]; abel
  · rw [← H.addA]; congr 1; abel
  · rw [← H.addB]; congr 1; abel
  · have e : (2 : ℝ) • s.u - s.uOld - us = s.u - us + p.A (s.x - xs) + p.B (s.z - zs) := by
      rw [subA, subB, two_smul, hu, ← hc]; abel
    rw [sub_neg_eq_add, inner_add_left, inner_cert H.adjA, real_inner_smul_left, H.adjA, ← neg_sub s'.x s.x,
      inner_neg_left] at mx
    rw [← e, inner_sub_left _ us]
    linarith
  · have e : p.A s'.x + p.B s.z - p.c + s.u - us = s.u - us + p.A (s'.x - xs) + p.B (s.z - zs) := by
      rw [subA, subB, ← hc]; abel
    rw [sub_neg_eq_add, inner_add_left, inner_cert H.adjB, real_inner_smul_left, H.adjB, ← neg_sub s'.z s.z,
      inner_neg_left] at mz
    rw [← e, inner_sub_left _ us]
    linarith
  · have e : p.A s'.x + p.B s.z - p.c + s.u - (p.A s.x + p.B s.zOld - p.c + s.uOld)
        = p.A (s'.x - xs) + p.B (s.z - zs) + p.B (s.z - s.zOld) := by
      rw [subA, subB, subB, hu, ← hc]; abel
    rw [inner_sub_left, inner_cert H.adjB, inner_cert H.adjB, ← neg_sub s'.z s.z, ← neg_sub s.z s.zOld, inner_neg_left,
      inner_neg_left] at mc
    rw [← e, inner_sub_left _ (p.A s.x + p.B s.zOld - p.c + s.uOld), inner_sub_left]
    linarith
  · rw [real_inner_self_eq_norm_sq, real_inner_self_eq_norm_sq, ← subB]; exact H.bdB _

theorem padmm_lyapunov_step_strong (H : PADMMHyp p F G xs zs us) {m : ℝ} (hsm : StrongSub F m) (s : PADMMState X Z U)
    (hI : PADMMInv p G s) :
    padmmPsi p xs zs us (padmmSpecStep p s) + padmmDiss p s (padmmSpecStep p s)
        + 2 * (m * ‖(padmmSpecStep p s).x - xs‖ ^ 2) ≤ padmmPsi p xs zs us s := by
  have cz := (padmm_inv_step H.cls s).i2
  exact padmm_step_ineq H hI.i1 rfl rfl (hsm _ _ _ _ (padmm_x_subgrad H.cls s) H.kktx)
    (Fn.subgrad_monotone cz H.kktz) (Fn.subgrad_monotone cz hI.i2)

theorem padmm_lyapunov_step (H : PADMMHyp p F G xs zs us) (s : PADMMState X Z U) (hI : PADMMInv p G s) :
    padmmPsi p xs zs us (padmmSpecStep p s) + padmmDiss p s (padmmSpecStep p s) ≤ padmmPsi p xs zs us s := by
  have := padmm_lyapunov_step_strong H (strongSub_zero F) s hI
  simpa using this

theorem padmmPsi_nonneg (H : PADMMHyp p F G xs zs us) (s : PADMMState X Z U) : 0 ≤ padmmPsi p xs zs us s :=
  have hr := H.rho.le
  add_nonneg (add_nonneg (add_nonneg (mul_nonneg hr (sq_nonneg _)) (mul_nonneg hr (sub_nonneg.2 (H.bdA _))))
    (mul_nonneg (mul_nonneg hr H.nu.le) (sq_nonneg _))) (mul_nonneg hr (sub_nonneg.2 (H.bdB _)))

theorem padmmDiss_lower (H : PADMMHyp p F G xs zs us) (s s' : PADMMState X Z U) :
    p.rho * p.nu * ‖s'.z - s.z‖ ^ 2 + p.rho * ‖s'.u - s.u‖ ^ 2 ≤ padmmDiss p s s' := by
  unfold padmmDiss
  linarith [mul_nonneg H.rho.le (sub_nonneg.2 (H.bdA (s'.x - s.x)))]

theorem padmmDiss_nonneg (H : PADMMHyp p F G xs zs us) (s s' : PADMMState X Z U) : 0 ≤ padmmDiss p s s' := by
  linarith [padmmDiss_lower H s s', mul_nonneg (mul_pos H.rho H.nu).le (sq_nonneg ‖s'.z - s.z‖),
    mul_nonneg H.rho.le (sq_nonneg ‖s'.u - s.u‖)]

theorem padmm_descent (H : PADMMHyp p F G xs zs us) :
    Descent (padmmSpecStep p) (PADMMInv p G) (padmmPsi p xs zs us) (fun s => padmmDiss p s (padmmSpecStep p s)) :=
  ⟨fun s _ => padmm_inv_step H.cls s, fun s _ => padmmPsi_nonneg H s,
    fun _ _ => padmmDiss_nonneg H _ _, padmm_lyapunov_step H⟩

theorem padmm_descent_strong (H : PADMMHyp p F G xs zs us) {m : ℝ} (hm : 0 ≤ m) (hsm : StrongSub F m) :
    Descent (padmmSpecStep p) (PADMMInv p G) (padmmPsi p xs zs us)
      (fun s => 2 * (m * ‖(padmmSpecStep p s).x - xs‖ ^ 2)) :=
  ⟨fun s _ => padmm_inv_step H.cls s, fun s _ => padmmPsi_nonneg H s,
    fun s _ => mul_nonneg zero_le_two (mul_nonneg hm (sq_nonneg _)),
    fun s hI => by linarith [padmm_lyapunov_step_strong H hsm s hI, padmmDiss_nonneg H s (padmmSpecStep p s)]⟩

theorem padmm_increments_tendsto (H : PADMMHyp p F G xs zs us) (s : PADMMState X Z U) (hI : PADMMInv p G s) :
    Filter.Tendsto (fun k => ‖(iter (padmmSpecStep p) (k + 1) s).u - (iter (padmmSpecStep p) k s).u‖)
      Filter.atTop (nhds 0) ∧
    Filter.Tendsto (fun k => ‖(iter (padmmSpecStep p) (k + 1) s).z - (iter (padmmSpecStep p) k s).z‖)
      Filter.atTop (nhds 0) := by
  have hrn := mul_pos H.rho H.nu
  simp only [iter_succ']
  exact ⟨(padmm_descent H).tendsto_of_mul_sq_le hI (g := fun s => ‖(padmmSpecStep p s).u - s.u‖) H.rho
      (fun _ _ => norm_nonneg _) fun s _ =>
        (le_add_of_nonneg_left (mul_nonneg hrn.le (sq_nonneg _))).trans (padmmDiss_lower H _ _),
    (padmm_descent H).tendsto_of_mul_sq_le hI (g := fun s => ‖(padmmSpecStep p s).z - s.z‖) hrn
      (fun _ _ => norm_nonneg _) fun s _ =>
        (le_add_of_nonneg_right (mul_nonneg H.rho.le (sq_nonneg _))).trans (padmmDiss_lower H _ _)⟩

/-- after a step `norm_primal_residual()` is the increment of `u` (`u⁺ − u = A x⁺ + B z⁺ − c`), and the fast form of
    `norm_dual_residual()` the increment of `z` -/
theorem padmm_residuals_step (p : PADMMParams ℝ X Z U) (hnu : p.normU = fun v => ‖v‖) (hnz : p.normZ = fun v => ‖v‖)
    (hfast : p.fastDual = true) (t : PADMMState X Z U) :
    padmmNormPrimalImpl p (padmmSpecStep p t) none none = .ok ‖(padmmSpecStep p t).u - t.u‖ ∧
    padmmNormDualImpl p (padmmSpecStep p t) = ‖(padmmSpecStep p t).z - t.z‖ := by
  constructor
  · show Except.ok (p.normU (p.A (padmmSpecStep p t).x + p.B (padmmSpecStep p t).z - p.c))
      = .ok ‖t.u + p.A (padmmSpecStep p t).x + p.B (padmmSpecStep p t).z - p.c - t.u‖
    rw [hnu, add_assoc t.u, add_sub_assoc t.u, add_sub_cancel_left]
  · unfold padmmNormDualImpl
    rw [hfast, hnz]
    rfl

/-- `k + 2`: the first step establishes the invariant, the second is the first whose increment the dissipation bounds;
    `norm_dual_residual()` in its fast form only (`‖z − z_old‖`) -/
theorem padmm_residuals_tendsto (H : PADMMHyp p F G xs zs us) (hnu : p.normU = fun v => ‖v‖)
    (hnz : p.normZ = fun v => ‖v‖) (hfast : p.fastDual = true) (s : PADMMState X Z U) :
    (∃ r : ℕ → ℝ, (∀ k, padmmNormPrimalImpl p (iter (padmmSpecStep p) (k + 2) s) none none = .ok (r k)) ∧
      Filter.Tendsto r Filter.atTop (nhds 0)) ∧
    Filter.Tendsto (fun k => padmmNormDualImpl p (iter (padmmSpecStep p) (k + 2) s)) Filter.atTop (nhds 0) := by
  obtain ⟨hu, hz⟩ := padmm_increments_tendsto H (padmmSpecStep p s) (padmm_inv_step H.cls s)
  simp only [iter_succ'] at hu hz
  refine ⟨⟨_, fun k => ?_, hu⟩, hz.congr fun k => ?_⟩
  · rw [iter_succ']; exact (padmm_residuals_step p hnu hnz hfast _).1
  · rw [iter_succ']; exact (padmm_residuals_step p hnu hnz hfast _).2.symm

theorem padmm_x_tendsto (H : PADMMHyp p F G xs zs us) {m : ℝ} (hm : 0 < m) (hsm : StrongSub F m)
    (s : PADMMState X Z U) :
    Filter.Tendsto (fun k => (iter (padmmSpecStep p) k s).x) Filter.atTop (nhds xs) := by
  -- from the first iterate on, which satisfies the invariant
  exact (Filter.tendsto_add_atTop_iff_nat 1).1 ((padmm_descent_strong H hm.le hsm).tendsto_of_mul_sq_dist_le
    (padmm_inv_step H.cls s) (π := PADMMState.x) (by positivity : 0 < 2 * m) fun _ _ => (mul_assoc _ _ _).le)

end PADMM

/-- documented problem class of LinearizedADMM with a KKT point in the scaled multiplier `u* = ν y*` -/
structure LADMMHyp (p : LADMMParams ℝ X Z) (F : Fn X) (G : Fn Z) (xs : X) (us : Z) : Prop where
  mu : 0 < p.mu
  nu : 0 < p.nu
  add : ∀ x y, p.C (x + y) = p.C x + p.C y
  adj : ∀ w x, ⟪p.Cadj w, x⟫ = ⟪w, p.C x⟫
  proxf : IsProx F p.proxf
  proxg : IsProx G p.proxg
  kktx : F.Subgrad xs (-((1 / p.nu) • p.Cadj us))
  kktz : G.Subgrad (p.C xs) ((1 / p.nu) • us)
  /-- documented constraint `μ ‖C‖² ≤ ν` -/
  bd : ∀ w, ‖p.C w‖ ^ 2 ≤ p.nu / p.mu * ‖w‖ ^ 2

/-- `V = (1/ν)(‖u − u*‖² + ‖z − Cx*‖²) + (1/μ)‖x − x*‖² − (1/ν)‖C(x − x*)‖²` -/
noncomputable def ladmmV (p : LADMMParams ℝ X Z) (xs : X) (us : Z) (s : LADMMState X Z) : ℝ :=
  1 / p.nu * ‖s.u - us‖ ^ 2 + 1 / p.nu * ‖s.z - p.C xs‖ ^ 2
    + 1 / p.nu * (p.nu / p.mu * ‖s.x - xs‖ ^ 2 - ‖p.C (s.x - xs)‖ ^ 2)

noncomputable def ladmmDiss (p : LADMMParams ℝ X Z) (s s' : LADMMState X Z) : ℝ :=
  1 / p.nu * (p.nu / p.mu * ‖s'.x - s.x‖ ^ 2 - ‖p.C (s'.x - s.x)‖ ^ 2) + 1 / p.nu * ‖s'.z - s.z‖ ^ 2
    + 1 / p.nu * ‖s'.u - s.u‖ ^ 2

theorem ladmm_feasible_step (p : LADMMParams ℝ X Z) (G : Fn Z) (hnu : 0 < p.nu) (hg : IsProx G p.proxg)
    (s : LADMMState X Z) : G.Subgrad (ladmmSpecStep p s).z ((1 / p.nu) • (ladmmSpecStep p s).u) := by
  have := hg p.nu hnu (p.C (ladmmSpecStep p s).x + s.u)
  have e : p.C (ladmmSpecStep p s).x + s.u - p.proxg p.nu (p.C (ladmmSpecStep p s).x + s.u) = (ladmmSpecStep p s).u := by
    show _ = s.u + p.C (ladmmSpecStep p s).x - p.proxg p.nu (p.C (ladmmSpecStep p s).x + s.u)
    abel
  rw [e] at this
  exact this

section LADMM
variable {p : LADMMParams ℝ X Z} {F : Fn X} {G : Fn Z} {xs : X} {us : Z}

/-- `LinearizedADMM` as the `ProximalADMM` with `A = C`, `B = −I`, `c = 0`, `ρ = 1/ν`, `μ ↦ ν/μ`, `ν ↦ 1` -/
noncomputable def LADMMParams.toPADMM (p : LADMMParams ℝ X Z) : PADMMParams ℝ X Z Z where
  f := p.f
  g := p.g
  proxf := p.proxf
  proxg := p.proxg
  A := p.C
  AH := p.Cadj
  B := fun z => -z
  BH := fun u => -u
  c := 0
  rho := 1 / p.nu
  mu := p.nu / p.mu
  nu := 1
  fastDual := true
  normX := p.normX
  normZ := p.normZ
  normU := p.normZ

/-- … on states with `u − u_old = C x − z` -/
def LADMMState.toPADMM (p : LADMMParams ℝ X Z) (s : LADMMState X Z) : PADMMState X Z Z :=
  { x := s.x, z := s.z, zOld := s.zOld, u := s.u, uOld := s.u - (p.C s.x - s.z) }

omit [NormedAddCommGroup X] [InnerProductSpace ℝ X] [InnerProductSpace ℝ Z] in
/-- the two proximal parameters of the instance are those of `LinearizedADMM`: `ρ⁻¹μ⁻¹ = μ_L` … -/
theorem LADMMParams.toPADMM_proxf_param (hmu : 0 < p.mu) (hnu : 0 < p.nu) :
    p.toPADMM.rho⁻¹ * p.toPADMM.mu⁻¹ = p.mu := by
  show (1 / p.nu)⁻¹ * (p.nu / p.mu)⁻¹ = p.mu
  field_simp

omit [NormedAddCommGroup X] [InnerProductSpace ℝ X] [InnerProductSpace ℝ Z] in
/-- … and `ρ⁻¹ν⁻¹ = ν_L` -/
theorem LADMMParams.toPADMM_proxg_param : p.toPADMM.rho⁻¹ * p.toPADMM.nu⁻¹ = p.nu := by
  show (1 / p.nu)⁻¹ * (1 : ℝ)⁻¹ = p.nu
  rw [inv_one, mul_one, one_div, inv_inv]

theorem ladmm_step_toPADMM (hmu : 0 < p.mu) (hnu : 0 < p.nu) (s : LADMMState X Z) :
    (ladmmSpecStep p s).toPADMM p = padmmSpecStep p.toPADMM (s.toPADMM p) := by
  have h2 : (2 : ℝ) • s.u - (s.u - (p.C s.x - s.z)) = p.C s.x - s.z + s.u := by rw [two_smul]; abel
  have hx : (padmmSpecStep p.toPADMM (s.toPADMM p)).x = (ladmmSpecStep p s).x := by
    show p.proxf (p.toPADMM.rho⁻¹ * p.toPADMM.mu⁻¹)
        (s.x - (p.nu / p.mu)⁻¹ • p.Cadj ((2 : ℝ) • s.u - (s.u - (p.C s.x - s.z))))
      = p.proxf p.mu (s.x - (p.mu / p.nu) • p.Cadj (p.C s.x - s.z + s.u))
    rw [p.toPADMM_proxf_param hmu hnu, h2, inv_div]
  have hz : (padmmSpecStep p.toPADMM (s.toPADMM p)).z = (ladmmSpecStep p s).z := by
    show p.proxg (p.toPADMM.rho⁻¹ * p.toPADMM.nu⁻¹)
        (s.z - (1 : ℝ)⁻¹ • -(p.C (padmmSpecStep p.toPADMM (s.toPADMM p)).x + -s.z - 0 + s.u))
      = p.proxg p.nu (p.C (ladmmSpecStep p s).x + s.u)
    rw [hx, p.toPADMM_proxg_param, inv_one, one_smul]
    congr 1; abel
  have hu : (padmmSpecStep p.toPADMM (s.toPADMM p)).u = (ladmmSpecStep p s).u := by
    show s.u + p.C (padmmSpecStep p.toPADMM (s.toPADMM p)).x + -(padmmSpecStep p.toPADMM (s.toPADMM p)).z - 0
      = s.u + p.C (ladmmSpecStep p s).x - (ladmmSpecStep p s).z
    rw [hx, hz]; abel
  have huo : s.u = (ladmmSpecStep p s).u - (p.C (ladmmSpecStep p s).x - (ladmmSpecStep p s).z) := by
    show s.u = s.u + p.C (ladmmSpecStep p s).x - (ladmmSpecStep p s).z - _
    abel
  show PADMMState.mk _ _ _ _ _ = PADMMState.mk _ _ _ _ _
  rw [PADMMState.mk.injEq]
  exact ⟨hx.symm, hz.symm, rfl, hu.symm, huo.symm⟩

theorem ladmm_step_toPADMM_iter (hmu : 0 < p.mu) (hnu : 0 < p.nu) (k : Nat) (s : LADMMState X Z) :
    (iter (ladmmSpecStep p) k s).toPADMM p = iter (padmmSpecStep p.toPADMM) k (s.toPADMM p) :=
  iter_semiconj (ladmm_step_toPADMM hmu hnu) k s

theorem LADMMParams.toPADMM_class (hmu : 0 < p.mu) (hnu : 0 < p.nu)
    (hadj : ∀ w x, ⟪p.Cadj w, x⟫ = ⟪w, p.C x⟫) (hf : IsProx F p.proxf) (hg : IsProx G p.proxg) :
    PADMMClass p.toPADMM F G where
  rho := one_div_pos.2 hnu
  mu := div_pos hnu hmu
  nu := one_pos
  adjA := hadj
  adjB := fun w z => by show ⟪-w, z⟫ = ⟪w, -z⟫; rw [inner_neg_left, inner_neg_right]
  proxf := hf
  proxg := hg

theorem LADMMHyp.toPADMM (H : LADMMHyp p F G xs us) : PADMMHyp p.toPADMM F G xs (p.C xs) us :=
  (LADMMParams.toPADMM_class H.mu H.nu H.adj H.proxf H.proxg).hyp (add_neg_cancel (p.C xs)) H.kktx
    (by show G.Subgrad (p.C xs) (-((1 / p.nu) • -us)); rw [smul_neg, neg_neg]; exact H.kktz)
    (fun w => by show ‖-w‖ ^ 2 ≤ 1 * ‖w‖ ^ 2; rw [norm_neg, one_mul]) H.bd

omit [NormedAddCommGroup X] [InnerProductSpace ℝ X] in
/-- dual feasibility `u/ν ∈ ∂g(z)` is the invariant of `ProximalADMM` -/
theorem ladmm_inv_toPADMM {s : LADMMState X Z} (hpre : G.Subgrad s.z ((1 / p.nu) • s.u)) :
    PADMMInv p.toPADMM G (s.toPADMM p) := by
  refine ⟨?_, ?_⟩
  · show s.u = s.u - (p.C s.x - s.z) + p.C s.x + -s.z - 0
    abel
  · show G.Subgrad s.z ((1 / p.nu * 1) • (s.zOld - s.z)
      - (1 / p.nu) • -(p.C s.x + -s.zOld - 0 + (s.u - (p.C s.x - s.z))))
    have e : (1 / p.nu * 1) • (s.zOld - s.z) - (1 / p.nu) • -(p.C s.x + -s.zOld - 0 + (s.u - (p.C s.x - s.z)))
        = (1 / p.nu) • s.u := by
      rw [mul_one, ← smul_sub]; congr 1; abel
    rw [e]; exact hpre

omit [InnerProductSpace ℝ X] [InnerProductSpace ℝ Z] in
theorem ladmmV_eq (p : LADMMParams ℝ X Z) (xs : X) (us : Z) (s : LADMMState X Z) :
    ladmmV p xs us s = padmmPsi p.toPADMM xs (p.C xs) us (s.toPADMM p) := by
  show _ = 1 / p.nu * ‖s.u - us‖ ^ 2 + 1 / p.nu * (p.nu / p.mu * ‖s.x - xs‖ ^ 2 - ‖p.C (s.x - xs)‖ ^ 2)
    + 1 / p.nu * 1 * ‖s.z - p.C xs‖ ^ 2 + 1 / p.nu * (1 * ‖s.z - s.zOld‖ ^ 2 - ‖-(s.z - s.zOld)‖ ^ 2)
  rw [norm_neg]; unfold ladmmV; ring

omit [InnerProductSpace ℝ X] [InnerProductSpace ℝ Z] in
theorem ladmmDiss_eq (p : LADMMParams ℝ X Z) (s s' : LADMMState X Z) :
    ladmmDiss p s s' = padmmDiss p.toPADMM (s.toPADMM p) (s'.toPADMM p) := by
  show _ = 1 / p.nu * (p.nu / p.mu * ‖s'.x - s.x‖ ^ 2 - ‖p.C (s'.x - s.x)‖ ^ 2) + 1 / p.nu * 1 * ‖s'.z - s.z‖ ^ 2
    + 1 / p.nu * ‖s'.u - s.u‖ ^ 2
  rw [mul_one]; rfl

theorem ladmm_lyapunov_step (H : LADMMHyp p F G xs us) (s : LADMMState X Z)
    (hpre : G.Subgrad s.z ((1 / p.nu) • s.u)) :
    ladmmV p xs us (ladmmSpecStep p s) + ladmmDiss p s (ladmmSpecStep p s) ≤ ladmmV p xs us s := by
  have h := padmm_lyapunov_step H.toPADMM _ (ladmm_inv_toPADMM hpre)
  rw [← ladmm_step_toPADMM H.mu H.nu] at h
  rwa [ladmmV_eq, ladmmV_eq, ladmmDiss_eq]

theorem ladmmV_nonneg (H : LADMMHyp p F G xs us) (s : LADMMState X Z) : 0 ≤ ladmmV p xs us s := by
  rw [ladmmV_eq]; exact padmmPsi_nonneg H.toPADMM _

theorem ladmmDiss_nonneg (H : LADMMHyp p F G xs us) (s s' : LADMMState X Z) : 0 ≤ ladmmDiss p s s' := by
  rw [ladmmDiss_eq]; exact padmmDiss_nonneg H.toPADMM _ _

theorem ladmm_descent (H : LADMMHyp p F G xs us) :
    Descent (ladmmSpecStep p) (fun s => G.Subgrad s.z ((1 / p.nu) • s.u)) (ladmmV p xs us)
      (fun s => ladmmDiss p s (ladmmSpecStep p s)) :=
  ⟨fun s _ => ladmm_feasible_step p G H.nu H.proxg s, fun s _ => ladmmV_nonneg H s,
    fun _ _ => ladmmDiss_nonneg H _ _, ladmm_lyapunov_step H⟩

/-- the second quantity is `‖z − z_old‖`, not `norm_dual_residual()` = `‖Cᴴ(z − z_old)‖` (which it bounds for bounded `Cᴴ`) -/
theorem ladmm_residuals_tendsto (H : LADMMHyp p F G xs us) (hnz : p.normZ = fun v => ‖v‖) (s : LADMMState X Z) :
    Filter.Tendsto (fun k => ladmmNormPrimalImpl p (iter (ladmmSpecStep p) (k + 2) s) none) Filter.atTop (nhds 0) ∧
    Filter.Tendsto (fun k => ‖(iter (ladmmSpecStep p) (k + 2) s).z - (iter (ladmmSpecStep p) (k + 2) s).zOld‖)
      Filter.atTop (nhds 0) := by
  obtain ⟨hu, hz⟩ := padmm_increments_tendsto H.toPADMM _
    (ladmm_inv_toPADMM (ladmm_feasible_step p G H.nu H.proxg s))
  simp only [← ladmm_step_toPADMM_iter H.mu H.nu] at hu hz
  constructor
  · refine hu.congr (fun k => ?_)
    -- `u_{k+1} − u_k = C x_{k+1} − z_{k+1}`
    show _ = p.normZ (p.C (iter (ladmmSpecStep p) (k + 1) (ladmmSpecStep p s)).x
      - (iter (ladmmSpecStep p) (k + 1) (ladmmSpecStep p s)).z)
    rw [hnz, iter_succ']
    show ‖(iter (ladmmSpecStep p) k (ladmmSpecStep p s)).u + p.C (ladmmSpecStep p _).x - (ladmmSpecStep p _).z
      - (iter (ladmmSpecStep p) k (ladmmSpecStep p s)).u‖ = ‖_‖
    rw [add_sub_assoc, add_sub_cancel_left]
  · refine hz.congr (fun k => ?_)
    show _ = ‖(iter (ladmmSpecStep p) (k + 1) (ladmmSpecStep p s)).z
      - (iter (ladmmSpecStep p) (k + 1) (ladmmSpecStep p s)).zOld‖
    rw [iter_succ']; rfl

theorem ladmm_x_tendsto (H : LADMMHyp p F G xs us) {m : ℝ} (hm : 0 < m) (hsm : StrongSub F m) (s : LADMMState X Z) :
    Filter.Tendsto (fun k => (iter (ladmmSpecStep p) k s).x) Filter.atTop (nhds xs) := by
  have h := padmm_x_tendsto H.toPADMM hm hsm (s.toPADMM p)
  simp only [← ladmm_step_toPADMM_iter H.mu H.nu] at h
  exact h

end LADMM

end Scico.Steps
