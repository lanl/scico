/-
  C07: the conjugating wrappers (`scico.grad`, `Operator.vjp`, `cvjp`, `linop.jacobian`,
  `linear_adjoint`) and, as their dense instance, the adjoint identity for matrices; the exact quadratic
  expansion of the weighted squared-l2 loss, the
  argument plumbing of `Function`/`partial`, and the `Loss` copy/re-bind machine.
-/
import Scico.Proofs.AutogradAlg

namespace Scico.Autograd

section vjp
variable {K : Type} [CommRing K] {n m : Nat}

/-- `Gmap v = conj (G (conj v))` (`Operator.vjp(u, conjugate=True)`, `cvjp`): if `G` transposes `J` for the plain pairing
    `Σ aᵢbᵢ` as seen through `Φ`, then `Gmap` is the adjoint of `J` for `Σ conj(aᵢ)bᵢ` as seen through `Φ`.  `Φ = id`: ℂ-linear
    Jacobians, `bdot` and `cinner`; `Φ = Cx.re`: JAX's pairing `reBdot` and `reInner`, also for Jacobians that are only
    real-linear (non-holomorphic operators).  Only the transposition at the one pair `(conj v, d)` is used, so `G` may
    transpose `J` for some directions `d` only (real input arrays). -/
theorem adjoint_of_transpose {R : Type} (Φ : Cx K → R) {J : CVec K n → CVec K m} {G : CVec K m → CVec K n}
    {v : CVec K m} {d : CVec K n} (h : Φ (bdot (G (conjVec v)) d) = Φ (bdot (conjVec v) (J d))) :
    Φ (cinner (vjpWrap true G v) d) = Φ (cinner v (J d)) := by
  simp only [vjpWrap, if_true]
  rw [cinner_conjVec_left, conjVec_conjVec, h, ← cinner_conjVec_left]

theorem reBdot_realPart (g d : CVec K n) (hd : ∀ i, (d i).im = 0) : reBdot (realPart g) d = reBdot g d := by
  rw [reBdot_eq, reBdot_eq]
  exact Finset.sum_congr rfl (fun i _ => by simp [realPart, hd i])

theorem conjVec_realPart (g : CVec K n) : conjVec (realPart g) = realPart g :=
  funext fun _ => Cx.ext' rfl neg_zero

theorem realPart_conjVec (g : CVec K n) : realPart (conjVec g) = realPart g := rfl

theorem cvjp_eq_vjp_true (G : CVec K m → CVec K n) : cvjpWrap G = vjpWrap true G := by
  funext v; simp [cvjpWrap, vjpWrap]

/-- concrete: for the Jacobian `d ↦ A d`, JAX's `G` is `c ↦ Aᵀ c` and `Gmap v = Aᴴ v` -/
theorem vjpWrap_matrix (A : Mat K m n) (v : CVec K m) :
    vjpWrap true (mulVec (transpose A)) v = mulVec (adjMat A) v := by
  simp only [vjpWrap, if_true]
  rw [conjVec_mulVec, conjVec_conjVec]
  rfl

theorem cinner_adjMat (A : Mat K m n) (u : CVec K m) (d : CVec K n) :
    cinner (mulVec (adjMat A) u) d = cinner u (mulVec A d) :=
  vjpWrap_matrix A u ▸ adjoint_of_transpose id (bdot_transpose A _ d)

theorem reInner_adjMat (A : Mat K m n) (u : CVec K m) (d : CVec K n) :
    reInner (mulVec (adjMat A) u) d = reInner u (mulVec A d) := by
  unfold reInner; rw [cinner_adjMat]

/-- `grad` of a loss whose JAX cotangent at `A x` is `r`: `s·Aᴴ·conj r` -/
theorem grad_through_matrix (s : K) (A : Mat K m n) (r : CVec K m) :
    scicoGrad (vsmul s (mulVec (transpose A) r)) = vsmul s (mulVec (adjMat A) (conjVec r)) := by
  unfold scicoGrad
  rw [conjVec_vsmul, conjVec_mulVec]
  rfl

end vjp

section sites
variable {α : Type} [Neg α] {n m : Nat}

theorem scicoGrad_site (jg : CVec α n) : scicoGrad jg = conjTimes 1 jg := rfl
theorem vjpWrap_true_site (G : CVec α m → CVec α n) (v : CVec α m) : vjpWrap true G v = applySite 1 1 G v := rfl
theorem vjpWrap_false_site (G : CVec α m → CVec α n) (v : CVec α m) : vjpWrap false G v = applySite 0 0 G v := by
  simp [vjpWrap, applySite, conjTimes]
theorem cvjpWrap_site (G : CVec α m → CVec α n) (v : CVec α m) : cvjpWrap G v = applySite 1 1 G v := rfl
theorem conjFun_site (f : CVec α n → CVec α m) (x : CVec α n) : conjFun f x = applySite 1 1 f x := rfl

end sites

section jac
variable {α : Type} {a b : Nat}

/-- the Jacobian-product block of the operator's output -/
def JacOut.main : JacOut α a b → CVec α b
  | .plain v => v
  | .withEval _ v => v

/-- the evaluation block, present iff `include_eval` -/
def JacOut.evalBlock : JacOut α a b → Option (CVec α a)
  | .plain _ => none
  | .withEval Fu _ => some Fu

/-- block-wise sum of two outputs of the same form -/
def JacOut.add [Add α] : JacOut α a b → JacOut α a b → Option (JacOut α a b)
  | .plain u, .plain v => some (.plain (vadd u v))
  | .withEval e u, .withEval e' v => some (.withEval (vadd e e') (vadd u v))
  | _, _ => none

end jac

section linadj
variable {K : Type} [CommRing K] {n m : Nat}

theorem jacobian_blocks (inc : Bool) (Fu : CVec K m) (J : CVec K n → CVec K m) (G : CVec K m → CVec K n)
    (v : CVec K n) (w : CVec K m) :
    (jacobianEval inc Fu J v).main = J v ∧ (jacobianAdj inc Fu G w).main = vjpWrap true G w ∧
    (jacobianEval inc Fu J v).evalBlock = (if inc then some Fu else none) ∧
    (jacobianAdj inc Fu G w).evalBlock = (if inc then some Fu else none) := by
  cases inc <;> simp [jacobianEval, jacobianAdj, JacOut.main, JacOut.evalBlock]

/-- the two branches of `scico.linear_adjoint` that see a complex primal or a complex output transpose `conj_fun` -/
theorem linearAdjoint_of_complex (T : (CVec K n → CVec K m) → (CVec K m → CVec K n)) (f : CVec K n → CVec K m)
    {cp co : Bool} (hc : cp = true ∨ co = true) : linearAdjoint T cp co f = T (conjFun f) := by
  unfold linearAdjoint
  rcases hc with h | h <;> simp [h]

theorem conjFun_conjFun (f : CVec K n → CVec K m) : conjFun (conjFun f) = f := by
  funext x; simp [conjFun, conjVec_conjVec]

/-- If `T g` is the transpose of `g` for the bilinear pairing (contract of
    `jax.linear_transpose`, used at the one function it is applied to), then `T (conj_fun f)` is
    the adjoint of `f`. -/
theorem transpose_conjFun_adjoint (f : CVec K n → CVec K m) (Tg : CVec K m → CVec K n)
    (hT : ∀ y x, bdot (Tg y) x = bdot y (conjFun f x)) (y : CVec K m) (x : CVec K n) :
    cinner (Tg y) x = cinner y (f x) := by
  have h := hT y (conjVec x)
  have h2 := congrArg Cx.conj h
  rw [conj_bdot, conj_bdot, conjVec_conjVec] at h2
  have : conjVec (conjFun f (conjVec x)) = f x := by
    simp [conjFun, conjVec_conjVec]
  rw [cinner_conjVec_left, cinner_conjVec_left, h2, this]

/-- real → real branch: `T f` itself; on real data (conjugation is the identity on `y` and on
    `f x`) transposition is adjunction -/
theorem transpose_real_adjoint (f : CVec K n → CVec K m) (Tf : CVec K m → CVec K n)
    (hT : ∀ y x, bdot (Tf y) x = bdot y (f x)) (y : CVec K m) (x : CVec K n)
    (hy : conjVec y = y) (hTy : conjVec (Tf y) = Tf y) :
    cinner (Tf y) x = cinner y (f x) := by
  rw [cinner_conjVec_left, cinner_conjVec_left, hTy, hy]
  exact hT y x

theorem conjFun_mulVec (M : Mat K m n) : conjFun (mulVec M) = mulVec (conjMat M) := by
  funext x
  simp only [conjFun]
  rw [conjVec_mulVec, conjVec_conjVec]

theorem reInner_hessianApply (s : K) (A : Mat K m n) (w : Vec K m) (d : CVec K n) :
    reInner (hessianApply s A w d) d = 2 * s * ∑ i, w i * Cx.abs2 (mulVec A d i) := by
  unfold hessianApply
  rw [reInner_vsmul_left, two_eq]
  congr 1
  unfold reInner
  rw [cinner_adjMat, cinner_eq, Cx.re_sum]
  refine Finset.sum_congr rfl (fun i _ => ?_)
  simp only [Cx.abs2, Cx.mul_re, Cx.conj_re, Cx.conj_im, Cx.smul_re, Cx.smul_im]; ring

/-- `hessian` applies the documented matrix `2αAᴴWA` -/
theorem hessianApply_eq_mat (s : K) (A : Mat K m n) (w : Vec K m) (x : CVec K n) :
    hessianApply s A w x = mulVec (hessianMat s A w) x := by
  -- `matSmul t M` is `rowScale (fun _ => t) M`
  show _ = mulVec (rowScale (fun _ => two * s) (matMul (adjMat A) (rowScale w A))) x
  rw [mulVec_rowScale, mulVec_matMul, mulVec_rowScale]
  rfl

theorem hessianMat_hermitian (s : K) (A : Mat K m n) (w : Vec K m) :
    adjMat (hessianMat s A w) = hessianMat s A w := by
  funext i j
  simp only [adjMat, transpose, conjMat, hessianMat, matSmul, matMul, rowScale, Vec.sum_eq,
    Cx.conj_smul, Cx.conj_sum, Cx.conj_mul, Cx.conj_conj]
  congr 1
  refine Finset.sum_congr rfl (fun l _ => ?_)
  apply Cx.ext' <;>
    simp only [Cx.mul_re, Cx.mul_im, Cx.conj_re, Cx.conj_im, Cx.smul_re, Cx.smul_im] <;> ring

variable [LinearOrder K] [IsStrictOrderedRing K] in
theorem hessian_psd (s : K) (A : Mat K m n) (w : Vec K m) (d : CVec K n) (hs : 0 ≤ s)
    (hw : ∀ i, 0 ≤ w i) : 0 ≤ reInner (hessianApply s A w d) d := by
  rw [reInner_hessianApply]
  exact mul_nonneg (mul_nonneg zero_le_two hs) (Finset.sum_nonneg fun i _ =>
    mul_nonneg (hw i) (add_nonneg (mul_self_nonneg _) (mul_self_nonneg _)))

end linadj

section quad
-- ring identities, but `Fn.eval` only elaborates with an order, a square root and a logarithm on the scalars
variable {K : Type} [Field K] [LinearOrder K] [IsStrictOrderedRing K] [HasSqrt K] [HasLog K] {n m : Nat}

theorem abs2_sub_add (r e : Cx K) :
    Cx.abs2 (-r - e) = Cx.abs2 r + 2 * (r.re * e.re + r.im * e.im) + Cx.abs2 e := by
  simp only [Cx.abs2, Cx.sub_re, Cx.sub_im, Cx.neg_re, Cx.neg_im]; ring

theorem eval_sqL2Loss (s : K) (A : Mat K m n) (y : CVec K m) (w : Vec K m) (x : CVec K n) :
    (Fn.sqL2Loss s A y w).eval x = s * ∑ i, w i * Cx.abs2 (mulVec A x i - y i) := by
  simp only [Fn.eval, Vec.sum_eq]
  exact congrArg (s * ·) (Finset.sum_congr rfl fun i _ => congrArg (w i * ·) (Cx.abs2_sub_comm _ _))

theorem jaxGrad_sqL2Loss (s : K) (A : Mat K m n) (y : CVec K m) (w : Vec K m) (x : CVec K n) :
    (Fn.sqL2Loss s A y w).jaxGrad x =
      vsmul s (mulVec (transpose A) (fun i => Cx.smul (two * w i) (mulVec A x i - y i).conj)) := by
  -- not `rfl`: this generates the equation lemmas of `Fn.jaxGrad` here, once for all later modules
  simp only [Fn.jaxGrad]

/-- model gradient of the weighted squared-l2 loss = documented `2αAᴴW(Ax−y)` -/
theorem grad_sqL2Loss_eq_spec (s : K) (A : Mat K m n) (y : CVec K m) (w : Vec K m) (x : CVec K n) :
    (Fn.sqL2Loss s A y w).grad x = sqL2LossGradSpec s A y w x := by
  have e : conjVec (fun i => Cx.smul (two * w i) (mulVec A x i - y i).conj)
      = vsmul two (fun i => Cx.smul (w i) (mulVec A x i - y i)) :=
    funext fun i => (Cx.conj_smul _ _).trans
      ((congrArg _ (Cx.conj_conj _)).trans (Cx.ext' (mul_assoc _ _ _) (mul_assoc _ _ _)))
  show scicoGrad _ = vsmul (two * s) _
  rw [jaxGrad_sqL2Loss, grad_through_matrix, e, mulVec_vsmul, vsmul_vsmul, mul_comm]

theorem reInner_grad_sqL2Loss (s : K) (A : Mat K m n) (y : CVec K m) (w : Vec K m) (x d : CVec K n) :
    reInner ((Fn.sqL2Loss s A y w).grad x) d =
      s * ∑ i, 2 * w i * ((mulVec A x i - y i).re * (mulVec A d i).re
                          + (mulVec A x i - y i).im * (mulVec A d i).im) := by
  show reInner (conjVec ((Fn.sqL2Loss s A y w).jaxGrad x)) d = _
  rw [reInner_conjVec, jaxGrad_sqL2Loss, reBdot_vsmul_left, reBdot_transpose, reBdot_eq]
  refine congrArg (s * ·) (Finset.sum_congr rfl fun i _ => ?_)
  simp only [Cx.smul_re, Cx.smul_im, Cx.conj_re, Cx.conj_im, two_eq]; ring

theorem sqL2Loss_expansion (s : K) (A : Mat K m n) (y : CVec K m) (w : Vec K m) (x d : CVec K n) :
    (Fn.sqL2Loss s A y w).eval (vadd x d) =
      (Fn.sqL2Loss s A y w).eval x + reInner ((Fn.sqL2Loss s A y w).grad x) d
        + (1 / 2) * reInner (hessianApply s A w d) d := by
  rw [eval_sqL2Loss, eval_sqL2Loss, reInner_grad_sqL2Loss, reInner_hessianApply, mulVec_add]
  have h : ∀ i, w i * Cx.abs2 (vadd (mulVec A x) (mulVec A d) i - y i) =
      w i * Cx.abs2 (mulVec A x i - y i)
        + 2 * w i * ((mulVec A x i - y i).re * (mulVec A d i).re + (mulVec A x i - y i).im * (mulVec A d i).im)
        + w i * Cx.abs2 (mulVec A d i) := fun i => by
    rw [show vadd (mulVec A x) (mulVec A d) i = mulVec A x i + mulVec A d i from rfl, add_sub_right_comm,
      Cx.abs2_add]
    ring
  simp only [h, Finset.sum_add_distrib]
  ring

end quad

section plumbing
variable {β : Type}

/-- `Function.slice`: the free slot, where `fixArgs` removed an argument, receives whatever is passed -/
theorem sliceArgs_fixArgs_var (args : List β) (i : Nat) (h : i < args.length) (var : β) :
    sliceArgs i (fixArgs i args) var = args.set i var := by
  unfold sliceArgs fixArgs
  have hl : (args.take i).length = i := by simp; omega
  rw [List.take_left' hl, List.drop_left' hl]
  rw [List.set_eq_take_append_cons_drop]
  simp [h]

theorem mergeArgs_fixed_run (P : Nat → Bool) (free : List β) :
    ∀ (a rest : List β) (pos r : Nat), (∀ k, pos ≤ k → k < pos + a.length → P k = true) →
      mergeArgs P (a.length + r) pos (a ++ rest) free = (mergeArgs P r (pos + a.length) rest free).map (a ++ ·)
  | [], rest, pos, r, _ => by
    rw [List.length_nil, Nat.zero_add, Nat.add_zero]
    exact Option.map_id'.symm
  | b :: t, rest, pos, r, hP => by
    have hp : P pos = true := hP pos (le_refl _) (Nat.lt_add_of_pos_right (Nat.succ_pos _))
    have ih := mergeArgs_fixed_run P free t rest (pos + 1) r
      (fun k hk hk2 => hP k (by omega) (by rw [List.length_cons]; omega))
    rw [List.length_cons, Nat.add_right_comm, List.cons_append]
    simp only [mergeArgs, hp, if_true]
    rw [ih, Option.map_map, Nat.add_assoc, Nat.add_comm 1]
    rfl

/-- `cvjp(fun, *primals, jidx=j)`: the partial function calls `fun` with the primals, slot `j`
    replaced by the differentiated argument -/
theorem cvjpArgs_eq (primals : List β) (j : Nat) (h : j < primals.length) (var : β) :
    cvjpArgs j primals var = some (primals.set j var) := by
  have hl : (primals.take j).length = j := List.length_take_of_le h.le
  have hfix : ∀ k, k ≠ j → k < primals.length → (k != j && decide (k < primals.length)) = true :=
    fun k hk hlt => by simp [hk, hlt]
  -- positions `< j` are copied from `primals.take j`, slot `j` takes `var`, positions `> j` are copied from the rest
  have h1 := mergeArgs_fixed_run (fun k => k != j && decide (k < primals.length)) [var] (primals.take j)
    (primals.drop (j + 1)) 0 ((primals.drop (j + 1)).length + 1)
    (fun k _ hk => hfix k (by omega) (by omega))
  have h2 := mergeArgs_fixed_run (fun k => k != j && decide (k < primals.length)) [] (primals.drop (j + 1)) []
    (j + 1) 0 (fun k hk hk2 => hfix k (by omega) (by rw [List.length_drop] at hk2; omega))
  rw [List.append_nil, Nat.add_zero] at h2
  rw [Nat.zero_add, hl] at h1
  unfold cvjpArgs fixArgs
  rw [List.length_append, Nat.succ_eq_add_one, Nat.add_assoc, hl, h1]
  simp only [mergeArgs, bne_self_eq_false, Bool.false_and, Bool.false_eq_true, if_false, h2, Option.map_some,
    List.append_nil, List.set_eq_take_append_cons_drop, if_pos h]

end plumbing

section heap
variable {α : Type}

/-- every object's gradient closure is bound to the object itself -/
def Heap.SelfBound (h : Heap α) : Prop := ∀ (i : Nat) (o : LossObj α), h[i]? = some o → o.gradOf = i

theorem Heap.selfBound_append (h : Heap α) (hw : h.SelfBound) (s : α) :
    Heap.SelfBound (h ++ [⟨s, h.length⟩]) := by
  intro i o hi
  rw [List.getElem?_append] at hi
  split at hi
  · exact hw i o hi
  · rw [List.getElem?_singleton] at hi
    split at hi
    · cases hi; show h.length = i; omega
    · cases hi

theorem Heap.nil_selfBound : Heap.SelfBound ([] : Heap α) := by
  unfold Heap.SelfBound
  intro i o hi; simp at hi

/-- where every closure is bound to its own object, `obj.grad` uses the scale `obj(x)` uses -/
theorem Heap.gradScale_eq_evalScale (h : Heap α) (hw : h.SelfBound) (i : Nat) : h.gradScale i = h.evalScale i := by
  unfold Heap.gradScale Heap.evalScale
  cases hi : h[i]? with
  | none => rfl
  | some o => simp only [Option.bind_some, Option.map_some, hw i o hi, hi]

variable [Mul α] [Div α]

theorem Heap.step_selfBound (h : Heap α) (hw : h.SelfBound) (op : LossOp α) : (h.step op).SelfBound := by
  cases op with
  | new s => exact Heap.selfBound_append h hw s
  | mul i c | div i c =>
    show ((h[i]?).elim h _).SelfBound
    cases h[i]? with
    | none => exact hw
    | some o => exact Heap.selfBound_append h hw _
  | setScale i s =>
    intro k o hk
    rw [show h.step (.setScale i s) = h.modify i (fun o => ⟨s, o.gradOf⟩) from rfl, List.getElem?_modify] at hk
    cases hk' : h[k]? with
    | none => rw [hk'] at hk; cases hk
    | some o' =>
      rw [hk'] at hk
      cases hk
      show (if i = k then _ else o').gradOf = k
      split <;> exact hw k o' hk'

theorem Heap.run_selfBound (ops : List (LossOp α)) : ∀ (h : Heap α), h.SelfBound → (h.run ops).SelfBound := by
  induction ops with
  | nil => intro h hw; exact hw
  | cons op t ih =>
    intro h hw
    exact ih (h.step op) (Heap.step_selfBound h hw op)

theorem Heap.length_le_step (h : Heap α) (op : LossOp α) : h.length ≤ (h.step op).length := by
  have happ : ∀ o : LossObj α, h.length ≤ (h ++ [o]).length := fun o =>
    (Nat.le_add_right _ _).trans_eq List.length_append.symm
  cases op with
  | new s => exact happ _
  | mul i c | div i c =>
    show h.length ≤ ((h[i]?).elim h _).length
    cases h[i]? with
    | none => exact le_rfl
    | some o => exact happ _
  | setScale i s => exact (List.length_modify _ _ _).ge

theorem Heap.length_le_run (ops : List (LossOp α)) : ∀ h : Heap α, h.length ≤ (h.run ops).length := by
  induction ops with
  | nil => intro h; exact le_refl _
  | cons op t ih => intro h; exact le_trans (Heap.length_le_step h op) (ih (h.step op))

theorem Heap.run_append (h : Heap α) (a b : List (LossOp α)) : h.run (a ++ b) = (h.run a).run b := by
  simp [Heap.run, List.foldl_append]

/-- an object that exists keeps existing (objects are never deleted) -/
theorem Heap.evalScale_isSome_mono (h : Heap α) (b : List (LossOp α)) (i : Nat) (hi : h.evalScale i ≠ none) :
    ∃ s, (h.run b).evalScale i = some s := by
  have hlt : i < h.length := by
    by_contra hge
    apply hi
    simp [Heap.evalScale, List.getElem?_eq_none (not_lt.mp hge)]
  have hlt2 : i < (h.run b).length := lt_of_lt_of_le hlt (Heap.length_le_run b _)
  exact ⟨((h.run b)[i]).scale, by simp [Heap.evalScale, List.getElem?_eq_getElem hlt2]⟩

end heap

end Scico.Autograd
