/-
  Keyword routing of `scico.solver.minimize` / `minimize_scalar` as a generated finite table
  (C18, DESIGN §5.11).  `harness/translate_kwargs.py` regenerates
  `Scico/Generated/Kwargs.lean` from the working tree with `ast`; Lean decides `checkFn`, `checkDefaults`, `checkGrad`.
  This file defines the checks; `checkFn_sound` and `checkDefaults_sound` say once what the first two guarantee,
  `checkGrad` is a conjunction of list comparisons that is read as it stands.  Mathlib-free.
-/

import Scico.Model.Wrap

namespace Scico.Wrap.Kwargs

structure FnTable where
  /-- parameters of the wrapper -/
  accepted : List String
  /-- parameters whose value flows into the inner scipy call -/
  forwarded : List String
  /-- parameters tested by an `if … raise` -/
  rejected : List String
  /-- `(scipy keyword, wrapper parameter)` passed as `kw=param` with `param` never re-assigned -/
  verbatim : List (String × String)
  /-- keywords of the inner call -/
  callKeywords : List String
  /-- `(keyword or #position, source of the expression)` of the inner call (for the record) -/
  callExprs : List (String × String)
  /-- parameter names of the scipy function -/
  scipyParams : List String
  /-- `(wrapper parameter, source text of its default)`; parameters without a default are absent -/
  defaults : List (String × String) := []
  /-- `(scipy parameter, repr of its default)` from `inspect.signature` -/
  scipyDefaults : List (String × String) := []

/-- pass-through parameters of `minimize`: they must reach scipy unchanged under the same name -/
def expectedVerbatimMinimize : List (String × String) :=
  [("args", "args"), ("method", "method"), ("hess", "hess"), ("hessp", "hessp"), ("bounds", "bounds"),
   ("constraints", "constraints"), ("tol", "tol"), ("callback", "callback"), ("options", "options")]

def expectedVerbatimScalar : List (String × String) :=
  [("bracket", "bracket"), ("bounds", "bounds"), ("args", "args"), ("method", "method"),
   ("tol", "tol"), ("options", "options")]

def checkFn (t : FnTable) (expected : List (String × String)) : Bool :=
  t.accepted.all (fun k => t.forwarded.contains k || t.rejected.contains k) &&
  expected.all (fun p => t.verbatim.contains p) &&
  t.callKeywords.all (fun k => t.scipyParams.contains k)

theorem checkFn_sound (t : FnTable) (expected : List (String × String)) (h : checkFn t expected = true) :
    (∀ k ∈ t.accepted, k ∈ t.forwarded ∨ k ∈ t.rejected) ∧
    (∀ p ∈ expected, p ∈ t.verbatim) ∧
    (∀ k ∈ t.callKeywords, k ∈ t.scipyParams) := by
  simp only [checkFn, Bool.and_eq_true, List.all_eq_true, Bool.or_eq_true, List.contains_iff_mem] at h
  exact ⟨h.1.1, h.1.2, h.2⟩

/-- defaults: a pass-through parameter the caller omits must mean what omitting it means in scipy,
    i.e. the wrapper's default is scipy's default — except for the parameters listed in `allowed`
    (deliberate, visible in the signature: `minimize(method="L-BFGS-B")`) -/
def checkDefaults (t : FnTable) (allowed : List String) : Bool :=
  t.verbatim.all (fun kp => allowed.contains kp.2 || (t.defaults.lookup kp.2 == t.scipyDefaults.lookup kp.1))

theorem checkDefaults_sound (t : FnTable) (allowed : List String) (h : checkDefaults t allowed = true) :
    ∀ kp ∈ t.verbatim, kp.2 ∉ allowed → t.defaults.lookup kp.2 = t.scipyDefaults.lookup kp.1 := by
  intro kp hkp hna
  simp only [checkDefaults, List.all_eq_true, Bool.or_eq_true, beq_iff_eq] at h
  exact (h kp hkp).resolve_left fun h1 => hna (List.contains_iff_mem.1 h1)

/-- the deliberate default of `minimize` -/
def allowedDefaultDiffMinimize : List String := ["method"]

/-- the literal list in the code, lower-cased by the translator, is the modelled list; that is exactly scipy's solvers minus the
    gradient-free ones; the installed scipy has the modelled solver set -/
def checkGrad (codeLower installed : List String) : Bool :=
  (codeLower == Scico.Wrap.gradMethodsLower) &&
  (Scico.Wrap.scipyMethods.all (fun m =>
      Scico.Wrap.gradMethodsLower.contains m == !(Scico.Wrap.scipyNoGradient.contains m))) &&
  (Scico.Wrap.gradMethodsLower.all (fun m => Scico.Wrap.scipyMethods.contains m)) &&
  (installed.all (fun m => Scico.Wrap.scipyMethods.contains m)) &&
  (Scico.Wrap.scipyMethods.all (fun m => installed.contains m))

end Scico.Wrap.Kwargs
