/-
  Facts about the structural linearity checker alone (C06): the verdict does not read the `prim` field, a variable that
  is not tagged `bad` reads only defined variables, every well-scoped program of jointly linear primitives without
  parameter operands is accepted, and the evaluation order the generated obligations use (`checkFast`) computes the same verdict.
-/
import Scico.Proofs.Jaxpr

namespace Scico.Jaxpr

/-- give every equation its own primitive id: its position -/
def relabelFrom : Nat → List Eqn → List Eqn
  | _, [] => []
  | k, e :: es => { e with prim := k } :: relabelFrom (k + 1) es

def Prog.relabel (p : Prog) : Prog := { p with eqns := relabelFrom 0 p.eqns }

theorem stepTag_prim (tags : List Tag) (e : Eqn) (k : Nat) : stepTag tags { e with prim := k } = stepTag tags e := rfl

theorem checkEqns_relabel (es : List Eqn) (k : Nat) (tags : List Tag) :
    checkEqns (relabelFrom k es) tags = checkEqns es tags := by
  induction es generalizing k tags with
  | nil => rfl
  | cons e es ih => simp only [relabelFrom, checkEqns, stepTag_prim, ih]

theorem check_relabel (p : Prog) : check p.relabel = check p := by
  simp [check, progTags, Prog.relabel, checkEqns_relabel]

theorem relabelFrom_prim (es : List Eqn) (k i : Nat) (hi : i < (relabelFrom k es).length) :
    ((relabelFrom k es)[i]).prim = k + i := by
  induction es generalizing k i with
  | nil => simp [relabelFrom] at hi
  | cons e es ih =>
    cases i with
    | zero => simp [relabelFrom]
    | succ i =>
      simp only [relabelFrom, List.getElem_cons_succ]
      rw [ih (k + 1) i (by simpa [relabelFrom] using hi)]
      omega

theorem tagOf_ne_bad_lt {tags : List Tag} {i : Nat} (h : tagOf tags i ≠ .bad) : i < tags.length := by
  by_contra hlt
  apply h
  unfold tagOf
  rw [List.getElem?_eq_none (by omega)]
  rfl

theorem Tag.bil_ne_bad {a b : Tag} (h : a.bil b ≠ .bad) : a ≠ .bad ∧ b ≠ .bad := by
  rcases a with ⟨_ | _⟩ | _ | _ | _ | _ <;> rcases b with ⟨_ | _⟩ | _ | _ | _ | _ <;>
    simp [Tag.bil] at h ⊢

theorem Tag.div_ne_bad {a b : Tag} (h : a.div b ≠ .bad) : a ≠ .bad ∧ b ≠ .bad := by
  rcases a with ⟨_ | _⟩ | _ | _ | _ | _ <;> rcases b with ⟨_ | _⟩ | _ | _ | _ | _ <;>
    simp [Tag.div] at h ⊢

theorem Tag.re_ne_bad {a : Tag} (h : a.re ≠ .bad) : a ≠ .bad := by
  rcases a with ⟨_ | _⟩ | _ | _ | _ | _ <;> simp [Tag.re] at h ⊢

theorem Tag.cj_ne_bad {a : Tag} (h : a.cj ≠ .bad) : a ≠ .bad := by
  rcases a with ⟨_ | _⟩ | _ | _ | _ | _ <;> simp [Tag.cj] at h ⊢

theorem Tag.isConst_ne_bad {a : Tag} (h : a.isConst = true) : a ≠ .bad := by
  rcases a with ⟨_ | _⟩ | _ | _ | _ | _ <;> simp [Tag.isConst] at h ⊢

theorem stepTag_reads_defined {tags : List Tag} {e : Eqn} (h : stepTag tags e ≠ .bad) :
    (∀ a ∈ e.params, a < tags.length) ∧ ∀ a ∈ e.args, a < tags.length := by
  obtain ⟨cls, prim, params, args⟩ := e
  rcases stepTag_cases tags cls prim params args with ht | ⟨hp, hcase⟩
  · exact absurd ht h
  refine ⟨fun a ha => tagOf_ne_bad_lt (Tag.isConst_ne_bad (hp a ha)), ?_⟩
  rcases hcase with ⟨z, rfl, rfl, ht⟩ | ⟨rfl, ht⟩ | ⟨a, b, rfl, rfl, ht⟩ | ⟨a, b, rfl, rfl, ht⟩ | ⟨a, rfl, rfl, ht⟩ |
    ⟨a, rfl, rfl, ht⟩ | ⟨rfl, hc, ht⟩ <;> rw [ht] at h
  · exact fun _ ha => nomatch ha
  · exact fun a ha => tagOf_ne_bad_lt (Tag.ne_bad_of_le (le_joinAll (List.mem_map_of_mem ha)) h)
  · have := Tag.bil_ne_bad h
    simp [tagOf_ne_bad_lt this.1, tagOf_ne_bad_lt this.2]
  · have := Tag.div_ne_bad h
    simp [tagOf_ne_bad_lt this.1, tagOf_ne_bad_lt this.2]
  · simp [tagOf_ne_bad_lt (Tag.re_ne_bad h)]
  · simp [tagOf_ne_bad_lt (Tag.cj_ne_bad h)]
  · exact fun a ha => tagOf_ne_bad_lt (Tag.isConst_ne_bad (hc a ha))

theorem checkEqns_length (es : List Eqn) (tags : List Tag) :
    (checkEqns es tags).length = tags.length + es.length := by
  induction es generalizing tags with
  | nil => simp [checkEqns]
  | cons e es ih => simp [checkEqns, ih]; omega

theorem checkEqns_prefix (es : List Eqn) (tags : List Tag) (i : Nat) (hi : i < tags.length) :
    tagOf (checkEqns es tags) i = tagOf tags i := by
  induction es generalizing tags with
  | nil => rfl
  | cons e es ih =>
    unfold checkEqns
    rw [ih (tags ++ [stepTag tags e]) (by simp; omega), tagOf_append]
    simp [hi]

theorem checkEqns_at (es : List Eqn) (tags : List Tag) (k : Nat) (hk : k < es.length) :
    tagOf (checkEqns es tags) (tags.length + k) =
      stepTag (checkEqns (es.take k) tags) es[k] := by
  induction es generalizing tags k with
  | nil => simp at hk
  | cons e es ih =>
    cases k with
    | zero =>
      simp only [checkEqns, List.take_zero, Nat.add_zero, List.getElem_cons_zero]
      rw [checkEqns_prefix es _ _ (by simp), tagOf_append]
      simp
    | succ k =>
      have := ih (tags ++ [stepTag tags e]) k (by simpa using hk)
      simp only [List.length_append, List.length_singleton] at this
      simp only [checkEqns, List.take_succ_cons, List.getElem_cons_succ]
      rw [← this]
      congr 1
      omega

/-- a program fragment over `n` defined variables in which every equation is a jointly linear primitive without parameter
    operands reading defined variables only (the hypothesis of `check_accepts_pureLin`) -/
def PureLin (n : Nat) : List Eqn → Prop
  | [] => True
  | e :: es => e.cls = .linAll ∧ e.params = [] ∧ (∀ a ∈ e.args, a < n) ∧ PureLin (n + 1) es

theorem Tag.join_le_linC {a b : Tag} : a.le .linC → b.le .linC → (a.join b).le .linC := by
  rcases a with ⟨_ | _⟩ | _ | _ | _ | _ <;> rcases b with ⟨_ | _⟩ | _ | _ | _ | _ <;> decide

theorem joinAll_le_linC {ts : List Tag} (h : ∀ t ∈ ts, t.le .linC) : (joinAll ts).le .linC := by
  induction ts with
  | nil => exact .inr (.inl rfl)
  | cons t ts ih =>
    exact Tag.join_le_linC (h t List.mem_cons_self) (ih fun u hu => h u (List.mem_cons_of_mem _ hu))

theorem tagOf_mem {tags : List Tag} {i : Nat} (h : i < tags.length) : tagOf tags i ∈ tags := by
  unfold tagOf
  rw [List.getElem?_eq_getElem h]
  exact List.getElem_mem h

theorem checkEqns_pureLin (es : List Eqn) (tags : List Tag) (hinv : ∀ t ∈ tags, t.le .linC)
    (h : PureLin tags.length es) : ∀ t ∈ checkEqns es tags, t.le .linC := by
  induction es generalizing tags with
  | nil => exact hinv
  | cons e es ih =>
    obtain ⟨hc, hp, ha, hrest⟩ := h
    refine ih _ (fun t ht => ?_) (by simpa using hrest)
    rcases List.mem_append.mp ht with ht | ht
    · exact hinv t ht
    · obtain ⟨cls, prim, params, args⟩ := e
      simp only at hc hp ha
      subst hc; subst hp
      rw [List.mem_singleton.mp ht]
      simp only [stepTag, List.all_nil, if_true]
      exact joinAll_le_linC fun t ht => by
        obtain ⟨a, haa, rfl⟩ := List.mem_map.mp ht
        exact hinv _ (tagOf_mem (ha a haa))

/-- `(check p).le .linC`: the verdict is `linC`, or `const true` when no output depends on the input -/
theorem check_accepts_pureLin (p : Prog) (h : PureLin p.nin p.eqns)
    (houts : ∀ o ∈ p.outs, o < p.nin + p.eqns.length) : (check p).le .linC := by
  refine joinAll_le_linC fun t ht => ?_
  obtain ⟨o, ho, rfl⟩ := List.mem_map.mp ht
  refine checkEqns_pureLin p.eqns (List.replicate p.nin .linC) (fun t ht => ?_) (by simpa using h) _ (tagOf_mem ?_)
  · rw [List.eq_of_mem_replicate ht]; exact .inr (.inr (.inl rfl))
  · rw [checkEqns_length]; simpa using houts o ho

theorem Tag.force_eq {α : Sort _} (t : Tag) (k : Tag → α) : t.force k = k t := by
  rcases t with ⟨_ | _⟩ | _ | _ | _ | _ <;> rfl

theorem tagOfR_eq (tags : List Tag) : tagOfR tags.length tags.reverse = tagOf tags := by
  funext i
  unfold tagOfR tagOf
  by_cases h : i < tags.length
  · simp only [h, if_true]
    rw [List.getElem?_reverse (by omega)]
    congr 2
    omega
  · simp only [h, if_false]
    rw [List.getElem?_eq_none (by omega)]
    rfl

-- `stepTagR` repeats the `match` of `stepTag` word for word: after `tagOfR` is rewritten the two sides are the same term
theorem stepTagR_eq (tags : List Tag) (e : Eqn) : stepTagR tags.length tags.reverse e = stepTag tags e := by
  unfold stepTagR stepTag
  rw [tagOfR_eq]

theorem checkEqnsR_eq (es : List Eqn) (tags : List Tag) :
    checkEqnsR es tags.length tags.reverse = ((checkEqns es tags).length, (checkEqns es tags).reverse) := by
  induction es generalizing tags with
  | nil => rfl
  | cons e es ih =>
    unfold checkEqnsR checkEqns
    rw [Tag.force_eq, stepTagR_eq]
    have := ih (tags ++ [stepTag tags e])
    simpa using this

theorem checkFast_eq_check (p : Prog) : checkFast p = check p := by
  unfold checkFast check progTags
  have := checkEqnsR_eq p.eqns (List.replicate p.nin .linC)
  simp only [List.length_replicate, List.reverse_replicate] at this
  rw [this]
  simp only [tagOfR_eq]

end Scico.Jaxpr
