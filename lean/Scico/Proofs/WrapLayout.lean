/-
  The layout of the flat vector handed to scipy: which flat coordinate holds which entry, and that
  comparing (`Container.Rel`: bounds) or pairing (`Container.pair`: the gradient) two containers of
  one form slot by slot is comparing or pairing their flat vectors coordinate by coordinate.
  Each of the two is shown for `ravel` on real values and carried across `splitVal`; the two halves (`…_rel` for
  `Forall₂ R`, `…_pair` for `Σ a·b`) mirror each other step by step, up to the last: `x0flat_rel` is here, its
  mirror is the property theorem `C18_gradient_pairing` itself.
-/
import Scico.Proofs.Wrap
import Scico.Proofs.Index

namespace Scico.Wrap

variable {α : Type}

theorem getElem?_ravel_blk (bs : List (Arr α)) (i : Nat) (hi : i < bs.length) (p : Nat)
    (hp : p < bs[i].data.length) :
    (ravel (.blk bs))[((bs.take i).map (fun b => b.data.length)).sum + p]? = bs[i].data[p]? := by
  have := Index.getElem?_flatten_offset (bs.map Arr.data) i (by simpa using hi) p (by simpa using hp)
  simp only [List.getElem_map, ← List.map_take, List.map_map] at this
  exact this

theorem getElem?_ravel_blk_split (cs : List (Arr (Cx α))) (i : Nat) (hi : i < cs.length) (q : Nat)
    (hq : q < 2 * cs[i].data.length) :
    (ravel (.blk (cs.map splitArr)))[((cs.take i).map (fun b => 2 * b.data.length)).sum + q]? =
      (splitArr cs[i]).data[q]? := by
  have := getElem?_ravel_blk (cs.map splitArr) i (by simpa using hi) q (by simpa [length_splitArr] using hq)
  simp only [← List.map_take, List.map_map, Function.comp_def, length_splitArr, List.getElem_map] at this
  exact this

theorem getElem?_splitArr (a : Arr (Cx α)) (p : Nat) (hp : p < a.data.length) :
    (splitArr a).data[p]? = some (a.data[p]).re ∧
    (splitArr a).data[a.data.length + p]? = some (a.data[p]).im := by
  have hre : p < (a.data.map Cx.re).length := by rwa [List.length_map]
  constructor
  · rw [splitArr, List.getElem?_append_left hre, List.getElem?_map, List.getElem?_eq_getElem hp]
    rfl
  · rw [splitArr, List.getElem?_append_right (by rw [List.length_map]; omega), List.length_map,
      Nat.add_sub_cancel_left, List.getElem?_map, List.getElem?_eq_getElem hp]
    rfl

abbrev Arr.Conform {β : Type} (a : Arr α) (b : Arr β) : Prop :=
  a.shape = b.shape ∧ a.data.length = b.data.length

theorem forall₂_of_shape_eq {β : Type} : ∀ {bs : List (Arr α)} {bs' : List (Arr β)},
    bs.map Arr.shape = bs'.map Arr.shape → (∀ b ∈ bs, b.WF) → (∀ b ∈ bs', b.WF) →
    List.Forall₂ Arr.Conform bs bs'
  | [], [], _, _, _ => .nil
  | [], _ :: _, h, _, _ => by simp at h
  | _ :: _, [], h, _, _ => by simp at h
  | b :: rest, b' :: rest', h, hw, hw' => by
    rw [List.forall_mem_cons] at hw hw'
    simp only [List.map_cons, List.cons.injEq] at h
    refine .cons ⟨h.1, ?_⟩ (forall₂_of_shape_eq h.2 hw.2 hw'.2)
    rw [Arr.WF.length_eq hw.1, Arr.WF.length_eq hw'.1, h.1]

theorem cases_of_shapeOf_eq {β : Type} : ∀ {x : Val α} {y : Val β}, x.WF → y.WF → shapeOf x = shapeOf y →
    (∃ a b, x = .arr a ∧ y = .arr b ∧ a.Conform b) ∨
    (∃ as bs, x = .blk as ∧ y = .blk bs ∧
      List.Forall₂ Arr.Conform as bs)
  | .arr a, .arr b, hx, hy, hs => .inl ⟨a, b, rfl, rfl, Shape.flat.inj hs,
      by rw [Arr.WF.length_eq hx, Arr.WF.length_eq hy, Shape.flat.inj hs]⟩
  | .blk _, .blk _, hx, hy, hs => .inr ⟨_, _, rfl, rfl, forall₂_of_shape_eq (Shape.nested.inj hs) hx hy⟩
  | .arr _, .blk _, _, _, hs => Shape.noConfusion hs
  | .blk _, .arr _, _, _, hs => Shape.noConfusion hs

def Arr.Rel {β : Type} (R : α → β → Prop) (a : Arr α) (b : Arr β) : Prop :=
  a.shape = b.shape ∧ List.Forall₂ R a.data b.data

def Val.Rel {β : Type} (R : α → β → Prop) : Val α → Val β → Prop
  | .arr a, .arr b => Arr.Rel R a b
  | .blk as, .blk bs => List.Forall₂ (Arr.Rel R) as bs
  | _, _ => False

def CxRel (R : α → α → Prop) (z w : Cx α) : Prop := R z.re w.re ∧ R z.im w.im

def Container.Rel (R : α → α → Prop) : Container α → Container α → Prop
  | .real x, .real y => Val.Rel R x y
  | .cplx x, .cplx y => Val.Rel (CxRel R) x y
  | _, _ => False

theorem forall₂_append_of_length {β : Type} {R : α → β → Prop} {l1 l2 : List α} {l1' l2' : List β}
    (h : l1.length = l1'.length) :
    List.Forall₂ R (l1 ++ l2) (l1' ++ l2') ↔ List.Forall₂ R l1 l1' ∧ List.Forall₂ R l2 l2' := by
  refine ⟨fun H => ⟨?_, ?_⟩, fun H => List.rel_append H.1 H.2⟩
  · have := List.forall₂_take_append _ _ _ H
    rwa [← h, List.take_left] at this
  · have := List.forall₂_drop_append _ _ _ H
    rwa [← h, List.drop_left] at this

theorem forall₂_and {β : Type} {P Q : α → β → Prop} {l : List α} {l' : List β} :
    List.Forall₂ (fun a b => P a b ∧ Q a b) l l' ↔ List.Forall₂ P l l' ∧ List.Forall₂ Q l l' :=
  ⟨fun h => ⟨h.imp fun _ _ => And.left, h.imp fun _ _ => And.right⟩,
    fun h => h.1.mp (fun _ _ => And.intro) h.2⟩

theorem forall₂_map_re_im (R : α → α → Prop) (d d' : List (Cx α)) :
    List.Forall₂ R (d.map Cx.re ++ d.map Cx.im) (d'.map Cx.re ++ d'.map Cx.im) ↔ List.Forall₂ (CxRel R) d d' := by
  have key : (d.map Cx.re).length = (d'.map Cx.re).length →
      (List.Forall₂ R (d.map Cx.re ++ d.map Cx.im) (d'.map Cx.re ++ d'.map Cx.im) ↔ List.Forall₂ (CxRel R) d d') := by
    intro hl
    rw [forall₂_append_of_length hl, List.forall₂_map_left_iff, List.forall₂_map_right_iff,
      List.forall₂_map_left_iff, List.forall₂_map_right_iff]
    exact forall₂_and.symm
  constructor
  · -- the two halves of either side are equally long, so equal total length already aligns them
    intro h
    have := h.length_eq
    simp only [List.length_append, List.length_map] at this
    exact (key (by simp only [List.length_map]; omega)).1 h
  · intro h
    exact (key (by simpa using h.length_eq)).2 h

theorem flatten_rel {β : Type} (R : α → β → Prop) {bs : List (Arr α)} {bs' : List (Arr β)}
    (h : List.Forall₂ Arr.Conform bs bs') :
    List.Forall₂ R (bs.map Arr.data).flatten (bs'.map Arr.data).flatten ↔ List.Forall₂ (Arr.Rel R) bs bs' := by
  induction h with
  | nil => simp
  | cons hab _ ih =>
    simp only [List.map_cons, List.flatten_cons, forall₂_append_of_length hab.2, ih, List.forall₂_cons,
      Arr.Rel, hab.1, true_and]

theorem ravel_rel {β : Type} (R : α → β → Prop) (x : Val α) (y : Val β) (hx : x.WF) (hy : y.WF)
    (hs : shapeOf x = shapeOf y) : List.Forall₂ R (ravel x) (ravel y) ↔ Val.Rel R x y := by
  obtain ⟨a, b, rfl, rfl, hab, -⟩ | ⟨_, _, rfl, rfl, h⟩ := cases_of_shapeOf_eq hx hy hs
  · exact (and_iff_right hab).symm
  · exact flatten_rel R h

theorem splitArr_rel (R : α → α → Prop) (a b : Arr (Cx α)) :
    Arr.Rel R (splitArr a) (splitArr b) ↔ Arr.Rel (CxRel R) a b := by
  simp only [Arr.Rel, splitArr, List.cons.injEq, true_and, forall₂_map_re_im]

theorem splitVal_rel (R : α → α → Prop) : ∀ (x y : Val (Cx α)),
    Val.Rel R (splitVal x) (splitVal y) ↔ Val.Rel (CxRel R) x y
  | .arr a, .arr b => splitArr_rel R a b
  | .blk _, .blk _ => by
    simp only [splitVal, Val.Rel, List.forall₂_map_left_iff, List.forall₂_map_right_iff, splitArr_rel]
  | .arr _, .blk _ => Iff.rfl
  | .blk _, .arr _ => Iff.rfl

theorem x0flat_rel (R : α → α → Prop) (c c' : Container α) (hc : c.WF) (hc' : c'.WF) (h : SameForm c c') :
    List.Forall₂ R (x0flat c) (x0flat c') ↔ Container.Rel R c c' := by
  obtain ⟨x, y, rfl, rfl, hs⟩ | ⟨x, y, rfl, rfl, hs⟩ := h.kinds
  · exact ravel_rel R x y hc hc' hs
  · exact (ravel_rel R _ _ (splitVal_wf x hc) (splitVal_wf y hc') hs).trans (splitVal_rel R x y)

section pairing
variable {K : Type} [CommSemiring K]

def dotL (a b : List K) : K := (List.zipWith (· * ·) a b).sum

/-- the real pairing `Re (conj z * w)` of two complex entries -/
def cxPair (z w : Cx K) : K := z.re * w.re + z.im * w.im

def Val.pair : Val K → Val K → K
  | .arr a, .arr b => dotL a.data b.data
  | .blk as, .blk bs => (List.zipWith (fun a b => dotL a.data b.data) as bs).sum
  | _, _ => 0

def Val.pairC : Val (Cx K) → Val (Cx K) → K
  | .arr a, .arr b => (List.zipWith cxPair a.data b.data).sum
  | .blk as, .blk bs => (List.zipWith (fun a b => (List.zipWith cxPair a.data b.data).sum) as bs).sum
  | _, _ => 0

/-- slot-wise pairing of two containers (every real slot — entry, or real / imaginary part of an
    entry — multiplied with the corresponding one): the value of the differential `Σ ∂f/∂slot · h_slot` -/
def Container.pair : Container K → Container K → K
  | .real x, .real y => Val.pair x y
  | .cplx x, .cplx y => Val.pairC x y
  | _, _ => 0

theorem dotL_append {a a' b b' : List K} (h : a.length = a'.length) :
    dotL (a ++ b) (a' ++ b') = dotL a a' + dotL b b' := by
  unfold dotL
  rw [List.zipWith_append h, List.sum_append]

theorem dotL_re_im (d d' : List (Cx K)) (hl : d.length = d'.length) :
    dotL (d.map Cx.re ++ d.map Cx.im) (d'.map Cx.re ++ d'.map Cx.im) = (List.zipWith cxPair d d').sum := by
  rw [dotL_append (by simpa using hl)]
  induction d generalizing d' with
  | nil => cases d' <;> simp [dotL]
  | cons z zs ih =>
    cases d' with
    | nil => simp at hl
    | cons w ws =>
      have := ih ws (by simpa using hl)
      simp only [dotL, List.map_cons, List.zipWith_cons_cons, List.sum_cons] at this ⊢
      rw [← this, cxPair]
      ring

theorem dotL_flatten {bs bs' : List (Arr K)}
    (h : List.Forall₂ Arr.Conform bs bs') :
    dotL (bs.map Arr.data).flatten (bs'.map Arr.data).flatten =
      (List.zipWith (fun a b => dotL a.data b.data) bs bs').sum := by
  induction h with
  | nil => simp [dotL]
  | cons hab _ ih =>
    simp only [List.map_cons, List.flatten_cons, dotL_append hab.2, ih, List.zipWith_cons_cons, List.sum_cons]

theorem ravel_pair (x y : Val K) (hx : x.WF) (hy : y.WF) (hs : shapeOf x = shapeOf y) :
    dotL (ravel x) (ravel y) = Val.pair x y := by
  obtain ⟨_, _, rfl, rfl, -, -⟩ | ⟨_, _, rfl, rfl, h⟩ := cases_of_shapeOf_eq hx hy hs
  · rfl
  · exact dotL_flatten h

theorem zipWith_splitArr_pair {cs cs' : List (Arr (Cx K))}
    (h : List.Forall₂ Arr.Conform cs cs') :
    (List.zipWith (fun a b => dotL a.data b.data) (cs.map splitArr) (cs'.map splitArr)).sum =
      (List.zipWith (fun a b => (List.zipWith cxPair a.data b.data).sum) cs cs').sum := by
  induction h with
  | nil => rfl
  | cons hab _ ih =>
    simp only [List.map_cons, List.zipWith_cons_cons, List.sum_cons, ih, splitArr, dotL_re_im _ _ hab.2]

theorem splitVal_pair (x y : Val (Cx K)) (hx : x.WF) (hy : y.WF) (hs : shapeOf x = shapeOf y) :
    Val.pair (splitVal x) (splitVal y) = Val.pairC x y := by
  obtain ⟨a, b, rfl, rfl, -, hl⟩ | ⟨_, _, rfl, rfl, h⟩ := cases_of_shapeOf_eq hx hy hs
  · exact dotL_re_im a.data b.data hl
  · exact zipWith_splitArr_pair h

end pairing

end Scico.Wrap
