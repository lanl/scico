/-
  C15, the table `Timer.__str__` prints: the existing labels, each once, in sorted order, with the
  stop-watch readings of `DriverStopwatch`.  `sortLabels` is insertion sort (`List.insertionSort` for the
  relation `fun a b => lt b a = false`); that it permutes and sorts is proved here directly: Mathlib's
  `List.perm_insertionSort`, `List.pairwise_insertionSort` would need `Mathlib.Data.List.Sort` imported for this one
  use, and `Std.Total`, `IsTrans` instances for that relation, which would first have to be made from the three
  hypotheses on `lt`.
-/
import Scico.Proofs.DriverStopwatch

namespace Scico.Driver
open Scico.Driver.Spec

variable {L : Type} [DecidableEq L]

omit [DecidableEq L] in
theorem perm_insertSorted (lt : L → L → Bool) (x : L) (ls : List L) :
    (insertSorted lt x ls).Perm (x :: ls) := by
  induction ls with
  | nil => exact List.Perm.refl _
  | cons z zs ih =>
    unfold insertSorted
    by_cases h : lt z x = true
    · rw [if_pos h]; exact (ih.cons z).trans (List.Perm.swap x z zs)
    · rw [if_neg h]

omit [DecidableEq L] in
theorem perm_sortLabels (lt : L → L → Bool) (ls : List L) : (sortLabels lt ls).Perm ls := by
  induction ls with
  | nil => exact List.Perm.refl _
  | cons x xs ih => exact (perm_insertSorted lt x _).trans (ih.cons x)

omit [DecidableEq L] in
theorem mem_sortLabels (lt : L → L → Bool) (y : L) (ls : List L) : y ∈ sortLabels lt ls ↔ y ∈ ls :=
  (perm_sortLabels lt ls).mem_iff

omit [DecidableEq L] in
theorem length_sortLabels (lt : L → L → Bool) (ls : List L) : (sortLabels lt ls).length = ls.length :=
  (perm_sortLabels lt ls).length_eq

omit [DecidableEq L] in
theorem nodup_sortLabels (lt : L → L → Bool) (ls : List L) (h : ls.Nodup) : (sortLabels lt ls).Nodup :=
  (perm_sortLabels lt ls).nodup_iff.mpr h

/-- sortedness for a total order given as a Boolean `lt` -/
def SortedBy (lt : L → L → Bool) (ls : List L) : Prop := ls.Pairwise (fun a b => lt b a = false)

omit [DecidableEq L] in
theorem sorted_insertSorted (lt : L → L → Bool)
    (htot : ∀ a b, lt a b = false → lt b a = false → a = b)
    (htrans : ∀ a b c, lt a b = true → lt b c = true → lt a c = true)
    (hirr : ∀ a, lt a a = false)
    (x : L) (ls : List L) (h : SortedBy lt ls) : SortedBy lt (insertSorted lt x ls) := by
  induction ls with
  | nil => simp [insertSorted, SortedBy]
  | cons z zs ih =>
    unfold SortedBy at h ih ⊢
    rw [List.pairwise_cons] at h
    obtain ⟨hz, hzs⟩ := h
    unfold insertSorted
    by_cases hc : lt z x = true
    · simp only [hc, if_true, List.pairwise_cons]
      refine ⟨?_, ih hzs⟩
      intro b hb
      rw [(perm_insertSorted lt x zs).mem_iff, List.mem_cons] at hb
      rcases hb with rfl | hb
      · -- lt b z = false since lt z b
        cases hbz : lt b z with
        | false => rfl
        | true => have := htrans _ _ _ hc hbz; rw [hirr] at this; cases this
      · exact hz b hb
    · have hc' : lt z x = false := by simpa using hc
      rw [if_neg hc, List.pairwise_cons]
      refine ⟨?_, List.pairwise_cons.mpr ⟨hz, hzs⟩⟩
      intro b hb
      rcases List.mem_cons.mp hb with rfl | hb
      · exact hc'
      · -- if `lt b x`: either `lt z b`, hence `lt z x`, or `z = b` by totality; both contradict `hc'`
        cases hbx : lt b x with
        | false => rfl
        | true =>
          have hbz := hz b hb
          cases hzb : lt z b with
          | true => have := htrans _ _ _ hzb hbx; rw [hc'] at this; cases this
          | false => have := htot z b hzb hbz; subst this; rw [hc'] at hbx; cases hbx

omit [DecidableEq L] in
theorem sorted_sortLabels (lt : L → L → Bool)
    (htot : ∀ a b, lt a b = false → lt b a = false → a = b)
    (htrans : ∀ a b c, lt a b = true → lt b c = true → lt a c = true)
    (hirr : ∀ a, lt a a = false) (ls : List L) : SortedBy lt (sortLabels lt ls) := by
  induction ls with
  | nil => simp [sortLabels, SortedBy]
  | cons x xs ih => exact sorted_insertSorted lt htot htrans hirr x _ ih

theorem strRows_labels (lt : L → L → Bool) (T : Timer L) (t : Nat) :
    (T.strRows lt t).map (·.label) = sortLabels lt T.store.keys := by
  unfold Timer.strRows
  have hall : ∀ l ∈ sortLabels lt T.store.keys, (T.store.get l).isSome = true := by
    intro l hl
    rw [mem_sortLabels] at hl
    exact (Store.mem_keys_iff _ _).mp hl
  generalize sortLabels lt T.store.keys = ks at hall
  induction ks with
  | nil => rfl
  | cons k ks ih =>
    have hk := hall k (by simp)
    obtain ⟨e, he⟩ := Option.isSome_iff_exists.mp hk
    simp only [List.filterMap_cons, he, Option.map_some, List.map_cons]
    rw [ih (fun l hl => hall l (by simp [hl]))]

theorem strRows_entry (lt : L → L → Bool) (T : Timer L) (t : Nat) (r : StrRow L)
    (hr : r ∈ T.strRows lt t) :
    ∃ e, T.store.get r.label = some e ∧ r.accum = e.td ∧ r.current = e.t0.map (fun s => t - s) := by
  unfold Timer.strRows at hr
  rw [List.mem_filterMap] at hr
  obtain ⟨l, _, hl⟩ := hr
  cases hg : T.store.get l with
  | none => simp [hg] at hl
  | some e =>
    simp only [hg, Option.map_some, Option.some.injEq] at hl
    subst hl
    exact ⟨e, hg, rfl, rfl⟩

theorem strRows_spec (lt : L → L → Bool) (c : Cfg L) (h : List (Call L)) (now : Nat)
    (hm : Monotone h now) (r : StrRow L)
    (hr : r ∈ ((Timer.init c.init c.dflt c.all).run h).strRows lt now) :
    r.accum + r.current.getD 0 = specTotal (labelHistory c h r.label) now ∧
      r.current = (trailingStarts (labelHistory c h r.label)).head?.map (fun ev => now - ev.1) ∧
      r.current.getD 0 = specCurrent (labelHistory c h r.label) now := by
  obtain ⟨e, hg, ha, hc⟩ := strRows_entry lt _ now r hr
  have hrun := run_get c h r.label
  rw [hg] at hrun
  cases hk : known c h r.label with
  | false => simp [hk] at hrun
  | true =>
    simp only [hk, if_true, Option.map_some, Option.some.injEq] at hrun
    have ⟨hsorted, hle⟩ := labelHistory_sorted c hm r.label
    have htot := specTotal_machFold _ hsorted now hle
    have h0 : e.t0 = (trailingStarts (labelHistory c h r.label)).head?.map (·.1) :=
      (congrArg Clock.Entry.t0 hrun).trans (Clock.machFold_t0 _)
    rw [← hrun] at htot
    refine ⟨?_, ?_, ?_⟩
    · rw [htot, ha, hc, elapsedEntry_toClock, elapsedEntry]
      cases e.t0 <;> simp
      omega
    · rw [hc, h0]
      cases (trailingStarts (labelHistory c h r.label)).head? <;> rfl
    · rw [hc, h0, specCurrent]
      cases (trailingStarts (labelHistory c h r.label)).head? <;> rfl

theorem Store.mem_keys_set (s : Store L) (l a : L) (e : Entry) : a ∈ (s.set l e).keys ↔ a = l ∨ a ∈ s.keys := by
  rw [Store.mem_keys_iff, Store.get_set, Store.mem_keys_iff]
  by_cases h : l = a
  · simp [h]
  · simp [h, Ne.symm h]

theorem Store.nodup_set (s : Store L) (l : L) (e : Entry) (h : s.keys.Nodup) : (s.set l e).keys.Nodup := by
  induction s with
  | nil => simp [Store.set, Store.keys]
  | cons p s ih =>
    obtain ⟨k, x⟩ := p
    have hk : k ∉ Store.keys s ∧ (Store.keys s).Nodup := List.nodup_cons.mp h
    by_cases hkl : k = l
    · simpa [Store.set, hkl, Store.keys] using h
    · have : Store.keys (Store.set ((k, x) :: s) l e) = k :: Store.keys (Store.set s l e) := by
        simp [Store.set, hkl, Store.keys]
      rw [this, List.nodup_cons, Store.mem_keys_set]
      exact ⟨fun h' => h'.elim hkl hk.1, ih hk.2⟩

theorem nodup_startOne (s : Store L) (t : Nat) (l : L) (h : s.keys.Nodup) : (startOne s t l).keys.Nodup :=
  startOne_eq s t l ▸ Store.nodup_set _ _ _ h

theorem nodup_updList (f : Entry → Entry) (ls : List L) (s : Store L) (h : s.keys.Nodup) :
    (updList f s ls).1.keys.Nodup := by
  induction ls generalizing s with
  | nil => exact h
  | cons l ls ih =>
    unfold updList
    cases hg : s.get l with
    | none => exact h
    | some e => exact ih _ (Store.nodup_set _ _ _ h)

theorem nodup_init (labels : Arg L) (dflt all : L) : (Timer.init labels dflt all).store.keys.Nodup := by
  unfold Timer.init
  exact List.foldlRecOn _ _ (motive := fun s : Store L => s.keys.Nodup) List.nodup_nil
    fun s h l _ => Store.nodup_set s l _ h

theorem nodup_apply (T : Timer L) (c : Call L) (h : T.store.keys.Nodup) : (T.apply c).1.store.keys.Nodup := by
  unfold Timer.apply
  cases c.op with
  | start =>
    exact List.foldlRecOn _ _ (motive := fun s : Store L => s.keys.Nodup) h fun s h l _ => nodup_startOne s c.time l h
  | stop => exact nodup_updList _ _ _ h
  | reset => exact nodup_updList _ _ _ h

theorem nodup_run (T : Timer L) (hs : List (Call L)) (h : T.store.keys.Nodup) : (T.run hs).store.keys.Nodup := by
  induction hs generalizing T with
  | nil => exact h
  | cons c cs ih => exact ih _ (nodup_apply T c h)

end Scico.Driver
