/-
  Sums as the models compute them (left folds, `List.sum` over `List.ofFn` or `List.range`)
  against `Finset.sum`: the conversions every engine needs.  `list_sum_map_eq` is the way from a statement about lists
  to Mathlib's theorems about finsets; the Cauchy–Schwarz inequalities below are obtained through it.
-/
import Scico.Common.Scalar
import Mathlib.Algebra.BigOperators.Fin
import Mathlib.Algebra.BigOperators.Intervals
import Mathlib.Algebra.Order.BigOperators.Ring.Finset

namespace Scico

open Finset

theorem Vec.sum_eq {M : Type} [AddCommMonoid M] {n : Nat} (v : Vec M n) : Vec.sum v = ∑ i, v i :=
  List.sum_ofFn

/-- an accumulation loop: if `φ` turns the accumulating operation into adding `h b`, then `φ` of the result is `φ` of
    the start plus the sum of the `h b` -/
theorem foldl_hom_sum {α β M : Type} [AddCommMonoid M] (φ : α → M) (op : α → β → α) (h : β → M)
    (hop : ∀ a b, φ (op a b) = φ a + h b) (l : List β) (g : α) : φ (l.foldl op g) = φ g + (l.map h).sum := by
  induction l generalizing g with
  | nil => simp
  | cons b bs ih => rw [List.foldl_cons, ih, hop, List.map_cons, List.sum_cons, add_assoc]

theorem foldl_add_sum {β M : Type} [AddCommMonoid M] (l : List β) (h : β → M) (r0 : M) :
    l.foldl (fun r t => r + h t) r0 = r0 + (l.map h).sum :=
  foldl_hom_sum id _ h (fun _ _ => rfl) l r0

/-- the running maximum returns an element of the list that bounds all of them (in the dual order: the minimum) -/
theorem foldl_max_mem_le {α : Type} [LinearOrder α] (t : List α) (a : α) :
    t.foldl (fun m b => if m < b then b else m) a ∈ a :: t ∧
      ∀ x ∈ a :: t, x ≤ t.foldl (fun m b => if m < b then b else m) a := by
  induction t generalizing a with
  | nil => exact ⟨List.mem_singleton.2 rfl, fun x hx => (List.mem_singleton.1 hx).le⟩
  | cons b t ih =>
    simp only [List.foldl_cons]
    obtain ⟨hmem, hle⟩ := ih (if a < b then b else a)
    have hab : a ≤ (if a < b then b else a) ∧ b ≤ (if a < b then b else a) := by
      split_ifs with h
      · exact ⟨h.le, le_rfl⟩
      · exact ⟨le_rfl, not_lt.1 h⟩
    refine ⟨?_, fun x hx => ?_⟩
    · rcases List.mem_cons.1 hmem with h | h
      · rw [h]; split_ifs <;> simp
      · exact List.mem_cons_of_mem _ (List.mem_cons_of_mem _ h)
    · rcases List.mem_cons.1 hx with rfl | hx
      · exact hab.1.trans (hle _ List.mem_cons_self)
      · rcases List.mem_cons.1 hx with rfl | hx
        · exact hab.2.trans (hle _ List.mem_cons_self)
        · exact hle x (List.mem_cons_of_mem _ hx)

theorem list_sum_map_eq {ι M : Type} [AddCommMonoid M] (l : List ι) (f : ι → M) :
    (l.map f).sum = ∑ i : Fin l.length, f l[i.1] :=
  (Fin.sum_univ_fun_getElem l f).symm

theorem sum_map_range {M : Type} [AddCommMonoid M] (n : Nat) (f : Nat → M) :
    ((List.range n).map f).sum = ∑ i ∈ range n, f i := rfl

/-- row-major reindexing of a sum over `a * b` positions -/
theorem sum_range_mul {M : Type} [AddCommMonoid M] (a b : Nat) (f : Nat → M) :
    ∑ i ∈ range (a * b), f i = ∑ p ∈ range a, ∑ q ∈ range b, f (p * b + q) := by
  induction a with
  | zero => simp
  | succ a ih => rw [Nat.succ_mul, sum_range_add, ih, sum_range_succ]

theorem sum_range_mul3 {M : Type} [AddCommMonoid M] (a b c : Nat) (f : Nat → M) :
    ∑ q ∈ range (a * b * c), f q = ∑ o ∈ range a, ∑ k ∈ range b, ∑ r ∈ range c, f ((o * b + k) * c + r) := by
  rw [sum_range_mul (a * b) c, sum_range_mul a b]

theorem zipWith_sum_nonneg {β γ M : Type} [AddCommMonoid M] [PartialOrder M] [IsOrderedAddMonoid M]
    (f : β → γ → M) (a : List β) (b : List γ) (h : ∀ x ∈ a, ∀ y ∈ b, 0 ≤ f x y) : 0 ≤ (List.zipWith f a b).sum := by
  apply List.sum_nonneg
  intro z hz
  obtain ⟨i, hi, rfl⟩ := List.getElem_of_mem hz
  rw [List.getElem_zipWith]
  exact h _ (List.getElem_mem _) _ (List.getElem_mem _)

section CauchySchwarz
variable {R : Type} [CommRing R] [LinearOrder R] [IsStrictOrderedRing R]

theorem list_weighted_cs {ι : Type} (l : List ι) (w a : ι → R) (hw : ∀ i ∈ l, 0 ≤ w i) :
    ((l.map (fun i => w i * a i)).sum) ^ 2 ≤ (l.map w).sum * (l.map (fun i => w i * a i ^ 2)).sum := by
  simp only [list_sum_map_eq]
  exact sum_sq_le_sum_mul_sum_of_sq_le_mul _ (fun i _ => hw _ (List.getElem_mem _))
    (fun i _ => mul_nonneg (hw _ (List.getElem_mem _)) (sq_nonneg _)) (fun i _ => by rw [mul_pow, sq (w _), mul_assoc])

theorem list_zip_cs (z : List (R × R)) :
    (z.map (fun p => p.1 * p.2)).sum ^ 2 ≤ (z.map (fun p => p.1 ^ 2)).sum * (z.map (fun p => p.2 ^ 2)).sum := by
  simp only [list_sum_map_eq]
  exact sum_mul_sq_le_sq_mul_sq _ _ _

end CauchySchwarz

end Scico
