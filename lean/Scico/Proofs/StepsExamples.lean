/-
  Proofs/StepsExamples — concrete problem instances (in every real inner-product space) on which the
  hypotheses of the C03 theorems are discharged, for the non-vacuity `example`s of `Props/C03.lean` (those that need finite
  dimension or the merely convex FISTA statements are in `StepsExamplesFindim`).

  Problem:  minimise `½‖x − y0‖² + Σ_i 0(C_i x)` with `C_i = I` (any number of constraints, any `ρ_i > 0`);
  minimiser `x* = y0`, multipliers `u_i* = 0`.  The ADMM x-update is solved exactly,
  `x⁺ = (y0 + Σρ_i(z_i − u_i)) / (1 + Σρ_i)`.
-/
import Scico.Proofs.StepsRelax
import Scico.Proofs.StepsPDHG
import Scico.Proofs.StepsProxADMM
import Scico.Proofs.StepsFISTA
import Scico.Proofs.StepsXSolve
import Mathlib.Tactic.Abel

namespace Scico.Steps

variable {E : Type} [NormedAddCommGroup E] [InnerProductSpace ℝ E]

/-- `½‖· − y0‖²` as a `Fn` -/
noncomputable def halfSq (y0 : E) : Fn E := Fn.ofReal (fun x : E => 1 / 2 * ‖x - y0‖ ^ 2)

/-- `½‖·− y0‖²` is its own second-order expansion: gradient `x − y0`, convex, `L = m = 1` -/
theorem halfSq_expand (y0 x y : E) :
    1 / 2 * ‖y - y0‖ ^ 2 = 1 / 2 * ‖x - y0‖ ^ 2 + ⟪x - y0, y - x⟫ + 1 / 2 * ‖y - x‖ ^ 2 := by
  rw [← sub_add_sub_cancel' x y0 y, norm_add_sq_real]
  ring

theorem halfSq_subgrad (y0 x : E) : (halfSq y0).Subgrad x (x - y0) :=
  ⟨trivial, fun y _ => by
    show 1 / 2 * ‖x - y0‖ ^ 2 + ⟪x - y0, y - x⟫ ≤ 1 / 2 * ‖y - y0‖ ^ 2
    linarith [halfSq_expand y0 x y, sq_nonneg ‖y - x‖]⟩

/-- `prox_{λf}(v) = (v + λ y0)/(1 + λ)` for `f = ½‖· − y0‖²`: with `p` that point, `(1 + λ) p = v + λ y0`, i.e. the slope
    `(v − p)/λ` is the gradient `p − y0` -/
theorem isProx_halfsq (y0 : E) :
    IsProx (Fn.ofReal (fun x : E => 1 / 2 * ‖x - y0‖ ^ 2)) (fun lam v => (1 / (1 + lam)) • (v + lam • y0)) := by
  intro lam hlam v
  refine ProxSpec.cert_of_slope hlam.ne' ?_ trivial (halfSq_subgrad y0 _).2
  have : (1 + lam) • ((1 / (1 + lam)) • (v + lam • y0)) = v + lam • y0 := by
    rw [smul_smul, mul_one_div_cancel (by positivity), one_smul]
  rw [smul_sub, sub_eq_sub_iff_add_eq_add, ← this, add_smul, one_smul, add_comm]

/-- the sub-gradient of `½‖· − y0‖²` is unique: test the inequality at `x + d`, `d = g − (x − y0)` -/
theorem halfSq_subgrad_eq (y0 x g : E) (h : (halfSq y0).Subgrad x g) : g = x - y0 := by
  have h1 := h.2 (x + (g - (x - y0))) trivial
  simp only [halfSq, Fn.ofReal] at h1
  rw [add_sub_cancel_left, add_sub_right_comm, norm_add_sq_real] at h1
  have e : ⟪g, g - (x - y0)⟫ - ⟪x - y0, g - (x - y0)⟫ = ‖g - (x - y0)‖ ^ 2 := by
    rw [← inner_sub_left, real_inner_self_eq_norm_sq]
  exact ProxSpec.eq_of_norm_sub_sq_nonpos (by linarith)

theorem halfSq_strong (y0 : E) : StrongSub (halfSq y0) 1 := by
  intro x g y h hx hy
  rw [halfSq_subgrad_eq y0 x g hx, halfSq_subgrad_eq y0 y h hy]
  have : x - y0 - (y - y0) = x - y := by abel
  rw [this, real_inner_self_eq_norm_sq]
  linarith

noncomputable def zeroFn : Fn E := Fn.ofReal (fun _ : E => (0 : ℝ))

theorem zeroFn_subgrad (v : E) : (zeroFn : Fn E).Subgrad v 0 := ⟨trivial, fun y _ => by simp [zeroFn, Fn.ofReal]⟩

/-- the KKT conditions of every instance below: a multiplier that evaluates to `0` at `x* = y0` -/
theorem halfSq_kkt (y0 : E) {g : E} (hg : g = 0) : (halfSq y0).Subgrad y0 g := by
  rw [hg, ← sub_self y0]; exact halfSq_subgrad y0 y0

theorem zeroFn_kkt (v : E) {g : E} (hg : g = 0) : (zeroFn : Fn E).Subgrad v g := hg ▸ zeroFn_subgrad v

/-- identity constraint with penalty `rho` and `g = 0` -/
noncomputable def idCon (rho : ℝ) : Con E E :=
  { rho := rho, C := id, Cadj := id, G := zeroFn, g := fun _ => 0, prox := fun _ v => v }

theorem idCon_base (rho : ℝ) (hrho : 0 < rho) (y0 z u : E) :
    RowBase y0 ({ c := idCon rho, z := z, u := u, us := 0 } : Row E E) :=
  ⟨fun _ _ => rfl, fun _ _ => rfl, hrho, isProx_zero, by simpa [idCon] using zeroFn_subgrad (E := E) _⟩

omit [NormedAddCommGroup E] [InnerProductSpace ℝ E] in
theorem idCons_id (rhos : List ℝ) : ∀ c ∈ rhos.map (idCon (E := E)), c.C = id ∧ c.Cadj = id :=
  List.forall_mem_map.2 fun _ _ => ⟨rfl, rfl⟩

omit [NormedAddCommGroup E] [InnerProductSpace ℝ E] in
theorem idCons_pos {rhos : List ℝ} (h : ∀ r ∈ rhos, 0 < r) : ∀ c ∈ rhos.map (idCon (E := E)), 0 < c.rho :=
  List.forall_mem_map.2 h

/-- `Σρ_i` and `Σρ_i (z_i − u_i)` over the zipped lists (what the x-update reads) -/
noncomputable def sumRho (cons : List (Con E E)) (z u : List E) : ℝ :=
  ((cons.zip (z.zip u)).map (fun t => t.1.rho)).sum
noncomputable def sumRhoZU (cons : List (Con E E)) (z u : List E) : E :=
  ((cons.zip (z.zip u)).map (fun t => t.1.rho • (t.2.1 - t.2.2))).sum

theorem xGrad_id (cons : List (Con E E)) (hid : ∀ c ∈ cons, c.C = id ∧ c.Cadj = id) (z u : List E) (x : E) :
    xGrad cons z u x = sumRhoZU cons z u - sumRho cons z u • x := by
  unfold xGrad sumRhoZU sumRho
  have hl : ∀ t ∈ cons.zip (z.zip u), t.1.C = id ∧ t.1.Cadj = id := fun t ht => hid _ (List.of_mem_zip ht).1
  generalize cons.zip (z.zip u) = l at hl
  induction l with
  | nil => simp
  | cons t l ih =>
    have h1 := hl t (by simp)
    have h2 := ih (fun t' ht' => hl t' (by simp [ht']))
    simp only [List.map_cons, List.sum_cons, h2, add_smul, h1.1, h1.2, id]
    simp only [smul_sub]
    abel

omit [NormedAddCommGroup E] [InnerProductSpace ℝ E] in
theorem sumRho_nonneg (cons : List (Con E E)) (hpos : ∀ c ∈ cons, 0 < c.rho) (z u : List E) :
    0 ≤ sumRho cons z u :=
  List.sum_nonneg (List.forall_mem_map.2 fun _ ht => (hpos _ (List.of_mem_zip ht).1).le)

/-- the exact x-update of `½‖x − y0‖² + Σρ_i/2‖z_i − u_i − x‖²` -/
noncomputable def exSolveX (y0 : E) (cons : List (Con E E)) : List E → List E → E → E :=
  fun z u _ => (1 / (1 + sumRho cons z u)) • (y0 + sumRhoZU cons z u)

/-- `R − S x = x − y0` has the one solution `x = (y0 + R)/(1 + S)` (`S ≥ 0`) -/
theorem stationary_iff {S : ℝ} (hS : 0 ≤ S) (R y0 x : E) : R - S • x = x - y0 ↔ x = (1 / (1 + S)) • (y0 + R) := by
  have hne : 1 + S ≠ 0 := by positivity
  rw [← smul_right_inj hne (m₁ := x), smul_smul, mul_one_div_cancel hne, one_smul, add_smul, one_smul,
    sub_eq_sub_iff_add_eq_add, add_comm R y0, eq_comm]

theorem exSolveX_stationary (y0 : E) (cons : List (Con E E)) (hid : ∀ c ∈ cons, c.C = id ∧ c.Cadj = id)
    (hpos : ∀ c ∈ cons, 0 < c.rho) (z u : List E) (x0 : E) :
    (halfSq y0).Subgrad (exSolveX y0 cons z u x0) (xGrad cons z u (exSolveX y0 cons z u x0)) := by
  rw [xGrad_id cons hid,
    (stationary_iff (sumRho_nonneg cons hpos z u) (sumRhoZU cons z u) y0 (exSolveX y0 cons z u x0)).2 rfl]
  exact halfSq_subgrad y0 _

theorem exSolveX_unique (y0 : E) (cons : List (Con E E)) (hid : ∀ c ∈ cons, c.C = id ∧ c.Cadj = id)
    (hpos : ∀ c ∈ cons, 0 < c.rho) (z u : List E) (x x' : E)
    (h : (halfSq y0).Subgrad x (xGrad cons z u x)) (h' : (halfSq y0).Subgrad x' (xGrad cons z u x')) : x = x' := by
  have e1 := halfSq_subgrad_eq y0 x _ h
  have e2 := halfSq_subgrad_eq y0 x' _ h'
  rw [xGrad_id cons hid, stationary_iff (sumRho_nonneg cons hpos z u)] at e1 e2
  exact e1.trans e2.symm

/-- the x-update contract of `C03_admm_fixed` holds for the exact solver -/
theorem exSolveX_xsolver (y0 : E) (cons : List (Con E E)) (hid : ∀ c ∈ cons, c.C = id ∧ c.Cadj = id)
    (hpos : ∀ c ∈ cons, 0 < c.rho) : XSolver (halfSq y0) cons (exSolveX y0 cons) :=
  ⟨exSolveX_stationary y0 cons hid hpos, exSolveX_unique y0 cons hid hpos⟩

/-- `x* = y0`, `u_i* = 0` is stationary for the x-sub-problem -/
theorem ex_kktx (y0 : E) (cons : List (Con E E)) (hid : ∀ c ∈ cons, c.C = id ∧ c.Cadj = id) :
    (halfSq y0).Subgrad y0 (xGrad cons (cons.map (fun c => c.C y0)) (cons.map (fun _ => (0 : E))) y0) :=
  halfSq_kkt y0 <| by
    -- on the rows `(c, z = C y0, u = 0)` every term of `xGrad` is `ρ Cᵀ(C y0 − 0 − C y0)`
    have h := xGrad_rows (cons.map fun c => (⟨c, c.C y0, 0, 0⟩ : Row E E)) (·.z) (·.u) y0
    simp only [List.map_map, Function.comp_def, List.map_id', sub_zero, sub_self] at h
    rw [h]
    exact List.sum_eq_zero (List.forall_mem_map.2 fun c hc => by rw [(hid c hc).2]; exact smul_zero _)

/-- the relaxed-ADMM hypotheses hold on this instance for every `α ∈ [0,2]` with `m = 1` -/
theorem ex_relaxHyp (y0 : E) (rhos : List ℝ) (hpos : ∀ r ∈ rhos, 0 < r) (alpha : ℝ) (ha0 : 0 ≤ alpha) (ha2 : alpha ≤ 2) :
    RelaxHyp alpha 1 (rhos.map idCon) (rhos.map (fun _ => (0 : E))) (exSolveX y0 (rhos.map idCon)) (halfSq y0) y0 := by
  refine ⟨ha0, ha2, by norm_num, halfSq_strong y0, exSolveX_stationary y0 _ (idCons_id rhos) (idCons_pos hpos), ?_⟩
  simpa [List.map_map, Function.comp_def] using ex_kktx y0 (rhos.map idCon) (idCons_id rhos)

/-! ### PDHG:  `f = ½‖· − y0‖²`, `g = 0` (`g* =` indicator of `{0}`, `prox_{σg*} = 0`), `C = I`, `τ = σ = ½` -/

noncomputable def exPDHG (y0 : E) : PDHGParams ℝ E E :=
  { f := fun x => 1 / 2 * ‖x - y0‖ ^ 2, g := fun _ => 0, proxf := fun lam v => (1 / (1 + lam)) • (v + lam • y0),
    proxgConj := fun _ _ => 0, C := id, linear := true, Cadj := id, JCadj := fun _ z => z,
    tau := 1 / 2, sigma := 1 / 2, alpha := 1, normX := fun v => ‖v‖, normZ := fun v => ‖v‖ }

theorem exPDHG_hyp (y0 : E) : PDHGHyp (exPDHG y0) (halfSq y0) y0 0 := by
  refine ⟨rfl, rfl, one_half_pos, one_half_pos, fun _ _ => rfl, fun _ _ => rfl, isProx_halfsq y0,
    halfSq_kkt y0 neg_zero, fun lam _ v => ?_⟩
  simp [exPDHG]

theorem exPDHG_range (y0 : E) : PDHGRange (exPDHG y0) 1 (1 / 2) := by
  refine ⟨zero_le_one, by norm_num, by norm_num, fun a => (one_mul _).ge, by norm_num [exPDHG]⟩

/-- the same instance (`m = 1`) with ANY `alpha` — in particular Arrow–Hurwicz `alpha = 0`, for which the merely convex
    instance `pdhgA0` of `StepsPDHG` does not converge -/
noncomputable def exPDHGA (y0 : E) (alpha : ℝ) : PDHGParams ℝ E E := { exPDHG y0 with alpha := alpha }

theorem exPDHGA_hyp (y0 : E) (alpha : ℝ) : PDHGHypA (exPDHGA y0 alpha) (halfSq y0) y0 0 := by
  have h := exPDHG_hyp y0
  exact ⟨h.lin, h.tau, h.sigma, h.add, fun _ _ => rfl, h.adj, h.proxf, h.kktx, h.dual⟩

/-- `τσL² = 1/4`, `m = 1`, `σL² = 1/2`: the step condition `(1−α)σL² + gap ≤ 2m` holds with `gap = 3/2` for every `α ∈ [0,1]` -/
theorem exPDHGA_range (y0 : E) {alpha : ℝ} (h0 : 0 ≤ alpha) (h1 : alpha ≤ 1) : PDHGRangeA (exPDHGA y0 alpha) 1 1 (3 / 2) := by
  refine ⟨zero_le_one, fun a => (one_mul _).ge, h0, h1, by norm_num [exPDHGA, exPDHG], ?_⟩
  show (1 - alpha) * (1 / 2 * 1 ^ 2) + 3 / 2 ≤ 2 * 1
  linarith

/-! ### ProximalADMM with the defaults `B = −I`, `c = 0`:  `A = I`, `ρ = μ = ν = 1` -/

noncomputable def exPADMM (y0 : E) : PADMMParams ℝ E E E :=
  { f := fun x => 1 / 2 * ‖x - y0‖ ^ 2, g := fun _ => 0, proxf := fun lam v => (1 / (1 + lam)) • (v + lam • y0),
    proxg := fun _ v => v, A := id, AH := id, B := fun z => -z, BH := fun u => -u, c := 0, rho := 1, mu := 1, nu := 1,
    fastDual := true, normX := fun v => ‖v‖, normZ := fun v => ‖v‖, normU := fun v => ‖v‖ }

theorem exPADMM_hyp (y0 : E) : PADMMHyp (exPADMM y0) (halfSq y0) zeroFn y0 y0 0 := by
  refine ⟨one_pos, one_pos, one_pos, fun _ _ => rfl, fun x y => neg_add x y, fun _ _ => rfl,
    fun w z => (inner_neg_left w z).trans (inner_neg_right w z).symm, isProx_halfsq y0, isProx_zero, add_neg_cancel y0,
    halfSq_kkt y0 (by simp [exPADMM]), zeroFn_kkt y0 (by simp [exPADMM]),
    fun w => (by rw [norm_neg, one_mul] : ‖-w‖ ^ 2 ≤ 1 * ‖w‖ ^ 2), fun w => (one_mul _).ge⟩

/-! ### LinearizedADMM:  `C = I`, `μ = ½`, `ν = 1` -/

noncomputable def exLADMM (y0 : E) : LADMMParams ℝ E E :=
  { f := fun x => 1 / 2 * ‖x - y0‖ ^ 2, g := fun _ => 0, proxf := fun lam v => (1 / (1 + lam)) • (v + lam • y0),
    proxg := fun _ v => v, C := id, Cadj := id, mu := 1 / 2, nu := 1, normX := fun v => ‖v‖, normZ := fun v => ‖v‖ }

theorem exLADMM_hyp (y0 : E) : LADMMHyp (exLADMM y0) (halfSq y0) zeroFn y0 0 := by
  refine ⟨one_half_pos, one_pos, fun _ _ => rfl, fun _ _ => rfl, isProx_halfsq y0, isProx_zero,
    halfSq_kkt y0 (by simp [exLADMM]), zeroFn_kkt y0 (by simp [exLADMM]), fun w => ?_⟩
  show ‖w‖ ^ 2 ≤ 1 / (1 / 2) * ‖w‖ ^ 2
  linarith [sq_nonneg ‖w‖]

/-! ### PGM / FISTA:  `f = ½‖· − y0‖²`, `g = 0`, `L = 1` -/

noncomputable def exPGM (y0 : E) : PGMParams Unit ℝ E :=
  { f := fun x => 1 / 2 * ‖x - y0‖ ^ 2, g := fun _ => 0, gradf := fun x => x - y0, proxg := fun _ v => v,
    pol := basePolicy 0, normX := fun v => ‖v‖ }

theorem exPGM_fista (y0 : E) : FISTAHyp (exPGM y0) zeroFn 1 :=
  ⟨⟨0, rfl⟩, isProx_zero, one_pos, fun x y => (halfSq_expand y0 x y).le,
   fun x y => (halfSq_subgrad y0 x).2 y trivial⟩

/-! ### the linear-system x-update (`StepsXSolve`): `f = ½‖· − y0‖²` (`scale = ½`, `A = I`, `W = I`), one identity constraint -/

theorem halfSq_quadLoss (y0 : E) : QuadLoss (halfSq y0) (fun x => x - y0) :=
  ⟨fun x => halfSq_subgrad y0 x, fun x g h => halfSq_subgrad_eq y0 x g h⟩

/-- exact solution of the normal equation `x + (x) = y0 + (z − u)` of one identity constraint with `ρ = 1`
    (`x = y0` when the state lists are empty) -/
noncomputable def exLinSolve (y0 : E) : List E → List E → E → E
  | a :: _, b :: _, _ => (1 / 2 : ℝ) • (y0 + (a - b))
  | _, _, _ => y0

theorem exLinSolve_XSolver (y0 : E) : XSolver (halfSq y0) [idCon 1] (exLinSolve y0) := by
  apply linear_solver_XSolver (halfSq y0) (fun x => x - y0) (halfSq_quadLoss y0) [idCon 1] ?_ y0 id (fun x => rfl)
  · intro z u x0
    rcases z with _ | ⟨a, z⟩
    · rfl
    rcases u with _ | ⟨b, u⟩
    · rfl
    show (1 / 2 : ℝ) • (y0 + (a - b)) + ((1 : ℝ) • (1 / 2 : ℝ) • (y0 + (a - b)) + 0) = y0 + ((1 : ℝ) • (a - b) + 0)
    rw [one_smul, one_smul, add_zero, add_zero, ← add_smul, add_halves, one_smul]
  · intro z u x x' h
    rcases z with _ | ⟨a, z⟩
    · exact add_right_cancel h
    rcases u with _ | ⟨b, u⟩
    · exact add_right_cancel h
    replace h : x + ((1 : ℝ) • x + 0) = x' + ((1 : ℝ) • x' + 0) := h
    rw [one_smul, one_smul, add_zero, add_zero, ← two_smul ℝ, ← two_smul ℝ] at h
    exact smul_right_injective E two_ne_zero h
  · intro c hc a b
    rw [List.mem_singleton.1 hc]
    rfl

end Scico.Steps
