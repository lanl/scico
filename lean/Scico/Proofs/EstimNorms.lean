/-
  Closed-form norms against what they are documented to be.  `Diagonal` / `ScaledIdentity` (`diagNorm`, `scaledIdNorm`): the
  norms of the matrix `diag d` — row and column sums, the quadratic form `Σ (dᵢ xᵢ)²` between `min |dᵢ|²` and `max |dᵢ|²` with
  equality at a basis vector, the singular values as roots of the characteristic polynomial of `(diag d)ᵀ diag d`.
  `MatrixOperator` for the entrywise-computable orders (`matNorm`), for every `m × n` real matrix: an absolute row sum bounds
  `‖Mx‖∞` on the unit ball of `‖·‖∞` and is attained at a sign vector, a bound on the absolute column sums bounds `‖Mx‖₁` by
  `c‖x‖₁`; that `matNorm` is the induced norm is `C17_mat_norm_inf`, `C17_mat_norm_one`.
-/
import Scico.Proofs.EstimRealLists
import Mathlib.Analysis.Complex.Norm
import Mathlib.LinearAlgebra.Matrix.Charpoly.Basic
import Mathlib.Algebra.Polynomial.Roots
import Mathlib.Tactic.Ring
import Mathlib.Algebra.Order.BigOperators.Group.Finset
import Mathlib.Algebra.BigOperators.Ring.Finset

namespace Scico.Estim

section diagonal

variable {n : Nat}

theorem diagNorm_fro (d : Fin n → ℝ) :
    diagNorm .fro (List.ofFn d) = .ok (Real.sqrt (∑ i, d i ^ 2)) := by
  simp only [diagNorm, diagKey, absNorm, List.map_ofFn, hasSqrt_real]
  rw [lsum_ofFn]
  congr 2
  apply Finset.sum_congr rfl
  intro i _
  simp only [Function.comp, hasAbs_real]
  rw [abs_mul_abs_self]; ring

theorem diagNorm_nuc (d : Fin n → ℝ) : diagNorm .nuc (List.ofFn d) = .ok (∑ i, |d i|) := by
  simp only [diagNorm, diagKey, absNorm, List.map_ofFn]
  rw [lsum_ofFn]
  rfl

theorem diagNorm_pinf_ok (d : Fin n → ℝ) (m : ℝ) (h : lmax (List.ofFn fun i => |d i|) = some m) :
    diagNorm .pinf (List.ofFn d) = .ok m := by
  simp only [diagNorm, diagKey, absNorm, List.map_ofFn]
  rw [show (HasAbs.abs ∘ d) = fun i => |d i| from rfl, h]

theorem diagNorm_ninf_ok (d : Fin n → ℝ) (m : ℝ) (h : lmin (List.ofFn fun i => |d i|) = some m) :
    diagNorm .ninf (List.ofFn d) = .ok m := by
  simp only [diagNorm, diagKey, absNorm, List.map_ofFn]
  rw [show (HasAbs.abs ∘ d) = fun i => |d i| from rfl, h]

theorem diagNorm_one (d : List ℝ) : diagNorm (.int 1) d = diagNorm .pinf d := rfl
theorem diagNorm_neg_one (d : List ℝ) : diagNorm (.int (-1)) d = diagNorm .ninf d := rfl

theorem int_ord_cases (k : Int) :
    k = 1 ∨ k = 2 ∨ k = -1 ∨ k = -2 ∨ (k ≠ 1 ∧ k ≠ 2 ∧ k ≠ -1 ∧ k ≠ -2) := by omega

theorem ord_int_other {k : Int} (hk : k ≠ 1 ∧ k ≠ 2 ∧ k ≠ -1 ∧ k ≠ -2) :
    diagKey (.int k) = .int k ∧ ∀ ac sN nN : ℝ, scaledIdNorm (.int k) ac sN nN = .error "value" :=
  match k, hk with
  | .ofNat 0, _ => ⟨rfl, fun _ _ _ => rfl⟩
  | .ofNat 1, h => absurd rfl h.1
  | .ofNat 2, h => absurd rfl h.2.1
  | .ofNat (_ + 3), _ => ⟨rfl, fun _ _ _ => rfl⟩
  | .negSucc 0, h => absurd rfl h.2.2.1
  | .negSucc 1, h => absurd rfl h.2.2.2
  | .negSucc (_ + 2), _ => ⟨rfl, fun _ _ _ => rfl⟩

open Matrix

/-- row `i` and column `i` of `diag d` have the single non-zero entry `d i` -/
theorem diagonal_sum_apply (f : ℝ → ℝ) (hf : f 0 = 0) (d : Fin n → ℝ) (i : Fin n) :
    ∑ j, f (Matrix.diagonal d i j) = f (d i) ∧ ∑ j, f (Matrix.diagonal d j i) = f (d i) := by
  constructor
  · rw [Fintype.sum_eq_single i, Matrix.diagonal_apply_eq]
    intro j hj
    rw [Matrix.diagonal_apply_ne _ hj.symm, hf]
  · rw [Fintype.sum_eq_single i, Matrix.diagonal_apply_eq]
    intro j hj
    rw [Matrix.diagonal_apply_ne _ hj, hf]

theorem diagonal_row_abs_sum (d : Fin n → ℝ) (i : Fin n) : ∑ j, |Matrix.diagonal d i j| = |d i| :=
  (diagonal_sum_apply abs abs_zero d i).1

theorem diagonal_col_abs_sum (d : Fin n → ℝ) (j : Fin n) : ∑ i, |Matrix.diagonal d i j| = |d j| :=
  (diagonal_sum_apply abs abs_zero d j).2

theorem diagonal_sq_sum (d : Fin n → ℝ) : ∑ i, ∑ j, (Matrix.diagonal d i j) ^ 2 = ∑ i, d i ^ 2 :=
  Finset.sum_congr rfl fun i _ => (diagonal_sum_apply (· ^ 2) (zero_pow two_ne_zero) d i).1

/-- absolute values of the entries by rows / by columns, as the driver feeds `matNorm` -/
def absRows (M : Matrix (Fin n) (Fin n) ℝ) : List (List ℝ) := List.ofFn fun i => List.ofFn fun j => |M i j|
def absCols (M : Matrix (Fin n) (Fin n) ℝ) : List (List ℝ) := List.ofFn fun j => List.ofFn fun i => |M i j|

theorem diag_apply_sq_bounds (d x : Fin n → ℝ) (m : ℝ) :
    ((∀ i, |d i| ≤ m) → ∑ i, (d i * x i) ^ 2 ≤ m ^ 2 * ∑ i, x i ^ 2) ∧
    (0 ≤ m → (∀ i, m ≤ |d i|) → m ^ 2 * ∑ i, x i ^ 2 ≤ ∑ i, (d i * x i) ^ 2) := by
  simp only [Finset.mul_sum, mul_pow, ← sq_abs (d _)]
  exact ⟨fun h => Finset.sum_le_sum fun i _ =>
      mul_le_mul_of_nonneg_right (pow_le_pow_left₀ (abs_nonneg _) (h i) 2) (sq_nonneg _),
    fun h0 h => Finset.sum_le_sum fun i _ => mul_le_mul_of_nonneg_right (pow_le_pow_left₀ h0 (h i) 2) (sq_nonneg _)⟩

theorem diag_attained (d : Fin n → ℝ) (m : ℝ) (hm : m ∈ List.ofFn fun i => |d i|) :
    ∃ x : Fin n → ℝ, ∑ i, x i ^ 2 = 1 ∧ ∑ i, (d i * x i) ^ 2 = m ^ 2 := by
  obtain ⟨k, rfl⟩ : ∃ k, |d k| = m := (List.mem_ofFn' _ _).1 hm
  refine ⟨fun i => if i = k then 1 else 0, ?_, ?_⟩
  · beta_reduce
    rw [Fintype.sum_eq_single k, if_pos rfl, one_pow]
    intro i hi
    rw [if_neg hi]; exact zero_pow two_ne_zero
  · beta_reduce
    rw [Fintype.sum_eq_single k, if_pos rfl, mul_one, sq_abs]
    intro i hi
    rw [if_neg hi, mul_zero]; exact zero_pow two_ne_zero

theorem singular_values_diagonal_sum (d : Fin n → ℝ) :
    (((Matrix.diagonal d)ᵀ * Matrix.diagonal d).charpoly.roots.map Real.sqrt).sum = ∑ i, |d i| := by
  rw [Matrix.diagonal_transpose, Matrix.diagonal_mul_diagonal, Matrix.charpoly_diagonal]
  have : (∏ i : Fin n, (Polynomial.X - Polynomial.C (d i * d i))) =
      ((Finset.univ.val.map fun i => d i * d i).map fun a => Polynomial.X - Polynomial.C a).prod := by
    rw [Multiset.map_map]; rfl
  rw [this, Polynomial.roots_multiset_prod_X_sub_C, Multiset.map_map]
  show (Finset.univ.val.map fun i => Real.sqrt (d i * d i)).sum = _
  simp only [Real.sqrt_mul_self_eq_abs]
  rfl

theorem cabs_eq_norm (z : ℂ) : cabs (z.re, z.im) = ‖z‖ := by
  simp [cabs, Complex.norm_eq_sqrt_sq_add_sq, sq]

end diagonal

section matrix

variable {m n : Nat}

/-- absolute values of the entries by rows / by columns of a rectangular matrix, as the driver feeds `matNorm` -/
def absRowsR (M : Matrix (Fin m) (Fin n) ℝ) : List (List ℝ) := List.ofFn fun i => List.ofFn fun j => |M i j|
def absColsR (M : Matrix (Fin m) (Fin n) ℝ) : List (List ℝ) := List.ofFn fun j => List.ofFn fun i => |M i j|

theorem absRowsR_sums (M : Matrix (Fin m) (Fin n) ℝ) :
    (absRowsR M).map lsum = List.ofFn fun i => ∑ j, |M i j| := by
  simp only [absRowsR, List.map_ofFn]
  congr 1
  funext i
  simp only [Function.comp, lsum_ofFn]

theorem absColsR_sums (M : Matrix (Fin m) (Fin n) ℝ) :
    (absColsR M).map lsum = List.ofFn fun j => ∑ i, |M i j| := by
  simp only [absColsR, List.map_ofFn]
  congr 1
  funext j
  simp only [Function.comp, lsum_ofFn]

/-! `absRows`, `absCols` are `absRowsR`, `absColsR` at a square matrix. -/

theorem absRows_diagonal_sums (d : Fin n → ℝ) :
    (absRows (Matrix.diagonal d)).map lsum = List.ofFn fun i => |d i| :=
  (absRowsR_sums (Matrix.diagonal d)).trans (congrArg List.ofFn (funext (diagonal_row_abs_sum d)))

theorem absCols_diagonal_sums (d : Fin n → ℝ) :
    (absCols (Matrix.diagonal d)).map lsum = List.ofFn fun i => |d i| :=
  (absColsR_sums (Matrix.diagonal d)).trans (congrArg List.ofFn (funext (diagonal_col_abs_sum d)))

theorem row_bound (M : Matrix (Fin m) (Fin n) ℝ) (x : Fin n → ℝ) (hx : ∀ j, |x j| ≤ 1) (i : Fin m) :
    |∑ j, M i j * x j| ≤ ∑ j, |M i j| := by
  calc |∑ j, M i j * x j| ≤ ∑ j, |M i j * x j| := Finset.abs_sum_le_sum_abs _ _
    _ ≤ ∑ j, |M i j| := by
      apply Finset.sum_le_sum
      intro j _
      rw [abs_mul]
      calc |M i j| * |x j| ≤ |M i j| * 1 := mul_le_mul_of_nonneg_left (hx j) (abs_nonneg _)
        _ = |M i j| := mul_one _

theorem row_attained (M : Matrix (Fin m) (Fin n) ℝ) (i : Fin m) :
    ∃ x : Fin n → ℝ, (∀ j, |x j| ≤ 1) ∧ |∑ j, M i j * x j| = ∑ j, |M i j| := by
  refine ⟨fun j => if 0 ≤ M i j then 1 else -1, ?_, ?_⟩
  · intro j; dsimp only; split <;> simp
  · have hs : ∑ j, M i j * (if 0 ≤ M i j then 1 else -1) = ∑ j, |M i j| := by
      refine Finset.sum_congr rfl fun j _ => ?_
      split
      · rename_i h; rw [mul_one, abs_of_nonneg h]
      · rename_i h; rw [mul_neg, mul_one, abs_of_neg (not_le.1 h)]
    rw [hs]
    exact abs_of_nonneg (Finset.sum_nonneg fun j _ => abs_nonneg _)

theorem col_bound (M : Matrix (Fin m) (Fin n) ℝ) (c : ℝ) (hc : ∀ j, ∑ i, |M i j| ≤ c) (x : Fin n → ℝ) :
    ∑ i, |∑ j, M i j * x j| ≤ c * ∑ j, |x j| := by
  calc ∑ i, |∑ j, M i j * x j| ≤ ∑ i, ∑ j, |M i j| * |x j| := by
        apply Finset.sum_le_sum
        intro i _
        calc |∑ j, M i j * x j| ≤ ∑ j, |M i j * x j| := Finset.abs_sum_le_sum_abs _ _
          _ = ∑ j, |M i j| * |x j| := by simp only [abs_mul]
    _ = ∑ j, (∑ i, |M i j|) * |x j| := by
        rw [Finset.sum_comm]
        apply Finset.sum_congr rfl
        intro j _
        rw [Finset.sum_mul]
    _ ≤ ∑ j, c * |x j| := by
        apply Finset.sum_le_sum
        intro j _
        exact mul_le_mul_of_nonneg_right (hc j) (abs_nonneg _)
    _ = c * ∑ j, |x j| := by rw [Finset.mul_sum]

end matrix

end Scico.Estim
