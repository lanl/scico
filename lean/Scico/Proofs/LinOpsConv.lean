/-
  Linear convolution (`Convolve`, `ConvolveByX`): the substitution between filter taps and signal positions that meet at an
  output, and with it the N-d tap sum as the N-d Toeplitz matrix.
-/
import Scico.Proofs.LinOps

namespace Scico.LinOps
open Finset Scico.Index

variable {K : Type} [CommRing K]

/-- the substitution `j = i − m` between the taps `m < k` and the signal positions `j < n` that meet at output `i` -/
theorem sum_conv_flip {M : Type} [AddCommMonoid M] (k n i : Nat) (F : Nat → Nat → M) :
    ∑ m ∈ range k, (if m ≤ i ∧ i - m < n then F m (i - m) else 0)
      = ∑ j ∈ range n, (if j ≤ i ∧ i - j < k then F (i - j) j else 0) := by
  rw [← sum_filter, ← sum_filter]
  refine sum_nbij' (fun m => i - m) (fun j => i - j) ?_ ?_ ?_ ?_ ?_
  · intro m hm
    simp only [mem_filter, mem_range] at hm ⊢
    omega
  · intro j hj
    simp only [mem_filter, mem_range] at hj ⊢
    omega
  · intro m hm
    simp only [mem_filter, mem_range] at hm
    omega
  · intro j hj
    simp only [mem_filter, mem_range] at hj
    omega
  · intro m hm
    simp only [mem_filter, mem_range] at hm
    rw [Nat.sub_sub_self hm.2.1]

/-- the four shape lists have the same length and every signal axis is non-empty -/
def ConvShapes : List Nat → List Nat → List Nat → List Nat → Prop
  | [], [], [], [] => True
  | _ :: ss, _ :: os, _ :: ks, n :: ds => 0 < n ∧ ConvShapes ss os ks ds
  | _, _, _, _ => False

theorem ConvShapes.induction {motive : ∀ ss os ks ds, ConvShapes ss os ks ds → Prop} (nil : motive [] [] [] [] trivial)
    (cons : ∀ s ss o os k ks n ds (hn : 0 < n) (h : ConvShapes ss os ks ds),
      motive ss os ks ds h → motive (s :: ss) (o :: os) (k :: ks) (n :: ds) ⟨hn, h⟩) :
    ∀ ss os ks ds (h : ConvShapes ss os ks ds), motive ss os ks ds h
  | [], [], [], [], _ => nil
  | s :: ss, o :: os, k :: ks, n :: ds, h => cons s ss o os k ks n ds h.1 h.2 (ConvShapes.induction nil cons ss os ks ds h.2)
  | [], [], [], _ :: _, h | [], [], _ :: _, _, h | [], _ :: _, _, _, h | _ :: _, [], _, _, h | _ :: _, _ :: _, [], _, h
  | _ :: _, _ :: _, _ :: _, [], h => h.elim

theorem convNdW_eq_mulVec (ss os ks ds : List Nat) (h x : V K) (p : Nat) (hs : ConvShapes ss os ks ds) :
    convNdW ss os ks ds h x p = mulVec (convMatrixNdW ss os ks ds h) (prodL ds) x p := by
  induction ss, os, ks, ds, hs using ConvShapes.induction generalizing h x p with
  | nil => simp [convNdW, convMatrixNdW, mulVec, prodL, sumTo]
  | cons s ss o os k ks n ds hn hs' ih =>
      have IH := fun (h' x' : V K) => ih h' x' (p % prodL os)
      simp only [convNdW, convMatrixNdW, IH, mulVec, sumTo_eq_sum, prodL]
      rw [sum_range_mul]
      set i := p / prodL os + s
      -- rows of the right-hand side, slab by slab; then the taps and the slabs that meet at `i` are exchanged
      have erhs : ∀ j ∈ range n, ∑ q' ∈ range (prodL ds),
            (if (j * prodL ds + q') / prodL ds ≤ i ∧ i - (j * prodL ds + q') / prodL ds < k then
              convMatrixNdW ss os ks ds (slab (prodL ks) (i - (j * prodL ds + q') / prodL ds) h) (p % prodL os)
                ((j * prodL ds + q') % prodL ds) else 0) * x (j * prodL ds + q')
          = if j ≤ i ∧ i - j < k then ∑ q' ∈ range (prodL ds),
              convMatrixNdW ss os ks ds (slab (prodL ks) (i - j) h) (p % prodL os) q' * slab (prodL ds) j x q' else 0 := by
        intro j _
        split
        · rename_i hc
          refine sum_congr rfl (fun q' hq' => ?_)
          have hq := mem_range.mp hq'
          simp only [digit_div j hq, digit_mod j hq, if_pos hc, slab]
        · rename_i hc
          refine sum_eq_zero (fun q' hq' => ?_)
          have hq := mem_range.mp hq'
          simp only [digit_div j hq, if_neg hc, zero_mul]
      rw [sum_congr rfl erhs]
      exact sum_conv_flip k n i (fun m j => ∑ q' ∈ range (prodL ds),
        convMatrixNdW ss os ks ds (slab (prodL ks) m h) (p % prodL os) q' * slab (prodL ds) j x q')

end Scico.LinOps
