/-
  Soundness of the structural linearity checker `Scico.Jaxpr.check` (DESIGN §5.6, property C06).  Scalars `R → K`
  (`ℝ → ℂ` for complex operators, `ℝ → ℝ` for real ones; `star` on `K` fixes the image of `R`), values in a `K`-module;
  the trusted per-primitive table enters as hypotheses (`Interp.SoundAt`, `Interp.Sound`).  `run_holds`: the denotation
  `run I p` has the property named by the verdict `check p` - constant, or `SemiLin σ` with `σ = id`, `star`, `algebraMap R K`.
-/
import Scico.Model.Jaxpr
import Mathlib.Algebra.Module.LinearMap.Defs
import Mathlib.Algebra.Module.Pi
import Mathlib.Algebra.Algebra.Basic
import Mathlib.Algebra.Star.Basic
import Mathlib.Tactic.DefEqTransformations

namespace Scico.Jaxpr

def ladd {V : Type} [Add V] (xs ys : List V) : List V := List.zipWith (· + ·) xs ys

def lsmul {S V : Type} [SMul S V] (c : S) (xs : List V) : List V := xs.map (c • ·)

section
variable (R K : Type) {V : Type} [CommSemiring R] [CommSemiring K] [StarRing K] [Algebra R K]
  [AddCommMonoid V] [Module R V] [Module K V] [IsScalarTower R K V]

/-- The per-class facts about the primitives (the trusted table, as hypotheses).
    `ps` are the values of the parameter operands, which are held fixed. -/
structure Interp.Sound (I : Interp V) : Prop where
  /-- the conjugation of `K` fixes the scalars coming from `R` (real numbers inside ℂ) -/
  star_real : ∀ r : R, star (algebraMap R K r) = algebraMap R K r
  lit_zero : ∀ p ps, I.den (.lit true) p ps [] = 0
  lin_add : ∀ p ps xs ys, xs.length = ys.length →
    I.den .linAll p ps (ladd xs ys) = I.den .linAll p ps xs + I.den .linAll p ps ys
  lin_smul : ∀ p ps (c : K) xs, I.den .linAll p ps (lsmul c xs) = c • I.den .linAll p ps xs
  bil_add_left : ∀ p ps u u' v,
    I.den .bilinear p ps [u + u', v] = I.den .bilinear p ps [u, v] + I.den .bilinear p ps [u', v]
  bil_smul_left : ∀ p ps (c : K) u v, I.den .bilinear p ps [c • u, v] = c • I.den .bilinear p ps [u, v]
  bil_add_right : ∀ p ps u v v',
    I.den .bilinear p ps [u, v + v'] = I.den .bilinear p ps [u, v] + I.den .bilinear p ps [u, v']
  bil_smul_right : ∀ p ps (c : K) u v, I.den .bilinear p ps [u, c • v] = c • I.den .bilinear p ps [u, v]
  /-- division is linear in the numerator for a fixed denominator -/
  div_add : ∀ p ps u u' d,
    I.den .divLike p ps [u + u', d] = I.den .divLike p ps [u, d] + I.den .divLike p ps [u', d]
  div_smul : ∀ p ps (c : K) u d, I.den .divLike p ps [c • u, d] = c • I.den .divLike p ps [u, d]
  /-- `real`/`imag` are additive and homogeneous for scalars of the sub-field only -/
  re_add : ∀ p ps u u', I.den .realPart p ps [u + u'] = I.den .realPart p ps [u] + I.den .realPart p ps [u']
  re_smul : ∀ p ps (r : R) u, I.den .realPart p ps [r • u] = r • I.den .realPart p ps [u]
  conj_add : ∀ p ps u u', I.den .conj p ps [u + u'] = I.den .conj p ps [u] + I.den .conj p ps [u']
  conj_smul : ∀ p ps (c : K) u, I.den .conj p ps [c • u] = star c • I.den .conj p ps [u]

/-- the class fact of ONE primitive instance `(cls, prim)` (the corresponding fields of `Interp.Sound`), for EVERY value
    `ps` of its parameter operands; `run_holds` asks it of the instances that occur in the program, and `step_holds` uses it
    at `params.map (valOf (E 0))` only. -/
def Interp.SoundAt (I : Interp V) : PClass → Nat → Prop
  | .lit true, p => ∀ ps, I.den (.lit true) p ps [] = 0
  | .lit false, _ => True
  | .linAll, p =>
    (∀ ps xs ys, xs.length = ys.length →
      I.den .linAll p ps (ladd xs ys) = I.den .linAll p ps xs + I.den .linAll p ps ys) ∧
    (∀ ps (c : K) xs, I.den .linAll p ps (lsmul c xs) = c • I.den .linAll p ps xs)
  | .bilinear, p =>
    (∀ ps u u' v, I.den .bilinear p ps [u + u', v] = I.den .bilinear p ps [u, v] + I.den .bilinear p ps [u', v]) ∧
    (∀ ps (c : K) u v, I.den .bilinear p ps [c • u, v] = c • I.den .bilinear p ps [u, v]) ∧
    (∀ ps u v v', I.den .bilinear p ps [u, v + v'] = I.den .bilinear p ps [u, v] + I.den .bilinear p ps [u, v']) ∧
    (∀ ps (c : K) u v, I.den .bilinear p ps [u, c • v] = c • I.den .bilinear p ps [u, v])
  | .divLike, p =>
    (∀ ps u u' d, I.den .divLike p ps [u + u', d] = I.den .divLike p ps [u, d] + I.den .divLike p ps [u', d]) ∧
    (∀ ps (c : K) u d, I.den .divLike p ps [c • u, d] = c • I.den .divLike p ps [u, d])
  | .realPart, p =>
    (∀ ps u u', I.den .realPart p ps [u + u'] = I.den .realPart p ps [u] + I.den .realPart p ps [u']) ∧
    (∀ ps (r : R) u, I.den .realPart p ps [r • u] = r • I.den .realPart p ps [u])
  | .conj, p =>
    (∀ ps u u', I.den .conj p ps [u + u'] = I.den .conj p ps [u] + I.den .conj p ps [u']) ∧
    (∀ ps (c : K) u, I.den .conj p ps [c • u] = star c • I.den .conj p ps [u])
  | .nonlin, _ => True

set_option linter.unusedSectionVars false in
theorem Interp.Sound.at {I : Interp V} (h : I.Sound R K) (c : PClass) (p : Nat) : I.SoundAt R K c p := by
  cases c with
  | lit z =>
    cases z
    · trivial
    · exact h.lit_zero p
  | linAll => exact ⟨h.lin_add p, h.lin_smul p⟩
  | bilinear => exact ⟨h.bil_add_left p, h.bil_smul_left p, h.bil_add_right p, h.bil_smul_right p⟩
  | divLike => exact ⟨h.div_add p, h.div_smul p⟩
  | realPart => exact ⟨h.re_add p, h.re_smul p⟩
  | conj => exact ⟨h.conj_add p, h.conj_smul p⟩
  | nonlin => trivial

end

section
variable {K V X : Type} [CommSemiring K] [AddCommMonoid V] [Module K V] [AddCommMonoid X]

def SemiLin {S : Type} [SMul S X] (σ : S → K) (v : X → V) : Prop :=
  (∀ x y, v (x + y) = v x + v y) ∧ ∀ (s : S) (x : X), v (s • x) = σ s • v x

theorem SemiLin.of_zero {S : Type} [SMul S X] (σ : S → K) {v : X → V} (h : ∀ x, v x = 0) : SemiLin σ v :=
  ⟨fun x y => by simp [h], fun s x => by simp [h]⟩

theorem SemiLin.congr {S : Type} [SMul S X] {σ τ : S → K} {v : X → V} (h : SemiLin σ v)
    (hστ : ∀ s, σ s = τ s) : SemiLin τ v :=
  ⟨h.1, fun s x => by rw [h.2, hστ]⟩

theorem SemiLin.isLinearMap [Module K X] {v : X → V} (h : SemiLin (fun c : K => c) v) : IsLinearMap K v := ⟨h.1, h.2⟩

theorem SemiLin.pi {S : Type} {Y : Type} [AddCommMonoid Y] [SMul S Y] (σ : S → K)
    {n : Nat} (f : Y → Fin n → V) (h : ∀ j, SemiLin σ (fun x => f x j)) : SemiLin σ f :=
  ⟨fun x y => funext fun j => (h j).1 x y, fun c x => funext fun j => (h j).2 c x⟩

theorem SemiLin.joint {S : Type} [SMul S X] (σ : S → K)
    (f : List V → V)
    (fadd : ∀ xs ys, xs.length = ys.length → f (ladd xs ys) = f xs + f ys)
    (fsmul : ∀ (c : K) xs, f (lsmul c xs) = c • f xs)
    (args : List Nat) (g : X → Nat → V) (hg : ∀ a ∈ args, SemiLin σ (fun x => g x a)) :
    SemiLin σ (fun x => f (args.map (g x))) := by
  constructor
  · intro x y
    have : args.map (g (x + y)) = ladd (args.map (g x)) (args.map (g y)) := by
      simp only [ladd, List.zipWith_map, List.zipWith_self]
      exact List.map_congr_left fun a ha => (hg a ha).1 x y
    beta_reduce
    rw [this, fadd _ _ (by simp)]
  · intro c x
    have : args.map (g (c • x)) = lsmul (σ c) (args.map (g x)) := by
      simp only [lsmul, List.map_map]
      exact List.map_congr_left fun a ha => (hg a ha).2 c x
    beta_reduce
    rw [this, fsmul]

theorem SemiLin.left {S : Type} [SMul S X] {σ : S → K} {f : V → V → V}
    (fadd : ∀ u u' d, f (u + u') d = f u d + f u' d) (fsmul : ∀ (c : K) u d, f (c • u) d = c • f u d)
    {va vb : X → V} (ha : SemiLin σ va) (hb : ∀ x, vb x = vb 0) :
    SemiLin σ (fun x => f (va x) (vb x)) :=
  ⟨fun x y => by beta_reduce; rw [hb x, hb y, hb (x + y), ha.1, fadd],
    fun c x => by beta_reduce; rw [hb x, hb (c • x), ha.2, fsmul]⟩

theorem SemiLin.conj [StarRing K] {S : Type} [SMul S X] {σ : S → K} {f : V → V}
    (fadd : ∀ u u', f (u + u') = f u + f u') (fsmul : ∀ (c : K) u, f (c • u) = star c • f u)
    {va : X → V} (ha : SemiLin σ va) : SemiLin (fun s => star (σ s)) (fun x => f (va x)) :=
  ⟨fun x y => by beta_reduce; rw [ha.1, fadd], fun s x => by beta_reduce; rw [ha.2, fsmul]⟩

end

section
variable (R K : Type) {V : Type} [CommSemiring R] [CommSemiring K] [StarRing K] [Algebra R K]
  [AddCommMonoid V] [Module R V] [Module K V]
variable {X : Type} [AddCommMonoid X] [Module R X] [Module K X]

/-- what a tag claims about a variable, seen as a function of the program input -/
def Holds : Tag → (X → V) → Prop
  | .const z, v => (∀ x, v x = v 0) ∧ (z = true → ∀ x, v x = 0)
  | .linC, v => SemiLin (fun c : K => c) v
  | .antiC, v => SemiLin (fun c : K => star c) v
  | .linR, v => SemiLin (fun r : R => algebraMap R K r) v
  | .bad, _ => True

end

/-- `a.le b`: a function with the property `a` names also has the property `b` names (`Holds.mono`):
    `bad` claims nothing, `const true` (zero) everything, and linearity over `K`, plain or conjugate, gives
    linearity over `R`.  `Tag.join` gives an upper bound for this order. -/
def Tag.le (a b : Tag) : Prop :=
  b = .bad ∨ a = .const true ∨ a = b ∨ (b = .linR ∧ (a = .linC ∨ a = .antiC))

instance (a b : Tag) : Decidable (a.le b) := by unfold Tag.le; infer_instance

theorem Tag.le_trans {a b c : Tag} (hab : a.le b) (hbc : b.le c) : a.le c := by
  rcases hbc with rfl | rfl | rfl | ⟨rfl, rfl | rfl⟩
  · exact .inl rfl
  · rcases hab with h | rfl | rfl | ⟨h, -⟩
    · cases h
    · exact .inr (.inl rfl)
    · exact .inr (.inl rfl)
    · cases h
  · exact hab
  · revert hab; rcases a with ⟨_ | _⟩ | _ | _ | _ | _ <;> decide
  · revert hab; rcases a with ⟨_ | _⟩ | _ | _ | _ | _ <;> decide

theorem Tag.le_join_left (a b : Tag) : a.le (a.join b) := by
  rcases a with ⟨_ | _⟩ | _ | _ | _ | _ <;> rcases b with ⟨_ | _⟩ | _ | _ | _ | _ <;> decide

theorem Tag.le_join_right (a b : Tag) : b.le (a.join b) := by
  rcases a with ⟨_ | _⟩ | _ | _ | _ | _ <;> rcases b with ⟨_ | _⟩ | _ | _ | _ | _ <;> decide

theorem le_joinAll {ts : List Tag} {t : Tag} (h : t ∈ ts) : t.le (joinAll ts) := by
  induction ts with
  | nil => cases h
  | cons u ts ih =>
    rcases List.mem_cons.mp h with rfl | h
    · exact Tag.le_join_left _ _
    · exact Tag.le_trans (ih h) (Tag.le_join_right _ _)

theorem Tag.ne_bad_of_le {a b : Tag} (hab : a.le b) (hb : b ≠ .bad) : a ≠ .bad := by
  rintro rfl
  rcases hab with h | h | h | ⟨-, h | h⟩
  · exact hb h
  · cases h
  · exact hb h.symm
  · cases h
  · cases h

theorem Tag.eq_const_of_isConst {t : Tag} (h : t.isConst) : ∃ z, t = .const z := by
  cases t <;> first | exact ⟨_, rfl⟩ | cases h

/-- the tag of an equation, class by class: `bad` unless the parameter operands are constant and the arity fits -/
theorem stepTag_cases (tags : List Tag) (cls : PClass) (prim : Nat) (params args : List Nat) :
    stepTag tags ⟨cls, prim, params, args⟩ = .bad ∨ ((∀ i ∈ params, (tagOf tags i).isConst) ∧
      ((∃ z, cls = .lit z ∧ args = [] ∧ stepTag tags ⟨cls, prim, params, args⟩ = .const z) ∨
       (cls = .linAll ∧ stepTag tags ⟨cls, prim, params, args⟩ = joinAll (args.map (tagOf tags))) ∨
       (∃ a b, cls = .bilinear ∧ args = [a, b] ∧
          stepTag tags ⟨cls, prim, params, args⟩ = (tagOf tags a).bil (tagOf tags b)) ∨
       (∃ a b, cls = .divLike ∧ args = [a, b] ∧
          stepTag tags ⟨cls, prim, params, args⟩ = (tagOf tags a).div (tagOf tags b)) ∨
       (∃ a, cls = .realPart ∧ args = [a] ∧ stepTag tags ⟨cls, prim, params, args⟩ = (tagOf tags a).re) ∨
       (∃ a, cls = .conj ∧ args = [a] ∧ stepTag tags ⟨cls, prim, params, args⟩ = (tagOf tags a).cj) ∨
       (cls = .nonlin ∧ (∀ a ∈ args, (tagOf tags a).isConst) ∧
          stepTag tags ⟨cls, prim, params, args⟩ = .const false))) := by
  unfold stepTag
  by_cases hp : (params.all fun i => (tagOf tags i).isConst) = true
  swap
  · exact .inl (if_neg hp)
  rw [if_pos hp]
  refine or_iff_not_imp_left.2 fun hb => ⟨List.all_eq_true.mp hp, ?_⟩
  cases cls with
  | lit z =>
    match args, hb with
    | [], _ => exact .inl ⟨z, rfl, rfl, rfl⟩
    | _ :: _, hb => exact absurd rfl hb
  | linAll => exact .inr (.inl ⟨rfl, rfl⟩)
  | bilinear =>
    match args, hb with
    | [], hb | [_], hb | _ :: _ :: _ :: _, hb => exact absurd rfl hb
    | [a, b], _ => exact .inr (.inr (.inl ⟨a, b, rfl, rfl, rfl⟩))
  | divLike =>
    match args, hb with
    | [], hb | [_], hb | _ :: _ :: _ :: _, hb => exact absurd rfl hb
    | [a, b], _ => exact .inr (.inr (.inr (.inl ⟨a, b, rfl, rfl, rfl⟩)))
  | realPart =>
    match args, hb with
    | [], hb | _ :: _ :: _, hb => exact absurd rfl hb
    | [a], _ => exact .inr (.inr (.inr (.inr (.inl ⟨a, rfl, rfl, rfl⟩))))
  | conj =>
    match args, hb with
    | [], hb | _ :: _ :: _, hb => exact absurd rfl hb
    | [a], _ => exact .inr (.inr (.inr (.inr (.inr (.inl ⟨a, rfl, rfl, rfl⟩)))))
  | nonlin =>
    by_cases hc : ((args.map (tagOf tags)).all Tag.isConst) = true
    · refine .inr (.inr (.inr (.inr (.inr (.inr ⟨rfl, ?_, if_pos hc⟩)))))
      rw [List.all_map] at hc
      exact List.all_eq_true.mp hc
    · exact absurd (if_neg hc) hb

section
variable {R K : Type} {V : Type} [CommSemiring R] [CommSemiring K] [StarRing K] [Algebra R K]
  [AddCommMonoid V] [Module K V]
variable {X : Type} [AddCommMonoid X] [Module R X] [Module K X]

theorem Holds.of_zero {v : X → V} (h : ∀ x, v x = 0) (t : Tag) : Holds R K t v := by
  rcases t with z | _ | _ | _ | _
  · exact ⟨fun x => by rw [h x, h 0], fun _ => h⟩
  · exact SemiLin.of_zero _ h
  · exact SemiLin.of_zero _ h
  · exact SemiLin.of_zero _ h
  · trivial

theorem Holds.pi {n : Nat} {t : Tag} {f : X → Fin n → V} (h : ∀ j, Holds R K t (fun x => f x j)) :
    Holds R K t f := by
  rcases t with z | _ | _ | _ | _
  · exact ⟨fun x => funext fun j => (h j).1 x, fun hz x => funext fun j => (h j).2 hz x⟩
  · exact SemiLin.pi _ f h
  · exact SemiLin.pi _ f h
  · exact SemiLin.pi _ f h
  · trivial

theorem Holds.const_of_isConst {t : Tag} {v : X → V} (ht : t.isConst) (h : Holds R K t v) (x : X) :
    v x = v 0 := by
  obtain ⟨z, rfl⟩ := Tag.eq_const_of_isConst ht
  exact h.1 x

theorem Holds.const_comp {f : V → V} (f0 : f 0 = 0) {z : Bool} {va : X → V} (ha : Holds R K (.const z) va) :
    Holds R K (.const z) (fun x => f (va x)) :=
  ⟨fun x => congrArg f (ha.1 x), fun hz x => (congrArg f (ha.2 hz x)).trans f0⟩

theorem Holds.joint {f : List V → V}
    (fadd : ∀ xs ys, xs.length = ys.length → f (ladd xs ys) = f xs + f ys)
    (fsmul : ∀ (c : K) xs, f (lsmul c xs) = c • f xs)
    {t : Tag} (args : List Nat) (g : X → Nat → V) (hg : ∀ a ∈ args, Holds R K t (fun x => g x a)) :
    Holds R K t (fun x => f (args.map (g x))) := by
  rcases t with z | _ | _ | _ | _
  · refine ⟨fun x => congrArg f (List.map_congr_left fun a ha => (hg a ha).1 x), fun hz x => ?_⟩
    -- all operands vanish, so the operand vector is `0 •` itself
    have : args.map (g x) = lsmul (0 : K) (args.map (g x)) := by
      rw [lsmul, List.map_map]
      exact List.map_congr_left fun a ha => ((hg a ha).2 hz x).trans (zero_smul K _).symm
    beta_reduce
    rw [this, fsmul, zero_smul]
  · exact SemiLin.joint _ f fadd fsmul args g hg
  · exact SemiLin.joint _ f fadd fsmul args g hg
  · exact SemiLin.joint _ f fadd fsmul args g hg
  · trivial

theorem map_zero_of_smul {S W : Type} [Semiring S] [AddCommMonoid W] [Module S W] [Module S V] {g : W → V}
    (h : ∀ (c : S) u, g (c • u) = c • g u) : g 0 = 0 := by
  have := h 0 0
  rwa [zero_smul, zero_smul] at this

/-- `f` linear in its first operand, the second operand constant.  The tag is written `ta.div (.const zb)`; for a non-constant `ta`
    that is also `ta.bil (.const zb)` (`Tag.bil_const`), which is how `Holds.bil` uses it. -/
theorem Holds.left {f : V → V → V}
    (fadd : ∀ u u' d, f (u + u') d = f u d + f u' d) (fsmul : ∀ (c : K) u d, f (c • u) d = c • f u d)
    {ta : Tag} {zb : Bool} {va vb : X → V} (ha : Holds R K ta va) (hb : Holds R K (.const zb) vb) :
    Holds R K (ta.div (.const zb)) (fun x => f (va x) (vb x)) := by
  have f0 : ∀ d, f 0 d = 0 := fun d => map_zero_of_smul (g := fun u => f u d) fun c u => fsmul c u d
  rcases ta with za | _ | _ | _ | _
  · refine ⟨fun x => ?_, fun hz x => ?_⟩
    · beta_reduce; rw [ha.1 x, hb.1 x]
    · beta_reduce; rw [ha.2 hz x, f0]
  · exact SemiLin.left fadd fsmul ha hb.1
  · exact SemiLin.left fadd fsmul ha hb.1
  · exact SemiLin.left fadd fsmul ha hb.1
  · trivial

theorem Holds.div {f : V → V → V}
    (fadd : ∀ u u' d, f (u + u') d = f u d + f u' d) (fsmul : ∀ (c : K) u d, f (c • u) d = c • f u d)
    {ta tb : Tag} {va vb : X → V} (ha : Holds R K ta va) (hb : Holds R K tb vb) :
    Holds R K (ta.div tb) (fun x => f (va x) (vb x)) := by
  rcases tb with zb | _ | _ | _ | _
  · exact Holds.left fadd fsmul ha hb
  all_goals rcases ta with _ | _ | _ | _ | _ <;> trivial

theorem Tag.bil_comm (a b : Tag) : a.bil b = b.bil a := by
  rcases a with ⟨_ | _⟩ | _ | _ | _ | _ <;> rcases b with ⟨_ | _⟩ | _ | _ | _ | _ <;> rfl

/-- against a constant, a bilinear primitive is the division-like case: linear in the other operand -/
theorem Tag.bil_const {ta : Tag} (h : ¬ ta.isConst) (z : Bool) : ta.bil (.const z) = ta.div (.const z) := by
  cases ta <;> first | rfl | exact absurd rfl h

theorem Tag.bil_eq_bad {ta tb : Tag} (ha : ¬ ta.isConst) (hb : ¬ tb.isConst) : ta.bil tb = .bad := by
  cases ta <;> cases tb <;> first | rfl | exact absurd rfl ha | exact absurd rfl hb

/-- a bilinear `f`: two input-dependent operands give `bad`; otherwise one operand is constant - by `Tag.bil_comm` let it be
    the second - and the other one is treated as by `Holds.left` (`Tag.bil_const`) -/
theorem Holds.bil {f : V → V → V}
    (faddl : ∀ u u' d, f (u + u') d = f u d + f u' d) (fsmull : ∀ (c : K) u d, f (c • u) d = c • f u d)
    (faddr : ∀ d u u', f d (u + u') = f d u + f d u') (fsmulr : ∀ (c : K) d u, f d (c • u) = c • f d u)
    {ta tb : Tag} {va vb : X → V} (ha : Holds R K ta va) (hb : Holds R K tb vb) :
    Holds R K (ta.bil tb) (fun x => f (va x) (vb x)) := by
  by_cases hcb : tb.isConst
  · obtain ⟨zb, rfl⟩ := Tag.eq_const_of_isConst hcb
    by_cases hca : ta.isConst
    · -- both constant: so is the value, and it vanishes as soon as one of them does
      obtain ⟨za, rfl⟩ := Tag.eq_const_of_isConst hca
      have f0l : ∀ d, f 0 d = 0 := fun d => map_zero_of_smul (g := fun u => f u d) fun c u => fsmull c u d
      have f0r : ∀ d, f d 0 = 0 := fun d => map_zero_of_smul fun c u => fsmulr c d u
      refine ⟨fun x => ?_, fun hz x => ?_⟩
      · beta_reduce; rw [ha.1 x, hb.1 x]
      · beta_reduce
        rcases (Bool.or_eq_true _ _).mp hz with hza | hzb
        · rw [ha.2 hza x, f0l]
        · rw [hb.2 hzb x, f0r]
    · rw [Tag.bil_const hca]
      exact Holds.left faddl fsmull ha hb
  · by_cases hca : ta.isConst
    · obtain ⟨za, rfl⟩ := Tag.eq_const_of_isConst hca
      rw [Tag.bil_comm, Tag.bil_const hcb]
      exact Holds.left (f := fun u d => f d u) (fun u u' d => faddr d u u') (fun c u d => fsmulr c d u) hb ha
    · rw [Tag.bil_eq_bad hca hcb]; trivial

/-- the invariant of the induction over the equation list: the environment has one value per tag, and every variable, as a
    function of the program input, has the property its tag names -/
def Inv (R K : Type) {V X : Type} [CommSemiring R] [CommSemiring K] [StarRing K] [Algebra R K]
    [AddCommMonoid V] [Module K V] [AddCommMonoid X] [Module R X] [Module K X]
    (tags : List Tag) (E : X → List V) : Prop :=
  (∀ x, (E x).length = tags.length) ∧ ∀ i, Holds R K (tagOf tags i) (fun x => valOf (E x) i)

theorem Inv.const_args {tags : List Tag} {E : X → List V} (h : Inv R K tags E) (as : List Nat)
    (hc : ∀ a ∈ as, (tagOf tags a).isConst) (x : X) :
    as.map (valOf (E x)) = as.map (valOf (E 0)) :=
  List.map_congr_left fun a ha => (h.2 a).const_of_isConst (hc a ha) x

theorem getD_concat {α : Type} (l : List α) (a d : α) (i : Nat) :
    ((l ++ [a])[i]?).getD d = if i < l.length then (l[i]?).getD d else if i = l.length then a else d := by
  rcases Nat.lt_trichotomy i l.length with h | rfl | h
  · rw [if_pos h, List.getElem?_append_left h]
  · rw [if_neg (Nat.lt_irrefl _), if_pos rfl, List.getElem?_concat_length]; rfl
  · rw [if_neg (Nat.not_lt.2 h.le), if_neg h.ne', List.getElem?_eq_none (by rw [List.length_append]; exact h)]; rfl

theorem valOf_append (env : List V) (v : V) (i : Nat) :
    valOf (env ++ [v]) i = if i < env.length then valOf env i else if i = env.length then v else 0 :=
  getD_concat env v 0 i

theorem tagOf_append (tags : List Tag) (t : Tag) (i : Nat) :
    tagOf (tags ++ [t]) i = if i < tags.length then tagOf tags i else if i = tags.length then t else .bad :=
  getD_concat tags t .bad i

theorem tagOf_replicate (n : Nat) (t : Tag) (i : Nat) :
    tagOf (List.replicate n t) i = if i < n then t else .bad := by
  unfold tagOf
  split
  · next h => simp [h]
  · next h => simp [h]

/-- initially every input leaf is the identity of that leaf: `K`-linear -/
theorem Inv.init [Module R V] (n : Nat) :
    Inv R K (List.replicate n .linC) (fun x : Fin n → V => List.ofFn x) := by
  refine ⟨fun x => by simp, fun i => ?_⟩
  rw [tagOf_replicate]
  split
  · next hi =>
    have hv : ∀ x : Fin n → V, valOf (List.ofFn x) i = x ⟨i, hi⟩ := fun x => by simp [valOf, hi]
    simp only [Holds, hv]
    exact ⟨fun x y => rfl, fun c x => rfl⟩
  · trivial

variable [Module R V] [IsScalarTower R K V] [IsScalarTower R K X]
-- `SemiLin.isLinearMap_real`, `.restrict`, `.restrict_anti`, `.real`, `Holds.mono` use the tower on one side only, `Holds.conj` on neither;
-- `omit … in` re-elaborates the binders at twice the cost of the lemma
set_option linter.unusedSectionVars false

theorem SemiLin.isLinearMap_real {v : X → V} (h : SemiLin (fun r : R => algebraMap R K r) v) :
    IsLinearMap R v :=
  ⟨h.1, fun r x => by rw [h.2, algebraMap_smul]⟩

theorem SemiLin.restrict {v : X → V} (h : SemiLin (fun c : K => c) v) :
    SemiLin (fun r : R => algebraMap R K r) v :=
  ⟨h.1, fun r x => by rw [← algebraMap_smul K r x, h.2]⟩

theorem SemiLin.restrict_anti (hs : ∀ r : R, star (algebraMap R K r) = algebraMap R K r) {v : X → V}
    (h : SemiLin (fun c : K => star c) v) : SemiLin (fun r : R => algebraMap R K r) v :=
  ⟨h.1, fun r x => by rw [← algebraMap_smul K r x, h.2]; beta_reduce; rw [hs]⟩

theorem Holds.mono (hs : ∀ r : R, star (algebraMap R K r) = algebraMap R K r) {a b : Tag} {v : X → V}
    (hab : a.le b) (h : Holds R K a v) : Holds R K b v := by
  rcases hab with rfl | rfl | rfl | ⟨rfl, rfl | rfl⟩
  · trivial
  · exact Holds.of_zero (h.2 rfl) b
  · exact h
  · exact SemiLin.restrict h
  · exact SemiLin.restrict_anti hs h

theorem SemiLin.real {f : V → V}
    (fadd : ∀ u u', f (u + u') = f u + f u') (fsmul : ∀ (r : R) u, f (r • u) = r • f u)
    {va : X → V} (ha : SemiLin (fun r : R => algebraMap R K r) va) :
    SemiLin (fun r : R => algebraMap R K r) (fun x => f (va x)) :=
  ⟨fun x y => by beta_reduce; rw [ha.1, fadd],
    fun r x => by beta_reduce; rw [ha.2, algebraMap_smul, fsmul, algebraMap_smul]⟩

theorem Holds.re (hs : ∀ r : R, star (algebraMap R K r) = algebraMap R K r) {f : V → V}
    (fadd : ∀ u u', f (u + u') = f u + f u') (fsmul : ∀ (r : R) u, f (r • u) = r • f u)
    {ta : Tag} {va : X → V} (ha : Holds R K ta va) : Holds R K ta.re (fun x => f (va x)) := by
  rcases ta with za | _ | _ | _ | _
  · exact ha.const_comp (map_zero_of_smul fsmul)
  · exact SemiLin.real fadd fsmul (SemiLin.restrict ha)
  · exact SemiLin.real fadd fsmul (SemiLin.restrict_anti hs ha)
  · exact SemiLin.real fadd fsmul ha
  · trivial

theorem Holds.conj (hs : ∀ r : R, star (algebraMap R K r) = algebraMap R K r) {f : V → V}
    (fadd : ∀ u u', f (u + u') = f u + f u') (fsmul : ∀ (c : K) u, f (c • u) = star c • f u)
    {ta : Tag} {va : X → V} (ha : Holds R K ta va) : Holds R K ta.cj (fun x => f (va x)) := by
  rcases ta with za | _ | _ | _ | _
  · have f0 := fsmul 0 0
    rw [zero_smul, star_zero, zero_smul] at f0
    exact ha.const_comp f0
  · exact SemiLin.conj fadd fsmul ha
  · exact (SemiLin.conj fadd fsmul ha).congr fun c => star_star c
  · exact (SemiLin.conj fadd fsmul ha).congr hs
  · trivial

variable {I : Interp V}

theorem step_holds (hs : ∀ r : R, star (algebraMap R K r) = algebraMap R K r) {tags : List Tag}
    {E : X → List V} (h : Inv R K tags E) (e : Eqn) (hat : I.SoundAt R K e.cls e.prim) :
    Holds R K (stepTag tags e) (fun x => stepVal I (E x) e) := by
  obtain ⟨cls, prim, params, args⟩ := e
  rcases stepTag_cases tags cls prim params args with ht | ⟨hp, hcase⟩
  · rw [ht]; trivial
  -- the parameter operands do not depend on the input
  unfold stepVal
  simp only [h.const_args params hp]
  generalize params.map (valOf (E 0)) = ps
  rcases hcase with ⟨z, rfl, rfl, ht⟩ | ⟨rfl, ht⟩ | ⟨a, b, rfl, rfl, ht⟩ | ⟨a, b, rfl, rfl, ht⟩ | ⟨a, rfl, rfl, ht⟩ |
    ⟨a, rfl, rfl, ht⟩ | ⟨rfl, hc, ht⟩ <;> rw [ht]
  · refine ⟨fun _ => rfl, fun hz _ => ?_⟩
    subst hz
    exact hat ps
  · exact Holds.joint (hat.1 ps) (hat.2 ps) args (fun x => valOf (E x))
      fun a ha => (h.2 a).mono hs (le_joinAll (List.mem_map_of_mem ha))
  · exact Holds.bil (f := fun u v => I.den .bilinear prim ps [u, v])
      (hat.1 ps) (hat.2.1 ps) (fun d u u' => hat.2.2.1 ps d u u') (fun c d u => hat.2.2.2 ps c d u) (h.2 a) (h.2 b)
  · exact Holds.div (f := fun u v => I.den .divLike prim ps [u, v]) (hat.1 ps) (hat.2 ps) (h.2 a) (h.2 b)
  · exact Holds.re hs (f := fun u => I.den .realPart prim ps [u]) (hat.1 ps) (hat.2 ps) (h.2 a)
  · exact Holds.conj hs (f := fun u => I.den .conj prim ps [u]) (hat.1 ps) (hat.2 ps) (h.2 a)
  · exact ⟨fun x => by simp only [h.const_args args hc x], fun hz => by cases hz⟩

theorem Inv.step (hs : ∀ r : R, star (algebraMap R K r) = algebraMap R K r) {tags : List Tag}
    {E : X → List V} (h : Inv R K tags E) (e : Eqn) (hat : I.SoundAt R K e.cls e.prim) :
    Inv R K (tags ++ [stepTag tags e]) (fun x => E x ++ [stepVal I (E x) e]) := by
  refine ⟨fun x => by simp [h.1 x], fun i => ?_⟩
  simp only [valOf_append, tagOf_append, h.1]
  by_cases h1 : i < tags.length
  · simp only [h1, if_true]; exact h.2 i
  · by_cases h2 : i = tags.length
    · subst h2
      simpa using step_holds hs h e hat
    · simp only [h1, h2, if_false]; trivial

theorem Inv.eqns (hs : ∀ r : R, star (algebraMap R K r) = algebraMap R K r) (es : List Eqn)
    (hat : ∀ e ∈ es, I.SoundAt R K e.cls e.prim) {tags : List Tag} {E : X → List V} (h : Inv R K tags E) :
    Inv R K (checkEqns es tags) (fun x => evalEqns I es (E x)) := by
  induction es generalizing tags E with
  | nil => exact h
  | cons e es ih =>
    exact ih (fun e' he' => hat e' (List.mem_cons_of_mem _ he')) (h.step hs e (hat e List.mem_cons_self))

theorem progTags_holds (hs : ∀ r : R, star (algebraMap R K r) = algebraMap R K r) (p : Prog)
    (hat : ∀ e ∈ p.eqns, I.SoundAt R K e.cls e.prim) :
    Inv R K (progTags p) (fun x : Fin p.nin → V => finalEnv I p x) :=
  Inv.eqns hs p.eqns hat (Inv.init p.nin)

/-- **the denotation of a program has the property its verdict names**: each output has the property of its own
    tag, hence that of their join -/
theorem run_holds (hs : ∀ r : R, star (algebraMap R K r) = algebraMap R K r) (p : Prog)
    (hat : ∀ e ∈ p.eqns, I.SoundAt R K e.cls e.prim) : Holds R K (check p) (run I p) :=
  Holds.pi fun j => ((progTags_holds hs p hat).2 (p.outs.get j)).mono hs
    (le_joinAll (List.mem_map_of_mem (List.get_mem _ _)))

theorem Interp.Sound.run_holds (hI : I.Sound R K) (p : Prog) {t : Tag} (h : check p = t) :
    Holds R K t (run I p) :=
  h ▸ Scico.Jaxpr.run_holds hI.star_real p fun e _ => hI.at R K e.cls e.prim

/-- the form in which `C06_check_sound` states linearity -/
theorem isLinearMap_comb {S M N : Type} [Semiring S] [AddCommMonoid M] [AddCommMonoid N] [Module S M] [Module S N]
    {f : M → N} (hf : IsLinearMap S f) :
    (∀ (a b : S) (x y : M), f (a • x + b • y) = a • f x + b • f y) ∧ f 0 = 0 :=
  ⟨fun a b x y => by rw [hf.map_add, hf.map_smul, hf.map_smul], hf.map_zero⟩

theorem run_verdicts (hs : ∀ r : R, star (algebraMap R K r) = algebraMap R K r) (p : Prog)
    (hat : ∀ e ∈ p.eqns, I.SoundAt R K e.cls e.prim) :
    (check p = .linC → IsLinearMap K (run I p)) ∧ (check p = .linR → IsLinearMap R (run I p)) ∧
    (check p = .antiC → SemiLin (fun c : K => star c) (run I p)) ∧
    (check p = .const true → ∀ x, run I p x = 0) := by
  have H := run_holds hs p hat
  refine ⟨fun h => ?_, fun h => ?_, fun h => ?_, fun h => ?_⟩ <;> rw [h] at H
  · exact SemiLin.isLinearMap H
  · exact SemiLin.isLinearMap_real H
  · exact H
  · exact H.2 rfl

theorem Interp.Sound.run_verdicts (hI : I.Sound R K) (p : Prog) :
    (check p = .linC → IsLinearMap K (run I p)) ∧ (check p = .linR → IsLinearMap R (run I p)) ∧
    (check p = .antiC → SemiLin (fun c : K => star c) (run I p)) ∧
    (check p = .const true → ∀ x, run I p x = 0) :=
  Scico.Jaxpr.run_verdicts hI.star_real p fun e _ => hI.at R K e.cls e.prim

end

/-- the one output of a program with `outs = [_]` -/
theorem fin_eq_zero_of_eq_one {n : Nat} (h : n = 1) (j : Fin n) : j = ⟨0, by omega⟩ := by
  subst h; exact Fin.ext (by omega)

end Scico.Jaxpr
