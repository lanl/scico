/-
  Proximal points in an arbitrary real inner-product space `E` (ℝⁿ, ℂⁿ under `Re⟨·,·⟩`, block arrays as product spaces): the
  specification shared by the engines that speak of proximal maps, written independently of any executable model.  A functional
  with values in `ℝ ∪ {+∞}` is a pair `D`, `f` (domain, finite values on it; indicators are `f = 0` on `D = C`).  `Cert` is the
  sub-gradient certificate `(v - p)/lam ∈ ∂f(p)`, `IsProx` the minimiser of `lam f + ½‖· - v‖²` with the quadratic gap, `IsGMin` a
  global minimiser (for non-convex functionals).  `Cert` and `IsProx` are the same predicate (`three_point` is an identity, no
  convexity involved); for convex `f` a global minimiser carries the certificate too.
-/
import Scico.Proofs.Inequalities
import Mathlib.Analysis.InnerProductSpace.Basic
import Mathlib.Tactic.Linarith
import Mathlib.Tactic.Ring
import Mathlib.Tactic.LinearCombination

set_option linter.unusedSectionVars false

/-- the real inner product, as every module on real inner-product spaces (Prox, Steps) writes it -/
scoped[Scico] notation "⟪" x ", " y "⟫" => inner ℝ x y

namespace Scico.ProxSpec

variable {E : Type*} [NormedAddCommGroup E] [InnerProductSpace ℝ E]

/-- sub-gradient certificate of `p` for `prox_{lam f}(v)` on the domain `D` -/
def Cert (D : Set E) (f : E → ℝ) (lam : ℝ) (v p : E) : Prop :=
  p ∈ D ∧ ∀ z ∈ D, f p + ⟪(1 / lam) • (v - p), z - p⟫ ≤ f z

/-- `p` minimises `lam f + ½‖·-v‖²` over `D`, with the quadratic gap (hence uniquely) -/
def IsProx (D : Set E) (f : E → ℝ) (lam : ℝ) (v p : E) : Prop :=
  p ∈ D ∧ ∀ x ∈ D, lam * f p + 1 / 2 * ‖p - v‖ ^ 2 + 1 / 2 * ‖x - p‖ ^ 2 ≤ lam * f x + 1 / 2 * ‖x - v‖ ^ 2

/-- `p` is a global minimiser of `lam f + ½‖·-v‖²` over `D` -/
def IsGMin (D : Set E) (f : E → ℝ) (lam : ℝ) (v p : E) : Prop :=
  p ∈ D ∧ ∀ x ∈ D, lam * f p + 1 / 2 * ‖p - v‖ ^ 2 ≤ lam * f x + 1 / 2 * ‖x - v‖ ^ 2

theorem three_point (x p v : E) :
    1 / 2 * ‖x - v‖ ^ 2 = 1 / 2 * ‖p - v‖ ^ 2 + 1 / 2 * ‖x - p‖ ^ 2 - ⟪v - p, x - p⟫ := by
  rw [← sub_sub_sub_cancel_right x v p, ← neg_sub v p, norm_sub_sq_real, norm_neg, real_inner_comm]
  ring

/-- the certificate with the division by `lam` cleared: the form in which it is proved and used -/
theorem cert_iff {D : Set E} {f : E → ℝ} {lam : ℝ} {v p : E} (hlam : 0 < lam) :
    Cert D f lam v p ↔ p ∈ D ∧ ∀ z ∈ D, lam * f p + ⟪v - p, z - p⟫ ≤ lam * f z := by
  refine and_congr Iff.rfl (forall₂_congr fun z _ => ?_)
  rw [real_inner_smul_left, ← mul_le_mul_iff_of_pos_left hlam, mul_add, ← mul_assoc,
    mul_one_div_cancel hlam.ne', one_mul]

theorem cert_of_slope {D : Set E} {f : E → ℝ} {lam : ℝ} {v p g : E} (hlam : lam ≠ 0) (hv : v - p = lam • g)
    (hp : p ∈ D) (h : ∀ z ∈ D, f p + ⟪g, z - p⟫ ≤ f z) : Cert D f lam v p :=
  ⟨hp, fun z hz => by rw [hv, smul_smul, one_div_mul_cancel hlam, one_smul]; exact h z hz⟩

theorem isProx_iff_cert {D : Set E} {f : E → ℝ} {lam : ℝ} {v p : E} (hlam : 0 < lam) :
    IsProx D f lam v p ↔ Cert D f lam v p := by
  rw [cert_iff hlam]
  refine and_congr Iff.rfl (forall₂_congr fun x _ => ?_)
  exact ⟨fun h => by linear_combination h + three_point x p v, fun h => by linear_combination h - three_point x p v⟩

theorem prox_of_cert {D : Set E} {f : E → ℝ} {lam : ℝ} {v p : E} (hlam : 0 < lam)
    (h : Cert D f lam v p) : IsProx D f lam v p :=
  (isProx_iff_cert hlam).2 h

theorem IsProx.isGMin {D : Set E} {f : E → ℝ} {lam : ℝ} {v p : E} (h : IsProx D f lam v p) :
    IsGMin D f lam v p :=
  ⟨h.1, fun x hx => by linear_combination h.2 x hx + (1 / 2) * sq_nonneg ‖x - p‖⟩

theorem eq_of_norm_sub_sq_nonpos {x y : E} (h : ‖x - y‖ ^ 2 ≤ 0) : x = y :=
  sub_eq_zero.mp (norm_eq_zero.mp (pow_eq_zero_iff two_ne_zero |>.mp (le_antisymm h (sq_nonneg _))))

theorem IsProx.unique {D : Set E} {f : E → ℝ} {lam : ℝ} {v p q : E}
    (hp : IsProx D f lam v p) (hq : IsGMin D f lam v q) : q = p :=
  eq_of_norm_sub_sq_nonpos (by linear_combination 2 * hp.2 q hq.1 + 2 * hq.2 p hp.1)

/-- the sub-differential is a monotone relation (no convexity needed) -/
theorem cert_monotone {D : Set E} {f : E → ℝ} {lam : ℝ} {v w p q : E} (hlam : 0 < lam)
    (hp : Cert D f lam v p) (hq : Cert D f lam w q) : 0 ≤ ⟪(v - p) - (w - q), p - q⟫ := by
  rw [cert_iff hlam] at hp hq
  have h1 := hp.2 q hq.1
  have h2 := hq.2 p hp.1
  rw [← neg_sub p q, inner_neg_right] at h1
  rw [inner_sub_left]
  linarith

theorem prox_firm {D : Set E} {f : E → ℝ} {lam : ℝ} {v w p q : E} (hlam : 0 < lam)
    (hp : Cert D f lam v p) (hq : Cert D f lam w q) : ‖p - q‖ ^ 2 ≤ ⟪p - q, v - w⟫ := by
  have h := cert_monotone hlam hp hq
  rw [sub_sub_sub_comm, inner_sub_left, real_inner_self_eq_norm_sq, real_inner_comm] at h
  linarith

theorem norm_le_of_sq_le_inner {a b : E} (h : ‖a‖ ^ 2 ≤ ⟪a, b⟫) : ‖a‖ ≤ ‖b‖ := by
  have h' := h.trans (real_inner_le_norm a b)
  rcases (norm_nonneg a).eq_or_lt with h0 | hpos
  · rw [← h0]; exact norm_nonneg _
  · rw [sq] at h'; exact le_of_mul_le_mul_left h' hpos

theorem prox_nonexpansive {D : Set E} {f : E → ℝ} {lam : ℝ} {v w p q : E} (hlam : 0 < lam)
    (hp : Cert D f lam v p) (hq : Cert D f lam w q) : ‖p - q‖ ≤ ‖v - w‖ :=
  norm_le_of_sq_le_inner (prox_firm hlam hp hq)

/-- convexity is used along the segment `p + t (z - p)` only -/
theorem cert_of_min_convex {D : Set E} {f : E → ℝ} {lam : ℝ} {v p : E} (hlam : 0 < lam)
    (hconv : ∀ x ∈ D, ∀ y ∈ D, ∀ t : ℝ, 0 ≤ t → t ≤ 1 →
      (x + t • (y - x)) ∈ D ∧ f (x + t • (y - x)) ≤ (1 - t) * f x + t * f y)
    (h : IsGMin D f lam v p) : Cert D f lam v p := by
  refine (cert_iff hlam).mpr ⟨h.1, fun z hz => ?_⟩
  -- comparing `p` with `p + t (z - p)`:  `t·(lam f p + ⟪v-p,z-p⟫ - lam f z) ≤ ½ t² ‖z-p‖²`
  refine sub_nonpos.mp (nonpos_of_forall_small (sq_nonneg ‖z - p‖) fun t htpos htle => ?_)
  obtain ⟨hmem, hfx⟩ := hconv p h.1 z hz t htpos.le htle
  have hmin := h.2 _ hmem
  have h3 := three_point (p + t • (z - p)) p v
  rw [add_sub_cancel_left, norm_smul, real_inner_smul_right, Real.norm_eq_abs, abs_of_pos htpos, mul_pow] at h3
  have hlamf := mul_le_mul_of_nonneg_left hfx hlam.le
  linear_combination hmin + hlamf + h3

theorem prox_mem_dom {D : Set E} {f : E → ℝ} {lam : ℝ} {v p : E} (h : Cert D f lam v p) : p ∈ D := h.1

theorem segment_eq (a : ℝ) (y v : E) : (1 - a) • y + a • v = y + a • (v - y) := by
  rw [smul_sub, sub_smul, one_smul, sub_add_eq_add_sub, add_sub_assoc]

theorem sub_segment (a : ℝ) (y v : E) : v - (y + a • (v - y)) = (1 - a) • (v - y) := by
  rw [← sub_sub, sub_smul, one_smul]

/-! ### translation and scaling: `x ↦ α·f(x - y)` (orientation matters: `f` need not be even) -/

theorem isGMin_translate_iff {D : Set E} {f : E → ℝ} {s lam : ℝ} {v y p : E} :
    IsGMin {x | x - y ∈ D} (fun x => s * f (x - y)) lam v p ↔ IsGMin D f (s * lam) (v - y) (p - y) := by
  have obj : ∀ x, lam * (s * f (x - y)) + 1 / 2 * ‖x - v‖ ^ 2 = s * lam * f (x - y) + 1 / 2 * ‖x - y - (v - y)‖ ^ 2 :=
    fun x => by rw [sub_sub_sub_cancel_right]; ring
  refine and_congr Iff.rfl ⟨fun h x hx => ?_, fun h x hx => ?_⟩
  · have := h (x + y) (by rwa [Set.mem_ofPred_eq, add_sub_cancel_right])
    rw [obj, obj, add_sub_cancel_right] at this
    exact this
  · rw [obj, obj]; exact h (x - y) hx

theorem cert_translate {D : Set E} {f : E → ℝ} {lam s : ℝ} {v y p : E} (hs : 0 < s)
    (h : Cert D f (s * lam) (v - y) p) :
    Cert {x : E | x - y ∈ D} (fun x => s * f (x - y)) lam v (p + y) := by
  refine ⟨by simpa using h.1, fun z hz => ?_⟩
  have hz' := mul_le_mul_of_nonneg_left (h.2 (z - y) hz) hs.le
  have e : (1 / (s * lam)) • (v - y - p) = (1 / s) • (1 / lam) • (v - y - p) := by
    rw [smul_smul, one_div_mul_one_div]
  rw [e, real_inner_smul_left, mul_add, ← mul_assoc, mul_one_div_cancel hs.ne', one_mul] at hz'
  beta_reduce
  rwa [add_sub_cancel_right, sub_add_eq_sub_sub_swap v, sub_add_eq_sub_sub_swap z]

end Scico.ProxSpec
