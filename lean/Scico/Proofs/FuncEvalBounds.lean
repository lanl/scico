/-
  Evaluation model (property C09), facts over real lists that need order: Cauchy–Schwarz, the triangle inequality and
  `Σσ² ≤ (Σσ)²` on lists (behind `rel_res ≤ 2` and the bounds of the nuclear norm), signs and comparisons of the loss
  functions, `mse = 0`.
-/
import Scico.Proofs.FuncEval
import Scico.Proofs.Sums
import Mathlib.Analysis.SpecialFunctions.Log.Basic

namespace Scico.FuncEval

section lists

theorem sum_sub_sq : ∀ (a b : List ℝ), a.length = b.length →
    ((List.zipWith (· - ·) b a).map (fun x => x * x)).sum =
      (a.map (fun x => x * x)).sum - 2 * (List.zipWith (· * ·) a b).sum + (b.map (fun x => x * x)).sum
  | [], [], _ => by simp
  | x :: a, y :: b, h => by
    simp only [List.zipWith_cons_cons, List.map_cons, List.sum_cons, sum_sub_sq a b (Nat.succ.inj h)]
    ring
  | [], _ :: _, h => by simp at h
  | _ :: _, [], h => by simp at h

theorem cauchySchwarz_zipWith (a b : List ℝ) (h : a.length = b.length) :
    (List.zipWith (· * ·) a b).sum ^ 2 ≤ (a.map (fun x => x * x)).sum * (b.map (fun x => x * x)).sum := by
  have := list_zip_cs (a.zip b)
  rwa [List.map_zip_eq_zipWith, show (fun p : ℝ × ℝ => p.1 ^ 2) = (fun x => x * x) ∘ Prod.fst from funext fun p => sq p.1,
    show (fun p : ℝ × ℝ => p.2 ^ 2) = (fun x => x * x) ∘ Prod.snd from funext fun p => sq p.2,
    ← List.map_map, ← List.map_map, List.map_fst_zip h.le, List.map_snd_zip h.ge] at this

/-- `‖b − a‖ ≤ ‖a‖ + ‖b‖` for real lists of the same length -/
theorem triangle_sqmags (a b : List ℝ) (h : a.length = b.length) :
    Real.sqrt (sqmags false (List.zipWith (· - ·) b a)).sum
      ≤ Real.sqrt (sqmags false a).sum + Real.sqrt (sqmags false b).sum := by
  have hA := sum_sqmags_nonneg false a
  have hB := sum_sqmags_nonneg false b
  simp only [sqmags_real] at hA hB ⊢
  -- Σ(b−a)² = A − 2C + B and −C ≤ √(A B)
  have hC := (neg_le_abs _).trans (Real.abs_le_sqrt (cauchySchwarz_zipWith a b h))
  rw [Real.sqrt_mul hA] at hC
  rw [sum_sub_sq a b h]
  refine Real.sqrt_le_iff.2 ⟨add_nonneg (Real.sqrt_nonneg _) (Real.sqrt_nonneg _), ?_⟩
  rw [add_sq, Real.sq_sqrt hA, Real.sq_sqrt hB]
  linarith

theorem sum_sq_le_sq_sum (l : List ℝ) (h : ∀ a ∈ l, 0 ≤ a) : (l.map (fun a => a ^ 2)).sum ≤ l.sum ^ 2 := by
  induction l with
  | nil => simp
  | cons a l ih =>
    simp only [List.sum_cons, List.map_cons]
    have ha : 0 ≤ a := h a (by simp)
    have hs : 0 ≤ l.sum := List.sum_nonneg (fun x hx => h x (by simp [hx]))
    have := ih (fun x hx => h x (by simp [hx]))
    linarith [mul_nonneg ha hs]

end lists

section losses

theorem wsum_nonneg (w : Option (List ℝ)) (s : List ℝ) (hw : ∀ l, w = some l → ∀ a ∈ l, 0 ≤ a) (hs : ∀ a ∈ s, 0 ≤ a) :
    0 ≤ wsum w s := by
  cases w with
  | none => exact List.sum_nonneg hs
  | some l => exact zipWith_sum_nonneg _ _ _ (fun x hx y hy => mul_nonneg (hw l rfl x hx) (hs y hy))

/-- `SquaredL2Loss.__call__` on real data with weights: `scale · Σ wᵢ (yᵢ − (Ax)ᵢ)²` -/
theorem sqL2Loss_real_eq (scale : ℝ) (w y ax : List ℝ) :
    sqL2Loss false scale (some w) y ax =
      scale * (List.zipWith (· * ·) w (List.zipWith (fun yi ai => (yi - ai) ^ 2) y ax)).sum := by
  simp only [sqL2Loss, wsum, sqmags_real]
  congr 2
  rw [List.map_zipWith]
  have : (fun x y : ℝ => (x - y) * (x - y)) = fun yi ai => (yi - ai) ^ 2 := by
    funext a b; ring
  rw [this]

/-- entrywise: for a real measurement `y ≥ 0` and a complex value `a = (re, im)`:
    `(y − |a|)² ≤ |y − a|²` (so `SquaredL2AbsLoss ≤ SquaredL2Loss` entry by entry) -/
theorem abs_entry_le (y re im : ℝ) (hy : 0 ≤ y) :
    (y - Real.sqrt (re * re + im * im)) * (y - Real.sqrt (re * re + im * im)) ≤ (y - re) * (y - re) + im * im := by
  have hn : 0 ≤ re * re + im * im := add_nonneg (mul_self_nonneg re) (mul_self_nonneg im)
  have hsq := Real.mul_self_sqrt hn
  have hre : re ≤ Real.sqrt (re * re + im * im) :=
    Real.le_sqrt_of_sq_le (by rw [sq]; exact le_add_of_nonneg_right (mul_self_nonneg im))
  -- the difference of the two sides is `2 y (√(re² + im²) − re)`
  linarith [mul_nonneg hy (sub_nonneg.mpr hre)]

theorem abs_entry_le_real (y a : ℝ) (hy : 0 ≤ y) : (y - absR a) * (y - absR a) ≤ (y - a) * (y - a) := by
  unfold absR
  split
  · rename_i h
    linarith [mul_nonneg hy (neg_nonneg.2 h.le)]
  · exact le_refl _

/-- Poisson negative log-likelihood, one entry: for `a > 0`, `y > 0`:
    `a − y log a ≥ y − y log y` — the entry is minimised at `a = y` -/
theorem poisson_entry_min (a y : ℝ) (ha : 0 < a) (hy : 0 < y) :
    y - y * Real.log y ≤ a - y * Real.log a := by
  have h := Real.log_le_sub_one_of_pos (div_pos ha hy)
  rw [Real.log_div ha.ne' hy.ne'] at h
  have h2 := mul_le_mul_of_nonneg_left h hy.le
  rw [mul_sub, mul_sub, mul_div_cancel₀ _ hy.ne', mul_one] at h2
  linarith

/-- and for `y = 0` the entry `a − 0·log a = a` is non-negative on `a ≥ 0` -/
theorem poisson_entry_zero (a : ℝ) (ha : 0 ≤ a) : (0 : ℝ) - 0 * Real.log 0 ≤ a - 0 * Real.log a := by
  simp [ha]

theorem wsum_mono (w : List ℝ) (hw : ∀ a ∈ w, 0 ≤ a) {s t : List ℝ} (h : List.Forall₂ (· ≤ ·) s t) :
    wsum (some w) s ≤ wsum (some w) t := by
  obtain ⟨hl, hst⟩ := List.forall₂_iff_get.1 h
  refine List.Forall₂.sum_le_sum (List.forall₂_iff_get.2 ⟨by simp only [List.length_zipWith, hl], fun i hi _ => ?_⟩)
  simp only [List.length_zipWith, lt_min_iff] at hi
  simp only [List.get_eq_getElem, List.getElem_zipWith]
  exact mul_le_mul_of_nonneg_left (hst i hi.2 (hl ▸ hi.2)) (hw _ (List.getElem_mem hi.1))

theorem sqL2AbsLoss_le_sqL2Loss_real {scale : ℝ} (hs : 0 ≤ scale) (w : Option (List ℝ))
    (hw : ∀ l, w = some l → ∀ a ∈ l, 0 ≤ a) (y ax : List ℝ) (hy : ∀ a ∈ y, 0 ≤ a) :
    sqL2AbsLoss false scale w y ax ≤ sqL2Loss false scale w y ax := by
  have key : List.Forall₂ (· ≤ ·) ((List.zipWith (· - ·) y (mags false ax)).map (fun d => d * d))
      (sqmags false (List.zipWith (· - ·) y ax)) := by
    rw [mags_real, sqmags_real]
    refine List.forall₂_iff_get.2 ⟨by simp only [List.length_map, List.length_zipWith], fun i _ _ => ?_⟩
    simp only [List.get_eq_getElem, List.getElem_map, List.getElem_zipWith]
    exact abs_entry_le_real _ _ (hy _ (List.getElem_mem _))
  unfold sqL2AbsLoss sqL2Loss
  apply mul_le_mul_of_nonneg_left _ hs
  cases w with
  | none => exact key.sum_le_sum
  | some l => exact wsum_mono l (hw l rfl) key

end losses

section metrics

theorem zipWith_sub_sq_zero (r c : List ℝ) (h : r.length = c.length)
    (hz : ∀ a ∈ (List.zipWith (· - ·) r c).map (fun x => x * x), a = 0) : r = c := by
  apply List.ext_getElem h
  intro i h1 h2
  have := hz ((r[i] - c[i]) * (r[i] - c[i]))
    (List.mem_map.2 ⟨_, List.mem_iff_getElem.2 ⟨i, by simp [h1, h2], List.getElem_zipWith⟩, rfl⟩)
  exact sub_eq_zero.1 (mul_self_eq_zero.1 this)

theorem mse_eq_zero_iff (r c : List ℝ) (hl : r.length = c.length) (hne : r ≠ []) :
    mse false r c = 0 ↔ r = c := by
  constructor
  · intro h
    simp only [mse, mean, lcount_eq_length] at h
    have hlen : ((sqmags false (List.zipWith (· - ·) r c)).length : ℝ) ≠ 0 := by
      have : 0 < r.length := List.length_pos_iff.mpr hne
      simp [sqmags_real, ← hl]; omega
    have hsum : (sqmags false (List.zipWith (· - ·) r c)).sum = 0 := by
      rcases div_eq_zero_iff.mp h with h | h
      · exact h
      · exact absurd h hlen
    exact zipWith_sub_sq_zero r c hl fun a =>
      List.all_zero_of_le_zero_le_of_sum_eq_zero (sqmags_nonneg false _) hsum (x := a)
  · rintro rfl
    simp only [mse, mean]
    have : (sqmags false (List.zipWith (· - ·) r r)).sum = 0 := by simp [sqmags_real]
    rw [this, zero_div]

end metrics

end Scico.FuncEval
