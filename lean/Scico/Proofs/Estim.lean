/-
  Power iteration (`Scico.Model.Estim.powerLoop`) on a real inner-product space: the estimates are Rayleigh quotients of the
  iterates, bounded by the operator norm, non-decreasing in the budget for a Gram operator, and scale with the operator.
-/
import Scico.Proofs.EstimLoop
import Scico.Proofs.Inequalities

namespace Scico.Estim

variable {E : Type} [NormedAddCommGroup E] [InnerProductSpace ℝ E]

/-- the operations `power_iteration` performs, on a real inner-product space
    (`ℝⁿ`; `ℂⁿ` under `Re⟨·,·⟩`) for a bounded operator `B` -/
noncomputable def opsOf (B : E →L[ℝ] E) : VOps E ℝ where
  apply := fun v => B v
  inner := fun a b => inner ℝ a b
  norm := fun v => ‖v‖
  sdiv := fun v c => c⁻¹ • v

/-- Rayleigh quotient as the code computes it -/
noncomputable def rq (B : E →L[ℝ] E) (v : E) : ℝ := inner ℝ v (B v) / (‖v‖ * ‖v‖)

/-- the next (normalised) iterate -/
noncomputable def nxt (B : E →L[ℝ] E) (v : E) : E := ‖B v‖⁻¹ • B v

/-! The real loop through the generic one.  At `𝕜 = ℝ` the coercion `ℝ → 𝕜` is the identity, so `(opsOf B).toC = opsOfK B`,
`rq B v = rqC B v` and `nxt B v = nxtC B v` hold by `rfl`; each proof below says which of the three its last step uses. -/

theorem powerLoop_succ_zero (B : E →L[ℝ] E) (k : Nat) (mu : Option ℝ) (v : E) (h : B v = 0) :
    powerLoop (opsOf B) (k + 1) mu v = (some 0, B v) :=
  -- `(opsOf B).toC = opsOfK B`
  (powerLoop_toC _ _ _ _).trans (powerLoopC_succ_zero B k mu v h)

theorem powerLoop_succ_ne (B : E →L[ℝ] E) (k : Nat) (mu : Option ℝ) (v : E) (h : B v ≠ 0) :
    powerLoop (opsOf B) (k + 1) mu v = powerLoop (opsOf B) k (some (rq B v)) (nxt B v) := by
  rw [powerLoop_toC, powerLoop_toC]
  -- all three: `opsOfK B`, `rqC B v`, `nxtC B v`
  exact powerLoopC_succ_ne B k mu v h

-- the coercion of `‖v0‖⁻¹` is the identity
theorem normalize_ne_zero (v0 : E) (h : v0 ≠ 0) : ‖v0‖⁻¹ • v0 ≠ 0 := normalizeC_ne_zero (𝕜 := ℝ) v0 h

theorem norm_nxt (B : E →L[ℝ] E) (v : E) (h : B v ≠ 0) : ‖nxt B v‖ = 1 := by
  unfold nxt
  rw [norm_smul, norm_inv, norm_norm, inv_mul_cancel₀ (norm_ne_zero_iff.2 h)]

theorem powerLoop_le (B : E →L[ℝ] E) (M : ℝ) (hM0 : 0 ≤ M) (hM : ∀ v, v ≠ 0 → rq B v ≤ M) :
    ∀ (k : Nat) (mu : Option ℝ) (v : E), v ≠ 0 → (∀ m, mu = some m → m ≤ M) →
      ∀ m, (powerLoop (opsOf B) k mu v).1 = some m → m ≤ M := by
  intro k mu v hv hmu m hm
  rw [powerLoop_toC] at hm
  -- `(opsOf B).toC = opsOfK B` in `hm`, `rq B v = rqC B v` in `hM`
  exact powerLoopC_pred B (· ≤ M) hM0 hM k mu v hv hmu m hm

theorem powerIteration_pred (B : E →L[ℝ] E) (P : ℝ → Prop) (hP0 : P 0) (hP : ∀ v, v ≠ 0 → P (rq B v))
    {maxiter : Nat} {v0 v : E} {mu : ℝ} (hv0 : v0 ≠ 0) (h : powerIteration (opsOf B) maxiter v0 = .ok (mu, v)) :
    P mu :=
  -- `(opsOf B).toC = opsOfK B` in `h`, `rq B v = rqC B v` in `hP`
  powerIterationC_pred B P hP0 hP hv0 ((powerIteration_toC _ _ _).symm.trans h)

-- `rq B v = rqC B v`, and the norm of a real number is its absolute value by `rfl`
theorem abs_rq_le_opNorm (B : E →L[ℝ] E) (v : E) (hv : v ≠ 0) : |rq B v| ≤ ‖B‖ := norm_rqC_le B v hv

theorem rq_smul (B : E →L[ℝ] E) (c : ℝ) (hc : c ≠ 0) (w : E) : rq B (c • w) = rq B w := by
  unfold rq
  rw [map_smul, real_inner_smul_left, real_inner_smul_right, norm_smul, mul_mul_mul_comm, Real.norm_eq_abs,
    abs_mul_abs_self, ← mul_assoc, mul_div_mul_left _ _ (mul_self_ne_zero.2 hc)]

section gram

variable {F : Type} [NormedAddCommGroup F] [InnerProductSpace ℝ F]

/-- `B` is the Gram operator `AᴴA` of `A` -/
def IsGram (B : E →L[ℝ] E) (A : E →L[ℝ] F) : Prop := ∀ x y, inner ℝ (B x) y = inner ℝ (A x) (A y)

theorem IsGram.inner_self {B : E →L[ℝ] E} {A : E →L[ℝ] F} (h : IsGram B A) (v : E) :
    inner ℝ v (B v) = ‖A v‖ ^ 2 := by
  rw [real_inner_comm, h v v, real_inner_self_eq_norm_sq]

theorem IsGram.rq_le {B : E →L[ℝ] E} {A : E →L[ℝ] F} (h : IsGram B A) (v : E) (hv : v ≠ 0) :
    rq B v ≤ ‖A‖ ^ 2 := by
  unfold rq
  rw [div_le_iff₀ (mul_pos (norm_pos_iff.2 hv) (norm_pos_iff.2 hv)), h.inner_self, ← sq, ← mul_pow]
  exact pow_le_pow_left₀ (norm_nonneg _) (A.le_opNorm v) 2

theorem IsGram.rq_nonneg {B : E →L[ℝ] E} {A : E →L[ℝ] F} (h : IsGram B A) (v : E) : 0 ≤ rq B v := by
  unfold rq
  rw [h.inner_self]
  exact div_nonneg (sq_nonneg _) (mul_self_nonneg _)

theorem inner_mul_self_le (x y : E) : inner ℝ x y * inner ℝ x y ≤ ‖x‖ * ‖x‖ * (‖y‖ * ‖y‖) := by
  rw [← real_inner_self_eq_norm_mul_norm, ← real_inner_self_eq_norm_mul_norm]
  exact real_inner_mul_inner_self_le x y

theorem IsGram.rq_le_rq_apply {B : E →L[ℝ] E} {A : E →L[ℝ] F} (h : IsGram B A) (v : E) (hv : v ≠ 0)
    (hBv : B v ≠ 0) : rq B v ≤ rq B (B v) := by
  have hn : 0 < ‖v‖ * ‖v‖ := mul_pos (norm_pos_iff.2 hv) (norm_pos_iff.2 hv)
  have hb : 0 < ‖B v‖ * ‖B v‖ := mul_pos (norm_pos_iff.2 hBv) (norm_pos_iff.2 hBv)
  -- `⟪v,Bv⟫ = ‖Av‖² > 0`: otherwise `‖Bv‖² = ⟪Av,ABv⟫ = 0`
  have hAv : 0 < inner ℝ v (B v) := by
    rw [h.inner_self]
    refine pow_pos (norm_pos_iff.2 fun h0 => hBv ?_) 2
    rw [← inner_self_eq_zero (𝕜 := ℝ), h v (B v), h0, inner_zero_left]
  have e1 : inner ℝ (A v) (A (B v)) = ‖B v‖ * ‖B v‖ := by
    rw [← h v (B v), real_inner_comm, real_inner_self_eq_norm_mul_norm]
  have e2 : ‖A v‖ * ‖A v‖ = inner ℝ v (B v) := by rw [h.inner_self, sq]
  have e3 : ‖A (B v)‖ * ‖A (B v)‖ = inner ℝ (B v) (B (B v)) := by rw [h.inner_self, sq]
  -- `rq v = ⟪v,Bv⟫/‖v‖² ≤ ‖Bv‖²/⟪v,Bv⟫ = ⟪Av,ABv⟫/‖Av‖² ≤ ‖ABv‖²/⟪Av,ABv⟫ = rq (Bv)`
  have s1 := div_le_div_of_mul_self_le hn hAv (inner_mul_self_le v (B v))
  have s2 := div_le_div_of_mul_self_le (e2 ▸ hAv) (e1 ▸ hb) (inner_mul_self_le (A v) (A (B v)))
  rw [e1, e2, e3] at s2
  exact s1.trans s2

/-- for a Gram operator the loop never takes the zero exit after the first iteration -/
theorem IsGram.apply_nxt_ne {B : E →L[ℝ] E} {A : E →L[ℝ] F} (h : IsGram B A) (v : E) (hv : B v ≠ 0) :
    B (nxt B v) ≠ 0 := by
  unfold nxt
  rw [map_smul]
  refine smul_ne_zero (inv_ne_zero (norm_ne_zero_iff.2 hv)) fun h0 => hv ?_
  -- `⟪Bv,Bv⟫ = ⟪Av,ABv⟫ = ⟪BBv,v⟫`
  rw [← inner_self_eq_zero (𝕜 := ℝ), h v (B v), real_inner_comm, ← h (B v) v, h0, inner_zero_left]

theorem IsGram.powerLoop_run {B : E →L[ℝ] E} {A : E →L[ℝ] F} (h : IsGram B A) :
    ∀ (k : Nat) (mu : Option ℝ) (v : E), B v ≠ 0 →
      (powerLoop (opsOf B) (k + 1) mu v).1 = some (rq B ((nxt B)^[k] v)) := by
  intro k
  induction k with
  | zero => intro mu v hv; rw [powerLoop_succ_ne B 0 mu v hv]; rfl
  | succ k ih =>
    intro mu v hv
    rw [powerLoop_succ_ne B (k + 1) mu v hv, ih _ _ (h.apply_nxt_ne v hv)]
    rfl

theorem IsGram.rq_iterate_mono {B : E →L[ℝ] E} {A : E →L[ℝ] F} (h : IsGram B A) :
    ∀ (k : Nat) (v : E), v ≠ 0 → B v ≠ 0 → rq B ((nxt B)^[k] v) ≤ rq B ((nxt B)^[k + 1] v) := by
  intro k
  induction k with
  | zero =>
    intro v hv hBv
    show rq B v ≤ rq B (‖B v‖⁻¹ • B v)
    rw [rq_smul B _ (inv_ne_zero (norm_ne_zero_iff.2 hBv))]
    exact h.rq_le_rq_apply v hv hBv
  | succ k ih =>
    intro v hv hBv
    exact ih (nxt B v) (normalize_ne_zero (B v) hBv) (h.apply_nxt_ne v hBv)

end gram

theorem rq_smul_op (B : E →L[ℝ] E) (s : ℝ) (v : E) : rq (s • B) v = s * rq B v := by
  unfold rq
  rw [_root_.smul_apply, real_inner_smul_right, mul_div_assoc]

theorem nxt_smul_op (B : E →L[ℝ] E) (s : ℝ) (hs : 0 < s) (v : E) : nxt (s • B) v = nxt B v := by
  unfold nxt
  rw [_root_.smul_apply, norm_smul, Real.norm_eq_abs, abs_of_pos hs, smul_smul, mul_inv, mul_right_comm,
    inv_mul_cancel₀ hs.ne', one_mul]

/-- for every `s > 0`, however small: the zero exit tests `‖Bv‖ = 0` exactly -/
theorem powerLoop_smul_op (B : E →L[ℝ] E) (s : ℝ) (hs : 0 < s) :
    ∀ (k : Nat) (mu : Option ℝ) (v : E),
      (powerLoop (opsOf (s • B)) k (mu.map (s * ·)) v).1 = (powerLoop (opsOf B) k mu v).1.map (s * ·) := by
  have hz : ∀ v, (s • B) v = 0 ↔ B v = 0 := fun v => by
    rw [_root_.smul_apply, smul_eq_zero, or_iff_right hs.ne']
  intro k
  induction k with
  | zero => intro mu v; rfl
  | succ k ih =>
    intro mu v
    by_cases h : B v = 0
    · rw [powerLoop_succ_zero B k mu v h, powerLoop_succ_zero (s • B) k _ v ((hz v).2 h)]
      exact congrArg some (mul_zero s).symm
    · rw [powerLoop_succ_ne B k mu v h, powerLoop_succ_ne (s • B) k _ v (mt (hz v).1 h), rq_smul_op,
        nxt_smul_op B s hs]
      exact ih (some (rq B v)) (nxt B v)

end Scico.Estim
