/-
  C15, `scico.util.ContextTimer` on the tick transcription of `Timer`: the lemmas both actions share and the
  action `StopStart` (`ctx_stopStart`); `StartStop` is short enough to stand in `Props/C15`.  A context manager
  addresses one label, so the dictionary drops out (`start_single`, `stop_single`); what a `start` and a
  `stop` do to the reading (`elapsedEntry_startEntry`, `elapsedEntry_stopEntry`) are the two cases of
  `Clock.elapsedEntry_mach` in ticks, where the truncating subtraction needs `s ≤ t ≤ T`.
-/
import Scico.Proofs.DriverTimer

namespace Scico.Driver

variable {L : Type} [DecidableEq L]

/-- the label a `ContextTimer` acts on -/
def ctxLabel (T : Timer L) (label : Option L) : L := label.getD T.dflt

theorem start_ctx_get (T : Timer L) (label : Option L) (t : Nat) (l' : L) :
    (T.start (ctxArg label) t).store.get l' =
      if ctxLabel T label = l' then some (startEntry ((T.store.get l').getD Entry.fresh) t)
      else T.store.get l' := by
  rw [start_single T _ (ctxLabel T label) t (by cases label <;> rfl), Store.get_set]
  by_cases h : ctxLabel T label = l' <;> simp [h]

theorem stop_ctx (T : Timer L) (label : Option L) (t : Nat) (h : ctxLabel T label ≠ T.all) :
    T.stop (ctxArg label) t =
      match T.store.get (ctxLabel T label) with
      | none => (T, false)
      | some e => ({ T with store := T.store.set (ctxLabel T label) (stopEntry e t) }, true) := by
  rw [stop_single T _ (ctxLabel T label) t (by cases label <;> exact if_neg h)]
  cases T.store.get (ctxLabel T label) <;> rfl

/-- a `start` at `t` adds, to the total read at `T`, the time since `t` (a pending start is not
    after `t`, so the truncating subtraction is exact) -/
theorem elapsedEntry_startEntry (e : Entry) (t T : Nat) (h : ∀ s, e.t0 = some s → s ≤ t) (htT : t ≤ T) :
    elapsedEntry (startEntry e t) true T = elapsedEntry e true t + (T - t) := by
  cases h0 : e.t0 with
  | none => simp [startEntry, elapsedEntry, h0, Nat.add_comm]
  | some s =>
    have := h s h0
    simp only [startEntry, elapsedEntry, h0, if_true]
    omega

theorem elapsedEntry_stopEntry (e : Entry) (t T : Nat) (total : Bool) :
    elapsedEntry (stopEntry e t) total T = if total then elapsedEntry e true t else 0 := by
  cases h0 : e.t0 <;> cases total <;> simp [stopEntry, elapsedEntry, h0, Nat.add_comm]

theorem ctx_stopStart (T : Timer L) (label : Option L) (t1 t2 : Nat)
    (hall : ctxLabel T label ≠ T.all) (e : Entry) (hex : T.store.get (ctxLabel T label) = some e) :
    let r1 := ctxEnter T label .stopStart t1
    let r := ctxExit r1.1 label .stopStart t2
    r1.2 = true ∧ r.2 = true ∧
      ∀ now, t2 ≤ now → r.1.elapsed (some (ctxLabel T label)) true now =
          some (((T.elapsed (some (ctxLabel T label)) true t1).getD 0) + (now - t2)) ∧
        r.1.elapsed (some (ctxLabel T label)) false now = some (now - t2) := by
  intro r1 r
  have hr1 : r1 = ({ T with store := T.store.set (ctxLabel T label) (stopEntry e t1) }, true) := by
    show T.stop (ctxArg label) t1 = _
    rw [stop_ctx T label t1 hall, hex]
  have hl1 : ctxLabel r1.1 label = ctxLabel T label := by rw [hr1]; cases label <;> rfl
  have hr : r = (r1.1.start (ctxArg label) t2, true) := rfl
  refine ⟨by rw [hr1], by rw [hr], ?_⟩
  intro now hnow
  have hg := start_ctx_get r1.1 label t2 (ctxLabel T label)
  rw [hl1] at hg
  simp only [if_true] at hg
  rw [hr]
  simp only [Timer.elapsed, hg, Option.map_some]
  rw [hr1]
  simp only [Store.get_set, if_true, Option.getD_some, hex, Option.map_some]
  have h0 : (stopEntry e t1).t0 = none := by cases h : e.t0 <;> simp [stopEntry, h]
  constructor
  · rw [elapsedEntry_startEntry _ t2 now (fun s hs => by simp [h0] at hs) hnow, elapsedEntry_stopEntry]
    rfl
  · simp [startEntry, elapsedEntry, h0]

end Scico.Driver
