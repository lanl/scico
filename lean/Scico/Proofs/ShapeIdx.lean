/-
  `indexed_shape` (the loop of scico/numpy/util.py, model `indexedShape`) computes NumPy's basic
  indexing shape (`indexSpec`) for every shape and every index tuple with at most one `Ellipsis`.

  Invariant of the loop (`loop_spec`): after processing a prefix of the index, `idx_shape` is
  `P ++ shape[s:]` where `P` holds the entries produced so far (`len P = axis + offset`) and `s`
  (`= axis + offset - newaxis`) source axes have been consumed; before the `Ellipsis` the offset the
  code will assign there (`len(shape) + num_none - len(idx)`) is exactly what makes the position after
  the `Ellipsis` skip the axes it stands for.
-/
import Scico.Model.Shape

namespace Scico.Shape

def nCons (l : List Idx) : Nat := (l.filter Idx.consumes).length
def nEll (l : List Idx) : Nat := (l.filter (· = .ellipsis)).length
def nNew (l : List Idx) : Nat := (l.filter (· = .newaxis)).length

theorem count_split (l : List Idx) : l.length = nCons l + nNew l + nEll l := by
  induction l with
  | nil => rfl
  | cons x l ih =>
    cases x with
    | int _ | slice _ => show l.length + 1 = nCons l + 1 + nNew l + nEll l; omega
    | newaxis => show l.length + 1 = nCons l + (nNew l + 1) + nEll l; omega
    | ellipsis => show l.length + 1 = nCons l + nNew l + (nEll l + 1); rw [ih]; rfl

theorem filterMap_map_some (l : List Nat) : (l.map some).filterMap id = l := by
  simp [List.filterMap_map]

theorem insertAt_append {β : Type} (P R : List β) (v : β) :
    insertAt (P ++ R) P.length v = P ++ v :: R := by
  simp [insertAt]

theorem set_append {β : Type} (P R : List β) (x v : β) :
    (P ++ x :: R).set P.length v = P ++ v :: R := by
  induction P with
  | nil => rfl
  | cons p P ih => simp [ih]

theorem drop_eq_cons {l : List Nat} {s : Nat} (h : s < l.length) :
    l.drop s = l.getD s 0 :: l.drop (s + 1) := by
  rw [List.getD_eq_getElem?_getD, List.getElem?_eq_getElem h, Option.getD_some]
  exact List.drop_eq_getElem_cons h

/-! one step of the loop, of the specification and of the counts, per kind of index entry: one that
    consumes a source axis (an integer or a slice), `None`, `Ellipsis` -/

theorem indexedLoop_consumes {shape : List Nat} {N n : Nat} {ix : Idx} (hc : ix.consumes = true)
    (rest : List Idx) (axis : Nat) (acc : List (Option Nat)) (offset : Int) (newaxis : Nat) :
    indexedLoop shape N n (ix :: rest) axis acc offset newaxis
      = if (axis : Int) + offset < 0 ∨ (axis : Int) + offset - newaxis < 0
            ∨ ((axis : Int) + offset).toNat ≥ acc.length
            ∨ ((axis : Int) + offset - newaxis).toNat ≥ shape.length then none
        else match axisLen (shape.getD ((axis : Int) + offset - newaxis).toNat 0) ix with
          | none => none
          | some v => indexedLoop shape N n rest (axis + 1) (acc.set ((axis : Int) + offset).toNat v)
              offset newaxis := by
  cases ix <;> first | rfl | cases hc

theorem indexWalk_consumes {ix : Idx} (hc : ix.consumes = true) (a : Nat) (shape : List Nat)
    (rest : List Idx) (fill : Nat) :
    indexWalk (a :: shape) (ix :: rest) fill
      = match axisLen a ix with
        | none => none
        | some none => indexWalk shape rest fill
        | some (some k) => (indexWalk shape rest fill).map (k :: ·) := by
  cases ix <;> first | rfl | cases hc

theorem nCons_consumes {ix : Idx} (hc : ix.consumes = true) (rest : List Idx) :
    nCons (ix :: rest) = nCons rest + 1 ∧ nEll (ix :: rest) = nEll rest := by
  cases ix <;> first | exact ⟨rfl, rfl⟩ | cases hc

theorem indexedLoop_newaxis (shape : List Nat) (N n : Nat) (rest : List Idx) (axis : Nat)
    (acc : List (Option Nat)) (offset : Int) (newaxis : Nat) :
    indexedLoop shape N n (.newaxis :: rest) axis acc offset newaxis
      = if (axis : Int) + offset < 0 then none
        else indexedLoop shape N n rest (axis + 1) (insertAt acc ((axis : Int) + offset).toNat (some 1)) offset
          (newaxis + 1) := rfl

theorem indexedLoop_ellipsis (shape : List Nat) (N n : Nat) (rest : List Idx) (axis : Nat)
    (acc : List (Option Nat)) (offset : Int) (newaxis : Nat) :
    indexedLoop shape N n (.ellipsis :: rest) axis acc offset newaxis
      = indexedLoop shape N n rest (axis + 1) acc ((shape.length : Int) + N - n) newaxis := rfl

theorem indexWalk_newaxis (shape : List Nat) (rest : List Idx) (fill : Nat) :
    indexWalk shape (.newaxis :: rest) fill = (indexWalk shape rest fill).map (1 :: ·) := by
  cases shape <;> rfl

theorem indexWalk_ellipsis (shape : List Nat) (rest : List Idx) (fill : Nat) :
    indexWalk shape (.ellipsis :: rest) fill
      = (indexWalk (shape.drop fill) rest 0).map (shape.take fill ++ ·) := by
  cases shape <;> rfl

theorem nCons_newaxis (rest : List Idx) :
    nCons (.newaxis :: rest) = nCons rest ∧ nEll (.newaxis :: rest) = nEll rest := ⟨rfl, rfl⟩

theorem nCons_ellipsis (rest : List Idx) :
    nCons (.ellipsis :: rest) = nCons rest ∧ nEll (.ellipsis :: rest) = nEll rest + 1 := ⟨rfl, rfl⟩

/-- an entry appended to the produced prefix is prepended to what the specification still produces -/
theorem map_filterMap_snoc (P : List (Option Nat)) (v : Option Nat) (w : Option (List Nat)) :
    w.map (fun r => (P ++ [v]).filterMap id ++ r)
      = (match v with | none => w | some k => w.map (k :: ·)).map (fun r => P.filterMap id ++ r) := by
  cases v <;> cases w <;> simp [List.filterMap_append]

theorem loop_spec (shape : List Nat) (N n : Nat) :
    ∀ (rest : List Idx) (axis : Nat) (P : List (Option Nat)) (s : Nat) (offset : Int) (newaxis : Nat),
      nEll rest ≤ 1 →
      s + nCons rest ≤ shape.length →
      (axis : Int) + offset = P.length →
      P.length = s + newaxis →
      (nEll rest = 1 → ((s + nCons rest : Nat) : Int) = (n : Int) - N - 1 + offset) →
      (indexedLoop shape N n rest axis (P ++ (shape.drop s).map some) offset newaxis).map
          (fun l => l.filterMap id)
        = (indexWalk (shape.drop s) rest (shape.length - s - nCons rest)).map
            (fun r => P.filterMap id ++ r) := by
  intro rest
  induction rest with
  | nil =>
    intro axis P s offset newaxis _ _ _ _ _
    show some ((P ++ (shape.drop s).map some).filterMap id) = some (P.filterMap id ++ shape.drop s)
    rw [List.filterMap_append, filterMap_map_some]
  | cons ix rest ih =>
    intro axis P s offset newaxis hE hle hpos hsrc hell
    have hpos' : ∀ v : Option Nat, ((axis + 1 : Nat) : Int) + offset = (P ++ [v]).length := fun v => by
      rw [List.length_append, List.length_singleton]; push_cast; omega
    by_cases hcs : ix.consumes = true
    · obtain ⟨hc, he⟩ := nCons_consumes hcs rest
      rw [hc] at hle hell ⊢
      rw [he] at hE hell
      have hs : s < shape.length := Nat.lt_of_lt_of_le (Nat.lt_add_of_pos_right (Nat.succ_pos _)) hle
      have hsub : ((P.length : Nat) : Int) - newaxis = s := by rw [hsrc]; push_cast; exact Int.add_sub_cancel _ _
      rw [drop_eq_cons hs, indexedLoop_consumes hcs, indexWalk_consumes hcs, hpos, hsub, Int.toNat_natCast,
        Int.toNat_natCast, if_neg (by
          rw [List.length_append, List.length_map, List.length_cons]
          omega)]
      simp only [List.map_cons, set_append]
      cases axisLen (shape.getD s 0) ix with
      | none => rfl
      | some v =>
        have := ih (axis + 1) (P ++ [v]) (s + 1) offset newaxis hE
          (by rw [Nat.add_assoc, Nat.add_comm 1]; exact hle) (hpos' v)
          (by rw [List.length_append, hsrc]; exact Nat.add_right_comm _ _ _)
          (by rw [Nat.add_assoc, Nat.add_comm 1]; exact hell)
        rw [List.append_assoc, List.singleton_append] at this
        dsimp only
        rw [this, map_filterMap_snoc, Nat.sub_sub, Nat.sub_sub, Nat.add_assoc, Nat.add_comm 1]
        cases v <;> rfl
    cases ix with
    | int i => cases hcs rfl
    | slice sl => cases hcs rfl
    | newaxis =>
      obtain ⟨hc, he⟩ := nCons_newaxis rest
      rw [hc] at hle hell ⊢
      rw [he] at hE hell
      rw [indexedLoop_newaxis, hpos, if_neg (Int.not_lt.mpr (Int.natCast_nonneg _)), Int.toNat_natCast,
        insertAt_append, indexWalk_newaxis]
      have := ih (axis + 1) (P ++ [some 1]) s offset (newaxis + 1) hE hle (hpos' _)
        (by rw [List.length_append, hsrc]; rfl) hell
      rw [List.append_assoc, List.singleton_append] at this
      rw [this, map_filterMap_snoc]
    | ellipsis =>
      obtain ⟨hc, he⟩ := nCons_ellipsis rest
      rw [hc] at hle hell ⊢
      rw [he] at hE hell
      have h0 : nEll rest = 0 := Nat.le_zero.mp (Nat.le_of_succ_le_succ hE)
      have hell' := hell (by rw [h0])
      -- the axes the Ellipsis stands for
      let fill := shape.length - s - nCons rest
      have hf : s + fill + nCons rest = shape.length := by omega
      have hsplit : (shape.drop s).map some
          = ((shape.drop s).take fill).map some ++ (shape.drop (s + fill)).map some := by
        rw [← List.map_append, ← List.drop_drop, List.take_append_drop]
      have hlen : (P ++ ((shape.drop s).take fill).map some).length = P.length + fill := by
        rw [List.length_append, List.length_map, List.length_take, List.length_drop]
        omega
      rw [indexedLoop_ellipsis, indexWalk_ellipsis, hsplit, ← List.append_assoc]
      have := ih (axis + 1) (P ++ ((shape.drop s).take fill).map some) (s + fill)
        ((shape.length : Int) + N - n) newaxis (by rw [h0]; exact Nat.zero_le 1) (Nat.le_of_eq hf)
        (by rw [hlen]; push_cast; omega) (by rw [hlen, hsrc]; exact Nat.add_right_comm _ _ _)
        (by intro h; rw [h0] at h; cases h)
      rw [this, Nat.sub_sub, Nat.sub_eq_zero_of_le (Nat.le_of_eq hf.symm), List.drop_drop]
      simp only [Option.map_map, Function.comp_def, List.filterMap_append, filterMap_map_some,
        List.append_assoc]
      rfl

end Scico.Shape
