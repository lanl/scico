/-
  Proofs/StepsExamplesFindim — the instances of `StepsExamples` (`f = ½‖· − y0‖²`, `g = 0`, identity operators) meet the
  hypotheses of the finite-dimensional convergence theorems (`C03_pdhg_`, `C03_ladmm_`, `C03_padmm_`,
  `C03_admm_converges_findim`, `fista_unique_tendsto`).
  PDHG: `g* =` indicator of `{0}`, `prox_{σg*} = 0`, saddle point `(y0, 0)`.
-/
import Scico.Proofs.StepsOpialPDHG
import Scico.Proofs.StepsOpialPADMM
import Scico.Proofs.StepsOpialADMM
import Scico.Proofs.StepsExamples
import Scico.Proofs.StepsFISTAIterates

namespace Scico.Steps

variable {X : Type} [NormedAddCommGroup X] [InnerProductSpace ℝ X]

theorem isProx_indicator_zero : IsProx (Fn.indicator ({0} : Set X)) (fun _ _ => (0 : X)) := by
  intro lam _ v
  refine ⟨rfl, fun y hy => ?_⟩
  have : y = 0 := hy
  subst this
  simp [Fn.indicator]

theorem exPDHG_conv [FiniteDimensional ℝ X] (y0 : X) :
    PDHGConvHyp (exPDHG y0) (halfSq y0) (Fn.indicator ({0} : Set X)) 1 (1 / 2) :=
  have h := exPDHG_hyp y0
  ⟨h.lin, h.alpha1, h.tau, h.sigma, h.add, h.adj, h.proxf, isProx_indicator_zero, exPDHG_range y0⟩

theorem exPDHG_saddle [FiniteDimensional ℝ X] (y0 : X) :
    IsSaddle (exPDHG y0) (halfSq y0) (Fn.indicator ({0} : Set X)) (y0, 0) := by
  refine ⟨halfSq_kkt y0 neg_zero, rfl, fun y hy => ?_⟩
  have : y = 0 := hy
  subst this
  simp [Fn.indicator]

/-- the LinearizedADMM instance (`C = I`, `μ = ½`, `ν = 1`, so `μ‖C‖² = ½ < ν`) meets the hypotheses of
    `C03_ladmm_converges_findim`; KKT point `(y0, y0, 0)` -/
theorem exLADMM_conv [FiniteDimensional ℝ X] (y0 : X) : LADMMConvHyp (exLADMM y0) (halfSq y0) zeroFn 1 :=
  have h := exLADMM_hyp y0
  ⟨h.mu, h.nu, h.add, h.adj, h.proxf, h.proxg, zero_le_one, fun a => (one_mul _).ge, by norm_num [exLADMM]⟩

theorem exLADMM_kkt [FiniteDimensional ℝ X] (y0 : X) : IsLKKT (exLADMM y0) (halfSq y0) zeroFn (y0, y0, 0) :=
  ⟨rfl, (exLADMM_hyp y0).kktx, (exLADMM_hyp y0).kktz⟩

/-- ProximalADMM instance with STRICT constraints (`A = I`, `B = −I`, `c = 0`, `ρ = 1`, `μ = ν = 2 > 1 = ‖A‖² = ‖B‖²`) for
    `C03_padmm_converges_findim`; KKT point `(y0, y0, y0, 0)` -/
noncomputable def exPADMM2 (y0 : X) : PADMMParams ℝ X X X :=
  { exPADMM y0 with mu := 2, nu := 2 }

theorem exPADMM2_conv [FiniteDimensional ℝ X] (y0 : X) : PADMMConvHyp (exPADMM2 y0) (halfSq y0) zeroFn 1 1 := by
  have h := exPADMM_hyp y0
  exact ⟨one_pos, two_pos, two_pos, h.addA, h.addB, h.adjA, h.adjB, h.proxf, h.proxg, zero_le_one, zero_le_one,
    fun a => (one_mul _).ge, fun b => (by rw [norm_neg, one_mul] : ‖-b‖ ≤ 1 * ‖b‖),
    by norm_num [exPADMM2], by norm_num [exPADMM2]⟩

/-- the KKT conditions do not read `μ`, `ν` -/
theorem exPADMM2_kkt [FiniteDimensional ℝ X] (y0 : X) : IsPKKT (exPADMM2 y0) (halfSq y0) zeroFn (y0, y0, y0, 0) :=
  ⟨rfl, (exPADMM_hyp y0).feas, (exPADMM_hyp y0).kktx, (exPADMM_hyp y0).kktz⟩

/-- what the exact x-update reads from function-indexed lists: `Σρ_i` does not depend on them, `Σρ_i(z_i − u_i)` is continuous -/
theorem sumRho_ofFn {T : Type} [TopologicalSpace T] :
    ∀ (cons : List (Con X X)) (n : Nat) (_ : cons.length = n) (a b : T → Fin n → X), Continuous a → Continuous b →
      (∀ t, sumRho cons (List.ofFn (a t)) (List.ofFn (b t)) = (cons.map (·.rho)).sum) ∧
      Continuous fun t => sumRhoZU cons (List.ofFn (a t)) (List.ofFn (b t))
  | [], _, _, a, b, _, _ => by simp [sumRho, sumRhoZU, continuous_const]
  | c :: cs, _, rfl, a, b, ha, hb => by
    have ha' : Continuous fun t (i : Fin cs.length) => a t i.succ :=
      continuous_pi fun i => (continuous_apply i.succ).comp ha
    have hb' : Continuous fun t (i : Fin cs.length) => b t i.succ :=
      continuous_pi fun i => (continuous_apply i.succ).comp hb
    obtain ⟨h1, h2⟩ := sumRho_ofFn cs _ rfl _ _ ha' hb'
    have ha0 : Continuous fun t => a t 0 := (continuous_apply 0).comp ha
    have hb0 : Continuous fun t => b t 0 := (continuous_apply 0).comp hb
    unfold sumRho at h1 ⊢
    unfold sumRhoZU at h2 ⊢
    simp only [List.length_cons, List.ofFn_succ, List.zip_cons_cons, List.map_cons, List.sum_cons]
    exact ⟨fun t => by rw [h1 t], (continuous_const.smul (ha0.sub hb0)).add h2⟩

theorem exSolveX_xplus_continuous (y0 x0 : X) (cons : List (Con X X)) (hprox : ∀ c ∈ cons, ∀ l, Continuous (c.prox l)) :
    Continuous (xplus cons (exSolveX y0 cons) x0) := by
  have hP : Continuous (Pz cons) := continuous_pi fun i =>
    (hprox _ (List.get_mem _ i) _).comp (continuous_apply i)
  obtain ⟨h1, h2⟩ := sumRho_ofFn cons _ rfl (Pz cons) (fun σ i => σ i - Pz cons σ i) hP (continuous_id.sub hP)
  unfold xplus exSolveX
  simp only [h1]
  exact continuous_const.smul (continuous_const.add h2)

/-- any relaxation in `(0,2)`, any penalties between `rlo > 0` and `rhi` -/
theorem idCons_admmConv [FiniteDimensional ℝ X] (y0 x0 : X) (rhos : List ℝ) {alpha rlo rhi : ℝ} (a0 : 0 < alpha)
    (a2 : alpha < 2) (hlo0 : 0 < rlo) (hlo : ∀ r ∈ rhos, rlo ≤ r) (hhi : ∀ r ∈ rhos, r ≤ rhi) :
    ADMMConvHyp (rhos.map idCon) alpha (exSolveX y0 (rhos.map idCon)) (halfSq y0) x0 rlo rhi :=
  have hpos : ∀ c ∈ rhos.map (idCon (E := X)), 0 < c.rho := idCons_pos fun r hr => hlo0.trans_le (hlo r hr)
  ⟨a0, a2, List.forall_mem_map.2 fun _ _ _ _ => rfl, List.forall_mem_map.2 fun _ _ _ _ => rfl, List.forall_mem_map.2 fun _ _ => isProx_zero, hlo0,
    List.forall_mem_map.2 hlo, List.forall_mem_map.2 hhi, List.forall_mem_map.2 fun _ _ => continuous_id,
    exSolveX_stationary y0 _ (idCons_id rhos) hpos, exSolveX_unique y0 _ (idCons_id rhos) hpos,
    exSolveX_xplus_continuous y0 x0 _ (List.forall_mem_map.2 fun _ _ _ => continuous_id)⟩

/-- KKT point `(y0, u* = 0)` -/
theorem idCons_akkt [FiniteDimensional ℝ X] (y0 : X) (rhos : List ℝ) :
    IsAKKT (rhos.map (idCon (E := X))) (halfSq y0) y0 (fun _ => 0) :=
  ⟨fun i => (List.forall_mem_map (P := fun c : Con X X => c.G.Subgrad (c.C y0) (c.rho • (0 : X)))).2
      (fun _ _ => zeroFn_kkt _ (smul_zero _)) _ (List.get_mem _ i),
   by simpa [List.ofFn_const, List.map_const', Function.comp_def] using ex_kktx y0 (rhos.map idCon) (idCons_id rhos)⟩

/-- two constraints `ρ = (1, 2)`, relaxation `α = 3/2` -/
theorem exADMM_conv [FiniteDimensional ℝ X] (y0 x0 : X) :
    ADMMConvHyp [idCon 1, idCon 2] (3 / 2) (exSolveX y0 [idCon 1, idCon 2]) (halfSq y0) x0 1 2 :=
  idCons_admmConv y0 x0 [1, 2] (by norm_num) (by norm_num) one_pos (by norm_num) (by norm_num)

theorem exADMM_kkt [FiniteDimensional ℝ X] (y0 : X) :
    IsAKKT ([idCon 1, idCon 2] : List (Con X X)) (halfSq y0) y0 (fun _ => 0) :=
  idCons_akkt y0 [1, 2]

section
variable {E : Type} [NormedAddCommGroup E] [InnerProductSpace ℝ E]

theorem exPGM_isMin (y0 : E) : IsMinOn (exPGM y0).f (zeroFn : Fn E) y0 := by
  refine ⟨trivial, fun y _ => ?_⟩
  show 1 / 2 * ‖y0 - y0‖ ^ 2 + 0 ≤ 1 / 2 * ‖y - y0‖ ^ 2 + 0
  rw [sub_self, norm_zero]
  linarith [sq_nonneg ‖y - y0‖]

theorem exPGM_unique (y0 y : E) (hy : IsMinOn (exPGM y0).f (zeroFn : Fn E) y) : y = y0 := by
  have h : 1 / 2 * ‖y - y0‖ ^ 2 + 0 ≤ 1 / 2 * ‖y0 - y0‖ ^ 2 + 0 := hy.2 y0 trivial
  rw [sub_self, norm_zero] at h
  exact ProxSpec.eq_of_norm_sub_sq_nonpos (by linarith)

theorem exPGM_closed (y0 : E) : ClosedSublevels (exPGM y0).f (zeroFn : Fn E) := by
  intro c
  have : {x : E | x ∈ (zeroFn : Fn E).dom ∧ (exPGM y0).f x + (zeroFn : Fn E).val x ≤ c}
      = {x : E | 1 / 2 * ‖x - y0‖ ^ 2 + 0 ≤ c} := by
    ext x; simp [exPGM, zeroFn, Fn.ofReal]
  rw [this]
  exact isClosed_le (by fun_prop) continuous_const

end

end Scico.Steps
