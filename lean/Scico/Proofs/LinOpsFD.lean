/-
  Finite differences on one axis (`fdEval_eq_mulVec`; lifted to an axis and stacked over several axes in `C04_fd_axis`,
  `C04_fd_multi_axis`, `C04_fd_shape_axes`, proved in `Props/C04.lean` with `cat_vstack` and `axisSpec_prod` from here), block columns and block
  diagonals of stacks, projected gradients.
-/
import Scico.Proofs.LinOps
import Mathlib.Algebra.BigOperators.Field

namespace Scico.LinOps
open Finset

variable {K : Type} [CommRing K]

theorem sumTo_ite_some (n : Nat) (p : Option Nat) (x : V K) :
    sumTo n (fun j => (if p = some j then (1 : K) else 0) * x j)
      = match p with | some q => if q < n then x q else 0 | none => 0 := by
  cases p with
  | none => simp [sumTo_zero]
  | some q =>
    rw [sumTo_single n q]
    · simp
    · intro j _ hne
      have : ¬ (some q = some j) := by simpa using fun h => hne h.symm
      simp [this]

theorem sumTo_ite_some_sub (n : Nat) (p m : Option Nat) (x : V K) :
    sumTo n (fun j => ((if p = some j then (1 : K) else 0) - (if m = some j then (1 : K) else 0)) * x j)
      = (match p with | some q => if q < n then x q else 0 | none => 0)
        - (match m with | some q => if q < n then x q else 0 | none => 0) := by
  rw [← sumTo_ite_some n p x, ← sumTo_ite_some n m x]
  simp only [sumTo_eq_sum, ← sum_sub_distrib]
  exact sum_congr rfl (fun j _ => by ring)

theorem sumTo_ite_sub (n a b : Nat) (x : V K) (ha : a < n) (hb : b < n) :
    sumTo n (fun j => ((if j = a then (1 : K) else 0) - (if j = b then (1 : K) else 0)) * x j) = x a - x b := by
  simpa only [Option.some.injEq, if_pos ha, if_pos hb, eq_comm (a := a), eq_comm (a := b)]
    using sumTo_ite_some_sub n (some a) (some b) x

theorem diff_cat_lt (u v : V K) {m i : Nat} (h : i + 1 < m) : diff (cat u m v) i = u (i + 1) - u i := by
  simp only [diff, cat, if_pos h, if_pos (Nat.lt_of_succ_lt h)]

theorem diff_cat_eq (u v : V K) {m i : Nat} (h : i + 1 = m) : diff (cat u m v) i = v 0 - u i := by
  subst h
  simp only [diff, cat, Nat.lt_irrefl, if_false, Nat.sub_self, Nat.lt_succ_self, if_true]

theorem diff_cat_ge (u v : V K) {m i : Nat} (h : m ≤ i) : diff (cat u m v) i = diff v (i - m) := by
  simp only [diff, cat, if_neg (Nat.not_lt.mpr h), if_neg (Nat.not_lt.mpr (Nat.le_succ_of_le h)), Nat.sub_add_comm h]

theorem fdEval_eq_mulVec (c : FDCfg) (n : Nat) (hn : 0 < n) (x : V K) (i : Nat) (hi : i < fdOutLen c n) :
    fdEval c n x i = mulVec (fdMatrix c n) n x i := by
  unfold mulVec fdMatrix
  rw [sumTo_ite_some_sub]
  obtain ⟨p, a, circ⟩ := c
  cases circ
  · -- `diff (cat pre off (cat x n app))`: the row is read off by its position relative to `off` and `n`
    have hoff : (fdPre ⟨p, a, false⟩ x).2 = (if p = .no then 0 else 1) := by cases p <;> rfl
    simp only [fdOutLen, Bool.false_eq_true, if_false] at hi
    simp only [fdEval, fdPlus, fdMinus, Bool.false_eq_true, if_false, hoff]
    by_cases h0 : i < (if p = .no then 0 else 1)
    · -- first row `1 0 0 …` (`prepend = 1`) or zero row (`prepend = 0`)
      rw [if_pos h0, if_pos h0]
      cases p
      · exact absurd h0 (Nat.not_lt_zero _)
      · simp only [reduceCtorEq, if_false] at h0 ⊢
        obtain rfl : i = 0 := by omega
        rw [diff_cat_eq _ _ rfl]
        simp only [cat, if_pos hn, fdPre, Bool.false_eq_true, if_false, sub_self]
      · simp only [reduceCtorEq, if_false, if_true] at h0 ⊢
        obtain rfl : i = 0 := by omega
        rw [diff_cat_eq _ _ rfl]
        simp only [cat, if_pos hn, fdPre, Bool.false_eq_true, if_false]
    · rw [if_neg h0, if_neg h0, diff_cat_ge _ _ (Nat.not_lt.mp h0)]
      by_cases h1 : i - (if p = .no then 0 else 1) + 1 < n
      · -- band row `… -1 1 …`
        rw [if_pos h1, if_pos h1, diff_cat_lt _ _ h1]
        simp only [if_pos h1, if_pos (Nat.lt_of_succ_lt h1)]
      · -- last row `… 0 -1` (`append = 1`) or zero row (`append = 0`); no such row without `append`
        rw [if_neg h1, if_neg h1]
        have h2 : i - (if p = .no then 0 else 1) + 1 = n := by
          have : (if a = Ext.no then 0 else 1) ≤ 1 := by split <;> omega
          omega
        rw [diff_cat_eq _ _ h2]
        have h3 : i - (if p = .no then 0 else 1) = n - 1 := by omega
        rw [h3]
        cases a
        · rw [if_pos rfl] at hi; omega
        · simp only [fdApp, Bool.false_eq_true, reduceCtorEq, if_false, sub_self]
        · simp only [fdApp, Bool.false_eq_true, if_false, if_true, if_pos (Nat.sub_lt hn Nat.one_pos)]
  · -- circular: `diff (cat x n x[0:1])`
    simp only [fdOutLen, if_true] at hi
    simp only [fdEval, fdPre, fdApp, fdPlus, fdMinus, if_true]
    rw [diff_cat_ge _ _ (Nat.zero_le i), Nat.sub_zero, if_pos (Nat.mod_lt _ hn), if_pos hi]
    by_cases h : i + 1 < n
    · rw [diff_cat_lt _ _ h, Nat.mod_eq_of_lt h]
    · obtain rfl : i + 1 = n := by omega
      rw [diff_cat_eq _ _ rfl, Nat.mod_self]

/-- the documented matrix as a list of rows over `ℤ` (for the worked examples) -/
def fdRows (c : FDCfg) (n : Nat) : List (List Int) :=
  (List.range (fdOutLen c n)).map (fun i => (List.range n).map (fun j => fdMatrix (α := Int) c n i j))

/-- one more block on top of a block column: rows below `m` come from the new block, the others from the rest -/
theorem cat_vstack (A : M K) (m : Nat) (rest : List (M K × Nat)) (n : Nat) (x u v : V K) (i : Nat)
    (hu : i < m → u i = mulVec A n x i) (hv : m ≤ i → v (i - m) = mulVec (vstackMatrix rest) n x (i - m)) :
    cat u m v i = mulVec (vstackMatrix ((A, m) :: rest)) n x i := by
  simp only [vstackMatrix, cat, mulVec]
  by_cases h : i < m
  · simp only [h, if_true]; exact hu h
  · simp only [h, if_false]; exact hv (Nat.not_lt.mp h)

theorem dstack_eq_mulVec (ops : List (M K × Nat × Nat)) (x : V K) (i : Nat) (hi : i < dRows ops) :
    dstackEval ops x i = mulVec (dstackMatrix ops) (dCols ops) x i := by
  induction ops generalizing i x with
  | nil => simp [dRows] at hi
  | cons op rest ih =>
    obtain ⟨A, m, n⟩ := op
    have hc : dCols ((A, m, n) :: rest) = n + dCols rest := by simp [dCols]
    simp only [dstackEval, dstackMatrix, cat, mulVec, hc]
    -- the row sum splits at column `n`; the block off the diagonal contributes nothing
    rw [sumTo_add]
    by_cases h : i < m
    · simp only [h, if_true]
      have e1 : sumTo n (fun j => (if j < n then A i j else 0) * x j) = sumTo n (fun j => A i j * x j) :=
        sumTo_congr (fun j hj => by rw [if_pos hj])
      have e2 : sumTo (dCols rest) (fun j => (if n + j < n then A i (n + j) else 0) * x (n + j)) = 0 :=
        sumTo_eq_zero (fun j _ => by rw [if_neg (Nat.not_lt.mpr (Nat.le_add_right n j)), zero_mul])
      rw [e1, e2, add_zero]
    · simp only [h, if_false]
      have hi' : i - m < dRows rest := by simp [dRows] at hi ⊢; omega
      rw [ih (fun j => x (j + n)) (i - m) hi']
      have e1 : sumTo n (fun j => (if j < n then (0 : K) else dstackMatrix rest (i - m) (j - n)) * x j) = 0 :=
        sumTo_eq_zero (fun j hj => by rw [if_pos hj, zero_mul])
      rw [e1, zero_add]
      unfold mulVec
      exact sumTo_congr (fun j _ => by
        rw [if_neg (Nat.not_lt.mpr (Nat.le_add_right n j)), Nat.add_sub_cancel_left, Nat.add_comm n j])

theorem axisSpec_prod (shape : List Nat) (a : Nat) (ha : a < shape.length) :
    (axisSpec shape a).1 * (axisSpec shape a).2.1 * (axisSpec shape a).2.2 = prodL shape := by
  unfold axisSpec
  simp only
  have h1 : shape = shape.take a ++ shape.drop a := (List.take_append_drop a shape).symm
  have h2 : shape.drop a = shape[a] :: shape.drop (a + 1) := List.drop_eq_getElem_cons ha
  conv_rhs => rw [h1, prodL_append, h2]
  rw [getD_eq_getElem shape a 1 ha]
  simp only [prodL]; ring

theorem projEvalAux_eq (acc : K) : ∀ (l : List (V K × V K)) (i : Nat),
    projEval.projEvalAux acc l i = acc + (l.map (fun cg => cg.1 i * cg.2 i)).sum
  | [], i => by simp [projEval.projEvalAux]
  | (c, g) :: rest, i => by
      simp only [projEval.projEvalAux, projEvalAux_eq _ rest i, List.map_cons, List.sum_cons]; ring

theorem projEval_eq_sum (l : List (V K × V K)) (i : Nat) :
    projEval l i = (l.map (fun cg => cg.1 i * cg.2 i)).sum := by
  cases l with
  | nil => simp [projEval]
  | cons a rest =>
    obtain ⟨c, g⟩ := a
    simp only [projEval, projEvalAux_eq, List.map_cons, List.sum_cons]; ring

theorem projEval_eq_mulVec (n : Nat) (x : V K) (i : Nat) : ∀ (l : List (V K × M K)),
    projEval (l.map (fun cG => (cG.1, mulVec cG.2 n x))) i = mulVec (projMatrix l) n x i
  | [] => by simp [projEval, projMatrix, mulVec, sumTo_eq_sum]
  | (c, G) :: rest => by
      have ih := projEval_eq_mulVec n x i rest
      rw [projEval_eq_sum] at ih ⊢
      simp only [List.map_cons, List.sum_cons, List.map_map] at ih ⊢
      rw [ih]
      simp only [mulVec, projMatrix, sumTo_eq_sum, mul_sum, ← sum_add_distrib]
      exact sum_congr rfl (fun j _ => by ring)

/-- `projEval` only reads the entries at the output position -/
theorem projEval_congr (i : Nat) : ∀ (l l' : List (V K × V K)),
    List.Forall₂ (fun a b => a.1 i = b.1 i ∧ a.2 i = b.2 i) l l' → projEval l i = projEval l' i := by
  intro l l' h
  rw [projEval_eq_sum, projEval_eq_sum]
  induction h with
  | nil => rfl
  | cons hab _ ih =>
    simp only [List.map_cons, List.sum_cons, ih, hab.1, hab.2]

theorem fdOutLen_diffstack (n : Nat) : fdOutLen diffstackCfg n = n := by
  simp [fdOutLen, diffstackCfg]

end Scico.LinOps
