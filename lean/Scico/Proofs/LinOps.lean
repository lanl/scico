/-
  `sumTo` as a `Finset` sum, the model's row-major index functions (`prodL`, `ravel`, `unravel`, `InBounds`) identified with
  those of `Scico.Index`, and the lifting of a 1-d linear map to one axis of an N-d array (`I ⊗ A ⊗ I`).
-/
import Scico.Model.LinOps
import Scico.Proofs.Index
import Scico.Proofs.Sums
import Mathlib.Algebra.BigOperators.Group.Finset.Basic
import Mathlib.Algebra.BigOperators.Ring.Finset
import Mathlib.Algebra.BigOperators.Intervals
import Mathlib.Tactic.Ring
import Mathlib.Tactic.Linarith

namespace Scico.LinOps
open Finset Scico.Index

section Sums
variable {K : Type} [AddCommMonoid K]

theorem sumTo_eq_sum (n : Nat) (f : Nat → K) : sumTo n f = ∑ j ∈ range n, f j := by
  induction n with
  | zero => simp [sumTo]
  | succ n ih => simp [sumTo, ih, sum_range_succ]

theorem sumTo_congr {n : Nat} {f g : Nat → K} (h : ∀ j, j < n → f j = g j) : sumTo n f = sumTo n g := by
  rw [sumTo_eq_sum, sumTo_eq_sum]
  exact sum_congr rfl (fun j hj => h j (mem_range.mp hj))

theorem sumTo_eq_zero {n : Nat} {f : Nat → K} (h : ∀ j, j < n → f j = 0) : sumTo n f = 0 := by
  rw [sumTo_eq_sum]
  exact sum_eq_zero (fun j hj => h j (mem_range.mp hj))

theorem sumTo_zero (n : Nat) : sumTo n (fun _ => (0 : K)) = 0 :=
  sumTo_eq_zero (fun _ _ => rfl)

theorem sumTo_add (n m : Nat) (f : Nat → K) :
    sumTo (n + m) f = sumTo n f + sumTo m (fun j => f (n + j)) := by
  simp only [sumTo_eq_sum]
  exact sum_range_add f n m

theorem sumTo_single (n q : Nat) (f : Nat → K) (h : ∀ j, j < n → j ≠ q → f j = 0) :
    sumTo n f = if q < n then f q else 0 := by
  rw [sumTo_eq_sum]
  split
  · rename_i hq
    exact sum_eq_single_of_mem q (mem_range.mpr hq) (fun j hj hne => h j (mem_range.mp hj) hne)
  · rename_i hq
    exact sum_eq_zero (fun j hj => h j (mem_range.mp hj) (by have := mem_range.mp hj; omega))

end Sums

theorem prodL_eq_prod : ∀ l : List Nat, prodL l = l.prod
  | [] => rfl
  | d :: l => congrArg (d * ·) (prodL_eq_prod l)

theorem ravel_eq : ∀ dims idx, ravel dims idx = Index.ravel dims idx
  | [], _ | _ :: _, [] => by simp [ravel, Index.ravel]
  | _ :: ds, i :: is => by rw [ravel, Index.ravel, prodL_eq_prod, ravel_eq ds is]

/-- the model recurses on the remainder `k % prodL ds`, `Index.unravel` on `k` itself (it reduces every digit modulo its
    dimension): they agree below the leading digit because `Index.unravel ds` has period `ds.prod` (`unravel_add_mul`), and
    inside the array the leading digit needs no reduction -/
theorem unravel_eq : ∀ dims k, k < prodL dims → unravel dims k = Index.unravel dims k
  | [], _, _ => rfl
  | d :: ds, k, h => by
    rw [prodL, prodL_eq_prod] at h
    have hs : 0 < ds.prod := Nat.pos_of_ne_zero fun h0 => by simp [h0] at h
    rw [unravel, Index.unravel, prodL_eq_prod, Nat.mod_eq_of_lt (div_lt_of_lt_mul h),
      unravel_eq ds _ (by rw [prodL_eq_prod]; exact Nat.mod_lt _ hs), ← Index.unravel_add_mul ds _ (k / ds.prod),
      Nat.mod_add_div']

theorem inBounds_iff : ∀ {dims idx}, InBounds dims idx ↔ Index.In dims idx
  | [], [] => by simp [InBounds]
  | [], _ :: _ | _ :: _, [] => by simp [InBounds]
  | _ :: _, _ :: _ => by simp [InBounds, inBounds_iff]

theorem prodL_append (a b : List Nat) : prodL (a ++ b) = prodL a * prodL b := by
  simp only [prodL_eq_prod, List.prod_append_nat]

/-! The next four are the facts `ravel_lt`, `unravel_ravel`, `ravel_unravel`, `unravel_in` of `Scico.Index`, restated for the model's own `ravel`, `unravel`, `prodL`,
`InBounds` through the bridges above. -/

theorem ravel_lt (dims idx : List Nat) (h : InBounds dims idx) : ravel dims idx < prodL dims := by
  rw [ravel_eq, prodL_eq_prod]; exact Index.ravel_lt (inBounds_iff.1 h)

theorem unravel_ravel (dims idx : List Nat) (h : InBounds dims idx) : unravel dims (ravel dims idx) = idx := by
  rw [unravel_eq _ _ (ravel_lt dims idx h), ravel_eq]; exact Index.unravel_ravel (inBounds_iff.1 h)

theorem ravel_unravel (dims : List Nat) (k : Nat) (h : k < prodL dims) : ravel dims (unravel dims k) = k := by
  rw [unravel_eq _ _ h, ravel_eq, Index.ravel_unravel, Nat.mod_eq_of_lt (prodL_eq_prod dims ▸ h)]

theorem unravel_inBounds (dims : List Nat) (k : Nat) (h : k < prodL dims) : InBounds dims (unravel dims k) := by
  rw [unravel_eq _ _ h]
  exact inBounds_iff.2 (Index.unravel_in k
    (List.prod_pos_iff_forall_pos_nat.1 (Nat.zero_lt_of_lt (prodL_eq_prod dims ▸ h))))

theorem prodL_pos_of_forall (dims : List Nat) (h : ∀ n ∈ dims, 0 < n) : 0 < prodL dims :=
  prodL_eq_prod dims ▸ List.prod_pos_iff_forall_pos_nat.2 h

theorem getD_eq_getElem (l : List Nat) (i d : Nat) (h : i < l.length) : l.getD i d = l[i] := by
  simp [List.getD, h]

section Axis
variable {K : Type} [CommRing K]

theorem alongAxis_mulVec (outer n m inner : Nat) (A : M K) (x : V K) (p : Nat) (hp : p < outer * m * inner) :
    alongAxis n m inner (mulVec A n) x p = mulVec (kronAxis n m inner A) (outer * n * inner) x p := by
  have ho : p / (m * inner) < outer := div_lt_of_lt_mul (Nat.mul_assoc outer m inner ▸ hp)
  have hr : p % inner < inner := mod_lt_of_lt_mul hp
  unfold alongAxis mulVec kronAxis
  -- the column sum over `q < outer·n·inner` splits into `(o, k, r)`; of `kronAxis` only the block `o = p / (m·inner)` and the
  -- inner position `r = p % inner` survive, and the sum over `k` that is left is row `p / inner % m` of `A`
  rw [sumTo_eq_sum, sumTo_eq_sum, sum_range_mul3]
  rw [sum_eq_single_of_mem (p / (m * inner)) (mem_range.mpr ho)]
  · refine sum_congr rfl (fun k hk => ?_)
    have hk' := mem_range.mp hk
    rw [sum_eq_single_of_mem (p % inner) (mem_range.mpr hr)]
    · obtain ⟨e1, e2, e3⟩ := decomp_idx (p / (m * inner)) k (p % inner) n inner hk' hr
      simp [e1, e2, e3]
    · intro r hr' hne
      obtain ⟨e1, e2, e3⟩ := decomp_idx (p / (m * inner)) k r n inner hk' (mem_range.mp hr')
      simp [e1, e2, hne.symm]
  · intro o ho' hne
    refine sum_eq_zero (fun k hk => sum_eq_zero (fun r hr' => ?_))
    obtain ⟨e1, e2, e3⟩ := decomp_idx o k r n inner (mem_range.mp hk) (mem_range.mp hr')
    simp [e1, hne.symm]

theorem sumTo_select {n q : Nat} (hq : q < n) {P : Nat → Prop} [DecidablePred P] (hP : ∀ j, j < n → (P j ↔ j = q))
    (x : V K) : sumTo n (fun j => (if P j then (1 : K) else 0) * x j) = x q := by
  rw [sumTo_single n q _ fun j hj hne => by rw [if_neg (mt (hP j hj).1 hne), zero_mul], if_pos hq,
    if_pos ((hP q hq).2 rfl), one_mul]

theorem dotTo_congr {n : Nat} {x x' y y' : V K} (hx : ∀ i, i < n → x i = x' i) (hy : ∀ i, i < n → y i = y' i) :
    dotTo n x y = dotTo n x' y' := sumTo_congr fun i hi => by rw [hx i hi, hy i hi]

theorem dotTo_mulVec (A : M K) (m n : Nat) (x y : V K) :
    dotTo m (mulVec A n x) y = dotTo n x (mulVec (fun j i => A i j) m y) := by
  simp only [dotTo, mulVec, sumTo_eq_sum, sum_mul, mul_sum]
  rw [sum_comm]
  exact sum_congr rfl fun j _ => sum_congr rfl fun i _ => by ring

theorem sumTo_mulVec_of_colsum (A : M K) (m n : Nat) (x : V K) (h : ∀ p, p < n → ∑ b ∈ range m, A b p = 1) :
    sumTo m (mulVec A n x) = sumTo n x := by
  simp only [mulVec, sumTo_eq_sum]
  rw [sum_comm]
  exact sum_congr rfl fun p hp => by rw [← sum_mul, h p (mem_range.mp hp), one_mul]

end Axis

end Scico.LinOps
