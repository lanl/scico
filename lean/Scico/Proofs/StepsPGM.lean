/-
  Proofs/StepsPGM — property C03: the quantities that theory says are monotone for the
  proximal gradient method, the linear rate for strongly convex `f`, and the FISTA momentum sequence.

  `T_L x = prox_{g/L}(x − (1/L)∇f(x))` is one documented PGM step (`pgmSpecStep`).
  Hypotheses on `f` are the two standard consequences of "∇f is L-Lipschitz and f convex":
    * co-coercivity  `(1/L)‖∇f x − ∇f y‖² ≤ ⟪∇f x − ∇f y, x − y⟫`,
    * the descent lemma `f y ≤ f x + ⟪∇f x, y − x⟫ + (L/2)‖y − x‖²`,
  both proved below for quadratics `f x = ½⟪Hx,x⟫ − ⟪b,x⟫` with `H` self-adjoint, `0 ≤ H ≤ L`
  (the weighted squared-ℓ2 loss `α‖Ax − y‖²_W` has `H = 2α AᴴWA`).
-/
import Scico.Proofs.StepsFixed
import Scico.Proofs.StepsIter
import Mathlib.Analysis.SpecificLimits.Basic
import Mathlib.Tactic.Abel

namespace Scico.Steps

variable {E : Type} [NormedAddCommGroup E] [InnerProductSpace ℝ E]

/-- `(1/L)‖∇f x − ∇f y‖² ≤ ⟪∇f x − ∇f y, x − y⟫` -/
def CoCoercive (grad : E → E) (L : ℝ) : Prop :=
  ∀ x y, 1 / L * ‖grad x - grad y‖ ^ 2 ≤ ⟪grad x - grad y, x - y⟫

/-- `f y ≤ f x + ⟪∇f x, y − x⟫ + (L/2)‖y − x‖²` -/
def DescentLemma (f : E → ℝ) (grad : E → E) (L : ℝ) : Prop :=
  ∀ x y, f y ≤ f x + ⟪grad x, y - x⟫ + L / 2 * ‖y - x‖ ^ 2

/-- `m‖x − y‖² ≤ ⟪∇f x − ∇f y, x − y⟫` (strong convexity of `f`) -/
def StronglyMonotone (grad : E → E) (m : ℝ) : Prop :=
  ∀ x y, m * ‖x - y‖ ^ 2 ≤ ⟪grad x - grad y, x - y⟫

/-- the forward (gradient) step is non-expansive, and contracts by `1 − m/L` (squared) under strong
    monotonicity (`m = 0` is always allowed) -/
theorem forward_step_sq {grad : E → E} {L m : ℝ} (hL : 0 < L) (hco : CoCoercive grad L)
    (hm : StronglyMonotone grad m) (x y : E) :
    ‖(x - L⁻¹ • grad x) - (y - L⁻¹ • grad y)‖ ^ 2 ≤ (1 - m / L) * ‖x - y‖ ^ 2 := by
  have e : (x - L⁻¹ • grad x) - (y - L⁻¹ • grad y) = (x - y) - L⁻¹ • (grad x - grad y) := by
    rw [smul_sub]; abel
  have h1 := hco x y
  have h2 := hm x y
  rw [e, norm_sub_sq_real, inner_smul_right, norm_smul, mul_pow, Real.norm_eq_abs, sq_abs, real_inner_comm,
    div_eq_mul_inv]
  rw [one_div] at h1
  -- `L⁻²‖Δ‖² ≤ L⁻¹⟪Δ,d⟫` and `(m/L)‖d‖² ≤ L⁻¹⟪Δ,d⟫`
  have hLi : 0 ≤ L⁻¹ := (inv_pos.2 hL).le
  linarith [mul_le_mul_of_nonneg_left h1 hLi, mul_le_mul_of_nonneg_left h2 hLi]

theorem stronglyMonotone_zero_of_coco {grad : E → E} {L : ℝ} (hL : 0 < L) (hco : CoCoercive grad L) :
    StronglyMonotone grad 0 := by
  intro x y
  have : 0 ≤ 1 / L * ‖grad x - grad y‖ ^ 2 := by positivity
  linarith [hco x y]

noncomputable def pgStep (grad : E → E) (prox : ℝ → E → E) (L : ℝ) (x : E) : E := prox L⁻¹ (x - L⁻¹ • grad x)

theorem pgStep_fixed {grad : E → E} {prox : ℝ → E → E} {G : Fn E} (hp : IsProx G prox) {L : ℝ}
    (hL : 0 < L) {xs : E} (h : G.Subgrad xs (-(grad xs))) : pgStep grad prox L xs = xs :=
  hp.fixed_sub (inv_pos.2 hL) h

theorem pgStep_dist_sq {grad : E → E} {prox : ℝ → E → E} {G : Fn E} (hp : IsProx G prox) {L m : ℝ}
    (hL : 0 < L) (hco : CoCoercive grad L) (hm : StronglyMonotone grad m) {xs : E}
    (h : G.Subgrad xs (-(grad xs))) (x : E) :
    ‖pgStep grad prox L x - xs‖ ^ 2 ≤ (1 - m / L) * ‖x - xs‖ ^ 2 := by
  -- the backward step is non-expansive and fixes `xs`, the forward step contracts
  have hne := hp.nonexpansive (inv_pos.2 hL) (x - L⁻¹ • grad x) (xs - L⁻¹ • grad xs)
  rw [show prox L⁻¹ (xs - L⁻¹ • grad xs) = xs from pgStep_fixed hp hL h] at hne
  exact (pow_le_pow_left₀ (norm_nonneg _) hne 2).trans (forward_step_sq hL hco hm x xs)

theorem pgStep_dist {grad : E → E} {prox : ℝ → E → E} {G : Fn E} (hp : IsProx G prox) {L : ℝ}
    (hL : 0 < L) (hco : CoCoercive grad L) {xs : E} (h : G.Subgrad xs (-(grad xs))) (x : E) :
    ‖pgStep grad prox L x - xs‖ ≤ ‖x - xs‖ := by
  have := pgStep_dist_sq hp hL hco (stronglyMonotone_zero_of_coco hL hco) h x
  simp only [zero_div, sub_zero, one_mul] at this
  exact (pow_le_pow_iff_left₀ (norm_nonneg _) (norm_nonneg _) two_ne_zero).1 this

/-- the three-point inequality of a proximal-gradient step (Beck–Teboulle 2009, Lemma 2.3): for every `y` and
    every `x ∈ dom g`, `F(x) − F(p_L(y)) ≥ (L/2)‖p_L(y) − y‖² + L⟪y − x, p_L(y) − y⟫`.  Convexity of `f` enters
    only through `hc`, between `y` and `x`; for `x = y` it is trivial and the inequality is the sufficient decrease. -/
theorem pgStep_three_point_of {f : E → ℝ} {grad : E → E} {prox : ℝ → E → E} {G : Fn E} (hp : IsProx G prox)
    {L : ℝ} (hL : 0 < L) (hd : DescentLemma f grad L) (y x : E) (hx : x ∈ G.dom)
    (hc : f y + ⟪grad y, x - y⟫ ≤ f x) :
    L / 2 * ‖pgStep grad prox L y - y‖ ^ 2 + L * ⟪y - x, pgStep grad prox L y - y⟫
      ≤ (f x + G.val x) - (f (pgStep grad prox L y) + G.val (pgStep grad prox L y)) := by
  obtain ⟨pn, hpn⟩ : ∃ pn, pn = pgStep grad prox L y := ⟨_, rfl⟩
  have hs : G.Subgrad pn ((1 / L⁻¹) • (y - L⁻¹ • grad y - pn)) := hpn ▸ hp L⁻¹ (inv_pos.2 hL) (y - L⁻¹ • grad y)
  have h1 := hs.2 x hx
  have h2 := hd y pn
  -- everything in terms of `b = pn − y`, `d = y − x`
  rw [one_div, inv_inv, real_inner_smul_left, sub_right_comm, inner_sub_left, real_inner_smul_left, mul_sub,
    mul_inv_cancel_left₀ hL.ne', show x - pn = -(y - x) - (pn - y) by abel, ← neg_sub pn y] at h1
  rw [← neg_sub y x] at hc
  rw [← hpn]
  generalize pn - y = b at h1 h2 ⊢
  generalize y - x = d at h1 hc ⊢
  simp only [inner_neg_left, inner_neg_right, inner_sub_right, real_inner_self_eq_norm_sq] at h1 hc
  rw [real_inner_comm d b] at h1
  linarith

theorem pgStep_objective {f : E → ℝ} {grad : E → E} {prox : ℝ → E → E} {G : Fn E} (hp : IsProx G prox)
    {L : ℝ} (hL : 0 < L) (hd : DescentLemma f grad L) {x : E} (hx : x ∈ G.dom) :
    f (pgStep grad prox L x) + G.val (pgStep grad prox L x)
      ≤ f x + G.val x - L / 2 * ‖pgStep grad prox L x - x‖ ^ 2 := by
  have := pgStep_three_point_of hp hL hd x x hx (by rw [sub_self, inner_zero_right, add_zero])
  rw [sub_self, inner_zero_left, mul_zero, add_zero] at this
  linarith

/-- PGM with the base step-size object (`L` constant), the proximal contract on `g`, `∇f` co-coercive with constant `L` -/
structure PGMHyp (p : PGMParams Unit ℝ E) (G : Fn E) (L : ℝ) : Prop where
  pol : ∃ z0, p.pol = basePolicy z0
  prox : IsProx G p.proxg
  Lpos : 0 < L
  coco : CoCoercive p.gradf L

theorem pgmSpec_x (p : PGMParams Unit ℝ E) {G : Fn E} {L : ℝ} (h : PGMHyp p G L) (s : PGMState Unit ℝ E)
    (hsL : s.L = L) :
    (pgmSpecStep p s).x = pgStep p.gradf p.proxg L s.x ∧ (pgmSpecStep p s).L = L := by
  obtain ⟨z0, hz⟩ := h.pol
  have hu : p.pol.update s.mem s.L s.x s.x = (s.L, s.mem) := by rw [hz]; rfl
  subst hsL
  unfold pgmSpecStep pgStep
  simp only [hu, and_self]

theorem pgm_iter_succ_x (p : PGMParams Unit ℝ E) {G : Fn E} {L : ℝ} (h : PGMHyp p G L) (s : PGMState Unit ℝ E)
    (hsL : s.L = L) (k : Nat) :
    (iter (pgmSpecStep p) (k + 1) s).x = pgStep p.gradf p.proxg L (iter (pgmSpecStep p) k s).x := by
  rw [iter_succ']
  exact (pgmSpec_x p h _ (iter_invariant (P := fun s => s.L = L) (fun s hs => (pgmSpec_x p h s hs).2) k s hsL)).1

theorem pgm_kkt_unique {grad : E → E} {prox : ℝ → E → E} {G : Fn E} (hp : IsProx G prox) {L m : ℝ}
    (hL : 0 < L) (hco : CoCoercive grad L) (hm : StronglyMonotone grad m) (hm0 : 0 < m) {xs ys : E}
    (h1 : G.Subgrad xs (-(grad xs))) (h2 : G.Subgrad ys (-(grad ys))) : xs = ys := by
  have h := pgStep_dist_sq hp hL hco hm h2 xs
  rw [pgStep_fixed hp hL h1] at h
  exact ProxSpec.eq_of_norm_sub_sq_nonpos (le_of_mul_le_mul_left (a := m / L) (by linarith) (div_pos hm0 hL))

theorem coCoercive_mono {grad : E → E} {Lf L : ℝ} (hLf : 0 < Lf) (hL : Lf ≤ L) (h : CoCoercive grad Lf) :
    CoCoercive grad L := fun x y =>
  (mul_le_mul_of_nonneg_right (one_div_le_one_div_of_le hLf hL) (sq_nonneg _)).trans (h x y)

theorem descent_mono {f : E → ℝ} {grad : E → E} {Lf L : ℝ} (hL : Lf ≤ L) (h : DescentLemma f grad Lf) :
    DescentLemma f grad L := fun x y =>
  (h x y).trans (by gcongr)

theorem psd_cauchy_schwarz (H : E → E) (hadd : ∀ x y, H (x + y) = H x + H y)
    (hsmul : ∀ (c : ℝ) x, H (c • x) = c • H x) (hsym : ∀ x y, ⟪H x, y⟫ = ⟪x, H y⟫)
    (hpsd : ∀ x, 0 ≤ ⟪H x, x⟫) (a b : E) : ⟪H a, b⟫ ^ 2 ≤ ⟪H a, a⟫ * ⟪H b, b⟫ := by
  have key : ∀ t : ℝ, 0 ≤ ⟪H b, b⟫ * (t * t) + 2 * ⟪H a, b⟫ * t + ⟪H a, a⟫ := by
    intro t
    have := hpsd (a + t • b)
    rw [hadd, hsmul, inner_add_left, inner_add_right, inner_add_right, inner_smul_left, inner_smul_right,
      inner_smul_right, inner_smul_left] at this
    simp only [RCLike.conj_to_real] at this
    have e : ⟪H b, a⟫ = ⟪H a, b⟫ := by rw [hsym, real_inner_comm]
    rw [e] at this
    linarith
  have := discrim_le_zero key
  unfold discrim at this
  linarith

omit [InnerProductSpace ℝ E] in
theorem quad_grad_sub (H : E → E) (b : E) (hadd : ∀ x y, H (x + y) = H x + H y) (x y : E) :
    H x - b - (H y - b) = H (x - y) := by
  rw [sub_sub_sub_cancel_right, map_sub_of_add hadd]

theorem quad_expand (H : E → E) (b : E) (hadd : ∀ x y, H (x + y) = H x + H y)
    (hsym : ∀ x y, ⟪H x, y⟫ = ⟪x, H y⟫) (x y : E) :
    1 / 2 * ⟪H y, y⟫ - ⟪b, y⟫
      = 1 / 2 * ⟪H x, x⟫ - ⟪b, x⟫ + ⟪H x - b, y - x⟫ + 1 / 2 * ⟪H (y - x), y - x⟫ := by
  obtain ⟨d, rfl⟩ : ∃ d, y = x + d := ⟨y - x, (add_sub_cancel _ _).symm⟩
  rw [add_sub_cancel_left, hadd, inner_add_left, inner_add_right, inner_add_right, inner_add_right, inner_sub_left,
    show ⟪H d, x⟫ = ⟪H x, d⟫ by rw [hsym, real_inner_comm]]
  ring

theorem quad_coco (H : E → E) (b : E) (hadd : ∀ x y, H (x + y) = H x + H y)
    (hsmul : ∀ (c : ℝ) x, H (c • x) = c • H x) (hsym : ∀ x y, ⟪H x, y⟫ = ⟪x, H y⟫)
    (hpsd : ∀ x, 0 ≤ ⟪H x, x⟫) {L : ℝ} (hL : 0 < L) (hbd : ∀ x, ⟪H x, x⟫ ≤ L * ‖x‖ ^ 2) :
    CoCoercive (fun x => H x - b) L := by
  intro x y
  simp only [quad_grad_sub H b hadd]
  generalize x - y = d
  -- Cauchy–Schwarz for the form `⟪H·,·⟫` at `(d, Hd)`, then `⟪H(Hd),Hd⟫ ≤ L‖Hd‖²`: `‖Hd‖⁴ ≤ ⟪Hd,d⟫ · L‖Hd‖²`
  have cs := psd_cauchy_schwarz H hadd hsmul hsym hpsd d (H d)
  rw [real_inner_self_eq_norm_sq] at cs
  have h3 : (‖H d‖ ^ 2) ^ 2 ≤ ⟪H d, d⟫ * (L * ‖H d‖ ^ 2) :=
    le_trans cs (mul_le_mul_of_nonneg_left (hbd (H d)) (hpsd d))
  rw [one_div, inv_mul_le_iff₀ hL]
  rcases (sq_nonneg ‖H d‖).eq_or_lt with hz | hpos
  · rw [← hz]; exact mul_nonneg hL.le (hpsd d)
  · refine le_of_mul_le_mul_right ?_ hpos
    linarith

theorem quad_descent (H : E → E) (b : E) (hadd : ∀ x y, H (x + y) = H x + H y)
    (hsym : ∀ x y, ⟪H x, y⟫ = ⟪x, H y⟫) {L : ℝ} (hbd : ∀ x, ⟪H x, x⟫ ≤ L * ‖x‖ ^ 2) :
    DescentLemma (fun x => 1 / 2 * ⟪H x, x⟫ - ⟪b, x⟫) (fun x => H x - b) L := by
  intro x y
  beta_reduce
  rw [quad_expand H b hadd hsym x y]
  linarith [hbd (y - x)]

theorem quad_strong (H : E → E) (b : E) (hadd : ∀ x y, H (x + y) = H x + H y) {m : ℝ}
    (hlb : ∀ x, m * ‖x‖ ^ 2 ≤ ⟪H x, x⟫) : StronglyMonotone (fun x => H x - b) m := by
  intro x y
  simp only [quad_grad_sub H b hadd]
  exact hlb (x - y)

attribute [local instance] realHasSqrt

theorem fistaT_ge (t : ℝ) : t + 1 / 2 ≤ fistaTImpl t := by
  unfold fistaTImpl
  have h : 2 * t ≤ Real.sqrt (1 + 4 * (t * t)) := by
    apply Real.le_sqrt_of_sq_le
    nlinarith
  show t + 1 / 2 ≤ (1 + Real.sqrt (1 + 4 * (t * t))) / 2
  linarith

theorem fistaT_identity (t : ℝ) : fistaTImpl t ^ 2 - fistaTImpl t = t ^ 2 := by
  unfold fistaTImpl
  show ((1 + Real.sqrt (1 + 4 * (t * t))) / 2) ^ 2 - (1 + Real.sqrt (1 + 4 * (t * t))) / 2 = t ^ 2
  have h : Real.sqrt (1 + 4 * (t * t)) ^ 2 = 1 + 4 * (t * t) := Real.sq_sqrt (by linarith [mul_self_nonneg t])
  linear_combination (1 / 4) * h

theorem apgm_t_step {σ : Type} (p : PGMParams σ ℝ E) (s : APGMState σ ℝ E) (hk : p.pol.kind ≠ .robust) :
    (apgmSpecStep p s).t = fistaTImpl s.t := by
  obtain ⟨a, e⟩ := apgmSpecStep_of_not_robust p s hk
  rw [e]

theorem apgm_t_lower {σ : Type} (p : PGMParams σ ℝ E) (hk : p.pol.kind ≠ .robust) (k : Nat) :
    ∀ s : APGMState σ ℝ E, s.t + k / 2 ≤ (iter (apgmSpecStep p) k s).t := by
  induction k with
  | zero => intro s; simp [iter]
  | succ k ih =>
    intro s
    have h1 := fistaT_ge s.t
    have h2 := ih (apgmSpecStep p s)
    rw [apgm_t_step p s hk] at h2
    simp only [iter]
    push_cast
    linarith

end Scico.Steps
