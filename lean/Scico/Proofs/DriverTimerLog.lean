/-
  C15: the time `solve` reports, seen through the stop-watch refinement.

  `Logged cfg d` : the optimiser's timer object is a `Timer(cfg)` on which exactly the calls of the
  ghost log `d.tlog` were made, in time order.  `solve` keeps this invariant, so the `Time` of a
  record is `elapsed()` of such a timer, i.e. (by `timer_refines_stopwatch`) the ideal stop-watch
  over the log; and the log has a `stop` at the entry and a `start` at the exit of every callback,
  so no tick inside a callback is counted.
-/
import Scico.Proofs.DriverSolve
import Scico.Proofs.DriverStopwatch

namespace Scico.Driver
open Scico.Driver.Spec

variable {ω ρ ξ α L : Type} [DecidableEq L]

structure Logged (cfg : Cfg L) (d : Drv ω ρ L) : Prop where
  timer : d.timer = (Timer.init cfg.init cfg.dflt cfg.all).run d.tlog
  mono : Monotone d.tlog d.clock

theorem run_snoc (T : Timer L) (h : List (Call L)) (c : Call L) :
    T.run (h ++ [c]) = ((T.run h).apply c).1 := by
  simp [Timer.run, List.foldl_append]

omit [DecidableEq L] in
theorem monotone_snoc {h : List (Call L)} {now : Nat} (hm : Monotone h now) (c : Call L)
    (hc : c.time = now) : Monotone (h ++ [c]) now := by
  obtain ⟨hp, hb⟩ := hm
  refine ⟨?_, ?_⟩
  · rw [List.pairwise_append]
    refine ⟨hp, by simp, ?_⟩
    intro a ha b hb'
    simp only [List.mem_singleton] at hb'
    subst hb'
    rw [hc]; exact hb a ha
  · intro k hk
    simp only [List.mem_append, List.mem_singleton] at hk
    rcases hk with hk | hk
    · exact hb k hk
    · subst hk; omega

omit [DecidableEq L] in
theorem monotone_later {h : List (Call L)} {now now' : Nat} (hm : Monotone h now) (hle : now ≤ now') :
    Monotone h now' :=
  ⟨hm.1, fun k hk => Nat.le_trans (hm.2 k hk) hle⟩

theorem logged_timerStart {cfg : Cfg L} {d : Drv ω ρ L} (hl : Logged cfg d) : Logged cfg d.timerStart := by
  refine ⟨?_, ?_⟩
  · simp only [Drv.timerStart, run_snoc, ← hl.timer, Timer.apply]
  · exact monotone_snoc hl.mono _ rfl

theorem logged_timerStop {cfg : Cfg L} {d : Drv ω ρ L} (hl : Logged cfg d) : Logged cfg d.timerStop.1 := by
  refine ⟨?_, ?_⟩
  · simp only [Drv.timerStop, run_snoc, ← hl.timer, Timer.apply]
  · exact monotone_snoc hl.mono _ rfl

theorem logged_of_eq {cfg : Cfg L} {d d' : Drv ω ρ L} (hl : Logged cfg d) (ht : d'.timer = d.timer)
    (hg : d'.tlog = d.tlog) (hc : d.clock ≤ d'.clock) : Logged cfg d' :=
  ⟨by rw [ht, hg]; exact hl.timer, by rw [hg]; exact monotone_later hl.mono hc⟩

theorem logged_body (E : Env ω ρ ξ α) (cb : Option (Callback ω)) {cfg : Cfg L} {d : Drv ω ρ L}
    (i : Int) (hl : Logged cfg d) : Logged cfg (body E cb d i).1 := by
  have h1 : Logged cfg (stepped E d i) := logged_of_eq hl rfl rfl (by simp [stepped])
  have h2 : Logged cfg (recorded E (stepped E d i)) := logged_of_eq h1 rfl rfl (Nat.le_refl _)
  rw [body_eq]
  split
  · exact h1
  · cases cb with
    | none => exact h2
    | some c =>
      simp only
      have h3 := logged_timerStop h2
      rcases hts : (recorded E (stepped E d i)).timerStop with ⟨d3, ok⟩
      rw [hts] at h3
      cases ok with
      | false => exact h3
      | true =>
        have h4 : Logged cfg (called c d3) := logged_of_eq h3 rfl rfl (by simp [called])
        exact logged_timerStart h4

theorem logged_loop (E : Env ω ρ ξ α) (cb : Option (Callback ω)) {cfg : Cfg L} (n : Nat) (i : Int)
    {d : Drv ω ρ L} (hl : Logged cfg d) : Logged cfg (loop E cb n i d).1 := by
  induction n generalizing i d with
  | zero => exact hl
  | succ n ih =>
    simp only [loop]
    have hb := logged_body E cb i hl
    rcases hbd : body E cb d i with ⟨d', o⟩
    rw [hbd] at hb
    cases o with
    | ok => exact ih (i + 1) hb
    | nan => exact hb
    | key => exact hb

theorem logged_solve (E : Env ω ρ ξ α) (cb : Option (Callback ω)) {cfg : Cfg L} {d : Drv ω ρ L}
    (hl : Logged cfg d) : Logged cfg (solve E cb d).1 := by
  rw [solve_eq]
  have h0 := logged_timerStart hl
  have h1 := logged_loop E cb d.maxiter.toNat d.itnum h0
  rcases hlp : loop E cb d.maxiter.toNat d.itnum d.timerStart with ⟨d1, o⟩
  rw [hlp] at h1
  cases o with
  | nan => exact h1
  | key => exact h1
  | ok =>
    simp only
    have h2 := logged_timerStop h1
    rcases hts : d1.timerStop with ⟨d2, ok⟩
    rw [hts] at h2
    cases ok with
    | false => exact h2
    | true =>
      simp only
      split
      · exact logged_of_eq h2 rfl rfl (Nat.le_refl _)
      · exact h2

theorem logged_init (w : ω) (o : Options) (cfg : Cfg L) (hc : cfg.init = .none) (c : Nat) :
    Logged cfg (Drv.init (ρ := ρ) w o cfg.dflt cfg.all c) := by
  refine ⟨by simp [Drv.init, Timer.run, hc], ?_⟩
  simp [Drv.init, Spec.Monotone]

/-- log at the moment record `k` of this `solve` call is made -/
def logAt (E : Env ω ρ ξ α) (cb : Option (Callback ω)) (d : Drv ω ρ L) (k : Nat) : List (Call L) :=
  d.tlog ++ [⟨d.clock, .start, .none⟩] ++ (List.range k).flatMap (specBracket E cb d.world d.clock)

/-- clock at the moment record `k` is made -/
def recordClock (E : Env ω ρ ξ α) (cb : Option (Callback ω)) (d : Drv ω ρ L) (k : Nat) : Nat :=
  d.clock + stepTime E cb d.world (k + 1) + cbTime E cb d.world k

theorem known_of_start_none (cfg : Cfg L) (A B : List (Call L)) (t : Nat) :
    known cfg (A ++ [⟨t, .start, .none⟩] ++ B) cfg.dflt = true := by
  simp [known, List.any_append, Cfg.startLabels]

/-- **the reported time is the ideal stop-watch over the issued timer calls** -/
theorem row_time_is_stopwatch (E : Env ω ρ ξ α) (c : Callback ω) (cfg : Cfg L) (d : Drv ω ρ L)
    (hl : Logged cfg d) (hr : Ready d) (k : Nat)
    (hclean : ∀ j < k, ¬ tripsAt E (some c) d.world d.nanstop j) :
    Monotone (logAt E (some c) d k) (recordClock E (some c) d k) ∧
      d.timer.elapsedDefault true d.clock + stepTime E (some c) d.world (k + 1) =
        specTotal (labelHistory cfg (logAt E (some c) d k) cfg.dflt) (recordClock E (some c) d k) := by
  obtain ⟨dk, (hlk : loop E (some c) k d.itnum d.timerStart = _), hat⟩ := loop_clean E (some c)
    (d.timer.start .none d.clock) d.timerStart (d.timer.elapsedDefault true d.clock) hr.labels
    (running_after_start d.timer d.clock hr.past) k hclean
  have hlog : Logged cfg dk := by
    have := logged_loop E (some c) k d.itnum (logged_timerStart hl)
    rwa [hlk] at this
  have htl : dk.tlog = logAt E (some c) d k := by
    rw [hat.tlog]; simp [logAt, Drv.timerStart]
  have hck : dk.clock + E.stepTicks (worldAt E (some c) d.world k) = recordClock E (some c) d k := by
    rw [hat.clock]; simp only [recordClock, stepTime_succ, Drv.timerStart]; omega
  have hmono : Monotone (logAt E (some c) d k) (recordClock E (some c) d k) := by
    rw [← htl, ← hck]; exact monotone_later hlog.mono (by omega)
  refine ⟨hmono, ?_⟩
  have hread := (hat.timer.after (E.stepTicks (worldAt E (some c) d.world k))).2
  rw [hck] at hread
  have href := timer_refines_stopwatch cfg (logAt E (some c) d k) (recordClock E (some c) d k) hmono none true
  rw [← htl, ← hlog.timer] at href
  simp only [Timer.elapsed, specElapsed, Option.getD_none, htl] at href
  have hk : known cfg (logAt E (some c) d k) cfg.dflt = true := by
    unfold logAt; exact known_of_start_none cfg _ _ _
  rw [hk] at href
  simp only [if_true, Option.some.injEq] at href
  rw [← href, hread, stepTime_succ]
  simp only [Drv.timerStart]
  omega

theorem lastBefore_mid (pre post : List (Nat × Op)) (a s : Nat) (k : Op) (ha : a ≤ s)
    (hpost : ∀ e ∈ post, s < e.1) : lastBefore (pre ++ [(a, k)] ++ post) s = some k := by
  have hp : post.filter (fun e => decide (e.1 ≤ s)) = [] := by
    rw [List.filter_eq_nil_iff]
    intro e he
    have := hpost e he
    simp; omega
  simp [lastBefore, List.filter_append, hp, ha]

theorem reaches_stop_default (cfg : Cfg L) (A : List (Call L)) (t : Nat) (hcfg : cfg.dflt ≠ cfg.all)
    (hk : known cfg A cfg.dflt = true) : reaches cfg A ⟨t, .stop, .none⟩ cfg.dflt = true := by
  simp [reaches, Cfg.explicitTargets, hcfg, hk]

/-- during the callback of an earlier iteration `j < k` the ideal stop-watch (over the timer
    calls issued up to record `k`) does not count -/
theorem callback_ticks_not_counted (E : Env ω ρ ξ α) (c : Callback ω) (cfg : Cfg L) (d : Drv ω ρ L)
    (hl : Logged cfg d) (hr : Ready d) (k : Nat)
    (hclean : ∀ j < k, ¬ tripsAt E (some c) d.world d.nanstop j)
    (j : Nat) (hj : j < k) (s : Nat)
    (hs1 : (specCb E (some c) d.world d.itnum d.clock j).enter ≤ s)
    (hs2 : s < (specCb E (some c) d.world d.itnum d.clock j).leave) :
    counted (labelHistory cfg (logAt E (some c) d k) cfg.dflt) s = false := by
  have hcfg : cfg.dflt ≠ cfg.all := by
    have hda := hr.labels
    rwa [hl.timer, (run_dflt_all cfg d.tlog).1, (run_dflt_all cfg d.tlog).2] at hda
  obtain ⟨hmono, _⟩ := row_time_is_stopwatch E c cfg d hl hr k hclean
  obtain ⟨r, rfl⟩ : ∃ r, k = j + 1 + r := ⟨k - (j + 1), (Nat.add_sub_cancel' hj).symm⟩
  let A : List (Call L) := d.tlog ++ [⟨d.clock, .start, .none⟩] ++
    (List.range j).flatMap (specBracket E (some c) d.world d.clock)
  let B : List (Call L) := ((List.range r).map (fun x => j + 1 + x)).flatMap
    (specBracket E (some c) d.world d.clock)
  let en := (specCb E (some c) d.world 0 d.clock j).enter
  let lv := (specCb E (some c) d.world 0 d.clock j).leave
  -- `enter` and `leave` do not depend on the counter value, so `en`, `lv` are those of `hs1`, `hs2`
  have hsplit : logAt E (some c) d (j + 1 + r) =
      (A ++ [⟨en, .stop, .none⟩]) ++ (⟨lv, .start, .none⟩ :: B) := by
    simp only [logAt, A, B, en, lv, List.range_add, List.range_succ, List.flatMap_append,
      List.flatMap_cons, specBracket, List.append_assoc, List.cons_append,
      List.nil_append]
  rw [hsplit] at hmono ⊢
  have hkA : known cfg A cfg.dflt = true := known_of_start_none cfg _ _ _
  have hLH : labelHistory cfg ((A ++ [⟨en, .stop, .none⟩]) ++ (⟨lv, .start, .none⟩ :: B)) cfg.dflt =
      labelHistory cfg A cfg.dflt ++ [(en, .stop)] ++
        labelHistoryFrom cfg cfg.dflt (A ++ [⟨en, .stop, .none⟩]) (⟨lv, .start, .none⟩ :: B) := by
    simp only [labelHistory, labelHistoryFrom_append, List.nil_append, labelHistoryFrom,
      reaches_stop_default cfg A en hcfg hkA, if_true, List.append_nil, List.append_assoc]
  have hpost : ∀ e ∈ labelHistoryFrom cfg cfg.dflt (A ++ [⟨en, .stop, .none⟩]) (⟨lv, .start, .none⟩ :: B),
      s < e.1 := by
    intro e he
    obtain ⟨call, hc, ht⟩ := labelHistoryFrom_times cfg cfg.dflt _ _ e he
    have hp := hmono.1
    rw [List.pairwise_append] at hp
    have hpc := hp.2.1
    rw [List.pairwise_cons] at hpc
    rw [← ht]
    simp only [List.mem_cons] at hc
    rcases hc with hc | hc
    · subst hc; exact hs2
    · exact Nat.lt_of_lt_of_le hs2 (hpc.1 call hc)
  rw [hLH]
  have hlb := lastBefore_mid (labelHistory cfg A cfg.dflt) _ en s .stop hs1 hpost
  unfold counted runningAt
  rw [hlb]
  simp

end Scico.Driver
