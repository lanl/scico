/-
  The source tables (`Model/EstimSource.lean`, kept equal to the scico source by `Generated/EstimTables.lean`) against the model:
  `diagNorm` is the lookup in `ordfunc`, and the real a default literal denotes with the defaults of the estimators
  (`estimator_defaults`).
-/
import Scico.Model.EstimSource
import Scico.Proofs.EstimRealLists

namespace Scico.Estim

/-- `Diagonal.norm` accepts an order iff its remapped value is a key of `ordfunc` -/
theorem diagNorm_eq_ordFunc (o : Ord) (d : List ℝ) :
    diagNorm o d =
      if (diagOrdFunc.map (·.1)).contains (diagKey o) then absNorm (diagKey o) (d.map HasAbs.abs) else .error "value" := by
  unfold diagNorm
  generalize diagKey o = key
  cases key with
  | int k => exact (if_neg (by simp [diagOrdFunc])).symm
  | _ => rfl

noncomputable def PyLit.toReal : PyLit → Option ℝ
  | .int n => some (n : ℝ)
  | .dec m e => some ((m : ℝ) / 10 ^ e)
  | _ => Option.none

theorem bind_toReal_dec {d : Option PyLit} {m e : ℕ} (h : d = some (.dec m e)) :
    d.bind PyLit.toReal = some ((m : ℝ) / 10 ^ e) := by
  rw [h]
  exact congrArg (fun x : ℝ => some (x / 10 ^ e)) (Int.cast_natCast m)

/-- the defaults of the three estimators: safety factor `1.01 > 1`, ratio `1.0 > 0`, budget 100 ≥ the smallest accepted
    budget 1; `factor=None` is replaced by exactly `1.0` -/
theorem estimator_defaults :
    (defaultOf estimSignatures "PDHG.estimate_parameters" "factor").bind PyLit.toReal = some (101 / 10 ^ 2 : ℝ) ∧
    (defaultOf estimSignatures "ProximalADMM.estimate_parameters" "factor").bind PyLit.toReal = some (101 / 10 ^ 2 : ℝ) ∧
    (defaultOf estimSignatures "NonLinearPADMM.estimate_parameters" "factor").bind PyLit.toReal = some (101 / 10 ^ 2 : ℝ) ∧
    (defaultOf estimSignatures "PDHG.estimate_parameters" "ratio").bind PyLit.toReal = some (10 / 10 ^ 1 : ℝ) ∧
    pdhgFactorNone.toReal = some (10 / 10 ^ 1 : ℝ) ∧
    powerMinBudget = .int 1 ∧
    (∀ f ∈ ["power_iteration", "operator_norm", "PDHG.estimate_parameters", "ProximalADMM.estimate_parameters",
        "NonLinearPADMM.estimate_parameters"], defaultOf estimSignatures f "maxiter" = some (.int 100)) :=
  ⟨bind_toReal_dec (m := 101) (e := 2) (by decide +kernel), bind_toReal_dec (m := 101) (e := 2) (by decide +kernel),
    bind_toReal_dec (m := 101) (e := 2) (by decide +kernel), bind_toReal_dec (m := 10) (e := 1) (by decide +kernel),
    bind_toReal_dec (d := some pdhgFactorNone) (m := 10) (e := 1) rfl, rfl, by decide +kernel⟩

end Scico.Estim
