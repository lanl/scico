/-
  `SquaredL2Loss.prox` for a general linear operator `A` (the conjugate-gradient path, scico/loss.py), dense real `m × n`
  matrix and diagonal weights: the documented system `(I + 2·lam·scale·AᵀWA) x = v + 2·lam·scale·AᵀW y`, written by
  indices with `Finset` sums (`sysRes`; the model's `sqL2LossSysResidual` is the same expression over `Vec.sum`: `C02_sqL2loss_sys_model`),
  is the system of `Proofs/ProxCGGen.lean` for the linear maps `A`, `Aᵀ`, `diag w` of
  Euclidean spaces.
-/
import Scico.Proofs.ProxBridge
import Scico.Proofs.ProxCGGen
import Mathlib.Analysis.InnerProductSpace.PiL2

namespace Scico.ProxCG
open Scico.ProxBridge Finset

variable {m n : ℕ}

/-- `A x` -/
def mv (A : Fin m → Fin n → ℝ) (x : Fin n → ℝ) (i : Fin m) : ℝ := ∑ j, A i j * x j
/-- `Aᵀ z` -/
def mtv (A : Fin m → Fin n → ℝ) (z : Fin m → ℝ) (j : Fin n) : ℝ := ∑ i, A i j * z i

theorem mtv_dot (A : Fin m → Fin n → ℝ) (u : Fin m → ℝ) (d : Fin n → ℝ) :
    ∑ j, mtv A u j * d j = ∑ i, u i * mv A d i := by
  unfold mtv mv
  simp only [sum_mul, mul_sum]
  rw [sum_comm]
  exact sum_congr rfl fun i _ => sum_congr rfl fun j _ => by ring

def sysOp (c : ℝ) (w : Fin m → ℝ) (A : Fin m → Fin n → ℝ) (e : Fin n → ℝ) (j : Fin n) : ℝ :=
  e j + c * mtv A (fun i => w i * mv A e i) j

/-- residual of the documented system `(I + c AᵀWA) x = v + c AᵀW y`, `c = 2·scale·lam` -/
def sysRes (c : ℝ) (w : Fin m → ℝ) (A : Fin m → Fin n → ℝ) (y : Fin m → ℝ) (v x : Fin n → ℝ) (j : Fin n) : ℝ :=
  sysOp c w A x j - (v j + c * mtv A (fun i => w i * y i) j)

/-- the weighted squared-L2 loss with a dense operator `A` -/
def sqL2Fn (scale : ℝ) (w : Fin m → ℝ) (A : Fin m → Fin n → ℝ) (y : Fin m → ℝ) (x : EuclideanSpace ℝ (Fin n)) : ℝ :=
  ∑ i, scale * (w i * (y i - mv A (fun j => x j) i) ^ 2)

noncomputable def mvL (A : Fin m → Fin n → ℝ) : EuclideanSpace ℝ (Fin n) →ₗ[ℝ] EuclideanSpace ℝ (Fin m) :=
  Matrix.toEuclideanLin (Matrix.of A)

noncomputable def mtvL (A : Fin m → Fin n → ℝ) : EuclideanSpace ℝ (Fin m) →ₗ[ℝ] EuclideanSpace ℝ (Fin n) :=
  Matrix.toEuclideanLin (Matrix.of fun j i => A i j)

noncomputable def diagL (w : Fin m → ℝ) : EuclideanSpace ℝ (Fin m) →ₗ[ℝ] EuclideanSpace ℝ (Fin m) :=
  Matrix.toEuclideanLin (Matrix.diagonal w)

theorem mvL_apply (A : Fin m → Fin n → ℝ) (x : EuclideanSpace ℝ (Fin n)) : mvL A x = toE (mv A (fun j => x j)) := rfl

theorem mtvL_apply (A : Fin m → Fin n → ℝ) (z : EuclideanSpace ℝ (Fin m)) : mtvL A z = toE (mtv A (fun i => z i)) := rfl

theorem diagL_apply (w : Fin m → ℝ) (z : EuclideanSpace ℝ (Fin m)) : diagL w z = toE (fun i => w i * z i) := by
  ext i; simp [diagL, Matrix.toLin'_apply, Matrix.mulVec_diagonal]

theorem sysData {w : Fin m → ℝ} (hw : ∀ i, 0 ≤ w i) (A : Fin m → Fin n → ℝ) :
    ProxCGGen.SysData (mvL A) (mtvL A) (diagL w) := by
  refine ⟨fun u d => ?_, fun u z => ?_, fun u => ?_⟩
  · rw [mvL_apply, mtvL_apply, inner_toE, inner_toE]; exact mtv_dot A _ _
  · rw [diagL_apply, diagL_apply, inner_toE, inner_toE]
    exact sum_congr rfl fun i _ => by simp only [toE_apply]; ring
  · rw [diagL_apply, inner_toE]
    exact sum_nonneg fun i _ => by
      simp only [toE_apply, mul_assoc]; exact mul_nonneg (hw i) (mul_self_nonneg _)

theorem toE_sysRes (c : ℝ) (w : Fin m → ℝ) (A : Fin m → Fin n → ℝ) (y : Fin m → ℝ) (v x : Fin n → ℝ) :
    toE (sysRes c w A y v x) = ProxCGGen.sysRes c (mvL A) (mtvL A) (diagL w) (toE y) (toE v) (toE x) := by
  ext j
  simp only [ProxCGGen.sysRes, ProxCGGen.sysOp_apply, mvL_apply, diagL_apply, mtvL_apply, PiLp.sub_apply, PiLp.add_apply,
    PiLp.smul_apply, toE_apply, smul_eq_mul, sysRes, sysOp]

theorem sqL2Fn_eq (scale : ℝ) (w : Fin m → ℝ) (A : Fin m → Fin n → ℝ) (y : Fin m → ℝ) :
    sqL2Fn scale w A y = ProxCGGen.lossFn scale (mvL A) (diagL w) (toE y) := by
  funext x
  rw [ProxCGGen.lossFn, diagL_apply, inner_toE, mul_sum, sqL2Fn]
  exact sum_congr rfl fun i _ => by simp only [toE_apply, mvL_apply, PiLp.sub_apply]; ring

end Scico.ProxCG
