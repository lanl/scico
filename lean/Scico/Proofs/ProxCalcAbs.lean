/-
  Proximal calculus in an arbitrary real inner-product space (property C08, abstract layer; the notions are introduced at
  the head of `Props/C08.lean`).  Translation is `ProxSpec.isGMin_translate_iff`, scaling one `simp`; for separable sums only
  `ExtFn.sep` is here (the rule is `C08_separable`, from `ProxSpec.isGMin_pi_iff`).  Proved here: the Moreau decomposition in certificate form (`cert_conj_of_cert`) and,
  for the weighted squared-ℓ² loss, that the objective is a quadratic along every line (`proxObj_sqL2_line`), from which
  `C08_sqL2_normal_eq` reads the normal equation.
-/
import Scico.Proofs.ProxGeneric

namespace Scico.ProxCalcAbs

structure ExtFn (E : Type*) where
  dom : Set E
  val : E → ℝ

section
variable {E : Type*} [NormedAddCommGroup E] [InnerProductSpace ℝ E]

noncomputable def proxObj (f : ExtFn E) (lam : ℝ) (v x : E) : ℝ := lam * f.val x + (1 / 2) * ‖x - v‖ ^ 2

/-- `ProxSpec.IsGMin` of the pair `f.dom`, `f.val` (no gap, no uniqueness), not `ProxSpec.IsProx` (minimiser with gap
    `½‖x − p‖²`) -/
def IsProx (f : ExtFn E) (lam : ℝ) (v p : E) : Prop :=
  p ∈ f.dom ∧ ∀ x ∈ f.dom, proxObj f lam v p ≤ proxObj f lam v x

/-- sub-gradient certificate `(v − p)/lam ∈ ∂f(p)`: `ProxSpec.Cert` of the pair `f.dom`, `f.val` -/
def Cert (f : ExtFn E) (lam : ℝ) (v p : E) : Prop :=
  p ∈ f.dom ∧ ∀ z ∈ f.dom, f.val p + inner ℝ ((1 / lam) • (v - p)) (z - p) ≤ f.val z

theorem isProx_of_cert {f : ExtFn E} {lam : ℝ} (hl : 0 < lam) {v p : E} (h : Cert f lam v p) :
    IsProx f lam v p :=
  (ProxSpec.prox_of_cert hl h).isGMin

theorem cert_of_isProx_convex {f : ExtFn E} (hconv : ConvexOn ℝ f.dom f.val) {lam : ℝ} (hl : 0 < lam)
    {v p : E} (h : IsProx f lam v p) : Cert f lam v p :=
  ProxSpec.cert_of_min_convex hl (fun x hx y hy t h0 h1 => by
    rw [← ProxSpec.segment_eq]
    exact ⟨hconv.1 hx hy (sub_nonneg.2 h1) h0 (sub_add_cancel 1 t),
      hconv.2 hx hy (sub_nonneg.2 h1) h0 (sub_add_cancel 1 t)⟩) h

omit [InnerProductSpace ℝ E] in
/-- `ZeroFunctional.prox` is the identity -/
theorem isProx_zero (lam : ℝ) (v : E) : IsProx ⟨Set.univ, fun _ => 0⟩ lam v v :=
  ⟨trivial, fun x _ => by
    simp only [proxObj, sub_self, norm_zero, mul_zero, zero_add]
    exact mul_le_mul_of_nonneg_left (pow_le_pow_left₀ le_rfl (norm_nonneg _) 2) one_half_pos.le⟩

/-- `c • f` (same domain; this is the extended functional `c·f` for `c > 0`) -/
def ExtFn.smul (c : ℝ) (f : ExtFn E) : ExtFn E := ⟨f.dom, fun x => c * f.val x⟩

omit [InnerProductSpace ℝ E] in
theorem isProx_smul_iff (f : ExtFn E) (c lam : ℝ) (v p : E) :
    IsProx (f.smul c) lam v p ↔ IsProx f (lam * c) v p := by
  simp only [IsProx, proxObj, ExtFn.smul, mul_assoc]

/-- the functional of `Loss(y, f=f, scale=α)` with the Identity as forward operator -/
def ExtFn.lossOf (y : E) (α : ℝ) (f : ExtFn E) : ExtFn E :=
  ⟨{x | x - y ∈ f.dom}, fun x => α * f.val (x - y)⟩

theorem isProx_lossOf_iff (f : ExtFn E) (y : E) (α lam : ℝ) (v p : E) :
    IsProx (f.lossOf y α) lam v p ↔ IsProx f (α * lam) (v - y) (p - y) :=
  ProxSpec.isGMin_translate_iff

/-- what `Loss.prox` returns: `f.prox(v − y, scale·lam) + y` -/
theorem isProx_lossOf_of (f : ExtFn E) (y : E) (α lam : ℝ) (v q : E)
    (h : IsProx f (α * lam) (v - y) q) : IsProx (f.lossOf y α) lam v (q + y) := by
  rw [isProx_lossOf_iff]; simpa using h

end

section sep
variable {ι : Type*} [Fintype ι] [DecidableEq ι] {E : ι → Type*} [∀ i, NormedAddCommGroup (E i)]
  [∀ i, InnerProductSpace ℝ (E i)]

def ExtFn.sep (f : ∀ i, ExtFn (E i)) : ExtFn (PiLp 2 E) :=
  ⟨{x | ∀ i, x i ∈ (f i).dom}, fun x => ∑ i, (f i).val (x i)⟩

end sep

section moreau
variable {E : Type*} [NormedAddCommGroup E] [InnerProductSpace ℝ E]

/-- values `⟪x, z⟫ − f(x)`, `x ∈ dom f`, whose supremum is `f*(z)` -/
def conjSet (f : ExtFn E) (z : E) : Set ℝ := {r | ∃ x ∈ f.dom, r = inner ℝ x z - f.val x}

/-- Fenchel conjugate `f*(z) = sup_x ⟪x,z⟫ − f(x)`; its domain is where the supremum is finite -/
noncomputable def ExtFn.conj (f : ExtFn E) : ExtFn E :=
  ⟨{z | BddAbove (conjSet f z)}, fun z => sSup (conjSet f z)⟩

theorem conj_eq_of_subgrad (f : ExtFn E) {q u : E} (hq : q ∈ f.dom)
    (hsub : ∀ z ∈ f.dom, f.val q + inner ℝ u (z - q) ≤ f.val z) :
    u ∈ f.conj.dom ∧ f.conj.val u = inner ℝ q u - f.val q := by
  have hub : ∀ r ∈ conjSet f u, r ≤ inner ℝ q u - f.val q := by
    rintro r ⟨x, hx, rfl⟩
    have := hsub x hx
    rw [inner_sub_right, real_inner_comm x u, real_inner_comm q u] at this
    linarith
  have hmem : inner ℝ q u - f.val q ∈ conjSet f u := ⟨q, hq, rfl⟩
  refine ⟨⟨_, hub⟩, le_antisymm (csSup_le ⟨_, hmem⟩ hub) (le_csSup ⟨_, hub⟩ hmem)⟩

/-- extended Moreau decomposition: what `conj_prox` computes -/
theorem cert_conj_of_cert (f : ExtFn E) {lam : ℝ} (hl : 0 < lam) {v q : E}
    (h : Cert f (1 / lam) ((1 / lam) • v) q) : Cert f.conj lam v (v - lam • q) := by
  obtain ⟨hq, hsub⟩ := h
  -- `u = v − lam·q` is a sub-gradient of `f` at `q`, so `f*(u) = ⟪q,u⟫ − f(q)`; and `f*(z) ≥ ⟪q,z⟫ − f(q)` for every `z`
  -- makes `q` a sub-gradient of `f*` at `u`
  have hu : ∀ z ∈ f.dom, f.val q + inner ℝ (v - lam • q) (z - q) ≤ f.val z := by
    intro z hz
    have := hsub z hz
    have e : (1 / (1 / lam)) • ((1 / lam) • v - q) = v - lam • q := by
      rw [one_div_one_div, smul_sub, smul_smul, mul_one_div_cancel hl.ne', one_smul]
    rwa [e] at this
  obtain ⟨hdom, hval⟩ := conj_eq_of_subgrad f hq hu
  refine ⟨hdom, fun z hz => ?_⟩
  have e : (1 / lam) • (v - (v - lam • q)) = q := by
    rw [sub_sub_cancel, smul_smul, one_div_mul_cancel hl.ne', one_smul]
  rw [e, hval]
  have : inner ℝ q z - f.val q ≤ f.conj.val z := le_csSup hz ⟨q, hq, rfl⟩
  simp only [inner_sub_right]
  linarith

end moreau

section sql2
variable {E F : Type*} [NormedAddCommGroup E] [InnerProductSpace ℝ E] [NormedAddCommGroup F]
  [InnerProductSpace ℝ F]

/-- written with `A x − y`; `den` (`ProxCalcSound`) and `ProxCGGen.lossFn` write `y − A x`: the same functional, the sign
    entering twice -/
def sqL2Fn (A : E →ₗ[ℝ] F) (W : F →ₗ[ℝ] F) (y : F) (α : ℝ) : ExtFn E :=
  ⟨Set.univ, fun x => α * inner ℝ (W (A x - y)) (A x - y)⟩

/-- weak form of `(I + 2αλ AᴴWA) x = v + 2αλ AᴴW y`: tested against every direction `d` -/
def NormalEq (A : E →ₗ[ℝ] F) (W : F →ₗ[ℝ] F) (y : F) (α lam : ℝ) (v x : E) : Prop :=
  ∀ d : E, inner ℝ (x - v) d + 2 * α * lam * inner ℝ (W (A x - y)) (A d) = 0

/-- the discriminant `s²` of `t ↦ q t² + s t` is `≤ 0` -/
theorem lin_zero_of_quadratic_nonneg {s q : ℝ} (h : ∀ t : ℝ, 0 ≤ t * s + t ^ 2 * q) : s = 0 := by
  have hd := discrim_le_zero (a := q) (b := s) (c := 0) fun t => by linarith [h t]
  unfold discrim at hd
  exact pow_eq_zero_iff two_ne_zero |>.1 (le_antisymm (by linarith) (sq_nonneg s))

theorem proxObj_sqL2_line (A : E →ₗ[ℝ] F) (W : F →ₗ[ℝ] F) (hsym : ∀ a b, inner ℝ (W a) b = inner ℝ a (W b))
    (y : F) (α lam : ℝ) (v x d : E) (t : ℝ) :
    proxObj (sqL2Fn A W y α) lam v (x + t • d) = proxObj (sqL2Fn A W y α) lam v x
      + t * (inner ℝ (x - v) d + 2 * α * lam * inner ℝ (W (A x - y)) (A d))
      + t ^ 2 * (lam * α * inner ℝ (W (A d)) (A d) + (1 / 2) * ‖d‖ ^ 2) := by
  unfold proxObj sqL2Fn
  simp only
  have e1 : A (x + t • d) - y = (A x - y) + t • A d := by rw [A.map_add, A.map_smul, add_sub_right_comm]
  rw [e1, add_sub_right_comm x (t • d) v, norm_add_sq_real, W.map_add, W.map_smul]
  simp only [inner_add_left, inner_add_right, real_inner_smul_left, real_inner_smul_right, norm_smul, Real.norm_eq_abs,
    mul_pow, sq_abs]
  rw [hsym (A d) (A x - y), real_inner_comm (W (A x - y)) (A d)]
  ring

end sql2

end Scico.ProxCalcAbs
