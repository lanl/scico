/-
  Proofs/StepsOpial — convergence of the ITERATES of a solver in finite dimension by Opial's argument, in the form a solver
  supplies it (`OpialStep`): a projection `φ` of the state to a proper normed space on which the step is a continuous map `T`,
  a function `D` of differences comparable to the squared norm, and ONE inequality per step,
  `D (φ s⁺ − w*) + e s⁺ + d s ≤ D (φ s − w*) + e s` for every fixed point `w*`, whose dissipation `d` controls the increment
  and the extra term `e` (the part of a Lyapunov function that does not depend on `w*`; `0` for PDHG and ADMM).
  Then what the applications to PDHG, ProximalADMM (with LinearizedADMM) and ADMM share: continuity of bounded additive maps,
  of their adjoints and of proximal maps, and the max-norm of a product against sums of squares.
-/
import Scico.Proofs.StepsConvex
import Scico.Proofs.StepsIter
import Mathlib.Topology.MetricSpace.Sequences
import Mathlib.Analysis.Normed.Module.FiniteDimension

namespace Scico.Steps

open Filter

/-- Opial for a quasi-Fejér sequence: `w (k+1) = T (w k)`, `T` continuous on a proper space, `D` comparable to the squared
    norm, `D (w k − w*) + e k` non-increasing for every fixed point `w*` with `e k ≥ 0`, `e k → 0`, and `w (k+1) − w k → 0` -/
theorem fejer_converges_quasi {E : Type} [NormedAddCommGroup E] [ProperSpace E]
    (T : E → E) (hT : Continuous T) (D : E → ℝ) {c Cc : ℝ} (hc : 0 < c)
    (hlow : ∀ v, c * ‖v‖ ^ 2 ≤ D v) (hup : ∀ v, D v ≤ Cc * ‖v‖ ^ 2)
    (w : ℕ → E) (hw : ∀ k, w (k + 1) = T (w k)) (e : ℕ → ℝ) (he0 : ∀ k, 0 ≤ e k) (he : Tendsto e atTop (nhds 0))
    (hfix : ∃ ws, T ws = ws)
    (hfejer : ∀ ws, T ws = ws → ∀ k, D (w (k + 1) - ws) + e (k + 1) ≤ D (w k - ws) + e k)
    (hreg : Tendsto (fun k => ‖w (k + 1) - w k‖) atTop (nhds 0)) :
    ∃ wb, T wb = wb ∧ Tendsto w atTop (nhds wb) := by
  obtain ⟨ws, hws⟩ := hfix
  have hanti : ∀ wf, T wf = wf → Antitone fun k => D (w k - wf) + e k := fun wf hwf =>
    antitone_nat_of_succ_le (hfejer wf hwf)
  have hD0 : ∀ v, 0 ≤ D v := fun v => (mul_nonneg hc.le (sq_nonneg _)).trans (hlow v)
  have hball : ∀ k, w k ∈ Metric.closedBall ws (Real.sqrt ((D (w 0 - ws) + e 0) / c)) := fun k => by
    rw [Metric.mem_closedBall, dist_eq_norm]
    apply Real.le_sqrt_of_sq_le
    rw [le_div_iff₀ hc, mul_comm]
    linarith [hlow (w k - ws), hanti ws hws (Nat.zero_le k), he0 k]
  obtain ⟨a, _, φ, hφ, hlim⟩ := tendsto_subseq_of_bounded Metric.isBounded_closedBall hball
  have hTa : T a = a := by
    have h2 : Tendsto (fun n => w (φ n + 1) - w (φ n)) atTop (nhds (T a - a)) := by
      simp only [hw]; exact ((hT.tendsto a).comp hlim).sub hlim
    have h3 : Tendsto (fun n => w (φ n + 1) - w (φ n)) atTop (nhds 0) :=
      tendsto_zero_iff_norm_tendsto_zero.2 (hreg.comp hφ.tendsto_atTop)
    exact sub_eq_zero.1 (tendsto_nhds_unique h2 h3)
  refine ⟨a, hTa, ?_⟩
  -- `D (w k − a) + e k` is non-increasing, non-negative and tends to `0` along the subsequence
  have hsub : Tendsto (fun n => Cc * ‖w (φ n) - a‖ ^ 2 + e (φ n)) atTop (nhds 0) := by
    have h1 : Tendsto (fun n => ‖w (φ n) - a‖) atTop (nhds 0) := tendsto_iff_norm_sub_tendsto_zero.1 hlim
    simpa using ((h1.pow 2).const_mul Cc).add (he.comp hφ.tendsto_atTop)
  have hDlim : Tendsto (fun k => D (w k - a) + e k) atTop (nhds 0) := by
    rw [Metric.tendsto_atTop] at hsub ⊢
    intro ε hε
    obtain ⟨N, hN⟩ := hsub ε hε
    refine ⟨φ N, fun k hk => ?_⟩
    have h1 := hN N le_rfl
    rw [Real.dist_eq, sub_zero] at h1 ⊢
    rw [abs_of_nonneg (add_nonneg (hD0 _) (he0 k))]
    linarith [hanti a hTa hk, hup (w (φ N) - a), (le_abs_self _).trans_lt h1]
  rw [tendsto_iff_norm_sub_tendsto_zero]
  exact tendsto_zero_of_mul_sq_le hc (fun k => norm_nonneg _) (fun k => by linarith [hlow (w k - a), he0 k]) hDlim

/-- what a solver supplies: on states satisfying an invariant `P` kept by `step`, the projection `φ` turns `step` into `T`;
    one step decreases `D (φ · − w*) + e` by `d` for every fixed point `w*`; `d` bounds the increment and the extra term
    after the step -/
structure OpialStep {σ E : Type} [NormedAddCommGroup E] (step : σ → σ) (φ : σ → E) (T : E → E) (P : σ → Prop)
    (D : E → ℝ) (e d : σ → ℝ) : Prop where
  cont : Continuous T
  inv : ∀ s, P s → P (step s)
  semiconj : ∀ s, P s → φ (step s) = T (φ s)
  lower : ∃ c, 0 < c ∧ ∀ v, c * ‖v‖ ^ 2 ≤ D v
  upper : ∃ C, ∀ v, D v ≤ C * ‖v‖ ^ 2
  extra_nonneg : ∀ s, P s → 0 ≤ e s
  descent : ∀ ws, T ws = ws → ∀ s, P s → D (φ (step s) - ws) + e (step s) + d s ≤ D (φ s - ws) + e s
  increment : ∃ c, 0 < c ∧ ∀ s, P s → c * ‖φ (step s) - φ s‖ ^ 2 ≤ d s
  extra_le : ∃ K, ∀ s, P s → e (step s) ≤ K * d s

/-- … and what it gets: from every state satisfying the invariant the projected iterates converge to a fixed point of `T` -/
theorem OpialStep.converges {σ E : Type} [NormedAddCommGroup E] [ProperSpace E] {step : σ → σ} {φ : σ → E} {T : E → E}
    {P : σ → Prop} {D : E → ℝ} {e d : σ → ℝ} (H : OpialStep step φ T P D e d)
    (hfix : ∃ ws, T ws = ws) (s0 : σ) (h0 : P s0) :
    ∃ wb, T wb = wb ∧ Tendsto (fun k => φ (iter step k s0)) atTop (nhds wb) := by
  obtain ⟨c, hc, hlow⟩ := H.lower
  obtain ⟨Cc, hup⟩ := H.upper
  obtain ⟨c', hc', hinc⟩ := H.increment
  obtain ⟨K, hK⟩ := H.extra_le
  have hD0 : ∀ v, 0 ≤ D v := fun v => (mul_nonneg hc.le (sq_nonneg _)).trans (hlow v)
  -- against each fixed point, a descent system
  have hdes : ∀ ws, T ws = ws → Descent step P (fun s => D (φ s - ws) + e s) d := fun ws hws =>
    ⟨H.inv, fun s hs => add_nonneg (hD0 _) (H.extra_nonneg s hs),
      fun s hs => (mul_nonneg hc'.le (sq_nonneg _)).trans (hinc s hs), H.descent ws hws⟩
  have hP := fun k => iter_invariant H.inv k s0 h0
  obtain ⟨ws, hws⟩ := hfix
  have hd := (hdes ws hws).tendsto h0
  refine fejer_converges_quasi T H.cont D hc hlow hup _
    (fun k => by rw [iter_succ']; exact H.semiconj _ (hP k)) (fun k => e (iter step k s0))
    (fun k => H.extra_nonneg _ (hP k)) ?_ ⟨ws, hws⟩ (fun wf hwf k => (hdes wf hwf).mono h0 k) ?_
  · rw [← tendsto_add_atTop_iff_nat 1]
    exact tendsto_zero_of_le_mul K (fun k => H.extra_nonneg _ (hP (k + 1))) (fun k => by rw [iter_succ']; exact hK _ (hP k)) hd
  · exact tendsto_zero_of_mul_sq_le hc' (fun k => norm_nonneg _) (fun k => by rw [iter_succ']; exact hinc _ (hP k)) hd

/-- the case without extra term: the step is Fejér monotone in `D` itself -/
theorem OpialStep.of_fejer {σ E : Type} [NormedAddCommGroup E] {step : σ → σ} {φ : σ → E} {T : E → E} {P : σ → Prop}
    {D : E → ℝ} {d : σ → ℝ} (cont : Continuous T) (inv : ∀ s, P s → P (step s)) (semiconj : ∀ s, P s → φ (step s) = T (φ s))
    (lower : ∃ c, 0 < c ∧ ∀ v, c * ‖v‖ ^ 2 ≤ D v) (upper : ∃ C, ∀ v, D v ≤ C * ‖v‖ ^ 2)
    (descent : ∀ ws, T ws = ws → ∀ s, P s → D (φ (step s) - ws) + d s ≤ D (φ s - ws))
    (increment : ∃ c, 0 < c ∧ ∀ s, P s → c * ‖φ (step s) - φ s‖ ^ 2 ≤ d s) :
    OpialStep step φ T P D (fun _ => 0) d :=
  ⟨cont, inv, semiconj, lower, upper, fun _ _ => le_rfl,
    fun ws hws s hs => by rw [add_zero, add_zero]; exact descent ws hws s hs, increment, 0, fun _ _ => (zero_mul _).ge⟩

section
variable {X Z : Type} [NormedAddCommGroup X] [InnerProductSpace ℝ X] [NormedAddCommGroup Z] [InnerProductSpace ℝ Z]

/-- the adjoint has the same bound: `‖Cᵀw‖² = ⟪w, C Cᵀw⟫ ≤ ‖w‖ L ‖Cᵀw‖` -/
theorem adjoint_bound {C : X → Z} {Cadj : Z → X} (hadj : ∀ w x, ⟪Cadj w, x⟫ = ⟪w, C x⟫) {Lc : ℝ} (hL : 0 ≤ Lc)
    (hbd : ∀ a, ‖C a‖ ≤ Lc * ‖a‖) (w : Z) : ‖Cadj w‖ ≤ Lc * ‖w‖ := by
  have h1 : ‖Cadj w‖ * ‖Cadj w‖ ≤ Lc * ‖w‖ * ‖Cadj w‖ := by
    rw [← real_inner_self_eq_norm_mul_norm, hadj]
    have := mul_le_mul_of_nonneg_left (hbd (Cadj w)) (norm_nonneg w)
    linarith [real_inner_le_norm w (C (Cadj w))]
  rcases (norm_nonneg (Cadj w)).eq_or_lt with h0 | hpos
  · rw [← h0]; exact mul_nonneg hL (norm_nonneg w)
  · exact le_of_mul_le_mul_right h1 hpos

theorem continuous_of_sub_of_bound {V W : Type} [NormedAddCommGroup V] [NormedAddCommGroup W] {T : V → W}
    (hsub : ∀ u v, T (u - v) = T u - T v) {L : ℝ} (hL : 0 ≤ L) (hbd : ∀ a, ‖T a‖ ≤ L * ‖a‖) : Continuous T :=
  (LipschitzWith.of_dist_le_mul (K := ⟨L, hL⟩) fun u v => by
    rw [dist_eq_norm, dist_eq_norm, ← hsub]; exact hbd _).continuous

theorem IsProx.continuous {V : Type} [NormedAddCommGroup V] [InnerProductSpace ℝ V] {F : Fn V} {prox : ℝ → V → V}
    (hp : IsProx F prox) {lam : ℝ} (hlam : 0 < lam) : Continuous (prox lam) :=
  (LipschitzWith.of_dist_le_mul (K := 1) fun u v => by
    rw [dist_eq_norm, dist_eq_norm, NNReal.coe_one, one_mul]; exact hp.nonexpansive hlam u v).continuous

theorem adjoint_continuous {C : X → Z} {Cadj : Z → X} (hadj : ∀ w x, ⟪Cadj w, x⟫ = ⟪w, C x⟫) {Lc : ℝ} (hL : 0 ≤ Lc)
    (hbd : ∀ a, ‖C a‖ ≤ Lc * ‖a‖) : Continuous Cadj :=
  continuous_of_sub_of_bound (sub_of_adj (adj_symm hadj)) hL (adjoint_bound hadj hL hbd)

end

theorem sq_norm_fst_le {V W : Type} [NormedAddCommGroup V] [NormedAddCommGroup W] (w : V × W) : ‖w.1‖ ^ 2 ≤ ‖w‖ ^ 2 :=
  pow_le_pow_left₀ (norm_nonneg _) (norm_fst_le w) 2

theorem sq_norm_snd_le {V W : Type} [NormedAddCommGroup V] [NormedAddCommGroup W] (w : V × W) : ‖w.2‖ ^ 2 ≤ ‖w‖ ^ 2 :=
  pow_le_pow_left₀ (norm_nonneg _) (norm_snd_le w) 2

/-- the (max-)norm of a product against a weighted sum of squares of the components -/
theorem prod_weighted_sq_bounds {V W : Type} [NormedAddCommGroup V] [NormedAddCommGroup W] {a b : ℝ} (ha : 0 ≤ a)
    (hb : 0 ≤ b) (w : V × W) :
    min a b * ‖w‖ ^ 2 ≤ a * ‖w.1‖ ^ 2 + b * ‖w.2‖ ^ 2 ∧ a * ‖w.1‖ ^ 2 + b * ‖w.2‖ ^ 2 ≤ (a + b) * ‖w‖ ^ 2 := by
  have h1 := mul_nonneg ha (sq_nonneg ‖w.1‖)
  have h2 := mul_nonneg hb (sq_nonneg ‖w.2‖)
  constructor
  · rw [Prod.norm_def]
    rcases max_cases ‖w.1‖ ‖w.2‖ with ⟨h, _⟩ | ⟨h, _⟩ <;> rw [h]
    · linarith [mul_le_mul_of_nonneg_right (min_le_left a b) (sq_nonneg ‖w.1‖)]
    · linarith [mul_le_mul_of_nonneg_right (min_le_right a b) (sq_nonneg ‖w.2‖)]
  · linarith [mul_le_mul_of_nonneg_left (sq_norm_fst_le w) ha, mul_le_mul_of_nonneg_left (sq_norm_snd_le w) hb]

theorem prod_norm_sq_le {A B : Type} [NormedAddCommGroup A] [NormedAddCommGroup B] (a : A) (b : B) :
    ‖(a, b)‖ ^ 2 ≤ ‖a‖ ^ 2 + ‖b‖ ^ 2 := by
  simpa only [min_self, one_mul] using (prod_weighted_sq_bounds zero_le_one zero_le_one (a, b)).1

end Scico.Steps
