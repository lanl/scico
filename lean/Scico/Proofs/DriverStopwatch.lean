/-
  C15, one label of `scico.util.Timer` against the ideal stop-watch: the accumulators `(t0, td)`,
  driven by the label's events (`Clock.machFold`), obey the recursion over the event history that an
  ideal stop-watch obeys.  Here for the tick-counting stop-watch `Spec.specElapsed` over `ℕ` on
  non-decreasing histories; with the label routing of `DriverTimer.lean`, the `Timer` of the tick
  transcription returns what it prescribes.  The gap-summing stop-watch over an arbitrary clock is in
  `DriverClock.lean`; both rest on the first lemma here, `Clock.elapsedEntry_mach`: what one event does to
  the reading, over any additive commutative monoid with a subtraction.  In the second half the specification is
  `Spec.*` (ticks) and the machine `Clock.mach`, `Clock.machFold` at `τ = ℕ`: both are written with their namespace.
-/
import Scico.Proofs.DriverTimer
import Mathlib.Algebra.Group.Nat.Defs

namespace Scico.Driver.Clock

variable {τ : Type} [AddCommMonoid τ] [Sub τ]

/-- One event changes the total reading of the machine the way it changes an ideal stop-watch:
    `reset` clears it, `start` at `t` adds `T - t`.  Of subtraction only one fact is used, that the
    interval since a pending start `s` splits at `t`: an identity in a group, true in `ℕ` when
    `s ≤ t ≤ T`. -/
theorem elapsedEntry_mach (e : Entry τ) (t : τ) (k : Op) (T : τ)
    (hsplit : ∀ s, e.t0 = some s → T - s = (t - s) + (T - t)) :
    elapsedEntry (mach e (t, k)) true T =
      (if k = .reset then 0 else elapsedEntry e true t) + (if k = .start then T - t else 0) := by
  cases h0 : e.t0 with
  | none => cases k <;> simp [mach, startEntry, stopEntry, resetEntry, elapsedEntry, h0, add_comm]
  | some s =>
    cases k with
    | start =>
      simp only [mach, startEntry, elapsedEntry, h0, hsplit s h0, if_true, reduceCtorEq, if_false]
      rw [add_assoc, add_comm (T - t), ← add_assoc]
    | stop => simp [mach, stopEntry, elapsedEntry, h0, add_comm]
    | reset => simp [mach, resetEntry, elapsedEntry]

end Scico.Driver.Clock

namespace Scico.Driver
open Scico.Driver.Spec

theorem lastBefore_snoc_lt (es : List (Nat × Op)) (t : Nat) (k : Op) (s : Nat) (h : s < t) :
    lastBefore (es ++ [(t, k)]) s = lastBefore es s := by
  have : ¬ t ≤ s := by omega
  simp [lastBefore, List.filter_append, this]

theorem lastBefore_snoc_ge (es : List (Nat × Op)) (t : Nat) (k : Op) (s : Nat) (h : t ≤ s) :
    lastBefore (es ++ [(t, k)]) s = some k := by
  simp [lastBefore, List.filter_append, h]

theorem lastResetTime_snoc (es : List (Nat × Op)) (t : Nat) (k : Op) :
    lastResetTime (es ++ [(t, k)]) = if k = .reset then t else lastResetTime es := by
  unfold lastResetTime
  cases k <;> simp [List.filter_append]

theorem lastResetTime_le (es : List (Nat × Op)) (T : Nat) (h : ∀ e ∈ es, e.1 ≤ T) :
    lastResetTime es ≤ T := by
  unfold lastResetTime
  split
  · next e he =>
    have := List.mem_of_getLast? he
    exact h e (List.mem_filter.mp this).1
  · omega

theorem countP_range_split (p : Nat → Bool) (t now : Nat) (h : t ≤ now) :
    (List.range now).countP p =
      (List.range t).countP p + (List.range (now - t)).countP (fun s => p (t + s)) := by
  have hn : now = t + (now - t) := by omega
  conv => lhs; rw [hn, List.range_add, List.countP_append, List.countP_map]
  rfl

theorem specTotal_snoc (es : List (Nat × Op)) (t : Nat) (k : Op) (now : Nat)
    (hes : ∀ e ∈ es, e.1 ≤ t) (ht : t ≤ now) :
    Spec.specTotal (es ++ [(t, k)]) now =
      (if k = .reset then 0 else Spec.specTotal es t) + (if k = .start then now - t else 0) := by
  unfold Spec.specTotal
  -- the ticks before `t` count as they did without the event; from `t` on the event alone decides
  rw [countP_range_split _ t now ht]
  congr 1
  · by_cases hk : k = .reset
    · simp only [hk, if_true]
      rw [List.countP_eq_zero]
      intro s hs
      have hs' : s < t := List.mem_range.mp hs
      simp only [counted, lastResetTime_snoc, if_true]
      have : ¬ t ≤ s := by omega
      simp [this]
    · simp only [hk, if_false]
      apply List.countP_congr
      intro s hs
      have hs' : s < t := List.mem_range.mp hs
      simp only [counted, runningAt, lastResetTime_snoc, hk, if_false, lastBefore_snoc_lt es t k s hs']
  · have hl : lastResetTime (es ++ [(t, k)]) ≤ t := by
      rw [lastResetTime_snoc]
      split
      · omega
      · exact lastResetTime_le es t hes
    have hc : ∀ s, counted (es ++ [(t, k)]) (t + s) = (k == .start) := by
      intro s
      have h1 : lastResetTime (es ++ [(t, k)]) ≤ t + s := by omega
      simp only [counted, runningAt, lastBefore_snoc_ge es t k (t + s) (by omega), h1, decide_true,
        Bool.true_and]
      cases k <;> rfl
    simp only [hc]
    cases k <;> simp

/-- the accumulators against the tick count, at every query time not before the events.  The
    subtraction of `ℕ` truncates, but a pending start time is the time of an earlier event, so every
    `t - t0` the machine forms is exact. -/
theorem specTotal_machFold (es : List (Nat × Op)) (hs : es.Pairwise (fun a b => a.1 ≤ b.1))
    (T : Nat) (hT : ∀ ev ∈ es, ev.1 ≤ T) :
    Spec.specTotal es T = Clock.elapsedEntry (Clock.machFold es) true T := by
  induction es using List.reverseRecOn generalizing T with
  | nil =>
    have : ∀ s, counted [] s = false := by intro s; simp [counted, runningAt, lastBefore]
    simp [Spec.specTotal, this, Clock.elapsedEntry, Clock.machFold, Clock.Entry.fresh]
  | append_singleton es ev ih =>
    obtain ⟨t, k⟩ := ev
    rw [List.pairwise_append] at hs
    have hes : ∀ e ∈ es, e.1 ≤ t := fun e he => hs.2.2 e he (t, k) (by simp)
    have htT : t ≤ T := hT (t, k) (by simp)
    rw [specTotal_snoc es t k T hes htT, ih hs.1 t hes, Clock.machFold_snoc, Clock.elapsedEntry_mach]
    intro s h0
    have := Clock.machFold_t0_le es t hes s h0
    omega

theorem elapsedEntry_machFold (es : List (Nat × Op)) (hs : es.Pairwise (fun a b => a.1 ≤ b.1))
    (T : Nat) (hT : ∀ ev ∈ es, ev.1 ≤ T) (total : Bool) :
    Clock.elapsedEntry (Clock.machFold es) total T =
      if total then Spec.specTotal es T else Spec.specCurrent es T := by
  cases total with
  | true => simp [specTotal_machFold es hs T hT]
  | false =>
    simp only [Bool.false_eq_true, if_false, Clock.elapsedEntry, Spec.specCurrent, Clock.machFold_t0,
      show Clock.trailingStarts es = Spec.trailingStarts es from rfl]
    cases (Spec.trailingStarts es).head? <;> rfl

variable {L : Type} [DecidableEq L]

theorem timer_refines_stopwatch (c : Cfg L) (h : List (Call L))
    (now : Nat) (hm : Monotone h now) (label : Option L) (total : Bool) :
    ((Timer.init c.init c.dflt c.all).run h).elapsed label total now =
      Spec.specElapsed c h label total now := by
  rw [← toClock_elapsed, Clock.elapsed_of_represents (represents_init_run c h), known_via, labelHistory_toClock,
    Spec.specElapsed]
  have ⟨hs, hle⟩ := labelHistory_sorted c hm (label.getD c.dflt)
  rw [elapsedEntry_machFold _ hs now hle]

end Scico.Driver
