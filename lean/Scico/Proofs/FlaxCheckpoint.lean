/-
  The checkpoint directory (`Scico.Model.Flax` §4): what a save does, what any sequence of saves leaves,
  and the two invariants under which `restore` is read off the directory (`DirOk`, `Coh`).
-/
import Scico.Model.Flax
import Mathlib.Data.List.Range

namespace Scico.Flax

variable {σ : Type}

/-- keep the last `k` entries (what the manager's pruning leaves) -/
def lastK (k : Nat) (l : List (Nat × σ)) : List (Nat × σ) := l.drop (l.length - k)

theorem lastK_of_le (k : Nat) (l : List (Nat × σ)) (h : l.length ≤ k) : lastK k l = l := by
  simp [lastK, Nat.sub_eq_zero_of_le h]

theorem lastK_length (k : Nat) (l : List (Nat × σ)) : (lastK k l).length = min k l.length := by
  rw [lastK, List.length_drop, Nat.sub_sub_eq_min, Nat.min_comm]

theorem lastK_sublist (k : Nat) (l : List (Nat × σ)) : (lastK k l).Sublist l := List.drop_sublist _ _

theorem lastK_pairwise (k : Nat) (l : List (Nat × σ)) (hs : l.Pairwise (fun a b => a.1 < b.1)) :
    (lastK k l).Pairwise (fun a b => a.1 < b.1) := hs.sublist (lastK_sublist k l)

theorem lastK_ne_nil (k : Nat) (hk : 1 ≤ k) (l : List (Nat × σ)) (hne : l ≠ []) : lastK k l ≠ [] := by
  have hl : 0 < l.length := List.length_pos_iff.mpr hne
  refine List.ne_nil_of_length_pos ?_
  rw [lastK_length]; omega

theorem lastK_getLast (k : Nat) (hk : 1 ≤ k) (l : List (Nat × σ)) (hne : l ≠ []) :
    (lastK k l).getLast (lastK_ne_nil k hk l hne) = l.getLast hne :=
  List.getLast_drop (i := l.length - k) (lastK_ne_nil k hk l hne)

theorem mem_lastK_last (k : Nat) (hk : 1 ≤ k) (l : List (Nat × σ)) (p : Nat × σ) : p ∈ lastK k (l ++ [p]) := by
  have h := List.getLast_mem (lastK_ne_nil k hk (l ++ [p]) (by simp))
  rwa [lastK_getLast k hk _ (by simp), List.getLast_append_singleton] at h

theorem lastK_append_of_le (k : Nat) (a x : List (Nat × σ)) (h : k ≤ x.length) :
    lastK k (a ++ x) = lastK k x := by
  unfold lastK
  rw [List.length_append, Nat.add_sub_assoc h, List.drop_append, List.drop_eq_nil_of_le (Nat.le_add_right _ _),
    List.nil_append, Nat.add_sub_cancel_left]

/-- pruning early and pruning late give the same directory -/
theorem lastK_lastK_append (k : Nat) (l m : List (Nat × σ)) :
    lastK k (lastK k l ++ m) = lastK k (l ++ m) := by
  by_cases h : l.length ≤ k
  · rw [lastK_of_le k l h]
  · have hsplit : l = l.take (l.length - k) ++ lastK k l := (List.take_append_drop _ _).symm
    have hlen : (lastK k l).length = k := by rw [lastK_length]; omega
    conv_rhs => rw [hsplit, List.append_assoc]
    rw [lastK_append_of_le k _ (lastK k l ++ m) (by rw [List.length_append]; omega)]

theorem latest_eq_max? (l : List (Nat × σ)) : latest l = (l.map (·.1)).max? := by
  cases l with
  | nil => rfl
  | cons p ps => simp only [latest, List.map_cons, List.max?_cons', List.foldl_map]

theorem latest_nil : latest ([] : List (Nat × σ)) = none := rfl

theorem latest_eq_none (l : List (Nat × σ)) : latest l = none ↔ l = [] := by
  rw [latest_eq_max?, List.max?_eq_none_iff, List.map_eq_nil_iff]

theorem latest_eq_some (l : List (Nat × σ)) (m : Nat) :
    latest l = some m ↔ (∃ p ∈ l, p.1 = m) ∧ ∀ p ∈ l, p.1 ≤ m := by
  rw [latest_eq_max?, List.max?_eq_some_iff, List.mem_map, List.forall_mem_map]

theorem latest_after_save (k : Nat) (hk : 1 ≤ k) (l : List (Nat × σ)) (p : Nat × σ)
    (hacc : ∀ q ∈ l, q.1 < p.1) : latest (lastK k (l ++ [p])) = some p.1 := by
  rw [latest_eq_some]
  refine ⟨⟨p, mem_lastK_last k hk l p, rfl⟩, fun q hq => ?_⟩
  rcases List.mem_append.mp ((lastK_sublist k _).subset hq) with h | h
  · exact Nat.le_of_lt (hacc q h)
  · rw [List.mem_singleton.mp h]

theorem restore_latest (l : List (Nat × σ)) (m : Nat) (hl : latest l = some m) (cur : σ) (ok : Bool) :
    ∃ p ∈ l, p.1 = m ∧ restore (some l) cur ok = .ok p.2 := by
  obtain ⟨⟨p, hp, hpm⟩, _⟩ := (latest_eq_some l m).mp hl
  cases hf : l.find? (·.1 == m) with
  | none => exact absurd (List.find?_eq_none.mp hf p hp) (by simp [hpm])
  | some q =>
    exact ⟨q, List.mem_of_find?_eq_some hf, by simpa using List.find?_some hf, by simp only [restore, hl, hf]⟩

theorem last_sorted (l : List (Nat × σ)) (hs : l.Pairwise (fun a b => a.1 < b.1)) (hne : l ≠ []) :
    ∀ q ∈ l, q.1 ≤ (l.getLast hne).1 ∧ (q.1 = (l.getLast hne).1 → q = l.getLast hne) := by
  intro q hq
  rw [← List.dropLast_append_getLast hne] at hq hs
  rcases List.mem_append.mp hq with h | h
  · have := (List.pairwise_append.mp hs).2.2 q h _ (List.mem_singleton_self _)
    exact ⟨Nat.le_of_lt this, fun e => absurd e (Nat.ne_of_lt this)⟩
  · rw [List.mem_singleton.mp h]; exact ⟨Nat.le_refl _, fun _ => rfl⟩

theorem latest_sorted (l : List (Nat × σ)) (hs : l.Pairwise (fun a b => a.1 < b.1)) (hne : l ≠ []) :
    latest l = some (l.getLast hne).1 :=
  (latest_eq_some l _).mpr ⟨⟨_, List.getLast_mem hne, rfl⟩, fun q hq => (last_sorted l hs hne q hq).1⟩

theorem restore_sorted (l : List (Nat × σ)) (hs : l.Pairwise (fun a b => a.1 < b.1)) (hne : l ≠ []) (cur : σ)
    (ok : Bool) : restore (some l) cur ok = .ok (l.getLast hne).2 := by
  obtain ⟨p, hp, hpm, hr⟩ := restore_latest l _ (latest_sorted l hs hne) cur ok
  rw [hr, (last_sorted l hs hne p hp).2 hpm]

theorem save_some (k : Nat) (l : List (Nat × σ)) (step : Nat) (s : σ) :
    save k (some l) step s =
      if (match latest l with | none => true | some m => decide (m < step)) then some (lastK k (l ++ [(step, s)]))
      else some l := rfl

theorem save_none (k : Nat) (step : Nat) (s : σ) : save k (none : Dir σ) step s = save k (some []) step s := rfl

theorem save_cases (k : Nat) (l : List (Nat × σ)) (step : Nat) (s : σ) :
    ((∀ q ∈ l, q.1 < step) ∧ (∀ m, latest l = some m → m < step) ∧
        save k (some l) step s = some (lastK k (l ++ [(step, s)]))) ∨
      ∃ m, latest l = some m ∧ step ≤ m ∧ save k (some l) step s = some l := by
  rw [save_some]
  cases hl : latest l with
  | none =>
    rw [(latest_eq_none l).mp hl]
    exact Or.inl ⟨fun q hq => (nomatch hq), fun m hm => (nomatch hm), rfl⟩
  | some m =>
    by_cases hlt : m < step
    · exact Or.inl ⟨fun q hq => Nat.lt_of_le_of_lt (((latest_eq_some l m).mp hl).2 q hq) hlt,
        fun m' hm' => Option.some.inj hm' ▸ hlt, by simp only [hlt, decide_true, if_true]⟩
    · exact Or.inr ⟨m, rfl, Nat.le_of_not_lt hlt, by simp only [hlt, decide_false, Bool.false_eq_true, if_false]⟩

theorem saveAll_none (k : Nat) (ps : List (Nat × σ)) (h : ps ≠ []) :
    saveAll k (none : Dir σ) ps = saveAll k (some []) ps := by
  cases ps with
  | nil => exact absurd rfl h
  | cons p ps => rfl

theorem saveAll_invariant (k : Nat) (P : Dir σ → Prop) (ps : List (Nat × σ))
    (hstep : ∀ d, P d → ∀ p ∈ ps, P (save k d p.1 p.2)) : ∀ d, P d → P (saveAll k d ps) := by
  induction ps with
  | nil => exact fun d hd => hd
  | cons p ps ih =>
    exact fun d hd => ih (fun d' hd' q hq => hstep d' hd' q (List.mem_cons_of_mem _ hq)) _
      (hstep d hd p List.mem_cons_self)

theorem saveAll_eq (k : Nat) (hk : 1 ≤ k) (ps : List (Nat × σ)) :
    ∀ l : List (Nat × σ), saveAll k (some l) ps = some (lastK k (l ++ records (latest l) ps)) ∨
      (saveAll k (some l) ps = some l ∧ records (latest l) ps = []) := by
  induction ps with
  | nil => intro l; right; cases latest l <;> exact ⟨rfl, rfl⟩
  | cons p ps ih =>
    intro l
    obtain ⟨step, s⟩ := p
    rcases save_cases k l step s with ⟨hacc, hlat, hsave⟩ | ⟨m, hm, hle, hsave⟩
    · have hrec : records (latest l) ((step, s) :: ps) = (step, s) :: records (some step) ps := by
        cases hl : latest l with
        | none => rfl
        | some m => simp only [records, if_pos (hlat m hl)]
      have hlat' := latest_after_save k hk l (step, s) hacc
      rw [saveAll, hsave, hrec]
      left
      rcases ih (lastK k (l ++ [(step, s)])) with h | ⟨h1, h2⟩
      · rw [h, hlat', lastK_lastK_append, List.append_assoc]; rfl
      · rw [hlat'] at h2; rw [h1, h2]
    · have hrec : records (latest l) ((step, s) :: ps) = records (latest l) ps := by
        rw [hm]; simp only [records, if_neg (Nat.not_lt.mpr hle)]
      rw [saveAll, hsave, hrec]
      exact ih l

/-- on a directory that is not over-full (every directory saves build from the empty one: `dirOk_saveAll`) the second case
    of `saveAll_eq` is the first: one closed form -/
theorem saveAll_eq_of_le (k : Nat) (hk : 1 ≤ k) (ps l : List (Nat × σ)) (hl : l.length ≤ k) :
    saveAll k (some l) ps = some (lastK k (l ++ records (latest l) ps)) := by
  rcases saveAll_eq k hk ps l with h | ⟨h1, h2⟩
  · exact h
  · rw [h1, h2, List.append_nil, lastK_of_le k l hl]

theorem records_increasing (ps : List (Nat × σ)) (h : ps.Pairwise (fun a b => a.1 < b.1)) :
    ∀ m : Option Nat, (∀ k, m = some k → ∀ p ∈ ps, k < p.1) → records m ps = ps := by
  induction ps with
  | nil => intro m _; cases m <;> rfl
  | cons p ps ih =>
    intro m hm
    have hp := List.pairwise_cons.mp h
    have hrec : records (some p.1) ps = ps := ih hp.2 (some p.1) (by
      intro k hk q hq; cases hk; exact hp.1 q hq)
    cases m with
    | none => simp [records, hrec]
    | some k =>
      have : k < p.1 := hm k rfl p List.mem_cons_self
      simp [records, this, hrec]

theorem saveAll_increasing (k : Nat) (hk : 1 ≤ k) (l ps : List (Nat × σ)) (hlen : l.length ≤ k)
    (hinc : ps.Pairwise (fun a b => a.1 < b.1)) (hl : ∀ m, latest l = some m → ∀ p ∈ ps, m < p.1) :
    saveAll k (some l) ps = some (lastK k (l ++ ps)) := by
  rw [saveAll_eq_of_le k hk ps l hlen, records_increasing ps hinc (latest l) hl]

/-- steps strictly increasing in the order the checkpoints were written, at most `k` of them -/
def DirOk (k : Nat) (l : List (Nat × σ)) : Prop := l.Pairwise (fun a b => a.1 < b.1) ∧ l.length ≤ k

theorem dirOk_save (k : Nat) (l : List (Nat × σ)) (h : DirOk k l) (step : Nat) (s : σ) :
    ∃ l', save k (some l) step s = some l' ∧ DirOk k l' := by
  rcases save_cases k l step s with ⟨hacc, _, hsave⟩ | ⟨_, _, _, hsave⟩
  · refine ⟨_, hsave, lastK_pairwise k _ ?_, by rw [lastK_length]; exact Nat.min_le_left _ _⟩
    exact List.pairwise_append.mpr ⟨h.1, List.pairwise_singleton _ _,
      fun a ha b hb => List.mem_singleton.mp hb ▸ hacc a ha⟩
  · exact ⟨l, hsave, h⟩

theorem dirOk_saveAll (k : Nat) (ps : List (Nat × σ)) (l : List (Nat × σ)) (h : DirOk k l) :
    ∃ l', saveAll k (some l) ps = some l' ∧ DirOk k l' :=
  saveAll_invariant k (fun d => ∃ l', d = some l' ∧ DirOk k l') ps
    (fun _ ⟨l', hd, hok⟩ p _ => hd ▸ dirOk_save k l' hok p.1 p.2) _ ⟨l, rfl, h⟩

def latestD (d : Dir σ) : Option Nat := match d with | none => none | some l => latest l

def stepOf : Option Nat → Nat
  | none => 0
  | some m => m

theorem saveAll_skipped (k : Nat) (d : Dir σ) (m : Nat) (hl : latestD d = some m)
    (ps : List (Nat × σ)) (h : ∀ p ∈ ps, p.1 ≤ m) : saveAll k d ps = d := by
  cases d with
  | none => cases hl
  | some l =>
    refine saveAll_invariant k (· = some l) ps (fun d hd p hp => ?_) _ rfl
    rw [hd]
    rcases save_cases k l p.1 p.2 with ⟨_, hlat, _⟩ | ⟨_, _, _, hsave⟩
    · exact absurd (hlat m hl) (Nat.not_lt.mpr (h p hp))
    · exact hsave

theorem latestD_save (k : Nat) (hk : 1 ≤ k) (d : Dir σ) (step : Nat) (s : σ) :
    latestD (save k d step s) = some (max (stepOf (latestD d)) step) := by
  have key : ∀ l : List (Nat × σ), latestD (save k (some l) step s) = some (max (stepOf (latest l)) step) := by
    intro l
    rcases save_cases k l step s with ⟨hacc, hlat, hsave⟩ | ⟨m, hm, hle, hsave⟩
    · have hmax : stepOf (latest l) ≤ step := by
        cases hl : latest l with
        | none => exact Nat.zero_le _
        | some m => exact Nat.le_of_lt (hlat m hl)
      rw [hsave, Nat.max_eq_right hmax]
      exact latest_after_save k hk l (step, s) hacc
    · rw [hsave, hm]
      exact hm.trans (congrArg some (Nat.max_eq_left hle).symm)
  cases d with
  | none => rw [save_none]; exact key []
  | some l => exact key l

/-- every stored state is its own step counter (the abstraction used by `trainRun`) -/
def Coh (d : Dir Nat) : Prop := ∀ l, d = some l → ∀ p ∈ l, p.2 = p.1

theorem coh_save (k : Nat) (d : Dir Nat) (hc : Coh d) (s : Nat) : Coh (save k d s s) := by
  intro l' hl' p hp
  have key : ∀ l : List (Nat × Nat), (∀ q ∈ l, q.2 = q.1) → save k (some l) s s = some l' → p.2 = p.1 := by
    intro l hl hsave
    rcases save_cases k l s s with ⟨_, _, h⟩ | ⟨_, _, _, h⟩ <;> rw [h] at hsave <;> cases hsave
    · rcases List.mem_append.mp ((lastK_sublist k _).subset hp) with h | h
      · exact hl p h
      · rw [List.mem_singleton.mp h]
    · exact hl p hp
  cases d with
  | none => rw [save_none] at hl'; exact key [] (fun _ h => nomatch h) hl'
  | some l => exact key l (hc l rfl) hl'

theorem coh_saveAll (k : Nat) (xs : List Nat) (d : Dir Nat) (hd : Coh d) :
    Coh (saveAll k d (xs.map (fun s => (s, s)))) := by
  refine saveAll_invariant k Coh _ (fun d hd p hp => ?_) d hd
  obtain ⟨x, _, rfl⟩ := List.mem_map.mp hp
  exact coh_save k d hd x

theorem latestD_saveAll_last (k : Nat) (hk : 1 ≤ k) (N : Nat) (xs : List Nat) (hxs : ∀ x ∈ xs, x ≤ N) :
    ∀ d : Dir Nat, stepOf (latestD d) ≤ N → latestD (saveAll k d ((xs ++ [N]).map (fun s => (s, s)))) = some N := by
  induction xs with
  | nil =>
    intro d hd
    show latestD (save k d N N) = some N
    rw [latestD_save k hk, Nat.max_eq_right hd]
  | cons x xs ih =>
    intro d hd
    refine ih (fun y hy => hxs y (List.mem_cons_of_mem _ hy)) (save k d x x) ?_
    rw [latestD_save k hk]
    exact Nat.max_le.mpr ⟨hd, hxs x List.mem_cons_self⟩

theorem restore_coh (d : Dir Nat) (hc : Coh d) : restore d 0 true = .ok (stepOf (latestD d)) := by
  cases d with
  | none => rfl
  | some l =>
    cases hl : latest l with
    | none => simp only [restore, latestD, hl]; rfl
    | some m =>
      obtain ⟨p, hp, hpm, hr⟩ := restore_latest l m hl 0 true
      rw [hr, hc l rfl p hp, hpm, latestD, hl]; rfl

theorem restore_coh_of_latestD (d : Dir Nat) (hc : Coh d) {N : Nat} (hl : latestD d = some N) :
    restore d 0 true = .ok N := by
  rw [restore_coh d hc, hl]; rfl

end Scico.Flax
