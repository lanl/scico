/-
  Proofs about the dense-matrix models of `Scico.Model.LinSolve` (C14):
  `MatrixATADSolver` (direct and Woodbury path, vector and matrix right-hand sides, `accuracy`) and the
  per-frequency Sherman–Morrison formula of `ConvATADSolver`.  Over an arbitrary field `K`; the
  conjugation `conj` is an arbitrary map (the identities do not depend on its properties), so the
  theorems hold for real data (`conj = id`) and complex data alike.
-/
import Mathlib.Data.Matrix.Mul
import Mathlib.Algebra.BigOperators.Fin
import Mathlib.Tactic.Ring
import Mathlib.Tactic.Abel
import Mathlib.Tactic.FieldSimp
import Scico.Model.LinSolve
import Scico.Proofs.Sums

namespace Scico.LinSolve
open Matrix

variable {K : Type} [Field K]

theorem mulVec_eq {m n : Nat} (A : Mat K m n) (x : Vec K n) :
    mulVec A x = (Matrix.of A) *ᵥ x := by
  funext i
  simp [mulVec, Vec.sum_eq, Matrix.mulVec, dotProduct]

theorem matMul_eq {m n k : Nat} (A : Mat K m n) (B : Mat K n k) :
    matMul A B = (Matrix.of A * Matrix.of B : Matrix (Fin m) (Fin k) K) := by
  funext i l
  simp [matMul, Vec.sum_eq, Matrix.mul_apply]

theorem entry_diag {n : Nat} (d : Vec K n) : Matrix.of (DMat.diag d).entry = Matrix.diagonal d := by
  ext i j
  simp [DMat.entry, Matrix.diagonal_apply]

theorem diagonal_mul_diagonal_eq_one {n : Nat} (d e : Fin n → K) (h : ∀ k, d k * e k = 1) :
    Matrix.diagonal d * Matrix.diagonal e = (1 : Matrix (Fin n) (Fin n) K) := by
  rw [Matrix.diagonal_mul_diagonal, ← Matrix.diagonal_one]
  congr 1; funext k; exact h k

/-- the Woodbury path in matrices (`Am = A`, `B = Aᴴ`, `w` what the factor solve returns): the idea is `h1`,
    `A D⁻¹ (b − B w) = W⁻¹ w`, after which `(B W A + D) D⁻¹ (b − B w) = B w + (b − B w)` -/
theorem woodbury_core_mat {m n k : Nat} (Am : Matrix (Fin m) (Fin n) K) (B : Matrix (Fin n) (Fin m) K)
    (d : Fin n → K) (W : Fin m → K) (hd : ∀ k, d k ≠ 0) (hW : ∀ i, W i ≠ 0) (b : Matrix (Fin n) (Fin k) K)
    (w : Matrix (Fin m) (Fin k) K)
    (hw : (Matrix.diagonal (fun i => 1 / W i) + Am * (Matrix.diagonal (fun k => (d k)⁻¹) * B)) * w
        = Am * (Matrix.diagonal (fun k => (d k)⁻¹) * b)) :
    (B * Matrix.diagonal W * Am + Matrix.diagonal d) * (Matrix.diagonal (fun k => (d k)⁻¹) * (b - B * w)) = b := by
  have hDD := diagonal_mul_diagonal_eq_one d (fun k => (d k)⁻¹) fun k => mul_inv_cancel₀ (hd k)
  have hWW := diagonal_mul_diagonal_eq_one W (fun i => 1 / W i) fun i => mul_one_div_cancel (hW i)
  have h1 : Am * (Matrix.diagonal (fun k => (d k)⁻¹) * (b - B * w)) = Matrix.diagonal (fun i => 1 / W i) * w := by
    rw [Matrix.mul_sub, Matrix.mul_sub, ← hw, Matrix.add_mul]
    simp only [Matrix.mul_assoc]
    abel
  rw [Matrix.add_mul, Matrix.mul_assoc (B * Matrix.diagonal W), h1, Matrix.mul_assoc B, ← Matrix.mul_assoc (Matrix.diagonal W),
    hWW, Matrix.one_mul, ← Matrix.mul_assoc (Matrix.diagonal d), hDD, Matrix.one_mul]
  abel

theorem diag_inv_mul {n k : Nat} (d : Fin n → K) (u : Matrix (Fin n) (Fin k) K) :
    (Matrix.of fun i l => u i l / d i) = Matrix.diagonal (fun k => (d k)⁻¹) * u := by
  ext i l
  rw [Matrix.diagonal_mul, Matrix.of_apply, div_eq_mul_inv, mul_comm]

section
variable [HasIsZero K]

/-- The zero test `isZ` of the scalar type is exact.  The model has three zero tests: `isZero`, written with `<`, for the real
    dtypes of `rel_res` and `bisect`; the class `HasIsZero` for `snp.all(W != 0)`, whose dtype may be `Cx Float`, which has no `<`;
    the field `CGOps.isZero` for `cg_solver` (`decide (s = 0)` in `rcOps`).  `isZero_iff` proves of the first, over an ordered
    field, what this says of the second; here it is a hypothesis because `HasIsZero K` is an arbitrary instance on a field `K`. -/
def LawfulIsZero (K : Type) [Zero K] [HasIsZero K] : Prop := ∀ x : K, isZ x = true ↔ x = 0

theorem allNonzero_iff (hz : LawfulIsZero K) {m : Nat} (W : Vec K m) : allNonzero W = true ↔ ∀ i, W i ≠ 0 := by
  simp only [allNonzero, List.all_eq_true, List.mem_ofFn]
  constructor
  · intro h i hi
    have := h _ ⟨i, rfl⟩
    simp [(hz (W i)).2 hi] at this
  · rintro h _ ⟨i, rfl⟩
    have : isZ (W i) = false := by
      cases hb : isZ (W i) with
      | false => rfl
      | true => exact absurd ((hz (W i)).1 hb) (h i)
    simp [this]

end

variable [HasConj K]

/-- the documented system matrix `Aᴴ W A + D` -/
def specLhs {m n : Nat} (s : ATAD K m n) : Matrix (Fin n) (Fin n) K :=
  Matrix.of (conjT s.A) * Matrix.diagonal s.W * Matrix.of s.A + Matrix.of s.D.entry

theorem ahwa_entry {m n : Nat} (A : Mat K m n) (W : Vec K m) (i j : Fin n) :
    (∑ k, conj (A k i) * (W k * A k j)) = (Matrix.of (conjT A) * Matrix.diagonal W * Matrix.of A) i j := by
  rw [Matrix.mul_apply]
  simp only [Matrix.mul_diagonal, Matrix.of_apply, conjT]
  apply Finset.sum_congr rfl
  intro k _
  ring

theorem gDirect_eq_spec {m n : Nat} (s : ATAD K m n) :
    (Matrix.of (gDirect s.A s.D s.W) : Matrix (Fin n) (Fin n) K) = specLhs s := by
  ext i j
  simp only [specLhs, Matrix.add_apply, Matrix.of_apply, gDirect, Vec.sum_eq]
  rw [ahwa_entry]

/-- `accuracy`'s left-hand side `Aᴴ (W A) x + D x` is the documented `(Aᴴ W A + D) x` -/
theorem lhsApplyM_eq_spec {m n k : Nat} (s : ATAD K m n) (x : Mat K n k) :
    s.lhsApplyM x = (specLhs s * Matrix.of x : Matrix (Fin n) (Fin k) K) := by
  obtain ⟨A, D, W⟩ := s
  funext i l
  rw [specLhs, Matrix.add_mul, Matrix.add_apply]
  rw [show ((Matrix.of (conjT A) * Matrix.diagonal W * Matrix.of A) * Matrix.of x) i l
      = ∑ j, (Matrix.of (conjT A) * Matrix.diagonal W * Matrix.of A) i j * x j l from Matrix.mul_apply]
  simp only [ATAD.lhsApplyM, matMul, Vec.sum_eq, conjT]
  congr 1
  · apply Finset.sum_congr rfl
    intro j _
    rw [ahwa_entry]
  · cases D with
    | diag d => simp [DMat.entry, Matrix.mul_apply]
    | full D => simp [DMat.entry, Matrix.mul_apply, matMul, Vec.sum_eq]

/-- … and a vector argument is the matrix argument with one column -/
theorem lhsApply_eq_spec {m n : Nat} (s : ATAD K m n) (x : Vec K n) :
    s.lhsApply x = specLhs s *ᵥ x := by
  have h := lhsApplyM_eq_spec s fun i (_ : Fin 1) => x i
  obtain ⟨A, D, W⟩ := s
  funext i
  cases D <;> exact congrFun (congrFun h i) 0

theorem gWoodbury_eq {m n : Nat} (A : Mat K m n) (d : Vec K n) (W : Vec K m) :
    (Matrix.of (gWoodbury A d W) : Matrix (Fin m) (Fin m) K) =
      Matrix.diagonal (fun i => 1 / W i) + Matrix.of A * (Matrix.diagonal (fun k => (d k)⁻¹) * Matrix.of (conjT A)) := by
  ext i j
  rw [Matrix.add_apply, Matrix.mul_apply]
  simp only [gWoodbury, Vec.sum_eq, Matrix.of_apply, Matrix.diagonal_apply, Matrix.diagonal_mul, conjT]
  congr 1
  apply Finset.sum_congr rfl
  intro k _
  rw [div_eq_mul_inv]; ring

theorem conv_solve_spec {Kf N : Nat} (Ahat Dhat bhat : Mat K Kf N) (w : Fin N)
    (hD : ∀ k, Dhat k w ≠ 0)
    (hE : 1 + ∑ k, Ahat k w * (conj (Ahat k w) / Dhat k w) ≠ 0) (j : Fin Kf) :
    convLhsHat Ahat Dhat (convSolveHat Ahat Dhat bhat) j w = bhat j w := by
  simp only [convLhsHat, convSolveHat, convAHEinv, Vec.sum_eq]
  set S1 := ∑ k, Ahat k w * (conj (Ahat k w) / Dhat k w) with hS1
  set S2 := ∑ k, Ahat k w * bhat k w / Dhat k w with hS2
  have hsum : ∑ k, Ahat k w * ((bhat k w - conj (Ahat k w) / (1 + S1) * S2) / Dhat k w) = S2 / (1 + S1) := by
    have : ∀ k, Ahat k w * ((bhat k w - conj (Ahat k w) / (1 + S1) * S2) / Dhat k w)
        = Ahat k w * bhat k w / Dhat k w - (S2 / (1 + S1)) * (Ahat k w * (conj (Ahat k w) / Dhat k w)) := by
      intro k
      have := hD k
      field_simp
    rw [Finset.sum_congr rfl (fun k _ => this k), Finset.sum_sub_distrib, ← Finset.mul_sum, ← hS1, ← hS2]
    field_simp
    ring
  rw [hsum]
  have := hD j
  field_simp
  ring

variable [HasIsZero K]

theorem atad_solveM_spec (hz : LawfulIsZero K) {m n k : Nat} (s : ATAD K m n) (fsW : Mat K m k → Mat K m k) (fsD : Mat K n k → Mat K n k)
    (b : Mat K n k)
    (hfsW : ∀ d, s.D = .diag d → ∀ c, matMul (gWoodbury s.A d s.W) (fsW c) = c)
    (hfsD : ∀ c, matMul (gDirect s.A s.D s.W) (fsD c) = c)
    (hnz : ∀ d, s.D = .diag d → s.useWoodbury = true → ∀ k, d k ≠ 0) :
    (specLhs s * Matrix.of (s.solveM fsW fsD b) : Matrix (Fin n) (Fin k) K) = Matrix.of b := by
  have hdirect : (specLhs s * Matrix.of (fsD b) : Matrix (Fin n) (Fin k) K) = Matrix.of b := by
    rw [← gDirect_eq_spec, ← matMul_eq]; exact hfsD b
  obtain ⟨A, D, W⟩ := s
  cases D with
  | full D => exact hdirect
  | diag d =>
    simp only [ATAD.solveM]
    split
    · rename_i hwb
      have hd := hnz d rfl hwb
      -- the Woodbury branch is only taken when no weight is zero
      have hW : ∀ i, W i ≠ 0 := by
        simp only [ATAD.useWoodbury, Bool.and_eq_true] at hwb
        exact (allNonzero_iff hz W).1 hwb.2
      set w := fsW (matMul A fun i l => b i l / d i) with hw
      have hc := hfsW d rfl (matMul A fun i l => b i l / d i)
      dsimp only at hc
      rw [← hw, matMul_eq, matMul_eq, gWoodbury_eq] at hc
      have hbd : (Matrix.of fun i l => b i l / d i) = Matrix.diagonal (fun k => (d k)⁻¹) * Matrix.of b :=
        diag_inv_mul d (Matrix.of b)
      rw [hbd] at hc
      have hx : (Matrix.of fun i l => (b i l - matMul (conjT A) w i l) / d i)
          = Matrix.diagonal (fun k => (d k)⁻¹) * (Matrix.of b - Matrix.of (conjT A) * Matrix.of w) := by
        rw [← diag_inv_mul, matMul_eq]; rfl
      rw [hx, specLhs, entry_diag]
      exact woodbury_core_mat (Matrix.of A) (Matrix.of (conjT A)) d W hd hW (Matrix.of b) (Matrix.of w) hc
    · exact hdirect

/-- the 2-D case with one column -/
theorem atad_solve_spec (hz : LawfulIsZero K) {m n : Nat} (s : ATAD K m n) (fsW : Vec K m → Vec K m) (fsD : Vec K n → Vec K n) (b : Vec K n)
    (hfsW : ∀ d, s.D = .diag d → ∀ c, mulVec (gWoodbury s.A d s.W) (fsW c) = c)
    (hfsD : ∀ c, mulVec (gDirect s.A s.D s.W) (fsD c) = c)
    (hnz : ∀ d, s.D = .diag d → s.useWoodbury = true → ∀ k, d k ≠ 0) :
    specLhs s *ᵥ (s.solve fsW fsD b) = b := by
  have h := atad_solveM_spec hz s (k := 1) (fun c i _ => fsW (fun i => c i 0) i) (fun c i _ => fsD (fun i => c i 0) i)
    (fun i _ => b i)
    (fun d hd c => by funext i l; rw [Fin.fin_one_eq_zero l]; exact congrFun (hfsW d hd fun i => c i 0) i)
    (fun c => by funext i l; rw [Fin.fin_one_eq_zero l]; exact congrFun (hfsD fun i => c i 0) i) hnz
  have e : s.solve fsW fsD b = fun i =>
      s.solveM (k := 1) (fun c i _ => fsW (fun i => c i 0) i) (fun c i _ => fsD (fun i => c i 0) i) (fun i _ => b i) i 0 := by
    obtain ⟨A, D, W⟩ := s
    cases D with
    | full D => rfl
    | diag d => simp only [ATAD.solve, ATAD.solveM]; split <;> rfl
  rw [e]
  funext i
  exact congrFun (congrFun h i) 0

end Scico.LinSolve
