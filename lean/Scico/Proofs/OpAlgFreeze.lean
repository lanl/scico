/-
  `Operator.freeze`, `Function.slice`, `Function.join`: index normalisation, acceptance, declared shapes,
  what is evaluated (after repo commit ed13728).
-/
import Scico.Proofs.OpAlgInv
namespace Scico.OpAlg
open Scico.DType

theorem normIdx_spec (N : Nat) (k : Int) (p : Nat) :
    normIdx N k = some p ↔ (-(N : Int) ≤ k ∧ k < N ∧ (p : Int) = if k < 0 then k + N else k) := by
  unfold normIdx
  by_cases h : k < -(N : Int) ∨ k ≥ (N : Int)
  · rw [if_pos h]
    exact ⟨fun h' => (nomatch h'), fun ⟨h1, h2, _⟩ => by omega⟩
  · rw [if_neg h, Option.some.injEq, ← apply_ite Int.toNat]
    obtain ⟨h1, h2⟩ := not_or.mp h
    have hx : 0 ≤ (if k < 0 then k + N else k) := by split <;> omega
    exact ⟨fun e => ⟨Int.not_lt.mp h1, Int.not_le.mp h2, by rw [← e, Int.toNat_of_nonneg hx]⟩,
      fun ⟨_, _, e⟩ => by rw [← e, Int.toNat_natCast]⟩

theorem normIdx_lt {N : Nat} {k : Int} {p : Nat} (h : normIdx N k = some p) : p < N := by
  obtain ⟨h1, h2, h3⟩ := (normIdx_spec N k p).mp h
  split at h3 <;> omega

theorem normIdx_neg (N : Nat) (k : Int) (h1 : -(N : Int) ≤ k) (h2 : k < 0) :
    normIdx N k = normIdx N (k + N) := by
  unfold normIdx
  rw [if_neg (show ¬(k < -(N : Int) ∨ k ≥ (N : Int)) by omega), if_pos h2,
    if_neg (show ¬(k + N < -(N : Int) ∨ k + N ≥ (N : Int)) by omega), if_neg (show ¬(k + N < 0) by omega)]

theorem normIdx_none_iff (N : Nat) (k : Int) : normIdx N k = none ↔ (k < -(N : Int) ∨ (N : Int) ≤ k) := by
  unfold normIdx
  by_cases h : k < -(N : Int) ∨ k ≥ (N : Int)
  · rw [if_pos h]
    exact ⟨fun _ => h, fun _ => rfl⟩
  · rw [if_neg h]
    constructor
    · intro h'; cases h'
    · intro h'; exact absurd h' h

/-- total size of a list of blocks: `(Shape.nested l).size`, and `offsetOf bs p = sumL (bs.take p)`, both by `rfl` -/
def sumL (l : List (List Nat)) : Nat := (l.map prodL).foldr (· + ·) 0

theorem restShape_size (l : List (List Nat)) : (restShape l).size = sumL l := by
  unfold restShape sumL
  split
  · simp [Shape.size]
  · rfl

theorem restShape_isNested : ∀ l : List (List Nat), (restShape l).isNested = false ↔ l.length = 1
  | [] => ⟨fun h => (nomatch h), fun h => (nomatch h)⟩
  | [_] => ⟨fun _ => rfl, fun _ => rfl⟩
  | _ :: _ :: _ => ⟨fun h => (nomatch h), fun h => by simp at h⟩

theorem sumL_erase (bs : List (List Nat)) (p : Nat) (hp : p < bs.length) :
    sumL (bs.eraseIdx p) + prodL (bs.getD p []) = sumL bs := by
  induction bs generalizing p with
  | nil => simp at hp
  | cons b bs ih =>
    cases p with
    | zero => simp [sumL, List.eraseIdx, Nat.add_comm]
    | succ p =>
      have := ih p (by simpa using hp)
      simp only [sumL, List.eraseIdx_cons_succ, List.map_cons, List.foldr_cons, List.getD_cons_succ] at this ⊢
      omega

theorem offsetOf_le (bs : List (List Nat)) (p : Nat) (hp : p < bs.length) :
    offsetOf bs p + prodL (bs.getD p []) ≤ sumL bs := by
  induction bs generalizing p with
  | nil => simp at hp
  | cons b bs ih =>
    cases p with
    | zero => simp [offsetOf, sumL]
    | succ p =>
      have := ih p (by simpa using hp)
      simp only [offsetOf, sumL, List.take_succ_cons, List.map_cons, List.foldr_cons, List.getD_cons_succ] at this ⊢
      omega

section
variable {α : Type} [Zero α]

/-- **`freeze` is accepted exactly** for an operator on a block input, an index in `[-N, N)` and a value
    of the shape of that block -/
theorem freeze_ok_iff (o : Obj α) (k : Int) (valSh : Shape) (valDt : DT) (val : Vc α) :
    (∃ r, freeze o k valSh valDt val = .ok r)
      ↔ ∃ bs p, o.md.inShape = .nested bs ∧ normIdx bs.length k = some p ∧ valSh = .plain (bs.getD p []) := by
  unfold freeze
  cases o.md.inShape with
  | plain d => exact ⟨fun ⟨_, h⟩ => (nomatch h), fun ⟨_, _, h, _⟩ => (nomatch h)⟩
  | nested bs =>
    dsimp only
    cases hn : normIdx bs.length k with
    | none => exact ⟨fun ⟨_, h⟩ => (nomatch h), fun ⟨_, _, h, hp, _⟩ => by cases h; rw [hn] at hp; cases hp⟩
    | some p =>
      constructor
      · exact fun ⟨_, h⟩ => ⟨bs, p, rfl, hn, Decidable.not_not.mp (ite_error_ok h).1⟩
      · rintro ⟨_, _, h, hp, hv⟩
        cases h; rw [hn] at hp; cases hp
        exact ⟨_, if_neg (Decidable.not_not.mpr hv)⟩

/-- **what `freeze` builds**: an `Operator` on the remaining blocks (a plain array when exactly one
    block remains), with the operand's output space and dtypes, evaluating the operand on the block
    array with `val` inserted as block `p` -/
theorem freeze_spec (o : Obj α) (k : Int) (valSh : Shape) (valDt : DT) (val : Vc α) (r : Obj α)
    (bs : List (List Nat)) (p : Nat) (hsh : o.md.inShape = .nested bs) (hp : normIdx bs.length k = some p)
    (h : freeze o k valSh valDt val = .ok r) :
    (r.md.inShape = restShape (bs.eraseIdx p) ∧ r.md.outShape = o.md.outShape
      ∧ r.md.inDt = o.md.inDt ∧ r.md.outDt = o.md.outDt
      ∧ r.md.inShape.size + prodL (bs.getD p []) = o.md.inShape.size
      ∧ (r.md.inShape.isNested = false ↔ bs.length = 2))
    ∧ r.md.cls = .op
    ∧ (∀ x, r.eval x = o.eval (vinsert o.n (offsetOf bs p) (prodL (bs.getD p [])) val x))
    ∧ r.evalDt valDt = o.evalDt valDt := by
  have hpl := normIdx_lt hp
  unfold freeze at h
  simp only [hsh, hp] at h
  obtain rfl := Except.ok.inj (ite_error_ok h).2
  refine ⟨⟨rfl, rfl, rfl, rfl, ?_, ?_⟩, rfl, fun _ => rfl, by simp [mkOp]⟩
  · show (restShape (bs.eraseIdx p)).size + _ = _
    rw [restShape_size, hsh]
    exact sumL_erase bs p hpl
  · show (restShape (bs.eraseIdx p)).isNested = false ↔ _
    rw [restShape_isNested, List.length_eraseIdx_of_lt hpl]
    omega

theorem vinsert_get (n off sz : Nat) (v x : Vc α) (j : Nat) :
    (vinsert n off sz v x).get j
      = if j < n then (if j < off then x.get j else if j < off + sz then v.get (j - off) else x.get (j - sz))
        else 0 := rfl

/-- `Function.slice`: accepted iff the index is in `[-N, N)`; the free parameter goes to position `p` -/
theorem slice_spec (f : Fn α) (k : Int) (fixArgs : List (Vc α)) (fixDts : List DT) :
    (∀ p, normIdx f.inShapes.length k = some p →
        ∃ r, f.slice k fixArgs fixDts = .ok r ∧ r.md.cls = .op
          ∧ r.md.inShape = f.inShapes.getD p (.plain []) ∧ r.md.inDt = f.inDts.getD p .f32
          ∧ r.md.outShape = f.outShape ∧ r.md.outDt = f.outDt
          ∧ ∀ x, r.eval x = f.eval (fixArgs.take p ++ x :: fixArgs.drop p))
    ∧ (normIdx f.inShapes.length k = none → f.slice k fixArgs fixDts = .error .other)
    ∧ (-(f.inShapes.length : Int) ≤ k → k < 0 →
        f.slice k fixArgs fixDts = f.slice (k + f.inShapes.length) fixArgs fixDts) := by
  refine ⟨fun p hp => ?_, fun hn => ?_, fun h1 h2 => ?_⟩
  · unfold Fn.slice; simp only [hp]
    exact ⟨_, rfl, rfl, rfl, rfl, rfl, rfl, fun _ => rfl⟩
  · unfold Fn.slice; simp only [hn]
  · unfold Fn.slice; rw [normIdx_neg _ k h1 h2]

/-- `Function.join`: accepted iff all parameters have one dtype; one BlockArray input of the parameters'
    shapes; evaluates the function on the blocks -/
theorem join_spec (f : Fn α) (d0 : DT) (ds : List DT) (hd : f.inDts = d0 :: ds) :
    ((∃ r, f.join = .ok r) ↔ ∀ d ∈ ds, d = d0)
    ∧ ∀ r, f.join = .ok r →
        r.md.cls = .op ∧ r.md.inShape = .nested (f.inShapes.map plainDims) ∧ r.md.inDt = d0
        ∧ r.md.outShape = f.outShape ∧ r.md.outDt = f.outDt
        ∧ ∀ x, r.eval x = f.eval (splitBlocks (f.inShapes.map Shape.size) 0 x) := by
  unfold Fn.join
  simp only [hd]
  by_cases hall : ds.all (· = d0) = true
  · simp only [hall, Bool.not_true, Bool.false_eq_true, if_false]
    refine ⟨⟨fun _ d hdm => by simpa using List.all_eq_true.mp hall d hdm, fun _ => ⟨_, rfl⟩⟩, ?_⟩
    intro r h; injection h with h; subst h
    exact ⟨rfl, rfl, rfl, rfl, rfl, fun _ => rfl⟩
  · have hall' : ds.all (· = d0) = false := by simpa using hall
    simp only [hall', Bool.not_false, if_true]
    refine ⟨⟨fun h' => (by obtain ⟨_, h''⟩ := h'; cases h''), fun h => ?_⟩, fun r h => (by cases h)⟩
    exfalso; apply hall
    exact List.all_eq_true.mpr (fun d hdm => by simpa using h d hdm)

end
end Scico.OpAlg
