/-
  C07: chain rules in gradient form — through an affine map (lines suffice) and through a nonlinear
  operator under JAX's `jvp`/`vjp` contracts (curves are needed); structural zeros of an l1 or group norm after a
  linear map; the residual map of a projection; necessity of the smoothness guards; `ProximalAverage`;
  chain and sum rules over operator trees (`F(G)`, `F ± G`, `a·F`, `−F`).
-/
import Scico.Proofs.AutogradDeriv
import Mathlib.Analysis.Calculus.Deriv.Abs

namespace Scico.Autograd

variable {n m k : Nat}

/-- chain rule through an affine map, gradient form: `grad(s·φ∘(A·−y))(x) = s·Aᴴ·grad φ(Ax−y)` -/
theorem isGradAt_comp_affine (s : ℝ) (A : Mat ℝ m n) (y : CVec ℝ m) (φ : CVec ℝ m → ℝ) (x : CVec ℝ n)
    (g : CVec ℝ m) (h : IsGradAt φ (vsub (mulVec A x) y) g) :
    IsGradAt (fun z => s * φ (vsub (mulVec A z) y)) x (vsmul s (mulVec (adjMat A) g)) := by
  intro d
  rw [reInner_vsmul_left, reInner_adjMat]
  have hline : ∀ t, vsub (mulVec A (along x d t)) y = along (vsub (mulVec A x) y) (mulVec A d) t := fun t => by
    rw [mulVec_along]; exact funext fun i => add_sub_right_comm _ _ _
  exact HasDerivAt.congr' ((h (mulVec A d)).const_mul s) (fun t => congrArg (fun v => s * φ v) (hline t)) rfl

/-- chain rule through a **nonlinear** operator `F`, gradient form (`J`, `G`: what `jax.jvp`, `jax.vjp` return at `x`); `φ` needs a
    gradient along curves, since `t ↦ F(x+td)` is not a line -/
theorem isGradAt_comp_operator (s : ℝ) (F J : CVec ℝ n → CVec ℝ m) (G : CVec ℝ m → CVec ℝ n)
    (y : CVec ℝ m) (φ : CVec ℝ m → ℝ) (x : CVec ℝ n) (g : CVec ℝ m)
    (hJ : ∀ d, Tangent (fun t => F (along x d t)) (J d))
    (hG : ∀ c d, reBdot (G c) d = reBdot c (J d))
    (h : IsCurveGradAt φ (vsub (F x) y) g) :
    IsGradAt (fun z => s * φ (vsub (F z) y)) x (vsmul s (vjpWrap true G g)) := by
  intro d
  have hadj : reInner (vjpWrap true G g) d = reInner g (J d) := adjoint_of_transpose Cx.re (hG _ d)
  rw [reInner_vsmul_left, hadj]
  exact (h (fun t => vsub (F (along x d t)) y) (J d) (by rw [along_zero]) (tangent_vsub_const (hJ d) y)).const_mul s

theorem abs2_structural_zero (A : Mat ℝ m n) (y : CVec ℝ m) (z : CVec ℝ n) (i : Fin m) (hy : y i = 0)
    (hA : ∀ j, A i j = 0) : Cx.abs2 (vsub (mulVec A z) y i) = 0 := by
  have : vsub (mulVec A z) y i = 0 := by
    simp only [vsub, mulVec_eq, hy, hA, zero_mul, Finset.sum_const_zero, sub_zero]
  rw [this]
  simp only [Cx.abs2, Cx.zero_re, Cx.zero_im, mul_zero, add_zero]

/-- a group norm after a linear map, at a point where every group of `A x − y` is either non-zero or
    *structurally* zero (all its rows of `A` and entries of `y` vanish): smooth along every line -/
theorem smoothLines_loss_l21 (s : ℝ) (A : Mat ℝ m n) (y : CVec ℝ m) (grp : Fin m → Fin k) (x : CVec ℝ n)
    (h : ∀ g, groupAbs2 grp (vsub (mulVec A x) y) g ≠ 0 ∨
      ∀ i, grp i = g → (y i = 0 ∧ ∀ j, A i j = 0)) :
    (Fn.loss s A y (Fn.l21 k grp)).SmoothLines x := by
  intro d
  show ∀ g, groupAbs2 grp (vsub (mulVec A (along x d 0)) y) g ≠ 0 ∨
    ∀ t, groupAbs2 grp (vsub (mulVec A (along x d t)) y) g = 0
  intro g
  rcases h g with hne | hz
  · left; rwa [along_zero]
  · right
    intro t
    rw [groupAbs2_eq]
    refine Finset.sum_eq_zero (fun i _ => ?_)
    by_cases hg : grp i = g
    · rw [if_pos hg]
      exact abs2_structural_zero A y _ i (hz i hg).1 (hz i hg).2
    · rw [if_neg hg]

/-- the same for the l1 norm after a linear map (anisotropic TV): every entry of `A x − y` is either
    non-zero or structurally zero -/
theorem smoothLines_loss_l1 (s : ℝ) (A : Mat ℝ m n) (y : CVec ℝ m) (x : CVec ℝ n)
    (h : ∀ i, Cx.abs2 (vsub (mulVec A x) y i) ≠ 0 ∨ (y i = 0 ∧ ∀ j, A i j = 0)) :
    (Fn.loss s A y Fn.l1).SmoothLines x := by
  intro d
  show ∀ i, Cx.abs2 (vsub (mulVec A (along x d 0)) y i) ≠ 0 ∨
    ∀ t, Cx.abs2 (vsub (mulVec A (along x d t)) y i) = 0
  intro i
  rcases h i with hne | ⟨hy, hA⟩
  · left; rwa [along_zero]
  · exact Or.inr fun t => abs2_structural_zero A y _ i hy hA

/-- the residual map `z ↦ z − P z` inherits JAX's contracts from `P` -/
theorem residual_contracts (P JP GP : CVec ℝ n → CVec ℝ n) (x : CVec ℝ n)
    (hJ : ∀ d, Tangent (fun t => P (along x d t)) (JP d))
    (hG : ∀ c d, reBdot (GP c) d = reBdot c (JP d)) :
    (∀ d, Tangent (fun t => vsub (along x d t) (P (along x d t))) (vsub d (JP d))) ∧
    (∀ c d, reBdot (vsub c (GP c)) d = reBdot c (vsub d (JP d))) := by
  refine ⟨fun d i => ?_, fun c d => ?_⟩
  · exact ((tangent_along x d i).sub (hJ d i)).congr (fun _ => rfl) rfl
  · rw [reBdot_vsub, reBdot_vsub_right, hG]

theorem not_hasDerivAt_abs (a c : ℝ) : ¬ HasDerivAt (fun t : ℝ => a + |t|) c 0 := by
  intro h
  have h2 : HasDerivAt (fun t : ℝ => |t|) c 0 := by
    have := h.sub_const a
    refine HasDerivAt.congr' this (fun t => by ring) rfl
  exact not_differentiableAt_abs_zero h2.differentiableAt

theorem along_single_ne (x : CVec ℝ n) (z : Cx ℝ) (t : ℝ) {i j : Fin n} (h : j ≠ i) :
    along x (single i z) t j = x j := by
  apply Cx.ext' <;> simp only [along, single, if_neg h, Cx.add_re, Cx.add_im, Cx.smul_re, Cx.smul_im, Cx.zero_re,
    Cx.zero_im, mul_zero, add_zero]

theorem along_single_self (x : CVec ℝ n) (t : ℝ) {i : Fin n} (hi : x i = 0) :
    along x (single i ⟨1, 0⟩) t i = ⟨t, 0⟩ := by
  apply Cx.ext' <;> simp only [along, single, if_true, hi, Cx.smul_re, Cx.smul_im, mul_zero, mul_one, zero_add]

theorem sqrt_abs2_real (t : ℝ) : Real.sqrt (Cx.abs2 (⟨t, 0⟩ : Cx ℝ)) = |t| := by
  simp only [Cx.abs2, mul_zero, add_zero]
  exact Real.sqrt_mul_self_eq_abs t

theorem l1_not_grad (x : CVec ℝ n) (i : Fin n) (hi : x i = 0) : ¬ ∃ g, IsGradAt (Fn.l1 : Fn ℝ n).eval x g := by
  rintro ⟨g, hg⟩
  have h := hg (single i ⟨1, 0⟩)
  refine not_hasDerivAt_abs (∑ j ∈ Finset.univ.erase i, Cx.abs (x j)) _ (HasDerivAt.congr' h (fun t => ?_) rfl)
  simp only [Fn.eval, Vec.sum_eq]
  rw [← Finset.add_sum_erase Finset.univ (fun j => Cx.abs (along x (single i ⟨1, 0⟩) t j)) (Finset.mem_univ i),
    along_single_self x t hi, add_comm]
  exact congrArg₂ _ (sqrt_abs2_real t).symm
    (Finset.sum_congr rfl fun j hj => by rw [along_single_ne x _ t (Finset.ne_of_mem_erase hj)])

theorem l2_not_grad (i : Fin n) : ¬ ∃ g, IsGradAt (Fn.l2 : Fn ℝ n).eval (fun _ => 0) g := by
  rintro ⟨g, hg⟩
  have h := hg (single i ⟨1, 0⟩)
  refine not_hasDerivAt_abs 0 _ (HasDerivAt.congr' h (fun t => ?_) rfl)
  simp only [Fn.eval, norm2, sumAbs2_eq, hasSqrt_real, zero_add]
  rw [Finset.sum_eq_single i, along_single_self _ t rfl, sqrt_abs2_real]
  · intro j _ hj
    rw [along_single_ne _ _ t hj]
    simp only [Cx.abs2, Cx.zero_re, Cx.zero_im, mul_zero, add_zero]
  · intro h; exact absurd (Finset.mem_univ _) h

theorem proxAvgFn_eval {n : Nat} (l : List (ℝ × Fn ℝ n)) (acc : Fn ℝ n) (x : CVec ℝ n) :
    (proxAvgFn l acc).eval x = acc.eval x + (l.map (fun p => p.1 * p.2.eval x)).sum := by
  induction l generalizing acc with
  | nil => simp [proxAvgFn]
  | cons p rest ih =>
    obtain ⟨a, f⟩ := p
    simp only [proxAvgFn, ih, Fn.eval, List.map_cons, List.sum_cons]
    ring

theorem proxAvgFn_smooth {n : Nat} (l : List (ℝ × Fn ℝ n)) (acc : Fn ℝ n) (x : CVec ℝ n)
    (ha : acc.Smooth x) (h : ∀ p ∈ l, p.2.Smooth x) : (proxAvgFn l acc).Smooth x := by
  induction l generalizing acc with
  | nil => exact ha
  | cons p rest ih =>
    obtain ⟨a, f⟩ := p
    simp only [proxAvgFn]
    apply ih
    · exact ⟨ha, h (a, f) (by simp)⟩
    · intro q hq; exact h q (by simp [hq])

/-- `OpT.jvp` **is** the derivative of `OpT.eval` along every differentiable curve -/
theorem tangent_opT : ∀ {n m : Nat} (T : OpT ℝ n m) {c : ℝ → CVec ℝ n} {d : CVec ℝ n}, Tangent c d →
    Tangent (fun t => T.eval (c t)) (T.jvp (c 0) d) := by
  intro n m T
  induction T with
  | leaf F => intro c d hc; exact tangent_op F hc
  | comp F G ihF ihG => intro c d hc; exact ihF (ihG hc)
  | add F G ihF ihG => intro c d hc i; exact (ihF hc i).add (ihG hc i)
  | sub F G ihF ihG => intro c d hc i; exact (ihF hc i).sub (ihG hc i)
  | smul a F ih => intro c d hc i; exact (ih hc i).const_mul a
  | neg F ih => intro c d hc i; exact (ih hc i).const_mul _

/-- `OpT.vjpT` is the transpose of `OpT.jvp` for the pairing `Re Σ aᵢ bᵢ` (JAX's `vjp` contract, here a theorem) -/
theorem opT_vjpT_transpose : ∀ {n m : Nat} (T : OpT ℝ n m) (u : CVec ℝ n) (c : CVec ℝ m) (d : CVec ℝ n),
    reBdot (T.vjpT u c) d = reBdot c (T.jvp u d) := by
  intro n m T
  induction T with
  | leaf F => intro u c d; exact op_vjpT_transpose F u c d
  | comp F G ihF ihG => intro u c d; exact (ihG u _ d).trans (ihF _ c _)
  | add F G ihF ihG =>
    intro u c d
    exact (reBdot_vadd_left _ _ _).trans ((congrArg₂ _ (ihF u c d) (ihG u c d)).trans (reBdot_vadd_right _ _ _).symm)
  | sub F G ihF ihG =>
    intro u c d
    exact (reBdot_vsub _ _ _).trans ((congrArg₂ _ (ihF u c d) (ihG u c d)).trans (reBdot_vsub_right _ _ _).symm)
  | smul a F ih => intro u c d; exact (ih u _ d).trans (reBdot_mul_right _ c _).symm
  | neg F ih => intro u c d; exact (ih u _ d).trans (reBdot_mul_right _ c _).symm

end Scico.Autograd
