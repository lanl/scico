/-
  A family of array primitives for which the per-class facts are proved (C06).  Values are flattened arrays `ℕ → ℂ`
  (entry `i` of the row-major buffer, 0 beyond the size); every jointly linear primitive is a row-finite sparse matrix
  over its operands, `(out) i = Σ_{(k, j, c) ∈ T i} c · (operand k) j` (`applyDesc`), where `T` may depend on the values
  of the parameter operands (predicate of `select_n`, index array of `gather`).  `arrInterp T C` is sound for every
  descriptor table `T` and constant table `C`: for programs over this family the verdict gives linearity outright.

  `Scico.Jaxpr.Fam`: the whole table-driven family `famInterp` (`Model/Jaxpr.lean: famDen` at ℂ: sparse matrices, sparse
  bilinear forms, quotients, real parts, conjugation) is sound for every choice of tables.
-/
import Scico.Proofs.Jaxpr
import Mathlib.LinearAlgebra.Complex.Module
import Mathlib.Algebra.BigOperators.Group.List.Basic
import Mathlib.Tactic.Ring

namespace Scico.Jaxpr.Arr

abbrev Vc := ℕ → ℂ

abbrev Term := Scico.Jaxpr.Term ℂ

/-- a row-finite sparse matrix over the operand list -/
abbrev LinDesc := ℕ → List Term

/-- operand `k` of the list (absent operands read as the zero array) -/
def opnd (xs : List Vc) (k : ℕ) : Vc := xs.getD k 0

/-- the model's `applyDescG` (Mathlib-free, run at `Float` by the driver against the JAX primitives) at `ℂ` -/
def applyDesc (T : LinDesc) (xs : List Vc) : Vc := applyDescG T xs

theorem applyDesc_apply (T : LinDesc) (xs : List Vc) (i : ℕ) :
    applyDesc T xs i = ((T i).map fun t => t.2.2 * opnd xs t.1 t.2.1).sum := rfl

theorem opnd_ladd (xs ys : List Vc) (h : xs.length = ys.length) (k : ℕ) :
    opnd (ladd xs ys) k = opnd xs k + opnd ys k := by
  induction xs generalizing ys k with
  | nil =>
    cases ys with
    | nil => exact (add_zero (0 : Vc)).symm
    | cons y ys => cases h
  | cons x xs ih =>
    cases ys with
    | nil => cases h
    | cons y ys =>
      cases k with
      | zero => rfl
      | succ k => exact ih ys (Nat.succ.inj h) k

theorem opnd_lsmul (c : ℂ) (xs : List Vc) (k : ℕ) : opnd (lsmul c xs) k = c • opnd xs k := by
  induction xs generalizing k with
  | nil => exact (smul_zero c).symm
  | cons x xs ih =>
    cases k with
    | zero => rfl
    | succ k => exact ih k

theorem sum_map_eq_mul {α : Type} (l : List α) (c : ℂ) {f g : α → ℂ} (h : ∀ t, g t = c * f t) :
    (l.map g).sum = c * (l.map f).sum := by
  rw [← List.sum_map_mul_left]
  exact congrArg _ (List.map_congr_left fun t _ => h t)

theorem applyDesc_add (T : LinDesc) (xs ys : List Vc) (h : xs.length = ys.length) :
    applyDesc T (ladd xs ys) = applyDesc T xs + applyDesc T ys := by
  funext i
  simp only [applyDesc_apply, Pi.add_apply, opnd_ladd xs ys h, mul_add]
  exact List.sum_map_add

theorem applyDesc_smul (T : LinDesc) (c : ℂ) (xs : List Vc) :
    applyDesc T (lsmul c xs) = c • applyDesc T xs := by
  funext i
  simp only [applyDesc_apply, Pi.smul_apply, opnd_lsmul, smul_eq_mul]
  exact sum_map_eq_mul _ c fun t => by ring

def addD : LinDesc := fun i => [(0, i, 1), (1, i, 1)]
def subD : LinDesc := fun i => [(0, i, 1), (1, i, -1)]
def negD : LinDesc := fun i => [(0, i, -1)]
/-- multiplication by the constant scalar `c` -/
def scaleD (c : ℂ) : LinDesc := fun i => [(0, i, c)]
/-- `x[start : start + stride*len : stride]` -/
def sliceD (start stride len : ℕ) : LinDesc := fun i => if i < len then [(0, start + stride * i, 1)] else []
/-- `lo` zeros, then the `len` entries of the operand, then zeros -/
def padD (lo len : ℕ) : LinDesc := fun i => if lo ≤ i ∧ i < lo + len then [(0, i - lo, 1)] else []
/-- operands of sizes `n₁`, `n₂` one after the other -/
def concatD (n₁ n₂ : ℕ) : LinDesc :=
  fun i => if i < n₁ then [(0, i, 1)] else if i < n₁ + n₂ then [(1, i - n₁, 1)] else []
/-- sum of the first `n` entries (a 0-d result) -/
def sumD (n : ℕ) : LinDesc := fun i => if i = 0 then (List.range n).map fun j => (0, j, 1) else []
/-- running sum of the first `n` entries -/
def cumsumD (n : ℕ) : LinDesc := fun i => if i < n then (List.range (i + 1)).map fun j => (0, j, 1) else []
def revD (n : ℕ) : LinDesc := fun i => if i < n then [(0, n - 1 - i, 1)] else []
/-- a 0-d operand broadcast to `n` entries -/
def bcastD (n : ℕ) : LinDesc := fun i => if i < n then [(0, 0, 1)] else []
/-- an `r × c` row-major operand transposed (result `c × r` row-major) -/
def transposeD (r c : ℕ) : LinDesc := fun i => if i < r * c then [(0, (i % r) * c + i / r, 1)] else []
/-- `x[idx]` for a constant index list -/
def gatherD (idx : List ℕ) : LinDesc := fun i => match idx[i]? with | some j => [(0, j, 1)] | none => []
/-- `where(pred, a, b)` for a constant predicate (operand 0 where it holds, operand 1 elsewhere) -/
def selectD (pred : ℕ → Bool) : LinDesc := fun i => if pred i then [(0, i, 1)] else [(1, i, 1)]
/-- multiplication by a constant `m × n` matrix (dot_general with a constant operand; fft = the DFT matrix) -/
def matD (m n : ℕ) (M : ℕ → ℕ → ℂ) : LinDesc :=
  fun i => if i < m then (List.range n).map fun j => (0, j, M i j) else []

theorem applyDesc_nil {T : LinDesc} {i : ℕ} (h : T i = []) (xs : List Vc) : applyDesc T xs i = 0 := by
  rw [applyDesc_apply, h]; rfl

theorem applyDesc_single {T : LinDesc} {i k j : ℕ} {c : ℂ} (h : T i = [(k, j, c)]) (xs : List Vc) :
    applyDesc T xs i = c * opnd xs k j := by
  rw [applyDesc_apply, h]; exact add_zero _

theorem applyDesc_pair {T : LinDesc} {i k j k' j' : ℕ} {c c' : ℂ} (h : T i = [(k, j, c), (k', j', c')])
    (xs : List Vc) : applyDesc T xs i = c * opnd xs k j + c' * opnd xs k' j' := by
  rw [applyDesc_apply, h]; exact congrArg _ (add_zero _)

theorem applyDesc_ite {T : LinDesc} {i k j : ℕ} {c : Prop} [Decidable c] (h : T i = if c then [(k, j, 1)] else [])
    (xs : List Vc) : applyDesc T xs i = if c then opnd xs k j else 0 := by
  split
  · next hc => exact (applyDesc_single (h.trans (if_pos hc)) xs).trans (one_mul _)
  · next hc => exact applyDesc_nil (h.trans (if_neg hc)) xs

section computes
variable (x y : Vc) (i : ℕ)

theorem addD_apply : applyDesc addD [x, y] i = x i + y i := by
  rw [applyDesc_pair (rfl : addD i = _), one_mul, one_mul]; rfl
theorem subD_apply : applyDesc subD [x, y] i = x i - y i := by
  rw [applyDesc_pair (rfl : subD i = _), one_mul, neg_one_mul, ← sub_eq_add_neg]; rfl
theorem negD_apply : applyDesc negD [x] i = - x i := by
  rw [applyDesc_single (rfl : negD i = _), neg_one_mul]; rfl
theorem scaleD_apply (c : ℂ) : applyDesc (scaleD c) [x] i = c * x i := applyDesc_single (rfl : scaleD c i = _) _
theorem sliceD_apply (s t n : ℕ) : applyDesc (sliceD s t n) [x] i = if i < n then x (s + t * i) else 0 :=
  applyDesc_ite (rfl : sliceD s t n i = _) [x]
theorem padD_apply (lo n : ℕ) : applyDesc (padD lo n) [x] i = if lo ≤ i ∧ i < lo + n then x (i - lo) else 0 :=
  applyDesc_ite (rfl : padD lo n i = _) [x]
theorem concatD_apply (n₁ n₂ : ℕ) :
    applyDesc (concatD n₁ n₂) [x, y] i = if i < n₁ then x i else if i < n₁ + n₂ then y (i - n₁) else 0 := by
  split
  · next h => exact (applyDesc_single (if_pos h) _).trans (one_mul _)
  · next h =>
    split
    · next h2 => exact (applyDesc_single ((if_neg h).trans (if_pos h2)) _).trans (one_mul _)
    · next h2 => exact applyDesc_nil ((if_neg h).trans (if_neg h2)) _
theorem revD_apply (n : ℕ) : applyDesc (revD n) [x] i = if i < n then x (n - 1 - i) else 0 :=
  applyDesc_ite (rfl : revD n i = _) [x]
theorem bcastD_apply (n : ℕ) : applyDesc (bcastD n) [x] i = if i < n then x 0 else 0 :=
  applyDesc_ite (rfl : bcastD n i = _) [x]
theorem transposeD_apply (r c : ℕ) :
    applyDesc (transposeD r c) [x] i = if i < r * c then x ((i % r) * c + i / r) else 0 :=
  applyDesc_ite (rfl : transposeD r c i = _) [x]
theorem selectD_apply (pred : ℕ → Bool) : applyDesc (selectD pred) [x, y] i = if pred i then x i else y i := by
  split
  · next h => exact (applyDesc_single (if_pos h) _).trans (one_mul _)
  · next h => exact (applyDesc_single (if_neg h) _).trans (one_mul _)
theorem gatherD_apply (idx : List ℕ) :
    applyDesc (gatherD idx) [x] i = match idx[i]? with | some j => x j | none => 0 := by
  cases h : idx[i]? with
  | none => exact applyDesc_nil (show gatherD idx i = [] by simp only [gatherD, h]) _
  | some j => exact (applyDesc_single (show gatherD idx i = [(0, j, 1)] by simp only [gatherD, h]) _).trans (one_mul _)
theorem sumD_apply (n : ℕ) : applyDesc (sumD n) [x] 0 = ((List.range n).map x).sum := by
  simp [applyDesc_apply, sumD, opnd, List.map_map, Function.comp_def]
theorem cumsumD_apply (n : ℕ) (h : i < n) : applyDesc (cumsumD n) [x] i = ((List.range (i + 1)).map x).sum := by
  simp [applyDesc_apply, cumsumD, opnd, h, List.map_map, Function.comp_def]
theorem matD_apply (m n : ℕ) (M : ℕ → ℕ → ℂ) (h : i < m) :
    applyDesc (matD m n M) [x] i = ((List.range n).map fun j => M i j * x j).sum := by
  simp [applyDesc_apply, matD, opnd, h, List.map_map, Function.comp_def]

end computes

theorem divV_add (u u' d : Vc) : (u + u') / d = u / d + u' / d := funext fun _ => add_div _ _ _

theorem reV_add (u u' : Vc) :
    (fun i => (((u + u') i).re : ℂ)) = (fun i => ((u i).re : ℂ)) + fun i => ((u' i).re : ℂ) :=
  funext fun i => by rw [Pi.add_apply, Pi.add_apply, Complex.add_re, Complex.ofReal_add]

theorem reV_smul (r : ℝ) (u : Vc) : (fun i => (((r • u) i).re : ℂ)) = r • fun i => ((u i).re : ℂ) :=
  funext fun i => by
    rw [Pi.smul_apply, Pi.smul_apply, Complex.smul_re, Complex.real_smul, smul_eq_mul, Complex.ofReal_mul]

theorem imV_add (u u' : Vc) :
    (fun i => (((u + u') i).im : ℂ)) = (fun i => ((u i).im : ℂ)) + fun i => ((u' i).im : ℂ) :=
  funext fun i => by rw [Pi.add_apply, Pi.add_apply, Complex.add_im, Complex.ofReal_add]

theorem imV_smul (r : ℝ) (u : Vc) : (fun i => (((r • u) i).im : ℂ)) = r • fun i => ((u i).im : ℂ) :=
  funext fun i => by
    rw [Pi.smul_apply, Pi.smul_apply, Complex.smul_im, Complex.real_smul, smul_eq_mul, Complex.ofReal_mul]

theorem conjV_add (u u' : Vc) :
    (fun i => (starRingEnd ℂ) ((u + u') i)) = (fun i => (starRingEnd ℂ) (u i)) + fun i => (starRingEnd ℂ) (u' i) :=
  funext fun _ => map_add _ _ _

theorem conjV_smul (c : ℂ) (u : Vc) :
    (fun i => (starRingEnd ℂ) ((c • u) i)) = star c • fun i => (starRingEnd ℂ) (u i) :=
  funext fun _ => map_mul _ _ _

/-- full (linear) convolution of two arrays -/
def convFull (u v : Vc) : Vc := fun i => ((List.range (i + 1)).map fun j => u j * v (i - j)).sum

/-- `T p ps` : descriptor of the jointly linear primitive `p` for parameter-operand values `ps`;
    `C n` : value of the non-zero literal `n`.
    bilinear 0 = pointwise product, bilinear (p+1) = full convolution; realPart 0 = real part, realPart (p+1) =
    imaginary part; nonlin = pointwise square (any function would do: nothing is assumed of `nonlin`). -/
noncomputable def arrDen (T : ℕ → List Vc → LinDesc) (C : ℕ → Vc) : PClass → Nat → List Vc → List Vc → Vc
  | .lit true, _, _, _ => 0
  | .lit false, n, _, _ => C n
  | .linAll, p, ps, xs => applyDesc (T p ps) xs
  | .bilinear, 0, _, [u, v] => u * v
  | .bilinear, _ + 1, _, [u, v] => convFull u v
  | .bilinear, _, _, _ => 0
  | .divLike, _, _, [u, v] => u / v
  | .divLike, _, _, _ => 0
  | .realPart, 0, _, [u] => fun i => ((u i).re : ℂ)
  | .realPart, _ + 1, _, [u] => fun i => ((u i).im : ℂ)
  | .realPart, _, _, _ => 0
  | .conj, _, _, [u] => fun i => (starRingEnd ℂ) (u i)
  | .conj, _, _, _ => 0
  | .nonlin, _, _, xs => (xs.headD 0) * (xs.headD 0)

noncomputable def arrInterp (T : ℕ → List Vc → LinDesc) (C : ℕ → Vc) : Interp Vc := ⟨arrDen T C⟩

theorem applyBil_add_left (B : ℕ → List (ℕ × ℕ × ℂ)) (u u' v : Vc) :
    applyBilG B (u + u') v = applyBilG B u v + applyBilG B u' v := by
  funext i
  simp only [applyBilG, Pi.add_apply, add_mul, mul_add]
  exact List.sum_map_add

theorem applyBil_add_right (B : ℕ → List (ℕ × ℕ × ℂ)) (u v v' : Vc) :
    applyBilG B u (v + v') = applyBilG B u v + applyBilG B u v' := by
  funext i
  simp only [applyBilG, Pi.add_apply, mul_add]
  exact List.sum_map_add

theorem applyBil_smul_left (B : ℕ → List (ℕ × ℕ × ℂ)) (c : ℂ) (u v : Vc) :
    applyBilG B (c • u) v = c • applyBilG B u v := by
  funext i
  simp only [applyBilG, Pi.smul_apply, smul_eq_mul]
  exact sum_map_eq_mul _ c fun t => by ring

theorem applyBil_smul_right (B : ℕ → List (ℕ × ℕ × ℂ)) (c : ℂ) (u v : Vc) :
    applyBilG B u (c • v) = c • applyBilG B u v := by
  funext i
  simp only [applyBilG, Pi.smul_apply, smul_eq_mul]
  exact sum_map_eq_mul _ c fun t => by ring

/-- the full convolution is the sparse bilinear form with the terms `(j, i - j, 1)`, `j ≤ i`, in row `i` -/
theorem convFull_eq (u v : Vc) :
    convFull u v = applyBilG (fun i => (List.range (i + 1)).map fun j => (j, i - j, 1)) u v := by
  funext i
  simp only [convFull, applyBilG, List.map_map, Function.comp_def, one_mul]

theorem convFull_add_left (u u' v : Vc) : convFull (u + u') v = convFull u v + convFull u' v := by
  simp only [convFull_eq]; exact applyBil_add_left _ u u' v

theorem convFull_add_right (u v v' : Vc) : convFull u (v + v') = convFull u v + convFull u v' := by
  simp only [convFull_eq]; exact applyBil_add_right _ u v v'

theorem convFull_smul_left (c : ℂ) (u v : Vc) : convFull (c • u) v = c • convFull u v := by
  simp only [convFull_eq]; exact applyBil_smul_left _ c u v

theorem convFull_smul_right (c : ℂ) (u v : Vc) : convFull u (c • v) = c • convFull u v := by
  simp only [convFull_eq]; exact applyBil_smul_right _ c u v

theorem arrInterp_sound (T : ℕ → List Vc → LinDesc) (C : ℕ → Vc) : (arrInterp T C).Sound ℝ ℂ where
  star_real := Complex.conj_ofReal
  lit_zero := fun _ _ => rfl
  lin_add := fun p ps xs ys h => applyDesc_add (T p ps) xs ys h
  lin_smul := fun p ps c xs => applyDesc_smul (T p ps) c xs
  bil_add_left := fun p _ u u' v =>
    match p with
    | 0 => add_mul u u' v
    | _ + 1 => convFull_add_left u u' v
  bil_smul_left := fun p _ c u v =>
    match p with
    | 0 => smul_mul_assoc c u v
    | _ + 1 => convFull_smul_left c u v
  bil_add_right := fun p _ u v v' =>
    match p with
    | 0 => mul_add u v v'
    | _ + 1 => convFull_add_right u v v'
  bil_smul_right := fun p _ c u v =>
    match p with
    | 0 => mul_smul_comm c u v
    | _ + 1 => convFull_smul_right c u v
  div_add := fun _ _ u u' d => divV_add u u' d
  div_smul := fun _ _ c u d => smul_div_assoc c u d
  re_add := fun p _ u u' =>
    match p with
    | 0 => reV_add u u'
    | _ + 1 => imV_add u u'
  re_smul := fun p _ r u =>
    match p with
    | 0 => reV_smul r u
    | _ + 1 => imV_smul r u
  conj_add := fun _ _ u u' => conjV_add u u'
  conj_smul := fun _ _ c u => conjV_smul c u

/-- descriptor table used by the examples (sizes are parameters of the table) -/
noncomputable def demoTable (n : ℕ) (h : ℕ → ℕ → ℂ) : ℕ → List Vc → LinDesc
  | 0, _ => addD
  | 1, _ => subD
  | 2, _ => negD
  | 3, _ => sliceD 1 1 (n - 1)      -- x[1:]
  | 4, _ => sliceD 0 1 (n - 1)      -- x[:-1]
  | 5, _ => padD 0 (n - 1)          -- append zeros (a no-op on zero-extended buffers: pad (0, 1))
  | 6, _ => concatD 1 (n - 1)
  | 7, _ => sumD n
  | 8, _ => revD n
  | 9, _ => bcastD n
  | 10, _ => matD n n h             -- a constant n × n matrix
  | 11, ps => selectD fun i => decide (opnd ps 0 i ≠ 0)   -- where(mask ≠ 0, a, b), mask = parameter operand
  | 12, _ => cumsumD n
  | _, _ => fun _ => []

/-- forward difference `y[i] = x[i+1] - x[i]`, `i < n-1`: slice, slice, sub (the traced shape of `snp.diff`) -/
abbrev diffProg : Prog :=
  { nin := 1, eqns := [⟨.linAll, 3, [], [0]⟩, ⟨.linAll, 4, [], [0]⟩, ⟨.linAll, 1, [], [1, 2]⟩], outs := [3] }

/-- `y = Re (M x)` masked by a constant pattern: matrix, real part, select against a zero literal -/
abbrev reMatProg : Prog :=
  { nin := 1
    eqns := [⟨.linAll, 10, [], [0]⟩, ⟨.realPart, 0, [], [1]⟩, ⟨.lit false, 7, [], []⟩, ⟨.lit true, 0, [], []⟩,
             ⟨.linAll, 11, [3], [2, 4]⟩]
    outs := [5] }

/-- `y = x - mean-like broadcast of the sum`: reduce_sum, broadcast, sub -/
abbrev centreProg : Prog :=
  { nin := 1, eqns := [⟨.linAll, 7, [], [0]⟩, ⟨.linAll, 9, [], [1]⟩, ⟨.linAll, 1, [], [0, 2]⟩], outs := [3] }

/-- `y = x + 1` over the same family: an affine map -/
abbrev affArrProg : Prog :=
  { nin := 1, eqns := [⟨.lit false, 0, [], []⟩, ⟨.linAll, 0, [], [0, 1]⟩], outs := [2] }

theorem diffProg_run (n : ℕ) (h : ℕ → ℕ → ℂ) (C : ℕ → Vc) (x : Fin diffProg.nin → Vc) (j) (i : ℕ) :
    run (arrInterp (demoTable n h) C) diffProg x j i =
      if i < n - 1 then x ⟨0, by decide⟩ (i + 1) - x ⟨0, by decide⟩ i else 0 := by
  rw [fin_eq_zero_of_eq_one (by decide) j]
  show applyDesc subD [applyDesc (sliceD 1 1 (n - 1)) [x ⟨0, by decide⟩],
    applyDesc (sliceD 0 1 (n - 1)) [x ⟨0, by decide⟩]] i = _
  rw [subD_apply, sliceD_apply, sliceD_apply]
  split
  · rw [one_mul, zero_add, add_comm]
  · exact sub_zero 0

theorem centreProg_run (n : ℕ) (h : ℕ → ℕ → ℂ) (C : ℕ → Vc) (x : Fin centreProg.nin → Vc) (j) (i : ℕ) (hi : i < n) :
    run (arrInterp (demoTable n h) C) centreProg x j i =
      x ⟨0, by decide⟩ i - ((List.range n).map (x ⟨0, by decide⟩)).sum := by
  rw [fin_eq_zero_of_eq_one (by decide) j]
  show applyDesc subD [x ⟨0, by decide⟩, applyDesc (bcastD n) [applyDesc (sumD n) [x ⟨0, by decide⟩]]] i = _
  rw [subD_apply, bcastD_apply, if_pos hi, sumD_apply]

theorem affArrProg_zero (n : ℕ) (h : ℕ → ℕ → ℂ) :
    run (arrInterp (demoTable n h) (fun _ _ => 1)) affArrProg 0 ≠ 0 := by
  intro hz
  have := congrFun (congrFun hz ⟨0, by decide⟩) 0
  change applyDesc addD [0, fun _ => 1] 0 = 0 at this
  rw [addD_apply] at this
  exact one_ne_zero ((zero_add _).symm.trans this)

end Scico.Jaxpr.Arr

namespace Scico.Jaxpr.Fam

open Arr

noncomputable def reC (z : ℂ) : ℂ := ((z.re : ℝ) : ℂ)

noncomputable def famInterp (nl : ℕ → List Vc → Vc) (F : FamTables ℂ) : Interp Vc :=
  ⟨famDen reC (starRingEnd ℂ) nl F⟩

theorem applyDiv_add (D : ℕ → ℕ × ℕ) (u u' d : Vc) :
    applyDivG D (u + u') d = applyDivG D u d + applyDivG D u' d := by
  funext i; simp [applyDivG, add_div]

theorem applyDiv_smul (D : ℕ → ℕ × ℕ) (c : ℂ) (u d : Vc) :
    applyDivG D (c • u) d = c • applyDivG D u d := by
  funext i; simp [applyDivG, mul_div_assoc]

theorem reC_add (z w : ℂ) : reC (z + w) = reC z + reC w := by simp [reC]

theorem reC_real_mul (r : ℝ) (z : ℂ) : reC ((r : ℂ) * z) = (r : ℂ) * reC z := by simp [reC]

theorem applyRe_add (Rd : ℕ → List (ℕ × ℂ)) (u u' : Vc) :
    applyReG reC Rd (u + u') = applyReG reC Rd u + applyReG reC Rd u' := by
  funext i
  simp only [applyReG, Pi.add_apply, mul_add, reC_add]
  exact List.sum_map_add

theorem applyRe_smul (Rd : ℕ → List (ℕ × ℂ)) (r : ℝ) (u : Vc) :
    applyReG reC Rd (r • u) = r • applyReG reC Rd u := by
  funext i
  simp only [applyReG, Pi.smul_apply, Complex.real_smul]
  exact sum_map_eq_mul _ (r : ℂ) fun t => by rw [← reC_real_mul, mul_left_comm]

theorem famInterp_sound (nl : ℕ → List Vc → Vc) (F : FamTables ℂ) : (famInterp nl F).Sound ℝ ℂ where
  star_real := Complex.conj_ofReal
  lit_zero := fun _ _ => rfl
  lin_add := fun p ps xs ys h => applyDesc_add (F.lin p ps) xs ys h
  lin_smul := fun p ps c xs => applyDesc_smul (F.lin p ps) c xs
  bil_add_left := fun p _ u u' v => applyBil_add_left (F.bil p) u u' v
  bil_smul_left := fun p _ c u v => applyBil_smul_left (F.bil p) c u v
  bil_add_right := fun p _ u v v' => applyBil_add_right (F.bil p) u v v'
  bil_smul_right := fun p _ c u v => applyBil_smul_right (F.bil p) c u v
  div_add := fun p _ u u' d => applyDiv_add (F.dv p) u u' d
  div_smul := fun p _ c u d => applyDiv_smul (F.dv p) c u d
  re_add := fun p _ u u' => applyRe_add (F.rp p) u u'
  re_smul := fun p _ r u => applyRe_smul (F.rp p) r u
  conj_add := fun _ _ u u' => conjV_add u u'
  conj_smul := fun _ _ c u => conjV_smul c u

/-- tables of the example: equation 1 = pointwise product, 3 = pointwise quotient, 5 = real part, literals 3 and 2 -/
noncomputable def exTables : FamTables ℂ where
  lin _ _ _ := []
  bil _ i := [(i, i, 1)]
  dv _ i := (i, i)
  rp _ i := [(i, 1)]
  lit p _ := if p = 0 then 3 else 2

/-- `y = conj ((3 · x) / 2)` and `z = Re ((3 · x) / 2)` with one id per equation (relabelled form) -/
abbrev exProg : Prog :=
  { nin := 1
    eqns := [⟨.lit false, 0, [], []⟩, ⟨.bilinear, 1, [], [1, 0]⟩, ⟨.lit false, 2, [], []⟩, ⟨.divLike, 3, [], [2, 3]⟩,
             ⟨.conj, 4, [], [4]⟩, ⟨.realPart, 5, [], [4]⟩]
    outs := [5] }

abbrev exProgRe : Prog := { exProg with outs := [6] }

theorem exProg_run (nl) (x : Fin exProg.nin → Vc) (j) (i : ℕ) :
    run (famInterp nl exTables) exProg x j i = (starRingEnd ℂ) (3 * x ⟨0, by decide⟩ i / 2) := by
  rw [fin_eq_zero_of_eq_one (by decide) j]
  -- the run unfolds equation by equation: v₁ = 3, v₂ = the one-term row `[(i, i, 1)]` of `bil` applied to (v₁, x), i.e.
  -- `1 * (3 * x i) + 0`, v₃ = 2, v₄ = v₂ i / v₃ i, v₅ = conj v₄ (the output); `show` states the result of that evaluation
  show (starRingEnd ℂ) ((1 * (3 * x ⟨0, by decide⟩ i) + 0) / 2) = _
  rw [add_zero, one_mul]

end Scico.Jaxpr.Fam
