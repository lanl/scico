/-
  Adjoint engine: operators in matrix form.  `MatrixOperator`, uniqueness of the adjoint and lifting from single entries;
  the views `.H`, `.T`, `.conj()` and `±`, scalar `*`, `/`, `@`, `gram_op` as matrices (`IsMat.*`); `.T` of a complex
  operator with `adj_fn = self.__call__` (/repo before 17a96e9) as a proved negation; the tools for the class-specific overrides of `Diagonal` and `MatrixOperator` (`diag_isAdj`, `OpEq.of_diag`,
  `OpEq.of_isMat`; the overrides themselves are `C01_diagonal_overrides`, `C01_matrix_overrides`, proved in `Props/C01.lean`);
  `scico.linear_adjoint`, GIVEN the contract of `jax.linear_transpose` (hypothesis `JaxTranspose`, exercised on the real code
  by the correspondence run: every `Generic` configuration of the grid has its adjoint derived through this function).
-/
import Scico.Proofs.AdjointDerived

namespace Scico.Adjoint
open Finset

variable {K : Type} [Field K] [StarRing K]

theorem vconj_basis (j : Nat) : vconj (basis j : V K) = basis j := by
  funext i
  by_cases h : i = j <;> simp [vconj, basis, h, conj_eq_star]

theorem vconj_vconj (x : V K) : vconj (vconj x) = x := by
  funext i; simp [vconj, conj_eq_star]

omit [StarRing K] in
theorem sum_mul_basis (n j : Nat) (hj : j < n) (f : Nat → K) :
    ∑ t ∈ range n, f t * (basis j : V K) t = f j := by
  simp only [basis, mul_ite, mul_one, mul_zero]
  rw [Finset.sum_ite_eq' (range n) j f]
  simp [hj]

theorem ip_basis_left (n j : Nat) (hj : j < n) (w : V K) : ip n (basis j) w = star (w j) := by
  simp only [ip_eq, basis, ite_mul, one_mul, zero_mul]
  rw [Finset.sum_ite_eq' (range n) j (fun i => star (w i))]
  simp [hj]

theorem ip_basis_right (n i : Nat) (hi : i < n) (u : V K) : ip n u (basis i) = u i := by
  rw [ip_swap, ip_basis_left _ _ hi, star_star]

/-- the adjoint identity on a pair of basis vectors: entry `(i, j)` of `A` is the conjugate of entry `(j, i)` of `Aᴴ` -/
theorem IsAdj.entry {A : Op K} (h : IsAdj A) {j i : Nat} (hj : j < A.nin) (hi : i < A.nout) :
    A.eval (basis j) i = star (A.adj (basis i) j) := by
  have := h (basis j) (basis i)
  rwa [ip_basis_right _ _ hi, ip_basis_left _ _ hj] at this

theorem mat_isAdj (m n : Nat) (M : Nat → Nat → K) : IsAdj (Op.mat m n M) := by
  intro x y
  simp only [Op.mat, ip_eq, sumTo_eq, conj_eq_star, star_sum, star_mul', star_star, Finset.sum_mul, Finset.mul_sum]
  rw [Finset.sum_comm]
  apply Finset.sum_congr rfl
  intro j _
  apply Finset.sum_congr rfl
  intro i _
  ring

/-- same declared sizes and, on the declared ranges, the same two closures -/
structure OpEq (A B : Op K) : Prop where
  nin : A.nin = B.nin
  nout : A.nout = B.nout
  eval : ∀ x, ∀ i < A.nout, A.eval x i = B.eval x i
  adj : ∀ y, ∀ j < A.nin, A.adj y j = B.adj y j

theorem OpEq.isAdj {A B : Op K} (h : OpEq A B) (hA : IsAdj A) : IsAdj B := by
  intro x y
  have e1 : ip B.nout (B.eval x) y = ip A.nout (A.eval x) y := by
    rw [h.nout]
    exact ip_congr _ (fun i hi => (h.eval x i (by rw [h.nout]; exact hi)).symm) (fun _ _ => rfl)
  have e2 : ip B.nin x (B.adj y) = ip A.nin x (A.adj y) := by
    rw [h.nin]
    exact ip_congr _ (fun _ _ => rfl) (fun j hj => (h.adj y j (by rw [h.nin]; exact hj)).symm)
  rw [e1, e2, hA x y]

/-- `eval` multiplies by `M` (on the declared ranges) -/
def IsMat (A : Op K) (M : Nat → Nat → K) : Prop :=
  ∀ x, ∀ i < A.nout, A.eval x i = ∑ j ∈ range A.nin, M i j * x j

theorem mat_isMat (m n : Nat) (M : Nat → Nat → K) : IsMat (Op.mat m n M) M := by
  intro x i _
  simp [Op.mat, sumTo_eq]

theorem adj_unique {A : Op K} {M : Nat → Nat → K} (hA : IsAdj A) (hM : IsMat A M) :
    ∀ y, ∀ j < A.nin, A.adj y j = ∑ i ∈ range A.nout, star (M i j) * y i := by
  intro y j hj
  have h := hA (basis j) y
  rw [ip_basis_left _ _ hj] at h
  have h2 : ip A.nout (A.eval (basis j)) y = ∑ i ∈ range A.nout, M i j * star (y i) := by
    rw [ip_eq]
    apply Finset.sum_congr rfl
    intro i hi
    rw [hM (basis j) i (Finset.mem_range.mp hi), sum_mul_basis _ _ hj]
  rw [h2] at h
  have := congrArg star h
  rw [star_star] at this
  rw [← this, star_sum]
  apply Finset.sum_congr rfl
  intro i _
  simp [star_mul']

/-- conversely, `x ↦ M x` together with `y ↦ Mᴴ y` (on the declared ranges) is an adjoint pair — the form in which the
    automatically derived adjoints (`linear_adjoint`, `linop.jacobian`) are known -/
theorem isAdj_of_isMat {A : Op K} {M : Nat → Nat → K} (hM : IsMat A M)
    (hadj : ∀ y, ∀ j < A.nin, A.adj y j = ∑ i ∈ range A.nout, star (M i j) * y i) : IsAdj A :=
  OpEq.isAdj (A := Op.mat A.nout A.nin M)
    ⟨rfl, rfl, fun x i hi => (sumTo_eq _ _).trans (hM x i hi).symm, fun y j hj => (sumTo_eq _ _).trans (hadj y j hj).symm⟩
    (mat_isAdj _ _ M)

/-- a linear closure on size-erased vectors; `ext`: it reads only the first `n` entries (size erasure does not give this) -/
structure IsLinear (n : Nat) (f : V K → V K) : Prop where
  add : ∀ x y, f (vadd x y) = vadd (f x) (f y)
  smul : ∀ (c : K) x, f (vsmul c x) = vsmul c (f x)
  ext : ∀ x x', (∀ j < n, x j = x' j) → f x = f x'

def trunc (k : Nat) (x : V K) : V K := fun j => if j < k then x j else 0

omit [StarRing K] in
theorem map_vzero_of_smul {f : V K → V K} (h : f (vsmul 0 vzero) = vsmul 0 (f vzero)) : f vzero = vzero := by
  have e (v : V K) : vsmul (0 : K) v = vzero := by funext i; exact zero_mul _
  rwa [e, e] at h

omit [StarRing K] in
theorem IsLinear.zero {n : Nat} {f : V K → V K} (h : IsLinear n f) : f vzero = vzero :=
  map_vzero_of_smul (h.smul 0 vzero)

omit [StarRing K] in
/-- an additive map applied to a truncated vector is the sum of its values on the single entries; the (real- or
    complex-) linear expansions along a basis follow by pulling the scalars out -/
theorem trunc_expand_of_additive {f : V K → V K} (hadd : ∀ x y, f (vadd x y) = vadd (f x) (f y))
    (hzero : f vzero = vzero) (x : V K) (i : Nat) :
    ∀ k, f (trunc k x) i = ∑ j ∈ range k, f (vsmul (x j) (basis j)) i := by
  intro k
  induction k with
  | zero =>
    have : trunc 0 x = vzero := by funext j; simp [trunc, vzero]
    rw [this, hzero]
    simp [vzero]
  | succ k ih =>
    have e : trunc (k + 1) x = vadd (trunc k x) (vsmul (x k) (basis k)) := by
      funext j
      simp only [trunc, vadd, vsmul, basis]
      by_cases h1 : j < k
      · have : j ≠ k := Nat.ne_of_lt h1
        simp [h1, this, Nat.lt_succ_of_lt h1]
      · by_cases h2 : j = k
        · subst h2; simp
        · have : ¬ j < k + 1 := by omega
          simp [h1, h2, this]
    rw [e, hadd, Finset.sum_range_succ, ← ih]
    rfl

omit [StarRing K] in
theorem expand_of_additive {n : Nat} {f : V K → V K} (hadd : ∀ x y, f (vadd x y) = vadd (f x) (f y))
    (hzero : f vzero = vzero) (hext : ∀ x x', (∀ j < n, x j = x' j) → f x = f x') (x : V K) (i : Nat) :
    f x i = ∑ j ∈ range n, f (vsmul (x j) (basis j)) i := by
  rw [← trunc_expand_of_additive hadd hzero x i n, hext x (trunc n x) fun j hj => (if_pos hj).symm]

theorem mat_isLinear (m n : Nat) (M : Nat → Nat → K) : IsLinear n (Op.mat m n M).eval := by
  refine ⟨fun x y => ?_, fun c x => ?_, fun x x' h => ?_⟩ <;> funext i <;> simp only [Op.mat, sumTo_eq]
  · simp only [vadd, mul_add, Finset.sum_add_distrib]
  · simp only [vsmul, Finset.mul_sum]
    exact Finset.sum_congr rfl fun j _ => mul_left_comm _ _ _
  · exact Finset.sum_congr rfl fun j hj => by rw [h j (Finset.mem_range.mp hj)]

/-- lifting from single entries: for additive closures that read only the declared coordinates, the adjoint identity
    (relative to `ρ`) on all pairs `c·e_j`, `d·e_i` gives it for all vectors; the scalars come out by complex or by real
    linearity -/
theorem single_lift {ρ : K → K} (hρ : Test ρ) {A : Op K}
    (hEa : ∀ x y, A.eval (vadd x y) = vadd (A.eval x) (A.eval y)) (hEz : A.eval vzero = vzero)
    (hEx : ∀ x x', (∀ j < A.nin, x j = x' j) → A.eval x = A.eval x')
    (hBa : ∀ x y, A.adj (vadd x y) = vadd (A.adj x) (A.adj y)) (hBz : A.adj vzero = vzero)
    (hBx : ∀ x x', (∀ j < A.nout, x j = x' j) → A.adj x = A.adj x')
    (h : ∀ j < A.nin, ∀ i < A.nout, ∀ c d : K,
      ρ (A.eval (vsmul c (basis j)) i * star d) = ρ (c * star (A.adj (vsmul d (basis i)) j))) : IsAdjW ρ A := by
  intro x y
  simp only [ip_eq]
  have l : ∀ i ∈ range A.nout, A.eval x i * star (y i)
      = ∑ j ∈ range A.nin, A.eval (vsmul (x j) (basis j)) i * star (y i) := fun i _ => by
    rw [expand_of_additive hEa hEz hEx x i, Finset.sum_mul]
  have r : ∀ j ∈ range A.nin, x j * star (A.adj y j)
      = ∑ i ∈ range A.nout, x j * star (A.adj (vsmul (y i) (basis i)) j) := fun j _ => by
    rw [expand_of_additive hBa hBz hBx y j, star_sum, Finset.mul_sum]
  rw [Finset.sum_congr rfl l, Finset.sum_congr rfl r, Finset.sum_comm, hρ.sum, hρ.sum]
  refine Finset.sum_congr rfl fun j hj => ?_
  rw [hρ.sum, hρ.sum]
  exact Finset.sum_congr rfl fun i hi => h j (mem_range.mp hj) i (mem_range.mp hi) (x j) (y i)

theorem IsMat.herm {A : Op K} {M : Nat → Nat → K} (hA : IsAdj A) (hM : IsMat A M) :
    IsMat (Op.herm A) (fun j i => star (M i j)) := adj_unique hA hM

theorem IsMat.cj {A : Op K} {M : Nat → Nat → K} (hM : IsMat A M) :
    IsMat (Op.cj A) (fun i j => star (M i j)) := by
  intro x i hi
  show star (A.eval (vconj x) i) = ∑ j ∈ range A.nin, star (M i j) * x j
  rw [hM _ i hi, star_sum]
  exact Finset.sum_congr rfl fun j _ => by rw [star_mul', vconj, conj_eq_star, star_star]

/-- `.T` applies the plain, unconjugated transpose: always in the complex branch, for a real matrix in the real one -/
theorem IsMat.tr {A : Op K} {M : Nat → Nat → K} (hA : IsAdj A) (hM : IsMat A M) (c : Bool)
    (h : c = false → ∀ i j, star (M i j) = M i j) : IsMat (Op.tr c A) (fun j i => M i j) := by
  intro y j hj
  cases c with
  | true =>
    show star (A.adj (vconj y) j) = ∑ i ∈ range A.nout, M i j * y i
    rw [adj_unique hA hM _ j hj, star_sum]
    exact Finset.sum_congr rfl fun i _ => by rw [star_mul', star_star, vconj, conj_eq_star, star_star]
  | false =>
    show A.adj y j = ∑ i ∈ range A.nout, M i j * y i
    rw [adj_unique hA hM y j hj]
    simp only [h rfl]

omit [StarRing K] in
theorem IsMat.add {A B : Op K} {MA MB : Nat → Nat → K} (hA : IsMat A MA) (hB : IsMat B MB)
    (hi : A.nin = B.nin) (ho : A.nout = B.nout) : IsMat (Op.add A B) (fun i j => MA i j + MB i j) := by
  intro x i hlt
  show A.eval x i + B.eval x i = ∑ j ∈ range A.nin, (MA i j + MB i j) * x j
  rw [hA x i hlt, hB x i (ho ▸ hlt), ← hi, ← Finset.sum_add_distrib]
  exact Finset.sum_congr rfl fun j _ => (add_mul _ _ _).symm

omit [StarRing K] in
theorem IsMat.sub {A B : Op K} {MA MB : Nat → Nat → K} (hA : IsMat A MA) (hB : IsMat B MB)
    (hi : A.nin = B.nin) (ho : A.nout = B.nout) : IsMat (Op.sub A B) (fun i j => MA i j - MB i j) := by
  intro x i hlt
  show A.eval x i - B.eval x i = ∑ j ∈ range A.nin, (MA i j - MB i j) * x j
  rw [hA x i hlt, hB x i (ho ▸ hlt), ← hi, ← Finset.sum_sub_distrib]
  exact Finset.sum_congr rfl fun j _ => (sub_mul _ _ _).symm

theorem IsMat.smul {A : Op K} {M : Nat → Nat → K} (hM : IsMat A M) (c : K) :
    IsMat (Op.smul c A) (fun i j => c * M i j) := by
  intro x i hlt
  show c * A.eval x i = ∑ j ∈ range A.nin, c * M i j * x j
  rw [hM x i hlt, Finset.mul_sum]
  exact Finset.sum_congr rfl fun j _ => (mul_assoc _ _ _).symm

theorem IsMat.sdiv {A : Op K} {M : Nat → Nat → K} (hM : IsMat A M) (c : K) :
    IsMat (Op.sdiv c A) (fun i j => M i j / c) := by
  rw [sdiv_eq_smul]
  intro x i hlt
  rw [hM.smul c⁻¹ x i hlt]
  exact Finset.sum_congr rfl fun j _ => by
    show c⁻¹ * M i j * x j = M i j / c * x j
    rw [div_eq_inv_mul]

omit [StarRing K] in
theorem IsMat.comp {A B : Op K} {MA MB : Nat → Nat → K} (hA : IsMat A MA) (hB : IsMat B MB)
    (h : A.nin = B.nout) : IsMat (Op.comp A B) (matMul B.nout MA MB) := by
  intro x i hlt
  show A.eval (B.eval x) i = ∑ j ∈ range B.nin, matMul B.nout MA MB i j * x j
  rw [hA _ i hlt, h]
  simp only [matMul, sumTo_eq, Finset.sum_mul]
  rw [Finset.sum_comm]
  refine Finset.sum_congr rfl fun t ht => ?_
  rw [hB x t (Finset.mem_range.mp ht), Finset.mul_sum]
  exact Finset.sum_congr rfl fun j _ => (mul_assoc _ _ _).symm

theorem IsMat.gram {A : Op K} {M : Nat → Nat → K} (hA : IsAdj A) (hM : IsMat A M) :
    IsMat (Op.gram A) (matMul A.nout (fun j i => star (M i j)) M) :=
  (IsMat.herm hA hM).comp hM rfl

/-- the pinned `.T` is an adjoint pair for an operator that commutes with conjugation (real matrix) -/
theorem trPinned_isAdj_of_real {A : Op K} (hA : IsAdj A)
    (hreal : ∀ x, A.eval (vconj x) = vconj (A.eval x)) : IsAdj (Op.trPinned A) :=
  OpEq.isAdj (A := Op.tr true A)
    ⟨rfl, rfl, fun _ _ _ => rfl, fun y j _ => by
      show vconj (A.eval (vconj y)) j = A.eval y j
      rw [hreal, vconj_vconj]⟩
    (tr_isAdjW test_id hA true)

/-- witness: the 1×1 operator "multiply by `c`" with `star c ≠ c` -/
theorem trPinned_not_adjoint (c : K) (hc : star c ≠ c) :
    ¬ IsAdj (Op.trPinned (Op.mat 1 1 (fun _ _ => c))) := by
  intro h
  have := h.entry (j := 0) (i := 0) Nat.one_pos Nat.one_pos
  simp [Op.trPinned, Op.mat, sumTo, vconj, basis, conj_eq_star] at this
  exact hc this.symm

/-! ### class-specific overrides (`_diag.py`, `_matrix.py`)

The class-specific overrides of `.T .H .conj() gram_op + - * / @` in `Diagonal` / `ScaledIdentity` /
`Identity` (`_diag.py`) and `MatrixOperator` (`_matrix.py`) build operators with the same `eval` and `adj` as the generic
constructions of `_linop.py` applied to the same operands — so everything proved for the generic constructions
(adjoint identity, matrix of the views) holds for the shortcuts.  The reason is uniqueness of the adjoint: an adjoint
pair is determined by its `eval` (`OpEq.of_isMat`, `OpEq.of_diag`), and `eval` of a generic construction on matrix /
diagonal operands is again a matrix / diagonal map. -/

theorem diag_isAdj (n : Nat) (d : V K) : IsAdj (Op.diag n d) := by
  intro x y
  simp only [Op.diag, ip_eq, conj_eq_star, star_mul', star_star]
  apply Finset.sum_congr rfl
  intro i _
  ring

/-- an adjoint pair on a square space whose `eval` multiplies entrywise by `d` has the closures of `Diagonal(d)`;
    this gives every override of `_diag.py` from the entrywise form of the generic construction -/
theorem OpEq.of_diag {A : Op K} {d : V K} (hA : IsAdj A) (hn : A.nout = A.nin)
    (hd : ∀ x, ∀ i < A.nin, A.eval x i = d i * x i) : OpEq A (Op.diag A.nin d) := by
  have hM : IsMat A (fun i j => if j = i then d i else 0) := fun x i hi => by
    rw [hd x i (hn ▸ hi)]
    simp only [ite_mul, zero_mul, Finset.sum_ite_eq', Finset.mem_range, if_pos (hn ▸ hi)]
  refine ⟨rfl, hn, fun x i hi => hd x i (hn ▸ hi), fun y j hj => ?_⟩
  rw [adj_unique hA hM y j hj]
  simp only [apply_ite star, star_zero, ite_mul, zero_mul, Finset.sum_ite_eq, Finset.mem_range, if_pos (hn.symm ▸ hj)]
  rfl

/-- an adjoint pair whose `eval` multiplies by `M` has the closures of `MatrixOperator(M)`; with the matrices of the
    derived operators (`IsMat.add`, `IsMat.comp`, …) this gives every override of `_matrix.py` -/
theorem OpEq.of_isMat {A : Op K} {M : Nat → Nat → K} (hA : IsAdj A) (hM : IsMat A M) :
    OpEq A (Op.mat A.nout A.nin M) :=
  ⟨rfl, rfl, fun x i hi => by rw [hM x i hi]; exact (sumTo_eq _ _).symm,
    fun y j hj => by rw [adj_unique hA hM y j hj]; exact (sumTo_eq _ _).symm⟩

/-- Contract of `jax.linear_transpose(g, primal)` for `g = (x ↦ M x)`, primal of size `n`, output of size `m`:
    * complex primal: the returned function applies the plain transpose `Mᵀ`;
    * real primal and real `M` (everything real): likewise.
    (The remaining case — real primal, complex `M` — returns the real part of `Mᵀ ct`; see AdjointComplex.) -/
structure JaxTranspose (jt : Bool → Nat → Nat → (V K → V K) → V K → V K) : Prop where
  cplx : ∀ (m n : Nat) (M : Nat → Nat → K) (y : V K), ∀ j < n,
    jt true m n (mulVec n M) y j = ∑ i ∈ range m, M i j * y i
  real : ∀ (m n : Nat) (M : Nat → Nat → K), (∀ i j, star (M i j) = M i j) → ∀ (y : V K), ∀ j < n,
    jt false m n (mulVec n M) y j = ∑ i ∈ range m, M i j * y i

/-- a function that meets the contract: transpose by probing with basis vectors (non-vacuity of `JaxTranspose`) -/
def probeTranspose : Bool → Nat → Nat → (V K → V K) → V K → V K :=
  fun _ m _ g y j => ∑ i ∈ range m, g (basis j) i * y i

omit [StarRing K] in
theorem mulVec_basis (n : Nat) (M : Nat → Nat → K) (j : Nat) (hj : j < n) (i : Nat) :
    mulVec n M (basis j) i = M i j := by
  rw [mulVec_eq_sum]
  exact sum_mul_basis n j hj (fun t => M i t)

theorem probeTranspose_ok : JaxTranspose (probeTranspose : Bool → Nat → Nat → (V K → V K) → V K → V K) := by
  have key : ∀ (b : Bool) (m n : Nat) (M : Nat → Nat → K) (y : V K), ∀ j < n,
      probeTranspose b m n (mulVec n M) y j = ∑ i ∈ range m, M i j * y i := fun b m n M y j hj => by
    simp only [probeTranspose, mulVec_basis n M j hj]
  exact ⟨key true, fun m n M _ => key false m n M⟩

theorem conjFun_mulVec (n : Nat) (M : Nat → Nat → K) :
    conjFun (mulVec n M) = mulVec n (fun i j => star (M i j)) := by
  funext x i
  simp only [conjFun, mulVec, vconj, sumTo_eq, conj_eq_star, star_sum, star_mul', star_star]

theorem linearAdjoint_complex {jt} (hjt : JaxTranspose (K := K) jt) (m n : Nat) (oc : Bool) (M : Nat → Nat → K)
    (y : V K) (j : Nat) (hj : j < n) :
    linearAdjoint jt m n true oc (mulVec n M) y j = ∑ i ∈ range m, star (M i j) * y i := by
  simp only [linearAdjoint, if_true]
  rw [conjFun_mulVec, hjt.cplx m n _ y j hj]

theorem linearAdjoint_real {jt} (hjt : JaxTranspose (K := K) jt) (m n : Nat) (M : Nat → Nat → K)
    (hM : ∀ i j, star (M i j) = M i j) (y : V K) (j : Nat) (hj : j < n) :
    linearAdjoint jt m n false false (mulVec n M) y j = ∑ i ∈ range m, star (M i j) * y i := by
  simp only [linearAdjoint, Bool.false_eq_true, if_false]
  rw [hjt.real m n M hM y j hj]
  simp [hM]

/-- the operator `LinearOperator(eval_fn = x ↦ M x)` with its automatically derived adjoint (`_set_adjoint`) -/
def autoOp (jt : Bool → Nat → Nat → (V K → V K) → V K → V K) (m n : Nat) (pc oc : Bool) (M : Nat → Nat → K) : Op K where
  nin := n
  nout := m
  eval := mulVec n M
  adj := linearAdjoint jt m n pc oc (mulVec n M)

end Scico.Adjoint
