/-
  Lemmas for `Scico.Model.Wrap`.  Specification side: `chunks` (consecutive pieces) and
  well-formedness (`WF`: as many entries as the shape says).  Three times the same argument, for
  `_ravel`/`_unravel`, `_split_real_imag`/`_join_real_imag` and `x0flat`/`result`: the second undoes
  the first, and the first reaches everything of the right form, so the first also undoes the second.
  Last: what `SameForm` says about the containers themselves (`Container.shape`, `Container.isCplx`).
-/
import Scico.Model.Wrap
import Mathlib.Algebra.BigOperators.Group.List.Basic

namespace Scico.Wrap

variable {α β : Type}

/-- consecutive pieces of the given lengths: the specification of `jnp.split` at the cumulative sizes -/
def chunks : List Nat → List α → List (List α)
  | [], _ => []
  | s :: ss, v => v.take s :: chunks ss (v.drop s)

def Arr.WF (a : Arr α) : Prop := a.data.length = sizeOf a.shape

theorem Arr.WF.length_eq {a : Arr α} (h : a.WF) : a.data.length = sizeOf a.shape := h

def Val.WF : Val α → Prop
  | .arr a => a.WF
  | .blk bs => ∀ b ∈ bs, b.WF

/-- number of scalars of a (nested) shape: the length of the flat vector -/
def total : Shape → Nat
  | .flat s => sizeOf s
  | .nested ss => (ss.map sizeOf).sum

/-- Python's `()` is the 0-d shape, not a nested shape: a block shape has at least one block -/
def Shape.Valid : Shape → Prop
  | .nested [] => False
  | _ => True

instance : DecidablePred (Shape.Valid) := fun sh => by
  cases sh with
  | flat s => exact isTrue trivial
  | nested ss => cases ss with
    | nil => exact isFalse (fun h => h)
    | cons _ _ => exact isTrue trivial

theorem sizeOf_cons (k : Nat) (s : List Nat) : sizeOf (k :: s) = k * sizeOf s := rfl

theorem mapO_cons (g : α → Option β) (x : α) (xs : List α) :
    mapO g (x :: xs) = (g x).bind fun y => (mapO g xs).map (y :: ·) := by
  cases hx : g x <;> cases hxs : mapO g xs <;> simp [mapO, hx, hxs]

theorem mapO_eq_some_iff {g : α → Option β} : ∀ {l : List α} {r : List β},
    mapO g l = some r ↔ List.Forall₂ (fun x y => g x = some y) l r
  | [], r => by simp [mapO, eq_comm]
  | x :: xs, r => by
    simp only [mapO_cons, Option.bind_eq_some_iff, Option.map_eq_some_iff, mapO_eq_some_iff (l := xs),
      List.forall₂_cons_left_iff]
    constructor
    · rintro ⟨y, hy, ys, hys, rfl⟩
      exact ⟨y, ys, hy, hys, rfl⟩
    · rintro ⟨y, ys, hy, hys, rfl⟩
      exact ⟨y, hy, ys, hys, rfl⟩

theorem mapO_length {g : α → Option β} : ∀ {l : List α} {r : List β}, mapO g l = some r → r.length = l.length :=
  fun h => (mapO_eq_some_iff.1 h).length_eq.symm

theorem mapO_map_of_leftInverse {g : β → Option α} {f : α → β} {l : List α}
    (h : ∀ x ∈ l, g (f x) = some x) : mapO g (l.map f) = some l :=
  mapO_eq_some_iff.2 (List.forall₂_map_left_iff.2 (List.forall₂_same.2 h))

theorem cumsumFrom_length : ∀ (l : List Nat) (acc : Nat), (cumsumFrom acc l).length = l.length
  | [], _ => rfl
  | s :: ss, acc => by simp [cumsumFrom, cumsumFrom_length ss]

theorem splitIdx_length : ∀ (idx : List Nat) (start : Nat) (v : List α), (splitIdx start idx v).length = idx.length + 1
  | [], _, _ => rfl
  | i :: rest, start, v => by simp [splitIdx, splitIdx_length rest i]

theorem splitIdx_flatten : ∀ (idx : List Nat) (start : Nat) (v : List α), (splitIdx start idx v).flatten = v
  | [], _, v => by simp [splitIdx]
  | i :: rest, start, v => by
    simp only [splitIdx, List.flatten_cons, splitIdx_flatten rest i, List.take_append_drop]

theorem splitIdx_cumsum : ∀ (sizes : List Nat) (start : Nat) (v : List α), sizes ≠ [] →
    v.length = sizes.sum → splitIdx start (cumsumFrom start sizes).dropLast v = chunks sizes v
  | [], _, _, h, _ => absurd rfl h
  | [s], start, v, _, hv => by
    rw [List.sum_singleton] at hv
    exact congrArg (· :: []) (List.take_of_length_le (Nat.le_of_eq hv)).symm
  | s :: s' :: ss, start, v, _, hv => by
    rw [List.sum_cons] at hv
    have ih := splitIdx_cumsum (s' :: ss) (start + s) (v.drop s) (List.cons_ne_nil _ _)
      (by rw [List.length_drop]; omega)
    simp only [cumsumFrom, List.dropLast_cons_cons, splitIdx, Nat.add_sub_cancel_left, chunks] at ih ⊢
    rw [ih]

theorem chunks_flatten : ∀ (bs : List (List α)), chunks (bs.map List.length) bs.flatten = bs
  | [] => rfl
  | b :: rest => by
    simp only [List.map_cons, List.flatten_cons, chunks, List.take_left', List.drop_left']
    rw [chunks_flatten rest]

theorem reshape_self (b : Arr α) (h : b.WF) : reshape b.data b.shape = some b := if_pos h

theorem sizes_eq_lengths (bs : List (Arr α)) (h : ∀ b ∈ bs, b.WF) :
    (bs.map Arr.shape).map sizeOf = (bs.map Arr.data).map List.length := by
  simp only [List.map_map]
  exact List.map_congr_left fun b hb => (h b hb).symm

theorem length_ravel (x : Val α) (h : x.WF) : (ravel x).length = total (shapeOf x) := by
  cases x with
  | arr a => exact h
  | blk bs => simp only [ravel, shapeOf, total, List.length_flatten, sizes_eq_lengths bs h]

theorem unravel_nested_of_ne (v : List α) (ss : List (List Nat)) (hne : ss ≠ []) :
    unravel v (.nested ss) =
      (mapO (fun (p : List α × List Nat) => reshape p.1 p.2)
        (List.zip (splitIdx 0 (cumsumFrom 0 (ss.map sizeOf)).dropLast v) ss)).map Val.blk := by
  cases ss with
  | nil => exact absurd rfl hne
  | cons _ _ => rfl

theorem unravel_ravel (x : Val α) (h : x.WF) (hv : (shapeOf x).Valid) :
    unravel (ravel x) (shapeOf x) = some x := by
  cases x with
  | arr a => exact congrArg (Option.map Val.arr) (reshape_self a h)
  | blk bs =>
    have hne : bs.map Arr.shape ≠ [] := fun h0 => by rw [shapeOf, h0] at hv; exact hv
    have hsz := sizes_eq_lengths bs h
    rw [ravel, shapeOf, unravel_nested_of_ne _ _ hne,
      splitIdx_cumsum _ 0 _ (by simpa using hne) (by rw [hsz, List.length_flatten]), hsz, chunks_flatten,
      List.zip_map', mapO_map_of_leftInverse (f := fun b : Arr α => (b.data, b.shape)) (fun b hb => reshape_self b (h b hb))]
    rfl

theorem exists_ravel_eq (v : List α) (sh : Shape) (h : v.length = total sh) :
    ∃ x, ravel x = v ∧ shapeOf x = sh ∧ x.WF := by
  cases sh with
  | flat s => exact ⟨.arr ⟨s, v⟩, rfl, rfl, h⟩
  | nested ss =>
    suffices ∃ bs : List (Arr α), (bs.map Arr.data).flatten = v ∧ bs.map Arr.shape = ss ∧ ∀ b ∈ bs, b.WF by
      obtain ⟨bs, hd, hs, hw⟩ := this
      exact ⟨.blk bs, hd, congrArg Shape.nested hs, hw⟩
    replace h : v.length = (ss.map sizeOf).sum := h
    induction ss generalizing v with
    | nil => exact ⟨[], (List.eq_nil_of_length_eq_zero h).symm, rfl, by simp⟩
    | cons s ss ih =>
      rw [List.map_cons, List.sum_cons] at h
      obtain ⟨bs, hd, hs, hw⟩ := ih (v.drop (sizeOf s)) (by rw [List.length_drop]; omega)
      have hl : (v.take (sizeOf s)).length = sizeOf s := by rw [List.length_take]; omega
      exact ⟨⟨s, v.take (sizeOf s)⟩ :: bs, by simp [hd], by simp [hs], List.forall_mem_cons.2 ⟨hl, hw⟩⟩

theorem reshape_eq_some {v : List α} {s : List Nat} {b : Arr α} :
    reshape v s = some b ↔ v.length = sizeOf s ∧ b = ⟨s, v⟩ := by
  unfold reshape
  split <;> simp [*, eq_comm]

theorem mapO_reshape_zip : ∀ (pieces : List (List α)) (ss : List (List Nat)) (bs : List (Arr α)),
    pieces.length = ss.length →
    mapO (fun (p : List α × List Nat) => reshape p.1 p.2) (List.zip pieces ss) = some bs →
    bs.map Arr.data = pieces ∧ bs.map Arr.shape = ss ∧ ∀ b ∈ bs, b.WF
  | [], [], _, _, h => by cases h; exact ⟨rfl, rfl, by simp⟩
  | [], _ :: _, _, h, _ => by simp at h
  | _ :: _, [], _, h, _ => by simp at h
  | p :: ps, s :: ss, _, hl, h => by
    rw [List.zip_cons_cons, mapO_cons] at h
    obtain ⟨b, hb, h⟩ := Option.bind_eq_some_iff.1 h
    obtain ⟨bs, hm, rfl⟩ := Option.map_eq_some_iff.1 h
    obtain ⟨hp, rfl⟩ := reshape_eq_some.1 hb
    obtain ⟨hd, hs, hw⟩ := mapO_reshape_zip ps ss bs (by simpa using hl) hm
    exact ⟨by rw [List.map_cons, hd], by rw [List.map_cons, hs], List.forall_mem_cons.2 ⟨hp, hw⟩⟩

theorem unravel_eq_some_iff {v : List α} {sh : Shape} (hv : sh.Valid) {x : Val α} :
    unravel v sh = some x ↔ ravel x = v ∧ shapeOf x = sh ∧ x.WF := by
  refine ⟨fun h => ?_, by rintro ⟨rfl, rfl, hx⟩; exact unravel_ravel x hx hv⟩
  cases sh with
  | flat s =>
    obtain ⟨a, ha, rfl⟩ := Option.map_eq_some_iff.1 h
    obtain ⟨hl, rfl⟩ := reshape_eq_some.1 ha
    exact ⟨rfl, rfl, hl⟩
  | nested ss =>
    have hne : ss ≠ [] := by rintro rfl; exact hv
    rw [unravel_nested_of_ne v ss hne] at h
    obtain ⟨bs, hm, rfl⟩ := Option.map_eq_some_iff.1 h
    have hlen : (splitIdx 0 (cumsumFrom 0 (ss.map sizeOf)).dropLast v).length = ss.length := by
      rw [splitIdx_length, List.length_dropLast, cumsumFrom_length, List.length_map]
      exact Nat.sub_add_cancel (List.length_pos_iff.2 hne)
    obtain ⟨hd, hs, hw⟩ := mapO_reshape_zip _ ss bs hlen hm
    -- the pieces `jnp.split` cuts make up `v`, whatever their sizes
    exact ⟨by rw [ravel, hd, splitIdx_flatten], congrArg Shape.nested hs, hw⟩

theorem zipWith_re_im (d : List (Cx α)) : List.zipWith Cx.mk (d.map Cx.re) (d.map Cx.im) = d := by
  rw [List.zipWith_map, List.zipWith_self]
  exact List.map_id _

theorem map_re_im_zipWith (a b : List α) (h : a.length = b.length) :
    (List.zipWith Cx.mk a b).map Cx.re = a ∧ (List.zipWith Cx.mk a b).map Cx.im = b := by
  rw [← List.map_uncurry_zip_eq_zipWith, List.map_map, List.map_map]
  exact ⟨List.map_fst_zip (Nat.le_of_eq h), List.map_snd_zip (Nat.le_of_eq h.symm)⟩

theorem joinArr_splitArr (a : Arr (Cx α)) (h : a.WF) : joinArr (splitArr a) = some a := by
  have h1 : (a.data.map Cx.re).length = sizeOf a.shape := (List.length_map _).trans h
  have h2 : (a.data.map Cx.im).length = sizeOf a.shape := (List.length_map _).trans h
  simp only [joinArr, splitArr, show ¬ (2 < 2) by omega, if_false]
  rw [List.take_left' h1, List.drop_left' h1, List.take_of_length_le (Nat.le_of_eq h2), zipWith_re_im]

theorem exists_splitArr_eq (r : Arr α) (h : ∃ s, r.shape = 2 :: s ∧ r.data.length = 2 * sizeOf s) :
    ∃ z, splitArr z = r ∧ z.WF := by
  obtain ⟨_, d⟩ := r
  obtain ⟨s, rfl, hd⟩ := h
  simp only at hd
  have hl : (d.take (sizeOf s)).length = (d.drop (sizeOf s)).length := by
    rw [List.length_take, List.length_drop]; omega
  obtain ⟨e1, e2⟩ := map_re_im_zipWith _ _ hl
  -- the first half of the data are the real parts, the second half the imaginary parts
  refine ⟨⟨s, List.zipWith Cx.mk (d.take (sizeOf s)) (d.drop (sizeOf s))⟩, ?_, ?_⟩
  · simp only [splitArr, e1, e2, List.take_append_drop]
  · simp only [Arr.WF, List.length_zipWith, ← hl, Nat.min_self, List.length_take]; omega

theorem joinVal_splitVal (x : Val (Cx α)) (h : x.WF) : joinVal (splitVal x) = some x := by
  cases x with
  | arr a => exact congrArg (Option.map Val.arr) (joinArr_splitArr a h)
  | blk bs =>
    have : mapO joinArr (bs.map splitArr) = some bs :=
      mapO_map_of_leftInverse fun b hb => joinArr_splitArr b (h b hb)
    exact congrArg (Option.map Val.blk) this

/-- the form of a split complex value: every array has a leading axis of length 2 and data to match -/
def SplitShaped : Val α → Prop
  | .arr r => ∃ s, r.shape = 2 :: s ∧ r.data.length = 2 * sizeOf s
  | .blk rs => ∀ r ∈ rs, ∃ s, r.shape = 2 :: s ∧ r.data.length = 2 * sizeOf s

theorem exists_map_eq_of_forall {f : α → β} {Q : α → Prop} : ∀ {l : List β},
    (∀ y ∈ l, ∃ x, f x = y ∧ Q x) → ∃ xs : List α, xs.map f = l ∧ ∀ x ∈ xs, Q x
  | [], _ => ⟨[], rfl, by simp⟩
  | y :: ys, h => by
    rw [List.forall_mem_cons] at h
    obtain ⟨x, hf, hq⟩ := h.1
    obtain ⟨xs, hfs, hqs⟩ := exists_map_eq_of_forall h.2
    exact ⟨x :: xs, by rw [List.map_cons, hf, hfs], List.forall_mem_cons.2 ⟨hq, hqs⟩⟩

theorem exists_splitVal_eq (r : Val α) (h : SplitShaped r) : ∃ z, splitVal z = r ∧ z.WF := by
  cases r with
  | arr a =>
    obtain ⟨z, hz, hwf⟩ := exists_splitArr_eq a h
    exact ⟨.arr z, congrArg Val.arr hz, hwf⟩
  | blk rs =>
    obtain ⟨zs, hzs, hwf⟩ := exists_map_eq_of_forall fun r hr => exists_splitArr_eq r (h r hr)
    exact ⟨.blk zs, congrArg Val.blk hzs, hwf⟩

theorem length_splitArr (a : Arr (Cx α)) : (splitArr a).data.length = 2 * a.data.length := by
  simp only [splitArr, List.length_append, List.length_map]; omega

theorem splitArr_wf (a : Arr (Cx α)) (h : a.WF) : (splitArr a).WF := by
  show (splitArr a).data.length = 2 * sizeOf a.shape
  rw [length_splitArr, h.length_eq]

theorem splitVal_wf (x : Val (Cx α)) (h : x.WF) : (splitVal x).WF := by
  cases x with
  | arr a => exact splitArr_wf a h
  | blk bs => exact List.forall_mem_map.2 fun a ha => splitArr_wf a (h a ha)

theorem splitShaped_of_shape (r : Val α) (x0 : Val (Cx α)) (hwf : r.WF)
    (hs : shapeOf r = shapeOf (splitVal x0)) : SplitShaped r := by
  cases r with
  | arr a =>
    cases x0 with
    | arr a0 => exact ⟨a0.shape, Shape.flat.inj hs, by rw [Arr.WF.length_eq hwf, Shape.flat.inj hs]; rfl⟩
    | blk _ => exact Shape.noConfusion hs
  | blk rs =>
    cases x0 with
    | arr _ => exact Shape.noConfusion hs
    | blk bs =>
      intro r hr
      have hmem : r.shape ∈ (bs.map splitArr).map Arr.shape := Shape.nested.inj hs ▸ List.mem_map_of_mem hr
      simp only [List.map_map, List.mem_map] at hmem
      obtain ⟨b, -, hb⟩ := hmem
      exact ⟨b.shape, hb.symm, by rw [(hwf r hr).length_eq, ← hb]; rfl⟩

def Container.WF : Container α → Prop
  | .real x => x.WF
  | .cplx x => x.WF

/-- same work shape and same kind, real or complex (`sameForm_iff` below, once `Container.isCplx` is there to say it) -/
def SameForm (c c0 : Container α) : Prop :=
  workShape c = workShape c0 ∧
  match c, c0 with
  | .real _, .real _ => True
  | .cplx _, .cplx _ => True
  | _, _ => False

theorem SameForm.kinds : ∀ {c c0 : Container α}, SameForm c c0 →
    (∃ x x0, c = .real x ∧ c0 = .real x0 ∧ shapeOf x = shapeOf x0) ∨
    (∃ x x0, c = .cplx x ∧ c0 = .cplx x0 ∧ shapeOf (splitVal x) = shapeOf (splitVal x0))
  | .real x, .real x0, ⟨hs, _⟩ => .inl ⟨x, x0, rfl, rfl, hs⟩
  | .cplx x, .cplx x0, ⟨hs, _⟩ => .inr ⟨x, x0, rfl, rfl, hs⟩
  | .real _, .cplx _, ⟨_, hk⟩ => hk.elim
  | .cplx _, .real _, ⟨_, hk⟩ => hk.elim

theorem length_x0flat (c : Container α) (h : c.WF) : (x0flat c).length = total (workShape c) := by
  cases c with
  | real x => exact length_ravel x h
  | cplx x => exact length_ravel _ (splitVal_wf x h)

theorem length_x0flat_of_sameForm {c c0 : Container α} (hwf : c.WF) (hform : SameForm c c0) :
    (x0flat c).length = total (workShape c0) := by
  rw [length_x0flat c hwf, hform.1]

theorem objective_of_result {ρ : Type} (func : Container α → ρ) {c0 c : Container α} {v : List α}
    (h : result c0 v = some c) : objective func c0 v = some (func c) :=
  congrArg (Option.map func) h

theorem result_x0flat (c c0 : Container α) (hwf : c.WF) (hform : SameForm c c0) (hv : (workShape c0).Valid) :
    result c0 (x0flat c) = some c := by
  obtain ⟨x, x0, rfl, rfl, hs⟩ | ⟨x, x0, rfl, rfl, hs⟩ := hform.kinds
  · show (unravel (ravel x) (shapeOf x0)).map Container.real = _
    rw [← hs, unravel_ravel x hwf (hs ▸ hv)]
    rfl
  · show ((unravel (ravel (splitVal x)) (shapeOf (splitVal x0))).bind joinVal).map Container.cplx = _
    rw [← hs, unravel_ravel _ (splitVal_wf x hwf) (hs ▸ hv), Option.bind_some, joinVal_splitVal x hwf]
    rfl

theorem exists_x0flat_eq (c0 : Container α) (v : List α) (hv : v.length = total (workShape c0)) :
    ∃ c, x0flat c = v ∧ c.WF ∧ SameForm c c0 := by
  obtain ⟨x, hr, hsh, hwf⟩ := exists_ravel_eq v (workShape c0) hv
  cases c0 with
  | real x0 => exact ⟨.real x, hr, hwf, hsh, trivial⟩
  | cplx x0 =>
    obtain ⟨z, rfl, hzwf⟩ := exists_splitVal_eq x (splitShaped_of_shape x x0 hwf hsh)
    exact ⟨.cplx z, hr, hzwf, hsh, trivial⟩

theorem x0flat_result (c0 : Container α) (hvalid : (workShape c0).Valid) (v : List α)
    (hv : v.length = total (workShape c0)) :
    ∃ c, result c0 v = some c ∧ x0flat c = v ∧ c.WF ∧ SameForm c c0 := by
  obtain ⟨c, rfl, hwf, hf⟩ := exists_x0flat_eq c0 v hv
  exact ⟨c, result_x0flat c c0 hwf hf hvalid, rfl, hwf, hf⟩

theorem scalarOf_scalar (a : α) : scalarOf (⟨[], [a]⟩ : Arr α) = some a := rfl
theorem scalarOf_one (a : α) : scalarOf (⟨[1], [a]⟩ : Arr α) = some a := rfl

/-- the shape of the container itself (for a complex one: without the leading re/im axis) -/
def Container.shape : Container α → Shape
  | .real x => shapeOf x
  | .cplx x => shapeOf x

def Container.isCplx : Container α → Bool
  | .real _ => false
  | .cplx _ => true

theorem sameForm_iff (c c0 : Container α) :
    SameForm c c0 ↔ workShape c = workShape c0 ∧ c.isCplx = c0.isCplx := by
  cases c <;> cases c0 <;> simp [SameForm, Container.isCplx]

theorem SameForm.symm {c c0 : Container α} (h : SameForm c c0) : SameForm c0 c := by
  rw [sameForm_iff] at h ⊢
  exact ⟨h.1.symm, h.2.symm⟩

theorem SameForm.trans {c c' c0 : Container α} (h : SameForm c c') (h' : SameForm c' c0) : SameForm c c0 := by
  rw [sameForm_iff] at h h' ⊢
  exact ⟨h.1.trans h'.1, h.2.trans h'.2⟩

theorem splitVal_shape_inj (x x0 : Val (Cx α)) (h : shapeOf (splitVal x) = shapeOf (splitVal x0)) :
    shapeOf x = shapeOf x0 := by
  -- the shape is the split shape without its leading axes
  have key : ∀ x : Val (Cx α), shapeOf x = match shapeOf (splitVal x) with
      | .flat s => .flat s.tail
      | .nested ss => .nested (ss.map List.tail) := by
    rintro (a | bs)
    · rfl
    · simp [shapeOf, splitVal, splitArr, Function.comp_def]
  rw [key x, key x0, h]

theorem sameForm_shape (c c0 : Container α) (h : SameForm c c0) : c.isCplx = c0.isCplx ∧ c.shape = c0.shape := by
  obtain ⟨x, x0, rfl, rfl, hs⟩ | ⟨x, x0, rfl, rfl, hs⟩ := h.kinds
  · exact ⟨rfl, hs⟩
  · exact ⟨rfl, splitVal_shape_inj x x0 hs⟩

/-- the hypothesis `(workShape c0).Valid` of the C18 theorems says that `c0` itself has blocks
    (Python: `x0.shape` and `x0.dtype` exist) -/
theorem valid_of_shape (c : Container α) : (workShape c).Valid ↔ c.shape.Valid := by
  cases c with
  | real x => rfl
  | cplx x => rcases x with a | (_ | ⟨b, bs⟩) <;> exact Iff.rfl

end Scico.Wrap
