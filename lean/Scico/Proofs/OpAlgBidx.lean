/-
  Broadcast index calculus used by `Diagonal`: a shape broadcast against itself is itself and the
  broadcast index map is then the identity; the composition law of the broadcast index map
  `bidx(mid→src) ∘ bidx(out→mid) = bidx(out→src)`, its range, and associativity / commutativity of
  `numpy.broadcast_shapes`: first on dimension lists, then block by block on `Shape` (`BcSh`, `bshapeS_BcSh`, `bidxS_lt`,
  `bidxS_comp`, `bshapeS_comm`, `bshapeS_assoc`), which is the form `Diagonal @ Diagonal` with broadcasting between the two
  diagonal arrays uses (`diagMatmul_sound_all`).
-/
import Scico.Model.OpAlg
import Scico.Proofs.Except

namespace Scico.OpAlg

theorem prodL_nil : prodL [] = 1 := rfl
theorem prodL_cons (a : Nat) (l : List Nat) : prodL (a :: l) = a * prodL l := rfl

theorem prodL_append (l1 l2 : List Nat) : prodL (l1 ++ l2) = prodL l1 * prodL l2 := List.prod_append_nat
theorem prodL_reverse (l : List Nat) : prodL l.reverse = prodL l := List.prod_reverse_nat l

/-- the quotient by the length `a` of the last axis is a flat index into the remaining axes -/
theorem div_lt_prodL {a k : Nat} {l : List Nat} (hk : k < prodL (a :: l)) : 0 < a ∧ k / a < prodL l := by
  rw [prodL_cons] at hk
  have ha : 0 < a := Nat.pos_of_ne_zero (by rintro rfl; simp at hk)
  exact ⟨ha, by rw [Nat.div_lt_iff_lt_mul ha, Nat.mul_comm]; exact hk⟩

theorem bshapeRev_self (l : List Nat) : bshapeRev l l = some l := by
  induction l with
  | nil => rfl
  | cons a l ih => simp [bshapeRev, ih]

theorem bshape_self (l : List Nat) : bshape l l = some l := by
  simp [bshape, bshapeRev_self]

theorem bidxRev_self (l : List Nat) : ∀ k, k < prodL l → bidxRev l l k = k := by
  induction l with
  | nil => intro k hk; simp [prodL_nil] at hk; subst hk; rfl
  | cons a l ih =>
    intro k hk
    obtain ⟨ha, hdiv⟩ := div_lt_prodL hk
    simp only [bidxRev]
    rw [ih _ hdiv]
    by_cases h1 : a = 1
    · subst h1; simp
    · simp only [h1, if_false]
      exact Nat.mod_add_div k a

theorem bidx_self (l : List Nat) (k : Nat) (hk : k < prodL l) : bidx l l k = k := by
  unfold bidx
  exact bidxRev_self _ k (by rw [prodL_reverse]; exact hk)

theorem bidxBlocks_self (bs : List (List Nat)) :
    ∀ k, k < (bs.map prodL).foldr (· + ·) 0 → bidxBlocks bs bs k = k := by
  induction bs with
  | nil => intro k hk; simp at hk
  | cons b bs ih =>
    intro k hk
    simp only [List.map_cons, List.foldr_cons] at hk
    simp only [bidxBlocks]
    by_cases h : k < prodL b
    · simp only [h, if_true]; exact bidx_self b k h
    · simp only [h, if_false]
      rw [ih (k - prodL b) (by omega)]
      omega

theorem bidxS_self (sh : Shape) (k : Nat) (hk : k < sh.size) : bidxS sh sh k = k := by
  cases sh with
  | plain d => exact bidx_self d k hk
  | nested bs => exact bidxBlocks_self bs k hk

theorem bshapeS_self (sh : Shape) : bshapeS sh sh = .ok sh := by
  cases sh with
  | plain d => simp [bshapeS, bshape_self]
  | nested bs => simp [bshapeS, bshape_self, List.filterMap_map, Function.comp_def]

/-- `src` broadcasts to `out` (reversed dimension lists: last axis first; the source may be the shorter list).  Argument order
    `Bc src out`, while the index maps are written `bidx out src`, i.e. `bidx(out→src)` -/
def Bc : List Nat → List Nat → Prop
  | [], _ => True
  | _ :: _, [] => False
  | s :: ss, o :: os => (s = o ∨ s = 1) ∧ Bc ss os

theorem Bc_refl (l : List Nat) : Bc l l := by
  induction l with
  | nil => trivial
  | cons a l ih => exact ⟨Or.inl rfl, ih⟩

theorem Bc_trans : ∀ {a b c : List Nat}, Bc a b → Bc b c → Bc a c := by
  intro a
  induction a with
  | nil => intro _ _ _ _; trivial
  | cons x a ih =>
    intro b c hab hbc
    cases b with
    | nil => exact hab.elim
    | cons y b =>
      cases c with
      | nil => exact hbc.elim
      | cons z c =>
        refine ⟨?_, ih hab.2 hbc.2⟩
        rcases hab.1 with h | h
        · rcases hbc.1 with h' | h'
          · exact Or.inl (h.trans h')
          · exact Or.inr (h.trans h')
        · exact Or.inr h

theorem bshapeRev_Bc : ∀ {x y r : List Nat}, bshapeRev x y = some r → Bc x r ∧ Bc y r := by
  intro x
  induction x with
  | nil =>
    intro y r h
    simp only [bshapeRev] at h
    injection h with h; subst h
    exact ⟨trivial, Bc_refl _⟩
  | cons a x ih =>
    intro y r h
    cases y with
    | nil =>
      simp only [bshapeRev] at h
      injection h with h; subst h
      exact ⟨Bc_refl _, trivial⟩
    | cons b y =>
      simp only [bshapeRev] at h
      cases hr : bshapeRev x y with
      | none => simp [hr] at h
      | some r' =>
        obtain ⟨h1, h2⟩ := ih hr
        simp only [hr] at h
        by_cases hab : a = b
        · simp only [hab, if_true] at h
          injection h with h; subst h
          exact ⟨⟨Or.inl hab, h1⟩, ⟨Or.inl rfl, h2⟩⟩
        · simp only [hab, if_false] at h
          by_cases ha1 : a = 1
          · simp only [ha1, if_true] at h
            injection h with h; subst h
            exact ⟨⟨Or.inr ha1, h1⟩, ⟨Or.inl rfl, h2⟩⟩
          · simp only [ha1, if_false] at h
            by_cases hb1 : b = 1
            · simp only [hb1, if_true] at h
              injection h with h; subst h
              exact ⟨⟨Or.inl rfl, h1⟩, ⟨Or.inr hb1, h2⟩⟩
            · simp [hb1] at h

theorem bidxRev_lt : ∀ {src out : List Nat} (k : Nat), Bc src out → k < prodL out →
    bidxRev out src k < prodL src := by
  intro src
  induction src with
  | nil =>
    intro out k _ _
    cases out <;> simp [bidxRev, prodL_nil]
  | cons s ss ih =>
    intro out k hbc hk
    cases out with
    | nil => exact hbc.elim
    | cons o os =>
      obtain ⟨ho, hdiv⟩ := div_lt_prodL hk
      have hq := ih (k / o) hbc.2 hdiv
      simp only [bidxRev, prodL_cons]
      have hr : (if s = 1 then 0 else k % o) < s := by
        rcases hbc.1 with h | h
        · by_cases h1 : s = 1
          · simp [h1]
          · simp only [h1, if_false]; rw [h]; exact Nat.mod_lt _ ho
        · simp [h]
      calc (if s = 1 then 0 else k % o) + s * bidxRev os ss (k / o)
          < s + s * bidxRev os ss (k / o) := Nat.add_lt_add_right hr _
        _ = s * (bidxRev os ss (k / o) + 1) := by rw [Nat.mul_add, Nat.mul_one, Nat.add_comm]
        _ ≤ s * prodL ss := Nat.mul_le_mul_left _ hq

theorem bidxRev_comp : ∀ {src mid out : List Nat} (k : Nat), Bc src mid → Bc mid out → k < prodL out →
    bidxRev mid src (bidxRev out mid k) = bidxRev out src k := by
  intro src
  induction src with
  | nil =>
    intro mid out k _ _ _
    cases mid <;> cases out <;> simp [bidxRev]
  | cons s ss ih =>
    intro mid out k h1 h2 hk
    cases mid with
    | nil => exact h1.elim
    | cons m ms =>
      cases out with
      | nil => exact h2.elim
      | cons o os =>
        obtain ⟨ho, hdiv⟩ := div_lt_prodL hk
        have hih := ih (k / o) h1.2 h2.2 hdiv
        simp only [bidxRev]
        -- the index in the middle shape is `k % o + m * (…)` with `k % o < m`, unless `m = 1`
        by_cases hm1 : m = 1
        · have hs1 : s = 1 := by rcases h1.1 with h | h <;> omega
          subst hm1; subst hs1
          simp only [if_true, Nat.zero_add, Nat.one_mul, Nat.div_one]
          exact hih
        · have hmo : o = m := by
            rcases h2.1 with h | h
            · exact h.symm
            · exact absurd h hm1
          subst hmo
          simp only [hm1, if_false]
          have hr : k % o < o := Nat.mod_lt _ ho
          have hdivK : (k % o + o * bidxRev os ms (k / o)) / o = bidxRev os ms (k / o) := by
            rw [Nat.add_comm, Nat.mul_add_div ho, Nat.div_eq_of_lt hr, Nat.add_zero]
          have hmodK : (k % o + o * bidxRev os ms (k / o)) % o = k % o := by
            rw [Nat.add_comm, Nat.mul_add_mod, Nat.mod_eq_of_lt hr]
          rw [hdivK, hmodK, hih]

theorem bshapeRev_comm : ∀ (x y : List Nat), bshapeRev x y = bshapeRev y x := by
  intro x
  induction x with
  | nil => intro y; cases y <;> rfl
  | cons a x ih =>
    intro y
    cases y with
    | nil => rfl
    | cons b y =>
      simp only [bshapeRev, ih y]
      cases bshapeRev y x with
      | none => rfl
      | some r =>
        simp only
        by_cases hab : a = b
        · subst hab; simp
        · have hba : ¬ b = a := fun h => hab h.symm
          simp only [hab, hba, if_false]
          by_cases ha1 : a = 1
          · by_cases hb1 : b = 1
            · omega
            · simp [ha1, hb1]
          · by_cases hb1 : b = 1
            · simp [ha1, hb1]
            · simp [ha1, hb1]

/-- merging two axis lengths `u`, `v`: the result is `v` if `u = 1` and `u` otherwise -/
theorem bshapeRev_head {u v : Nat} {l res : List Nat}
    (h : (if u = v then some (u :: l) else if u = 1 then some (v :: l)
      else if v = 1 then some (u :: l) else none) = some res) :
    ∃ w, res = w :: l ∧ (u = 1 → w = v) ∧ (u ≠ 1 → w = u) := by
  by_cases huv : u = v
  · simp only [huv, if_true] at h; injection h with h
    exact ⟨v, h.symm, fun _ => rfl, fun _ => huv.symm⟩
  · simp only [huv, if_false] at h
    by_cases hu1 : u = 1
    · simp only [hu1, if_true] at h; injection h with h
      exact ⟨v, h.symm, fun _ => rfl, fun hne => absurd hu1 hne⟩
    · simp only [hu1, if_false] at h
      by_cases hv1 : v = 1
      · simp only [hv1, if_true] at h; injection h with h
        exact ⟨u, h.symm, fun h' => absurd h' hu1, fun _ => rfl⟩
      · simp [hv1] at h

theorem bshapeRev_assoc : ∀ {x y z xy yz r1 r2 : List Nat}, bshapeRev x y = some xy →
    bshapeRev xy z = some r1 → bshapeRev y z = some yz → bshapeRev x yz = some r2 → r1 = r2 := by
  intro x
  induction x with
  | nil =>
    intro y z xy yz r1 r2 h1 h2 h3 h4
    simp only [bshapeRev] at h1 h4
    injection h1 with h1; injection h4 with h4
    subst h1; subst h4
    rw [h2] at h3; injection h3
  | cons a x ih =>
    intro y z xy yz r1 r2 h1 h2 h3 h4
    cases y with
    | nil =>
      simp only [bshapeRev] at h1
      injection h1 with h1; subst h1
      have : yz = z := by
        cases z <;> simp only [bshapeRev] at h3 <;> injection h3 with h3 <;> exact h3.symm
      subst this
      rw [h2] at h4; injection h4
    | cons b y =>
      cases z with
      | nil =>
        have e1 : r1 = xy := by
          cases xy <;> simp only [bshapeRev] at h2 <;> injection h2 with h2 <;> exact h2.symm
        have e2 : yz = b :: y := by
          simp only [bshapeRev] at h3; injection h3 with h3; exact h3.symm
        subst e1; subst e2
        rw [h1] at h4; injection h4
      | cons c z =>
        simp only [bshapeRev] at h1 h3
        cases hxy : bshapeRev x y with
        | none => simp [hxy] at h1
        | some xy' =>
          cases hyz : bshapeRev y z with
          | none => simp [hyz] at h3
          | some yz' =>
            simp only [hxy] at h1
            simp only [hyz] at h3
            obtain ⟨p, hp, pa, pb⟩ := bshapeRev_head h1
            obtain ⟨q, hq, qa, qb⟩ := bshapeRev_head h3
            subst hp; subst hq
            simp only [bshapeRev] at h2 h4
            cases h12 : bshapeRev xy' z with
            | none => simp [h12] at h2
            | some t1 =>
              cases h34 : bshapeRev x yz' with
              | none => simp [h34] at h4
              | some t2 =>
                have ht : t1 = t2 := ih hxy h12 hyz h34
                subst ht
                simp only [h12] at h2
                simp only [h34] at h4
                obtain ⟨w1, e1, w1a, w1b⟩ := bshapeRev_head h2
                obtain ⟨w2, e2, w2a, w2b⟩ := bshapeRev_head h4
                subst e1; subst e2
                congr 1
                -- the head of a broadcast is the operand that is not 1: both sides are that operand of `a, b, c`
                by_cases ha1 : a = 1
                · have hpb : p = b := pa ha1
                  rw [w2a ha1]
                  by_cases hb1 : b = 1
                  · rw [qa hb1, w1a (hpb.trans hb1)]
                  · rw [qb hb1, w1b (hpb ▸ hb1), hpb]
                · rw [w2b ha1, w1b (by rw [pb ha1]; exact ha1), pb ha1]

/-- `src` broadcasts to `out` (dimension lists as written, first axis first) -/
def BcS (src out : List Nat) : Prop := Bc src.reverse out.reverse

theorem bshape_eq_some {a b r : List Nat} :
    bshape a b = some r ↔ bshapeRev a.reverse b.reverse = some r.reverse := by
  unfold bshape
  cases bshapeRev a.reverse b.reverse with
  | none => simp
  | some r' =>
    simp only [Option.map_some, Option.some.injEq]
    exact ⟨fun h => h ▸ (List.reverse_reverse r').symm, fun h => h ▸ List.reverse_reverse r⟩

theorem bshape_BcS {a b r : List Nat} (h : bshape a b = some r) : BcS a r ∧ BcS b r :=
  bshapeRev_Bc (bshape_eq_some.mp h)

theorem BcS_trans {a b c : List Nat} (h1 : BcS a b) (h2 : BcS b c) : BcS a c := Bc_trans h1 h2

theorem bidx_lt {src out : List Nat} (k : Nat) (h : BcS src out) (hk : k < prodL out) :
    bidx out src k < prodL src := by
  unfold bidx
  have := bidxRev_lt k h (by rw [prodL_reverse]; exact hk)
  rwa [prodL_reverse] at this

theorem bidx_comp {src mid out : List Nat} (k : Nat) (h1 : BcS src mid) (h2 : BcS mid out)
    (hk : k < prodL out) : bidx mid src (bidx out mid k) = bidx out src k := by
  unfold bidx
  exact bidxRev_comp k h1 h2 (by rw [prodL_reverse]; exact hk)

theorem bshape_comm (a b : List Nat) : bshape a b = bshape b a := by
  unfold bshape; rw [bshapeRev_comm]

theorem bshape_assoc {x y z xy yz r1 r2 : List Nat} (h1 : bshape x y = some xy)
    (h2 : bshape xy z = some r1) (h3 : bshape y z = some yz) (h4 : bshape x yz = some r2) : r1 = r2 :=
  List.reverse_inj.mp (bshapeRev_assoc (bshape_eq_some.mp h1) (bshape_eq_some.mp h2) (bshape_eq_some.mp h3)
    (bshape_eq_some.mp h4))

theorem bshapeS_plain {a b : List Nat} {out : Shape} (h : bshapeS (.plain a) (.plain b) = .ok out) :
    ∃ r, out = .plain r ∧ bshape a b = some r := by
  simp only [bshapeS] at h
  cases hr : bshape a b with
  | none => simp [hr] at h
  | some r =>
    simp only [hr] at h
    injection h with h
    exact ⟨r, h.symm, rfl⟩

/-- `(Shape.nested bs).size = sizeB bs` holds by `rfl` -/
def sizeB (bs : List (List Nat)) : Nat := (bs.map prodL).foldr (· + ·) 0

theorem sizeB_cons (b : List Nat) (bs : List (List Nat)) : sizeB (b :: bs) = prodL b + sizeB bs := rfl

/-- block by block.  Here the OUTPUT list may be the shorter one: scico's `broadcast_nested_shapes` (`numpy/util.py`) zips the
    block lists, the result has as many blocks as the shorter operand, and `bidxBlocks` follows the output; surplus source
    blocks are never indexed -/
def BcB : List (List Nat) → List (List Nat) → Prop
  | _, [] => True
  | [], _ :: _ => False
  | s :: ss, o :: os => BcS s o ∧ BcB ss os

theorem bidxBlocks_lt : ∀ {ss os : List (List Nat)} {k : Nat}, BcB ss os → k < sizeB os →
    bidxBlocks os ss k < sizeB ss
  | _, [], k, _, hk => absurd hk (Nat.not_lt_zero k)
  | [], _ :: _, _, h, _ => h.elim
  | s :: ss, o :: os, k, h, hk => by
    simp only [bidxBlocks, sizeB_cons] at hk ⊢
    by_cases hko : k < prodL o
    · rw [if_pos hko]
      exact Nat.lt_of_lt_of_le (bidx_lt k h.1 hko) (Nat.le_add_right _ _)
    · rw [if_neg hko]
      exact Nat.add_lt_add_left (bidxBlocks_lt h.2 (by omega)) _

theorem bidxBlocks_comp : ∀ {ss ms os : List (List Nat)} {k : Nat}, BcB ss ms → BcB ms os → k < sizeB os →
    bidxBlocks ms ss (bidxBlocks os ms k) = bidxBlocks os ss k
  | _, _, [], k, _, _, hk => absurd hk (Nat.not_lt_zero k)
  | _, [], _ :: _, _, _, h, _ => h.elim
  | [], _ :: _, _ :: _, _, h, _, _ => h.elim
  | s :: ss, m :: ms, o :: os, k, h1, h2, hk => by
    rw [sizeB_cons] at hk
    by_cases hko : k < prodL o
    · simp only [bidxBlocks, if_pos hko, if_pos (bidx_lt k h2.1 hko)]
      exact bidx_comp k h1.1 h2.1 hko
    · have hrec := bidxBlocks_comp (k := k - prodL o) h1.2 h2.2 (by omega)
      simp only [bidxBlocks, if_neg hko, if_neg (Nat.not_lt.mpr (Nat.le_add_right _ _)), Nat.add_sub_cancel_left, hrec]

theorem zipB_BcB : ∀ (as bs : List (List Nat)), (List.zipWith bshape as bs).all Option.isSome = true →
    BcB as ((List.zipWith bshape as bs).filterMap id) ∧ BcB bs ((List.zipWith bshape as bs).filterMap id)
  | [], _, _ => by simp [BcB]
  | _ :: _, [], _ => by simp [BcB]
  | a :: as, b :: bs, h => by
    simp only [List.zipWith_cons_cons, List.all_cons, Bool.and_eq_true] at h
    cases hab : bshape a b with
    | none => simp [hab] at h
    | some r =>
      have ih := zipB_BcB as bs h.2
      simp only [List.zipWith_cons_cons, hab, List.filterMap_cons, id]
      exact ⟨⟨(bshape_BcS hab).1, ih.1⟩, ⟨(bshape_BcS hab).2, ih.2⟩⟩

/-- `src` broadcasts to `out`, on shapes -/
def BcSh : Shape → Shape → Prop
  | .plain s, .plain o => BcS s o
  | .nested ss, .nested os => BcB ss os
  | _, _ => False

theorem bshapeS_BcSh : ∀ {a b out : Shape}, bshapeS a b = .ok out → BcSh a out ∧ BcSh b out
  | .plain a, .plain b, out, h => by
    obtain ⟨r, rfl, hr⟩ := bshapeS_plain h
    exact bshape_BcS hr
  | .nested as, .nested bs, out, h => by
    simp only [bshapeS] at h
    obtain ⟨hall, h⟩ := ite_ok_error h
    cases h
    exact zipB_BcB as bs hall
  | .plain _, .nested _, _, h => by cases h
  | .nested _, .plain _, _, h => by cases h

theorem bidxS_lt : ∀ {src out : Shape} {k : Nat}, BcSh src out → k < out.size → bidxS out src k < src.size
  | .plain _, .plain _, k, h, hk => bidx_lt k h hk
  | .nested _, .nested _, _, h, hk => bidxBlocks_lt h hk
  | .plain _, .nested _, _, h, _ => h.elim
  | .nested _, .plain _, _, h, _ => h.elim

theorem bidxS_comp : ∀ {src mid out : Shape} {k : Nat}, BcSh src mid → BcSh mid out → k < out.size →
    bidxS mid src (bidxS out mid k) = bidxS out src k
  | .plain _, .plain _, .plain _, k, h1, h2, hk => bidx_comp k h1 h2 hk
  | .nested _, .nested _, .nested _, _, h1, h2, hk => bidxBlocks_comp h1 h2 hk
  | .plain _, .nested _, _, _, h, _, _ => h.elim
  | .nested _, .plain _, _, _, h, _, _ => h.elim
  | .plain _, .plain _, .nested _, _, _, h, _ => h.elim
  | .nested _, .nested _, .plain _, _, _, h, _ => h.elim

/-- `broadcast_nested_shapes`: block by block, as far as both lists go -/
def bshapeB : List (List Nat) → List (List Nat) → Option (List (List Nat))
  | a :: as, b :: bs =>
    match bshape a b, bshapeB as bs with
    | some r, some rs => some (r :: rs)
    | _, _ => none
  | _, _ => some []

theorem bshapeS_nested : ∀ {as bs : List (List Nat)} {out : Shape},
    bshapeS (.nested as) (.nested bs) = .ok out → ∃ rs, out = .nested rs ∧ bshapeB as bs = some rs
  | [], _, out, h => by cases h; exact ⟨[], rfl, by cases ‹List (List Nat)› <;> rfl⟩
  | _ :: _, [], out, h => by cases h; exact ⟨[], rfl, rfl⟩
  | a :: as, b :: bs, out, h => by
    simp only [bshapeS, List.zipWith_cons_cons, List.all_cons, Bool.and_eq_true] at h
    obtain ⟨⟨hab, hall⟩, h⟩ := ite_ok_error h
    cases h
    obtain ⟨rs, hrs, hB⟩ := bshapeS_nested (as := as) (bs := bs) (out := .nested ((List.zipWith bshape as bs).filterMap id))
      (by simp only [bshapeS]; rw [if_pos hall])
    cases hr : bshape a b with
    | none => simp [hr] at hab
    | some r =>
      refine ⟨r :: rs, ?_, by simp only [bshapeB, hr, hB]⟩
      cases hrs
      simp only [List.filterMap_cons, id]

theorem bshapeB_assoc : ∀ {x y z xy yz r1 r2 : List (List Nat)}, bshapeB x y = some xy → bshapeB xy z = some r1 →
    bshapeB y z = some yz → bshapeB x yz = some r2 → r1 = r2
  | [], y, z, xy, yz, r1, r2, h1, h2, _, h4 => by
    have : xy = [] := by cases y <;> cases h1 <;> rfl
    subst this
    have e1 : r1 = [] := by cases z <;> cases h2 <;> rfl
    have e2 : r2 = [] := by cases yz <;> cases h4 <;> rfl
    rw [e1, e2]
  | _ :: _, [], z, xy, yz, r1, r2, h1, h2, h3, h4 => by
    cases h1
    have e1 : r1 = [] := by cases z <;> cases h2 <;> rfl
    have : yz = [] := by cases z <;> cases h3 <;> rfl
    subst this; cases h4; exact e1
  | a :: x, b :: y, [], xy, yz, r1, r2, h1, h2, h3, h4 => by
    cases h3; cases h4
    cases xy <;> cases h2 <;> rfl
  | a :: x, b :: y, c :: z, xy, yz, r1, r2, h1, h2, h3, h4 => by
    simp only [bshapeB] at h1 h3
    cases hab : bshape a b with
    | none => simp [hab] at h1
    | some ab =>
      cases hxy : bshapeB x y with
      | none => simp [hab, hxy] at h1
      | some xy' =>
        cases hbc : bshape b c with
        | none => simp [hbc] at h3
        | some bc =>
          cases hyz : bshapeB y z with
          | none => simp [hbc, hyz] at h3
          | some yz' =>
            simp only [hab, hxy, Option.some.injEq] at h1
            simp only [hbc, hyz, Option.some.injEq] at h3
            subst h1; subst h3
            simp only [bshapeB] at h2 h4
            cases h12 : bshape ab c with
            | none => simp [h12] at h2
            | some t1 =>
              cases h12' : bshapeB xy' z with
              | none => simp [h12, h12'] at h2
              | some u1 =>
                cases h34 : bshape a bc with
                | none => simp [h34] at h4
                | some t2 =>
                  cases h34' : bshapeB x yz' with
                  | none => simp [h34, h34'] at h4
                  | some u2 =>
                    simp only [h12, h12', Option.some.injEq] at h2
                    simp only [h34, h34', Option.some.injEq] at h4
                    subst h2; subst h4
                    rw [bshape_assoc hab h12 hbc h34, bshapeB_assoc hxy h12' hyz h34']

theorem bshapeS_comm : ∀ a b : Shape, bshapeS a b = bshapeS b a
  | .plain a, .plain b => by simp only [bshapeS, bshape_comm a b]
  | .nested as, .nested bs => by
    simp only [bshapeS]
    rw [List.zipWith_comm, show (fun b a => bshape a b) = bshape from funext fun b => funext fun a => bshape_comm a b]
  | .plain _, .nested _ => rfl
  | .nested _, .plain _ => rfl

/-- `broadcast_shapes` is associative on shapes, plain or nested (whenever all four results exist) -/
theorem bshapeS_assoc : ∀ {x y z xy yz r1 r2 : Shape}, bshapeS x y = .ok xy → bshapeS xy z = .ok r1 →
    bshapeS y z = .ok yz → bshapeS x yz = .ok r2 → r1 = r2
  | .plain x, .plain y, .plain z, xy, yz, r1, r2, h1, h2, h3, h4 => by
    obtain ⟨_, rfl, e1⟩ := bshapeS_plain h1
    obtain ⟨_, rfl, e3⟩ := bshapeS_plain h3
    obtain ⟨_, rfl, e2⟩ := bshapeS_plain h2
    obtain ⟨_, rfl, e4⟩ := bshapeS_plain h4
    rw [bshape_assoc e1 e2 e3 e4]
  | .nested x, .nested y, .nested z, xy, yz, r1, r2, h1, h2, h3, h4 => by
    obtain ⟨_, rfl, e1⟩ := bshapeS_nested h1
    obtain ⟨_, rfl, e3⟩ := bshapeS_nested h3
    obtain ⟨_, rfl, e2⟩ := bshapeS_nested h2
    obtain ⟨_, rfl, e4⟩ := bshapeS_nested h4
    rw [bshapeB_assoc e1 e2 e3 e4]
  | .plain _, .nested _, _, _, _, _, _, h1, _, _, _ => by cases h1
  | .nested _, .plain _, _, _, _, _, _, h1, _, _, _ => by cases h1
  | .plain _, .plain _, .nested _, _, _, _, _, _, _, h3, _ => by cases h3
  | .nested _, .nested _, .plain _, _, _, _, _, _, _, h3, _ => by cases h3

end Scico.OpAlg
