/-
  The matrix theorem on the repaired tree.  Soundness of every operation of the calculus: the denotation of each
  construction behind `a ± b`, `a(b)`, `a @ b` (`SumOf.sound`, `CompOf.sound`, `ProdOf.sound`), of the scalar arithmetic
  (`_wrap_mul_div_scalar`) and of the four views.  The main induction over expression trees: what scico builds for a
  linear expression denotes the dense matrix obtained by the same construction on the operands' matrices
  (`build_sound_conform`, `build_sound`; `infer_sound` is the form the property files call: metadata of `infer` and closures of
  `run` belong to one such object).  The predicates on expressions that the statements use are defined here: `Lin`, `AllC`,
  `SumsConform`, and `MatmulPlain` / `PlainDiagProducts`, which occur as hypotheses of the C05 / C12 statements only.  Last, which
  scalar factors the arithmetic refuses and accepts.
-/
import Scico.Proofs.OpAlgDiag

namespace Scico.OpAlg
attribute [local instance] starConj

section
variable {K : Type} [Field K] [StarRing K] [HasRe K]

set_option linter.unusedSectionVars false in
theorem opAddSub_absurd {a b o : Obj K} (sub : Bool) (h : opAddSub sub a b = .ok o) :
    o.md.cls = .op := opAddSub_cls h

theorem SumOf.sound {sub : Bool} {x y o : Obj K} {Dx Dy : Mx K} (h : SumOf sub x y o)
    (hx : Sound x Dx) (hy : Sound y Dy) : SoundD o (fun i j => pm sub (Dx i j) (Dy i j)) x.m x.n := by
  cases h with
  | op hc _ => exact (hc.elim hx.lin hy.lin).elim
  | lin _ _ hs => exact linAddSub_sound sub hx hy hs
  | diag h1 h2 hs h => exact diagAddSub_sound sub hx hy h1 h2 hs h
  | sid h1 h2 hs h => exact sidAddSub_sound sub hx hy h1 h2 hs h
  | mat hcx hcy hs => exact matSum_sound sub hx hy hcx hcy hs

theorem addSub_sound (sub : Bool) {a b o : Obj K} {Da Db : Mx K}
    (ha : Sound a Da) (hb : Sound b Db) (h : addSub Cfg.fixed sub a b = .ok o) :
    SoundD o (fun i j => pm sub (Da i j) (Db i j)) a.m a.n := by
  rcases addSub_out h with h | ⟨hbm, h⟩
  · exact h.sound ha hb
  · -- `a + b = b + a`, `a - b = (-b) + a`
    have hs := h.sameShape
    cases sub
    · obtain ⟨hS, hm, hn⟩ := h.sound hb ha
      exact ⟨hS.congr (fun i j _ _ => by simp only [pm, Bool.false_eq_true, if_false]; ring),
        hm.trans (sameShape_m hs), hn.trans (sameShape_n hs)⟩
    · obtain ⟨hS, hm, hn⟩ := h.sound (matNeg_sound hb hbm).1 ha
      exact ⟨hS.congr (fun i j _ _ => by simp only [pm, if_true, Bool.false_eq_true, if_false]; ring),
        hm.trans (sameShape_m hs), hn.trans (sameShape_n hs)⟩

theorem addSub_ok_sizes (sub : Bool) {a b o : Obj K} (h : addSub Cfg.fixed sub a b = .ok o) :
    a.m = b.m ∧ a.n = b.n := by
  rcases addSub_out h with h | ⟨_, h⟩
  · exact ⟨sameShape_m h.sameShape, sameShape_n h.sameShape⟩
  · have hs := h.sameShape
    cases sub
    · exact ⟨(sameShape_m hs).symm, (sameShape_n hs).symm⟩
    · exact ⟨((mkMat_m ..).symm.trans (sameShape_m hs)).symm, ((mkMat_n ..).symm.trans (sameShape_n hs)).symm⟩

set_option linter.unusedSectionVars false in
theorem opMul_cls {a o : Obj K} (c : Scal K) (h : opMul a c = .ok o) : o.md.cls = .op := by
  obtain ⟨_, h⟩ := ite_ok_error h; cases h; rfl

theorem smul_sound {a o : Obj K} {Da : Mx K} (c : Scal K) (ha : Sound a Da)
    (h : smul Cfg.fixed a c = .ok o) : SoundD o (fun i j => c.val * Da i j) a.m a.n :=
  arith_cases a.cls h (fun hc _ => absurd hc ha.lin)
    (fun hc => diagMul_sound c ha (Or.inl hc)) (sidMul_sound c ha) (matMulS_sound c ha)
    (fun _ => linMul_sound c ha)

theorem sdiv_sound {a o : Obj K} {Da : Mx K} (c : Scal K) (ha : Sound a Da)
    (h : sdiv Cfg.fixed a c = .ok o) : SoundD o (fun i j => Da i j / c.val) a.m a.n :=
  arith_cases a.cls h (fun hc _ => absurd hc ha.lin)
    (fun hc => diagDiv_sound c ha (Or.inl hc)) (sidDiv_sound c ha) (matDivS_sound c ha)
    (fun _ => linDiv_sound c ha)

theorem neg_sound {a o : Obj K} {Da : Mx K} (ha : Sound a Da) (h : neg Cfg.fixed a = .ok o) :
    SoundD o (fun i j => - Da i j) a.m a.n := by
  rcases ite_eq h with ⟨hc, h⟩ | ⟨_, h⟩
  · cases h
    exact matNeg_sound ha hc
  · obtain ⟨hS, hm, hn⟩ := smul_sound _ ha h
    exact ⟨hS.congr (fun i j _ _ => by ring), hm, hn⟩

theorem CompOf.sound {x y o : Obj K} {Dx Dy : Mx K} (h : CompOf x y o) (hx : Sound x Dx) (hy : Sound y Dy) :
    SoundD o (matMul x.n Dx Dy) x.m y.n := by
  have hk : x.n = y.m := conform_sizes h.conform
  cases h with
  | op hc _ => exact (hc.elim hx.lin hy.lin).elim
  | comp _ _ h => exact linComp_sound hx hy h
  | matId _ hid hsh => exact hx.comp_ident hy hid hsh
  | matMat hcx hcy _ => exact matMat_sound hx hy hcx hcy hk
  | matLin hcx _ _ hev => exact matLin_sound hx hy hcx hk hev

/-- a hypothesis of `C05_sound_closed` (and, through `PlainDiagProducts`, of the statements about expressions) that `ProdOf.sound`
    does not need; no proof uses it -/
def MatmulPlain (a b : Obj K) : Prop :=
  a.md.cls = .diag → IsDiagCls b.md.cls → DiagProductOk a b

theorem ProdOf.sound {x y o : Obj K} {Dx Dy : Mx K} (h : ProdOf x y o) (hx : Sound x Dx) (hy : Sound y Dy) :
    SoundD o (matMul x.n Dx Dy) x.m y.n := by
  cases h with
  | call _ h => exact h.sound hx hy
  | idR hid hsh => exact hx.comp_ident hy hid hsh
  | idL hid hsh => exact hx.ident_comp hy hid hsh
  | sidSid hcx hcy hsh => exact sidSid_sound hx hy hcx hcy hsh
  | sidDiag hcx hcy hsh h => exact sidDiag_sound hx hy hcx hcy hsh h
  | diagDiag hcx hcy hsh hbs h => exact diagMatmul_sound_all hx hy (Or.inl hcx) hcy hsh hbs h

theorem cls_cases_diag {c : Cls} (h : c = .diag ∨ c = .scaledId ∨ c = .ident) : IsDiagCls c := h

theorem opT_sound {a o : Obj K} {Da : Mx K} (ha : Sound a Da) (h : opT Cfg.fixed a = .ok o) :
    SoundD o (matT Da) a.n a.m :=
  view_cases (P := fun o => SoundD o (matT Da) a.n a.m) (matTop_sound ha)
    (fun hd h => by cases h; exact diagT_sound ha hd) (fun _ => linT_sound ha) h

theorem opH_sound {a o : Obj K} {Da : Mx K} (ha : Sound a Da) (h : opH Cfg.fixed a = .ok o) :
    SoundD o (matH Da) a.n a.m :=
  view_cases (P := fun o => SoundD o (matH Da) a.n a.m) (matHop_sound ha)
    (diagH_sound ha) (fun _ => linH_sound ha) h

theorem opConj_sound {a o : Obj K} {Da : Mx K} (ha : Sound a Da) (h : opConj Cfg.fixed a = .ok o) :
    SoundD o (matConj Da) a.m a.n :=
  view_cases (P := fun o => SoundD o (matConj Da) a.m a.n) (matConjOp_sound ha)
    (diagConj_sound ha) (fun _ => linConj_sound ha) h

theorem opGram_sound {a o : Obj K} {Da : Mx K} (ha : Sound a Da) (h : opGram Cfg.fixed a = .ok o) :
    SoundD o (matMul a.m (matH Da) Da) a.n a.n :=
  view_cases (P := fun o => SoundD o (matMul a.m (matH Da) Da) a.n a.n) (matGram_sound ha)
    (diagGram_sound ha) (fun _ => linGram_sound _ ha) h

/-- no non-linear leaf (`Operator(eval_fn)`) -/
def Lin : LExpr K → Prop
  | .nonlin _ _ _ _ _ => False
  | .mat _ _ _ _ | .diag _ _ _ _ _ | .scaledId _ _ _ _ | .ident _ _ | .lin _ _ _ _ _ _ => True
  | .add a b | .sub a b | .had _ a b | .comp a b | .matmul a b => Lin a ∧ Lin b
  | .neg a | .smulL _ a | .smulR a _ | .sdiv a _ | .rdiv _ a | .addS _ _ a _
  | .T a | .H a | .conj a | .gram a => Lin a

/-- every leaf is declared with complex dtypes -/
def AllC : LExpr K → Prop
  | .mat _ _ dt _ => dt.isComplex = true
  | .diag _ ddt _ inDt? _ => ddt.isComplex = true ∧ ∀ t, inDt? = some t → t.isComplex = true
  | .scaledId _ _ _ dt => dt.isComplex = true
  | .ident _ dt => dt.isComplex = true
  | .lin _ _ inDt _ _ _ => inDt.isComplex = true
  | .nonlin _ _ _ _ _ => True
  | .add a b | .sub a b | .had _ a b | .comp a b | .matmul a b => AllC a ∧ AllC b
  | .neg a | .smulL _ a | .smulR a _ | .sdiv a _ | .rdiv _ a | .addS _ _ a _
  | .T a | .H a | .conj a | .gram a => AllC a

/-- `MatmulPlain` at every `a @ b` of the expression ("plain" as in `DiagProductOk`).  The C05 / C12 statements keep it as a
    hypothesis; `build_sound`, `infer_sound`, `build_denF` are the same conclusions without it, and no proof uses it -/
def PlainDiagProducts : LExpr K → Prop
  | .matmul a b =>
    PlainDiagProducts a ∧ PlainDiagProducts b
      ∧ ∀ oa ob, build a = .ok oa → build b = .ok ob → MatmulPlain oa ob
  | .add a b | .sub a b | .had _ a b | .comp a b => PlainDiagProducts a ∧ PlainDiagProducts b
  | .neg a | .smulL _ a | .smulR a _ | .sdiv a _ | .rdiv _ a | .addS _ _ a _
  | .T a | .H a | .conj a | .gram a => PlainDiagProducts a
  | _ => True

/-- the operands of every sum have the same number of columns -/
def SumsConform : LExpr K → Prop
  | .add a b | .sub a b => SumsConform a ∧ SumsConform b ∧ (dims a).2 = (dims b).2
  | .had _ a b | .comp a b | .matmul a b => SumsConform a ∧ SumsConform b
  | .neg a | .smulL _ a | .smulR a _ | .sdiv a _ | .rdiv _ a | .addS _ _ a _
  | .T a | .H a | .conj a | .gram a => SumsConform a
  | _ => True

theorem allC_left {a b : LExpr K} (h : RealK K ∨ (AllC a ∧ AllC b)) : RealK K ∨ AllC a := h.imp id (·.1)
theorem allC_right {a b : LExpr K} (h : RealK K ∨ (AllC a ∧ AllC b)) : RealK K ∨ AllC b := h.imp id (·.2)

/-- **Main lemma.**  On the repaired tree, whatever scico builds for a linear expression denotes
    `den e`, a `dims e` matrix, and only operands with the same number of columns have been added (`SumsConform`, which
    `denF_eq_den` needs). -/
theorem build_sound_conform (e : LExpr K) (o : Obj K) (hl : Lin e) (hM : RealK K ∨ AllC e)
    (h : build e = .ok o) :
    SoundD o (den e) (dims e).1 (dims e).2 ∧ SumsConform e := by
  revert hl hM
  refine build_ind (P := fun e o => Lin e → (RealK K ∨ AllC e) →
    SoundD o (den e) (dims e).1 (dims e).2 ∧ SumsConform e) ?mat ?diag ?scaledId ?ident ?lin ?nonlin ?add ?sub ?neg ?smulL ?smulR ?sdiv ?rdiv ?addS ?had ?comp ?matmul ?T ?H ?conj ?gram e o h
  case mat =>
    intro m n dt A _ hM
    exact ⟨mkMat_sound _ _ _ _ _ (fun i j hi hj => by simp [den, hi, hj]) hM, trivial⟩
  case diag =>
    intro dsh ddt inSh? inDt? d o h _ hM
    obtain ⟨hS, hi, hbo⟩ := mkDiag_sound _ _ _ _ _ _ h (hM.imp id getD_complex)
    have hm : o.m = (dims (LExpr.diag dsh ddt inSh? inDt? d)).1 := by
      simp only [dims, hbo, Obj.m]
    have hn : o.n = (dims (LExpr.diag dsh ddt inSh? inDt? d)).2 := by
      simp only [dims, hbo, Obj.n, hi]
    refine ⟨⟨hS.congr (fun i j hi' hj' => ?_), hm, hn⟩, trivial⟩
    simp only [den, hbo, diagMx, selMx]
    have h1 : i < o.md.outShape.size := hi'
    have h2 : j < (inSh?.getD dsh).size := by rw [← hi]; exact hj'
    simp [h1, h2]
  case scaledId =>
    intro c ck sh dt _ hM
    refine ⟨⟨(mkSid_sound _ _ _ _ _ hM).congr (fun i j hi _ => ?_), rfl, rfl⟩, trivial⟩
    have : i < sh.size := hi
    simp [den, this]
  case ident =>
    intro sh dt _ hM
    refine ⟨⟨(mkIdent_sound _ _ hM).congr (fun i j hi _ => ?_), rfl, rfl⟩, trivial⟩
    have : i < sh.size := hi
    simp [den, this]
  case lin => exact fun _ _ _ _ _ _ _ hM => ⟨mkLinLeaf_sound _ _ _ _ _ _ hM, trivial⟩
  case nonlin => exact fun _ _ _ _ _ hl => hl.elim
  case add => exact fun a b oa ob o _ _ pa pb h hl hM =>
    let ⟨⟨hSa, hma, hna⟩, ca⟩ := pa hl.1 (allC_left hM)
    let ⟨⟨hSb, _, hnb⟩, cb⟩ := pb hl.2 (allC_right hM)
    ⟨(addSub_sound false hSa hSb h).cast hma hna, ca, cb, hna ▸ hnb ▸ (addSub_ok_sizes false h).2⟩
  case sub => exact fun a b oa ob o _ _ pa pb h hl hM =>
    let ⟨⟨hSa, hma, hna⟩, ca⟩ := pa hl.1 (allC_left hM)
    let ⟨⟨hSb, _, hnb⟩, cb⟩ := pb hl.2 (allC_right hM)
    ⟨(addSub_sound true hSa hSb h).cast hma hna, ca, cb, hna ▸ hnb ▸ (addSub_ok_sizes true h).2⟩
  case neg => exact fun a oa o _ pa h hl hM =>
    let ⟨⟨hSa, hma, hna⟩, ca⟩ := pa hl hM; ⟨(neg_sound hSa h).cast hma hna, ca⟩
  case smulL => exact fun c a oa o _ pa h hl hM =>
    let ⟨⟨hSa, hma, hna⟩, ca⟩ := pa hl hM; ⟨(smul_sound c hSa h).cast hma hna, ca⟩
  case smulR => exact fun a c oa o _ pa h hl hM =>
    let ⟨⟨hSa, hma, hna⟩, ca⟩ := pa hl hM; ⟨(smul_sound c hSa h).cast hma hna, ca⟩
  case sdiv => exact fun a c oa o _ pa h hl hM =>
    let ⟨⟨hSa, hma, hna⟩, ca⟩ := pa hl hM; ⟨(sdiv_sound c hSa h).cast hma hna, ca⟩
  case rdiv =>
    intro c a oa o _ pa hc h hl hM
    obtain ⟨⟨hSa, hma, hna⟩, ca⟩ := pa hl hM
    have hS := matRDivS_sound c hSa hc h
    rw [hma, hna] at hS; exact ⟨hS, ca⟩
  case addS =>
    intro sub rev a c oa o _ pa hc h hl hM
    obtain ⟨⟨hSa, hma, hna⟩, ca⟩ := pa hl hM
    have hS := matAddSubS_sound sub rev c hSa hc h
    rw [hma, hna] at hS; exact ⟨hS, ca⟩
  case had =>
    intro div a b oa ob o _ _ pa pb hc h hl hM
    obtain ⟨⟨hSa, hma, hna⟩, ca⟩ := pa hl.1 (allC_left hM)
    obtain ⟨⟨hSb, _, _⟩, cb⟩ := pb hl.2 (allC_right hM)
    exact ⟨(matHadamard_sound div hSa hSb hc h).cast hma hna, ca, cb⟩
  case comp =>
    intro a b oa ob o _ _ pa pb h hl hM
    obtain ⟨⟨hSa, hma, hna⟩, ca⟩ := pa hl.1 (allC_left hM)
    obtain ⟨⟨hSb, _, hnb⟩, cb⟩ := pb hl.2 (allC_right hM)
    obtain ⟨hS, hm, hn⟩ := (call_out h).sound hSa hSb
    refine ⟨⟨?_, hm.trans hma, hn.trans hnb⟩, ca, cb⟩
    simp only [den]; rw [← hna]; exact hS
  case matmul =>
    intro a b oa ob o _ _ pa pb h hl hM
    obtain ⟨⟨hSa, hma, hna⟩, ca⟩ := pa hl.1 (allC_left hM)
    obtain ⟨⟨hSb, _, hnb⟩, cb⟩ := pb hl.2 (allC_right hM)
    obtain ⟨hS, hm, hn⟩ := (matmul_out h).sound hSa hSb
    refine ⟨⟨?_, hm.trans hma, hn.trans hnb⟩, ca, cb⟩
    simp only [den]; rw [← hna]; exact hS
  case T => exact fun a oa o _ pa h hl hM =>
    let ⟨⟨hSa, hma, hna⟩, ca⟩ := pa hl hM; ⟨(opT_sound hSa h).cast hna hma, ca⟩
  case H => exact fun a oa o _ pa h hl hM =>
    let ⟨⟨hSa, hma, hna⟩, ca⟩ := pa hl hM; ⟨(opH_sound hSa h).cast hna hma, ca⟩
  case conj => exact fun a oa o _ pa h hl hM =>
    let ⟨⟨hSa, hma, hna⟩, ca⟩ := pa hl hM; ⟨(opConj_sound hSa h).cast hma hna, ca⟩
  case gram =>
    intro a oa o _ pa h hl hM
    obtain ⟨⟨hSa, hma, hna⟩, ca⟩ := pa hl hM
    obtain ⟨hS, hm, hn⟩ := opGram_sound hSa h
    refine ⟨⟨?_, hm.trans hna, hn.trans hna⟩, ca⟩
    simp only [den]; rw [← hma]; exact hS

theorem build_sound (e : LExpr K) (o : Obj K) (hl : Lin e) (hM : RealK K ∨ AllC e) (h : build e = .ok o) :
    SoundD o (den e) (dims e).1 (dims e).2 :=
  (build_sound_conform e o hl hM h).1

theorem of_infer {e : LExpr K} {m : Meta} (hm : infer e = .ok m) :
    ∃ o, build e = .ok o ∧ o.md = m ∧ run e = o.impl := by
  obtain ⟨o, hb, hmd⟩ := map_eq_ok.1 hm
  refine ⟨o, hb, hmd, ?_⟩
  unfold run runC
  rw [hb]

/-- what `infer` declares and `run` computes for a linear expression: the metadata and the closures of one object that
    denotes `den e` -/
theorem infer_sound {e : LExpr K} {m : Meta} (hm : infer e = .ok m) (hl : Lin e)
    (hM : RealK K ∨ AllC e) : ∃ o, SoundD o (den e) (dims e).1 (dims e).2 ∧ o.md = m ∧ run e = o.impl :=
  let ⟨o, hb, hmd, hr⟩ := of_infer hm
  ⟨o, build_sound e o hl hM hb, hmd, hr⟩

/-- a factor that is not scalar-equivalent is rejected by every class, with `TypeError` except for
    `MatrixOperator` and an array factor (shape comparison: `ValueError`) -/
theorem smul_reject_nonscalar (cfg : Cfg) (a : Obj K) (c : Scal K)
    (hc : c.kind.isScalarEquiv = false) :
    smul cfg a c = .error .type ∨ (a.cls = .matrix ∧ c.kind = .arr ∧ smul cfg a c = .error .shape) :=
  scal_reject hc (fun hk => by simp [matMulS, hk, ScalKind.npIsScalar, ScalKind.isArray])
    (fun hk => by simp [matMulS, hk]) rfl

theorem sdiv_reject_nonscalar (cfg : Cfg) (a : Obj K) (c : Scal K)
    (hc : c.kind.isScalarEquiv = false) :
    sdiv cfg a c = .error .type ∨ (a.cls = .matrix ∧ c.kind = .arr ∧ sdiv cfg a c = .error .shape) :=
  scal_reject hc (fun hk => by simp [matDivS, hk, ScalKind.npIsScalar, ScalKind.isArray])
    (fun hk => by simp [matDivS, hk]) rfl

/-- a scalar-equivalent factor is accepted by `Operator`, `LinearOperator`, `ComposedLinearOperator`, `ScaledIdentity`
    and `Identity` (`Diagonal` rebuilds through `Diagonal.__init__`, `MatrixOperator` requires `numpy.isscalar`) -/
theorem smul_accepts_scalar (a : Obj K) (c : Scal K) (hc : c.kind.isScalarEquiv = true)
    (hcls : a.cls = .linop ∨ a.cls = .composed ∨ a.cls = .op ∨ a.cls = .scaledId ∨ a.cls = .ident) :
    ∃ o, smul Cfg.fixed a c = .ok o := by
  unfold smul
  rcases hcls with h | h | h | h | h <;>
    simp [h, Cls.arith, linMul, opMul, sidMul, hc]

end
end Scico.OpAlg
