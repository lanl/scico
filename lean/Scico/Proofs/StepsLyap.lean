/-
  Proofs/StepsLyap — property C03: the ADMM Lyapunov argument (Boyd et al. 2010, §3.3 / appendix A with `y = ρu`,
  `B = −I`; Eckstein–Bertsekas for the relaxed iteration), `alpha = 1`, `N` constraints:
  `V = Σ_i ρ_i (‖u_i − u_i*‖² + ‖z_i − z_i*‖²)` decreases along the documented iteration by at least
  `Σ ρ_i (‖C_i x⁺ − z_i⁺‖² + ‖z_i⁺ − z_i‖²)`.

  The argument is the monotone-operator form of Boyd's proof: the sub-gradient inclusions (x-update stationarity,
  z-update certificate, KKT point) are combined through monotonicity of `∂f`, `∂g`.  Per constraint this leaves one
  identity between inner products of the constraint space, stated in variables: `relaxW_row`, for the
  Douglas–Rachford quantity `W = ρ‖(z + u) − (z* + u*)‖²` and any relaxation `alpha` (summed in `StepsRelax`); the
  inequality `lyapV_row` for `V` is its case `alpha = 1`.

  The constraints and the per-constraint parts of the state are bundled in rows `(c, z, u, us)` so that every sum runs
  over one list; the ADMM parameters / state of the model are recovered with `List.map` (`admm_relax_step_eq`, for every
  `alpha`).  The rows are summed against monotonicity of `∂f` between `x⁺` and `x*`.

  The descent is proved for states given by rows (`admm_lyapunov_rows`; every state with lists of the right length is one,
  `exists_rows` in `StepsRelax`).  `admm_lyapunov_stmt` only writes the same on the lists of the model; no theorem has that form.
-/
import Scico.Proofs.StepsFixed
import Mathlib.Tactic.Abel
import Mathlib.Tactic.LinearCombination

set_option linter.unusedSectionVars false

namespace Scico.Steps

variable {X Z : Type} [NormedAddCommGroup X] [InnerProductSpace ℝ X]
  [NormedAddCommGroup Z] [InnerProductSpace ℝ Z]

/-- the identity of the `W`-argument, relaxation `alpha`: the new `z⁺ + u⁺` is `(z + u) + α (cx − z)` whatever the
    proximal map returns (`cx = C x⁺`; KKT point `(zs, us)`).  With `e_z = z − zs`, `e_u = u − us`, `p = cx − zs`,
    `q = p − e_z`: `⟪e_z + e_u, q⟫ + ‖q‖² + ⟪e_z − e_u − p, p⟫ = −⟪e_u, e_z⟫`.  The first inner product of the
    statement is the constraint's share of the `∂f`-monotonicity term. -/
theorem relaxW_row (alpha : ℝ) (z u us zs cx : Z) :
    ‖z + u - (zs + us) + alpha • (cx - z)‖ ^ 2 + alpha * (2 - alpha) * ‖cx - z‖ ^ 2
        + 2 * alpha * ⟪z - u - cx - (zs - us - zs), cx - zs⟫ + 2 * alpha * ⟪u - us, z - zs⟫
      = ‖z + u - (zs + us)‖ ^ 2 := by
  rw [show z + u - (zs + us) = (z - zs) + (u - us) by abel, show cx - z = (cx - zs) - (z - zs) by abel,
    show z - u - cx - (zs - us - zs) = (z - zs) - (u - us) - (cx - zs) by abel]
  generalize z - zs = ez, u - us = eu, cx - zs = p
  have hid : ⟪ez + eu, p - ez⟫ + ‖p - ez‖ ^ 2 + ⟪ez - eu - p, p⟫ = -⟪eu, ez⟫ := by
    rw [← real_inner_self_eq_norm_sq]
    simp only [inner_add_left, inner_sub_left, inner_sub_right]
    linarith [real_inner_comm p ez, real_inner_comm eu ez, real_inner_comm eu p]
  rw [norm_add_sq_real, inner_smul_right, norm_smul, mul_pow, Real.norm_eq_abs, sq_abs]
  linear_combination (2 * alpha) * hid

/-- the `V`-argument is the case `alpha = 1`: for the new `z⁺ = zn`, `u⁺ = u + cx − zn` split
    `W⁺ = ‖u⁺ − us‖² + 2⟪u⁺ − us, zn − zs⟫ + ‖zn − zs‖²` and `‖cx − z‖² = ‖cx − zn‖² + 2⟪cx − zn, zn − z⟫ + ‖zn − z‖²`
    and drop the cross terms: `h2`, `h3` are monotonicity of `∂g` between the new iterate and the KKT point / the
    current iterate. -/
theorem lyapV_row (z u zn us zs cx : Z) (h2 : 0 ≤ ⟪u + cx - zn - us, zn - zs⟫)
    (h3 : 0 ≤ ⟪u + cx - zn - u, zn - z⟫) :
    ‖u + cx - zn - us‖ ^ 2 + ‖zn - zs‖ ^ 2 + (‖cx - zn‖ ^ 2 + ‖zn - z‖ ^ 2)
        + 2 * ⟪z - u - cx - (zs - us - zs), cx - zs⟫
      ≤ ‖u - us‖ ^ 2 + ‖z - zs‖ ^ 2 := by
  have hW := relaxW_row 1 z u us zs cx
  rw [one_smul, show z + u - (zs + us) + (cx - z) = (u + cx - zn - us) + (zn - zs) by abel,
    show z + u - (zs + us) = (u - us) + (z - zs) by abel, show cx - z = (cx - zn) + (zn - z) by abel,
    norm_add_sq_real, norm_add_sq_real, norm_add_sq_real] at hW
  rw [show u + cx - zn - u = cx - zn by abel] at h3
  linarith

/-- certificate of a backward step: `ρ(v − zn) ∈ ∂g(zn)` for `zn = prox_{g/ρ}(v)`, whatever `v` is -/
theorem Con.feasible_at (c : Con X Z) (hrho : 0 < c.rho) (hprox : IsProx c.G c.prox) (v : Z) :
    c.G.Subgrad (c.prox (1 / c.rho) v) (c.rho • (v - c.prox (1 / c.rho) v)) := by
  have := hprox (1 / c.rho) (one_div_pos.2 hrho) v
  rwa [one_div_one_div] at this

/-- … so after the z-update `zn = prox_{g/ρ}(w + u)` the new multiplier `u + w − zn` is dual feasible -/
theorem Con.feasible (c : Con X Z) (hrho : 0 < c.rho) (hprox : IsProx c.G c.prox) (w u : Z) :
    c.G.Subgrad (c.prox (1 / c.rho) (w + u)) (c.rho • (u + w - c.prox (1 / c.rho) (w + u))) := by
  rw [add_comm u w]
  exact c.feasible_at hrho hprox (w + u)

/-- one constraint's share of a difference of `xGrad`s, moved into the constraint space through the adjoint -/
theorem Con.inner_xterm (c : Con X Z) (hadd : ∀ x y, c.C (x - y) = c.C x - c.C y)
    (hadj : ∀ w x, ⟪c.Cadj w, x⟫ = ⟪w, c.C x⟫) (w w' : Z) (x x' : X) :
    ⟪c.rho • c.Cadj w - c.rho • c.Cadj w', x - x'⟫ = c.rho * ⟪w - w', c.C x - c.C x'⟫ := by
  rw [← smul_sub, real_inner_smul_left, inner_sub_left, hadj, hadj, ← inner_sub_left, hadd]

def lyapV (cons : List (Con X Z)) (zs us z u : List Z) : ℝ :=
  ((cons.zip ((zs.zip us).zip (z.zip u))).map
    (fun t => t.1.rho * (‖t.2.2.2 - t.2.1.2‖ ^ 2 + ‖t.2.2.1 - t.2.1.1‖ ^ 2))).sum

/-- descent of `lyapV` for `N` constraints (`alpha = 1`) written on the lists of the model: a proposition only, which nothing
    proves or uses; the theorem is `admm_lyapunov_rows` -/
def admm_lyapunov_stmt : Prop :=
  ∀ (X Z : Type) [NormedAddCommGroup X] [InnerProductSpace ℝ X] [NormedAddCommGroup Z] [InnerProductSpace ℝ Z]
    (cons : List (Con X Z)) (f : Option (X → ℝ)) (solveX : List Z → List Z → X → X) (F : Fn X),
    XSolver F cons solveX →
    (∀ c ∈ cons, (∀ x y, c.C (x - y) = c.C x - c.C y) ∧ (∀ w x, inner ℝ (c.Cadj w) x = inner ℝ w (c.C x)) ∧
      0 < c.rho ∧ IsProx c.G c.prox) →
    ∀ (xs : X) (us : List Z),
      List.Forall₂ (fun (c : Con X Z) u => c.G.Subgrad (c.C xs) (c.rho • u)) cons us →
      F.Subgrad xs (xGrad cons (cons.map (fun c => c.C xs)) us xs) →
      ∀ (s : ADMMState X Z), s.z.length = cons.length → s.u.length = cons.length →
        List.Forall₂ (fun (c : Con X Z) (zu : Z × Z) => c.G.Subgrad zu.1 (c.rho • zu.2)) cons (s.z.zip s.u) →
        lyapV cons (cons.map (fun c => c.C xs)) us (admmSpecStep (admmOfCons f 1 solveX cons) s).z
            (admmSpecStep (admmOfCons f 1 solveX cons) s).u
          ≤ lyapV cons (cons.map (fun c => c.C xs)) us s.z s.u

/-- one constraint with its part of the current state (`z`, `u`) and of the KKT point (`us`; `zs = C xs`) -/
structure Row (X Z : Type) where
  c : Con X Z
  z : Z
  u : Z
  us : Z

/-- new `z_i`, `u_i` of a row given the new `x` (documented update, `alpha = 1`) -/
noncomputable def Row.zn (r : Row X Z) (xn : X) : Z := r.c.prox (1 / r.c.rho) (r.c.C xn + r.u)
noncomputable def Row.un (r : Row X Z) (xn : X) : Z := r.u + r.c.C xn - r.zn xn

/-- relaxed point `ĉ_i = α C_i x⁺ + (1−α) z_i` and the documented `z`/`u` update of a row -/
noncomputable def Row.chat (r : Row X Z) (alpha : ℝ) (xn : X) : Z := alpha • r.c.C xn + (1 - alpha) • r.z
noncomputable def Row.znA (r : Row X Z) (alpha : ℝ) (xn : X) : Z := r.c.prox (1 / r.c.rho) (r.chat alpha xn + r.u)
noncomputable def Row.unA (r : Row X Z) (alpha : ℝ) (xn : X) : Z := r.u + r.chat alpha xn - r.znA alpha xn

/-- the argument of the proximal map, and with it the sum `z⁺ + u⁺` whatever the proximal map returns, is
    `z + u + α (C x⁺ − z)`: the one equation the `W`-argument rests on -/
theorem Row.chat_add_u (r : Row X Z) (alpha : ℝ) (xn : X) :
    r.chat alpha xn + r.u = r.z + r.u + alpha • (r.c.C xn - r.z) := by
  simp only [Row.chat, sub_smul, one_smul, smul_sub]; abel

theorem Row.znA_add_unA (r : Row X Z) (alpha : ℝ) (xn : X) :
    r.znA alpha xn + r.unA alpha xn = r.z + r.u + alpha • (r.c.C xn - r.z) := by
  rw [Row.unA, add_sub_cancel, add_comm, r.chat_add_u]

theorem admmSpecZU_rowsA (alpha : ℝ) (xn : X) (rows : List (Row X Z)) :
    admmSpecZU alpha xn (rows.map (·.c.rho)) (rows.map (·.c.prox)) (rows.map (·.c.C)) (rows.map (·.z))
        (rows.map (·.u))
      = rows.map (fun r => (r.znA alpha xn, r.unA alpha xn)) := by
  induction rows with
  | nil => simp [admmSpecZU]
  | cons r rs ih =>
    simp only [List.map_cons, admmSpecZU, ih]
    rfl

theorem Row.znA_one (r : Row X Z) (xn : X) : r.znA 1 xn = r.zn xn := by
  simp only [Row.znA, Row.zn, Row.chat, one_smul, sub_self, zero_smul, add_zero]

theorem Row.unA_one (r : Row X Z) (xn : X) : r.unA 1 xn = r.un xn := by
  simp only [Row.unA, Row.un, Row.znA_one, Row.chat, one_smul, sub_self, zero_smul, add_zero]

theorem xGrad_rows (rows : List (Row X Z)) (zf uf : Row X Z → Z) (x : X) :
    xGrad (rows.map (·.c)) (rows.map zf) (rows.map uf) x
      = (rows.map (fun r => r.c.rho • r.c.Cadj (zf r - uf r - r.c.C x))).sum := by
  unfold xGrad
  congr 1
  induction rows with
  | nil => simp
  | cons r rs ih => simpa using ih

theorem inner_list_sum {ι : Type} (l : List ι) (f : ι → X) (v : X) :
    ⟪(l.map f).sum, v⟫ = (l.map (fun i => ⟪f i, v⟫)).sum := by
  induction l with
  | nil => simp
  | cons a l ih => simp [inner_add_left, ih]

theorem list_sum_map_sub {ι M : Type} [AddCommGroup M] (l : List ι) (f g : ι → M) :
    (l.map f).sum - (l.map g).sum = (l.map (fun i => f i - g i)).sum := by
  induction l with
  | nil => simp
  | cons a l ih =>
    simp only [List.map_cons, List.sum_cons]
    rw [← ih]
    abel

theorem inner_xGrad_sub_rows (rows : List (Row X Z)) (zf uf zf' uf' : Row X Z → Z) (x x' v : X) :
    ⟪xGrad (rows.map (·.c)) (rows.map zf) (rows.map uf) x - xGrad (rows.map (·.c)) (rows.map zf') (rows.map uf') x', v⟫
      = (rows.map (fun r => ⟪r.c.rho • r.c.Cadj (zf r - uf r - r.c.C x)
          - r.c.rho • r.c.Cadj (zf' r - uf' r - r.c.C x'), v⟫)).sum := by
  rw [xGrad_rows, xGrad_rows, list_sum_map_sub, inner_list_sum]

theorem list_sum_le_of_forall_c {ι : Type} (l : List ι) (c : ℝ) (f g h : ι → ℝ)
    (H : ∀ i ∈ l, f i + c * h i ≤ g i) :
    (l.map f).sum + c * (l.map h).sum ≤ (l.map g).sum := by
  have := List.sum_le_sum H
  rwa [List.sum_map_add, List.sum_map_mul_left] at this

/-- the documented step in terms of rows, any `alpha` (no hypotheses) -/
theorem admm_relax_step_eq (alpha : ℝ) (rows : List (Row X Z)) (f : Option (X → ℝ))
    (solveX : List Z → List Z → X → X) (x : X) (zOld : List Z) :
    admmSpecStep (admmOfCons f alpha solveX (rows.map (·.c)))
        { x := x, z := rows.map (·.z), zOld := zOld, u := rows.map (·.u) }
      = { x := solveX (rows.map (·.z)) (rows.map (·.u)) x,
          z := rows.map (fun r => r.znA alpha (solveX (rows.map (·.z)) (rows.map (·.u)) x)),
          zOld := rows.map (·.z),
          u := rows.map (fun r => r.unA alpha (solveX (rows.map (·.z)) (rows.map (·.u)) x)) } := by
  unfold admmSpecStep admmOfCons
  simp only [List.map_map]
  have := admmSpecZU_rowsA alpha (solveX (rows.map (·.z)) (rows.map (·.u)) x) rows
  simp only [Function.comp_def] at this ⊢
  rw [this]
  simp [List.map_map, Function.comp_def]

/-- what the Lyapunov arguments ask of a row: `C` subtractive with adjoint `Cadj`, `ρ > 0`, the proximal contract, the KKT
    inclusion of the multiplier `us` at `x*` (`kkt`) and dual feasibility of the current state, `ρ u ∈ ∂g(z)` (`pre`) -/
structure RowOK (xs : X) (r : Row X Z) : Prop where
  add : ∀ x y, r.c.C (x - y) = r.c.C x - r.c.C y
  adj : ∀ w x, ⟪r.c.Cadj w, x⟫ = ⟪w, r.c.C x⟫
  rho : 0 < r.c.rho
  prox : IsProx r.c.G r.c.prox
  kkt : r.c.G.Subgrad (r.c.C xs) (r.c.rho • r.us)
  pre : r.c.G.Subgrad r.z (r.c.rho • r.u)

noncomputable def rowsV (xs : X) (rows : List (Row X Z)) (zf uf : Row X Z → Z) : ℝ :=
  (rows.map (fun r => r.c.rho * (‖uf r - r.us‖ ^ 2 + ‖zf r - r.c.C xs‖ ^ 2))).sum

theorem row_lyapV (xs xn : X) (r : Row X Z) (h : RowOK xs r) :
    r.c.rho * (‖r.un xn - r.us‖ ^ 2 + ‖r.zn xn - r.c.C xs‖ ^ 2)
        + r.c.rho * (‖r.c.C xn - r.zn xn‖ ^ 2 + ‖r.zn xn - r.z‖ ^ 2)
        + 2 * ⟪r.c.rho • r.c.Cadj (r.z - r.u - r.c.C xn) - r.c.rho • r.c.Cadj (r.c.C xs - r.us - r.c.C xs), xn - xs⟫
      ≤ r.c.rho * (‖r.u - r.us‖ ^ 2 + ‖r.z - r.c.C xs‖ ^ 2) ∧
    r.c.G.Subgrad (r.zn xn) (r.c.rho • r.un xn) := by
  have hb : r.c.G.Subgrad (r.zn xn) (r.c.rho • r.un xn) := r.c.feasible h.rho h.prox (r.c.C xn) r.u
  refine ⟨?_, hb⟩
  have key := mul_le_mul_of_nonneg_left
    (lyapV_row r.z r.u (r.zn xn) r.us (r.c.C xs) (r.c.C xn) (Fn.subgrad_smul_monotone h.rho hb h.kkt)
      (Fn.subgrad_smul_monotone h.rho hb h.pre)) h.rho.le
  rw [r.c.inner_xterm h.add h.adj]
  simp only [Row.un]
  linarith

theorem admm_lyapunov_rows (rows : List (Row X Z)) (f : Option (X → ℝ)) (solveX : List Z → List Z → X → X)
    (F : Fn X)
    (hsolve : ∀ z u x0, F.Subgrad (solveX z u x0) (xGrad (rows.map (·.c)) z u (solveX z u x0)))
    (xs : X) (hok : ∀ r ∈ rows, RowOK xs r)
    (hkx : F.Subgrad xs (xGrad (rows.map (·.c)) (rows.map (fun r => r.c.C xs)) (rows.map (·.us)) xs))
    (x : X) (zOld : List Z) :
    let xn := solveX (rows.map (·.z)) (rows.map (·.u)) x
    admmSpecStep (admmOfCons f 1 solveX (rows.map (·.c)))
        { x := x, z := rows.map (·.z), zOld := zOld, u := rows.map (·.u) }
      = { x := xn, z := rows.map (fun r => r.zn xn), zOld := rows.map (·.z), u := rows.map (fun r => r.un xn) } ∧
    (∀ r ∈ rows, r.c.G.Subgrad (r.zn xn) (r.c.rho • r.un xn)) ∧
    rowsV xs rows (fun r => r.zn xn) (fun r => r.un xn)
        + (rows.map (fun r => r.c.rho * (‖r.c.C xn - r.zn xn‖ ^ 2 + ‖r.zn xn - r.z‖ ^ 2))).sum
      ≤ rowsV xs rows (·.z) (·.u) := by
  intro xn
  refine ⟨?_, fun r hr => (row_lyapV xs xn r (hok r hr)).2, ?_⟩
  · rw [admm_relax_step_eq]
    simp only [Row.znA_one, Row.unA_one]
    rfl
  · -- monotonicity of `∂F` between the x-update and `x*`, as a sum over rows
    have m1 := Fn.subgrad_monotone (hsolve (rows.map (·.z)) (rows.map (·.u)) x) hkx
    rw [inner_xGrad_sub_rows rows (·.z) (·.u) (fun r => r.c.C xs) (·.us)] at m1
    have key := list_sum_le_of_forall_c rows 2 _ _ _ (fun r hr => (row_lyapV xs xn r (hok r hr)).1)
    rw [List.sum_map_add] at key
    unfold rowsV
    linarith

theorem admm_lyapunov_single (c : Con X Z) (f : Option (X → ℝ)) (solveX : List Z → List Z → X → X)
    (F : Fn X) (hsolve : ∀ z u x0, F.Subgrad (solveX z u x0) (xGrad [c] z u (solveX z u x0)))
    (hC : ∀ x y, c.C (x - y) = c.C x - c.C y) (hadj : ∀ w x, ⟪c.Cadj w, x⟫ = ⟪w, c.C x⟫)
    (hrho : 0 < c.rho) (hprox : IsProx c.G c.prox)
    (xs : X) (us : Z) (hkx : F.Subgrad xs (xGrad [c] [c.C xs] [us] xs)) (hkz : c.G.Subgrad (c.C xs) (c.rho • us))
    (x : X) (z zOld u : Z) (hpre : c.G.Subgrad z (c.rho • u)) :
    let s' := admmSpecStep (admmOfCons f 1 solveX [c]) { x := x, z := [z], zOld := [zOld], u := [u] }
    ∃ xn zn un, s' = { x := xn, z := [zn], zOld := [z], u := [un] } ∧
      c.G.Subgrad zn (c.rho • un) ∧
      c.rho * (‖un - us‖ ^ 2 + ‖zn - c.C xs‖ ^ 2) + c.rho * (‖c.C xn - zn‖ ^ 2 + ‖zn - z‖ ^ 2)
        ≤ c.rho * (‖u - us‖ ^ 2 + ‖z - c.C xs‖ ^ 2) := by
  intro s'
  have hok : ∀ r ∈ [(⟨c, z, u, us⟩ : Row X Z)], RowOK xs r := by
    intro r hr
    rw [List.mem_singleton] at hr
    subst hr
    exact ⟨hC, hadj, hrho, hprox, hkz, hpre⟩
  obtain ⟨hs, hf, hd⟩ := admm_lyapunov_rows [⟨c, z, u, us⟩] f solveX F hsolve xs hok hkx x [zOld]
  refine ⟨_, _, _, hs, hf _ (List.mem_singleton_self _), ?_⟩
  simpa only [rowsV, List.map_cons, List.map_nil, List.sum_cons, List.sum_nil, add_zero] using hd

theorem admm_lyapunov_traj (c : Con X Z) (f : Option (X → ℝ)) (solveX : List Z → List Z → X → X)
    (F : Fn X) (hsolve : ∀ z u x0, F.Subgrad (solveX z u x0) (xGrad [c] z u (solveX z u x0)))
    (hC : ∀ x y, c.C (x - y) = c.C x - c.C y) (hadj : ∀ w x, ⟪c.Cadj w, x⟫ = ⟪w, c.C x⟫)
    (hrho : 0 < c.rho) (hprox : IsProx c.G c.prox)
    (xs : X) (us : Z) (hkx : F.Subgrad xs (xGrad [c] [c.C xs] [us] xs)) (hkz : c.G.Subgrad (c.C xs) (c.rho • us))
    (k : Nat) :
    ∀ (x : X) (z zOld u : Z), c.G.Subgrad z (c.rho • u) →
      ∃ xk zk zo uk,
        iter (admmSpecStep (admmOfCons f 1 solveX [c])) k { x := x, z := [z], zOld := [zOld], u := [u] }
          = { x := xk, z := [zk], zOld := [zo], u := [uk] } ∧
        c.G.Subgrad zk (c.rho • uk) ∧
        c.rho * (‖uk - us‖ ^ 2 + ‖zk - c.C xs‖ ^ 2) ≤ c.rho * (‖u - us‖ ^ 2 + ‖z - c.C xs‖ ^ 2) := by
  induction k with
  | zero =>
    intro x z zOld u hpre
    exact ⟨x, z, zOld, u, rfl, hpre, le_refl _⟩
  | succ k ih =>
    intro x z zOld u hpre
    obtain ⟨xn, zn, un, hs, hfeas, hdec⟩ :=
      admm_lyapunov_single c f solveX F hsolve hC hadj hrho hprox xs us hkx hkz x z zOld u hpre
    obtain ⟨xk, zk, zo, uk, hk1, hk2, hk3⟩ := ih xn zn z un hfeas
    refine ⟨xk, zk, zo, uk, ?_, hk2, ?_⟩
    · simp only [iter]
      rw [hs]
      exact hk1
    · have : 0 ≤ c.rho * (‖c.C xn - zn‖ ^ 2 + ‖zn - z‖ ^ 2) := by positivity
      linarith

end Scico.Steps
