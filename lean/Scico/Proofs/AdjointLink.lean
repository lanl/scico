/-
  Adjoint engine: link between the dtype/shape layer and the value layer.  A typed derivation tree that scico's real
  construction tests accept (`wfT`: shapes as tuples, dtypes), erased to a value tree with the flags scico computes
  (`.T` branch from the declared dtype, replication strides from the shapes), passes the size checks `wf` of the value
  layer and has the declared flat sizes — so the induction `derived_isAdjW` applies to exactly the trees scico builds.
-/
import Scico.Proofs.AdjointTotal
import Scico.Proofs.AdjointDerived

namespace Scico.Adjoint
open TOp

def prodL : List Nat → Nat
  | [] => 1
  | d :: ds => d * prodL ds

def Shp.size : Shp → Nat
  | .arr d => prodL d
  | .blk bs => (bs.map prodL).sum
  | .het bs => (bs.map prodL).sum

theorem prodL_eq_prod : ∀ l : List Nat, prodL l = l.prod
  | [] => rfl
  | d :: l => congrArg (d * ·) (prodL_eq_prod l)

theorem prodL_take_drop (n : Nat) (d : List Nat) : prodL (d.take n) * prodL (d.drop n) = prodL d := by
  simp only [prodL_eq_prod, List.prod_take_mul_prod_drop]

theorem prodL_insAx (k ax : Nat) (d : List Nat) : prodL (insAx k ax d) = k * prodL d := by
  rw [← prodL_take_drop ax d]
  simp only [insAx, prodL_eq_prod, List.prod_append_nat, List.prod_cons]
  ring

theorem collapsible_sum (d : List Nat) (rest : List (List Nat)) (h : rest.all (· == d) = true) :
    (rest.map prodL).sum = rest.length * prodL d := by
  induction rest with
  | nil => simp
  | cons r rs ih =>
    simp only [List.all_cons, Bool.and_eq_true, beq_iff_eq] at h
    simp [ih h.2, h.1, Nat.add_mul, Nat.add_comm]

theorem size_collapseShp (s : Shp) : (collapseShp s).size = s.size := by
  cases s with
  | arr d => rfl
  | blk bs | het bs =>
    cases bs with
    | nil => rfl
    | cons d rest =>
      simp only [collapseShp]
      by_cases hc : collapsible (d :: rest) = true
      · simp only [hc, if_true, Shp.size, prodL, List.map_cons, List.sum_cons]
        rw [collapsible_sum d rest (by simpa [collapsible] using hc)]
        ring
      · simp [hc]

theorem size_collapseIf (c : Bool) (s : Shp) : (collapseIf c s).size = s.size := by
  cases c <;> simp [collapseIf, size_collapseShp]

variable {α : Type}

/-- `e` is a value-level derivation tree with the same constructions as the typed tree `t` (arbitrary scalar values;
    the `.T` flag, the replication strides and the size of an empty stack are the ones scico computes from the declared
    metadata) -/
inductive Erase (coded : Bool) (envT : Nat → TOp) : TExpr → Expr α → Prop where
  | leaf (i : Nat) : Erase coded envT (.leaf i) (.leaf i)
  | add {a b a' b'} : Erase coded envT a a' → Erase coded envT b b' → Erase coded envT (.add a b) (.add a' b')
  | sub {a b a' b'} : Erase coded envT a a' → Erase coded envT b b' → Erase coded envT (.sub a b) (.sub a' b')
  | neg {a a'} : Erase coded envT a a' → Erase coded envT (.neg a) (.neg a')
  | smul {a a'} (k : SK) (c : α) : Erase coded envT a a' → Erase coded envT (.smul k a) (.smul c a')
  | sdiv {a a'} (k : SK) (c : α) : Erase coded envT a a' → Erase coded envT (.sdiv k a) (.sdiv c a')
  | comp {a b a' b'} : Erase coded envT a a' → Erase coded envT b b' → Erase coded envT (.comp a b) (.comp a' b')
  | tr {a a'} : Erase coded envT a a' → Erase coded envT (.tr a) (.tr (runT coded envT a).idt.cplx a')
  | herm {a a'} : Erase coded envT a a' → Erase coded envT (.herm a) (.herm a')
  | cj {a a'} : Erase coded envT a a' → Erase coded envT (.cj a) (.cj a')
  | gram {a a'} : Erase coded envT a a' → Erase coded envT (.gram a) (.gram a')
  | vone {a a'} : Erase coded envT a a' → Erase coded envT (.vone a) (.vcons a' (.vnil (runT coded envT a).ish.size))
  | vcons {a s a' s'} : Erase coded envT a a' → Erase coded envT s s' → Erase coded envT (.vcons a s) (.vcons a' s')
  | vfin {s s'} : Erase coded envT s s' → Erase coded envT (.vfin s) s'
  | done {a a'} : Erase coded envT a a' → Erase coded envT (.done a) (.dcons a' .dnil)
  | dcons {a s a' s'} : Erase coded envT a a' → Erase coded envT s s' → Erase coded envT (.dcons a s) (.dcons a' s')
  | dfin {s s'} (ci co : Bool) : Erase coded envT s s' → Erase coded envT (.dfin ci co s) s'
  | drep {a a'} (k ia oa : Nat) : Erase coded envT a a' →
      Erase coded envT (.drep k ia oa a)
        (.drep k (prodL ((dimsOf (runT coded envT a).ish).drop ia)) (prodL ((dimsOf (runT coded envT a).osh).drop oa)) a')

/-- no empty arrays below a replication (scico's `vmap` over an empty operand is degenerate; `wf` wants positive strides) -/
def posOK (coded : Bool) (envT : Nat → TOp) : TExpr → Prop
  | .leaf _ => True
  | .add a b | .sub a b | .comp a b | .vcons a b | .dcons a b => posOK coded envT a ∧ posOK coded envT b
  | .neg a | .smul _ a | .sdiv _ a | .tr a | .herm a | .cj a | .gram a | .vone a | .vfin a | .done a | .dfin _ _ a =>
      posOK coded envT a
  | .drep _ _ _ a => posOK coded envT a ∧ 0 < (runT coded envT a).ish.size ∧ 0 < (runT coded envT a).osh.size

section link
variable {K : Type} [Field K] [StarRing K]

/-- the value leaves have the flat sizes the typed leaves declare -/
def SizesAgree (env : Nat → Op K) (envT : Nat → TOp) : Prop :=
  ∀ i, (env i).nin = (envT i).ish.size ∧ (env i).nout = (envT i).osh.size

/-- what `erase_good` carries through the typed tree: the erased tree passes `wf` and has the declared flat sizes -/
structure Good (coded : Bool) (env : Nat → Op K) (envT : Nat → TOp) (t : TExpr) (e : Expr K) : Prop where
  wf : wf env e = true
  nin : (run env e).nin = (runT coded envT t).ish.size
  nout : (run env e).nout = (runT coded envT t).osh.size

theorem size_arr_of_isArr {s : Shp} (h : isArr s = true) : s.size = prodL (dimsOf s) :=
  congrArg Shp.size (isArr_eq h)

theorem size_blk_one {sa : Shp} (ha : isArr sa = true) : (Shp.blk [dimsOf sa]).size = sa.size := by
  rw [size_arr_of_isArr ha]
  exact Nat.add_zero _

theorem size_blk_cons {sa ss : Shp} (ha : isArr sa = true) (hs : ss = .blk (blocksOf ss)) :
    (Shp.blk (dimsOf sa :: blocksOf ss)).size = sa.size + ss.size := by
  have e : ss.size = ((blocksOf ss).map prodL).sum := by rw [hs]; rfl
  rw [size_arr_of_isArr ha, e]
  rfl

theorem erase_good (coded : Bool) (env : Nat → Op K) (envT : Nat → TOp) (hsz : SizesAgree env envT) :
    ∀ {t : TExpr} {e : Expr K}, Erase coded envT t e → wfT coded envT t = true → posOK coded envT t →
      Good coded env envT t e := by
  intro t e h
  induction h with
  | leaf i =>
    intro _ _
    exact ⟨rfl, (hsz i).1, (hsz i).2⟩
  | @add a b a' b' _ _ iha ihb | @sub a b a' b' _ _ iha ihb =>
    intro hw hp
    obtain ⟨wa, wb, hi, ho⟩ := wfT_add.1 hw
    have ga := iha wa hp.1
    have gb := ihb wb hp.2
    exact ⟨wf_add.2 ⟨ga.wf, gb.wf, by rw [ga.nin, gb.nin, hi], by rw [ga.nout, gb.nout, ho]⟩, ga.nin, ga.nout⟩
  -- the unary constructions keep (or swap) the sizes on both layers, by definition
  | @neg a a' _ ih | @smul a a' k c _ ih | @sdiv a a' k c _ ih | @cj a a' _ ih =>
    intro hw hp
    have g := ih hw hp
    exact ⟨g.wf, g.nin, g.nout⟩
  | @comp a b a' b' _ _ iha ihb =>
    intro hw hp
    obtain ⟨wa, wb, hs, _⟩ := wfT_comp.1 hw
    have ga := iha wa hp.1
    have gb := ihb wb hp.2
    exact ⟨wf_comp.2 ⟨ga.wf, gb.wf, by rw [ga.nin, gb.nout, hs]⟩, gb.nin, ga.nout⟩
  | @tr a a' _ ih =>
    intro hw hp
    have g := ih hw hp
    exact ⟨g.wf, (Op.tr_nin _ _).trans (g.nout.trans (congrArg Shp.size (runT_tr_shapes coded envT a).1.symm)),
      (Op.tr_nout _ _).trans (g.nin.trans (congrArg Shp.size (runT_tr_shapes coded envT a).2.symm))⟩
  | @herm a a' _ ih =>
    intro hw hp
    have g := ih hw hp
    exact ⟨g.wf, g.nout, g.nin⟩
  | @gram a a' _ ih =>
    intro hw hp
    have g := ih hw hp
    exact ⟨g.wf, g.nin, g.nin⟩
  | @vone a a' _ ih =>
    intro hw hp
    obtain ⟨wa, ho⟩ := wfT_vone.1 hw
    have g := ih wa hp
    exact ⟨wf_vcons.2 ⟨g.wf, rfl, g.nin⟩, g.nin, (Nat.add_zero _).trans (g.nout.trans (size_blk_one ho).symm)⟩
  | @vcons a s a' s' _ _ iha ihs =>
    intro hw hp
    obtain ⟨wa, ws, hc, ho, hi, _, _⟩ := wfT_vcons.1 hw
    have ga := iha wa hp.1
    have gs := ihs ws hp.2
    refine ⟨wf_vcons.2 ⟨ga.wf, gs.wf, by rw [ga.nin, gs.nin, hi]⟩, ga.nin, ?_⟩
    · exact (congrArg₂ (· + ·) ga.nout gs.nout).trans (size_blk_cons ho (vchain_osh coded envT hc)).symm
  | @vfin s s' _ ih =>
    intro hw hp
    have g := ih (wfT_vfin.1 hw).1 hp
    exact ⟨g.wf, g.nin, g.nout.trans (size_collapseShp _).symm⟩
  | @done a a' _ ih =>
    intro hw hp
    obtain ⟨wa, hi, ho⟩ := wfT_done.1 hw
    have g := ih wa hp
    refine ⟨wf_dcons.2 ⟨g.wf, rfl⟩, ?_, ?_⟩
    · exact (Nat.add_zero _).trans (g.nin.trans (size_blk_one hi).symm)
    · exact (Nat.add_zero _).trans (g.nout.trans (size_blk_one ho).symm)
  | @dcons a s a' s' _ _ iha ihs =>
    intro hw hp
    obtain ⟨wa, ws, hc, hi, ho, _, _⟩ := wfT_dcons.1 hw
    have ga := iha wa hp.1
    have gs := ihs ws hp.2
    refine ⟨wf_dcons.2 ⟨ga.wf, gs.wf⟩, ?_, ?_⟩
    · exact (congrArg₂ (· + ·) ga.nin gs.nin).trans (size_blk_cons hi (dchain_shapes coded envT hc).1).symm
    · exact (congrArg₂ (· + ·) ga.nout gs.nout).trans (size_blk_cons ho (dchain_shapes coded envT hc).2).symm
  | @dfin s s' ci co _ ih =>
    intro hw hp
    have g := ih (wfT_dfin.1 hw).1 hp
    exact ⟨g.wf, g.nin.trans (size_collapseIf _ _).symm, g.nout.trans (size_collapseIf _ _).symm⟩
  | @drep a a' k ia oa _ ih =>
    intro hw hp
    obtain ⟨wa, hi, ho, _, _, hk⟩ := wfT_drep.1 hw
    obtain ⟨hpa, hpi, hpo⟩ := hp
    have g := ih wa hpa
    have ei := size_arr_of_isArr hi
    have eo := size_arr_of_isArr ho
    have fi := prodL_take_drop ia (dimsOf (runT coded envT a).ish)
    have fo := prodL_take_drop oa (dimsOf (runT coded envT a).osh)
    have qi : 0 < prodL ((dimsOf (runT coded envT a).ish).drop ia) := by
      rw [ei, ← fi] at hpi
      exact Nat.pos_of_mul_pos_left hpi
    have qo : 0 < prodL ((dimsOf (runT coded envT a).osh).drop oa) := by
      rw [eo, ← fo] at hpo
      exact Nat.pos_of_mul_pos_left hpo
    refine ⟨wf_drep.2 ⟨g.wf, qi, qo, ?_, ?_, hk⟩, ?_, ?_⟩
    · rw [g.nin, ei, ← fi]; exact Nat.mul_mod_left _ _
    · rw [g.nout, eo, ← fo]; exact Nat.mul_mod_left _ _
    · exact (congrArg (k * ·) (g.nin.trans ei)).trans (prodL_insAx _ _ _).symm
    · exact (congrArg (k * ·) (g.nout.trans eo)).trans (prodL_insAx _ _ _).symm

end link

end Scico.Adjoint
