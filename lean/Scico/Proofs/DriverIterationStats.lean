/-
  C15, `IterationStats` and `itstat_func_and_object`: closed form of what `k` insertions print, which
  records end a display cycle, what remains visible on an ideal terminal (`"\r"` = the next output
  replaces the line, `"\n"` = the line is committed) after any number of `solve()` calls;
  the one fact about the statistics columns that the sweeps over the tables in `Props/C15` use
  (`extraFieldSpecs_solver`); the options merge, key by key.
-/
import Scico.Model.Driver
import Mathlib.Data.List.Induction

namespace Scico.Driver

/-- what the insertion of record `n` (0-based) prints for it -/
def rowEvent (o : DisplayOpts) (n : Nat) : List PrintEv :=
  if o.overwrite then [.row n (cycleEnd o (n + 1))]
  else if cycleEnd o (n + 1) then [.row n true] else []

theorem dispInsert_off (o : DisplayOpts) (s : Disp) (h : o.display = false) :
    dispInsert o s = { s with len := s.len + 1 } := by
  simp [dispInsert, h]

theorem dispInsert_on (o : DisplayOpts) (s : Disp) (h : o.display = true) :
    dispInsert o s = ⟨s.len + 1, false, s.out ++ (if s.hdrPending then [.header] else []) ++ rowEvent o s.len⟩ := by
  simp only [dispInsert, h, Bool.not_true, Bool.false_eq_true, if_false, rowEvent]
  cases s.hdrPending <;> cases o.overwrite <;> cases cycleEnd o (s.len + 1) <;> simp

theorem dispInserts_on (o : DisplayOpts) (h : o.display = true) (k : Nat) (s : Disp) :
    dispInserts o k s =
      ⟨s.len + k, s.hdrPending && decide (k = 0),
        s.out ++ (if s.hdrPending && decide (0 < k) then [.header] else []) ++
          (List.range k).flatMap (fun n => rowEvent o (s.len + n))⟩ := by
  induction k generalizing s with
  | zero => cases s; simp [dispInserts]
  | succ k ih =>
    rw [dispInserts, ih, dispInsert_on o s h]
    simp only [Bool.false_and, Bool.false_eq_true, if_false, List.append_nil, Nat.add_assoc]
    have hr : (List.range (k + 1)).flatMap (fun n => rowEvent o (s.len + n)) =
        rowEvent o s.len ++ (List.range k).flatMap (fun n => rowEvent o (s.len + (1 + n))) := by
      rw [List.range_succ_eq_map, List.flatMap_cons, List.flatMap_map]
      simp [Nat.add_comm 1]
    rw [hr]
    cases s.hdrPending <;> simp [Nat.add_comm 1 k]

theorem dispInserts_off (o : DisplayOpts) (h : o.display = false) (k : Nat) (s : Disp) :
    dispInserts o k s = { s with len := s.len + k } := by
  induction k generalizing s with
  | zero => rfl
  | succ k ih =>
    rw [dispInserts, ih, dispInsert_off o s h]
    simp [Nat.add_assoc, Nat.add_comm 1 k]

/-- cycle ends, spelled out: with `shift_cycles` the records at positions `0, p, 2p, …` end a
    cycle, without it those at positions `p-1, 2p-1, …` -/
theorem cycleEnd_iff (o : DisplayOpts) (n : Nat) :
    cycleEnd o (n + 1) = true ↔ (if o.shiftCycles then n % o.period = 0 else (n + 1) % o.period = 0) := by
  unfold cycleEnd DisplayOpts.offset
  cases o.shiftCycles with
  | true =>
    simp only [if_true, beq_iff_eq]
    have : ((n + 1 : Nat) : Int) - ((1 : Nat) : Int) = (n : Int) := by omega
    rw [this]
    norm_cast
  | false =>
    simp only [Bool.false_eq_true, if_false, beq_iff_eq]
    have : ((n + 1 : Nat) : Int) - ((0 : Nat) : Int) = ((n + 1 : Nat) : Int) := by simp
    rw [this]
    norm_cast

inductive Line where
  | header
  | row (n : Nat)
  | blank
deriving Repr, DecidableEq

/-- ideal terminal: committed lines and the content of the line the cursor is on; `"\r"` returns
    to the start of the line so that the next output replaces it, `"\n"` commits it -/
structure Screen where
  lines : List Line
  cur : Option Nat
deriving Repr, DecidableEq

def Screen.step (s : Screen) : PrintEv → Screen
  | .header => ⟨s.lines ++ [.header], none⟩
  | .row n true => ⟨s.lines ++ [.row n], none⟩
  | .row n false => ⟨s.lines, some n⟩
  | .newline => ⟨s.lines ++ [match s.cur with | some n => .row n | none => .blank], none⟩

def Screen.run (s : Screen) (evs : List PrintEv) : Screen := evs.foldl Screen.step s

def Screen.visible (s : Screen) : List Line :=
  s.lines ++ (match s.cur with | some n => [.row n] | none => [])

theorem Screen.run_append (s : Screen) (a b : List PrintEv) : s.run (a ++ b) = (s.run a).run b := by
  simp [Screen.run, List.foldl_append]

theorem cycleEnd_period_one (o : DisplayOpts) (h : o.period = 1) (len : Nat) : cycleEnd o len = true := by
  simp [cycleEnd, h]

/-- the lines one call (`k` insertions then `end()`) adds to an ideal terminal in overwrite mode,
    when `L` records exist already: the header if it is still pending and something is inserted,
    the records that end a cycle, the last record of the call, and — for a call that inserts
    nothing while the last record did not end a cycle — the blank line `end()` prints -/
def callLines (o : DisplayOpts) (L : Nat) (pending : Bool) (k : Nat) : List Line :=
  (if pending && decide (0 < k) then [Line.header] else []) ++
    ((List.range k).filter (fun n => cycleEnd o (L + n + 1) || decide (n + 1 = k))).map (fun n => Line.row (L + n)) ++
    (if decide (k = 0) && decide (o.period > 1) && !(cycleEnd o L) then [Line.blank] else [])

def callsLines (o : DisplayOpts) : Nat → Bool → List Nat → List Line
  | _, _, [] => []
  | L, pending, k :: ks => callLines o L pending k ++ callsLines o (L + k) (pending && decide (k = 0)) ks

theorem dispEnd_len (o : DisplayOpts) (s : Disp) : (dispEnd o s).len = s.len := by
  unfold dispEnd; split <;> rfl

theorem dispEnd_pending (o : DisplayOpts) (s : Disp) : (dispEnd o s).hdrPending = s.hdrPending := by
  unfold dispEnd; split <;> rfl

theorem screen_overwrite_rows_from (o : DisplayOpts) (L k : Nat) (ls : List Line) :
    (Screen.mk ls none).run ((List.range k).map (fun n => PrintEv.row (L + n) (cycleEnd o (L + n + 1)))) =
      ⟨ls ++ ((List.range k).filter (fun n => cycleEnd o (L + n + 1))).map (fun n => Line.row (L + n)),
        if k = 0 then none else if cycleEnd o (L + k) then none else some (L + k - 1)⟩ := by
  induction k with
  | zero => simp [Screen.run]
  | succ k ih =>
    rw [List.range_succ, List.map_append, Screen.run_append, ih]
    simp only [List.map_cons, List.map_nil, Screen.run, List.foldl_cons, List.foldl_nil, List.filter_append,
      List.filter_cons, List.filter_nil, List.map_append]
    have e1 : L + (k + 1) = L + k + 1 := by omega
    have e2 : L + k + 1 - 1 = L + k := by omega
    cases hc : cycleEnd o (L + k + 1) <;> simp [Screen.step, e1, e2]

theorem filter_or_last (p : Nat → Bool) (k : Nat) :
    (List.range k).filter (fun n => p n || decide (n + 1 = k)) =
      (List.range k).filter p ++ (if k ≠ 0 ∧ p (k - 1) = false then [k - 1] else []) := by
  cases k with
  | zero => rfl
  | succ j =>
    rw [List.range_succ, List.filter_append, List.filter_append]
    have h1 : (List.range j).filter (fun n => p n || decide (n + 1 = j + 1)) = (List.range j).filter p :=
      List.filter_congr fun n hn => by
        have : n ≠ j := Nat.ne_of_lt (List.mem_range.mp hn)
        simp [this]
    rw [h1]
    cases hp : p j <;> simp [hp]

/-- one call in overwrite mode, from any state whose output left the cursor on a fresh line -/
theorem screen_call_overwrite (o : DisplayOpts) (hd : o.display = true) (ho : o.overwrite = true)
    (hp : 0 < o.period) (k : Nat) (s : Disp) (ls : List Line)
    (hs : (Screen.mk [] none).run s.out = ⟨ls, none⟩) :
    (Screen.mk [] none).run (dispEnd o (dispInserts o k s)).out =
        ⟨ls ++ callLines o s.len s.hdrPending k, none⟩ ∧
      (dispEnd o (dispInserts o k s)).len = s.len + k ∧
      (dispEnd o (dispInserts o k s)).hdrPending = (s.hdrPending && decide (k = 0)) := by
  have hrow1 : ∀ n, rowEvent o n = [PrintEv.row n (cycleEnd o (n + 1))] := fun n => by simp [rowEvent, ho]
  refine ⟨?_, by rw [dispEnd_len, dispInserts_on o hd], by rw [dispEnd_pending, dispInserts_on o hd]⟩
  -- the screen after the header (if any) and the records
  have hrows : (Screen.mk [] none).run (dispInserts o k s).out =
      ⟨ls ++ (if (s.hdrPending && decide (0 < k)) = true then [Line.header] else []) ++
          ((List.range k).filter (fun n => cycleEnd o (s.len + n + 1))).map (fun n => Line.row (s.len + n)),
        if k = 0 then none else if cycleEnd o (s.len + k) then none else some (s.len + k - 1)⟩ := by
    rw [dispInserts_on o hd]
    simp only [hrow1, ← List.map_eq_flatMap]
    rw [Screen.run_append, Screen.run_append, hs, ← screen_overwrite_rows_from]
    congr 1
    split <;> simp [Screen.run, Screen.step]
  have hlen : (dispInserts o k s).len = s.len + k := by rw [dispInserts_on o hd]
  have hlast : ∀ h : k ≠ 0, cycleEnd o (s.len + (k - 1) + 1) = cycleEnd o (s.len + k) := fun h => by
    congr 1; omega
  unfold dispEnd
  simp only [hd, ho, Bool.true_and, hlen, callLines, filter_or_last (fun n => cycleEnd o (s.len + n + 1))]
  cases hc : cycleEnd o (s.len + k)
  · -- the last record did not end a cycle: `end()` commits it (or prints a blank line after an empty call)
    have hp1 : 1 < o.period := by
      by_cases h1 : o.period = 1
      · rw [cycleEnd_period_one o h1] at hc; cases hc
      · omega
    simp only [Bool.not_false, Bool.and_true, decide_eq_true_eq, gt_iff_lt, hp1, if_true, Screen.run_append, hrows, hc]
    by_cases hk : k = 0
    · subst hk
      have hc0 : cycleEnd o s.len = false := hc
      simp [Screen.run, Screen.step, hc0]
    · have e : s.len + k - 1 = s.len + (k - 1) := by omega
      simp [Screen.run, Screen.step, hk, hlast hk, hc, e, List.append_assoc]
  · simp only [Bool.not_true, Bool.and_false, Bool.false_eq_true, if_false, hrows, hc, if_true, ite_self]
    by_cases hk : k = 0
    · subst hk
      have hc0 : cycleEnd o s.len = true := hc
      simp [hc0]
    · simp [hk, hlast hk, hc, List.append_assoc]

theorem screen_calls_overwrite (o : DisplayOpts) (hd : o.display = true) (ho : o.overwrite = true)
    (hp : 0 < o.period) (ks : List Nat) (s : Disp) (ls : List Line)
    (hs : (Screen.mk [] none).run s.out = ⟨ls, none⟩) :
    (Screen.mk [] none).run (dispCalls o ks s).out = ⟨ls ++ callsLines o s.len s.hdrPending ks, none⟩ := by
  induction ks generalizing s ls with
  | nil => simp [dispCalls, callsLines, hs]
  | cons k ks ih =>
    obtain ⟨h1, h2, h3⟩ := screen_call_overwrite o hd ho hp k s ls hs
    rw [dispCalls, ih _ _ h1, h2, h3]
    simp [callsLines, List.append_assoc]

theorem historyTranspose_nil {β : Type} : historyTranspose ([] : List (List β)) = [] := rfl

/-- only `ADMM._itstat_extra_fields` looks at the sub-problem solver -/
theorem extraFieldSpecs_solver (c : OptClass) (sv : AdmmSolver) (h : c ≠ .admm) :
    extraFieldSpecs c sv = extraFieldSpecs c .other := by
  cases c <;> first | rfl | exact absurd rfl h

section
variable {β : Type}

theorem dictGet_set (d : List (String × β)) (k k' : String) (v : β) :
    dictGet (dictSet d k v) k' = if k = k' then some v else dictGet d k' := by
  induction d with
  | nil => simp [dictSet, dictGet]
  | cons p r ih =>
    obtain ⟨a, x⟩ := p
    by_cases h : a = k
    · subst h
      by_cases h2 : a = k' <;> simp [dictSet, dictGet, h2]
    · by_cases h2 : a = k'
      · subst h2
        have : ¬ k = a := fun e => h e.symm
        simp [dictSet, dictGet, h, this]
      · simp [dictSet, dictGet, h, h2, ih]

theorem dictGet_eq_none (d : List (String × β)) (k : String) (h : k ∉ d.map (·.1)) : dictGet d k = none := by
  induction d with
  | nil => rfl
  | cons q r ih =>
    obtain ⟨b, y⟩ := q
    simp only [List.map_cons, List.mem_cons, not_or] at h
    simp [dictGet, Ne.symm h.1, ih h.2]

/-- `update`: the caller's value wins, keys it does not have keep the default
    (`u` a dictionary: distinct keys) -/
theorem dictGet_update (d u : List (String × β)) (hu : (u.map (·.1)).Nodup) (k : String) :
    dictGet (dictUpdate d u) k = match dictGet u k with
      | some v => some v
      | none => dictGet d k := by
  induction u generalizing d with
  | nil => simp [dictUpdate, dictGet]
  | cons p r ih =>
    obtain ⟨a, x⟩ := p
    simp only [List.map_cons, List.nodup_cons] at hu
    have ih' := ih (dictSet d a x) hu.2
    simp only [dictUpdate, List.foldl_cons] at ih' ⊢
    rw [ih']
    by_cases h : a = k
    · subst h
      simp [dictGet, dictGet_eq_none r a hu.1, dictGet_set]
    · simp only [dictGet, h, if_false, dictGet_set]

theorem dictGet_pop (d : List (String × β)) (k0 k : String) :
    dictGet (dictPop d k0).2 k = if k = k0 then none else dictGet d k := by
  induction d with
  | nil => simp [dictPop, dictGet]
  | cons p r ih =>
    obtain ⟨a, x⟩ := p
    simp only [dictPop] at ih ⊢
    by_cases h1 : a = k0
    · subst h1
      by_cases h2 : k = a
      · subst h2; simpa [List.filter_cons] using ih
      · simpa [List.filter_cons, dictGet, h2, Ne.symm h2] using ih
    · by_cases h3 : a = k
      · subst h3; simp [h1, dictGet]
      · simpa [List.filter_cons, h1, dictGet, h3] using ih

/-- the options a caller passes, as the code reads them: `None` and `{}` mean "defaults" -/
def userGet (user : Option (List (String × β))) (k : String) : Option β :=
  match user with
  | some u => dictGet u k
  | none => none

theorem dictGet_merged (dflt : List (String × β)) (user : Option (List (String × β)))
    (hu : ∀ u, user = some u → (u.map (·.1)).Nodup) (k : String) :
    dictGet (mergedOptions dflt user) k = (userGet user k).or (dictGet dflt k) := by
  cases user with
  | none => rfl
  | some u =>
    cases u with
    | nil => rfl
    | cons p r =>
      simp only [mergedOptions, List.isEmpty_cons, Bool.false_eq_true, if_false, userGet]
      rw [dictGet_update _ _ (hu _ rfl)]
      cases dictGet (p :: r) k <;> rfl

theorem dictGet_itstatSetup_kwargs (fields func displayOff : β) (user : Option (List (String × β)))
    (hu : ∀ u, user = some u → (u.map (·.1)).Nodup) (k : String) :
    dictGet (itstatSetup fields func displayOff user).kwargs k =
      if k = "itstat_func" then none else
        (userGet user k).or (dictGet [("fields", fields), ("itstat_func", func), ("display", displayOff)] k) := by
  rw [← dictGet_merged _ _ hu]
  exact dictGet_pop _ _ k

end

end Scico.Driver
