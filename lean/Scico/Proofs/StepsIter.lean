/-
  Proofs/StepsIter — what the trajectory theorems of C03 share and that is not about any solver: real sequences forced to
  `0` by a descent inequality; the trajectory layer itself (`Descent`: a step map, an invariant it keeps, a potential `V ≥ 0`
  and a dissipation `d ≥ 0` with `V (step s) + d s ≤ V s` — monotonicity, boundedness by the start, summability and `d → 0`
  along every trajectory follow, a solver supplies the one-step inequality); additive maps, and that a map with an adjoint is
  additive and homogeneous.
-/
import Scico.Proofs.StepsEq
import Scico.Proofs.ProxSpec  -- for the notation `⟪x, y⟫`
import Mathlib.Analysis.InnerProductSpace.Basic
import Mathlib.Analysis.Real.Sqrt
import Mathlib.Topology.Algebra.InfiniteSum.Real

namespace Scico.Steps

theorem sum_add_le_of_descent {a d : ℕ → ℝ} (h : ∀ k, a (k + 1) + d k ≤ a k) (k : ℕ) :
    ∑ j ∈ Finset.range k, d j + a k ≤ a 0 := by
  induction k with
  | zero => simp
  | succ k ih => rw [Finset.sum_range_succ]; linarith [h k]

/-- the decrements `d_k ≥ 0` of a sequence `a_k ≥ 0` are summable, so they tend to `0`: the form in which every Lyapunov
    / Fejér inequality of C03 is turned into a statement about residuals -/
theorem tendsto_zero_of_descent {a d : ℕ → ℝ} (h : ∀ k, a (k + 1) + d k ≤ a k) (ha : ∀ k, 0 ≤ a k)
    (hd : ∀ k, 0 ≤ d k) : Filter.Tendsto d Filter.atTop (nhds 0) :=
  (summable_of_sum_range_le hd fun n => by linarith [sum_add_le_of_descent h n, ha n]).tendsto_atTop_zero

theorem tendsto_zero_of_sq_le {a b : ℕ → ℝ} (ha : ∀ k, 0 ≤ a k) (hab : ∀ k, a k ^ 2 ≤ b k)
    (hb : Filter.Tendsto b Filter.atTop (nhds 0)) : Filter.Tendsto a Filter.atTop (nhds 0) := by
  have hs := (Real.continuous_sqrt.tendsto 0).comp hb
  rw [Real.sqrt_zero] at hs
  exact squeeze_zero ha (fun k => Real.le_sqrt_of_sq_le (hab k)) hs

theorem tendsto_zero_of_le_mul {a d : ℕ → ℝ} (K : ℝ) (ha : ∀ k, 0 ≤ a k) (h : ∀ k, a k ≤ K * d k)
    (hd : Filter.Tendsto d Filter.atTop (nhds 0)) : Filter.Tendsto a Filter.atTop (nhds 0) := by
  have hD := hd.const_mul K
  rw [mul_zero] at hD
  exact squeeze_zero ha h hD

theorem tendsto_zero_of_mul_le {a d : ℕ → ℝ} {c : ℝ} (hc : 0 < c) (ha : ∀ k, 0 ≤ a k) (h : ∀ k, c * a k ≤ d k)
    (hd : Filter.Tendsto d Filter.atTop (nhds 0)) : Filter.Tendsto a Filter.atTop (nhds 0) :=
  tendsto_zero_of_le_mul c⁻¹ ha (fun k => by rw [inv_mul_eq_div, le_div_iff₀ hc, mul_comm]; exact h k) hd

theorem tendsto_zero_of_mul_sq_le {a b : ℕ → ℝ} {c : ℝ} (hc : 0 < c) (ha : ∀ k, 0 ≤ a k) (hab : ∀ k, c * a k ^ 2 ≤ b k)
    (hb : Filter.Tendsto b Filter.atTop (nhds 0)) : Filter.Tendsto a Filter.atTop (nhds 0) :=
  tendsto_zero_of_sq_le ha (fun _ => le_rfl) (tendsto_zero_of_mul_le hc (fun _ => sq_nonneg _) hab hb)

/-- a descent system: on the states satisfying the invariant `P`, which `step` keeps, the potential `V ≥ 0` decreases by at
    least the dissipation `d ≥ 0` in every step; a solver supplies the four fields, its trajectory facts are the lemmas below -/
structure Descent {σ : Type} (step : σ → σ) (P : σ → Prop) (V d : σ → ℝ) : Prop where
  inv : ∀ s, P s → P (step s)
  nonneg : ∀ s, P s → 0 ≤ V s
  diss_nonneg : ∀ s, P s → 0 ≤ d s
  descent : ∀ s, P s → V (step s) + d s ≤ V s

namespace Descent
variable {σ : Type} {step : σ → σ} {P : σ → Prop} {V d : σ → ℝ}

theorem iter_inv (H : Descent step P V d) {s : σ} (hs : P s) (k : Nat) : P (iter step k s) :=
  iter_invariant H.inv k s hs

theorem iter_descent (H : Descent step P V d) {s : σ} (hs : P s) (k : Nat) :
    V (iter step (k + 1) s) + d (iter step k s) ≤ V (iter step k s) := by
  rw [iter_succ']; exact H.descent _ (H.iter_inv hs k)

theorem mono (H : Descent step P V d) {s : σ} (hs : P s) (k : Nat) : V (iter step (k + 1) s) ≤ V (iter step k s) := by
  linarith [H.iter_descent hs k, H.diss_nonneg _ (H.iter_inv hs k)]

theorem sum_le (H : Descent step P V d) {s : σ} (hs : P s) (k : Nat) :
    ∑ j ∈ Finset.range k, d (iter step j s) + V (iter step k s) ≤ V s :=
  sum_add_le_of_descent (a := fun k => V (iter step k s)) (H.iter_descent hs) k

theorem le_start (H : Descent step P V d) {s : σ} (hs : P s) (k : Nat) : V (iter step k s) ≤ V s := by
  linarith [H.sum_le hs k, Finset.sum_nonneg fun j (_ : j ∈ Finset.range k) => H.diss_nonneg _ (H.iter_inv hs j)]

theorem tendsto (H : Descent step P V d) {s : σ} (hs : P s) :
    Filter.Tendsto (fun k => d (iter step k s)) Filter.atTop (nhds 0) :=
  tendsto_zero_of_descent (H.iter_descent hs) (fun k => H.nonneg _ (H.iter_inv hs k))
    (fun k => H.diss_nonneg _ (H.iter_inv hs k))

theorem tendsto_of_mul_le (H : Descent step P V d) {s : σ} (hs : P s) {g : σ → ℝ} {c : ℝ} (hc : 0 < c)
    (hg : ∀ s, P s → 0 ≤ g s) (h : ∀ s, P s → c * g s ≤ d s) :
    Filter.Tendsto (fun k => g (iter step k s)) Filter.atTop (nhds 0) :=
  tendsto_zero_of_mul_le hc (fun k => hg _ (H.iter_inv hs k)) (fun k => h _ (H.iter_inv hs k)) (H.tendsto hs)

theorem tendsto_of_mul_sq_le (H : Descent step P V d) {s : σ} (hs : P s) {g : σ → ℝ} {c : ℝ} (hc : 0 < c)
    (hg : ∀ s, P s → 0 ≤ g s) (h : ∀ s, P s → c * g s ^ 2 ≤ d s) :
    Filter.Tendsto (fun k => g (iter step k s)) Filter.atTop (nhds 0) :=
  tendsto_zero_of_mul_sq_le hc (fun k => hg _ (H.iter_inv hs k)) (fun k => h _ (H.iter_inv hs k)) (H.tendsto hs)

/-- a component `π` of the state that the dissipation pins to a point (`c ‖π s⁺ − x*‖² ≤ d s`) converges to it -/
theorem tendsto_of_mul_sq_dist_le {E : Type} [NormedAddCommGroup E] (H : Descent step P V d) {s : σ} (hs : P s) {π : σ → E}
    {xs : E} {c : ℝ} (hc : 0 < c) (h : ∀ s, P s → c * ‖π (step s) - xs‖ ^ 2 ≤ d s) :
    Filter.Tendsto (fun k => π (iter step k s)) Filter.atTop (nhds xs) := by
  rw [← Filter.tendsto_add_atTop_iff_nat 1, tendsto_iff_norm_sub_tendsto_zero]
  simp only [iter_succ']
  exact H.tendsto_of_mul_sq_le hs (g := fun s => ‖π (step s) - xs‖) hc (fun _ _ => norm_nonneg _) h

end Descent

theorem map_sub_of_add {V W : Type} [AddCommGroup V] [AddCommGroup W] {f : V → W} (h : ∀ x y, f (x + y) = f x + f y)
    (x y : V) : f (x - y) = f x - f y := by
  rw [eq_sub_iff_add_eq, ← h, sub_add_cancel]

theorem sq_norm_le_of_bound {V W : Type} [NormedAddCommGroup V] [NormedAddCommGroup W] {T : V → W} {L : ℝ}
    (hbd : ∀ a, ‖T a‖ ≤ L * ‖a‖) (a : V) : ‖T a‖ ^ 2 ≤ L ^ 2 * ‖a‖ ^ 2 :=
  (pow_le_pow_left₀ (norm_nonneg _) (hbd a) 2).trans_eq (mul_pow _ _ _)

section adj
variable {X Z : Type} [NormedAddCommGroup X] [InnerProductSpace ℝ X] [NormedAddCommGroup Z] [InnerProductSpace ℝ Z]

theorem adj_symm {C : X → Z} {Cadj : Z → X} (hadj : ∀ w x, ⟪Cadj w, x⟫ = ⟪w, C x⟫) (x : X) (w : Z) :
    ⟪C x, w⟫ = ⟪x, Cadj w⟫ := by
  rw [real_inner_comm, ← hadj, real_inner_comm]

/-- `v = C (x + y) − (C x + C y)` is orthogonal to itself: move `C` across with `hadj` -/
theorem add_of_adj {C : X → Z} {Cadj : Z → X} (hadj : ∀ w x, ⟪Cadj w, x⟫ = ⟪w, C x⟫) (x y : X) :
    C (x + y) = C x + C y := by
  rw [← sub_eq_zero, ← inner_self_eq_zero (𝕜 := ℝ), inner_sub_right, inner_add_right, ← hadj, ← hadj, ← hadj,
    inner_add_right, sub_self]

theorem smul_of_adj {C : X → Z} {Cadj : Z → X} (hadj : ∀ w x, ⟪Cadj w, x⟫ = ⟪w, C x⟫) (c : ℝ) (x : X) :
    C (c • x) = c • C x := by
  rw [← sub_eq_zero, ← inner_self_eq_zero (𝕜 := ℝ), inner_sub_right, real_inner_smul_right, ← hadj, ← hadj,
    real_inner_smul_right, sub_self]

theorem sub_of_adj {C : X → Z} {Cadj : Z → X} (hadj : ∀ w x, ⟪Cadj w, x⟫ = ⟪w, C x⟫) (x y : X) : C (x - y) = C x - C y :=
  map_sub_of_add (add_of_adj hadj) x y

end adj

end Scico.Steps
