/-
  The source tables (`Model/StepSizeSource.lean`, kept equal to the scico source by the generated obligations of
  `Generated/StepSizeTables.lean`) read as objects of the model: the number a default literal denotes and the policy object a
  class constructs from its defaults.
-/
import Scico.Model.StepSizeSource
import Scico.Proofs.XR

namespace Scico.StepSize

open XR

section defaults
variable {K : Type} [Field K]

/-- the number a literal denotes -/
def PyLit.toField : PyLit → Option K
  | .int n => some (n : K)
  | .dec m e => some ((m : K) / 10 ^ e)
  | _ => Option.none

def PyLit.toNat? : PyLit → Option Nat
  | .int n => if 0 ≤ n then some n.toNat else Option.none
  | _ => Option.none

def param (ps : List (String × PyLit)) (name : String) : Option PyLit := (ps.find? (fun p => p.1 == name)).map (·.2)

/-- the policy object `Cls()` constructed with all defaults, from a row of the class table -/
def policyOfDefaults (cls : String) (ps : List (String × PyLit)) : Option (Policy (XR K)) :=
  if cls = "PGMStepSize" then some .base
  else if cls = "BBStepSize" then some .bb
  else if cls = "AdaptiveBBStepSize" then
    ((param ps "kappa").bind PyLit.toField).map (fun k => Policy.abb (fin k))
  else if cls = "LineSearchStepSize" then
    match (param ps "gamma_u").bind PyLit.toField, (param ps "maxiter").bind PyLit.toNat? with
    | some g, some m => some (.ls (fin g) m)
    | _, _ => none
  else if cls = "RobustLineSearchStepSize" then
    match (param ps "gamma_d").bind PyLit.toField, (param ps "gamma_u").bind PyLit.toField, (param ps "maxiter").bind PyLit.toNat? with
    | some d, some g, some m => some (.rls (fin d) (fin g) m)
    | _, _, _ => none
  else none

end defaults

end Scico.StepSize
