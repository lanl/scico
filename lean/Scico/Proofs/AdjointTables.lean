/-
  Pinned tables of the Adjoint engine (C01) for the translator `harness/adjoint_translate.py`: the DATA of the scico source that
  the hand-written model (`Scico/Model/Adjoint.lean`, `Scico/Model/AdjointTy.lean`), the driver and the harness follow.
  `Scico/Generated/AdjointTables.lean` (rewritten from the working tree on every run) proves
  `checkOverrides / checkClosures / checkBranches / checkBodies … = true` from `generated table = pinned table`, which it states by
  reflexivity; a change of the source that the model does not follow breaks one of these obligations deterministically instead of
  relying on sampling.           Mathlib-free.

  How the tables are used:
  * `expectedOverrides`, `expectedFactories` : which LinearOperator classes define their own `_adj`/`adj`, views and arithmetic.
      `handWritten` lists the classes whose adjoint is CODE (not `linear_adjoint`) with the model definition (or "per configuration")
      that covers each; `checkOverrides` also demands that the set of such classes in the source is exactly this list.
      The harness decides from the same facts where the generic constructions apply (MatrixOperator / Diagonal family /
      (Circular)Convolve override `+ − * / @ .T .H`: `adjoint_types.py` uses them only as leaves; `closed-form` stream).
  * `expectedClosures` : `eval_fn` / `adj_fn` and declared metadata of the derived constructors of `_linop.py`, with `closureModel`
      naming the `Op.*` (values) and `TOp.*` (dtypes/shapes) constructor that models each.
  * `expectedBranches` : `scico.linear_adjoint`; `branchConj` is READ OFF this table and `linearAdjoint_table` proves that the
      model's `linearAdjoint` is exactly the table.
  * `expectedBodies`   : digests of the normalised statements of the methods the model follows line by line (the generated
      module carries the statements themselves in a comment, so a diff is readable).  To re-pin after a deliberate change of the
      model: `python harness/adjoint_translate.py pin`.
-/
import Scico.Model.Adjoint

namespace Scico.AdjointTables
open Scico.Adjoint

def expectedOverrides : List (String × String × String × String × String) := [
  ("linop/_linop.py", "LinearOperator", "Operator", "adj T H conj gram_op gram __call__ __add__ __sub__ __mul__ __rmul__ __truediv__ __matmul__ __rmatmul__", "method"),
  ("linop/_linop.py", "ComposedLinearOperator", "LinearOperator", "", "adj_fn"),
  ("linop/_matrix.py", "MatrixOperator", "LinearOperator", "adj T H conj gram_op gram _eval __call__ __add__ __sub__ __radd__ __rsub__ __mul__ __rmul__ __truediv__ __rtruediv__ __neg__", "method"),
  ("linop/_diag.py", "Diagonal", "LinearOperator", "T H conj gram_op _eval __add__ __sub__ __mul__ __truediv__ __matmul__", "derived"),
  ("linop/_diag.py", "ScaledIdentity", "Diagonal", "conj gram_op __add__ __sub__ __mul__ __truediv__ __matmul__", "derived"),
  ("linop/_diag.py", "Identity", "ScaledIdentity", "conj gram_op _eval __matmul__ __rmatmul__", "derived"),
  ("linop/_stack.py", "VerticalStack", "VerticalStackOperator LinearOperator", "_adj", "method"),
  ("linop/_stack.py", "DiagonalStack", "DiagonalStackOperator LinearOperator", "_adj", "method"),
  ("linop/_stack.py", "DiagonalReplicated", "DiagonalReplicatedOperator LinearOperator", "", "assign"),
  ("linop/_circconv.py", "CircularConvolve", "LinearOperator", "_adj _eval __add__ __sub__ __mul__ __truediv__", "method"),
  ("linop/_convolve.py", "Convolve", "LinearOperator", "_eval __add__ __sub__ __mul__ __truediv__", "derived"),
  ("linop/_convolve.py", "ConvolveByX", "LinearOperator", "_eval __add__ __sub__ __mul__ __truediv__", "derived"),
  ("linop/_dft.py", "DFT", "LinearOperator", "_eval", "derived"),
  ("linop/_diff.py", "FiniteDifference", "VerticalStack", "", "derived"),
  ("linop/_diff.py", "SingleAxisFiniteDifference", "LinearOperator", "_eval", "derived"),
  ("linop/_func.py", "Crop", "LinearOperator", "", "derived"),
  ("linop/_func.py", "Slice", "LinearOperator", "_eval", "derived"),
  ("linop/_grad.py", "ProjectedGradient", "LinearOperator", "_eval", "derived"),
  ("linop/_grad.py", "PolarGradient", "ProjectedGradient", "", "derived"),
  ("linop/_grad.py", "CylindricalGradient", "ProjectedGradient", "", "derived"),
  ("linop/_grad.py", "SphericalGradient", "ProjectedGradient", "", "derived"),
  ("linop/abel.py", "AbelTransform", "LinearOperator", "_adj _eval", "method"),
  ("linop/optics.py", "Propagator", "LinearOperator", "_eval", "derived"),
  ("linop/optics.py", "AngularSpectrumPropagator", "Propagator", "", "derived"),
  ("linop/optics.py", "FresnelPropagator", "Propagator", "", "derived"),
  ("linop/optics.py", "FraunhoferPropagator", "LinearOperator", "_eval", "derived"),
  ("linop/xray/_xray.py", "XRayTransform2D", "LinearOperator", "", "adj_fn"),
  ("linop/xray/_xray.py", "XRayTransform3D", "LinearOperator", "", "adj_fn"),
  ("functional/_tvnorm.py", "SingleAxisFiniteSum", "LinearOperator", "_eval", "derived"),
  ("functional/_tvnorm.py", "FiniteSum", "VerticalStack", "", "derived"),
  ("functional/_tvnorm.py", "SingleAxisHaarTransform", "VerticalStack", "", "derived"),
  ("functional/_tvnorm.py", "HaarTransform", "VerticalStack", "", "derived")]

def expectedFactories : List (String × String × String) := [
  ("_func.py", "Transpose", "snp.transpose"),
  ("_func.py", "Reshape", "snp.reshape"),
  ("_func.py", "Pad", "_linear_pad"),
  ("_func.py", "Sum", "_linear_sum")]

def expectedClosures : List (String × List String) := [
  ("LinearOperator.__add__#0", ["self.input_shape", "self.output_shape", "lambda x: self(x) + other(x)", "lambda x: self.adj(x) + other.adj(x)", "self.input_dtype", "result_type(self.output_dtype, other.output_dtype)"]),
  ("LinearOperator.__sub__#0", ["self.input_shape", "self.output_shape", "lambda x: self(x) - other(x)", "lambda x: self.adj(x) - other.adj(x)", "self.input_dtype", "result_type(self.output_dtype, other.output_dtype)"]),
  ("LinearOperator.__mul__#0", ["self.input_shape", "self.output_shape", "lambda x: other * self(x)", "lambda x: self.adj(self._to_output_space(snp.conj(other) * x))", "self.input_dtype", "result_type(self.output_dtype, other)"]),
  ("LinearOperator.__truediv__#0", ["self.input_shape", "self.output_shape", "lambda x: self(x) / other", "lambda x: self.adj(self._to_output_space(x / snp.conj(other)))", "self.input_dtype", "result_type(self.output_dtype, other)"]),
  ("LinearOperator.T#0", ["self.output_shape", "self.input_shape", "self.adj", "self.__call__", "self.output_dtype", "self.input_dtype"]),
  ("LinearOperator.T#1", ["self.output_shape", "self.input_shape", "lambda x: self.adj(x.conj()).conj()", "lambda x: self(x.conj()).conj()", "self.output_dtype", "self.input_dtype"]),
  ("LinearOperator.H#0", ["self.output_shape", "self.input_shape", "self.adj", "self.__call__", "self.output_dtype", "self.input_dtype"]),
  ("LinearOperator.conj#0", ["self.input_shape", "self.output_shape", "lambda x: self(x.conj()).conj()", "lambda x: self.adj(x.conj()).conj()", "self.input_dtype", "self.output_dtype"]),
  ("LinearOperator.gram_op#0", ["self.input_shape", "self.input_shape", "self.gram", "self.gram", "self.input_dtype", "self.input_dtype"]),
  ("ComposedLinearOperator.__init__", ["self.B.input_shape", "self.A.output_shape", "lambda x: self.A(self.B(x))", "lambda z: self.B.adj(self.A.adj(z))", "self.B.input_dtype", "self.A.output_dtype"]),
  ("ComposedLinearOperator.__init__ tests", ["not isinstance(A, LinearOperator)", "not isinstance(B, LinearOperator)", "A.input_shape != B.output_shape", "A.input_dtype != B.output_dtype", "-", "-"])]

def expectedBranches : List (String × String × String) := [
  ("def conj_fun", "conj_primals = tree_map(jax.numpy.conj, primals) ; return tree_map(jax.numpy.conj, fun(*conj_primals))", ""),
  ("any([jnp.iscomplexobj(_) for _ in primals])", "conj_fun", "tree_map(jax.numpy.conj, primals)"),
  ("jnp.iscomplexobj(fun(*primals))", "conj_fun", "primals"),
  ("else", "fun", "primals"),
  ("return", "jax.linear_transpose(_fun, *_primals)", "")]

def expectedBodies : List (String × Nat × String) := [
  ("linop/_linop.py:LinearOperator.adj", 10, "fb2047651595aabb"),
  ("linop/_linop.py:LinearOperator._set_adjoint", 3, "9e936d976f3ed3f3"),
  ("linop/_linop.py:LinearOperator._to_output_space", 3, "17ec7de1be4cfdf3"),
  ("linop/_linop.py:LinearOperator.__rmatmul__", 5, "0440806c3997624c"),
  ("linop/_linop.py:LinearOperator.__call__", 3, "cc76262c441e8ac5"),
  ("linop/_linop.py:LinearOperator.gram", 4, "cd0e1294cad1b607"),
  ("linop/_linop.py:_wrap_add_sub", 20, "8056ba241e8224cd"),
  ("operator/_operator.py:Operator.__call__", 7, "006f017621bd34a9"),
  ("operator/_operator.py:Operator.__neg__", 1, "f6fe84a674f63653"),
  ("operator/_operator.py:Operator.vjp", 8, "e8b359c0a960e4ec"),
  ("linop/_stack.py:VerticalStack._adj", 1, "858f69f77cacb9f8"),
  ("linop/_stack.py:DiagonalStack._adj", 4, "1763749cb48ce945"),
  ("linop/_stack.py:DiagonalReplicated.__init__", 4, "1fd5e4704b2b6923"),
  ("operator/_stack.py:collapse_shapes", 5, "520612d43e57bec5"),
  ("operator/_stack.py:is_collapsible", 1, "31a9e18194117a7b"),
  ("operator/_stack.py:VerticalStack.check_if_stackable", 13, "6e6a7e5c0aad4082"),
  ("operator/_stack.py:VerticalStack._eval", 3, "afc534c39b7ded6c"),
  ("operator/_stack.py:DiagonalStack.check_if_stackable", 10, "b10d419eb75c2bb3"),
  ("operator/_stack.py:DiagonalStack._eval", 4, "d8355ad6245170e0"),
  ("linop/_matrix.py:MatrixOperator.adj", 3, "75979f28f222076f"),
  ("linop/_matrix.py:MatrixOperator._eval", 1, "72067a1a80db56de"),
  ("linop/_matrix.py:MatrixOperator.__call__", 13, "6d2c314c7781e0c1"),
  ("linop/_matrix.py:MatrixOperator.T", 1, "6a685920794d10fe"),
  ("linop/_matrix.py:MatrixOperator.H", 1, "4f532e03e8854e89"),
  ("linop/_matrix.py:MatrixOperator.conj", 1, "0bfbff13e0dd942a"),
  ("linop/_matrix.py:MatrixOperator.gram_op", 1, "75abd0cd3950136e"),
  ("linop/_matrix.py:_wrap_add_sub_matrix", 22, "2cebbf95ae367161"),
  ("linop/_diag.py:Diagonal._eval", 1, "250bcbae5e52c4e8"),
  ("linop/_diag.py:Diagonal.T", 3, "f0826a2e23b9999a"),
  ("linop/_diag.py:Diagonal.H", 3, "e02d9e0f2853f323"),
  ("linop/_diag.py:Diagonal.conj", 1, "8c3e34cff6d5fa8a"),
  ("linop/_diag.py:Diagonal.gram_op", 3, "eda966c7fcb4f14d"),
  ("linop/_diag.py:Diagonal.__add__", 3, "5d331493dd153587"),
  ("linop/_diag.py:Diagonal.__sub__", 3, "c02a40531b90a2e3"),
  ("linop/_diag.py:Diagonal.__mul__", 1, "d865135fbecaa817"),
  ("linop/_diag.py:Diagonal.__truediv__", 1, "0cc7e0caac0b6f34"),
  ("linop/_diag.py:Diagonal.__matmul__", 6, "5d34c253ed436ae4"),
  ("linop/_diag.py:ScaledIdentity.conj", 1, "401d049213184745"),
  ("linop/_diag.py:ScaledIdentity.gram_op", 1, "a3b18c07591cec88"),
  ("linop/_circconv.py:CircularConvolve._eval", 6, "4c15800d7108ec0b"),
  ("linop/_circconv.py:CircularConvolve._adj", 9, "67539848f63e3537"),
  ("linop/xray/_xray.py:XRayTransform2D._project", 7, "e6eca95eee6ec033"),
  ("linop/xray/_xray.py:XRayTransform2D._back_project", 8, "569ea09e0259a62e"),
  ("linop/xray/_xray.py:XRayTransform3D._project", 8, "64c4f993247b41eb"),
  ("linop/xray/_xray.py:XRayTransform3D._project_single", 10, "0b87e89b928520d0"),
  ("linop/xray/_xray.py:XRayTransform3D._back_project", 12, "c973af47b89f2b27"),
  ("linop/xray/_xray.py:XRayTransform3D._back_project_single", 12, "6ef292a2a9d4cc62"),
  ("linop/_util.py:jacobian", 11, "c2b0492bcabdfb40")]


/-- classes whose adjoint is hand-written code (own `_adj`/`adj`, `adj_fn=` or `self._adj = …`), and what covers each -/
def handWritten : List (String × String) := [
  ("LinearOperator", "guards: TOp.adjC; closures of derived forms: Op.add … Op.gram (C01_derived, C01_adj_total)"),
  ("ComposedLinearOperator", "Op.comp / TOp.comp"),
  ("MatrixOperator", "Op.mat (C01_mat_adj, C01_matrix_overrides); guard := false in the typed layer"),
  ("VerticalStack", "Op.vcons (C01_derived)"),
  ("DiagonalStack", "Op.dcons (C01_derived)"),
  ("DiagonalReplicated", "Op.drep (C01_derived)"),
  ("CircularConvolve", "Op.spectral + wrappers (C01_circ_dft_domain), Op.circBatch"),
  ("AbelTransform", "per configuration: basis pairs + C01_basis"),
  ("XRayTransform2D", "Op.scatFill (C01_xray_backproject, C01_xray_projector)"),
  ("XRayTransform3D", "Op.scatSlabFill (C01_xray3d_slab)")]

/-- which `Op.*` / `TOp.*` constructor models each derived constructor of `_linop.py` -/
def closureModel : List (String × String) := [
  ("LinearOperator.__add__#0", "Op.add / TOp.add"),
  ("LinearOperator.__sub__#0", "Op.sub / TOp.add"),
  ("LinearOperator.__mul__#0", "Op.smul, Op.smulRe / TOp.smul"),
  ("LinearOperator.__truediv__#0", "Op.sdiv / TOp.smul"),
  ("LinearOperator.T#0", "Op.tr false = Op.herm / TOp.tr"),
  ("LinearOperator.T#1", "Op.tr true / TOp.tr"),
  ("LinearOperator.H#0", "Op.herm / TOp.herm"),
  ("LinearOperator.conj#0", "Op.cj / TOp.cj"),
  ("LinearOperator.gram_op#0", "Op.gram / TOp.gram"),
  ("ComposedLinearOperator.__init__", "Op.comp / TOp.comp"),
  ("ComposedLinearOperator.__init__ tests", "wf / wfT (.comp)")]

def checkOverrides (ov : List (String × String × String × String × String)) (fac : List (String × String × String)) : Bool :=
  ov == expectedOverrides && fac == expectedFactories
    && ((ov.filter (fun r => r.2.2.2.2 != "derived")).map (fun r => r.2.1)) == handWritten.map (·.1)

def checkClosures (cl : List (String × List String)) : Bool :=
  cl == expectedClosures && cl.map (·.1) == closureModel.map (·.1)

/-- a generated table passes its check if it IS the pinned one; the generated module supplies the two equalities by
    reflexivity, so no string comparison is evaluated there -/
theorem checkOverrides_of_eq {ov : List (String × String × String × String × String)} {fac : List (String × String × String)}
    (h1 : ov = expectedOverrides) (h2 : fac = expectedFactories) : checkOverrides ov fac = true := by
  subst h1 h2
  simp only [checkOverrides, beq_self_eq_true, Bool.true_and]
  decide +kernel

theorem checkClosures_of_eq {cl : List (String × List String)} (h : cl = expectedClosures) : checkClosures cl = true := by
  subst h
  simp only [checkClosures, beq_self_eq_true, Bool.true_and]
  decide +kernel

/-- does the branch transpose the conjugated function? (read off the table) -/
def rowConj (r : String × String × String) : Bool := r.2.1 == "conj_fun"

/-- the branch `linear_adjoint` takes, as the TABLE says: complex primal → row 1, complex output → row 2, else → row 3 -/
def branchConj (pc oc : Bool) : Bool :=
  match expectedBranches with
  | [_, r1, r2, r3, _] => if pc then rowConj r1 else if oc then rowConj r2 else rowConj r3
  | _ => false

def checkBranches (br : List (String × String × String)) : Bool := br == expectedBranches

def checkBodies (b : List (String × Nat × String)) : Bool := b == expectedBodies

/-- the model's `linearAdjoint` is exactly the pinned table of `scico.linear_adjoint` -/
theorem linearAdjoint_table {α : Type} [HasConj α] (jt : Bool → Nat → Nat → (V α → V α) → (V α → V α)) (m n : Nat)
    (pc oc : Bool) (f : V α → V α) :
    linearAdjoint jt m n pc oc f = jt pc m n (if branchConj pc oc then conjFun f else f) := by
  have h : ∀ a b, branchConj a b = (a || b) := by decide
  rw [h]
  cases pc <;> cases oc <;> simp [linearAdjoint]

end Scico.AdjointTables
