/-
  The ADMM x-update (C10): the x-step objective `α ‖A x − y‖²_W + Σ ρ_i/2 ‖z_i − u_i − C_i x‖²` (real and complex, any
  number of `C_i` with different codomains); the quadratic form of its normal-equation operator, which gives uniqueness of
  the minimiser; and the documented system `lhsSpec`, `rhsSpec` on the types of the executable model, against which
  `LinSolveADMMAssembly.lean` compares what each solver class assembles.
-/
import Scico.Proofs.LinSolveArgmin
import Scico.Proofs.LinSolveScalarLayer
import Mathlib.Analysis.InnerProductSpace.Basic
import Mathlib.Tactic.Linarith

namespace Scico.LinSolve
open RCLike

variable {𝕜 V Y : Type} [RCLike 𝕜] [NormedAddCommGroup V] [InnerProductSpace 𝕜 V]
  [NormedAddCommGroup Y] [InnerProductSpace 𝕜 Y]

section Family
variable {ι : Type} [Fintype ι] {U : ι → Type} [∀ i, NormedAddCommGroup (U i)] [∀ i, InnerProductSpace 𝕜 (U i)]

/-- the ADMM x-step objective  `α ‖A x − y‖²_W + Σ ρ_i/2 ‖v_i − C_i x‖²`  (`v_i = z_i − u_i`) -/
noncomputable def xstepObj (A : V →ₗ[𝕜] Y) (W : Y →ₗ[𝕜] Y) (C : ∀ i, V →ₗ[𝕜] U i) (α : ℝ) (ρ : ι → ℝ) (y : Y)
    (v : ∀ i, U i) (x : V) : ℝ :=
  α * re (inner 𝕜 (A x - y) (W (A x - y))) + ∑ i, ρ i / 2 * ‖v i - C i x‖ ^ 2

/-- the quadratic part of the x-step objective, doubled: `h ↦ re ⟪h, N h⟫` for the operator `N` of the normal equations
    (`re_inner_normalOp`) -/
noncomputable def xstepQuad (A : V →ₗ[𝕜] Y) (W : Y →ₗ[𝕜] Y) (C : ∀ i, V →ₗ[𝕜] U i) (α : ℝ) (ρ : ι → ℝ) (h : V) : ℝ :=
  2 * α * re (inner 𝕜 (A h) (W (A h))) + ∑ i, ρ i * ‖C i h‖ ^ 2

theorem re_inner_normalOp (A : V →ₗ[𝕜] Y) (AH : Y →ₗ[𝕜] V) (hA : ∀ x y, inner 𝕜 (A x) y = inner 𝕜 x (AH y))
    (W : Y →ₗ[𝕜] Y) (C : ∀ i, V →ₗ[𝕜] U i) (CH : ∀ i, U i →ₗ[𝕜] V) (hC : ∀ i x y, inner 𝕜 (C i x) y = inner 𝕜 x (CH i y))
    (α : ℝ) (ρ : ι → ℝ) (h : V) :
    re (inner 𝕜 h (((2 * α : ℝ) : 𝕜) • AH (W (A h)) + ∑ i, ((ρ i : ℝ) : 𝕜) • CH i (C i h))) = xstepQuad A W C α ρ h := by
  unfold xstepQuad
  rw [inner_add_right, inner_smul_right, inner_sum, AddMonoidHom.map_add, map_sum, re_ofReal_mul, ← hA]
  congr 1
  apply Finset.sum_congr rfl
  intro i _
  rw [inner_smul_right, re_ofReal_mul, ← hC, inner_self_eq_norm_sq_to_K]
  norm_cast

theorem normal_eq_unique (A : V →ₗ[𝕜] Y) (AH : Y →ₗ[𝕜] V) (hA : ∀ x y, inner 𝕜 (A x) y = inner 𝕜 x (AH y))
    (W : Y →ₗ[𝕜] Y) (C : ∀ i, V →ₗ[𝕜] U i) (CH : ∀ i, U i →ₗ[𝕜] V) (hC : ∀ i x y, inner 𝕜 (C i x) y = inner 𝕜 x (CH i y))
    (α : ℝ) (ρ : ι → ℝ) (hpd : ∀ h, h ≠ 0 → 0 < xstepQuad A W C α ρ h) (rhs : V) (x1 x2 : V)
    (h1 : ((2 * α : ℝ) : 𝕜) • AH (W (A x1)) + ∑ i, ((ρ i : ℝ) : 𝕜) • CH i (C i x1) = rhs)
    (h2 : ((2 * α : ℝ) : 𝕜) • AH (W (A x2)) + ∑ i, ((ρ i : ℝ) : 𝕜) • CH i (C i x2) = rhs) : x1 = x2 := by
  refine eq_of_re_inner_pos (𝕜 := 𝕜)
    (N := fun x => ((2 * α : ℝ) : 𝕜) • AH (W (A x)) + ∑ i, ((ρ i : ℝ) : 𝕜) • CH i (C i x)) ?_ ?_ (h1.trans h2.symm)
  · intro a b
    simp only [LinearMap.map_sub, smul_sub, Finset.sum_sub_distrib]
    abel
  · intro h hh
    rw [re_inner_normalOp A AH hA W C CH hC α ρ h]
    exact hpd h hh

/-- a sufficient condition met by every generated problem: some `C_i` is injective with `ρ_i > 0`
    (e.g. an `Identity`), `W ⪰ 0`, `α ≥ 0`, all `ρ ≥ 0` -/
theorem xstepQuad_pos_of_injective (A : V →ₗ[𝕜] Y) (W : Y →ₗ[𝕜] Y) (hWp : ∀ u, 0 ≤ re (inner 𝕜 u (W u)))
    (C : ∀ i, V →ₗ[𝕜] U i) (α : ℝ) (hα : 0 ≤ α) (ρ : ι → ℝ) (hρ : ∀ i, 0 ≤ ρ i)
    (i0 : ι) (hρ0 : 0 < ρ i0) (hinj : ∀ h, C i0 h = 0 → h = 0) (h : V) (hh : h ≠ 0) :
    0 < xstepQuad A W C α ρ h := by
  unfold xstepQuad
  have h1 : 0 ≤ 2 * α * re (inner 𝕜 (A h) (W (A h))) := mul_nonneg (by linarith) (hWp _)
  have h2 : 0 < ∑ i, ρ i * ‖C i h‖ ^ 2 := by
    apply Finset.sum_pos'
    · intro i _; exact mul_nonneg (hρ i) (by positivity)
    · refine ⟨i0, Finset.mem_univ _, mul_pos hρ0 ?_⟩
      have : C i0 h ≠ 0 := fun hc => hh (hinj h hc)
      positivity
  linarith

end Family

/-- `rel_res(c·ax, c·b) = rel_res(ax, b)` for `c ≠ 0` (norms given: `‖c v‖ = |c| ‖v‖`): the block-circulant solvers report
    the accuracy of the system divided by `2α` resp. `2ωρ₁` -/
theorem relResOf_scale (k nax nb nd : ℝ) (hk : 0 < k) :
    relResOf (k * nax) (k * nb) (k * nd) = relResOf nax nb nd := by
  unfold relResOf
  simp only
  rw [← mul_max_of_nonneg _ _ hk.le]
  have hz : isZero (k * max nax nb) = isZero (max nax nb) :=
    Bool.eq_iff_iff.2 (by rw [isZero_iff, isZero_iff, mul_eq_zero, or_iff_right hk.ne'])
  rw [hz]
  split
  · rfl
  · exact mul_div_mul_left _ _ hk.ne'

section Spec
variable {S M U Y' : Type} [Field S] [AddCommGroup M] [Module S M] [AddCommGroup U]

/-- documented left-hand operator `Σ ρ_i C_iᴴ C_i + 2 α Aᴴ W A` -/
def lhsSpec (f : Option (SqL2 S M Y')) (terms : List (Term S M U)) (x : M) : M :=
  (terms.map fun t => t.rho • t.C.adj (t.C.eval x)).sum +
    (match f with | none => 0 | some f => (2 * f.scale) • f.A.adj (f.W (f.A.eval x)))

/-- documented right-hand side `2 α Aᴴ W y + Σ ρ_i C_iᴴ (z_i − u_i)` -/
def rhsSpec (f : Option (SqL2 S M Y')) (terms : List (Term S M U)) : M :=
  (match f with | none => 0 | some f => (2 * f.scale) • f.A.adj (f.W f.y)) +
    (terms.map fun t => t.rho • t.C.adj (t.z - t.u)).sum

end Spec

end Scico.LinSolve
