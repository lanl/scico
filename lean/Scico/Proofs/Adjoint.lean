/-
  Adjoint engine, core lemmas: sums, the pairing `ip`, the adjoint identity relative to a test functional, and one
  lemma per construction of `_linop.py` / `_stack.py` (the derived operator is an adjoint pair if its operands are).

  Scalars: a field `K` with a ring involution (`StarRing K`): `ℝ` (trivial involution) and `ℂ`.
  All statements are for arbitrary sizes and arbitrary (size-erased) vectors.
-/
import Mathlib.Algebra.BigOperators.Group.Finset.Basic
import Mathlib.Algebra.BigOperators.Ring.Finset
import Mathlib.Algebra.Star.BigOperators
import Mathlib.Algebra.Field.Basic
import Mathlib.Tactic.Ring
import Scico.Model.Adjoint

namespace Scico.Adjoint
open Finset

/-- in the proofs conjugation is the involution of the star ring -/
scoped instance (priority := 100) starConj {K : Type} [Star K] : HasConj K := ⟨star⟩

theorem conj_eq_star {K : Type} [Star K] (a : K) : conj a = star a := rfl

theorem Op.tr_nin {α : Type} [HasConj α] (c : Bool) (A : Op α) : (Op.tr c A).nin = A.nout := by cases c <;> rfl

theorem Op.tr_nout {α : Type} [HasConj α] (c : Bool) (A : Op α) : (Op.tr c A).nout = A.nin := by cases c <;> rfl

section sums
variable {M : Type} [AddCommMonoid M]

theorem sumTo_eq (n : Nat) (f : Nat → M) : sumTo n f = ∑ i ∈ range n, f i := by
  induction n with
  | zero => simp [sumTo]
  | succ n ih => simp [sumTo, ih, Finset.sum_range_succ]

theorem mulVec_eq_sum (n : Nat) (A : Nat → Nat → M) [Mul M] (x : V M) (i : Nat) :
    mulVec n A x i = ∑ j ∈ range n, A i j * x j := sumTo_eq _ _

end sums

section field
variable {K : Type} [Field K] [StarRing K]

theorem ip_eq (n : Nat) (u w : V K) : ip n u w = ∑ i ∈ range n, u i * star (w i) := by
  simp [ip, sumTo_eq, conj_eq_star]

omit [StarRing K] in
theorem bp_eq (n : Nat) (u w : V K) : bp n u w = ∑ i ∈ range n, u i * w i := by
  simp [bp, sumTo_eq]

/-- conjugate symmetry; the lemmas for the right argument follow from those for the left one -/
theorem ip_swap (n : Nat) (u w : V K) : ip n u w = star (ip n w u) := by
  rw [ip_eq, ip_eq, star_sum]
  exact Finset.sum_congr rfl fun i _ => by rw [star_mul', star_star, mul_comm]

theorem ip_add_left (n : Nat) (u u' w : V K) : ip n (vadd u u') w = ip n u w + ip n u' w := by
  simp only [ip_eq, vadd, add_mul, Finset.sum_add_distrib]

theorem ip_add_right (n : Nat) (u w w' : V K) : ip n u (vadd w w') = ip n u w + ip n u w' := by
  rw [ip_swap, ip_add_left, star_add, ← ip_swap, ← ip_swap]

theorem ip_sum_right (n : Nat) (u : V K) (s : Finset Nat) (g : Nat → V K) :
    ip n u (fun i => ∑ b ∈ s, g b i) = ∑ b ∈ s, ip n u (g b) := by
  simp only [ip_eq, star_sum, Finset.mul_sum]
  rw [Finset.sum_comm]

theorem ip_sub_left (n : Nat) (u u' w : V K) : ip n (vsub u u') w = ip n u w - ip n u' w := by
  simp only [ip_eq, vsub, sub_mul, Finset.sum_sub_distrib]

theorem ip_sub_right (n : Nat) (u w w' : V K) : ip n u (vsub w w') = ip n u w - ip n u w' := by
  rw [ip_swap, ip_sub_left, star_sub, ← ip_swap, ← ip_swap]

theorem ip_smul_left (n : Nat) (c : K) (u w : V K) : ip n (vsmul c u) w = c * ip n u w := by
  simp only [ip_eq, vsmul, Finset.mul_sum, mul_assoc]

theorem ip_smul_right (n : Nat) (c : K) (u w : V K) : ip n u (vsmul (star c) w) = c * ip n u w := by
  rw [ip_swap, ip_smul_left, star_mul', star_star, ← ip_swap]

theorem ip_conj (n : Nat) (u w : V K) : ip n (vconj u) w = star (ip n u (vconj w)) := by
  simp only [ip_eq, vconj, star_sum, conj_eq_star, star_mul', star_star]

theorem ip_conj_right (n : Nat) (u w : V K) : ip n u (vconj w) = star (ip n (vconj u) w) := by
  rw [ip_conj, star_star]

theorem ip_zero_dim (u w : V K) : ip 0 u w = 0 := by simp [ip_eq]

theorem ip_vzero_left (n : Nat) (w : V K) : ip n vzero w = 0 := by simp [ip_eq, vzero]

theorem ip_vzero_right (n : Nat) (u : V K) : ip n u vzero = 0 := by simp [ip_eq, vzero]

theorem ip_vappend_left (a b : Nat) (u u' y : V K) :
    ip (a + b) (vappend a u u') y = ip a u y + ip b u' (vdrop a y) := by
  simp only [ip_eq, Finset.sum_range_add, vappend, vdrop]
  congr 1
  · exact Finset.sum_congr rfl fun i hi => by rw [if_pos (Finset.mem_range.mp hi)]
  · exact Finset.sum_congr rfl fun i _ => by rw [if_neg (by omega), Nat.add_sub_cancel_left]

theorem ip_vappend_right (a b : Nat) (x v v' : V K) :
    ip (a + b) x (vappend a v v') = ip a x v + ip b (vdrop a x) v' := by
  rw [ip_swap, ip_vappend_left, star_add, ← ip_swap, ← ip_swap]

theorem ip_congr (n : Nat) {u u' w w' : V K} (hu : ∀ i < n, u i = u' i) (hw : ∀ i < n, w i = w' i) :
    ip n u w = ip n u' w' := by
  simp only [ip_eq]
  apply Finset.sum_congr rfl
  intro i hi
  rw [hu i (Finset.mem_range.mp hi), hw i (Finset.mem_range.mp hi)]

/-! ### the adjoint identity, relative to a test functional `ρ`

`ρ = id` gives the complex identity `⟪Ax,y⟫ = ⟪x,A^H y⟫`; `ρ z = z + star z` (= `2 Re z` on `ℂ`) gives the
real-inner-product identity used for operators from a real into a complex space. -/

/-- what the induction over derivation trees needs of a test functional -/
structure Test (ρ : K → K) : Prop where
  add : ∀ a b, ρ (a + b) = ρ a + ρ b
  star : ∀ a, ρ (star a) = star (ρ a)

/-- a scalar that can be pulled out of `ρ` (every scalar for `ρ = id`; the self-adjoint = real ones for `2 Re`): the condition
    under which a closure `conj(c) * self.adj(y)` is an adjoint.  scico applies `conj(c)` before the operand's adjoint
    (`smul_isAdjW`), which needs no condition, so nothing outside its own three lemmas (`scalOK_id`, `scalOK_re`,
    `Test.scal_neg_one`) uses `ScalOK`. -/
def ScalOK (ρ : K → K) (c : K) : Prop := ∀ z, ρ (c * z) = c * ρ z

/-- the adjoint identity as seen by the test functional `ρ` ("W" for weak) -/
def IsAdjW (ρ : K → K) (A : Op K) : Prop :=
  ∀ x y, ρ (ip A.nout (A.eval x) y) = ρ (ip A.nin x (A.adj y))

/-- the adjoint identity of property C01 -/
def IsAdj (A : Op K) : Prop := ∀ x y, ip A.nout (A.eval x) y = ip A.nin x (A.adj y)

/-- `IsAdj` is `IsAdjW` at `ρ = id`, by definition: the construction lemmas below are used at `test_id` wherever `IsAdj` is wanted -/
theorem isAdj_iff_isAdjW_id {A : Op K} : IsAdj A ↔ IsAdjW id A := Iff.rfl

/-- the identity in the real inner product `Re⟪·,·⟫` (stated as `z + star z`, i.e. `2 Re z`) -/
def reTest (z : K) : K := z + star z

def IsAdjRe (A : Op K) : Prop := IsAdjW reTest A

theorem test_id : Test (id : K → K) := ⟨fun _ _ => rfl, fun _ => rfl⟩

theorem test_re : Test (reTest : K → K) :=
  ⟨fun a b => by simp only [reTest, star_add]; ring, fun a => by simp only [reTest, star_add]⟩

theorem isAdjRe_of_isAdj {A : Op K} (h : IsAdj A) : IsAdjRe A := by
  intro x y
  rw [h x y]

omit [StarRing K] in
theorem scalOK_id (c : K) : ScalOK id c := fun _ => rfl

theorem scalOK_re {c : K} (hc : star c = c) : ScalOK reTest c := by
  intro z
  simp [reTest, star_mul', hc, mul_add]

namespace Test
variable {ρ : K → K} (h : Test ρ)
include h

theorem zero : ρ 0 = 0 := by
  have := h.add 0 0
  simp at this
  exact this

theorem neg (a : K) : ρ (-a) = -ρ a := by
  have := h.add a (-a)
  rw [add_neg_cancel, h.zero] at this
  exact (neg_eq_of_add_eq_zero_right this.symm).symm

theorem sub (a b : K) : ρ (a - b) = ρ a - ρ b := by
  rw [sub_eq_add_neg, h.add, h.neg, ← sub_eq_add_neg]

theorem sum (s : Finset Nat) (f : Nat → K) : ρ (∑ i ∈ s, f i) = ∑ i ∈ s, ρ (f i) := by
  classical
  induction s using Finset.induction_on with
  | empty => simp [h.zero]
  | insert a s ha ih => rw [Finset.sum_insert ha, Finset.sum_insert ha, h.add, ih]

theorem scal_neg_one : ScalOK ρ (-1) := by
  intro z
  simp [h.neg]

end Test

section constructions
variable {ρ : K → K} (hρ : Test ρ)
include hρ

theorem add_isAdjW {A B : Op K} (hA : IsAdjW ρ A) (hB : IsAdjW ρ B) (hi : A.nin = B.nin) (ho : A.nout = B.nout) :
    IsAdjW ρ (Op.add A B) := by
  intro x y
  simp only [Op.add, ip_add_left, ip_add_right, hρ.add]
  rw [hA x y, ho, hi, hB x y]

theorem sub_isAdjW {A B : Op K} (hA : IsAdjW ρ A) (hB : IsAdjW ρ B) (hi : A.nin = B.nin) (ho : A.nout = B.nout) :
    IsAdjW ρ (Op.sub A B) := by
  intro x y
  simp only [Op.sub, ip_sub_left, ip_sub_right, hρ.sub]
  rw [hA x y, ho, hi, hB x y]

omit hρ in
/-- no condition on the scalar: the code applies `conj c` before the operand's adjoint, so the scalar never has to be
    pulled out of the test functional -/
theorem smul_isAdjW {A : Op K} (hA : IsAdjW ρ A) (c : K) : IsAdjW ρ (Op.smul c A) := by
  intro x y
  simp only [Op.smul, conj_eq_star]
  rw [← hA x (vsmul (star c) y), ip_smul_left, ip_smul_right]

omit hρ in
theorem neg_isAdjW {A : Op K} (hA : IsAdjW ρ A) : IsAdjW ρ (Op.neg A) :=
  smul_isAdjW hA (-1)

omit hρ in
theorem sdiv_eq_smul (c : K) (A : Op K) : Op.sdiv c A = Op.smul c⁻¹ A := by
  unfold Op.sdiv Op.smul
  congr 1
  · funext x i
    exact div_eq_inv_mul _ _
  · funext y
    congr 1
    funext i
    show y i / star c = star c⁻¹ * y i
    rw [star_inv₀, div_eq_inv_mul]

omit hρ in
theorem sdiv_isAdjW {A : Op K} (hA : IsAdjW ρ A) (c : K) : IsAdjW ρ (Op.sdiv c A) := by
  rw [sdiv_eq_smul]
  exact smul_isAdjW hA _

omit hρ in
theorem comp_isAdjW {A B : Op K} (hA : IsAdjW ρ A) (hB : IsAdjW ρ B) (h : A.nin = B.nout) :
    IsAdjW ρ (Op.comp A B) := by
  intro x y
  simp only [Op.comp]
  rw [hA (B.eval x) y, h, hB x (A.adj y)]

theorem herm_isAdjW {A : Op K} (hA : IsAdjW ρ A) : IsAdjW ρ (Op.herm A) := by
  intro y x
  simp only [Op.herm]
  -- ⟪A^H y, x⟫ = star ⟪x, A^H y⟫ = star ⟪A x, y⟫ = ⟪y, A x⟫
  rw [ip_swap A.nin, ip_swap A.nout, hρ.star, hρ.star, hA x y]

theorem cj_isAdjW {A : Op K} (hA : IsAdjW ρ A) : IsAdjW ρ (Op.cj A) := by
  intro x y
  simp only [Op.cj]
  rw [ip_conj, ip_conj_right A.nin x, hρ.star, hρ.star, hA (vconj x) (vconj y)]

theorem tr_isAdjW {A : Op K} (hA : IsAdjW ρ A) (c : Bool) : IsAdjW ρ (Op.tr c A) := by
  -- `Op.tr false A` is `Op.herm A`, `Op.tr true A` is `Op.herm (Op.cj A)`, by definition
  cases c with
  | false => exact herm_isAdjW hρ hA
  | true => exact herm_isAdjW hρ (cj_isAdjW hρ hA)

/-- `Op.gram A` is `Op.comp (Op.herm A) A`, by definition -/
theorem gram_isAdjW {A : Op K} (hA : IsAdjW ρ A) : IsAdjW ρ (Op.gram A) :=
  comp_isAdjW (herm_isAdjW hρ hA) hA rfl

omit hρ in
theorem vnil_isAdjW (n : Nat) : IsAdjW ρ (Op.vnil n : Op K) := by
  intro x y
  simp [Op.vnil, ip_zero_dim, ip_vzero_right]

omit hρ in
theorem dnil_isAdjW : IsAdjW ρ (Op.dnil : Op K) := by
  intro x y
  simp [Op.dnil, ip_zero_dim]

theorem vcons_isAdjW {A S : Op K} (hA : IsAdjW ρ A) (hS : IsAdjW ρ S) (h : A.nin = S.nin) :
    IsAdjW ρ (Op.vcons A S) := by
  intro x y
  simp only [Op.vcons, ip_vappend_left, ip_add_right, hρ.add]
  rw [hA x y, hS x (vdrop A.nout y), h]

theorem dcons_isAdjW {A S : Op K} (hA : IsAdjW ρ A) (hS : IsAdjW ρ S) : IsAdjW ρ (Op.dcons A S) := by
  intro x y
  simp only [Op.dcons, ip_vappend_left, ip_vappend_right, hρ.add]
  rw [hA x y, hS (vdrop A.nin x) (vdrop A.nout y)]

end constructions

end field

end Scico.Adjoint
