/-
  `VerticalStack` and `DiagonalStack`: built from operands that denote matrices `D₁ … D_N`, the stack
  denotes their vertical concatenation / their block-diagonal matrix, its adjoint closure the conjugate
  transpose, and the declared sizes are the sums of the operands' sizes; likewise for stacks of expressions.
-/
import Scico.Proofs.OpAlgMain

namespace Scico.OpAlg
attribute [local instance] starConj
set_option linter.unusedSectionVars false

section
variable {K : Type} [Field K] [StarRing K] [HasRe K]

@[simp] theorem vslice_get (off m : Nat) (x : Vc K) (i : Nat) :
    (vslice off m x).get i = if i < m then x.get (off + i) else 0 := rfl

@[simp] theorem vappend_get (m k : Nat) (u v : Vc K) (i : Nat) :
    (vappend m k u v).get i = if i < m + k then (if i < m then u.get i else v.get (i - m)) else 0 := rfl

theorem sumTo_split (a b : Nat) (f : Nat → K) :
    sumTo (a + b) f = sumTo a f + sumTo b (fun i => f (a + i)) := by
  induction b with
  | zero => exact (add_zero _).symm
  | succ b ih => rw [← Nat.add_assoc, sumTo_succ, sumTo_succ, ih, add_assoc]

theorem sumTo_head (a b : Nat) {f : Nat → K} (h : ∀ i, f (a + i) = 0) : sumTo (a + b) f = sumTo a f := by
  rw [sumTo_split, sumTo_congr (fun i _ => h i), sumTo_const_zero, add_zero]

theorem sumTo_tail (a b : Nat) {f : Nat → K} (h : ∀ i, i < a → f i = 0) :
    sumTo (a + b) f = sumTo b (fun i => f (a + i)) := by
  rw [sumTo_split, sumTo_congr h, sumTo_const_zero, zero_add]

/-- operands paired with the matrices they denote -/
inductive AllSound : List (Obj K) → List (Mx K) → Prop where
  | nil : AllSound [] []
  | cons {o : Obj K} {D : Mx K} {os : List (Obj K)} {Ds : List (Mx K)} :
      Sound o D → AllSound os Ds → AllSound (o :: os) (D :: Ds)

section blocks
variable {o : Obj K} {os : List (Obj K)} {D : Mx K} {Ds : List (Mx K)} {i j : Nat}

theorem vcatMx_head (hi : i < o.m) : vcatMx (o :: os) (D :: Ds) i j = D i j := if_pos hi

theorem vcatMx_tail : vcatMx (o :: os) (D :: Ds) (o.m + i) j = vcatMx os Ds i j := by
  show (if o.m + i < o.m then _ else vcatMx os Ds (o.m + i - o.m) j) = _
  rw [if_neg (Nat.not_lt.mpr (Nat.le_add_right _ _)), Nat.add_sub_cancel_left]

theorem bdiagMx_head (hi : i < o.m) :
    bdiagMx (o :: os) (D :: Ds) i j = if j < o.n then D i j else 0 := if_pos hi

theorem bdiagMx_tail :
    bdiagMx (o :: os) (D :: Ds) (o.m + i) j = if j < o.n then 0 else bdiagMx os Ds i (j - o.n) := by
  show (if o.m + i < o.m then _ else if j < o.n then 0 else bdiagMx os Ds (o.m + i - o.m) (j - o.n)) = _
  rw [if_neg (Nat.not_lt.mpr (Nat.le_add_right _ _)), Nat.add_sub_cancel_left]

theorem bdiagMx_hh (hi : i < o.m) (hj : j < o.n) : bdiagMx (o :: os) (D :: Ds) i j = D i j := by
  rw [bdiagMx_head hi, if_pos hj]

theorem bdiagMx_ht (hi : i < o.m) : bdiagMx (o :: os) (D :: Ds) i (o.n + j) = 0 := by
  rw [bdiagMx_head hi, if_neg (Nat.not_lt.mpr (Nat.le_add_right _ _))]

theorem bdiagMx_th (hj : j < o.n) : bdiagMx (o :: os) (D :: Ds) (o.m + i) j = 0 := by
  rw [bdiagMx_tail, if_pos hj]

theorem bdiagMx_tt : bdiagMx (o :: os) (D :: Ds) (o.m + i) (o.n + j) = bdiagMx os Ds i j := by
  rw [bdiagMx_tail, if_neg (Nat.not_lt.mpr (Nat.le_add_right _ _)), Nat.add_sub_cancel_left]

end blocks

/-- Concatenation of two blocks given componentwise: `R` describes the whole when it agrees with the
    description `H` of the first block on `[0, m)` and with `T`, shifted by `m`, of the second.  The
    forward map of both stacks and the adjoint of `DiagonalStack` are built this way. -/
theorem vappend_spec {m k : Nat} {u v : Vc K} {H T R : Nat → K}
    (hu : ∀ i, u.get i = if i < m then H i else 0) (hv : ∀ i, v.get i = if i < k then T i else 0)
    (hH : ∀ i, i < m → R i = H i) (hT : ∀ i, R (m + i) = T i) (i : Nat) :
    (vappend m k u v).get i = if i < m + k then R i else 0 := by
  rw [vappend_get]
  by_cases hi : i < m + k
  · rw [if_pos hi, if_pos hi]
    by_cases hi0 : i < m
    · rw [if_pos hi0, hu, if_pos hi0, hH i hi0]
    · obtain ⟨i', rfl⟩ := Nat.exists_eq_add_of_le (Nat.le_of_not_lt hi0)
      rw [if_neg hi0, Nat.add_sub_cancel_left, hv, if_pos (Nat.lt_of_add_lt_add_left hi), hT]
  · rw [if_neg hi, if_neg hi]

theorem vstackEval_size (ops : List (Obj K)) (x : Vc K) : (vstackEval ops x).size = sumM ops := by
  cases ops with
  | nil => rfl
  | cons o os => rfl

theorem vstackEval_spec {ops : List (Obj K)} {Ds : List (Mx K)} (h : AllSound ops Ds) (n : Nat)
    (hn : ∀ o ∈ ops, o.n = n) (x : Vc K) (i : Nat) :
    (vstackEval ops x).get i = if i < sumM ops then mulVec n (vcatMx ops Ds) x.get i else 0 := by
  induction h generalizing i with
  | nil => exact (if_neg (Nat.not_lt_zero i)).symm
  | @cons o D os Ds hS _ ih =>
    refine vappend_spec (hn o List.mem_cons_self ▸ hS.ev x)
      (ih (fun o' ho' => hn o' (List.mem_cons_of_mem _ ho'))) (fun i hi => ?_) (fun i => ?_) i
    · exact mulVec_congr_left (fun j _ => vcatMx_head hi)
    · unfold mulVec
      exact sumTo_congr (fun j _ => by rw [vcatMx_tail])

theorem vstackAdj_spec {ops : List (Obj K)} {Ds : List (Mx K)} (h : AllSound ops Ds) (n : Nat)
    (hn : ∀ o ∈ ops, o.n = n) (off : Nat) (y : Vc K) (j : Nat) :
    (vstackAdj n ops off y).get j
      = if j < n then mulVecH (sumM ops) (vcatMx ops Ds) (fun i => y.get (off + i)) j else 0 := by
  induction h generalizing off with
  | nil => rfl
  | @cons o D os Ds hS _ ih =>
    show (vzip n (fun s t => s + t) (o.adj (vslice off o.m y)) (vstackAdj n os (off + o.m) y)).get j = _
    rw [vzip_get, hS.ad, hn o List.mem_cons_self,
      ih (fun o' ho' => hn o' (List.mem_cons_of_mem _ ho')) (off + o.m)]
    by_cases hj : j < n
    · simp only [if_pos hj]
      unfold mulVecH
      rw [sumM, sumTo_split]
      refine congrArg₂ (· + ·) (sumTo_congr fun i hi => ?_) (sumTo_congr fun i _ => ?_)
      · rw [vcatMx_head hi, vslice_get, if_pos hi]
      · simp only [vcatMx_tail, Nat.add_assoc]
    · simp only [if_neg hj]

theorem dstackEval_spec {ops : List (Obj K)} {Ds : List (Mx K)} (h : AllSound ops Ds) (off : Nat)
    (x : Vc K) (i : Nat) :
    (dstackEval ops off x).get i
      = if i < sumM ops then mulVec (sumN ops) (bdiagMx ops Ds) (fun j => x.get (off + j)) i else 0 := by
  induction h generalizing off i with
  | nil => exact (if_neg (Nat.not_lt_zero i)).symm
  | @cons o D os Ds hS _ ih =>
    refine vappend_spec (hS.ev _) (ih (off + o.n)) (fun i hi => ?_) (fun i => ?_) i
    · unfold mulVec
      rw [sumN, sumTo_head _ _ (fun k => by rw [bdiagMx_ht hi, zero_mul])]
      exact sumTo_congr (fun k hk => by rw [bdiagMx_hh hi hk, vslice_get, if_pos hk])
    · unfold mulVec
      rw [sumN, sumTo_tail _ _ (fun k hk => by rw [bdiagMx_th hk, zero_mul])]
      exact sumTo_congr (fun k _ => by simp only [bdiagMx_tt, Nat.add_assoc])

theorem dstackAdj_spec {ops : List (Obj K)} {Ds : List (Mx K)} (h : AllSound ops Ds) (off : Nat)
    (y : Vc K) (j : Nat) :
    (dstackAdj ops off y).get j
      = if j < sumN ops then mulVecH (sumM ops) (bdiagMx ops Ds) (fun i => y.get (off + i)) j else 0 := by
  induction h generalizing off j with
  | nil => exact (if_neg (Nat.not_lt_zero j)).symm
  | @cons o D os Ds hS _ ih =>
    refine vappend_spec (hS.ad _) (ih (off + o.m)) (fun j hj => ?_) (fun j => ?_) j
    · unfold mulVecH
      rw [sumM, sumTo_head _ _ (fun k => by rw [bdiagMx_th hj, conj_eq_star, star_zero, zero_mul])]
      exact sumTo_congr (fun k hk => by rw [bdiagMx_hh hk hj, vslice_get, if_pos hk])
    · unfold mulVecH
      rw [sumM, sumTo_tail _ _ (fun k hk => by rw [bdiagMx_ht hk, conj_eq_star, star_zero, zero_mul])]
      exact sumTo_congr (fun k _ => by simp only [bdiagMx_tt, Nat.add_assoc])

theorem sizes_collapsed (d : List Nat) :
    ∀ ss : List Shape, (∀ s ∈ ss, s = .plain d) → (ss.map Shape.size).sum = ss.length * prodL d
  | [], _ => (Nat.zero_mul _).symm
  | s :: ss, h => by
    rw [List.map_cons, List.sum_cons, sizes_collapsed d ss (fun t ht => h t (List.mem_cons_of_mem _ ht)),
      h s List.mem_cons_self, List.length_cons, Nat.succ_mul, Nat.add_comm]
    rfl

theorem sizes_blocked :
    ∀ ss : List Shape, (∀ s ∈ ss, s.isNested = false) →
      (Shape.nested (ss.map plainDims)).size = (ss.map Shape.size).sum
  | [], _ => rfl
  | .plain d :: ss, h =>
    congrArg (prodL d + ·) (sizes_blocked ss (fun t ht => h t (List.mem_cons_of_mem _ ht)))
  | .nested _ :: _, h => Bool.noConfusion (h _ List.mem_cons_self)

theorem sumM_eq : ∀ ops : List (Obj K), sumM ops = ((ops.map (·.md.outShape)).map Shape.size).sum
  | [] => rfl
  | o :: os => congrArg (o.m + ·) (sumM_eq os)

theorem sumN_eq : ∀ ops : List (Obj K), sumN ops = ((ops.map (·.md.inShape)).map Shape.size).sum
  | [] => rfl
  | o :: os => congrArg (o.n + ·) (sumN_eq os)

theorem isCollapsibleS_spec {s : Shape} {rest : List Shape} (h : isCollapsibleS (s :: rest) = true) :
    ∃ d, s = .plain d ∧ ∀ t ∈ rest, t = .plain d := by
  simp only [isCollapsibleS, Bool.and_eq_true, Bool.not_eq_true', List.all_eq_true,
    decide_eq_true_eq] at h
  cases s with
  | plain d => exact ⟨d, rfl, h.2⟩
  | nested b => simp [Shape.isNested] at h

theorem collapseS_size {ss : List Shape} {allow : Bool} {sh : Shape} {c : Bool}
    (h : collapseS ss allow = .ok (sh, c)) : sh.size = (ss.map Shape.size).sum := by
  rcases ite_eq h with ⟨hc, h⟩ | ⟨_, h⟩
  · cases ss with
    | nil => cases h
    | cons s rest =>
      obtain ⟨d, rfl, hrest⟩ := isCollapsibleS_spec ((Bool.and_eq_true _ _).mp hc).1
      cases h
      exact (sizes_collapsed d _ (fun t ht => (List.mem_cons.mp ht).elim (· ▸ rfl) (hrest t))).symm
  · obtain ⟨hb, h⟩ := ite_ok_error h
    cases h
    exact sizes_blocked ss (fun s hs => by simpa using List.all_eq_true.mp hb s hs)

/-- on plain shapes `collapse_shapes` does not fail: the shape `VerticalStack` declares -/
theorem collapseS_of_plain {s : Shape} {rest : List Shape} (allow : Bool)
    (h : ∀ t ∈ s :: rest, t.isNested = false) :
    collapseS (s :: rest) allow = .ok
      (if (isCollapsibleS (s :: rest) && allow) = true then .plain ((s :: rest).length :: plainDims s)
        else .nested ((s :: rest).map plainDims), isCollapsibleS (s :: rest) && allow) := by
  unfold collapseS
  by_cases hc : (isCollapsibleS (s :: rest) && allow) = true
  · rw [if_pos hc, if_pos hc, hc]
    cases s with
    | plain d => rfl
    | nested b => cases h _ List.mem_cons_self
  · rw [if_neg hc, if_neg hc, if_pos (List.all_eq_true.mpr fun t ht => by simp [h t ht]),
      Bool.eq_false_iff.mpr hc]

theorem AllSound.head_mode {o0 : Obj K} {os : List (Obj K)} {Ds : List (Mx K)} (h : AllSound (o0 :: os) Ds) :
    Mode o0 :=
  match h with
  | .cons hS _ => hS.mode

/-- what either stack returns denotes `D` once its closures multiply by `D` and `Dᴴ` on the declared sizes -/
theorem stackObj_sound {inSh outSh : Shape} {o0 : Obj K} {ev ad : Vc K → Vc K} {evDt adDt : DtFn}
    {D : Mx K} {m n : Nat} (hm : outSh.size = m) (hn : inSh.size = n) (hmode : Mode o0)
    (hev : ∀ x i, (ev x).get i = if i < m then mulVec n D x.get i else 0)
    (had : ∀ y j, (ad y).get j = if j < n then mulVecH m D y.get j else 0)
    (hevSz : ∀ x, (ev x).size = m) (hadSz : ∀ y, (ad y).size = n) :
    Sound (stackObj true inSh outSh o0 ev ad evDt adDt) D := by
  subst hm hn
  exact
  { lin := by intro hc; cases hc
    ev := hev, ad := had, evSz := hevSz, adSz := hadSz, pl := trivial
    mode := hmode.imp id (fun hC => ⟨hC.inC, hC.outC, hC.inC⟩) }

/-- **`linop.VerticalStack`.**  Operands denoting `D₁ … D_N` (all classes, any derived expression):
    the stack evaluates `x ↦ [D₁; …; D_N] x`, its adjoint `y ↦ Σ D_kᴴ y_k = [D₁; …; D_N]ᴴ y`; the declared
    output size (collapsed `(N, *S)` or block shape) is the sum of the operands' output sizes and the
    input space is the common one. -/
theorem vstack_sound {ops : List (Obj K)} {Ds : List (Mx K)} {o : Obj K} (collapse : Bool)
    (h : AllSound ops Ds) (hb : vstack true ops collapse = .ok o) :
    Sound o (vcatMx ops Ds) ∧ o.m = sumM ops ∧ (∀ o' ∈ ops, o'.n = o.n)
    ∧ (o.md.outShape.isNested = false ↔ (isCollapsibleS (ops.map (fun o => o.md.outShape)) && collapse) = true) := by
  obtain ⟨o0, os, rfl, hok, hinS, rfl⟩ := vstack_ok hb
  have hnn : ∀ o' ∈ o0 :: os, o'.n = o0.n := fun o' ho' => by simp only [Obj.n, hinS o' ho']
  have hm : (if (isCollapsibleS ((o0 :: os).map (·.md.outShape)) && collapse) = true
      then Shape.plain ((o0 :: os).length :: plainDims o0.md.outShape)
      else Shape.nested (((o0 :: os).map (·.md.outShape)).map plainDims)).size = sumM (o0 :: os) := by
    have hpl : ∀ t ∈ (o0 :: os).map (·.md.outShape), t.isNested = false := fun t ht => by
      obtain ⟨o', ho', rfl⟩ := List.mem_map.mp ht; exact hok.plain o' ho'
    have := (collapseS_size (collapseS_of_plain collapse hpl)).trans (sumM_eq (o0 :: os)).symm
    rwa [List.length_cons, List.length_map] at this
  refine ⟨?_, hm, hnn, ?_⟩
  · exact stackObj_sound hm rfl h.head_mode (vstackEval_spec h o0.n hnn)
      (fun y j => by simpa only [Nat.zero_add] using vstackAdj_spec h o0.n hnn 0 y j)
      (vstackEval_size _) (fun y => by cases os <;> rfl)
  · cases isCollapsibleS ((o0 :: os).map (·.md.outShape)) && collapse
    · exact ⟨Bool.noConfusion, Bool.noConfusion⟩
    · exact ⟨fun _ => rfl, fun _ => rfl⟩

/-- **`linop.DiagonalStack`.**  Operands denoting `D₁ … D_N`: the stack evaluates
    `x ↦ diag(D₁,…,D_N) x` on the stacked / block input, its adjoint is the conjugate transpose, and
    the declared sizes are the sums of the operands' sizes. -/
theorem dstack_sound {ops : List (Obj K)} {Ds : List (Mx K)} {o : Obj K} (cIn cOut : Bool)
    (h : AllSound ops Ds) (hb : dstack true ops cIn cOut = .ok o) :
    Sound o (bdiagMx ops Ds) ∧ o.m = sumM ops ∧ o.n = sumN ops := by
  obtain ⟨o0, os, inSh, ci, outSh, co, rfl, hok, hci, hco, rfl⟩ := dstack_ok hb
  have hn : inSh.size = sumN (o0 :: os) := (collapseS_size hci).trans (sumN_eq _).symm
  have hm : outSh.size = sumM (o0 :: os) := (collapseS_size hco).trans (sumM_eq _).symm
  refine ⟨?_, hm, hn⟩
  exact stackObj_sound hm hn h.head_mode
    (fun x i => by simpa only [Nat.zero_add] using dstackEval_spec h 0 x i)
    (fun y j => by simpa only [Nat.zero_add] using dstackAdj_spec h 0 y j) (fun _ => rfl) (fun _ => rfl)

/-- `[den e₁; …; den e_N]` -/
def vcatDen : List (LExpr K) → Mx K
  | [] => fun _ _ => 0
  | e :: es => fun i j => if i < (dims e).1 then den e i j else vcatDen es (i - (dims e).1) j

/-- `diag(den e₁, …, den e_N)` -/
def bdiagDen : List (LExpr K) → Mx K
  | [] => fun _ _ => 0
  | e :: es => fun i j =>
    if i < (dims e).1 then (if j < (dims e).2 then den e i j else 0)
    else (if j < (dims e).2 then 0 else bdiagDen es (i - (dims e).1) (j - (dims e).2))

def rowsOf : List (LExpr K) → Nat
  | [] => 0
  | e :: es => (dims e).1 + rowsOf es

def colsOf : List (LExpr K) → Nat
  | [] => 0
  | e :: es => (dims e).2 + colsOf es

/-- every operand is inside the scope of `build_sound` -/
def AllIn (es : List (LExpr K)) : Prop :=
  ∀ e ∈ es, Lin e ∧ PlainDiagProducts e ∧ (RealK K ∨ AllC e)

theorem buildAll_sound : ∀ (es : List (LExpr K)) (os : List (Obj K)),
    buildAll Cfg.fixed es = .ok os → AllIn es →
    AllSound os (es.map den) ∧ vcatMx os (es.map den) = vcatDen es
      ∧ bdiagMx os (es.map den) = bdiagDen es ∧ sumM os = rowsOf es ∧ sumN os = colsOf es
      ∧ os.map (·.n) = es.map (fun e => (dims e).2) := by
  refine buildAll_ind (fun _ => ⟨.nil, rfl, rfl, rfl, rfl, rfl⟩) (fun e es o os' ho ih hin => ?_)
  obtain ⟨hl, hp, hK⟩ := hin e List.mem_cons_self
  obtain ⟨hS, hm, hn⟩ := build_sound e o hl hK ho
  obtain ⟨hA, hv, hd, hsm, hsn, hns⟩ := ih (fun e' he' => hin e' (List.mem_cons_of_mem _ he'))
  refine ⟨.cons hS hA, ?_, ?_, ?_, ?_, ?_⟩
  · show (fun i j => if i < o.m then den e i j else vcatMx os' (es.map den) (i - o.m) j) = _
    rw [hm, hv]; rfl
  · show (fun i j => if i < o.m then (if j < o.n then den e i j else 0)
      else (if j < o.n then 0 else bdiagMx os' (es.map den) (i - o.m) (j - o.n))) = _
    rw [hm, hn, hd]; rfl
  · show o.m + sumM os' = (dims e).1 + rowsOf es
    rw [hm, hsm]
  · show o.n + sumN os' = (dims e).2 + colsOf es
    rw [hn, hsn]
  · show o.n :: os'.map (·.n) = (dims e).2 :: es.map (fun e => (dims e).2)
    rw [hn, hns]

theorem buildVStack_sound (es : List (LExpr K)) (collapse : Bool) (o : Obj K) (hin : AllIn es)
    (h : buildVStack true es collapse = .ok o) :
    Sound o (vcatDen es) ∧ o.m = rowsOf es ∧ (∀ e ∈ es, (dims e).2 = o.n) := by
  unfold buildVStack at h
  obtain ⟨os, hos, h⟩ := bind_eq_ok.1 h
  obtain ⟨hA, hv, _, hsm, _, hns⟩ := buildAll_sound es os hos hin
  obtain ⟨hS, hm, hn, _⟩ := vstack_sound collapse hA h
  rw [hv] at hS
  refine ⟨hS, by rw [hm, hsm], fun e he => ?_⟩
  -- the operands' input sizes are the columns of the expressions, and all equal the stack's
  obtain ⟨o', ho', h'⟩ := List.mem_map.mp (hns ▸ List.mem_map_of_mem (f := fun e => (dims e).2) he)
  exact h'.symm.trans (hn o' ho')

theorem buildDStack_sound (es : List (LExpr K)) (cIn cOut : Bool) (o : Obj K) (hin : AllIn es)
    (h : buildDStack true es cIn cOut = .ok o) :
    Sound o (bdiagDen es) ∧ o.m = rowsOf es ∧ o.n = colsOf es := by
  unfold buildDStack at h
  obtain ⟨os, hos, h⟩ := bind_eq_ok.1 h
  obtain ⟨hA, _, hd, hsm, hsn, _⟩ := buildAll_sound es os hos hin
  obtain ⟨hS, hm, hn⟩ := dstack_sound cIn cOut hA h
  rw [hd] at hS
  exact ⟨hS, by rw [hm, hsm], by rw [hn, hsn]⟩

end
end Scico.OpAlg
