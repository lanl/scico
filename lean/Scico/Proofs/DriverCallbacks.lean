/-
  C15: three kinds of callback on the same loop.

  * A callback that assigns the driver's own attributes `itnum` / `maxiter` (`solveX`): `solveX` and `solve` are in
    lock step on everything except the two attributes (`Sim`, unconditional: also when the NaN stop trips); the two
    attributes after the call are given in closed form (`ctlAt`).
  * A callback that assigns `optimizer.nanstop` (`solveN`): `solveN` is the plain `solve` of an optimiser whose state
    carries the attribute along (`envN`, `cbN`); the NaN test of that optimiser is always on and sees no variable
    while the carried flag is off, so all theorems about `solve` transfer.
  * A callback or an `insert` that raises an exception (`solveRaise`, `solveInsertRaise`): what `solve` leaves behind.
-/
import Scico.Proofs.DriverSolve

namespace Scico.Driver
open Scico.Driver.Spec

variable {ω ρ ξ α L : Type} [DecidableEq L]

theorem loopX_eq_iterate (E : Env ω ρ ξ α) (cb : Option (CallbackX ω)) (n : Nat) (i : Int) (d : Drv ω ρ L) :
    loopX E cb n i d = iterate (bodyX E cb) n i d := by
  induction n generalizing i d with
  | zero => rfl
  | succ n ih =>
    simp only [loopX, iterate, ih]
    rcases bodyX E cb d i with ⟨d', o⟩
    cases o <;> rfl

/-- the plain callback (effect on the algorithmic state, duration) of an attribute-assigning one -/
def plainCb (cbx : Option (CallbackX ω)) : Option (Callback ω) := cbx.map (·.toCallback)

/-- equal up to the attributes `itnum` and `maxiter` -/
structure Sim (d dx : Drv ω ρ L) : Prop where
  world : dx.world = d.world
  clock : dx.clock = d.clock
  nanstop : dx.nanstop = d.nanstop
  timer : dx.timer = d.timer
  rows : dx.rows = d.rows
  cblog : dx.cblog = d.cblog
  tlog : dx.tlog = d.tlog

omit [DecidableEq L] in
theorem Sim.refl (d : Drv ω ρ L) : Sim d d := ⟨rfl, rfl, rfl, rfl, rfl, rfl, rfl⟩

omit [DecidableEq L] in
theorem sim_iff (d dx : Drv ω ρ L) : Sim d dx ↔ dx = { d with itnum := dx.itnum, maxiter := dx.maxiter } := by
  constructor
  · rintro ⟨h1, h2, h3, h4, h5, h6, h7⟩
    obtain ⟨w, c, it, mx, ns, T, rows, cbl, tl⟩ := dx
    simp only at h1 h2 h3 h4 h5 h6 h7
    subst h1 h2 h3 h4 h5 h6 h7
    rfl
  · intro h; rw [h]; exact ⟨rfl, rfl, rfl, rfl, rfl, rfl, rfl⟩

/-- one pass: same outcome, same everything but the two attributes — whatever the two attributes
    were before (the loop value overwrites `itnum`, nothing in the pass reads `maxiter`) — and the
    two attributes after a pass that completes -/
theorem bodyX_sim (E : Env ω ρ ξ α) (cbx : Option (CallbackX ω)) (d dx : Drv ω ρ L) (i : Int)
    (h : Sim d dx) :
    (bodyX E cbx dx i).2 = (body E (plainCb cbx) d i).2 ∧
      Sim (body E (plainCb cbx) d i).1 (bodyX E cbx dx i).1 ∧
      ((bodyX E cbx dx i).2 = .ok →
        ((bodyX E cbx dx i).1.itnum, (bodyX E cbx dx i).1.maxiter) =
          cbx.elim (i, dx.maxiter) (fun c => c.ctl (E.step dx.world) i dx.maxiter)) := by
  rw [sim_iff] at h
  rw [h]
  simp only [sim_iff]
  cases cbx with
  | none =>
    simp only [bodyX, body, plainCb, Option.map_none]
    split
    · exact ⟨rfl, rfl, fun h => by cases h⟩
    · exact ⟨rfl, rfl, fun _ => rfl⟩
  | some cx =>
    simp only [bodyX, body, plainCb, Option.map_some, Drv.timerStop, Drv.timerStart]
    split
    · exact ⟨rfl, rfl, fun h => by cases h⟩
    · cases (d.timer.stop Arg.none (d.clock + E.stepTicks d.world)).2
      · exact ⟨rfl, rfl, fun h => by cases h⟩
      · exact ⟨rfl, rfl, fun _ => rfl⟩

theorem loopX_sim (E : Env ω ρ ξ α) (cbx : Option (CallbackX ω)) (n : Nat) (i : Int) (d dx : Drv ω ρ L)
    (h : Sim d dx) :
    (loopX E cbx n i dx).2 = (loop E (plainCb cbx) n i d).2 ∧
      Sim (loop E (plainCb cbx) n i d).1 (loopX E cbx n i dx).1 := by
  simp only [loopX_eq_iterate, loop_eq_iterate]
  exact iterate_rel _ _ Sim (fun d dx i h => let ⟨ho, hs, _⟩ := bodyX_sim E cbx d dx i h; ⟨ho, hs⟩)
    n i d dx h

/-- **`solveX` and `solve` in lock step** (unconditional): same outcome and same state, records,
    callback log, clock and timer; only the attributes `itnum` / `maxiter` may differ -/
theorem solveX_sim (late : Bool) (E : Env ω ρ ξ α) (cbx : Option (CallbackX ω)) (d : Drv ω ρ L) :
    (solveX late E cbx d).2 = (solve E (plainCb cbx) d).2 ∧
      Sim (solve E (plainCb cbx) d).1 (solveX late E cbx d).1 := by
  have h0 : Sim d.timerStart d.timerStart := Sim.refl _
  obtain ⟨ho, hs⟩ := loopX_sim E cbx d.timerStart.maxiter.toNat d.timerStart.itnum _ _ h0
  simp only [solveX, solve]
  rcases hl : loop E (plainCb cbx) d.timerStart.maxiter.toNat d.timerStart.itnum d.timerStart with ⟨d1, o⟩
  rcases hlx : loopX E cbx d.timerStart.maxiter.toNat d.timerStart.itnum d.timerStart with ⟨dx1, ox⟩
  rw [hl, hlx] at ho hs
  simp only at ho hs
  subst ho
  cases ox with
  | nan => exact ⟨rfl, hs⟩
  | key => exact ⟨rfl, hs⟩
  | ok =>
    rw [sim_iff] at hs
    rw [hs]
    simp only [sim_iff, Drv.timerStop]
    cases (d1.timer.stop Arg.none d1.clock).2
    · exact ⟨rfl, rfl⟩
    · refine ⟨rfl, ?_⟩
      cases late <;> simp only [Bool.false_eq_true, if_false, if_true] <;> split <;> split <;> rfl

/-- values of `(itnum, maxiter)` after `k` completed iterations of a call that started with
    counter `i0` and `maxiter = m0`: the loop assigns `itnum = i0 + k` at the start of iteration
    `k`, then the callback may assign both -/
def ctlAt (E : Env ω ρ ξ α) (cbx : Option (CallbackX ω)) (w : ω) (i0 m0 : Int) : Nat → Int × Int
  | 0 => (i0, m0)
  | k + 1 =>
    match cbx with
    | none => (i0 + k, m0)
    | some c => c.ctl (afterStep E (plainCb cbx) w k) (i0 + k) (ctlAt E cbx w i0 m0 k).2

/-- `k` clean passes of `loopX`: in lock step with the plain loop (whose state is known in closed form),
    the two attributes being `ctlAt` -/
def LoopXAt (E : Env ω ρ ξ α) (cbx : Option (CallbackX ω)) (T0 : Timer L) (d0 : Drv ω ρ L) (e0 : Nat)
    (k : Nat) (dx : Drv ω ρ L) : Prop :=
  ∃ d, ResumedAt E (plainCb cbx) T0 d0 e0 0 0 d0 k d ∧ Sim d dx ∧
    (dx.itnum, dx.maxiter) = ctlAt E cbx d0.world d0.itnum d0.maxiter k

theorem loopX_clean (E : Env ω ρ ξ α) (cbx : Option (CallbackX ω)) (T0 : Timer L) (d0 : Drv ω ρ L)
    (e0 : Nat) (hda : T0.dflt ≠ T0.all) (hrun : RunningAt T0 d0.timer d0.clock e0) (n : Nat)
    (hclean : ∀ k < n, ¬ tripsAt E (plainCb cbx) d0.world d0.nanstop k) :
    (loopX E cbx n d0.itnum d0).2 = .ok ∧ LoopXAt E cbx T0 d0 e0 n (loopX E cbx n d0.itnum d0).1 := by
  rw [loopX_eq_iterate]
  refine iterate_ok _ _ _ _ n ⟨d0, resumedAt_zero E _ T0 d0 e0 hrun, Sim.refl _, rfl⟩ ?_
  rintro k hk dx ⟨d, hat, hs, ha⟩
  obtain ⟨hbo, hat'⟩ := body_resumed E (plainCb cbx) T0 d0 d0 e0 0 0 k d hda hat
    (by rw [Nat.zero_add]; exact hclean k hk)
  obtain ⟨hbx, hs', hattrs⟩ := bodyX_sim E cbx d dx (d0.itnum + k) hs
  rw [hbo] at hbx
  refine ⟨hbx, _, hat', hs', ?_⟩
  have hw : E.step dx.world = afterStep E (plainCb cbx) d0.world k := by
    rw [hs.world, hat.world, Nat.zero_add]; rfl
  have hm : dx.maxiter = (ctlAt E cbx d0.world d0.itnum d0.maxiter k).2 := by rw [← ha]
  rw [hattrs hbx, hw, hm]
  cases cbx with
  | none => cases k <;> rfl
  | some c => rfl

/-- the attributes after an uninterrupted `solveX`: `maxiter` is what the last callback left, and
    the counter is what the last callback left, `+ 1` iff the `maxiter` the final test reads is positive:
    the attribute *after* the loop (`late = true`, `if self.maxiter > 0: self.itnum += 1`) or the
    value at the call (`late = false`, the local `maxiter`) -/
theorem solveX_attrs (late : Bool) (E : Env ω ρ ξ α) (cbx : Option (CallbackX ω)) (d : Drv ω ρ L) (hr : Ready d)
    (hclean : NoTrip E (plainCb cbx) d) :
    (solveX late E cbx d).1.maxiter = (ctlAt E cbx d.world d.itnum d.maxiter d.maxiter.toNat).2 ∧
      (solveX late E cbx d).1.itnum =
        if (if late then (ctlAt E cbx d.world d.itnum d.maxiter d.maxiter.toNat).2 else d.maxiter) > 0
        then (ctlAt E cbx d.world d.itnum d.maxiter d.maxiter.toNat).1 + 1
        else (ctlAt E cbx d.world d.itnum d.maxiter d.maxiter.toNat).1 := by
  obtain ⟨ok, dl, hat, hs, ha⟩ := loopX_clean E cbx (d.timer.start .none d.clock) d.timerStart
    (d.timer.elapsedDefault true d.clock) hr.labels (running_after_start d.timer d.clock hr.past) d.maxiter.toNat hclean
  rcases hlx : loopX E cbx d.timerStart.maxiter.toNat d.timerStart.itnum d.timerStart with ⟨dx, ox⟩
  have hlx' : loopX E cbx d.maxiter.toNat d.timerStart.itnum d.timerStart = (dx, ox) := hlx
  rw [hlx'] at ok hs ha
  cases ok
  -- the final `timer.stop()` succeeds: timer and clock are those of the plain run
  have hts : (dx.timer.stop Arg.none dx.clock).2 = true := by
    rw [hs.timer, hs.clock]; exact (hat.timer.stop hr.labels).1
  have ha' : ctlAt E cbx d.world d.itnum d.maxiter d.maxiter.toNat = (dx.itnum, dx.maxiter) := ha.symm
  simp only [solveX, hlx, Drv.timerStop, hts, ha']
  cases late <;> simp only [Bool.false_eq_true, if_false, if_true] <;> split <;> exact ⟨rfl, rfl⟩

/-- a callback that assigns nothing: `ctl w i m = (i, m)` -/
def CallbackX.neutral (c : CallbackX ω) : Prop := ∀ w i m, c.ctl w i m = (i, m)

theorem ctlAt_neutral (E : Env ω ρ ξ α) (cbx : Option (CallbackX ω)) (w : ω) (i0 m0 : Int)
    (hn : ∀ c, cbx = some c → c.neutral) (k : Nat) :
    ctlAt E cbx w i0 m0 k = (if k = 0 then i0 else i0 + ((k : Int) - 1), m0) := by
  induction k with
  | zero => rfl
  | succ k ih =>
    cases cbx with
    | none => simp [ctlAt]
    | some c =>
      simp only [ctlAt, hn c rfl _ _ _, ih]
      simp

/-- the optimiser with the attribute `nanstop` made part of its state -/
def envN (E : Env ω ρ ξ α) : Env (ω × Bool) ρ ξ α :=
  { step := fun w => (E.step w.1, w.2), stepTicks := fun w => E.stepTicks w.1,
    vars := fun w => if w.2 then E.vars w.1 else [], fin := E.fin,
    fields := fun w => E.fields w.1, minimizer := fun w => E.minimizer w.1 }

def cbN (c : CallbackN ω) : Callback (ω × Bool) :=
  { run := fun w => (c.run w.1, (c.setNan w.1).getD w.2), ticks := fun w => c.ticks w.1 }

/-- `dn` (attribute in the driver) and `d'` (attribute in the state, test always on) agree -/
structure RelN (dn : Drv ω ρ L) (d' : Drv (ω × Bool) ρ L) : Prop where
  world : d'.world = (dn.world, dn.nanstop)
  nan : d'.nanstop = true
  clock : d'.clock = dn.clock
  itnum : d'.itnum = dn.itnum
  maxiter : d'.maxiter = dn.maxiter
  timer : d'.timer = dn.timer
  rows : d'.rows = dn.rows
  tlog : d'.tlog = dn.tlog
  cblog : d'.cblog.map (fun r => (r.itnum, r.world.1, r.enter, r.leave)) =
    dn.cblog.map (fun r => (r.itnum, r.world, r.enter, r.leave))

theorem bodyN_rel (E : Env ω ρ ξ α) (c : CallbackN ω) (dn : Drv ω ρ L) (d' : Drv (ω × Bool) ρ L) (i : Int)
    (h : RelN dn d') :
    (body (envN E) (some (cbN c)) d' i).2 = (bodyN E c dn i).2 ∧
      RelN (bodyN E c dn i).1 (body (envN E) (some (cbN c)) d' i).1 := by
  obtain ⟨w, cl, it, mx, ns, T, rows, cbl, tl⟩ := dn
  obtain ⟨w', cl', it', mx', ns', T', rows', cbl', tl'⟩ := d'
  obtain ⟨h1, h2, h3, h4, h5, h6, h7, h8, h9⟩ := h
  simp only at h1 h2 h3 h4 h5 h6 h7 h8 h9
  subst h1 h2 h3 h4 h5 h6 h7 h8
  -- with the flag off the carried test sees no variable
  have htest : (true && !workingVarsFinite E.fin (if ns = true then E.vars (E.step w) else [])) =
      (ns && !workingVarsFinite E.fin (E.vars (E.step w))) := by
    cases ns <;> simp [workingVarsFinite]
  simp only [body, bodyN, envN, cbN, Drv.timerStop, Drv.timerStart, htest]
  split
  · exact ⟨rfl, ⟨rfl, rfl, rfl, rfl, rfl, rfl, rfl, rfl, h9⟩⟩
  · cases (T'.stop Arg.none (cl' + E.stepTicks w)).2
    · exact ⟨rfl, ⟨rfl, rfl, rfl, rfl, rfl, rfl, rfl, rfl, h9⟩⟩
    · refine ⟨rfl, ⟨rfl, rfl, rfl, rfl, rfl, rfl, rfl, rfl, ?_⟩⟩
      simp only [List.map_append, h9, List.map_cons, List.map_nil]

theorem loopN_eq_iterate (E : Env ω ρ ξ α) (c : CallbackN ω) (n : Nat) (i : Int) (d : Drv ω ρ L) :
    loopN E c n i d = iterate (bodyN E c) n i d := by
  induction n generalizing i d with
  | zero => rfl
  | succ n ih =>
    simp only [loopN, iterate, ih]
    rcases bodyN E c d i with ⟨d', o⟩
    cases o <;> rfl

theorem loopN_rel (E : Env ω ρ ξ α) (c : CallbackN ω) (n : Nat) (i : Int) (dn : Drv ω ρ L)
    (d' : Drv (ω × Bool) ρ L) (h : RelN dn d') :
    (loop (envN E) (some (cbN c)) n i d').2 = (loopN E c n i dn).2 ∧
      RelN (loopN E c n i dn).1 (loop (envN E) (some (cbN c)) n i d').1 := by
  simp only [loopN_eq_iterate, loop_eq_iterate]
  exact iterate_rel _ _ RelN (bodyN_rel E c) n i dn d' h

/-- the driver state with the attribute moved into the optimiser's state -/
def liftN (d : Drv ω ρ L) : Drv (ω × Bool) ρ L :=
  { world := (d.world, d.nanstop), clock := d.clock, itnum := d.itnum, maxiter := d.maxiter, nanstop := true,
    timer := d.timer, rows := d.rows,
    cblog := d.cblog.map (fun r => ⟨r.itnum, (r.world, d.nanstop), r.enter, r.leave⟩), tlog := d.tlog }

/-- **`solveN` is `solve` of the optimiser that carries the attribute in its state** -/
theorem solveN_rel (E : Env ω ρ ξ α) (c : CallbackN ω) (d : Drv ω ρ L) :
    (solve (envN E) (some (cbN c)) (liftN d)).2 = (solveN E c d).2 ∧
      RelN (solveN E c d).1 (solve (envN E) (some (cbN c)) (liftN d)).1 := by
  have h0 : RelN d.timerStart (liftN d).timerStart :=
    ⟨rfl, rfl, rfl, rfl, rfl, rfl, rfl, rfl, by simp [liftN, Drv.timerStart, List.map_map, Function.comp_def]⟩
  have hm : (liftN d).timerStart.maxiter = d.timerStart.maxiter := rfl
  have hi : (liftN d).timerStart.itnum = d.timerStart.itnum := rfl
  obtain ⟨ho, hs⟩ := loopN_rel E c d.timerStart.maxiter.toNat d.timerStart.itnum _ _ h0
  simp only [solveN, solve, hm, hi]
  rcases hl : loop (envN E) (some (cbN c)) d.timerStart.maxiter.toNat d.timerStart.itnum (liftN d).timerStart with ⟨d1, o⟩
  rcases hln : loopN E c d.timerStart.maxiter.toNat d.timerStart.itnum d.timerStart with ⟨dn1, on⟩
  rw [hl, hln] at ho hs
  simp only at ho hs
  subst ho
  cases o with
  | nan => exact ⟨rfl, hs⟩
  | key => exact ⟨rfl, hs⟩
  | ok =>
    obtain ⟨w, cl, it, mx, ns, T, rows, cbl, tl⟩ := dn1
    obtain ⟨w', cl', it', mx', ns', T', rows', cbl', tl'⟩ := d1
    obtain ⟨h1, h2, h3, h4, h5, h6, h7, h8, h9⟩ := hs
    simp only at h1 h2 h3 h4 h5 h6 h7 h8 h9
    subst h1 h2 h3 h4 h5 h6 h7 h8
    simp only [Drv.timerStop]
    cases (T'.stop Arg.none cl').2
    · exact ⟨rfl, ⟨rfl, rfl, rfl, rfl, rfl, rfl, rfl, rfl, h9⟩⟩
    · simp only
      refine ⟨trivial, ?_⟩
      split <;> exact ⟨rfl, rfl, rfl, rfl, rfl, rfl, rfl, rfl, h9⟩

/-- value of the attribute `nanstop` when the test of iteration `k` reads it: what the callbacks
    of the earlier iterations left -/
def nanAt (E : Env ω ρ ξ α) (c : CallbackN ω) (w : ω) (b : Bool) : Nat → Bool
  | 0 => b
  | k + 1 => (c.setNan (afterStep E (some c.toCallback) w k)).getD (nanAt E c w b k)

omit [DecidableEq L] in
theorem worldAt_envN (E : Env ω ρ ξ α) (c : CallbackN ω) (w : ω) (b : Bool) (k : Nat) :
    worldAt (envN E) (some (cbN c)) (w, b) k = (worldAt E (some c.toCallback) w k, nanAt E c w b k) := by
  induction k with
  | zero => rfl
  | succ k ih =>
    show iterWorld (envN E) (some (cbN c)) (worldAt (envN E) (some (cbN c)) (w, b) k) = _
    rw [ih]
    rfl

omit [DecidableEq L] in
theorem tripsAt_envN (E : Env ω ρ ξ α) (c : CallbackN ω) (w : ω) (b : Bool) (k : Nat) :
    tripsAt (envN E) (some (cbN c)) (w, b) true k ↔
      (nanAt E c w b k = true ∧ hasNonFinite E.fin (E.vars (afterStep E (some c.toCallback) w k))) := by
  unfold tripsAt
  have hw : afterStep (envN E) (some (cbN c)) (w, b) k =
      (afterStep E (some c.toCallback) w k, nanAt E c w b k) := by
    show (envN E).step (worldAt (envN E) (some (cbN c)) (w, b) k) = _
    rw [worldAt_envN]
    rfl
  rw [hw]
  cases hb : nanAt E c w b k
  · simp [envN, hasNonFinite]
  · simp [envN]

/-- what `solve(callback)` leaves behind when the callback raises in iteration `j` -/
theorem solveRaise_spec (E : Env ω ρ ξ α) (c : Callback ω) (pr : ω → ω) (pt : ω → Nat) (d : Drv ω ρ L)
    (hr : Ready d) (j : Nat) (hj : j < d.maxiter.toNat)
    (hclean : ∀ k ≤ j, ¬ tripsAt E (some c) d.world d.nanstop k) :
    (solveRaise E c pr pt d j).2 = none ∧
      (solveRaise E c pr pt d j).1.world = pr (afterStep E (some c) d.world j) ∧
      (solveRaise E c pr pt d j).1.itnum = d.itnum + (j : Int) ∧
      (solveRaise E c pr pt d j).1.rows = d.rows ++ (List.range (j + 1)).map
        (specRow E (some c) d.world d.itnum (d.timer.elapsedDefault true d.clock)) ∧
      (solveRaise E c pr pt d j).1.cblog.length = d.cblog.length + (j + 1) ∧
      (solveRaise E c pr pt d j).1.clock = d.clock + stepTime E (some c) d.world (j + 1) +
        cbTime E (some c) d.world j + pt (afterStep E (some c) d.world j) ∧
      StoppedAt (d.timer.start .none d.clock) (solveRaise E c pr pt d j).1.timer
        (d.timer.elapsedDefault true d.clock + stepTime E (some c) d.world (j + 1)) := by
  have hda := hr.labels
  obtain ⟨dj, (hl : loop E (some c) j d.itnum d.timerStart = _), hat⟩ := loop_clean E (some c)
    (d.timer.start .none d.clock) d.timerStart (d.timer.elapsedDefault true d.clock) hda
    (running_after_start d.timer d.clock hr.past) j (fun k hk => hclean k (Nat.le_of_lt hk))
  have hm0 : d.timerStart.maxiter = d.maxiter := rfl
  have hi0 : d.timerStart.itnum = d.itnum := rfl
  have hnle : ¬ d.maxiter.toNat ≤ j := Nat.not_le.mpr hj
  unfold solveRaise
  simp only [hm0, hi0, hnle, if_false, hl]
  have hw : E.step dj.world = afterStep E (some c) d.world j := by rw [hat.world]; rfl
  have hcj : tripsB E dj.nanstop (E.step dj.world) = false := by
    rw [hat.nanstop, hw]; exact (tripsB_false_iff E (some c) d.world d.nanstop j).mpr (hclean j (Nat.le_refl _))
  obtain ⟨hb, bt⟩ := bodyHead_step E (d.timer.start .none d.clock) dj (d.itnum + j) _ hda hat.timer hcj
  have hwj : dj.world = worldAt E (some c) d.world j := hat.world
  rw [hb]
  simp only [hw]
  refine ⟨trivial, trivial, trivial, ?_, ?_, ?_, by rw [stepTime_succ, ← Nat.add_assoc, ← hwj]; exact bt⟩
  · rw [hat.rows, hwj, List.append_assoc]
    exact congrArg (d.rows ++ ·) (specRow_snoc E (some c) d.world d.itnum _ j)
  · rw [List.length_append, hat.cblog]
    simp only [Drv.timerStart, Option.isSome_some, if_true, List.length_append, List.length_map, List.length_range,
      List.length_singleton, Nat.add_assoc]
  · rw [hat.clock, hwj, stepTime_succ]; simp only [Drv.timerStart]; omega

theorem solveInsertRaise_spec (E : Env ω ρ ξ α) (cb : Option (Callback ω)) (d : Drv ω ρ L)
    (hwf : TimerWF d.timer d.clock) (hm : 0 < d.maxiter.toNat)
    (hclean : ¬ tripsAt E cb d.world d.nanstop 0) :
    (solveInsertRaise E cb d).2 = none ∧
      (solveInsertRaise E cb d).1.world = E.step d.world ∧
      (solveInsertRaise E cb d).1.itnum = d.itnum ∧
      (solveInsertRaise E cb d).1.rows = d.rows ++
        [⟨d.itnum, d.timer.elapsedDefault true d.clock + E.stepTicks d.world, E.fields (E.step d.world)⟩] ∧
      (solveInsertRaise E cb d).1.cblog = d.cblog ∧
      (solveInsertRaise E cb d).1.clock = d.clock + E.stepTicks d.world ∧
      RunningAt (d.timer.start .none d.clock) (solveInsertRaise E cb d).1.timer (solveInsertRaise E cb d).1.clock
        (d.timer.elapsedDefault true d.clock + E.stepTicks d.world) := by
  obtain ⟨hadv, hread⟩ := (running_after_start d.timer d.clock hwf).after (E.stepTicks d.world)
  have hnot : (d.nanstop && !workingVarsFinite E.fin (E.vars (E.step d.world))) = false :=
    (tripsB_false_iff E cb d.world d.nanstop 0).mpr hclean
  have hne : ¬ d.maxiter.toNat = 0 := by omega
  unfold solveInsertRaise
  simp only [bodyInsertRaise, Drv.timerStart, hne, hnot, if_false, Bool.false_eq_true]
  exact ⟨trivial, trivial, trivial, by simp only [statsInsert, hread], trivial, trivial, hadv⟩

end Scico.Driver
