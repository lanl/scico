/-
  Invariants of the declared metadata: a predicate on dtypes preserved by promotion and a predicate on
  shapes preserved by broadcasting hold of everything the operator arithmetic declares, as soon as they
  hold of the operands.  Instance: one dtype throughout (`OpAlgDtUniform`, with the trivial shape predicate).
-/
import Scico.Proofs.OpAlgInv

namespace Scico.OpAlg
open Scico.DType

set_option linter.unusedSectionVars false

section
variable {α : Type} [Add α] [Sub α] [Mul α] [Div α] [Neg α] [Zero α] [One α] [HasConj α] [HasRe α]
variable {Pd : DT → Prop} {Ps : Shape → Prop}

structure MdIn (Pd : DT → Prop) (Ps : Shape → Prop) (o : Obj α) : Prop where
  inD : Pd o.md.inDt
  outD : Pd o.md.outDt
  datD : Pd o.md.datDt
  inS : Ps o.md.inShape
  outS : Ps o.md.outShape
  datS : Ps o.md.datShape

/-- `Pd` is preserved by dtype promotion, `Ps` by broadcasting, and `Ps` holds of the shapes of a
    `MatrixOperator` -/
structure MdClosed (Pd : DT → Prop) (Ps : Shape → Prop) : Prop where
  rt : ∀ {a b}, Pd a → Pd b → Pd (resultType a b)
  vec : ∀ n, Ps (.plain [n])
  bc : ∀ {a b out}, Ps a → Ps b → bshapeS a b = .ok out → Ps out

theorem mkOp_md {i o : DT} {inSh outSh : Shape} (ev : Vc α → Vc α) (f : DtFn) (hi : Pd i) (ho : Pd o)
    (h1 : Ps inSh) (h2 : Ps outSh) : MdIn Pd Ps (mkOp inSh outSh i o ev f) := ⟨hi, ho, hi, h1, h2, h1⟩

theorem mkLin_md {i o : DT} {inSh outSh : Shape} (cls : Cls) (ev ad : Vc α → Vc α) (f g : DtFn) (hi : Pd i)
    (ho : Pd o) (h1 : Ps inSh) (h2 : Ps outSh) : MdIn Pd Ps (mkLin cls inSh outSh i o ev ad f g) :=
  ⟨hi, ho, hi, h1, h2, h1⟩

theorem opComp_md {a b o : Obj α} (ha : MdIn Pd Ps a) (hb : MdIn Pd Ps b)
    (h : opComp Cfg.fixed a b = .ok o) : MdIn Pd Ps o := by
  obtain ⟨_, h⟩ := ite_ok_error h; cases h
  exact mkOp_md _ _ hb.inD ha.outD hb.inS ha.outS

theorem MdIn.swap {a : Obj α} (ha : MdIn Pd Ps a) (cls : Cls) (ev ad : Vc α → Vc α) (f g : DtFn) :
    MdIn Pd Ps (mkLin cls a.md.outShape a.md.inShape a.md.outDt a.md.inDt ev ad f g) :=
  mkLin_md _ _ _ _ _ ha.outD ha.inD ha.outS ha.inS

theorem linT_md {a : Obj α} (ha : MdIn Pd Ps a) : MdIn Pd Ps (linT a) := by
  unfold linT; split <;> exact ha.swap ..

theorem linGram_md {a : Obj α} (ha : MdIn Pd Ps a) : MdIn Pd Ps (linGram Cfg.fixed a) :=
  mkLin_md _ _ _ _ _ ha.inD ha.inD ha.inS ha.inS

variable (hc : MdClosed Pd Ps)
include hc

theorem mkMat_md {d : DT} (m n : Nat) (A : Mx α) (h : Pd d) : MdIn Pd Ps (mkMat m n d A) :=
  ⟨h, h, h, hc.vec n, hc.vec m, hc.vec n⟩

theorem mkDiag_md {d : V α} {dsh inSh : Shape} {ddt inDt : DT} {o : Obj α} (hd : Pd ddt) (hi : Pd inDt)
    (hs : Ps dsh) (hin : Ps inSh) (h : mkDiag Cfg.fixed d dsh ddt inSh inDt = .ok o) : MdIn Pd Ps o := by
  unfold mkDiag at h
  split at h
  · cases h
  · rename_i outSh hout
    cases h
    exact ⟨hi, hc.rt hd hi, hd, hin, hc.bc hin hs hout, hs⟩

theorem mkSid_md {inDt : DT} (c : α) (sk : SK) {sh : Shape} (hi : Pd inDt)
    (hk : Pd (resultTypeS inDt sk)) (hs : Ps sh) : MdIn Pd Ps (mkSid Cfg.fixed c sk sh inDt) :=
  ⟨hi, hc.rt hk hi, hk, hs, hs, hs⟩

theorem mkSid_strong_md {d : DT} {a : Obj α} (c : α) (ha : MdIn Pd Ps a) (hd : Pd d) :
    MdIn Pd Ps (mkSid Cfg.fixed c (.strong d) a.md.inShape a.md.inDt) :=
  mkSid_md hc _ _ ha.inD (hc.rt ha.inD hd) ha.inS

theorem diagonal_md {a : Obj α} (ha : MdIn Pd Ps a) : Pd a.diagonal.2.2 ∧ Ps a.diagonal.2.1 := by
  unfold Obj.diagonal
  split
  · exact ⟨hc.rt ha.datD ha.inD, ha.inS⟩
  · exact ⟨ha.inD, ha.inS⟩
  · exact ⟨ha.datD, ha.datS⟩

theorem rediag_md {d : V α} {dsh inSh : Shape} {ddt : DT} {inDt? : Option DT} {o : Obj α}
    (hd : Pd ddt) (hs : Ps dsh) (hin : Ps inSh) (hi : ∀ t, inDt? = some t → Pd t)
    (h : rediag Cfg.fixed d dsh ddt inSh inDt? = .ok o) : MdIn Pd Ps o := by
  refine mkDiag_md hc hd ?_ hs hin h
  cases inDt? with
  | none => exact hd
  | some t => exact hi t rfl

theorem opAddSub_md (sub : Bool) {a b o : Obj α} (ha : MdIn Pd Ps a) (hb : MdIn Pd Ps b)
    (h : opAddSub sub a b = .ok o) : MdIn Pd Ps o := by
  obtain ⟨_, h⟩ := ite_ok_error h; cases h
  exact mkOp_md _ _ ha.inD (hc.rt ha.outD hb.outD) ha.inS ha.outS

theorem linAddSub_md (sub : Bool) {a b : Obj α} (ha : MdIn Pd Ps a) (hb : MdIn Pd Ps b) :
    MdIn Pd Ps (linAddSub sub a b) :=
  mkLin_md _ _ _ _ _ ha.inD (hc.rt ha.outD hb.outD) ha.inS ha.outS

theorem SumOf.md {sub : Bool} {x y o : Obj α} (h : SumOf sub x y o) (hx : MdIn Pd Ps x) (hy : MdIn Pd Ps y) :
    MdIn Pd Ps o := by
  cases h with
  | op _ h => exact opAddSub_md hc sub hx hy h
  | lin => exact linAddSub_md hc sub hx hy
  | diag _ _ _ h =>
    exact rediag_md hc (hc.rt (diagonal_md hc hx).1 (diagonal_md hc hy).1) (diagonal_md hc hx).2 hx.inS
      (fun _ h => by cases h) (ite_ok_error h).2
  | sid _ _ _ h =>
    obtain ⟨_, h⟩ := ite_ok_error h; cases h
    exact mkSid_strong_md hc _ hx (hc.rt hx.datD hy.datD)
  | mat => exact mkMat_md hc _ _ _ (hc.rt hx.inD hy.inD)

theorem addSub_md (sub : Bool) {a b o : Obj α} (ha : MdIn Pd Ps a) (hb : MdIn Pd Ps b)
    (h : addSub Cfg.fixed sub a b = .ok o) : MdIn Pd Ps o := by
  rcases addSub_out h with h | ⟨_, h⟩
  · exact h.md hc ha hb
  · cases sub
    · exact h.md hc hb ha
    · exact h.md hc (mkMat_md hc _ _ _ hb.inD) ha

theorem smul_md {a o : Obj α} (c : Scal α) (hk : ∀ {d}, Pd d → Pd (resultTypeS d c.kind.sk))
    (ha : MdIn Pd Ps a) (h : smul Cfg.fixed a c = .ok o) : MdIn Pd Ps o :=
  scal_cases (mkOp_md _ _ ha.inD (hk ha.outD) ha.inS ha.outS)
    (rediag_md hc (hk (diagonal_md hc ha).1) (diagonal_md hc ha).2 ha.inS (fun _ h => by cases h))
    (mkSid_strong_md hc _ ha (hk ha.datD)) (fun h => matScal_ok h ▸ mkMat_md hc _ _ _ (hk ha.inD))
    (fun _ => mkLin_md _ _ _ _ _ ha.inD (hk ha.outD) ha.inS ha.outS) h

theorem sdiv_md {a o : Obj α} (c : Scal α) (hk : ∀ {d}, Pd d → Pd (resultTypeS d c.kind.sk))
    (ha : MdIn Pd Ps a) (h : sdiv Cfg.fixed a c = .ok o) : MdIn Pd Ps o :=
  scal_cases (mkOp_md _ _ ha.inD (hk ha.outD) ha.inS ha.outS)
    (rediag_md hc (hk (diagonal_md hc ha).1) (diagonal_md hc ha).2 ha.inS (fun _ h => by cases h))
    (mkSid_strong_md hc _ ha (hk ha.datD)) (fun h => matScal_ok h ▸ mkMat_md hc _ _ _ (hk ha.inD))
    (fun _ => mkLin_md _ _ _ _ _ ha.inD (hk ha.outD) ha.inS ha.outS) h

/-- `-a` multiplies by the Python float `-1.0`, which changes no dtype -/
theorem neg_md {a o : Obj α} (ha : MdIn Pd Ps a) (h : neg Cfg.fixed a = .ok o) : MdIn Pd Ps o := by
  rcases ite_eq h with ⟨_, h⟩ | ⟨_, h⟩
  · cases h; exact mkMat_md hc _ _ _ ha.inD
  · exact smul_md hc ⟨-1, .pyFloat⟩ (fun h => h) ha h

/-- `MatrixOperator.__call__` infers the output dtype by evaluating on the declared input dtype;
  the dtype predicate has to hold of whatever that evaluation returns -/
theorem CompOf.md {x y o : Obj α} (h : CompOf x y o) (hx : MdIn Pd Ps x) (hy : MdIn Pd Ps y)
    (hauto : ∀ outDt, (do let d ← y.evalDt y.md.inDt; x.evalDt d) = .ok outDt → Pd outDt) :
    MdIn Pd Ps o := by
  cases h with
  | op _ h => exact opComp_md hx hy h
  | comp _ _ h =>
    obtain ⟨_, h⟩ := ite_error_ok h
    obtain ⟨_, h⟩ := ite_error_ok h
    cases h; exact mkLin_md _ _ _ _ _ hy.inD hx.outD hy.inS hx.outS
  | matId => exact hx
  | matMat => exact mkMat_md hc _ _ _ (hc.rt hx.inD hy.inD)
  | matLin _ _ _ hev => exact mkLin_md _ _ _ _ _ hy.inD (hauto _ hev) hy.inS hx.outS

theorem ProdOf.md {x y o : Obj α} (h : ProdOf x y o) (hx : MdIn Pd Ps x) (hy : MdIn Pd Ps y)
    (hauto : ∀ outDt, (do let d ← y.evalDt y.md.inDt; x.evalDt d) = .ok outDt → Pd outDt) :
    MdIn Pd Ps o := by
  cases h with
  | call _ h => exact h.md hc hx hy hauto
  | idR => exact hx
  | idL => exact hy
  | sidSid => exact mkSid_strong_md hc _ hx (hc.rt hx.datD hy.datD)
  | sidDiag _ _ _ h =>
    exact rediag_md hc (hc.rt hx.datD (diagonal_md hc hy).1) (diagonal_md hc hy).2 hy.inS
      (fun _ h => by cases h) h
  | diagDiag _ _ _ hbs h =>
    exact rediag_md hc (hc.rt (diagonal_md hc hx).1 (diagonal_md hc hy).1)
      (hc.bc (diagonal_md hc hx).2 (diagonal_md hc hy).2 hbs) hy.inS (fun _ h => by cases h) h

theorem diagConj_md {a o : Obj α} (ha : MdIn Pd Ps a) (hd : IsDiagCls a.md.cls) (h : diagConj Cfg.fixed a = .ok o) :
    MdIn Pd Ps o :=
  diagFam_cases hd (fun _ => ha) (fun _ => mkSid_strong_md hc _ ha ha.datD)
    (fun _ => rediag_md hc (diagonal_md hc ha).1 (diagonal_md hc ha).2 ha.inS (fun _ h => Option.some.inj h ▸ ha.inD)) h

theorem diagGram_md {a o : Obj α} (ha : MdIn Pd Ps a) (hd : IsDiagCls a.md.cls) (h : diagGram Cfg.fixed a = .ok o) :
    MdIn Pd Ps o :=
  diagFam_cases hd (fun _ => ha) (fun _ => mkSid_strong_md hc _ ha ha.datD)
    (fun _ h => by
      rcases ite_eq h with ⟨_, h⟩ | ⟨_, h⟩
      · cases h; exact linGram_md ha
      · exact rediag_md hc (diagonal_md hc ha).1 (diagonal_md hc ha).2 ha.inS
          (fun _ h => Option.some.inj h ▸ ha.inD) h) h

theorem opT_md {a o : Obj α} (ha : MdIn Pd Ps a) (h : opT Cfg.fixed a = .ok o) : MdIn Pd Ps o :=
  view_cases (fun _ => mkMat_md hc _ _ _ ha.inD)
    (fun _ h => by
      cases h; unfold diagT
      split
      · exact linT_md ha
      · exact ha) (fun _ => linT_md ha) h

theorem opH_md {a o : Obj α} (ha : MdIn Pd Ps a) (h : opH Cfg.fixed a = .ok o) : MdIn Pd Ps o :=
  view_cases (fun _ => mkMat_md hc _ _ _ ha.inD)
    (fun hd h => by
      rcases ite_eq h with ⟨_, h⟩ | ⟨_, h⟩
      · cases h; exact ha.swap ..
      · exact diagConj_md hc ha hd h) (fun _ => ha.swap ..) h

theorem opConj_md {a o : Obj α} (ha : MdIn Pd Ps a) (h : opConj Cfg.fixed a = .ok o) : MdIn Pd Ps o :=
  view_cases (fun _ => mkMat_md hc _ _ _ ha.inD) (diagConj_md hc ha)
    (fun _ => mkLin_md _ _ _ _ _ ha.inD ha.outD ha.inS ha.outS) h

theorem opGram_md {a o : Obj α} (ha : MdIn Pd Ps a) (h : opGram Cfg.fixed a = .ok o) : MdIn Pd Ps o :=
  view_cases (fun _ => mkMat_md hc _ _ _ ha.inD) (diagGram_md hc ha) (fun _ => linGram_md ha) h

/-- the element-wise arithmetic of `MatrixOperator` with a scalar -/
theorem matScal_md {a o : Obj α} {c : Scal α} {m n : Nat} {A : Mx α}
    (hk : ∀ {d}, Pd d → Pd (resultTypeS d c.kind.sk)) (ha : MdIn Pd Ps a)
    (h : (if c.kind = .str then Except.error Err.type
          else if c.kind.npIsScalar then .ok (rematrix m n (resultTypeS a.md.inDt c.kind.sk) A)
          else if c.kind.isArray then .error .shape else .error .type) = Except.ok o) : MdIn Pd Ps o :=
  matScal_ok h ▸ mkMat_md hc _ _ _ (hk ha.inD)

theorem matHadamard_md (div : Bool) {a b o : Obj α} (ha : MdIn Pd Ps a) (hb : MdIn Pd Ps b)
    (h : matHadamard div a b = .ok o) : MdIn Pd Ps o := by
  obtain ⟨_, h⟩ := ite_ok_error h
  obtain ⟨_, h⟩ := ite_ok_error h
  cases h
  exact mkMat_md hc _ _ _ (hc.rt ha.inD hb.inD)

end
end Scico.OpAlg
