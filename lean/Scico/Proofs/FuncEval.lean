/-
  Evaluation model `Scico.Model.FuncEval` (property C09): the model's scalar operations (written with `<` only) in
  Mathlib's terms, a functional of a block array is the functional of the concatenated blocks, when an indicator
  `if c then +∞ else 0` vanishes, entries of `diffAppend` and `fdAxis` (the differences behind the TV norms), `rel_res` read with `max`.
-/
import Scico.Model.FuncEval
import Mathlib.Tactic.Ring
import Mathlib.Tactic.Positivity
import Mathlib.Algebra.BigOperators.Group.List.Basic
import Mathlib.Algebra.Order.BigOperators.Group.List
import Mathlib.Analysis.SpecialFunctions.Log.Base

namespace Scico.FuncEval

/-- the scalar operations of the model at `ℝ`; scoped, because other engines declare a `HasSqrt ℝ` of their own -/
noncomputable scoped instance instSqrtReal : HasSqrt ℝ := ⟨Real.sqrt⟩
noncomputable scoped instance instLog10Real : HasLog10 ℝ := ⟨Real.logb 10⟩
noncomputable scoped instance instLogReal : HasLog ℝ := ⟨Real.log⟩

theorem hasSqrt_sqrt (x : ℝ) : HasSqrt.sqrt x = Real.sqrt x := rfl
theorem hasLog10_log10 (x : ℝ) : HasLog10.log10 x = Real.logb 10 x := rfl
theorem hasLog_log (x : ℝ) : HasLog.log x = Real.log x := rfl

section scalars

theorem absR_eq_abs (a : ℝ) : absR a = |a| := by
  unfold absR
  split
  · rw [abs_of_neg ‹_›]
  · rw [abs_of_nonneg (not_lt.mp ‹_›)]

theorem maxR_eq_max (a b : ℝ) : maxR a b = max a b := by
  unfold maxR
  split
  · rw [max_eq_right (le_of_lt ‹_›)]
  · rw [max_eq_left (not_lt.mp ‹_›)]

theorem isZero_iff (x : ℝ) : isZero x = true ↔ x = 0 := by
  simp only [isZero, Bool.and_eq_true, Bool.not_eq_true', decide_eq_false_iff_not, not_lt]
  exact ⟨fun h => le_antisymm h.2 h.1, fun h => by simp [h]⟩

variable {K : Type} [Field K]

theorem sqmags_real (v : List K) : sqmags false v = v.map (fun x => x * x) := rfl

theorem mags_real [LinearOrder K] [HasSqrt K] (v : List K) : mags false v = v.map absR := rfl

theorem lcount_eq_length (l : List K) : lcount l = (l.length : K) := by
  simp [lcount, List.foldl_const, add_right_iterate]

end scalars

section blocks
variable {K : Type}

theorem pairs_append : ∀ (a b : List K), a.length % 2 = 0 → pairs (a ++ b) = pairs a ++ pairs b
  | [], _, _ => rfl
  | [_], _, h => by simp at h
  | x :: y :: r, b, h => by
    show (x, y) :: pairs (r ++ b) = (x, y) :: (pairs r ++ pairs b)
    rw [pairs_append r b (by simp only [List.length_cons] at h; omega)]

theorem pairs_flatten : ∀ (bs : List (List K)), (∀ b ∈ bs, b.length % 2 = 0) →
    pairs bs.flatten = (bs.map pairs).flatten
  | [], _ => rfl
  | b :: bs, h => by
    simp only [List.flatten_cons, List.map_cons]
    rw [pairs_append b _ (h b (by simp)), pairs_flatten bs (fun c hc => h c (by simp [hc]))]

/-- an entrywise map (over the `(re, im)` pairs for complex data) commutes with the concatenation of blocks of
    whole entries: the shape of `sqmags` and `mags` -/
theorem entries_flatten {β : Type} (cplx : Bool) (f : K × K → β) (g : K → β) (bs : List (List K))
    (h : cplx = true → ∀ b ∈ bs, b.length % 2 = 0) :
    (if cplx then (pairs bs.flatten).map f else bs.flatten.map g)
      = (bs.map fun v => if cplx then (pairs v).map f else v.map g).flatten := by
  cases cplx with
  | false => exact List.map_flatten
  | true =>
    simp only [if_true]
    rw [pairs_flatten bs (h rfl), List.map_flatten, List.map_map]
    rfl

theorem sum_flatten_of_comm {β : Type} [AddMonoid β] (F : List K → List β) (bs : List (List K))
    (hF : F bs.flatten = (bs.map F).flatten) : (F bs.flatten).sum = (bs.map fun b => (F b).sum).sum := by
  rw [hF, List.sum_flatten, List.map_map]
  rfl

variable [Field K] [LinearOrder K]

omit [LinearOrder K] in
theorem sqmags_flatten (cplx : Bool) (bs : List (List K)) (h : cplx = true → ∀ b ∈ bs, b.length % 2 = 0) :
    sqmags cplx bs.flatten = (bs.map (sqmags cplx)).flatten :=
  entries_flatten cplx _ _ bs h

theorem mags_flatten (cplx : Bool) (bs : List (List ℝ)) (h : cplx = true → ∀ b ∈ bs, b.length % 2 = 0) :
    mags cplx bs.flatten = (bs.map (mags cplx)).flatten :=
  entries_flatten cplx _ _ bs h

omit [LinearOrder K] in
theorem sql2_block (cplx : Bool) (bs : List (List K)) (h : cplx = true → ∀ b ∈ bs, b.length % 2 = 0) :
    sql2 cplx (.blk bs) = (bs.map (fun b => sql2 cplx (.arr b))).sum :=
  sum_flatten_of_comm (sqmags cplx) bs (sqmags_flatten cplx bs h)

theorem l0_block (cplx : Bool) (bs : List (List K)) (h : cplx = true → ∀ b ∈ bs, b.length % 2 = 0) :
    l0 cplx (.blk bs) = (bs.map (fun b => l0 cplx (.arr b))).sum := by
  simp only [l0, Arg.flat, lcount_eq_length]
  rw [sqmags_flatten cplx bs h, List.filter_flatten, List.length_flatten, Nat.cast_list_sum, List.map_map,
    List.map_map, List.map_map]
  rfl

theorem l1_block (cplx : Bool) (bs : List (List ℝ)) (h : cplx = true → ∀ b ∈ bs, b.length % 2 = 0) :
    l1 cplx (.blk bs) = (bs.map (fun b => l1 cplx (.arr b))).sum :=
  sum_flatten_of_comm (mags cplx) bs (mags_flatten cplx bs h)

theorem huberSep_block (cplx : Bool) (delta : ℝ) (bs : List (List ℝ))
    (h : cplx = true → ∀ b ∈ bs, b.length % 2 = 0) :
    huberSep cplx delta (.blk bs) = (bs.map (fun b => huberSep cplx delta (.arr b))).sum :=
  sum_flatten_of_comm (fun v => (mags cplx v).map (huber1 delta)) bs
    (by rw [mags_flatten cplx bs h, List.map_flatten, List.map_map]; rfl)

end blocks

section realblocks

theorem sqmags_nonneg (cplx : Bool) (v : List ℝ) : ∀ s ∈ sqmags cplx v, 0 ≤ s := by
  intro s hs
  cases cplx with
  | false =>
    simp only [sqmags, Bool.false_eq_true, if_false, List.mem_map] at hs
    obtain ⟨x, _, rfl⟩ := hs; exact mul_self_nonneg x
  | true =>
    simp only [sqmags, if_true, List.mem_map] at hs
    obtain ⟨p, _, rfl⟩ := hs
    exact add_nonneg (mul_self_nonneg p.1) (mul_self_nonneg p.2)

theorem sum_sqmags_nonneg (cplx : Bool) (v : List ℝ) : 0 ≤ (sqmags cplx v).sum :=
  List.sum_nonneg (sqmags_nonneg cplx v)

theorem l2_block (cplx : Bool) (bs : List (List ℝ)) (h : cplx = true → ∀ b ∈ bs, b.length % 2 = 0) :
    l2 cplx (.blk bs) = Real.sqrt ((bs.map (fun b => (l2 cplx (.arr b)) ^ 2)).sum) := by
  have hs := sql2_block (K := ℝ) cplx bs h
  simp only [sql2, Arg.flat] at hs
  simp only [l2, Arg.flat, hasSqrt_sqrt]
  rw [hs]
  congr 2
  apply List.map_congr_left
  intro b _
  rw [Real.sq_sqrt (sum_sqmags_nonneg cplx b)]

end realblocks

section ind

/-- both indicators have this shape -/
theorem ite_top_eq_fin_iff {K : Type} [Zero K] (c : Prop) [Decidable c] :
    (if c then (Ext.top : Ext K) else .fin 0) = .fin 0 ↔ ¬ c := by
  by_cases h : c <;> simp [h]

variable {K : Type} [Field K] [LinearOrder K] [IsStrictOrderedRing K]

theorem huber1_nonneg {delta a : K} (hd : 0 ≤ delta) : 0 ≤ huber1 delta a := by
  unfold huber1 leR
  split
  · exact mul_nonneg (div_nonneg zero_le_one (add_nonneg zero_le_one zero_le_one)) (mul_self_nonneg a)
  · rename_i h
    have h : delta < a := by simpa using h
    exact mul_nonneg hd (sub_nonneg.2 ((div_le_self hd (le_add_of_nonneg_right zero_le_one)).trans h.le))

omit [IsStrictOrderedRing K] in
theorem proxAvgWeights_length (N : K) (al : List K) (n : Nat) :
    (proxAvgWeights N none n).length = n ∧ (proxAvgWeights N (some al) n).length = al.length := by
  constructor
  · simp [proxAvgWeights]
  · simp only [proxAvgWeights]
    split <;> simp

end ind

section fd
variable {K : Type} [Field K]

theorem diffList_length : ∀ l : List K, (diffList l).length = l.length - 1
  | [] => rfl
  | [_] => rfl
  | a :: b :: r => congrArg (· + 1) (diffList_length (b :: r))

theorem diffList_getD : ∀ (l : List K) (i : Nat), i + 1 < l.length →
    (diffList l).getD i 0 = l.getD (i + 1) 0 - l.getD i 0
  | [], i, h => by simp at h
  | [_], i, h => by simp at h
  | a :: b :: r, 0, _ => rfl
  | a :: b :: r, i + 1, h => diffList_getD (b :: r) i (Nat.lt_of_succ_lt_succ h)

theorem getD_append_of_lt (l l' : List K) (i : Nat) (h : i < l.length) :
    (l ++ l').getD i 0 = l.getD i 0 := by
  simp [List.getD_eq_getElem?_getD, List.getElem?_append_left h]

theorem getD_append_last (l : List K) (e : K) : (l ++ [e]).getD l.length 0 = e := by
  simp [List.getD_eq_getElem?_getD]

theorem diffAppend_getD (circular : Bool) (x : List K) (i : Nat) (hi : i < x.length) :
    (diffAppend circular x).getD i 0 =
      if i + 1 < x.length then x.getD (i + 1) 0 - x.getD i 0
      else if circular then x.getD 0 0 - x.getD i 0 else 0 := by
  cases x with
  | nil => simp at hi
  | cons a r =>
    simp only [diffAppend]
    generalize he : (if circular then a else (a :: r).getLastD a) = e
    have hlen : i + 1 < ((a :: r) ++ [e]).length := by
      simp only [List.length_append, List.length_cons, List.length_nil] at hi ⊢; omega
    rw [diffList_getD _ i hlen, getD_append_of_lt _ _ _ hi]
    by_cases h1 : i + 1 < (a :: r).length
    · rw [if_pos h1, getD_append_of_lt _ _ _ h1]
    · rw [if_neg h1]
      have hlast : i + 1 = (a :: r).length := by omega
      rw [hlast, getD_append_last, ← he]
      cases circular with
      | true => simp
      | false =>
        simp only [Bool.false_eq_true, if_false]
        have : (a :: r).getLastD a = (a :: r).getD i 0 := by
          have hi2 : i = r.length := by simp only [List.length_cons] at hlast; omega
          subst hi2
          simp [List.getLastD, List.getD_eq_getElem?_getD, List.getLast_eq_getElem]
        rw [this]; ring

theorem diffAppend_length (circular : Bool) (x : List K) : (diffAppend circular x).length = x.length := by
  cases x with
  | nil => rfl
  | cons a r => simp [diffAppend, diffList_length]

/-- entry `i` of the N-d difference along axis `ax`: `c` is the coordinate of `i` on that axis, `stride` the distance
    of neighbours along it -/
theorem fdAxis_getD (circular : Bool) (shape : List Nat) (ax : Nat) (x : List K) (i : Nat) (hi : i < size shape) :
    (fdAxis circular shape ax x).getD i 0 =
      if (i / size (shape.drop (ax + 1))) % shape.getD ax 1 + 1 < shape.getD ax 1 then
        x.getD (i + size (shape.drop (ax + 1))) 0 - x.getD i 0
      else if circular then
        x.getD (i - (i / size (shape.drop (ax + 1))) % shape.getD ax 1 * size (shape.drop (ax + 1))) 0 - x.getD i 0
      else 0 := by
  unfold fdAxis
  rw [List.getD_eq_getElem?_getD, List.getElem?_map, List.getElem?_range hi]
  rfl

end fd

section metrics

theorem mean_nonneg (l : List ℝ) (h : ∀ a ∈ l, 0 ≤ a) : 0 ≤ mean l := by
  unfold mean
  rw [lcount_eq_length]
  exact div_nonneg (List.sum_nonneg h) (Nat.cast_nonneg _)

theorem var_nonneg_real (x : List ℝ) : 0 ≤ var false x := by
  simp only [var, Bool.false_eq_true, if_false]
  apply mean_nonneg
  intro a ha
  simp only [List.mem_map] at ha
  obtain ⟨b, _, rfl⟩ := ha
  exact mul_self_nonneg _

/-- `rel_res` with the model's `<`-only operations read as `max` and `= 0` (the model takes the maximum in the order
    `‖b‖`, `‖Ax‖`; the statements about it say `max ‖Ax‖ ‖b‖`) -/
theorem relRes_def (cplx : Bool) (ax b : List ℝ) :
    relRes cplx ax b =
      if max (Real.sqrt (sqmags cplx ax).sum) (Real.sqrt (sqmags cplx b).sum) = 0 then 0
      else Real.sqrt (sqmags cplx (List.zipWith (· - ·) b ax)).sum /
        max (Real.sqrt (sqmags cplx ax).sum) (Real.sqrt (sqmags cplx b).sum) := by
  rw [max_comm (Real.sqrt (sqmags cplx ax).sum)]
  simp only [relRes, hasSqrt_sqrt, maxR_eq_max, isZero_iff]

theorem relRes_of_max_pos (cplx : Bool) (ax b : List ℝ)
    (h : 0 < max (Real.sqrt (sqmags cplx ax).sum) (Real.sqrt (sqmags cplx b).sum)) :
    relRes cplx ax b = Real.sqrt (sqmags cplx (List.zipWith (· - ·) b ax)).sum /
      max (Real.sqrt (sqmags cplx ax).sum) (Real.sqrt (sqmags cplx b).sum) := by
  rw [relRes_def, if_neg h.ne']

end metrics

end Scico.FuncEval
