/-
  C07: the gradient returned by the model is the true derivative.  By induction over the functional
  expression (any nesting of scaling, sums, separable blocks, losses composed with linear *and nonlinear*
  operators) the transcription `Fn.jaxGrad` of JAX's rules gives the derivative along every curve on which
  the expression is smooth (`Fn.derivOn`); lines through a point of the pointwise smoothness domain
  `Fn.Smooth` are the special case the property asks for (`Fn.isGradAt`).
-/
import Scico.Proofs.AutogradCurve

namespace Scico.Autograd
open scoped Topology

variable {n m k : Nat}

/-- JAX's contract for `jax.grad` of a real-valued function -/
def JaxContract (f : CVec ℝ n → ℝ) (x jg : CVec ℝ n) : Prop :=
  ∀ d : CVec ℝ n, HasDerivAt (fun t : ℝ => f (along x d t)) (reBdot jg d) 0

/-- `g` is the gradient of `f` at `x` in the sense of property C07: `JaxContract` with the pairing `Re⟪g,·⟫` in place of
    `Re Σ jgᵢ·`, that is `JaxContract` at `conjVec g` (`isGradAt_iff`) -/
def IsGradAt (f : CVec ℝ n → ℝ) (x g : CVec ℝ n) : Prop :=
  ∀ d : CVec ℝ n, HasDerivAt (fun t : ℝ => f (along x d t)) (reInner g d) 0

/-- `JaxContract` along every differentiable curve through `x`, not only along lines (`CurveContract.jaxContract`) -/
def CurveContract (f : CVec ℝ n → ℝ) (x jg : CVec ℝ n) : Prop :=
  ∀ (c : ℝ → CVec ℝ n) (d : CVec ℝ n), c 0 = x → Tangent c d →
    HasDerivAt (fun t : ℝ => f (c t)) (reBdot jg d) 0

/-- `IsGradAt` along every differentiable curve through `x`: `CurveContract` at `conjVec g` (`isCurveGradAt_iff`); it implies
    `IsGradAt` (`IsCurveGradAt.isGradAt`) -/
def IsCurveGradAt (f : CVec ℝ n → ℝ) (x g : CVec ℝ n) : Prop :=
  ∀ (c : ℝ → CVec ℝ n) (d : CVec ℝ n), c 0 = x → Tangent c d →
    HasDerivAt (fun t : ℝ => f (c t)) (reInner g d) 0

theorem CurveContract.jaxContract {f : CVec ℝ n → ℝ} {x jg : CVec ℝ n} (h : CurveContract f x jg) :
    JaxContract f x jg :=
  fun d => h (fun t => along x d t) d (along_zero x d) (tangent_along x d)

/-- what property C07 is about: a gradient for `Re⟪·,·⟫` is JAX's gradient at the conjugate -/
theorem isGradAt_iff {f : CVec ℝ n → ℝ} {x g : CVec ℝ n} : IsGradAt f x g ↔ JaxContract f x (conjVec g) :=
  forall_congr' fun d => by rw [reInner_eq_reBdot_conj]

theorem isCurveGradAt_iff {f : CVec ℝ n → ℝ} {x g : CVec ℝ n} : IsCurveGradAt f x g ↔ CurveContract f x (conjVec g) :=
  forall_congr' fun c => forall_congr' fun d => by rw [reInner_eq_reBdot_conj]

theorem IsCurveGradAt.isGradAt {f : CVec ℝ n → ℝ} {x g : CVec ℝ n} (h : IsCurveGradAt f x g) :
    IsGradAt f x g :=
  isGradAt_iff.2 (isCurveGradAt_iff.1 h).jaxContract

theorem conj_grad (f : CVec ℝ n → ℝ) (x jg : CVec ℝ n) (h : JaxContract f x jg) :
    IsGradAt f x (scicoGrad jg) :=
  isGradAt_iff.2 ((conjVec_conjVec jg).symm ▸ h)

theorem conj_grad_curve (f : CVec ℝ n → ℝ) (x jg : CVec ℝ n) (h : CurveContract f x jg) :
    IsCurveGradAt f x (scicoGrad jg) :=
  isCurveGradAt_iff.2 ((conjVec_conjVec jg).symm ▸ h)

/-- JAX's gradient without the conjugate is wrong in `Re⟪·,·⟫` by the sign of the imaginary parts -/
theorem reInner_sub_reBdot (jg d : CVec ℝ n) :
    reInner jg d - reBdot jg d = 2 * ∑ i, (jg i).im * (d i).im := by
  rw [reInner_eq, reBdot_eq, ← Finset.sum_sub_distrib, Finset.mul_sum]
  exact Finset.sum_congr rfl (fun i _ => by ring)

/-- `2 Re(conj z · e)` -/
def pair2 (z e : Cx ℝ) : ℝ := 2 * (z.re * e.re + z.im * e.im)

theorem hasDerivAt_abs2 (z e : Cx ℝ) :
    HasDerivAt (fun t : ℝ => Cx.abs2 (z + Cx.smul t e)) (2 * (z.re * e.re + z.im * e.im)) 0 := by
  have hz : CTangent (fun t => z + Cx.smul t e) e :=
    ⟨hasDerivAt_lin z.re e.re, hasDerivAt_lin z.im e.im⟩
  have h := hz.abs2
  refine HasDerivAt.congr' h (fun _ => rfl) ?_
  simp only [Cx.add_re, Cx.add_im, Cx.smul_re, Cx.smul_im, zero_mul, add_zero]

/-- a sum over the entries of a curve `z` with velocity `e`, entry `i` having the JAX cotangent `rᵢ` -/
theorem hasDerivAt_sum_rows {z : ℝ → CVec ℝ m} {e : CVec ℝ m} (φ : Fin m → Cx ℝ → ℝ) (r : CVec ℝ m)
    (hi : ∀ i, HasDerivAt (fun t : ℝ => φ i (z t i)) ((r i).re * (e i).re - (r i).im * (e i).im) 0) :
    HasDerivAt (fun t : ℝ => ∑ i, φ i (z t i)) (reBdot r e) 0 := by
  rw [reBdot_eq]
  exact HasDerivAt.fun_sum (u := Finset.univ) fun i _ => hi i

theorem hasDerivAt_sumAbs2 {c : ℝ → CVec ℝ n} {d : CVec ℝ n} (hc : Tangent c d) :
    HasDerivAt (fun t : ℝ => sumAbs2 (c t))
      (∑ i, 2 * ((c 0 i).re * (d i).re + (c 0 i).im * (d i).im)) 0 := by
  simp only [sumAbs2_eq]
  exact HasDerivAt.fun_sum (fun i _ => (hc i).abs2)

theorem groupAbs2_eq {k : Nat} (grp : Fin n → Fin k) (x : CVec ℝ n) (g : Fin k) :
    groupAbs2 grp x g = ∑ i, if grp i = g then Cx.abs2 (x i) else 0 := Vec.sum_eq _

theorem groupAbs2_nonneg {k : Nat} (grp : Fin n → Fin k) (x : CVec ℝ n) (g : Fin k) :
    0 ≤ groupAbs2 grp x g := by
  rw [groupAbs2_eq]
  exact Finset.sum_nonneg (fun i _ => by split <;> [exact abs2_nonneg _; exact le_refl _])

theorem hasDerivAt_groupAbs2 {k : Nat} (grp : Fin n → Fin k) {c : ℝ → CVec ℝ n} {d : CVec ℝ n}
    (hc : Tangent c d) (g : Fin k) :
    HasDerivAt (fun t : ℝ => groupAbs2 grp (c t) g)
      (∑ i, if grp i = g then 2 * ((c 0 i).re * (d i).re + (c 0 i).im * (d i).im) else 0) 0 := by
  simp only [groupAbs2_eq]
  refine HasDerivAt.fun_sum (fun i _ => ?_)
  by_cases h : grp i = g
  · simp only [h, if_true]; exact (hc i).abs2
  · simp only [h, if_false]; exact hasDerivAt_const _ _

theorem huberOf_real (δ r : ℝ) :
    huberOf δ r = if δ < r then δ * (r - δ / 2) else (1 / 2) * (r * r) := by
  unfold huberOf; rw [two_eq]

/-- `f` agrees with `g` on the left of `a` and with `h` on the right, both with derivative `c` at `a`.  The two sides are asked
    for in the form the one caller has them: near `a` on the left, everywhere on the right. -/
theorem hasDerivAt_glue {f g h : ℝ → ℝ} {a c : ℝ} (hg : HasDerivAt g c a) (hh : HasDerivAt h c a)
    (hl : ∀ᶠ s in 𝓝 a, s ≤ a → f s = g s) (hr : ∀ s, a ≤ s → f s = h s) : HasDerivAt f c a := by
  have h1 : HasDerivWithinAt f c (Set.Iic a) a :=
    hg.hasDerivWithinAt.congr_of_eventuallyEq
      ((hl.filter_mono nhdsWithin_le_nhds).mp (eventually_nhdsWithin_of_forall fun _ hle hs => hs hle))
      (hl.self_of_nhds le_rfl)
  have h2 : HasDerivWithinAt f c (Set.Ici a) a := hh.hasDerivWithinAt.congr hr (hr a le_rfl)
  have := h1.union h2
  rwa [Set.Iic_union_Ici, hasDerivWithinAt_univ] at this

/-- `s ↦ huber_δ(√s)` is differentiable at the kink `s₀ = δ²` with derivative `1/2`: it is `s/2` on the left and
    `δ(√s − δ/2)` on the right -/
theorem hasDerivAt_huber_kink {δ : ℝ} (hδ : 0 < δ) :
    HasDerivAt (fun s : ℝ => huberOf δ (Real.sqrt s)) (1 / 2) (δ * δ) := by
  have hsq : Real.sqrt (δ * δ) = δ := Real.sqrt_mul_self hδ.le
  have hg : HasDerivAt (fun s : ℝ => (1 / 2 : ℝ) * s) (1 / 2) (δ * δ) :=
    ((hasDerivAt_id (δ * δ)).const_mul (1 / 2 : ℝ)).congr_deriv (mul_one _)
  have hh : HasDerivAt (fun s : ℝ => δ * (Real.sqrt s - δ / 2)) (1 / 2) (δ * δ) := by
    refine ((((hasDerivAt_id (δ * δ)).sqrt (mul_pos hδ hδ).ne').sub_const (δ / 2)).const_mul δ).congr_deriv ?_
    show δ * (1 / (2 * Real.sqrt (δ * δ))) = 1 / 2
    rw [hsq]
    field_simp
  refine hasDerivAt_glue hg hh ?_ (fun s hge => ?_)
  · filter_upwards [lt_mem_nhds (mul_pos hδ hδ)] with s hs hle
    rw [huberOf_real, if_neg (not_lt.mpr ((Real.sqrt_le_sqrt hle).trans hsq.le)), Real.mul_self_sqrt hs.le]
  · rw [huberOf_real]
    rcases (hsq.ge.trans (Real.sqrt_le_sqrt hge)).lt_or_eq with h | h
    · rw [if_pos h]
    · rw [if_neg (by rw [← h]; exact lt_irrefl _), ← h]; ring

/-- chain rule for `t ↦ huber_δ(√S(t))` with `S ≥ 0`: at every point, also where `√S(0) = δ`,
    and also where `S(0) = 0` -/
theorem hasDerivAt_huber_comp {δ : ℝ} (hδ : 0 < δ) {S : ℝ → ℝ} {S' : ℝ} (hS : HasDerivAt S S' 0)
    (hpos : ∀ t, 0 ≤ S t) :
    HasDerivAt (fun t : ℝ => huberOf δ (Real.sqrt (S t)))
      ((if δ < Real.sqrt (S 0) then δ / (2 * Real.sqrt (S 0)) else 1 / 2) * S') 0 := by
  have hcont : ContinuousAt (fun t => Real.sqrt (S t)) 0 :=
    Real.continuous_sqrt.continuousAt.comp hS.continuousAt
  rcases lt_trichotomy (Real.sqrt (S 0)) δ with hlt | heq | hgt
  · -- inside: eventually ½ S(t)
    rw [if_neg (not_lt.mpr hlt.le)]
    have hev : ∀ᶠ t in 𝓝 (0 : ℝ), Real.sqrt (S t) < δ := hcont.eventually (gt_mem_nhds hlt)
    have h0 : HasDerivAt (fun t => (1 / 2 : ℝ) * S t) (1 / 2 * S') 0 := hS.const_mul _
    refine h0.congr_of_eventuallyEq ?_
    filter_upwards [hev] with t ht
    rw [huberOf_real, if_neg (not_lt.mpr ht.le), Real.mul_self_sqrt (hpos t)]
  · -- on the kink
    rw [if_neg (by rw [heq]; exact lt_irrefl _)]
    have hS0 : S 0 = δ * δ := by
      rw [← heq, Real.mul_self_sqrt (hpos 0)]
    have hk := hasDerivAt_huber_kink hδ
    rw [← hS0] at hk
    exact hk.comp (0 : ℝ) hS
  · -- outside: eventually δ(√S − δ/2)
    rw [if_pos hgt]
    have hS0 : S 0 ≠ 0 := by
      intro h0
      rw [h0, Real.sqrt_zero] at hgt
      exact absurd hgt (not_lt.mpr hδ.le)
    have hev : ∀ᶠ t in 𝓝 (0 : ℝ), δ < Real.sqrt (S t) := hcont.eventually (lt_mem_nhds hgt)
    have h0 : HasDerivAt (fun t => δ * (Real.sqrt (S t) - δ / 2)) (δ * (S' / (2 * Real.sqrt (S 0)))) 0 :=
      ((hS.sqrt hS0).sub_const _).const_mul _
    have h1 : HasDerivAt (fun t => huberOf δ (Real.sqrt (S t))) (δ * (S' / (2 * Real.sqrt (S 0)))) 0 := by
      refine h0.congr_of_eventuallyEq ?_
      filter_upwards [hev] with t ht
      rw [huberOf_real, if_pos ht]
    exact h1.congr_deriv (by ring)

/-- where the functional is differentiable *and* JAX's rules produce finite numbers (pointwise).  `Fn.SmoothOn` below has the same
    rows except `l1` and `l21`, which it relaxes; `Fn.smoothOn_of_smooth` is the implication. -/
def Fn.Smooth : {n : Nat} → Fn ℝ n → CVec ℝ n → Prop
  | _, .zero, _ => True
  | _, .sqL2, _ => True
  | _, .l2, x => sumAbs2 x ≠ 0
  | _, .l1, x => ∀ i, Cx.abs2 (x i) ≠ 0
  | _, .huber δ _, _ => 0 < δ
  | _, .l1ml2 _, x => (∀ i, Cx.abs2 (x i) ≠ 0) ∧ sumAbs2 x ≠ 0
  | _, .l21 _ grp, x => ∀ g, groupAbs2 grp x g ≠ 0
  | _, .scaled _ f, x => f.Smooth x
  | _, .add f g, x => f.Smooth x ∧ g.Smooth x
  | _, .sep f g, x => f.Smooth (vleft x) ∧ g.Smooth (vright x)
  | _, .loss _ A y f, x => f.Smooth (vsub (mulVec A x) y)
  | _, .sqL2Loss _ _ _ _, _ => True
  | _, .sqL2SqAbsLoss _ _ _ _, _ => True
  | _, .sqL2AbsLoss _ A _ _, x => ∀ i, Cx.abs2 (mulVec A x i) ≠ 0
  | _, .poisson _ A _ _, x => ∀ i, 0 < (mulVec A x i).re
  | _, .lossOp _ F y f, x => f.Smooth (vsub (F.eval x) y)
  | _, .sqL2LossOp _ _ _ _, _ => True

/-- proved by unfolding, so that the equation lemmas of `Fn.Smooth` are generated here, once, for every later
    `simp [Fn.Smooth]` -/
theorem Fn.smooth_add (f g : Fn ℝ n) (x : CVec ℝ n) : (Fn.add f g).Smooth x ↔ f.Smooth x ∧ g.Smooth x := by
  simp only [Fn.Smooth]

/-- smoothness *along a curve*: the pointwise conditions at `c 0`, except that an entry of the `L1Norm`
    or a group of the `L21Norm` may vanish at `c 0` provided it vanishes identically along the curve
    (structural zeros, e.g. the zero-padded boundary differences of a non-circular TV norm — there the
    guarded `_l2norm` contributes the constant 0 and a zero gradient) -/
def Fn.SmoothOn : {n : Nat} → Fn ℝ n → (ℝ → CVec ℝ n) → Prop
  | _, .zero, _ => True
  | _, .sqL2, _ => True
  | _, .l2, c => sumAbs2 (c 0) ≠ 0
  | _, .l1, c => ∀ i, Cx.abs2 (c 0 i) ≠ 0 ∨ ∀ t, Cx.abs2 (c t i) = 0
  | _, .huber δ _, _ => 0 < δ
  | _, .l1ml2 _, c => (∀ i, Cx.abs2 (c 0 i) ≠ 0) ∧ sumAbs2 (c 0) ≠ 0
  | _, .l21 _ grp, c => ∀ g, groupAbs2 grp (c 0) g ≠ 0 ∨ ∀ t, groupAbs2 grp (c t) g = 0
  | _, .scaled _ f, c => f.SmoothOn c
  | _, .add f g, c => f.SmoothOn c ∧ g.SmoothOn c
  | _, .sep f g, c => f.SmoothOn (fun t => vleft (c t)) ∧ g.SmoothOn (fun t => vright (c t))
  | _, .loss _ A y f, c => f.SmoothOn (fun t => vsub (mulVec A (c t)) y)
  | _, .sqL2Loss _ _ _ _, _ => True
  | _, .sqL2SqAbsLoss _ _ _ _, _ => True
  | _, .sqL2AbsLoss _ A _ _, c => ∀ i, Cx.abs2 (mulVec A (c 0) i) ≠ 0
  | _, .poisson _ A _ _, c => ∀ i, 0 < (mulVec A (c 0) i).re
  | _, .lossOp _ F y f, c => f.SmoothOn (fun t => vsub (F.eval (c t)) y)
  | _, .sqL2LossOp _ _ _ _, _ => True

theorem Fn.smoothOn_of_smooth : ∀ {n : Nat} (f : Fn ℝ n) (c : ℝ → CVec ℝ n), f.Smooth (c 0) → f.SmoothOn c := by
  intro n f
  induction f with
  | zero => intro c h; trivial
  | sqL2 => intro c h; trivial
  | l2 => intro c h; exact h
  | l1 => intro c h i; exact Or.inl (h i)
  | huber δ sep => intro c h; exact h
  | l1ml2 β => intro c h; exact h
  | l21 k grp => intro c h g; exact Or.inl (h g)
  | scaled a f ih => intro c h; exact ih c h
  | add f g ihf ihg => intro c h; exact ⟨ihf c h.1, ihg c h.2⟩
  | sep f g ihf ihg => intro c h; exact ⟨ihf _ h.1, ihg _ h.2⟩
  | loss s A y f ih => intro c h; exact ih _ h
  | sqL2Loss s A y w => intro c h; trivial
  | sqL2SqAbsLoss s A y w => intro c h; trivial
  | sqL2AbsLoss s A y w => intro c h; exact h
  | poisson s A y cst => intro c h; exact h
  | lossOp s F y f ih => intro c h; exact ih _ h
  | sqL2LossOp s F y w => intro c h; trivial

/-- the statement proved for every constructor: `CurveContract` at ONE curve `c`, the cotangent given as a function `jg` of the
    point (`DerivOn.hasDerivAt` reads it at `x = c 0`) -/
def DerivOn (f : CVec ℝ n → ℝ) (jg : CVec ℝ n → CVec ℝ n) (c : ℝ → CVec ℝ n) (d : CVec ℝ n) : Prop :=
  HasDerivAt (fun t : ℝ => f (c t)) (reBdot (jg (c 0)) d) 0

namespace DerivOn
variable {f g : CVec ℝ n → ℝ} {jf jg : CVec ℝ n → CVec ℝ n} {c : ℝ → CVec ℝ n} {d : CVec ℝ n}

theorem hasDerivAt {x : CVec ℝ n} (h : DerivOn f jf c d) (h0 : c 0 = x) :
    HasDerivAt (fun t => f (c t)) (reBdot (jf x) d) 0 := h0 ▸ h

theorem zero : DerivOn (fun _ => 0) (fun _ _ => 0) c d := by
  unfold DerivOn; rw [reBdot_zero_left]; exact hasDerivAt_const _ _

theorem const_mul (a : ℝ) (h : DerivOn f jf c d) : DerivOn (fun x => a * f x) (fun x => vsmul a (jf x)) c d := by
  unfold DerivOn; rw [reBdot_vsmul_left]; exact HasDerivAt.const_mul a h

theorem add (hf : DerivOn f jf c d) (hg : DerivOn g jg c d) :
    DerivOn (fun x => f x + g x) (fun x => vadd (jf x) (jg x)) c d := by
  unfold DerivOn; rw [reBdot_vadd_left]; exact HasDerivAt.add hf hg

theorem sep {f : CVec ℝ n → ℝ} {g : CVec ℝ k → ℝ} {jf : CVec ℝ n → CVec ℝ n} {jg : CVec ℝ k → CVec ℝ k}
    {c : ℝ → CVec ℝ (n + k)} {d : CVec ℝ (n + k)} (hf : DerivOn f jf (fun t => vleft (c t)) (vleft d))
    (hg : DerivOn g jg (fun t => vright (c t)) (vright d)) :
    DerivOn (fun x => f (vleft x) + g (vright x)) (fun x => vappend (jf (vleft x)) (jg (vright x))) c d := by
  unfold DerivOn; rw [reBdot_split, vleft_vappend, vright_vappend]; exact HasDerivAt.add hf hg

/-- the chain rule: an outer `φ` after `Φ(·) - y`, scaled by `s`.  `Jd` is the velocity of the image curve `Φ ∘ c`, `G u` pulls
    cotangents back through `Φ` at `u` (transposition for `Re Σ aᵢbᵢ`) -/
theorem comp {Φ : CVec ℝ n → CVec ℝ m} {G : CVec ℝ n → CVec ℝ m → CVec ℝ n} {Jd : CVec ℝ m} (s : ℝ) (y : CVec ℝ m)
    {φ : CVec ℝ m → ℝ} {jφ : CVec ℝ m → CVec ℝ m} (hG : ∀ r, reBdot (G (c 0) r) d = reBdot r Jd)
    (h : DerivOn φ jφ (fun t => vsub (Φ (c t)) y) Jd) :
    DerivOn (fun x => s * φ (vsub (Φ x) y)) (fun x => vsmul s (G x (jφ (vsub (Φ x) y)))) c d := by
  unfold DerivOn; rw [reBdot_vsmul_left, hG]; exact HasDerivAt.const_mul s h

end DerivOn

theorem derivOn_sqL2 {c : ℝ → CVec ℝ n} {d : CVec ℝ n} (hc : Tangent c d) :
    DerivOn sumAbs2 (fun x i => Cx.smul two (x i).conj) c d := by
  unfold DerivOn
  refine (hasDerivAt_sumAbs2 hc).congr_deriv ?_
  rw [reBdot_eq]
  refine Finset.sum_congr rfl (fun i _ => ?_)
  simp only [Cx.smul_re, Cx.smul_im, Cx.conj_re, Cx.conj_im, two_eq]; ring

theorem hasDerivAt_norm2 {c : ℝ → CVec ℝ n} {d : CVec ℝ n} (hc : Tangent c d) (hx : sumAbs2 (c 0) ≠ 0) :
    HasDerivAt (fun t : ℝ => norm2 (c t))
      ((∑ i, 2 * ((c 0 i).re * (d i).re + (c 0 i).im * (d i).im)) / (2 * norm2 (c 0))) 0 :=
  (hasDerivAt_sumAbs2 hc).sqrt hx

theorem norm2_ne_zero (x : CVec ℝ n) (hx : sumAbs2 x ≠ 0) : norm2 x ≠ 0 := by
  unfold norm2
  rw [hasSqrt_real]
  exact (Real.sqrt_ne_zero (sumAbs2_nonneg x)).mpr hx

/-- the cotangent `conj z / r` paired with `e`, in the form in which `HasDerivAt.sqrt` gives the derivative of `√|z|²` -/
theorem re_conj_divr_mul (z e : Cx ℝ) (r : ℝ) :
    (Cx.divr z.conj r * e).re = 2 * (z.re * e.re + z.im * e.im) / (2 * r) := by
  rw [mul_div_mul_left _ _ two_ne_zero]
  simp only [Cx.mul_re, Cx.divr_re, Cx.divr_im, Cx.conj_re, Cx.conj_im]
  ring

theorem reBdot_l2 (x d : CVec ℝ n) :
    reBdot (fun i => Cx.divr (x i).conj (norm2 x)) d =
      (∑ i, 2 * ((x i).re * (d i).re + (x i).im * (d i).im)) / (2 * norm2 x) := by
  rw [reBdot_eq, Finset.sum_div]
  exact Finset.sum_congr rfl fun i _ => re_conj_divr_mul (x i) (d i) _

theorem derivOn_l2 {c : ℝ → CVec ℝ n} {d : CVec ℝ n} (hc : Tangent c d) (hx : sumAbs2 (c 0) ≠ 0) :
    DerivOn norm2 (fun x i => Cx.divr (x i).conj (norm2 x)) c d := by
  unfold DerivOn
  rw [reBdot_l2]
  exact hasDerivAt_norm2 hc hx

theorem abs_pos_of_abs2 (z : Cx ℝ) (h : Cx.abs2 z ≠ 0) : 0 < Cx.abs z := by
  unfold Cx.abs; rw [hasSqrt_real]
  exact Real.sqrt_pos.mpr (lt_of_le_of_ne (abs2_nonneg z) (Ne.symm h))

theorem absGrad_of_ne (z : Cx ℝ) (h : Cx.abs2 z ≠ 0) : absGrad z = Cx.divr z.conj (Cx.abs z) := by
  unfold absGrad; rw [if_pos (abs_pos_of_abs2 z h)]

theorem absGrad_of_zero (z : Cx ℝ) (h : Cx.abs2 z = 0) : absGrad z = 0 := by
  unfold absGrad Cx.abs; rw [h, hasSqrt_real, Real.sqrt_zero, if_neg (lt_irrefl _)]

theorem hasDerivAt_abs_curve {c : ℝ → CVec ℝ n} {d : CVec ℝ n} (hc : Tangent c d) (i : Fin n)
    (hx : Cx.abs2 (c 0 i) ≠ 0 ∨ ∀ t, Cx.abs2 (c t i) = 0) :
    HasDerivAt (fun t : ℝ => Cx.abs (c t i))
      ((absGrad (c 0 i)).re * (d i).re - (absGrad (c 0 i)).im * (d i).im) 0 := by
  rcases hx with hne | hz
  · have h := (hc i).abs2.sqrt hne
    refine HasDerivAt.congr' h (fun _ => rfl) ?_
    rw [absGrad_of_ne _ hne]
    exact (re_conj_divr_mul (c 0 i) (d i) _).symm
  · rw [absGrad_of_zero _ (hz 0)]
    have : (fun t : ℝ => Cx.abs (c t i)) = fun _ => 0 := by
      funext t; unfold Cx.abs; rw [hz t, hasSqrt_real, Real.sqrt_zero]
    rw [this]
    simp only [Cx.zero_re, Cx.zero_im, zero_mul, sub_zero]
    exact hasDerivAt_const _ _

theorem derivOn_l1 {c : ℝ → CVec ℝ n} {d : CVec ℝ n} (hc : Tangent c d)
    (hx : ∀ i, Cx.abs2 (c 0 i) ≠ 0 ∨ ∀ t, Cx.abs2 (c t i) = 0) :
    DerivOn (fun x : CVec ℝ n => Vec.sum fun i => Cx.abs (x i)) (fun x i => absGrad (x i)) c d := by
  unfold DerivOn
  simp only [Vec.sum_eq]
  exact hasDerivAt_sum_rows (fun _ => Cx.abs) _ fun i => hasDerivAt_abs_curve hc i (hx i)

theorem derivOn_l1ml2 (β : ℝ) {c : ℝ → CVec ℝ n} {d : CVec ℝ n} (hc : Tangent c d)
    (hx : ∀ i, Cx.abs2 (c 0 i) ≠ 0) (hx2 : sumAbs2 (c 0) ≠ 0) :
    DerivOn (fun x : CVec ℝ n => Vec.sum (fun i => Cx.abs (x i)) - β * norm2 x)
      (fun x i => absGrad (x i) - Cx.smul β (Cx.divr (x i).conj (norm2 x))) c d := by
  unfold DerivOn
  have h := HasDerivAt.sub (derivOn_l1 hc fun i => Or.inl (hx i)) ((hasDerivAt_norm2 hc hx2).const_mul β)
  refine HasDerivAt.congr' h (fun _ => rfl) ?_
  rw [← reBdot_l2, ← reBdot_vsmul_left, ← reBdot_vsub]
  rfl

/-- the factor `huber'(r)/r` of the chain rule times the pairing, against the cotangent JAX writes: `conj z` inside the
    threshold, `δ conj z / r` outside -/
theorem huber_coord (δ r : ℝ) (z e : Cx ℝ) :
    (if δ < r then δ / (2 * r) else 1 / 2) * (2 * (z.re * e.re + z.im * e.im)) =
      (if δ < r then Cx.smul δ (Cx.divr z.conj r) else z.conj).re * e.re
        - (if δ < r then Cx.smul δ (Cx.divr z.conj r) else z.conj).im * e.im := by
  by_cases hcd : δ < r
  · simp only [hcd, if_true, Cx.smul_re, Cx.smul_im, Cx.divr_re, Cx.divr_im, Cx.conj_re, Cx.conj_im]
    ring
  · simp only [hcd, if_false, Cx.conj_re, Cx.conj_im]
    ring

theorem derivOn_huber_sep (δ : ℝ) (hδ : 0 < δ) {c : ℝ → CVec ℝ n} {d : CVec ℝ n} (hc : Tangent c d) :
    DerivOn (fun x : CVec ℝ n => Vec.sum fun i => huberOf δ (Cx.abs (x i)))
      (fun x i => if δ < Cx.abs (x i) then Cx.smul δ (Cx.divr (x i).conj (Cx.abs (x i))) else (x i).conj) c d := by
  unfold DerivOn
  simp only [Vec.sum_eq]
  refine hasDerivAt_sum_rows (fun _ z => huberOf δ (Cx.abs z)) _ fun i => ?_
  refine HasDerivAt.congr' (hasDerivAt_huber_comp hδ (hc i).abs2 (fun t => abs2_nonneg _))
    (fun _ => rfl) ?_
  exact huber_coord δ (Cx.abs (c 0 i)) (c 0 i) (d i)

theorem huberNonsepOf_eq (δ s : ℝ) (hs : 0 ≤ s) : huberNonsepOf δ s = huberOf δ (Real.sqrt s) := by
  unfold huberNonsepOf
  rw [huberOf_real, two_eq, hasSqrt_real, Real.mul_self_sqrt hs]

/-- non-separable Huber norm (code after the repair): JAX's rules give the gradient at EVERY point,
    `‖x‖ = δ` and `x = 0` included -/
theorem derivOn_huber_nonsep (δ : ℝ) (hδ : 0 < δ) {c : ℝ → CVec ℝ n} {d : CVec ℝ n} (hc : Tangent c d) :
    DerivOn (fun x : CVec ℝ n => huberNonsepOf δ (sumAbs2 x))
      (fun x i => if δ < norm2 x then Cx.smul δ (Cx.divr (x i).conj (norm2 x)) else (x i).conj) c d := by
  unfold DerivOn
  have h := hasDerivAt_huber_comp hδ (hasDerivAt_sumAbs2 hc) (fun t => sumAbs2_nonneg _)
  refine HasDerivAt.congr' h (fun t => huberNonsepOf_eq δ _ (sumAbs2_nonneg _)) ?_
  rw [reBdot_eq, Finset.mul_sum]
  refine Finset.sum_congr rfl (fun i _ => ?_)
  exact huber_coord δ (norm2 (c 0)) (c 0 i) (d i)

theorem l2normGuarded_eq (s : ℝ) (hs : 0 ≤ s) : l2normGuarded s = Real.sqrt s := by
  unfold l2normGuarded
  by_cases h : 0 < s
  · rw [if_pos h]; rfl
  · rw [if_neg h, le_antisymm (not_lt.mp h) hs, Real.sqrt_zero]

/-- `L21Norm` with the guarded `_l2norm`: every group is either non-zero at `c 0`, or identically
    zero along the curve (then it contributes the constant 0 and the gradient entries are 0) -/
theorem derivOn_l21 {k : Nat} (grp : Fin n → Fin k) {c : ℝ → CVec ℝ n} {d : CVec ℝ n} (hc : Tangent c d)
    (hx : ∀ g, groupAbs2 grp (c 0) g ≠ 0 ∨ ∀ t, groupAbs2 grp (c t) g = 0) :
    DerivOn (fun x : CVec ℝ n => Vec.sum fun g => l2normGuarded (groupAbs2 grp x g))
      (fun x i => if 0 < groupAbs2 grp x (grp i) then Cx.divr (x i).conj (HasSqrt.sqrt (groupAbs2 grp x (grp i))) else 0)
      c d := by
  unfold DerivOn
  simp only [Vec.sum_eq]
  -- per group, with the derivative already spread over the entries of the group
  have hg : ∀ g : Fin k, HasDerivAt (fun t : ℝ => l2normGuarded (groupAbs2 grp (c t) g))
      (∑ i, if grp i = g then (if 0 < groupAbs2 grp (c 0) g then
        2 * ((c 0 i).re * (d i).re + (c 0 i).im * (d i).im) / (2 * Real.sqrt (groupAbs2 grp (c 0) g))
        else 0) else 0) 0 := by
    intro g
    rcases hx g with hne | hz
    · have hpos : 0 < groupAbs2 grp (c 0) g := lt_of_le_of_ne (groupAbs2_nonneg _ _ _) (Ne.symm hne)
      refine HasDerivAt.congr' ((hasDerivAt_groupAbs2 grp hc g).sqrt hne)
        (fun t => l2normGuarded_eq _ (groupAbs2_nonneg _ _ _)) ?_
      rw [Finset.sum_div]
      exact Finset.sum_congr rfl fun i _ => by rw [if_pos hpos, apply_ite (· / _), zero_div]
    · have h0 : ¬ 0 < groupAbs2 grp (c 0) g := by rw [hz 0]; exact lt_irrefl _
      have : (fun t : ℝ => l2normGuarded (groupAbs2 grp (c t) g)) = fun _ => 0 := by
        funext t; rw [hz t]; exact if_neg (lt_irrefl _)
      rw [this, Finset.sum_eq_zero fun i _ => by rw [if_neg h0, ite_self]]
      exact hasDerivAt_const _ _
  refine HasDerivAt.congr' (HasDerivAt.fun_sum (fun g _ => hg g)) (fun _ => rfl) ?_
  rw [reBdot_eq]
  rw [Finset.sum_comm]
  refine Finset.sum_congr rfl (fun i _ => ?_)
  rw [Finset.sum_eq_single (grp i)]
  · simp only [if_true]
    by_cases hp : 0 < groupAbs2 grp (c 0) (grp i)
    · simp only [hp, if_true]
      exact (re_conj_divr_mul (c 0 i) (d i) _).symm
    · simp only [hp, if_false, Cx.zero_re, Cx.zero_im, zero_mul, sub_zero]
  · intro g _ hne
    rw [if_neg (Ne.symm hne)]
  · intro h; exact absurd (Finset.mem_univ _) h

theorem hasDerivAt_wsq {z : ℝ → CVec ℝ m} {e : CVec ℝ m} (hz : Tangent z e) (y : CVec ℝ m) (w : Vec ℝ m) :
    HasDerivAt (fun t : ℝ => ∑ i, w i * Cx.abs2 (y i - z t i))
      (reBdot (fun i => Cx.smul (two * w i) (z 0 i - y i).conj) e) 0 := by
  refine hasDerivAt_sum_rows (fun i u => w i * Cx.abs2 (y i - u)) _ fun i => ?_
  have h1 : CTangent (fun t => y i - z t i) (-(e i)) :=
    ((CTangent.const (y i)).sub (hz i)).congr (fun _ => rfl) (zero_sub _)
  refine HasDerivAt.congr' (h1.abs2.const_mul (w i)) (fun _ => rfl) ?_
  simp only [Cx.smul_re, Cx.smul_im, Cx.conj_re, Cx.conj_im, Cx.sub_re, Cx.sub_im, Cx.neg_re, Cx.neg_im, two_eq]
  ring

theorem derivOn_sqL2Loss (s : ℝ) (A : Mat ℝ m n) (y : CVec ℝ m) (w : Vec ℝ m) {c : ℝ → CVec ℝ n}
    {d : CVec ℝ n} (hc : Tangent c d) :
    DerivOn (Fn.sqL2Loss s A y w).eval (Fn.sqL2Loss s A y w).jaxGrad c d := by
  unfold DerivOn
  simp only [Fn.eval, Fn.jaxGrad, Vec.sum_eq]
  have h := (hasDerivAt_wsq (tangent_mulVec A hc) y w).const_mul s
  refine HasDerivAt.congr' h (fun _ => rfl) ?_
  rw [reBdot_vsmul_left, reBdot_transpose]

/-- a loss `s·Σᵢ φᵢ((A x)ᵢ)` whose rows have the JAX cotangents `rᵢ` at `A x`: the cotangent of the argument is
    `s·Aᵀ r` (transposition of `A`) -/
theorem hasDerivAt_loss_rows (s : ℝ) (A : Mat ℝ m n) {c : ℝ → CVec ℝ n} {d : CVec ℝ n} (φ : Fin m → Cx ℝ → ℝ)
    (r : CVec ℝ m)
    (hi : ∀ i, HasDerivAt (fun t : ℝ => φ i (mulVec A (c t) i))
      ((r i).re * (mulVec A d i).re - (r i).im * (mulVec A d i).im) 0) :
    HasDerivAt (fun t : ℝ => s * ∑ i, φ i (mulVec A (c t) i)) (reBdot (vsmul s (mulVec (transpose A) r)) d) 0 := by
  rw [reBdot_vsmul_left, reBdot_transpose]
  exact (hasDerivAt_sum_rows (z := fun t => mulVec A (c t)) φ r hi).const_mul s

theorem derivOn_sqL2SqAbsLoss (s : ℝ) (A : Mat ℝ m n) (y : Vec ℝ m) (w : Vec ℝ m) {c : ℝ → CVec ℝ n}
    {d : CVec ℝ n} (hc : Tangent c d) :
    DerivOn (Fn.sqL2SqAbsLoss s A y w).eval (Fn.sqL2SqAbsLoss s A y w).jaxGrad c d := by
  unfold DerivOn
  simp only [Fn.eval, Fn.jaxGrad, Vec.sum_eq]
  refine hasDerivAt_loss_rows s A (fun i z => w i * ((y i - Cx.abs2 z) * (y i - Cx.abs2 z))) _ fun i => ?_
  have hb := (tangent_mulVec A hc i).abs2.const_sub (y i)
  refine HasDerivAt.congr' ((hb.mul hb).const_mul (w i)) (fun _ => rfl) ?_
  simp only [Cx.smul_re, Cx.smul_im, Cx.conj_re, Cx.conj_im, two_eq]
  ring

theorem derivOn_sqL2AbsLoss (s : ℝ) (A : Mat ℝ m n) (y : Vec ℝ m) (w : Vec ℝ m) {c : ℝ → CVec ℝ n}
    {d : CVec ℝ n} (hc : Tangent c d) (hx : ∀ i, Cx.abs2 (mulVec A (c 0) i) ≠ 0) :
    DerivOn (Fn.sqL2AbsLoss s A y w).eval (Fn.sqL2AbsLoss s A y w).jaxGrad c d := by
  unfold DerivOn
  simp only [Fn.eval, Fn.jaxGrad, Vec.sum_eq]
  refine hasDerivAt_loss_rows s A (fun i z => w i * ((y i - Cx.abs z) * (y i - Cx.abs z))) _ fun i => ?_
  have hb := ((tangent_mulVec A hc i).abs2.sqrt (hx i)).const_sub (y i)
  refine HasDerivAt.congr' ((hb.mul hb).const_mul (w i)) (fun _ => rfl) ?_
  simp only [Cx.smul_re, Cx.smul_im, Cx.divr_re, Cx.divr_im, Cx.conj_re, Cx.conj_im, two_eq, Cx.abs, hasSqrt_real]
  ring

theorem derivOn_poisson (s : ℝ) (A : Mat ℝ m n) (y cst : Vec ℝ m) {c : ℝ → CVec ℝ n}
    {d : CVec ℝ n} (hc : Tangent c d) (hx : ∀ i, 0 < (mulVec A (c 0) i).re) :
    DerivOn (Fn.poisson s A y cst).eval (Fn.poisson s A y cst).jaxGrad c d := by
  unfold DerivOn
  simp only [Fn.eval, Fn.jaxGrad, Vec.sum_eq, hasLog_real]
  refine hasDerivAt_loss_rows s A (fun i z => z.re - y i * Real.log z.re + cst i) _ fun i => ?_
  have hr := (tangent_mulVec A hc i).1
  refine HasDerivAt.congr' ((hr.sub ((hr.log (hx i).ne').const_mul (y i))).add_const (cst i)) (fun _ => rfl) ?_
  simp only [Cx.ofReal_re, Cx.ofReal_im]
  ring

/-- `Op.vjpT` is the transpose of `Op.jvp` for the pairing `Re Σ aᵢ bᵢ` — JAX's `vjp` contract, here a
    theorem about the transcribed formulas -/
theorem op_vjpT_transpose (F : Op ℝ n m) (u : CVec ℝ n) (cc : CVec ℝ m) (d : CVec ℝ n) :
    reBdot (F.vjpT u cc) d = reBdot cc (F.jvp u d) := by
  -- term by term: `A`, the anti-linear part `B conj`, and the linearised square `2 (C u)·(C ·)`
  have hv : F.vjpT u cc = vadd (vadd (mulVec (transpose F.A) cc) (conjVec (mulVec (transpose F.B) cc)))
      (mulVec (transpose F.C) (fun i => (mulVec F.C u i + mulVec F.C u i) * cc i)) := rfl
  have hj : F.jvp u d = vadd (vadd (mulVec F.A d) (mulVec F.B (conjVec d)))
      (fun i => (mulVec F.C u i + mulVec F.C u i) * mulVec F.C d i) :=
    funext fun i => congrArg _ (add_mul _ _ _).symm
  rw [hv, hj, reBdot_vadd_left, reBdot_vadd_left, reBdot_vadd_right, reBdot_vadd_right, reBdot_transpose,
    reBdot_conjVec_left, reBdot_transpose, reBdot_transpose, reBdot_mul_right]

/-- **Every** functional expression, along **every** curve on which it is smooth: JAX's rules
    (`Fn.jaxGrad` at `c 0`) give the derivative of `t ↦ f(c t)` at `0`. -/
theorem Fn.derivOn : ∀ {n : Nat} (f : Fn ℝ n) (c : ℝ → CVec ℝ n) (d : CVec ℝ n), Tangent c d →
    f.SmoothOn c → DerivOn f.eval f.jaxGrad c d := by
  intro n f
  induction f with
  | zero => intro c d _ _; exact DerivOn.zero
  | sqL2 => intro c d hc _; exact derivOn_sqL2 hc
  | l2 => intro c d hc h; exact derivOn_l2 hc h
  | l1 => intro c d hc h; exact derivOn_l1 hc h
  | huber δ sep =>
    intro c d hc h
    cases sep with
    | true => exact derivOn_huber_sep δ h hc
    | false => exact derivOn_huber_nonsep δ h hc
  | l1ml2 β => intro c d hc h; exact derivOn_l1ml2 β hc h.1 h.2
  | l21 k grp => intro c d hc h; exact derivOn_l21 grp hc h
  | scaled a f ih => intro c d hc h; exact (ih c d hc h).const_mul a
  | add f g ihf ihg => intro c d hc h; exact (ihf c d hc h.1).add (ihg c d hc h.2)
  | sep f g ihf ihg =>
    intro c d hc h
    exact (ihf _ _ (tangent_vleft hc) h.1).sep (ihg _ _ (tangent_vright hc) h.2)
  | loss s A y f ih =>
    intro c d hc h
    exact (ih _ _ (tangent_vsub_const (tangent_mulVec A hc) y) h).comp (Φ := mulVec A)
      (G := fun _ => mulVec (transpose A)) s y fun r => reBdot_transpose A r d
  | sqL2Loss s A y w => intro c d hc _; exact derivOn_sqL2Loss s A y w hc
  | sqL2SqAbsLoss s A y w => intro c d hc _; exact derivOn_sqL2SqAbsLoss s A y w hc
  | sqL2AbsLoss s A y w => intro c d hc h; exact derivOn_sqL2AbsLoss s A y w hc h
  | poisson s A y cst => intro c d hc h; exact derivOn_poisson s A y cst hc h
  | lossOp s F y f ih =>
    intro c d hc h
    exact (ih _ _ (tangent_vsub_const (tangent_op F hc) y) h).comp (Φ := F.eval) (G := F.vjpT) s y
      fun r => op_vjpT_transpose F _ r d
  | sqL2LossOp s F y w =>
    intro c d hc _
    unfold DerivOn
    simp only [Fn.eval, Fn.jaxGrad, Vec.sum_eq]
    rw [reBdot_vsmul_left, op_vjpT_transpose]
    exact (hasDerivAt_wsq (tangent_op F hc) y w).const_mul s

theorem Fn.curveContract {n : Nat} (f : Fn ℝ n) (x : CVec ℝ n) (h : f.Smooth x) :
    CurveContract f.eval x (f.jaxGrad x) := fun c d h0 hc =>
  (f.derivOn c d hc (f.smoothOn_of_smooth c (h0 ▸ h))).hasDerivAt h0

theorem Fn.jaxContract {n : Nat} (f : Fn ℝ n) (x : CVec ℝ n) (h : f.Smooth x) :
    JaxContract f.eval x (f.jaxGrad x) :=
  (f.curveContract x h).jaxContract

theorem Fn.isGradAt {n : Nat} (f : Fn ℝ n) (x : CVec ℝ n) (h : f.Smooth x) :
    IsGradAt f.eval x (f.grad x) :=
  conj_grad f.eval x (f.jaxGrad x) (f.jaxContract x h)

theorem Fn.isCurveGradAt {n : Nat} (f : Fn ℝ n) (x : CVec ℝ n) (h : f.Smooth x) :
    IsCurveGradAt f.eval x (f.grad x) :=
  conj_grad_curve f.eval x (f.jaxGrad x) (f.curveContract x h)

/-- smooth along every *line* through `x` (weaker than `Smooth x`: structural zero entries and groups allowed) -/
def Fn.SmoothLines {n : Nat} (f : Fn ℝ n) (x : CVec ℝ n) : Prop :=
  ∀ d : CVec ℝ n, f.SmoothOn (fun t => along x d t)

theorem Fn.isGradAt_of_lines {n : Nat} (f : Fn ℝ n) (x : CVec ℝ n) (h : f.SmoothLines x) :
    IsGradAt f.eval x (f.grad x) :=
  conj_grad f.eval x (f.jaxGrad x) fun d =>
    (f.derivOn (fun t => along x d t) d (tangent_along x d) (h d)).hasDerivAt (along_zero x d)

/-- restriction of `f` to an affine subspace `φ(u + t d) = x + t e(d)`: the gradient is pulled back along `e` -/
theorem IsGradAt.restrict {N : Nat} {f : CVec ℝ N → ℝ} {x g : CVec ℝ N} (h : IsGradAt f x g)
    (φ e : CVec ℝ k → CVec ℝ N) (u gu : CVec ℝ k) (hφ : ∀ d t, φ (along u d t) = along x (e d) t)
    (hg : ∀ d, reInner g (e d) = reInner gu d) : IsGradAt (fun v => f (φ v)) u gu := fun d =>
  HasDerivAt.congr' (h (e d)) (fun t => congrArg f (hφ d t)) (hg d)

theorem isGradAt_left (f : CVec ℝ (n + k) → ℝ) (x g : CVec ℝ (n + k)) (h : IsGradAt f x g) :
    IsGradAt (fun u => f (vappend u (vright x))) (vleft x) (vleft g) :=
  h.restrict (fun u => vappend u (vright x)) (fun d => vappend d fun _ => 0) _ _
    (fun d t => by rw [← along_zero_dir (vright x) t, ← along_vappend, vappend_left_right])
    (fun d => by rw [reInner_split, vleft_vappend, vright_vappend, reInner_zero_right, add_zero])

theorem isGradAt_right (f : CVec ℝ (n + k) → ℝ) (x g : CVec ℝ (n + k)) (h : IsGradAt f x g) :
    IsGradAt (fun u => f (vappend (vleft x) u)) (vright x) (vright g) :=
  h.restrict (fun u => vappend (vleft x) u) (fun d => vappend (fun _ => 0) d) _ _
    (fun d t => by rw [← along_zero_dir (vleft x) t, ← along_vappend, vappend_left_right])
    (fun d => by rw [reInner_split, vleft_vappend, vright_vappend, reInner_zero_right, zero_add])

/-- unit direction `z·eᵢ` -/
def single (i : Fin n) (z : Cx ℝ) : CVec ℝ n := fun j => if j = i then z else 0

theorem reInner_single (g : CVec ℝ n) (i : Fin n) (z : Cx ℝ) :
    reInner g (single i z) = (g i).re * z.re + (g i).im * z.im := by
  rw [reInner_eq, Finset.sum_eq_single i]
  · simp only [single, if_true]
  · intro j _ hj
    simp only [single, if_neg hj, Cx.zero_re, Cx.zero_im, mul_zero, add_zero]
  · intro h; exact absurd (Finset.mem_univ _) h

/-- the gradient in the sense of C07 is unique: `Re⟪g,d⟫ = Re⟪g',d⟫` for all `d` forces `g = g'` -/
theorem isGradAt_unique (f : CVec ℝ n → ℝ) (x g g' : CVec ℝ n) (h : IsGradAt f x g) (h' : IsGradAt f x g') :
    g = g' := by
  have key : ∀ d, reInner g d = reInner g' d := fun d => (h d).unique (h' d)
  funext i
  have h1 := key (single i ⟨1, 0⟩)
  have h2 := key (single i ⟨0, 1⟩)
  rw [reInner_single, reInner_single] at h1 h2
  simp only [mul_one, mul_zero, add_zero, zero_add] at h1 h2
  exact Cx.ext' h1 h2

theorem sqL2Loss_along (s : ℝ) (A : Mat ℝ m n) (y : CVec ℝ m) (w : Vec ℝ m) (x d : CVec ℝ n) (t : ℝ) :
    (Fn.sqL2Loss s A y w).eval (along x d t) =
      (Fn.sqL2Loss s A y w).eval x + t * reInner ((Fn.sqL2Loss s A y w).grad x) d
        + t ^ 2 * ((1 / 2) * reInner (hessianApply s A w d) d) := by
  have h2 : hessianApply s A w (vsmul t d) = vsmul t (hessianApply s A w d) := by
    rw [hessianApply_eq_mat, mulVec_vsmul, ← hessianApply_eq_mat]
  rw [show along x d t = vadd x (vsmul t d) from rfl, sqL2Loss_expansion, h2, reInner_vsmul_left,
    reInner_vsmul_right, reInner_vsmul_right]
  ring

theorem grad_sqL2 (x : CVec ℝ n) : (Fn.sqL2 : Fn ℝ n).grad x = vsmul 2 x := funext fun i => by
  simp only [Fn.grad, Fn.jaxGrad, scicoGrad, conjVec, vsmul, Cx.conj_smul, Cx.conj_conj, two_eq]

theorem grad_l2 (x : CVec ℝ n) : (Fn.l2 : Fn ℝ n).grad x = fun i => Cx.divr (x i) (norm2 x) := funext fun i => by
  simp only [Fn.grad, Fn.jaxGrad, scicoGrad, conjVec, Cx.conj_divr, Cx.conj_conj]

theorem grad_l1 (x : CVec ℝ n) (hx : ∀ i, Cx.abs2 (x i) ≠ 0) :
    (Fn.l1 : Fn ℝ n).grad x = fun i => Cx.divr (x i) (Cx.abs (x i)) := funext fun i => by
  simp only [Fn.grad, Fn.jaxGrad, scicoGrad, conjVec, absGrad_of_ne _ (hx i), Cx.conj_divr, Cx.conj_conj]

theorem grad_huber_sep (δ : ℝ) (x : CVec ℝ n) : (Fn.huber δ true : Fn ℝ n).grad x =
    fun i => if δ < Real.sqrt (Cx.abs2 (x i)) then Cx.smul δ (Cx.divr (x i) (Real.sqrt (Cx.abs2 (x i)))) else x i := by
  funext i
  simp only [Fn.grad, Fn.jaxGrad, scicoGrad, conjVec, Cx.abs, hasSqrt_real]
  by_cases hc : δ < Real.sqrt (Cx.abs2 (x i))
  · simp only [hc, if_true, Cx.conj_smul, Cx.conj_divr, Cx.conj_conj]
  · simp only [hc, if_false, Cx.conj_conj]

theorem grad_huber_nonsep (δ : ℝ) (x : CVec ℝ n) : (Fn.huber δ false : Fn ℝ n).grad x =
    fun i => if δ < norm2 x then Cx.smul δ (Cx.divr (x i) (norm2 x)) else x i := by
  funext i
  simp only [Fn.grad, Fn.jaxGrad, scicoGrad, conjVec]
  by_cases hc : δ < norm2 x
  · simp only [hc, if_true, Cx.conj_smul, Cx.conj_divr, Cx.conj_conj]
  · simp only [hc, if_false, Cx.conj_conj]

theorem grad_poisson (s : ℝ) (A : Mat ℝ m n) (y cst : Vec ℝ m) (x : CVec ℝ n) : (Fn.poisson s A y cst).grad x =
    vsmul s (mulVec (adjMat A) (fun i => Cx.ofReal (1 - y i / (mulVec A x i).re))) := by
  simp only [Fn.grad, Fn.jaxGrad]
  rw [grad_through_matrix]
  congr 2
  exact funext fun i => Cx.conj_ofReal _

theorem grad_sqL2AbsLoss (s : ℝ) (A : Mat ℝ m n) (y w : Vec ℝ m) (x : CVec ℝ n) : (Fn.sqL2AbsLoss s A y w).grad x =
    vsmul s (mulVec (adjMat A) (fun i => Cx.smul (-(2 * w i * (y i - Cx.abs (mulVec A x i))))
      (Cx.divr (mulVec A x i) (Cx.abs (mulVec A x i))))) := by
  simp only [Fn.grad, Fn.jaxGrad]
  rw [grad_through_matrix]
  congr 2
  funext i
  simp only [conjVec, Cx.conj_smul, Cx.conj_divr, Cx.conj_conj, two_eq]

end Scico.Autograd
