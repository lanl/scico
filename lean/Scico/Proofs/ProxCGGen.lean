/-
  The CG path of `SquaredL2Loss.prox`, index-free: ANY real-linear operator `A : E → F` between real inner-product spaces (so complex
  arrays with `Re⟨·,·⟩`, block arrays, N-d arrays) together with its adjoint `At` (hypothesis `SysData.adj` — property C01 of the operator)
  and a symmetric positive semi-definite weighting `W`.  A solution of `(I + c At W A) x = v + c At W y`, `c = 2·scale·lam`, is
  the prox of `scale·⟨W(y - Ax), y - Ax⟩`; it exists in finite dimension, and `‖x - p‖ ≤ ‖residual(x)‖`.
  About such a solution `p` the prox objective is exactly `objective(p) + ½⟨(I + c At W A)(z - p), z - p⟩` (`obj_eq_of_sysRes_zero`):
  certificate for `scale ≥ 0`, `W ⪰ 0`; global minimiser for any signs while the system operator stays positive semi-definite.
  (`Proofs/ProxCG.lean` is the dense real-matrix instance, written by indices; `C02_sqL2loss_sys_model` says that its residual is the
  model's `sqL2LossSysResidual`.)
-/
import Scico.Proofs.ProxSpec
import Mathlib.LinearAlgebra.FiniteDimensional.Basic

namespace Scico.ProxCGGen
open Scico.ProxSpec

variable {E F : Type*} [NormedAddCommGroup E] [InnerProductSpace ℝ E] [NormedAddCommGroup F] [InnerProductSpace ℝ F]

/-- the data of `SquaredL2Loss` with a general linear operator, index-free: `A` linear, `At` its adjoint w.r.t. the REAL inner products
    (for complex arrays: `Re⟨·,·⟩`, `At = Aᴴ` — this is property C01 of the operator), `W` symmetric positive semi-definite (a non-negative diagonal) -/
structure SysData (A : E →ₗ[ℝ] F) (At : F →ₗ[ℝ] E) (W : F →ₗ[ℝ] F) : Prop where
  adj : ∀ u d, ⟪At u, d⟫ = ⟪u, A d⟫
  wsymm : ∀ u z, ⟪W u, z⟫ = ⟪u, W z⟫
  wpos : ∀ u, 0 ≤ ⟪W u, u⟫

def sysOp (c : ℝ) (A : E →ₗ[ℝ] F) (At : F →ₗ[ℝ] E) (W : F →ₗ[ℝ] F) : E →ₗ[ℝ] E :=
  LinearMap.id + c • (At ∘ₗ W ∘ₗ A)

theorem sysOp_apply (c : ℝ) (A : E →ₗ[ℝ] F) (At : F →ₗ[ℝ] E) (W : F →ₗ[ℝ] F) (x : E) :
    sysOp c A At W x = x + c • At (W (A x)) := by simp [sysOp]

def sysRes (c : ℝ) (A : E →ₗ[ℝ] F) (At : F →ₗ[ℝ] E) (W : F →ₗ[ℝ] F) (y : F) (v x : E) : E :=
  sysOp c A At W x - (v + c • At (W y))

def lossFn (scale : ℝ) (A : E →ₗ[ℝ] F) (W : F →ₗ[ℝ] F) (y : F) (x : E) : ℝ := scale * ⟪W (y - A x), y - A x⟫

theorem SysData.smul_id {A : E →ₗ[ℝ] F} {At : F →ₗ[ℝ] E} {w : ℝ} (hw : 0 ≤ w) (adj : ∀ u d, ⟪At u, d⟫ = ⟪u, A d⟫) :
    SysData A At (w • LinearMap.id) :=
  ⟨adj, fun u z => by simp only [LinearMap.smul_apply, LinearMap.id_apply, real_inner_smul_left, real_inner_smul_right],
    fun u => by
      simp only [LinearMap.smul_apply, LinearMap.id_apply, real_inner_smul_left]
      exact mul_nonneg hw real_inner_self_nonneg⟩

theorem lossFn_smul_id (scale w : ℝ) (A : E →ₗ[ℝ] F) (y : F) (x : E) :
    lossFn scale A (w • LinearMap.id) y x = scale * (w * ‖y - A x‖ ^ 2) := by
  simp only [lossFn, LinearMap.smul_apply, LinearMap.id_apply, real_inner_smul_left, real_inner_self_eq_norm_sq]

theorem coercive {c : ℝ} (hc : 0 ≤ c) {A : E →ₗ[ℝ] F} {At : F →ₗ[ℝ] E} {W : F →ₗ[ℝ] F} (h : SysData A At W) (e : E) :
    ‖e‖ ^ 2 ≤ ⟪sysOp c A At W e, e⟫ := by
  rw [sysOp_apply, inner_add_left, real_inner_smul_left, h.adj, real_inner_self_eq_norm_sq]
  linear_combination mul_nonneg hc (h.wpos (A e))

theorem norm_le_norm_sysOp {c : ℝ} (hc : 0 ≤ c) {A : E →ₗ[ℝ] F} {At : F →ₗ[ℝ] E} {W : F →ₗ[ℝ] F} (h : SysData A At W) (e : E) :
    ‖e‖ ≤ ‖sysOp c A At W e‖ :=
  norm_le_of_sq_le_inner ((coercive hc h e).trans_eq (real_inner_comm _ _))

theorem quad_sub {W : F →ₗ[ℝ] F} (hsym : ∀ u z, ⟪W u, z⟫ = ⟪u, W z⟫) (r e : F) :
    ⟪W (r - e), r - e⟫ = ⟪W r, r⟫ - 2 * ⟪W r, e⟫ + ⟪W e, e⟫ := by
  rw [W.map_sub, inner_sub_left, inner_sub_right, inner_sub_right, hsym e r, real_inner_comm (W r) e]
  ring

/-- the prox objective about a solution `p` of the system, exactly: `objective(p) + ½⟨(I + c At W A)(z - p), z - p⟩`
    (only the adjoint identity and the symmetry of `W` are used; no sign conditions) -/
theorem obj_eq_of_sysRes_zero {A : E →ₗ[ℝ] F} {At : F →ₗ[ℝ] E} {W : F →ₗ[ℝ] F} (hadj : ∀ u d, ⟪At u, d⟫ = ⟪u, A d⟫)
    (hsym : ∀ u z, ⟪W u, z⟫ = ⟪u, W z⟫) (scale lam : ℝ) (y : F) (v p : E)
    (hres : sysRes (2 * scale * lam) A At W y v p = 0) (z : E) :
    lam * lossFn scale A W y z + 1 / 2 * ‖z - v‖ ^ 2
      = lam * lossFn scale A W y p + 1 / 2 * ‖p - v‖ ^ 2 + 1 / 2 * ⟪sysOp (2 * scale * lam) A At W (z - p), z - p⟫ := by
  -- the system says that the slope `v - p` is `-c At W (y - A p)`; the loss is quadratic in `z - p`
  have hvp : v - p = -((2 * scale * lam) • At (W (y - A p))) := by
    rw [sysRes, sysOp_apply, sub_eq_zero] at hres
    rw [W.map_sub, At.map_sub, smul_sub, neg_sub]
    exact sub_eq_sub_iff_add_eq_add.mpr (hres.symm.trans (add_comm _ _))
  have hz : y - A z = (y - A p) - A (z - p) := by rw [A.map_sub, sub_sub_sub_cancel_right]
  have h3 := three_point z p v
  unfold lossFn
  rw [hz, quad_sub hsym, sysOp_apply, inner_add_left, real_inner_smul_left, hadj, real_inner_self_eq_norm_sq, h3, hvp,
    inner_neg_left, real_inner_smul_left, hadj]
  ring

/-- a solution of the documented system is the prox, for any linear operator with its adjoint (real or complex data) -/
theorem cert_of_sysRes_zero {lam scale : ℝ} (hlam : 0 < lam) (hs : 0 ≤ scale) {A : E →ₗ[ℝ] F} {At : F →ₗ[ℝ] E} {W : F →ₗ[ℝ] F}
    (h : SysData A At W) (y : F) (v p : E) (hres : sysRes (2 * scale * lam) A At W y v p = 0) :
    Cert Set.univ (lossFn scale A W y) lam v p :=
  (isProx_iff_cert hlam).mp ⟨trivial, fun z _ => by
    rw [obj_eq_of_sysRes_zero h.adj h.wsymm scale lam y v p hres z]
    linear_combination (1 / 2) * coercive (by positivity : 0 ≤ 2 * scale * lam) h (z - p)⟩

/-- any sign of `scale` and of the weights: a solution of the system is a global minimiser as soon as the system operator is
    positive semi-definite -/
theorem isGMin_of_sysRes_zero {lam scale : ℝ} {A : E →ₗ[ℝ] F} {At : F →ₗ[ℝ] E} {W : F →ₗ[ℝ] F}
    (hadj : ∀ u d, ⟪At u, d⟫ = ⟪u, A d⟫) (hsym : ∀ u z, ⟪W u, z⟫ = ⟪u, W z⟫)
    (hpos : ∀ e, 0 ≤ ⟪sysOp (2 * scale * lam) A At W e, e⟫) (y : F) (v p : E)
    (hres : sysRes (2 * scale * lam) A At W y v p = 0) : IsGMin Set.univ (lossFn scale A W y) lam v p :=
  ⟨trivial, fun z _ => by
    rw [obj_eq_of_sysRes_zero hadj hsym scale lam y v p hres z]
    linear_combination (1 / 2) * hpos (z - p)⟩

theorem dist_le_norm_sysRes {c : ℝ} (hc : 0 ≤ c) {A : E →ₗ[ℝ] F} {At : F →ₗ[ℝ] E} {W : F →ₗ[ℝ] F} (h : SysData A At W)
    (y : F) (v x p : E) (hp : sysRes c A At W y v p = 0) : ‖x - p‖ ≤ ‖sysRes c A At W y v x‖ := by
  have e : sysRes c A At W y v x = sysOp c A At W (x - p) := by
    rw [← sub_zero (sysRes c A At W y v x), ← hp, sysRes, sysRes, sub_sub_sub_cancel_right, ← LinearMap.map_sub]
  rw [e]; exact norm_le_norm_sysOp hc h (x - p)

theorem exists_sysRes_zero [FiniteDimensional ℝ E] {c : ℝ} (hc : 0 ≤ c) {A : E →ₗ[ℝ] F} {At : F →ₗ[ℝ] E} {W : F →ₗ[ℝ] F}
    (h : SysData A At W) (y : F) (v : E) : ∃ p : E, sysRes c A At W y v p = 0 := by
  have hinj : Function.Injective (sysOp c A At W) := by
    rw [injective_iff_map_eq_zero]
    intro e he
    have := norm_le_norm_sysOp hc h e
    rw [he, norm_zero] at this
    exact norm_eq_zero.mp (le_antisymm this (norm_nonneg _))
  obtain ⟨p, hp⟩ := LinearMap.surjective_of_injective hinj (v + c • At (W y))
  exact ⟨p, by unfold sysRes; rw [hp, sub_self]⟩

end Scico.ProxCGGen
