/-
  A concrete sound interpretation (non-vacuity of `Interp.Sound`): values are complex sequences `ℕ → ℂ` (vectors of any
  length, zero-extended), scalars `ℝ → ℂ`.  Over it, programs that are accepted and are linear, programs that are
  rejected and really are not linear, and the `linC` / `linR` distinction (the examples of `Props/C06.lean`); at the end the promise of a
  presentation (`KindOK`) and the counterexample that makes the rule of `combineKind` necessary.
-/
import Scico.Proofs.JaxprArray

namespace Scico.Jaxpr.Example

abbrev Vc := ℕ → ℂ

noncomputable def vecDen : PClass → Nat → List Vc → List Vc → Vc
  | .lit true, _, _, _ => 0
  | .lit false, n, _, _ => fun _ => (n : ℂ)
  | .linAll, 0, _, xs => xs.sum
  | .linAll, 1, _, xs => -(xs.headD 0)
  | .linAll, 2, _, xs => fun i => (xs.headD 0) (i + 1)
  | .linAll, 3, ps, xs => fun i => if (ps.headD 0) i = 0 then 0 else (xs.headD 0) i
  | .linAll, _, _, _ => 0
  | .bilinear, _, _, [u, v] => u * v
  | .bilinear, _, _, _ => 0
  | .divLike, _, _, [u, v] => u / v
  | .divLike, _, _, _ => 0
  | .realPart, 0, _, [u] => fun i => ((u i).re : ℂ)
  | .realPart, 1, _, [u] => fun i => ((u i).im : ℂ)
  | .realPart, _, _, _ => 0
  | .conj, _, _, [u] => fun i => (starRingEnd ℂ) (u i)
  | .conj, _, _, _ => 0
  | .nonlin, _, _, xs => (xs.headD 0) * (xs.headD 0)

noncomputable def vecInterp : Interp Vc := ⟨vecDen⟩

theorem headD_ladd (xs ys : List Vc) (h : xs.length = ys.length) :
    (ladd xs ys).headD 0 = xs.headD 0 + ys.headD 0 := by
  cases xs <;> cases ys <;> simp_all [ladd]

theorem headD_lsmul (c : ℂ) (xs : List Vc) : (lsmul c xs).headD 0 = c • xs.headD 0 := by
  cases xs <;> simp [lsmul]

theorem mask_add (m a b : Vc) : (fun i => if m i = 0 then 0 else (a + b) i) =
    (fun i => if m i = 0 then 0 else a i) + fun i => if m i = 0 then 0 else b i :=
  funext fun i => by
    show (if m i = 0 then 0 else a i + b i) = (if m i = 0 then 0 else a i) + (if m i = 0 then 0 else b i)
    split
    · exact (add_zero 0).symm
    · rfl

theorem mask_smul (m : Vc) (c : ℂ) (a : Vc) :
    (fun i => if m i = 0 then 0 else (c • a) i) = c • fun i => if m i = 0 then 0 else a i :=
  funext fun i => by
    show (if m i = 0 then 0 else c • a i) = c • (if m i = 0 then 0 else a i)
    split
    · exact (smul_zero c).symm
    · rfl

/-- negation, shift and mask act on the first operand, which is additive and homogeneous in the operand list
    (`headD_ladd`, `headD_lsmul`); the pointwise primitives are those of the array family -/
theorem vecInterp_sound : vecInterp.Sound ℝ ℂ where
  star_real := Complex.conj_ofReal
  lit_zero := fun _ _ => rfl
  lin_add := fun p ps xs ys h =>
    match p with
    | 0 => (List.sum_add_sum_eq_sum_zipWith_of_length_eq xs ys h).symm
    | 1 => (congrArg Neg.neg (headD_ladd xs ys h)).trans (neg_add _ _)
    | 2 => congrArg (fun a : Vc => fun i => a (i + 1)) (headD_ladd xs ys h)
    | 3 => (congrArg (fun a : Vc => fun i => if ps.headD 0 i = 0 then 0 else a i) (headD_ladd xs ys h)).trans
        (mask_add _ _ _)
    | _ + 4 => (add_zero (0 : Vc)).symm
  lin_smul := fun p ps c xs =>
    match p with
    | 0 => List.smul_sum.symm
    | 1 => (congrArg Neg.neg (headD_lsmul c xs)).trans (smul_neg _ _).symm
    | 2 => congrArg (fun a : Vc => fun i => a (i + 1)) (headD_lsmul c xs)
    | 3 => (congrArg (fun a : Vc => fun i => if ps.headD 0 i = 0 then 0 else a i) (headD_lsmul c xs)).trans
        (mask_smul _ c _)
    | _ + 4 => (smul_zero c).symm
  bil_add_left := fun _ _ u u' v => add_mul u u' v
  bil_smul_left := fun _ _ c u v => smul_mul_assoc c u v
  bil_add_right := fun _ _ u v v' => mul_add u v v'
  bil_smul_right := fun _ _ c u v => mul_smul_comm c u v
  div_add := fun _ _ u u' d => Arr.divV_add u u' d
  div_smul := fun _ _ c u d => smul_div_assoc c u d
  re_add := fun p _ u u' =>
    match p with
    | 0 => Arr.reV_add u u'
    | 1 => Arr.imV_add u u'
    | _ + 2 => (add_zero (0 : Vc)).symm
  re_smul := fun p _ r u =>
    match p with
    | 0 => Arr.reV_smul r u
    | 1 => Arr.imV_smul r u
    | _ + 2 => (smul_zero r).symm
  conj_add := fun _ _ u u' => Arr.conjV_add u u'
  conj_smul := fun _ _ c u => Arr.conjV_smul c u

/-- forward difference `y i = x (i+1) - x i` : the traced shape of `snp.diff` -/
abbrev fdProg : Prog :=
  { nin := 1
    eqns := [⟨.linAll, 2, [], [0]⟩,      -- v1 = shift x
             ⟨.linAll, 1, [], [0]⟩,      -- v2 = -x
             ⟨.linAll, 0, [], [1, 2]⟩]   -- v3 = v1 + v2
    outs := [3] }

/-- `y = (3 * x) / 2` masked by a constant pattern, plus a zero literal -/
abbrev scaleProg : Prog :=
  { nin := 1
    eqns := [⟨.lit false, 3, [], []⟩,    -- v1 = 3
             ⟨.bilinear, 0, [], [1, 0]⟩, -- v2 = 3 * x
             ⟨.lit false, 2, [], []⟩,    -- v3 = 2
             ⟨.divLike, 0, [], [2, 3]⟩,  -- v4 = v2 / 2
             ⟨.linAll, 3, [1], [4]⟩,     -- v5 = where(3 ≠ 0, v4, 0)
             ⟨.lit true, 0, [], []⟩,     -- v6 = 0
             ⟨.linAll, 0, [], [5, 6]⟩]   -- v7 = v5 + 0
    outs := [7] }

/-- `y = x * x` -/
abbrev sqProg : Prog := { nin := 1, eqns := [⟨.bilinear, 0, [], [0, 0]⟩], outs := [1] }

/-- `y = x + 1` (affine: this is what `jax.linear_transpose` silently accepts) -/
abbrev affProg : Prog :=
  { nin := 1, eqns := [⟨.lit false, 1, [], []⟩, ⟨.linAll, 0, [], [0, 1]⟩], outs := [2] }

/-- `y = conj x` -/
abbrev conjProg : Prog := { nin := 1, eqns := [⟨.conj, 0, [], [0]⟩], outs := [1] }

/-- `y = conj (3 * conj x)` : the shape of an adjoint derived by `scico.linear_adjoint` and of `A.T` -/
abbrev conjConjProg : Prog :=
  { nin := 1
    eqns := [⟨.conj, 0, [], [0]⟩, ⟨.lit false, 3, [], []⟩, ⟨.bilinear, 0, [], [2, 1]⟩, ⟨.conj, 0, [], [3]⟩]
    outs := [4] }

/-- `y = Re x` -/
abbrev reProg : Prog := { nin := 1, eqns := [⟨.realPart, 0, [], [0]⟩], outs := [1] }

/-- `y = where(x ≠ 0, x, 0)` with a data-dependent predicate -/
abbrev dataMaskProg : Prog := { nin := 1, eqns := [⟨.linAll, 3, [0], [0]⟩], outs := [1] }

/-- `y = 2 / x` -/
abbrev recipProg : Prog :=
  { nin := 1, eqns := [⟨.lit false, 2, [], []⟩, ⟨.divLike, 0, [], [1, 0]⟩], outs := [2] }

theorem fdProg_run (x : Fin fdProg.nin → Vc) (j : Fin fdProg.outs.length) (i : ℕ) : run vecInterp fdProg x j i = x ⟨0, by decide⟩ (i + 1) - x ⟨0, by decide⟩ i := by
  rw [fin_eq_zero_of_eq_one rfl j]
  show x ⟨0, by decide⟩ (i + 1) + (-(x ⟨0, by decide⟩ i) + 0) = _
  rw [add_zero, sub_eq_add_neg]

theorem sqProg_run (x : Fin sqProg.nin → Vc) (j : Fin sqProg.outs.length) :
    run vecInterp sqProg x j = x ⟨0, by decide⟩ * x ⟨0, by decide⟩ := by
  rw [fin_eq_zero_of_eq_one rfl j]
  rfl

theorem affProg_run (x : Fin affProg.nin → Vc) (j : Fin affProg.outs.length) (i : ℕ) :
    run vecInterp affProg x j i = x ⟨0, by decide⟩ i + 1 := by
  rw [fin_eq_zero_of_eq_one rfl j]
  show x ⟨0, by decide⟩ i + (((1 : ℕ) : ℂ) + 0) = _
  rw [add_zero, Nat.cast_one]

theorem conjProg_run (x : Fin conjProg.nin → Vc) (j : Fin conjProg.outs.length) (i : ℕ) :
    run vecInterp conjProg x j i = (starRingEnd ℂ) (x ⟨0, by decide⟩ i) := by
  rw [fin_eq_zero_of_eq_one rfl j]
  rfl

theorem reProg_run (x : Fin reProg.nin → Vc) (j : Fin reProg.outs.length) (i : ℕ) :
    run vecInterp reProg x j i = ((x ⟨0, by decide⟩ i).re : ℂ) := by
  rw [fin_eq_zero_of_eq_one rfl j]
  rfl

theorem reProg_not_complex_linear : ¬ IsLinearMap ℂ (run vecInterp reProg) := by
  intro h
  have h1 := congrFun (congrFun (h.map_smul Complex.I (fun _ _ => 1)) ⟨0, by decide⟩) 0
  simp [reProg_run, Complex.ext_iff] at h1

theorem conjProg_not_complex_linear : ¬ IsLinearMap ℂ (run vecInterp conjProg) := by
  intro h
  have h1 := congrFun (congrFun (h.map_smul Complex.I (fun _ _ => 1)) ⟨0, by decide⟩) 0
  simp [conjProg_run, Complex.ext_iff] at h1
  norm_num at h1

theorem sqProg_not_additive :
    ¬ ∀ x y, run vecInterp sqProg (x + y) = run vecInterp sqProg x + run vecInterp sqProg y := by
  intro h
  have h1 := congrFun (congrFun (h (fun _ _ => 1) (fun _ _ => 1)) ⟨0, by decide⟩) 0
  simp [sqProg_run] at h1

theorem affProg_zero_ne : run vecInterp affProg 0 ≠ 0 := by
  intro h
  have h1 := congrFun (congrFun h ⟨0, by decide⟩) 0
  simp [affProg_run] at h1

end Scico.Jaxpr.Example

namespace Scico.Jaxpr

section
variable {K : Type} [CommSemiring K] {n : Nat}

/-- what a presentation promises about the map: `combineKind` (Model/Jaxpr.lean) says when scico presents the result
    of `A + B`, `A - B`, `A(B)`, `A @ B` as a LinearOperator -/
def KindOK (k : OpKind) (f : (Fin n → K) → (Fin n → K)) : Prop := k = .linear → IsLinearMap K f

end

/-- the rule is necessary: identity + |·| presented as linear would break the promise (ℝ¹: f(1)+f(-1) = 2 ≠ 0 = f(0)) -/
theorem abs_sum_not_linear : ¬ IsLinearMap ℝ (fun x : Fin 1 → ℝ => x + fun i => |x i|) := by
  intro h
  have := congrFun (h.map_add (fun _ => 1) (fun _ => -1)) 0
  norm_num at this

end Scico.Jaxpr
