/-
  Checker for the tables that `harness/proxcalc_translate.py` extracts from the scico source with `ast`
  (`lean/Scico/Generated/ProxCalcTables.lean`, rewritten on every run).  The generated module states `decide`-able
  obligations "extracted table = what the hand-written model assumes":

  * the capability-flag logic of every wrapper constructor and loss class, as a tiny statement language
    (`Stmt`: assignments to `has_eval` / `has_prox`, `if`, `try … except: pass`, `super().__init__`) that is *executed*
    on every valuation of its atoms and compared with the model's `hasEval` / `hasProx` / `scaledHasProxOf` /
    `lossClsFlags`;
  * the call sites that forward `**kwargs` and the argument expressions they pass (`kwPlan`, `prox`);
  * constructor defaults the model / harness rely on; the functions of `scico.metric` with the reductions they call;
    the exception classes raised by the modelled argument checks;
  * the classes that define `prox`, the subclasses of `Loss`, and the `return` expressions, local assignments and
    decorators of the modelled methods as source text.
  Mathlib-free (core `decide` only).
-/
import Scico.Model.ProxCalc
import Scico.Proofs.Tables

namespace Scico.ProxCalc.Tables

/-- atomic conditions the constructors test -/
inductive Atom where
  | innerEval | innerProx          -- `functional.has_eval`, `functional.has_prox` (ScaledFunctional)
  | allEval | allProx              -- `all(fi.has_eval …)`, `all(fi.has_prox …)` (SeparableFunctional)
  | f1Eval | f2Eval                -- FunctionalSum
  | scaleReal | scalePos | tracer  -- `snp.isrealobj(scale)`, `bool(scale > 0)` (raises for a tracer)
  | fGiven | fEval | fProx         -- `self.f is not None`, `bool(self.f.has_eval)`, `self.f.has_prox`
  | aIdentity | aLinear            -- `isinstance(self.A, linop.Identity | linop.LinearOperator)`
  | yNonneg                        -- `snp.all(y >= 0)`
  | callOverridden                 -- `type(self).__call__ is not Loss.__call__`
  deriving DecidableEq, Repr

abbrev Val := Atom → Bool

/-- boolean expressions of the constructors (python `and` / `or` short-circuit; `none` = an exception) -/
inductive BExp where
  | tt | ff
  | atom (a : Atom)
  | and (a b : BExp) | or (a b : BExp) | not (a : BExp)
  | unknown (src : String)         -- an expression the translator does not know: never equal to the model
  deriving Repr

def BExp.eval (v : Val) : BExp → Option Bool
  | .tt => some true
  | .ff => some false
  | .atom .scalePos => if v .tracer then none else some (v .scalePos)   -- `bool(tracer)` raises
  | .atom a => some (v a)
  | .and a b => match a.eval v with
    | some true => b.eval v
    | r => r
  | .or a b => match a.eval v with
    | some false => b.eval v
    | r => r
  | .not a => (a.eval v).map (!·)
  | .unknown _ => none

inductive Flag where | hasEval | hasProx deriving DecidableEq, Repr

/-- `(has_eval, has_prox)`; `none` = not assigned (the class attribute `None` of `Functional`) -/
abbrev St := Option Bool × Option Bool

def St.set (s : St) : Flag → Bool → St
  | .hasEval, b => (some b, s.2)
  | .hasProx, b => (s.1, some b)

inductive Stmt where
  | assign (f : Flag) (e : BExp)
  | ite (c : BExp) (t e : List Stmt)
  | tryPass (body : List Stmt)               -- `try: body  except Exception: pass`
  | superLoss (overrides : Bool)             -- `super().__init__(y=y, A=A, scale=scale)` of a Loss subclass (`f=None`)
  deriving Repr

mutual
/-- run a constructor body; `none` = an exception escapes -/
def exec (lossInit : List Stmt) (v : Val) : Nat → List Stmt → St → Option St
  | 0, _, _ => none
  | _ + 1, [], s => some s
  | n + 1, st :: rest, s => match execOne lossInit v n st s with
    | some s' => exec lossInit v n rest s'
    | none => none
def execOne (lossInit : List Stmt) (v : Val) : Nat → Stmt → St → Option St
  | 0, _, _ => none
  | _ + 1, .assign f e, s => (e.eval v).map (s.set f)
  | n + 1, .ite c t e, s => match c.eval v with
    | some true => exec lossInit v n t s
    | some false => exec lossInit v n e s
    | none => none
  | n + 1, .tryPass body, s => match exec lossInit v n body s with
    | some s' => some s'
    | none => some s          -- the state from before the body (python would keep what the body assigned before the raise:
                              -- the same thing as long as only the first condition of a body can raise, as in the bodies extracted)
  | n + 1, .superLoss ov, s =>
    exec lossInit (fun a => if a = .fGiven then false else if a = .callOverridden then ov else v a) n lossInit s
end

/-- all valuations of the listed atoms (the others false) -/
def valsOn : List Atom → List Val
  | [] => [fun _ => false]
  | a :: as => (valsOn as).flatMap (fun v => [v, fun b => if b = a then true else v b])

/-- `valsOn` enumerates **every** valuation of the listed atoms: any valuation that is false outside the list agrees
    everywhere with a member of the enumeration (so a `checkFlags … = true` obligation covers all cases) -/
theorem valsOn_complete : ∀ (atoms : List Atom) (v : Val), (∀ a, a ∉ atoms → v a = false) →
    ∃ w ∈ valsOn atoms, ∀ a, w a = v a
  | [], v, h => ⟨fun _ => false, by simp [valsOn], fun a => (h a (by simp)).symm⟩
  | a :: as, v, h => by
    -- the valuation with `a` switched off (unless it occurs again in `as`) is covered by the induction hypothesis
    let v' : Val := fun b => if b = a ∧ a ∉ as then false else v b
    have hv' : ∀ b, b ∉ as → v' b = false := by
      intro b hb
      by_cases hba : b = a
      · subst hba; simp [v', hb]
      · have : b ∉ a :: as := by simp [hba, hb]
        simp [v', hba, h b this]
    obtain ⟨w, hw, hwv⟩ := valsOn_complete as v' hv'
    by_cases hva : v a = true
    · refine ⟨fun b => if b = a then true else w b, ?_, ?_⟩
      · simp only [valsOn, List.mem_flatMap]
        exact ⟨w, hw, by simp⟩
      · intro b
        by_cases hba : b = a
        · subst hba; simp [hva]
        · simp [hba, hwv b, v']
    · refine ⟨w, ?_, ?_⟩
      · simp only [valsOn, List.mem_flatMap]
        exact ⟨w, hw, by simp⟩
      · intro b
        rw [hwv b]
        by_cases hba : b = a
        · subst hba
          have : v b = false := by simpa using hva
          simp [v', this]
        · simp [v', hba]

def fuel : Nat := 64

def run (lossInit body : List Stmt) (v : Val) : Option St := exec lossInit v fuel body (none, none)

def scaleKindOf (v : Val) : ScaleKind :=
  if v .scaleReal then (if v .tracer then .tracedReal else if v .scalePos then .posReal else .nonposReal)
  else (if v .tracer then .tracedComplex else .complex)

/-- `ScaledFunctional.__init__` against `scaledHasProxOf` (and `hasEval (.scaled c f) = hasEval f`) -/
def expectScaled (v : Val) : Option St := some (some (v .innerEval), some (scaledHasProxOf (v .innerProx) (scaleKindOf v)))

def expectSep (v : Val) : Option St := some (some (v .allEval), some (v .allProx))
def expectSum (v : Val) : Option St := some (some (v .f1Eval && v .f2Eval), some false)

/-- an environment in which every leaf carries the flags of `self.f` -/
def envOf (v : Val) : Env Nat where
  hasEval := fun _ => v .fEval
  hasProx := fun _ => v .fProx
  eval := fun _ _ => 0
  prox := fun _ x _ => x
  opEval := fun _ x => x
  solve := fun _ _ _ _ x => x
  cplx := false

/-- generic `Loss.__init__` against the model's `hasEval` / `hasProx` of `Fn.loss` / `Fn.lossNone`
    (`A = none` is the Identity; for `f = None` a derived class that overrides `__call__` can be evaluated) -/
def expectLoss (v : Val) : Option St :=
  let A : Option Nat := if v .aIdentity then none else some 0
  if v .fGiven then some (some (hasEval (envOf v) (.loss (.arr []) A (.leaf 0) 1)), some (hasProx (envOf v) (.loss (.arr []) A (.leaf 0) 1)))
  else some (some (v .callOverridden || hasEval (envOf v) (.lossNone (.arr []) A 1)), some (hasProx (envOf v) (.lossNone (.arr []) A 1)))

def opClsOf (v : Val) : OpCls :=
  if v .aIdentity then .identity else if v .aLinear then .linear else .nonlinear

/-- derived loss classes against `lossClsFlags` (valuations respecting `Identity ⊂ LinearOperator`) -/
def expectCls (c : LossCls) (v : Val) : Option St :=
  let fl := lossClsFlags c (opClsOf v) (v .yNonneg)
  some (some fl.1, some fl.2)

def consistent (v : Val) : Bool := !(v .aIdentity) || v .aLinear

def checkFlags (lossInit body : List Stmt) (atoms : List Atom) (expect : Val → Option St) : Bool :=
  (valsOn atoms).all (fun v => !consistent v || run lossInit body v == expect v)

/-- meaning of a discharged flag obligation: on every consistent valuation of the tested conditions the constructor body
    computes the flags the model assumes -/
theorem checkFlags_sound (lossInit body : List Stmt) (atoms : List Atom) (expect : Val → Option St)
    (h : checkFlags lossInit body atoms expect = true) :
    ∀ w ∈ valsOn atoms, consistent w = true → run lossInit body w = expect w := by
  intro w hw hc
  have := List.all_eq_true.mp h w hw
  simp only [hc, Bool.not_true, Bool.false_or, beq_iff_eq] at this
  exact this

/-- a call `callee(args…, **kwargs?)` found in a method -/
structure CallSite where
  method : String
  callee : String
  args : List String
  kwargs : Bool
  deriving DecidableEq, Repr

/-- the forwarding sites the model (`prox`, `conjProx`, `kwPlan`) transcribes -/
def expectedCalls : List CallSite :=
  [⟨"Functional.conj_prox", "self.prox", ["v / lam", "1.0 / lam"], true⟩,
   ⟨"ScaledFunctional.prox", "self.functional.prox", ["v", "lam * self.scale"], true⟩,
   ⟨"SeparableFunctional.prox", "fi.prox", ["vi", "lam"], true⟩,
   ⟨"Loss.prox", "self.f.prox", ["v - self.y", "self.scale * lam"], true⟩,
   ⟨"SquaredL2Loss.prox", "cg", ["lhs", "rhs", "x0"], true⟩]

/-- defaults the model / harness assume: `(qualified function, parameter, default as source text)` -/
def expectedDefaults : List (String × String × String) :=
  [("Loss.__init__", "scale", "1.0"), ("Loss.__init__", "A", "None"), ("Loss.__init__", "f", "None"),
   ("SquaredL2Loss.__init__", "scale", "0.5"), ("SquaredL2Loss.__init__", "W", "None"), ("SquaredL2Loss.__init__", "prox_kwargs", "None"),
   ("SquaredL2Loss.default_prox_kwargs", "maxiter", "100"), ("SquaredL2Loss.default_prox_kwargs", "tol", "1e-05"),
   ("SquaredL2AbsLoss.__init__", "scale", "0.5"), ("SquaredL2SquaredAbsLoss.__init__", "scale", "0.5"), ("PoissonLoss.__init__", "scale", "0.5"),
   ("Functional.prox", "lam", "1.0"), ("Functional.conj_prox", "lam", "1.0"), ("ScaledFunctional.prox", "lam", "1.0"),
   ("SeparableFunctional.prox", "lam", "1.0"), ("Loss.prox", "lam", "1"), ("SquaredL2Loss.prox", "lam", "1.0"),
   ("L21Norm.__init__", "l2_axis", "0"), ("HuberNorm.__init__", "delta", "1.0"), ("HuberNorm.__init__", "separable", "True"),
   ("L1MinusL2Norm.__init__", "beta", "1.0"), ("L2BallIndicator.__init__", "radius", "1"),
   ("TVNorm.__init__", "circular", "True"), ("TVNorm.__init__", "axes", "None"),
   ("ProximalAverage.__init__", "alpha_list", "None"), ("ProximalAverage.__init__", "no_inf_eval", "True"),
   ("metric.psnr", "signal_range", "None")]

/-- public functions of `scico.metric` with the `snp.*` / builtin reductions they call (sorted) -/
def expectedMetrics : List (String × List String) :=
  [("mae", ["_flatten", "snp.abs", "snp.mean"]), ("mse", ["_flatten", "snp.abs", "snp.mean"]),
   ("snr", ["_flatten", "mse", "snp.log10", "snp.var"]),
   ("psnr", ["_flatten", "mse", "snp.abs", "snp.log10", "snp.max", "snp.min"]),
   ("isnr", ["mse", "snp.log10"]), ("bsnr", ["_flatten", "snp.log10", "snp.var"]),
   ("rel_res", ["max", "snp.linalg.norm"])]

/-- exception classes raised by the argument checks the model transcribes, in source order -/
def expectedRaises : List (String × List String) :=
  [("Functional.__call__", ["NotImplementedError"]), ("Functional.prox", ["NotImplementedError"]),
   ("SeparableFunctional.__call__", ["ValueError"]), ("SeparableFunctional.prox", ["ValueError"]),
   ("Loss.__call__", ["NotImplementedError"]), ("Loss.prox", ["NotImplementedError"]),
   ("SquaredL2Loss.__init__", ["ValueError", "TypeError"]), ("SquaredL2Loss.prox", ["NotImplementedError"]),
   ("SquaredL2Loss.hessian", ["NotImplementedError"]),
   ("SquaredL2AbsLoss.__init__", ["ValueError", "TypeError"]), ("SquaredL2AbsLoss.prox", ["NotImplementedError"]),
   ("SquaredL2SquaredAbsLoss.__init__", ["ValueError", "TypeError"]), ("SquaredL2SquaredAbsLoss.prox", ["NotImplementedError"]),
   ("L21Norm.__call__", ["ValueError"]), ("NuclearNorm.__call__", ["ValueError"]),
   ("ProximalAverage.__init__", ["ValueError", "ValueError"]), ("ProximalAverage.__call__", ["ValueError"])]

def subsetOf {β : Type} [DecidableEq β] (expected got : List β) : Bool := expected.all (fun e => got.contains e)

theorem subsetOf_of_pick {β : Type} [DecidableEq β] {expected got : List β} (idx : List Nat)
    (h : expected = idx.filterMap (got[·]?)) : subsetOf expected got = true :=
  Scico.Tables.all_contains_of_pick idx h

/-- the wrapper classes whose `prox` the model gives a rule for are exactly the classes of `_functional.py` / `loss.py`
    that define `prox` (a new wrapper class with its own `prox` would be outside the model) -/
def expectedProxClasses : List String :=
  ["Functional", "ScaledFunctional", "SeparableFunctional", "ZeroFunctional", "Loss", "SquaredL2Loss", "SquaredL2AbsLoss",
   "SquaredL2SquaredAbsLoss"]

/-- classes of `loss.py` deriving from `Loss` (the model's `LossCls`) -/
def expectedLossClasses : List String := ["SquaredL2Loss", "PoissonLoss", "SquaredL2AbsLoss", "SquaredL2SquaredAbsLoss"]

/-- `return` expressions of the evaluation methods (and of the wrapper / loss / runnable leaf `prox` methods) the model
    transcribes, as source text (`ast.unparse`): `eval`, `prox`, `conjProx` of `Model/ProxCalc`, the formulas of `Model/FuncEval`,
    the metrics.  (Proximal maps of the other base functionals belong to property C02.) -/
def expectedReturns : List (String × List String) :=
  [("Functional.conj_prox", ["v - lam * self.prox(v / lam, 1.0 / lam, **kwargs)"]),
   ("ScaledFunctional.__call__", ["self.scale * self.functional(x)"]),
   ("ScaledFunctional.prox", ["self.functional.prox(v, lam * self.scale, **kwargs)"]),
   ("SeparableFunctional.__call__", ["snp.sum(snp.array([fi(xi) for fi, xi in zip(self.functional_list, x)]))"]),
   ("SeparableFunctional.prox", ["snp.blockarray([fi.prox(vi, lam, **kwargs) for fi, vi in zip(self.functional_list, v)])"]),
   ("FunctionalSum.__call__", ["self.functional1(x) + self.functional2(x)"]),
   ("ZeroFunctional.__call__", ["0.0"]),
   ("ZeroFunctional.prox", ["v"]),
   ("Loss.__call__", ["self.scale * self.f(self.A(x) - self.y)"]),
   ("Loss.prox", ["self.f.prox(v - self.y, self.scale * lam, **kwargs) + self.y"]),
   ("SquaredL2Loss.__call__", ["self.scale * snp.sum(self.W.diagonal * snp.abs(self.y - self.A(x)) ** 2)"]),
   ("SquaredL2Loss.prox", ["lhs / (ATWA + 1.0)", "x"]),
   ("PoissonLoss.__call__", ["self.scale * snp.sum(Ax - self.y * snp.log(Ax) + self.const)"]),
   ("SquaredL2AbsLoss.__call__", ["self.scale * snp.sum(self.W.diagonal * snp.abs(self.y - snp.abs(self.A(x))) ** 2)"]),
   ("SquaredL2SquaredAbsLoss.__call__", ["self.scale * snp.sum(self.W.diagonal * snp.abs(self.y - snp.abs(self.A(x)) ** 2) ** 2)"]),
   ("L0Norm.__call__", ["count_nonzero(x)"]),
   ("L1Norm.__call__", ["snp.sum(snp.abs(x))"]),
   ("SquaredL2Norm.__call__", ["snp.sum(snp.abs(x) ** 2)"]),
   ("SquaredL2Norm.prox", ["v / (1.0 + 2.0 * lam)"]),
   ("L2Norm.__call__", ["norm(x)"]),
   ("L2Norm.prox", ["snp.where(norm_v == 0, 0 * v, snp.maximum(1 - lam / norm_v, 0) * v)"]),
   ("L21Norm._l2norm", ["snp.where(nz, snp.sqrt(snp.where(nz, l2sq, 1.0)), 0.0)"]),
   ("L21Norm.__call__", ["snp.sum(snp.abs(l2))"]),
   ("L1MinusL2Norm.__call__", ["snp.sum(snp.abs(x)) - self.beta * norm(x)"]),
   ("HuberNorm._call_sep", ["snp.sum(hx)"]),
   ("HuberNorm._call_nonsep", ["lax.cond(snp.sqrt(xl2sq) <= self.delta, self._call_lt_branch, self._call_gt_branch, xl2sq, snp.asarray(self.delta, dtype=xl2sq.dtype))"]),
   ("HuberNorm.__call__", ["self._call(x)"]),
   ("NuclearNorm.__call__", ["snp.sum(snp.linalg.svd(x, full_matrices=False, compute_uv=False))"]),
   ("NonNegativeIndicator.__call__", ["jax.lax.cond(snp.any(x < 0), lambda x: snp.inf, lambda x: 0.0, None)"]),
   ("NonNegativeIndicator.prox", ["snp.maximum(v, 0)"]),
   ("L2BallIndicator.__call__", ["jax.lax.cond(norm(x) > self.radius, lambda x: snp.inf, lambda x: 0.0, None)"]),
   ("SetDistance.__call__", ["snp.where(nz, snp.sqrt(snp.where(nz, dsq, 1.0)), 0.0)"]),
   ("SquaredSetDistance.__call__", ["0.5 * snp.sum(snp.abs(x - y) ** 2)"]),
   ("TVNorm.__call__", ["self.norm(self.G @ x)"]),
   ("ProximalAverage.__call__", ["sum(weight_func_vals)"]),
   ("ProximalAverage.prox", ["sum([alpha * f.prox(v, lam, **kwargs) for alpha, f in zip(self.alpha_list, self.func_list)])"]),
   ("metric.mae", ["snp.mean(snp.abs(_flatten(reference - comparison)))"]),
   ("metric.mse", ["snp.mean(snp.abs(_flatten(reference - comparison)) ** 2)"]),
   ("metric.snr", ["10.0 * snp.log10(rt)"]),
   ("metric.psnr", ["10.0 * snp.log10(rt)"]),
   ("metric.isnr", ["10.0 * snp.log10(rt)"]),
   ("metric.bsnr", ["10.0 * snp.log10(rt)"]),
   ("metric.rel_res", ["0.0", "snp.linalg.norm((b - ax).ravel()) / nrm"])]

/-- local formulas of `SquaredL2Loss.prox` (both branches) and of `hessian` (`sqL2DiagProx`, `sqL2Lhs`, `sqL2Rhs`, `sqL2X0`) -/
def expectedAssigns : List (String × String × String) :=
  [("SquaredL2Loss.prox", "c", "2.0 * self.scale * lam"),
   ("SquaredL2Loss.prox", "A", "self.A.diagonal"),
   ("SquaredL2Loss.prox", "W", "self.W.diagonal"),
   ("SquaredL2Loss.prox", "lhs", "c * A.conj() * W * self.y + v"),
   ("SquaredL2Loss.prox", "ATWA", "c * A.conj() * W * A"),
   ("SquaredL2Loss.prox", "W", "self.W"),
   ("SquaredL2Loss.prox", "A", "self.A"),
   ("SquaredL2Loss.prox", "α", "self.scale"),
   ("SquaredL2Loss.prox", "y", "self.y"),
   ("SquaredL2Loss.prox", "x0", "kwargs['x0']"),
   ("SquaredL2Loss.prox", "x0", "snp.zeros_like(v)"),
   ("SquaredL2Loss.prox", "hessian", "self.hessian"),
   ("SquaredL2Loss.prox", "lhs", "linop.Identity(v.shape) + lam * hessian"),
   ("SquaredL2Loss.prox", "rhs", "v + 2 * lam * α * A.adj(W(y))"),
   ("SquaredL2Loss.hessian", "A", "self.A"),
   ("SquaredL2Loss.hessian", "W", "self.W"),
   ("SquaredL2Loss.hessian", "eval_fn", "lambda x: 2 * self.scale * A.adj(W(A(x)))"),
   ("SquaredL2Loss.hessian", "adj_fn", "lambda x: 2 * self.scale * A.adj(W(A(x)))")]

/-- decorator lists of the evaluation / prox methods, as in the source -/
def expectedDecorators : List (String × List String) :=
  [("Functional.__call__", []),
   ("Functional.prox", []),
   ("Functional.conj_prox", []),
   ("ScaledFunctional.__call__", []),
   ("ScaledFunctional.prox", []),
   ("SeparableFunctional.__call__", []),
   ("SeparableFunctional.prox", []),
   ("FunctionalSum.__call__", []),
   ("ZeroFunctional.__call__", []),
   ("ZeroFunctional.prox", []),
   ("Loss.__call__", []),
   ("Loss.prox", []),
   ("SquaredL2Loss.__call__", []),
   ("SquaredL2Loss.prox", []),
   ("PoissonLoss.__call__", []),
   ("SquaredL2AbsLoss.__call__", []),
   ("SquaredL2AbsLoss.prox", []),
   ("SquaredL2SquaredAbsLoss.__call__", []),
   ("SquaredL2SquaredAbsLoss.prox", []),
   ("L0Norm.__call__", []),
   ("L0Norm.prox", ["staticmethod", "jit"]),
   ("L1Norm.__call__", []),
   ("L1Norm.prox", ["staticmethod"]),
   ("SquaredL2Norm.__call__", []),
   ("SquaredL2Norm.prox", []),
   ("L2Norm.__call__", []),
   ("L2Norm.prox", []),
   ("L21Norm.__call__", []),
   ("L21Norm.prox", []),
   ("L1MinusL2Norm.__call__", []),
   ("L1MinusL2Norm._prox_vamx_ge_thresh", ["staticmethod"]),
   ("L1MinusL2Norm._prox_vamx_le_alpha", ["staticmethod"]),
   ("L1MinusL2Norm._prox_vamx_gt_alpha", ["staticmethod"]),
   ("L1MinusL2Norm._prox_vamx_gt_0", ["staticmethod"]),
   ("L1MinusL2Norm.prox", []),
   ("HuberNorm._call_sep", []),
   ("HuberNorm._call_nonsep", []),
   ("HuberNorm.__call__", []),
   ("HuberNorm._prox_sep", []),
   ("HuberNorm._prox_nonsep", []),
   ("HuberNorm.prox", []),
   ("NuclearNorm.__call__", []),
   ("NuclearNorm.prox", []),
   ("NonNegativeIndicator.__call__", []),
   ("NonNegativeIndicator.prox", []),
   ("L2BallIndicator.__call__", []),
   ("L2BallIndicator.prox", []),
   ("SetDistance.__call__", []),
   ("SetDistance.prox", []),
   ("SquaredSetDistance.__call__", []),
   ("SquaredSetDistance.prox", []),
   ("TVNorm._call_operator", []),
   ("TVNorm.__call__", []),
   ("TVNorm._prox_operators", []),
   ("TVNorm._prox_core", ["staticmethod", "partial(jax.jit, static_argnums=(0, 1, 2, 4))"]),
   ("TVNorm.prox", []),
   ("ProximalAverage.__call__", []),
   ("ProximalAverage.prox", [])]

end Scico.ProxCalc.Tables
