/-
  C15, the dictionary and the label routing of `Timer` (`all` label, default label, list arguments
  with early exit on an unknown label): each label receives exactly the events the history-based
  specification `labelHistory` lists, and is a key of the dictionary iff the specification says it
  exists (`known`).  None of this looks at the clock values, so it is proved once, for the
  generic-clock transcription over any `τ` with `+`, `-`, `0`; the tick transcription is that
  transcription at `τ = ℕ` (`toClock`), and its facts are read off.
-/
import Scico.Proofs.DriverClockSpec
import Mathlib.Data.List.TakeWhile
import Mathlib.Data.List.Induction

namespace Scico.Driver.Clock
open Scico.Driver.Spec (Cfg)

variable {L τ : Type} [DecidableEq L]

section
variable [Add τ] [Sub τ] [Zero τ]

/-- the per-label state machine of the implementation, driven by the label's events -/
def mach (e : Entry τ) (ev : τ × Op) : Entry τ :=
  match ev.2 with
  | .start => startEntry e ev.1
  | .stop => stopEntry e ev.1
  | .reset => resetEntry e

def machFold (es : List (τ × Op)) : Entry τ := es.foldl mach Entry.fresh

theorem machFold_snoc (es : List (τ × Op)) (ev : τ × Op) :
    machFold (es ++ [ev]) = mach (machFold es) ev := by
  simp [machFold, List.foldl_append]

omit [Add τ] [Sub τ] [Zero τ] in
theorem trailingStarts_snoc (es : List (τ × Op)) (t : τ) (k : Op) :
    trailingStarts (es ++ [(t, k)]) =
      if k = .start then trailingStarts es ++ [(t, k)] else [] := by
  unfold trailingStarts
  cases k <;> simp

theorem machFold_t0 (es : List (τ × Op)) : (machFold es).t0 = (trailingStarts es).head?.map (·.1) := by
  induction es using List.reverseRecOn with
  | nil => rfl
  | append_singleton es ev ih =>
    obtain ⟨t, k⟩ := ev
    rw [machFold_snoc, trailingStarts_snoc]
    cases k with
    | start => cases hh : trailingStarts es <;> simp [mach, startEntry, ih, hh]
    | stop => cases h0 : (machFold es).t0 <;> simp [mach, stopEntry, h0]
    | reset => simp [mach, resetEntry]

/-- a pending start time is the time of one of the events, so a bound on those bounds it -/
theorem machFold_t0_le [LE τ] (es : List (τ × Op)) (T : τ) (hT : ∀ ev ∈ es, ev.1 ≤ T) (s : τ)
    (h : (machFold es).t0 = some s) : s ≤ T := by
  rw [machFold_t0, Option.map_eq_some_iff] at h
  obtain ⟨ev, hev, rfl⟩ := h
  have := List.mem_of_mem_head? hev
  unfold trailingStarts at this
  exact hT ev (List.mem_reverse.mp ((List.takeWhile_sublist _).subset (List.mem_reverse.mp this)))
end

theorem Store.get_set (s : Store L τ) (l l' : L) (e : Entry τ) :
    (s.set l e).get l' = if l = l' then some e else s.get l' := by
  induction s with
  | nil => simp [Store.set, Store.get]
  | cons p s ih =>
    obtain ⟨k, x⟩ := p
    by_cases hk : k = l
    · subst hk
      by_cases hl : k = l' <;> simp [Store.set, Store.get, hl]
    · by_cases hl : k = l'
      · subst hl
        simp [Store.set, Store.get, hk, Ne.symm hk]
      · simp [Store.set, Store.get, hk, hl, ih]

theorem Store.mem_keys_iff (s : Store L τ) (l : L) : l ∈ s.keys ↔ (s.get l).isSome = true := by
  induction s with
  | nil => simp [Store.keys, Store.get]
  | cons p s ih =>
    obtain ⟨k, x⟩ := p
    by_cases hk : k = l
    · simp [Store.keys, Store.get, hk]
    · simp only [Store.keys, List.map_cons, List.mem_cons, Ne.symm hk, false_or, Store.get, hk, if_false]
      exact ih

theorem isSome_get_set (s : Store L τ) (l : L) (e : Entry τ) (h : (s.get l).isSome = true) (x : L) :
    ((s.set l e).get x).isSome = (s.get x).isSome := by
  rw [Store.get_set]
  by_cases hx : l = x
  · subst hx; simp [h]
  · simp [hx]

theorem updList_ok (f : Entry τ → Entry τ) (s : Store L τ) (ls : List L) :
    (updList f s ls).2 = ls.all (fun l => (s.get l).isSome) := by
  induction ls generalizing s with
  | nil => simp [updList]
  | cons l ls ih =>
    unfold updList
    cases h : s.get l with
    | none => simp [h]
    | some e =>
      have hs : (s.get l).isSome = true := by simp [h]
      simp only [ih, List.all_cons, h, Option.isSome_some, Bool.true_and]
      congr 1
      funext x
      exact isSome_get_set s l (f e) hs x

theorem updList_get (f : Entry τ → Entry τ) (hf : ∀ e, f (f e) = f e) (s : Store L τ) (ls : List L) (l' : L) :
    (updList f s ls).1.get l' =
      if l' ∈ ls.takeWhile (fun l => (s.get l).isSome) then (s.get l').map f else s.get l' := by
  induction ls generalizing s with
  | nil => simp [updList]
  | cons l ls ih =>
    unfold updList
    cases h : s.get l with
    | none => simp [h]
    | some e =>
      have hs : (s.get l).isSome = true := by simp [h]
      have hp : (fun x => ((s.set l (f e)).get x).isSome) = (fun x => (s.get x).isSome) := by
        funext x; exact isSome_get_set s l (f e) hs x
      rw [ih (s.set l (f e)), hp]
      simp only [List.takeWhile_cons, hs, if_true, List.mem_cons, Store.get_set]
      by_cases h2 : l = l'
      · subst h2
        by_cases h1 : l ∈ List.takeWhile (fun x => (s.get x).isSome) ls <;> simp [h1, h, hf]
      · by_cases h1 : l' ∈ List.takeWhile (fun x => (s.get x).isSome) ls <;> simp [h1, h2, Ne.symm h2]

theorem labelHistoryFrom_append (c : Cfg L) (l : L) (p a b : List (Call L τ)) :
    labelHistoryFrom c l p (a ++ b) = labelHistoryFrom c l p a ++ labelHistoryFrom c l (p ++ a) b := by
  induction a generalizing p with
  | nil => simp [labelHistoryFrom]
  | cons k a ih =>
    simp only [List.cons_append, labelHistoryFrom, ih, List.append_assoc]
    simp

theorem labelHistory_snoc (c : Cfg L) (pre : List (Call L τ)) (k : Call L τ) (l : L) :
    labelHistory c (pre ++ [k]) l =
      labelHistory c pre l ++ (if reaches c pre k l then [(k.time, k.op)] else []) := by
  simp [labelHistory, labelHistoryFrom_append, labelHistoryFrom]

theorem known_snoc (c : Cfg L) (pre : List (Call L τ)) (k : Call L τ) (l : L) :
    known c (pre ++ [k]) l =
      (known c pre l || (k.op == .start && (c.startLabels k.arg).contains l)) := by
  simp [known, List.any_append, Bool.or_assoc]

theorem known_mono (c : Cfg L) (p h : List (Call L τ)) (l : L) (hk : known c (p ++ h) l = false) :
    known c p l = false := by
  simp only [known, List.any_append, Bool.or_eq_false_iff] at hk ⊢
  exact ⟨hk.1, hk.2.1⟩

theorem reaches_of_ne_start (c : Cfg L) (pre : List (Call L τ)) (k : Call L τ) (l : L) (hop : k.op ≠ .start) :
    reaches c pre k l = (match c.explicitTargets k.arg with
      | none => known c pre l
      | some ls => (ls.takeWhile (known c pre)).contains l) := by
  unfold reaches
  cases hk : k.op <;> first | exact absurd hk hop | rfl

theorem raisesKey_of_ne_start (c : Cfg L) (pre : List (Call L τ)) (k : Call L τ) (hop : k.op ≠ .start) :
    raisesKey c pre k = (match c.explicitTargets k.arg with
      | none => false
      | some ls => !(ls.all (known c pre))) := by
  unfold raisesKey
  cases hk : k.op <;> first | exact absurd hk hop | rfl

theorem reaches_known (c : Cfg L) (pre : List (Call L τ)) (k : Call L τ) (l : L)
    (hop : k.op ≠ .start) (h : reaches c pre k l = true) : known c pre l = true := by
  rw [reaches_of_ne_start c pre k l hop] at h
  cases ht : c.explicitTargets k.arg with
  | none => simpa [ht] using h
  | some ls =>
    simp only [ht, List.contains_eq_mem, decide_eq_true_eq] at h
    simpa using List.mem_takeWhile_imp h

theorem labelHistoryFrom_unknown (c : Cfg L) (l : L) (p h : List (Call L τ))
    (hk : known c (p ++ h) l = false) : labelHistoryFrom c l p h = [] := by
  induction h generalizing p with
  | nil => simp [labelHistoryFrom]
  | cons k rest ih =>
    have hk' : known c ((p ++ [k]) ++ rest) l = false := by simpa using hk
    have hp : known c p l = false := known_mono c p (k :: rest) l hk
    have hpk : known c (p ++ [k]) l = false := known_mono c (p ++ [k]) rest l hk'
    have hr : reaches c p k l = false := by
      by_cases hop : k.op = .start
      · rw [known_snoc] at hpk
        simp only [hop, beq_self_eq_true, Bool.true_and, Bool.or_eq_false_iff] at hpk
        have hnm : ¬ l ∈ c.startLabels k.arg := by simpa using hpk.2
        simp [reaches, hop, hnm]
      · cases hr : reaches c p k l with
        | false => rfl
        | true => rw [reaches_known c p k l hop hr] at hp; exact absurd hp (by simp)
    simp [labelHistoryFrom, hr, ih (p ++ [k]) hk']

theorem labelHistory_unknown (c : Cfg L) (h : List (Call L τ)) (l : L) (hk : known c h l = false) :
    labelHistory c h l = [] :=
  labelHistoryFrom_unknown c l [] h (by simpa using hk)

theorem labelHistoryFrom_times (c : Cfg L) (l : L) (p h : List (Call L τ)) :
    ∀ e ∈ labelHistoryFrom c l p h, ∃ k ∈ h, k.time = e.1 := by
  induction h generalizing p with
  | nil => simp [labelHistoryFrom]
  | cons k rest ih =>
    intro e he
    simp only [labelHistoryFrom, List.mem_append] at he
    rcases he with he | he
    · by_cases hr : reaches c p k l = true
      · simp only [hr, if_true, List.mem_singleton] at he
        exact ⟨k, by simp, by simp [he]⟩
      · simp [hr] at he
    · obtain ⟨k', hk', ht⟩ := ih (p ++ [k]) e he
      exact ⟨k', by simp [hk'], ht⟩

theorem labelHistoryFrom_sorted [LE τ] (c : Cfg L) (l : L) (p h : List (Call L τ))
    (hs : h.Pairwise (fun a b => a.time ≤ b.time)) :
    (labelHistoryFrom c l p h).Pairwise (fun a b => a.1 ≤ b.1) := by
  induction h generalizing p with
  | nil => simp [labelHistoryFrom]
  | cons k rest ih =>
    rw [List.pairwise_cons] at hs
    simp only [labelHistoryFrom]
    rw [List.pairwise_append]
    refine ⟨?_, ih (p ++ [k]) hs.2, ?_⟩
    · by_cases hr : reaches c p k l = true <;> simp [hr]
    · intro a ha b hb
      by_cases hr : reaches c p k l = true
      · simp only [hr, if_true, List.mem_singleton] at ha
        obtain ⟨k', hk', ht⟩ := labelHistoryFrom_times c l (p ++ [k]) rest b hb
        rw [ha, ← ht]
        exact hs.1 k' hk'
      · simp [hr] at ha

theorem labelHistory_sorted [LE τ] (c : Cfg L) {h : List (Call L τ)} {now : τ} (hm : Monotone h now) (l : L) :
    (labelHistory c h l).Pairwise (fun a b => a.1 ≤ b.1) ∧ ∀ ev ∈ labelHistory c h l, ev.1 ≤ now := by
  refine ⟨labelHistoryFrom_sorted c l [] h hm.1, fun ev hev => ?_⟩
  obtain ⟨k, hk, ht⟩ := labelHistoryFrom_times c l [] h ev hev
  exact ht ▸ hm.2 k hk

/-! A label may occur several times in a list argument of `__init__` or `start`; the per-entry operations are
idempotent at a fixed time, so only membership matters. -/

theorem startEntry_idem (e : Entry τ) (t : τ) : startEntry (startEntry e t) t = startEntry e t := by
  cases h : e.t0 <;> simp [startEntry, h]

theorem stopEntry_idem [Add τ] [Sub τ] (e : Entry τ) (t : τ) : stopEntry (stopEntry e t) t = stopEntry e t := by
  cases h : e.t0 <;> simp [stopEntry, h]

variable [Zero τ]

theorem initLoop_get (ls : List L) (s : Store L τ) (l' : L) :
    (ls.foldl (fun s l => s.set l Entry.fresh) s).get l' =
      if l' ∈ ls then some Entry.fresh else s.get l' := by
  induction ls generalizing s with
  | nil => simp
  | cons l ls ih =>
    simp only [List.foldl_cons, ih, Store.get_set, List.mem_cons]
    by_cases h1 : l' ∈ ls
    · simp [h1]
    · by_cases h2 : l = l'
      · simp [h2]
      · simp [h1, h2, Ne.symm h2]

theorem startOne_get (s : Store L τ) (t : τ) (l l' : L) :
    (startOne s t l).get l' =
      if l = l' then some (startEntry ((s.get l).getD Entry.fresh) t) else s.get l' := by
  unfold startOne
  cases h : s.get l <;> simp [Store.get_set]

theorem startLoop_get (ls : List L) (s : Store L τ) (t : τ) (l' : L) :
    (ls.foldl (fun s l => startOne s t l) s).get l' =
      if l' ∈ ls then some (startEntry ((s.get l').getD Entry.fresh) t) else s.get l' := by
  induction ls generalizing s with
  | nil => simp
  | cons l ls ih =>
    simp only [List.foldl_cons, ih, startOne_get, List.mem_cons]
    by_cases h2 : l = l'
    · subst h2
      by_cases h1 : l ∈ ls <;> simp [h1, startEntry_idem]
    · by_cases h1 : l' ∈ ls <;> simp [h1, h2, Ne.symm h2]

variable [Add τ] [Sub τ]

/-- the timer object represents the call history `pre` -/
structure Represents (c : Cfg L) (pre : List (Call L τ)) (T : Timer L τ) : Prop where
  dflt : T.dflt = c.dflt
  all : T.all = c.all
  get : ∀ l, T.store.get l = if known c pre l then some (machFold (labelHistory c pre l)) else none

theorem represents_init (c : Cfg L) :
    Represents c ([] : List (Call L τ)) (Timer.init c.init c.dflt c.all : Timer L τ) := by
  refine ⟨rfl, rfl, ?_⟩
  intro l
  have hk : known c ([] : List (Call L τ)) l = decide (l ∈ c.initLabels) := by simp [known]
  have hg : (Timer.init c.init c.dflt c.all : Timer L τ).store.get l =
      if l ∈ c.initLabels then some Entry.fresh else none := by
    unfold Timer.init Cfg.initLabels
    cases c.init <;> rw [initLoop_get] <;> simp [Store.get]
  rw [hg, hk]
  by_cases h : l ∈ c.initLabels <;> simp [h, labelHistory, labelHistoryFrom, machFold]

theorem isSome_of_represents {c : Cfg L} {pre : List (Call L τ)} {T : Timer L τ}
    (h : Represents c pre T) (l : L) : (T.store.get l).isSome = known c pre l := by
  rw [h.get l]; cases known c pre l <;> simp

theorem mem_keys_of_represents {c : Cfg L} {pre : List (Call L τ)} {T : Timer L τ}
    (h : Represents c pre T) (l : L) : l ∈ T.store.keys ↔ known c pre l = true := by
  rw [Store.mem_keys_iff, isSome_of_represents h l]

theorem targets_eq {c : Cfg L} {pre : List (Call L τ)} {T : Timer L τ} (h : Represents c pre T)
    (a : Arg L) :
    T.targets a = match c.explicitTargets a with
      | none => T.store.keys
      | some ls => ls := by
  cases a with
  | none =>
    simp only [Timer.targets, Cfg.explicitTargets, h.dflt, h.all]
    by_cases hd : c.dflt = c.all <;> simp [hd]
  | one l =>
    simp only [Timer.targets, Cfg.explicitTargets, h.all]
    by_cases hd : l = c.all <;> simp [hd]
  | many ls => simp [Timer.targets, Cfg.explicitTargets]

theorem upd_reaches {c : Cfg L} {pre : List (Call L τ)} {T : Timer L τ} (h : Represents c pre T)
    (k : Call L τ) (hop : k.op ≠ .start) (f : Entry τ → Entry τ) (hf : ∀ e, f (f e) = f e) (l : L) :
    (updList f T.store (T.targets k.arg)).1.get l =
        (if reaches c pre k l then (T.store.get l).map f else T.store.get l) ∧
      (updList f T.store (T.targets k.arg)).2 = !(raisesKey c pre k) := by
  have hp : (fun x => (T.store.get x).isSome) = known c pre := by
    funext x; exact isSome_of_represents h x
  rw [updList_get f hf, updList_ok, targets_eq h, hp, reaches_of_ne_start c pre k l hop,
    raisesKey_of_ne_start c pre k hop]
  cases ht : c.explicitTargets k.arg with
  | some ls => simp
  | none =>
    have hall : ∀ x ∈ T.store.keys, known c pre x = true := fun x hx => (mem_keys_of_represents h x).mp hx
    have htw : T.store.keys.takeWhile (known c pre) = T.store.keys := by
      rw [List.takeWhile_eq_self_iff]; exact hall
    simp only [htw]
    refine ⟨?_, by simpa using hall⟩
    by_cases hk : known c pre l = true
    · simp [hk, (mem_keys_of_represents h l).mpr hk]
    · have : ¬ l ∈ T.store.keys := fun hm => hk ((mem_keys_of_represents h l).mp hm)
      simp [this, hk]

/-- a `stop` or `reset` call, `f` being what it does to an entry -/
theorem represents_upd {c : Cfg L} {pre : List (Call L τ)} {T : Timer L τ} (h : Represents c pre T)
    (k : Call L τ) (hop : k.op ≠ .start) (f : Entry τ → Entry τ) (hf : ∀ e, f (f e) = f e)
    (hmach : ∀ e, mach e (k.time, k.op) = f e) :
    Represents c (pre ++ [k]) { T with store := (updList f T.store (T.targets k.arg)).1 } ∧
      (updList f T.store (T.targets k.arg)).2 = !(raisesKey c pre k) := by
  refine ⟨⟨h.dflt, h.all, fun l => ?_⟩, (upd_reaches h k hop f hf c.dflt).2⟩
  have hb : (k.op == Op.start) = false := by cases hk : k.op <;> first | exact absurd hk hop | rfl
  simp only [(upd_reaches h k hop f hf l).1, known_snoc, labelHistory_snoc, hb, Bool.false_and, Bool.or_false]
  cases hr : reaches c pre k l with
  | false => simp [h.get l]
  | true => simp [h.get l, reaches_known c pre k l hop hr, machFold_snoc, hmach]

theorem represents_apply {c : Cfg L} {pre : List (Call L τ)} {T : Timer L τ} (h : Represents c pre T)
    (k : Call L τ) :
    Represents c (pre ++ [k]) (T.apply k).1 ∧ (T.apply k).2 = !(raisesKey c pre k) := by
  cases hop : k.op with
  | start =>
    refine ⟨⟨by simp [Timer.apply, hop, Timer.start, h.dflt], by simp [Timer.apply, hop, Timer.start, h.all],
      fun l => ?_⟩, by simp [Timer.apply, hop, raisesKey]⟩
    have hsl : T.startLabels k.arg = c.startLabels k.arg := by
      cases k.arg <;> simp [Timer.startLabels, Cfg.startLabels, h.dflt]
    simp only [Timer.apply, hop, Timer.start, startLoop_get, hsl, known_snoc, labelHistory_snoc,
      beq_self_eq_true, Bool.true_and, reaches, List.contains_eq_mem]
    by_cases hm : l ∈ c.startLabels k.arg
    · simp only [hm, if_true, decide_true, Bool.or_true, machFold_snoc, mach]
      rw [h.get l]
      cases hk : known c pre l with
      | true => simp
      | false => simp [labelHistory_unknown c pre l hk, machFold]
    · simp [hm, h.get l]
  | stop =>
    simpa [Timer.apply, hop, Timer.stop] using represents_upd h k (by simp [hop])
      (fun e => stopEntry e k.time) (fun e => stopEntry_idem e k.time) (fun e => by simp [mach, hop])
  | reset =>
    simpa [Timer.apply, hop, Timer.reset] using represents_upd h k (by simp [hop])
      resetEntry (fun _ => rfl) (fun e => by simp [mach, hop])

theorem represents_run {c : Cfg L} (pre h : List (Call L τ)) (T : Timer L τ)
    (hT : Represents c pre T) : Represents c (pre ++ h) (T.run h) := by
  induction h generalizing pre T with
  | nil => simpa [Timer.run] using hT
  | cons k rest ih =>
    have := ih (pre ++ [k]) (T.apply k).1 (represents_apply hT k).1
    simpa [Timer.run] using this

theorem represents_init_run (c : Cfg L) (h : List (Call L τ)) :
    Represents c h ((Timer.init c.init c.dflt c.all).run h) := by
  simpa using represents_run [] h _ (represents_init c)

theorem timer_keyerror (c : Cfg L) (h : List (Call L τ)) (k : Call L τ) :
    (((Timer.init c.init c.dflt c.all).run h).apply k).2 = !(raisesKey c h k) :=
  (represents_apply (represents_init_run c h) k).2

theorem elapsed_of_represents {c : Cfg L} {pre : List (Call L τ)} {T : Timer L τ} (h : Represents c pre T)
    (label : Option L) (total : Bool) (now : τ) :
    T.elapsed label total now =
      if known c pre (label.getD c.dflt) then
        some (elapsedEntry (machFold (labelHistory c pre (label.getD c.dflt))) total now)
      else if label.isNone then some 0 else none := by
  cases label with
  | none =>
    simp only [Timer.elapsed, Option.getD_none, h.dflt, h.get c.dflt, Option.isNone_none, if_true]
    cases known c pre c.dflt <;> rfl
  | some l =>
    simp only [Timer.elapsed, Option.getD_some, h.get l, Option.isNone_some]
    cases known c pre l <;> rfl

end Scico.Driver.Clock

/-! ## Why two transcriptions and two specifications

`Model/Driver` transcribes `Timer` over ticks (`ℕ`: Mathlib-free, what `Drv`, `solve` and the line-protocol driver
compute with) and once more over any `τ` with `+`, `-`, `0` (`Clock`: the floats of `timeit.default_timer()`,
idealised).  As programs they are the same, the tick one *is* `Clock.Timer L ℕ` (`toClock_apply`, `toClock_elapsed`
below), and nothing about the dictionary or the routing is proved twice.  What differs is what can be said of the
readings.  Over a group `T - s = (t - s) + (T - t)` is an identity, so the gap-summing stop-watch `Clock.specElapsed`
is met on every history, ordered or not (`DriverClock`).  In `ℕ` subtraction truncates: the identity holds for
`s ≤ t ≤ T` only, `ℕ` is no instance of the group theorem, and the tick theorem needs a non-decreasing history
(`DriverStopwatch`).  In exchange ticks can be counted: `Spec.specElapsed` is the number of ticks during which the
watch runs, a specification that shares no subtraction with the code.  On non-decreasing histories the two agree
after the cast to `ℤ` (`timer_nat_is_clock` in `DriverClock`, `C15_timer_nat_is_clock`). -/

namespace Scico.Driver
open Scico.Driver.Spec

variable {L : Type} [DecidableEq L]

def Entry.toClock (e : Entry) : Clock.Entry Nat := ⟨e.t0, e.td⟩

/-- a call of the tick model with its clock value read through `φ`: `id` keeps the ticks (`Call.toClock`), the
    cast to ℤ is `castCall` -/
def Call.via {τ : Type} (φ : Nat → τ) (k : Call L) : Clock.Call L τ := ⟨φ k.time, k.op, k.arg⟩

abbrev Call.toClock (k : Call L) : Clock.Call L Nat := k.via id

def toClockStore (s : Store L) : Clock.Store L Nat := s.map (fun p => (p.1, p.2.toClock))

def Timer.toClock (T : Timer L) : Clock.Timer L Nat := ⟨toClockStore T.store, T.dflt, T.all⟩

theorem Entry.toClock_injective : Function.Injective Entry.toClock := by
  intro a b h
  cases a; cases b
  simpa [Entry.toClock] using h

theorem toClock_get (s : Store L) (l : L) :
    Clock.Store.get (toClockStore s) l = (s.get l).map Entry.toClock := by
  induction s with
  | nil => rfl
  | cons p s ih =>
    by_cases h : p.1 = l <;> simp [toClockStore, Clock.Store.get, Store.get, h]
    exact ih

theorem toClock_set (s : Store L) (l : L) (e : Entry) :
    toClockStore (s.set l e) = Clock.Store.set (toClockStore s) l e.toClock := by
  induction s with
  | nil => rfl
  | cons p s ih =>
    by_cases h : p.1 = l <;> simp [toClockStore, Clock.Store.set, Store.set, h]
    exact ih

omit [DecidableEq L] in
theorem toClock_keys (s : Store L) : Clock.Store.keys (toClockStore s) = s.keys := by
  simp [toClockStore, Clock.Store.keys, Store.keys, Function.comp_def]

theorem toClock_startOne (s : Store L) (t : Nat) (l : L) :
    toClockStore (startOne s t l) = Clock.startOne (toClockStore s) t l := by
  unfold startOne Clock.startOne
  rw [toClock_get]
  cases s.get l with
  | none => exact toClock_set _ _ _
  | some e => rw [Option.map_some, toClock_set]; cases h : e.t0 <;> simp [startEntry, Clock.startEntry, Entry.toClock, h]

theorem toClock_updList (f : Entry → Entry) (g : Clock.Entry Nat → Clock.Entry Nat)
    (hfg : ∀ e, (f e).toClock = g e.toClock) (s : Store L) (ls : List L) :
    Clock.updList g (toClockStore s) ls = (toClockStore (updList f s ls).1, (updList f s ls).2) := by
  induction ls generalizing s with
  | nil => rfl
  | cons l ls ih =>
    unfold updList Clock.updList
    rw [toClock_get]
    cases s.get l with
    | none => rfl
    | some e => rw [Option.map_some]; simp only; rw [← hfg, ← toClock_set]; exact ih _

theorem toClock_startLoop (ls : List L) (s : Store L) (t : Nat) :
    toClockStore (ls.foldl (fun s l => startOne s t l) s) =
      ls.foldl (fun s l => Clock.startOne s t l) (toClockStore s) :=
  (List.foldl_hom toClockStore fun s l => (toClock_startOne s t l).symm).symm

theorem toClock_apply (T : Timer L) (k : Call L) :
    T.toClock.apply k.toClock = ((T.apply k).1.toClock, (T.apply k).2) := by
  have htg : ∀ a, T.toClock.targets a = T.targets a := by
    intro a; cases a <;> simp [Clock.Timer.targets, Timer.targets, Timer.toClock, toClock_keys]
  have hsl : ∀ a, T.toClock.startLabels a = T.startLabels a := by intro a; cases a <;> rfl
  obtain ⟨t, op, a⟩ := k
  cases op with
  | start =>
    simp only [Clock.Timer.apply, Timer.apply, Call.toClock, Call.via, id, Clock.Timer.start, Timer.start, hsl]
    simp only [Timer.toClock, toClock_startLoop]
  | stop =>
    simp only [Clock.Timer.apply, Timer.apply, Call.toClock, Call.via, id, Clock.Timer.stop, Timer.stop, htg]
    rw [show (T.toClock).store = toClockStore T.store from rfl,
      toClock_updList (fun e => stopEntry e t) (fun e => Clock.stopEntry e t)
        (fun e => by cases h : e.t0 <;> simp [stopEntry, Clock.stopEntry, Entry.toClock, h])]
    rfl
  | reset =>
    simp only [Clock.Timer.apply, Timer.apply, Call.toClock, Call.via, id, Clock.Timer.reset, Timer.reset, htg]
    rw [show (T.toClock).store = toClockStore T.store from rfl,
      toClock_updList resetEntry Clock.resetEntry (fun _ => rfl)]
    rfl

theorem elapsedEntry_toClock (e : Entry) (total : Bool) (t : Nat) :
    Clock.elapsedEntry e.toClock total t = elapsedEntry e total t := by
  cases h : e.t0 <;> simp [Clock.elapsedEntry, elapsedEntry, Entry.toClock, h]

theorem toClock_elapsed (T : Timer L) (label : Option L) (total : Bool) (now : Nat) :
    T.toClock.elapsed label total now = T.elapsed label total now := by
  cases label with
  | none =>
    simp only [Clock.Timer.elapsed, Timer.elapsed, Timer.elapsedDefault, Timer.toClock, toClock_get]
    cases T.store.get T.dflt <;> simp [elapsedEntry_toClock]
  | some l =>
    simp only [Clock.Timer.elapsed, Timer.elapsed, Timer.toClock, toClock_get, Option.map_map]
    congr 1
    exact funext fun e => elapsedEntry_toClock e total now

theorem toClock_run (T : Timer L) (h : List (Call L)) :
    (T.run h).toClock = T.toClock.run (h.map Call.toClock) := by
  unfold Timer.run Clock.Timer.run
  rw [List.foldl_map]
  exact (List.foldl_hom Timer.toClock fun T k => by rw [toClock_apply]).symm

theorem toClock_init (labels : Arg L) (dflt all : L) :
    (Timer.init labels dflt all).toClock = Clock.Timer.init labels dflt all := by
  have : ∀ ls : List L, toClockStore (ls.foldl (fun s l => s.set l Entry.fresh) []) =
      ls.foldl (fun s l => Clock.Store.set s l Clock.Entry.fresh) [] :=
    fun ls => (List.foldl_hom toClockStore fun s l => (toClock_set s l Entry.fresh).symm).symm
  simp only [Timer.init, Clock.Timer.init, Timer.toClock, this]

/-! the routing specification does not look at the clock values either, whatever they are read through -/

section via
variable {τ : Type} (φ : Nat → τ)

theorem known_via (c : Cfg L) (h : List (Call L)) : Clock.known c (h.map (Call.via φ)) = known c h := by
  funext l
  simp [Clock.known, known, List.any_map, Call.via, Function.comp_def]
  rfl

theorem reaches_via (c : Cfg L) (pre : List (Call L)) (k : Call L) (l : L) :
    Clock.reaches c (pre.map (Call.via φ)) (k.via φ) l = reaches c pre k l := by
  unfold Clock.reaches reaches
  rw [known_via]
  rfl

theorem raisesKey_via (c : Cfg L) (pre : List (Call L)) (k : Call L) :
    Clock.raisesKey c (pre.map (Call.via φ)) (k.via φ) = raisesKey c pre k := by
  unfold Clock.raisesKey raisesKey
  rw [known_via]
  rfl

theorem labelHistoryFrom_via (c : Cfg L) (l : L) (pre h : List (Call L)) :
    Clock.labelHistoryFrom c l (pre.map (Call.via φ)) (h.map (Call.via φ)) =
      (labelHistoryFrom c l pre h).map (fun e => (φ e.1, e.2)) := by
  induction h generalizing pre with
  | nil => rfl
  | cons k rest ih =>
    have := ih (pre ++ [k])
    simp only [List.map_append, List.map_cons, List.map_nil] at this
    simp only [List.map_cons, Clock.labelHistoryFrom, labelHistoryFrom, reaches_via, this, List.map_append]
    by_cases hr : reaches c pre k l = true <;> simp [hr, Call.via]

end via

theorem labelHistoryFrom_toClock (c : Cfg L) (l : L) (pre h : List (Call L)) :
    Clock.labelHistoryFrom c l (pre.map Call.toClock) (h.map Call.toClock) = labelHistoryFrom c l pre h :=
  (labelHistoryFrom_via id c l pre h).trans (List.map_id _)

theorem labelHistory_toClock (c : Cfg L) (h : List (Call L)) (l : L) :
    Clock.labelHistory c (h.map Call.toClock) l = labelHistory c h l :=
  labelHistoryFrom_toClock c l [] h

omit [DecidableEq L] in
theorem monotone_toClock {h : List (Call L)} {now : Nat} (hm : Monotone h now) :
    Clock.Monotone (h.map Call.toClock) now :=
  ⟨List.pairwise_map.mpr hm.1, fun k hk => by
    obtain ⟨k', hk', rfl⟩ := List.mem_map.mp hk
    exact hm.2 k' hk'⟩

/-! What the generic development says of the tick transcription, under the same short names as in
`Scico.Driver.Clock`, on purpose: inside `namespace Scico.Driver.Clock` a bare name is the lemma over any clock,
in `Scico.Driver` the one about ticks. -/

theorem Store.get_set (s : Store L) (l l' : L) (e : Entry) :
    (s.set l e).get l' = if l = l' then some e else s.get l' := by
  apply Option.map_injective Entry.toClock_injective
  rw [← toClock_get, toClock_set, Clock.Store.get_set, toClock_get]
  split <;> rfl

theorem Store.mem_keys_iff (s : Store L) (l : L) : l ∈ s.keys ↔ (s.get l).isSome = true := by
  rw [← toClock_keys, Clock.Store.mem_keys_iff, toClock_get, Option.isSome_map]

theorem Store.set_set (s : Store L) (l : L) (a b : Entry) : (s.set l a).set l b = s.set l b := by
  induction s with
  | nil => simp [Store.set]
  | cons p s ih =>
    obtain ⟨k, x⟩ := p
    by_cases hk : k = l <;> simp [Store.set, hk, ih]

theorem startOne_eq (s : Store L) (t : Nat) (l : L) :
    startOne s t l = s.set l (startEntry ((s.get l).getD Entry.fresh) t) := by
  unfold startOne
  cases s.get l <;> rfl

theorem startOne_get (s : Store L) (t : Nat) (l l' : L) :
    (startOne s t l).get l' =
      if l = l' then some (startEntry ((s.get l).getD Entry.fresh) t) else s.get l' := by
  rw [startOne_eq, Store.get_set]

/-- `start` with an argument that names one label (`None`: the default label; a non-list label) -/
theorem start_single (T : Timer L) (a : Arg L) (l : L) (t : Nat) (h : T.startLabels a = [l]) :
    (T.start a t).store = T.store.set l (startEntry ((T.store.get l).getD Entry.fresh) t) := by
  simp only [Timer.start, h, List.foldl_cons, List.foldl_nil, startOne_eq]

/-- `stop` with an argument that addresses one label: `KeyError` iff the label does not exist -/
theorem stop_single (T : Timer L) (a : Arg L) (l : L) (t : Nat) (h : T.targets a = [l]) :
    T.stop a t = (T.store.get l).elim (T, false)
      (fun e => ({ T with store := T.store.set l (stopEntry e t) }, true)) := by
  simp only [Timer.stop, h, updList]
  cases T.store.get l <;> rfl

theorem represents_init_run (c : Cfg L) (h : List (Call L)) :
    Clock.Represents c (h.map Call.toClock) ((Timer.init c.init c.dflt c.all).run h).toClock := by
  rw [toClock_run, toClock_init]
  exact Clock.represents_init_run c _

theorem run_get (c : Cfg L) (h : List (Call L)) (l : L) :
    (((Timer.init c.init c.dflt c.all).run h).store.get l).map Entry.toClock =
      if known c h l then some (Clock.machFold (labelHistory c h l)) else none := by
  rw [← toClock_get, ← known_via id, ← labelHistory_toClock]
  exact (represents_init_run c h).get l

theorem run_dflt_all (c : Cfg L) (h : List (Call L)) :
    ((Timer.init c.init c.dflt c.all).run h).dflt = c.dflt ∧ ((Timer.init c.init c.dflt c.all).run h).all = c.all :=
  ⟨(represents_init_run c h).dflt, (represents_init_run c h).all⟩

theorem mem_keys_run (c : Cfg L) (h : List (Call L)) (l : L) :
    l ∈ ((Timer.init c.init c.dflt c.all).run h).store.keys ↔ known c h l = true := by
  rw [← toClock_keys, ← known_via id]
  exact Clock.mem_keys_of_represents (represents_init_run c h) l

theorem timer_keyerror (c : Cfg L) (h : List (Call L)) (k : Call L) :
    (((Timer.init c.init c.dflt c.all).run h).apply k).2 = !(raisesKey c h k) := by
  have := (Clock.represents_apply (represents_init_run c h) k.toClock).2
  rwa [toClock_apply, raisesKey_via] at this

theorem labelHistoryFrom_append (c : Cfg L) (l : L) (p a b : List (Call L)) :
    labelHistoryFrom c l p (a ++ b) = labelHistoryFrom c l p a ++ labelHistoryFrom c l (p ++ a) b := by
  simp only [← labelHistoryFrom_toClock, List.map_append, Clock.labelHistoryFrom_append]

theorem labelHistoryFrom_times (c : Cfg L) (l : L) (p h : List (Call L)) :
    ∀ e ∈ labelHistoryFrom c l p h, ∃ k ∈ h, k.time = e.1 := by
  intro e he
  rw [← labelHistoryFrom_toClock] at he
  obtain ⟨k', hk', ht⟩ := Clock.labelHistoryFrom_times c l _ _ e he
  obtain ⟨k, hk, rfl⟩ := List.mem_map.mp hk'
  exact ⟨k, hk, ht⟩

theorem labelHistory_sorted (c : Cfg L) {h : List (Call L)} {now : Nat} (hm : Monotone h now) (l : L) :
    (labelHistory c h l).Pairwise (fun a b => a.1 ≤ b.1) ∧ ∀ ev ∈ labelHistory c h l, ev.1 ≤ now :=
  labelHistory_toClock c h l ▸ Clock.labelHistory_sorted c (monotone_toClock hm) l

end Scico.Driver
