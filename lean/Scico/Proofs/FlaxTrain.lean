/-
  The trainer (`Scico.Model.Flax` §5–6): step numbering and checkpoint schedule of one `train()`, sessions
  (constructor + `train()`), chains of sessions on one directory, and the loop run one iteration at a time.
  §5 (`trainLoop`, `trainRun`) and §6 (`sessionLoop`, `trainSession`, `trainChain`) of the model transcribe the SAME loop,
  §5 the coarser way (steps and saves only); their lemmas come in pairs (`trainLoop_steps`/`loopEvs_step`,
  `trainSaves_le`/`loopEvs_ckpt_le`, `trainRun_spec`/`trainSession_resuming` + `session_dir`).
-/
import Scico.Proofs.FlaxCheckpoint

namespace Scico.Flax

theorem range'_append_sub (s m n : Nat) (h1 : s ≤ m) (h2 : m ≤ n) :
    List.range' s (m - s) ++ List.range' m (n - m) = List.range' s (n - s) := by
  rw [← Nat.sub_add_sub_cancel h2 h1, Nat.add_comm, ← List.range'_append_1, Nat.add_sub_cancel' h1]

/-- the state saved after an executed step does not exceed the final `max offset N` -/
theorem succ_le_max_of_mem {offset N step : Nat} (h : step ∈ List.range' offset (N - offset)) :
    step + 1 ≤ max offset N := by
  have := List.mem_range'_1.mp h
  omega

theorem trainLoop_steps (offset numSteps spc : Nat) :
    (trainLoop offset numSteps spc).map (·.1) = List.range' offset (numSteps - offset) := by
  simp [trainLoop, Function.comp_def]

/-- the checkpoint decision is a function of the step number only: a resumed run's loop is the tail
    of the uninterrupted run's loop -/
theorem trainLoop_split (s numSteps spc : Nat) (hs : s ≤ numSteps) :
    trainLoop 0 numSteps spc = (trainLoop 0 numSteps spc).take s ++ trainLoop s numSteps spc := by
  unfold trainLoop
  rw [← List.map_take, ← List.map_append]
  congr 1
  rw [List.take_range'_of_length_ge (by omega)]
  exact (range'_append_sub 0 s numSteps (Nat.zero_le _) hs).symm

theorem trainSaves_le (offset numSteps spc : Nat) :
    ∀ x ∈ ((trainLoop offset numSteps spc).filter (·.2)).map (·.1 + 1), x ≤ max offset numSteps := by
  intro x hx
  simp only [trainLoop, List.mem_map, List.mem_filter] at hx
  obtain ⟨⟨a, fl⟩, ⟨⟨y, hy, hye⟩, _⟩, rfl⟩ := hx
  cases hye
  exact succ_le_max_of_mem hy

theorem trainRun_spec (k : Nat) (hk : 1 ≤ k) (d : Dir Nat) (hc : Coh d) (N spc : Nat) (hs : stepOf (latestD d) ≤ N) :
    ∃ d', trainRun k d N spc = .ok (List.range' (stepOf (latestD d)) (N - stepOf (latestD d)), d') ∧
      Coh d' ∧ latestD d' = some N := by
  refine ⟨saveAll k d ((trainSaves (stepOf (latestD d)) N spc).map (fun s => (s, s))), ?_, coh_saveAll k _ d hc, ?_⟩
  · rw [trainRun, restore_coh d hc]
    simp only [trainLoop_steps]
  · have hle := trainSaves_le (stepOf (latestD d)) N spc
    rw [Nat.max_eq_right hs] at hle
    rw [trainSaves, Nat.max_eq_right hs]
    exact latestD_saveAll_last k hk N _ hle d hs

theorem count_periodic (L a n : Nat) :
    ((List.range' a n).filter (fun s => (s + 1) % L == 0)).length = (a + n) / L - a / L := by
  induction n with
  | zero => simp
  | succ n ih =>
    rw [List.range'_1_concat, List.filter_append, List.length_append, ih, ← Nat.add_assoc, Nat.succ_div,
      Nat.sub_add_comm (Nat.div_le_div_right (Nat.le_add_right a n))]
    congr 1
    by_cases hm : (a + n + 1) % L = 0 <;> simp [hm, Nat.dvd_iff_mod_eq_zero]

/-- the event `sessionLoop` records for `step` -/
def evOf (c : TrainCfg) (offset step : Nat) : StepEv :=
  { step := step, batch := step - offset, logged := (step + 1) % c.logEvery == 0, epoch := step / c.spe,
    ckpt := (step + 1) % c.spc == 0 || step + 1 == c.numSteps }

def loopEvs (c : TrainCfg) (offset : Nat) : List StepEv :=
  (List.range' offset (c.numSteps - offset)).map (evOf c offset)

theorem sessionLoop_eq (c : TrainCfg) (offset : Nat) (h : (1 ≤ c.logEvery ∧ 1 ≤ c.spc) ∨ c.numSteps ≤ offset) :
    sessionLoop c offset = .ok (loopEvs c offset) := by
  have hcond : ¬ (offset < c.numSteps ∧ (c.logEvery = 0 ∨ c.spc = 0)) := by omega
  rw [sessionLoop, if_neg hcond]
  rfl

theorem loopEvs_step (c : TrainCfg) (offset : Nat) :
    (loopEvs c offset).map (·.step) = List.range' offset (c.numSteps - offset) := by
  rw [loopEvs, List.map_map]
  exact List.map_id _

theorem loopEvs_length (c : TrainCfg) (offset : Nat) : (loopEvs c offset).length = c.numSteps - offset := by
  rw [loopEvs, List.length_map, List.length_range']

/-- a later `train()` on the same iterator draws the batches after the `m` already consumed -/
theorem loopEvs_batch (c : TrainCfg) (offset m : Nat) :
    ((loopEvs c offset).map (fun e => { e with batch := e.batch + m })).map (·.batch) =
      List.range' m (c.numSteps - offset) := by
  rw [loopEvs, List.map_map, List.map_map]
  refine List.ext_getElem (by simp) (fun i h1 h2 => ?_)
  simp [evOf]
  omega

theorem loopEvs_logged (c : TrainCfg) (offset : Nat) :
    ((loopEvs c offset).filter (·.logged)).length = max offset c.numSteps / c.logEvery - offset / c.logEvery := by
  have hmax : offset + (c.numSteps - offset) = max offset c.numSteps := by omega
  rw [loopEvs, List.filter_map, List.length_map, ← hmax, ← count_periodic]
  rfl

theorem loopEvs_ckpt_le (c : TrainCfg) (offset : Nat) :
    ∀ x ∈ ((loopEvs c offset).filter (·.ckpt)).map (·.step + 1), x ≤ max offset c.numSteps := by
  intro x hx
  simp only [loopEvs, List.mem_map, List.mem_filter] at hx
  obtain ⟨ev, ⟨⟨y, hy, rfl⟩, _⟩, rfl⟩ := hx
  exact succ_le_max_of_mem hy

/-- what a `train()` returns whose loop, started at `offset` against the directory `d`, recorded `evs`:
    the common tail of `trainSession` and `trainAgain` -/
def outcome (k : Nat) (c : TrainCfg) (offset : Nat) (evs : List StepEv) (d : Dir Nat) : SessionOut :=
  { offset := offset
    events := evs
    evalBatches := if c.logflag then c.stepsPerEval * (evs.filter (·.logged)).length else 0
    dir := if c.checkpointing then
        saveAll k d (List.map (fun s => (s, s)) ((evs.filter (·.ckpt)).map (·.step + 1) ++ [max offset c.numSteps]))
      else d }

theorem trainSession_eq (k : Nat) (c : TrainCfg) (d : Dir Nat) (offset : Nat) (evs : List StepEv)
    (hb : c.batchSize ≠ 0) (hoff : sessionOffset c d = .ok offset) (hloop : sessionLoop c offset = .ok evs) :
    trainSession k c d = .ok (outcome k c offset evs d) := by
  simp only [trainSession, hb, if_false, hoff, hloop]
  rfl

theorem trainAgain_eq (k : Nat) (c : TrainCfg) (o : SessionOut) (evs : List StepEv)
    (hloop : sessionLoop c o.offset = .ok evs) :
    trainAgain k c o =
      .ok (outcome k c o.offset (evs.map (fun e => { e with batch := e.batch + o.events.length })) o.dir) := by
  simp only [trainAgain, hloop]
  rfl

/-- a configuration for which no `ZeroDivisionError` can occur and the constructor restores -/
structure TrainCfg.Resuming (c : TrainCfg) : Prop where
  bs : 0 < c.batchSize
  ck : c.checkpointing = true
  nv : c.hasVars0 = false
  lg : 1 ≤ c.logEvery
  sp : 1 ≤ c.spc

theorem trainSession_resuming (k : Nat) (c : TrainCfg) (hc : c.Resuming) (d : Dir Nat) (hd : Coh d) :
    trainSession k c d = .ok (outcome k c (stepOf (latestD d)) (loopEvs c (stepOf (latestD d))) d) := by
  refine trainSession_eq k c d _ _ (Nat.pos_iff_ne_zero.mp hc.bs) ?_ (sessionLoop_eq c _ (Or.inl ⟨hc.lg, hc.sp⟩))
  simp only [sessionOffset, hc.ck, hc.nv, Bool.not_false, Bool.and_self, if_true]
  exact restore_coh d hd

theorem session_dir (k : Nat) (hk : 1 ≤ k) (c : TrainCfg) (hc : c.Resuming) (d : Dir Nat) (hd : Coh d) :
    let o := outcome k c (stepOf (latestD d)) (loopEvs c (stepOf (latestD d))) d
    Coh o.dir ∧ latestD o.dir = some (max (stepOf (latestD d)) c.numSteps) := by
  simp only [outcome, hc.ck, if_true]
  exact ⟨coh_saveAll k _ d hd, latestD_saveAll_last k hk _ _ (loopEvs_ckpt_le c _) d (Nat.le_max_left _ _)⟩

theorem trainAgain_spec (k : Nat) (hk : 1 ≤ k) (c : TrainCfg) (hc : c.Resuming) (d : Dir Nat) (hd : Coh d) :
    let s := stepOf (latestD d)
    let o := outcome k c s (loopEvs c s) d
    ∃ o', trainAgain k c o = .ok o' ∧
      o'.events = o.events.map (fun e => { e with batch := e.batch + o.events.length }) ∧ o'.dir = o.dir := by
  intro s o
  refine ⟨_, trainAgain_eq k c o _ (sessionLoop_eq c _ (Or.inl ⟨hc.lg, hc.sp⟩)), rfl, ?_⟩
  obtain ⟨_, hlat⟩ := session_dir k hk c hc d hd
  simp only [outcome, hc.ck, if_true]
  refine saveAll_skipped k _ _ hlat _ (fun p hp => ?_)
  obtain ⟨x, hx, rfl⟩ := List.mem_map.mp hp
  show x ≤ max s c.numSteps
  rcases List.mem_append.mp hx with hx | hx
  · rw [List.filter_map, List.map_map] at hx
    exact loopEvs_ckpt_le c s x hx
  · exact Nat.le_of_eq (List.mem_singleton.mp hx)

theorem sessionRows_step {κ : Type} (K : KeyOps κ) (key : κ) (n b : Nat) (evs : List StepEv) :
    (sessionRows K key n b evs).map (·.1) = evs.map (·.step) := by
  rw [sessionRows, List.map_map]; rfl

theorem sessionRows_rows {κ : Type} (K : KeyOps κ) (key : κ) (n b : Nat) (evs : List StepEv) :
    (sessionRows K key n b evs).map (·.2) = (evs.map (·.batch)).map (specBatch K key n b true) := by
  rw [sessionRows, List.map_map, List.map_map]; rfl

theorem le_foldl_max (xs : List Nat) (m : Nat) : m ≤ xs.foldl max m := by
  induction xs generalizing m with
  | nil => exact Nat.le_refl _
  | cons x xs ih => exact Nat.le_trans (Nat.le_max_left _ _) (ih _)

theorem specChain_flatten (ns : List Nat) : ∀ s, (specChain s ns).flatten = List.range' s (ns.foldl max s - s) := by
  induction ns with
  | nil => intro s; simp [specChain]
  | cons n ns ih =>
    intro s
    simp only [specChain, List.flatten_cons, List.foldl_cons, ih]
    have hM : max s n ≤ ns.foldl max (max s n) := le_foldl_max ns _
    rcases Nat.le_total n s with hns | hsn
    · rw [Nat.max_eq_left hns, Nat.sub_eq_zero_of_le hns]; simp
    · rw [Nat.max_eq_right hsn] at hM ⊢
      exact range'_append_sub s n _ hsn hM

theorem trainChain_spec (k : Nat) (hk : 1 ≤ k) (cs : List TrainCfg) (hcs : ∀ c ∈ cs, c.Resuming) :
    ∀ d : Dir Nat, Coh d →
      ∃ d', trainChain k d cs = .ok (specChain (stepOf (latestD d)) (cs.map (·.numSteps)), d') ∧ Coh d' ∧
        stepOf (latestD d') = (cs.map (·.numSteps)).foldl max (stepOf (latestD d)) := by
  induction cs with
  | nil => intro d hd; exact ⟨d, rfl, hd, rfl⟩
  | cons c cs ih =>
    intro d hd
    have ho := trainSession_resuming k c (hcs c List.mem_cons_self) d hd
    obtain ⟨hcoh, hlat⟩ := session_dir k hk c (hcs c List.mem_cons_self) d hd
    obtain ⟨d', hch, hcoh', hlat'⟩ := ih (fun c' hc' => hcs c' (List.mem_cons_of_mem _ hc')) _ hcoh
    rw [hlat] at hch hlat'
    refine ⟨d', ?_, hcoh', hlat'⟩
    simp only [trainChain, ho, hch]
    show Except.ok ((loopEvs c (stepOf (latestD d))).map (·.step) :: _, d') = _
    rw [loopEvs_step]
    rfl

theorem succ_mod_cases (a L : Nat) (hL : 0 < L) :
    ((a + 1) % L = 0 ∧ a % L = L - 1) ∨ ((a + 1) % L ≠ 0 ∧ (a + 1) % L = a % L + 1) := by
  have hr := Nat.mod_lt a hL
  rw [← Nat.mod_add_mod a L 1]
  by_cases h : a % L + 1 = L
  · left; rw [h, Nat.mod_self]; exact ⟨rfl, by omega⟩
  · right; rw [Nat.mod_eq_of_lt (by omega)]; exact ⟨Nat.succ_ne_zero _, rfl⟩

theorem loopStep_eq (c : TrainCfg) (offset m : Nat) (E : List StepEv) (W : List (Nat × Nat)) (step : Nat) :
    loopStep c offset ⟨m, E, W⟩ step =
      if (step + 1) % c.logEvery = 0 then ⟨0, E ++ [evOf c offset step], W ++ [(step, m + 1)]⟩
      else ⟨m + 1, E ++ [evOf c offset step], W⟩ := by
  by_cases h : (step + 1) % c.logEvery = 0 <;> simp [loopStep, evOf, h]

/-- how `len(train_metrics)` moves in iteration `n` of a loop started at `a`: handed over and emptied at a
    logged step, one longer otherwise -/
theorem metrics_step (L a n : Nat) (hL : 0 < L) :
    if (a + n + 1) % L = 0 then
      min n ((a + n) % L) + 1 = min L (a + n + 1 - a) ∧ 0 = min (n + 1) ((a + (n + 1)) % L)
    else min n ((a + n) % L) + 1 = min (n + 1) ((a + (n + 1)) % L) := by
  rcases succ_mod_cases (a + n) L hL with ⟨h0, hm⟩ | ⟨hne, hm⟩
  · rw [if_pos h0]
    show min n ((a + n) % L) + 1 = min L (a + (n + 1) - a) ∧ 0 = min (n + 1) ((a + n + 1) % L)
    rw [hm, h0, Nat.add_sub_cancel_left, Nat.min_zero]
    exact ⟨by rw [← Nat.add_min_add_right, Nat.sub_add_cancel hL, Nat.min_comm], rfl⟩
  · rw [if_neg hne]
    show min n ((a + n) % L) + 1 = min (n + 1) ((a + n + 1) % L)
    rw [hm, Nat.succ_min_succ]

/-- the loop state after `n` iterations in closed form: `len(train_metrics) = min n ((offset + n) % logEvery)` (one longer
    per iteration, emptied at a logged step: `metrics_step`), the events so far, and the window handed over at each
    logged step -/
theorem loopRunN_spec (c : TrainCfg) (hL : 1 ≤ c.logEvery) (offset : Nat) : ∀ n,
    loopRunN c offset n =
      ⟨min n ((offset + n) % c.logEvery), (List.range' offset n).map (evOf c offset),
       ((List.range' offset n).filter (fun s => (s + 1) % c.logEvery == 0)).map
         (fun s => (s, min c.logEvery (s + 1 - offset)))⟩ := by
  intro n
  induction n with
  | zero => simp [loopRunN]
  | succ n ih =>
    have hrun : loopRunN c offset (n + 1) = loopStep c offset (loopRunN c offset n) (offset + n) := by
      simp only [loopRunN, List.range'_1_concat, List.foldl_append, List.foldl_cons, List.foldl_nil]
    have hm := metrics_step c.logEvery offset n hL
    rw [hrun, ih, loopStep_eq, List.range'_1_concat, List.map_append, List.filter_append, List.map_append]
    by_cases h : (offset + n + 1) % c.logEvery = 0
    · rw [if_pos h] at hm ⊢
      rw [hm.1, ← hm.2]
      simp [h]
    · rw [if_neg h] at hm ⊢
      rw [hm]
      simp [h]

end Scico.Flax
