/-
  3-D X-ray projector: the contract on `ceil` for the earlier form of the footprint split, the four-pixel scatter as the
  documented area-fraction matrix, mass conservation.
-/
import Scico.Proofs.LinOpsXRay

namespace Scico.LinOps
open Finset Scico.Index

section X3
variable {K : Type} [Field K] [LinearOrder K] [IsStrictOrderedRing K]

def CeilContract (cl : K → Int) : Prop := ∀ z : K, ((cl z : Int) : K) - 1 < z ∧ z ≤ ((cl z : Int) : K)

namespace CeilContract
variable {cl : K → Int} (h : CeilContract cl)
include h

theorem lt_of_lt {z : K} {m : Int} (hz : (m : K) < z) : m < cl z := Int.cast_lt.mp (hz.trans_le (h z).2)

theorem le_of_le {z : K} {m : Int} (hz : z ≤ (m : K)) : cl z ≤ m :=
  Int.sub_one_lt_iff.mp (Int.cast_lt.mp (by push_cast; exact (h z).1.trans_le hz))

end CeilContract

end X3

section Scatter3
variable {K : Type} [Field K]

theorem onDet_iff (d0 d1 : Nat) (hd1 : 0 < d1) (a b : Int) (q : Nat) (hq : q < d0 * d1) :
    onDet d0 d1 a b q ↔ a = ((q / d1 : Nat) : Int) ∧ b = ((q % d1 : Nat) : Int) := by
  unfold onDet
  have hdiv : q / d1 < d0 := div_lt_of_lt_mul hq
  have hmod : q % d1 < d1 := Nat.mod_lt _ hd1
  have hq' := Nat.div_add_mod' q d1
  constructor
  · rintro ⟨h0, h1, h2, h3, h4⟩
    obtain ⟨a', rfl⟩ := Int.eq_ofNat_of_zero_le h0
    obtain ⟨b', rfl⟩ := Int.eq_ofNat_of_zero_le h2
    have h4' : a' * d1 + b' = q := by exact_mod_cast h4
    have hb' : b' < d1 := by exact_mod_cast h3
    rw [← h4', digit_div a' hb', digit_mod a' hb']; exact ⟨rfl, rfl⟩
  · rintro ⟨rfl, rfl⟩
    refine ⟨by positivity, by exact_mod_cast hdiv, by positivity, by exact_mod_cast hmod, ?_⟩
    exact_mod_cast hq'

theorem ite_and_ind {p q : Prop} [Decidable p] [Decidable q] (v : K) :
    (if p ∧ q then v else 0) = (if p then (1 : K) else 0) * ((if q then (1 : K) else 0) * v) := by
  by_cases hp : p <;> by_cases hq : q <;> simp [hp, hq]

theorem xray3_eq_mulVec (nv : Nat) (I0 I1 : Nat → Int) (t0 t1 : V K) (w : K) (x : V K) (d0 d1 : Nat)
    (q : Nat) (hq : q < d0 * d1) :
    xray3Project nv I0 I1 t0 t1 w x d0 d1 q = mulVec (xray3Matrix I0 I1 t0 t1 w d1) nv x q := by
  have hd1 : 0 < d1 := Nat.pos_of_lt_mul_left hq
  unfold xray3Project mulVec xray3Matrix binShare
  rw [if_pos hq]
  refine sumTo_congr (fun p _ => ?_)
  simp only [onDet_iff d0 d1 hd1 _ _ q hq, ite_and_ind]
  rw [← boole_mul _ (t0 p / w), ← boole_mul _ ((w - t0 p) / w), ← boole_mul _ (t1 p / w), ← boole_mul _ ((w - t1 p) / w)]
  ring

/-- mass conservation of a 3-D view under the covering hypothesis in its exact form: every voxel has its first pixel on the detector
    and, on each axis, the next pixel is on the detector or receives nothing (`t = w`) -/
theorem xray3_mass (nv : Nat) (I0 I1 : Nat → Int) (t0 t1 : V K) (w : K) (hw : w ≠ 0) (x : V K) (d0 d1 : Nat)
    (h0 : ∀ p, p < nv → 0 ≤ I0 p ∧ I0 p < d0 ∧ (I0 p + 1 < d0 ∨ t0 p = w))
    (h1 : ∀ p, p < nv → 0 ≤ I1 p ∧ I1 p < d1 ∧ (I1 p + 1 < d1 ∨ t1 p = w)) :
    sumTo (d0 * d1) (xray3Project nv I0 I1 t0 t1 w x d0 d1) = sumTo nv x := by
  rw [sumTo_congr fun q hq => xray3_eq_mulVec nv I0 I1 t0 t1 w x d0 d1 q hq]
  refine sumTo_mulVec_of_colsum _ _ _ _ fun p hp => ?_
  obtain ⟨a0, a1, a2⟩ := h0 p hp
  obtain ⟨b0, b1, b2⟩ := h1 p hp
  have e : ∀ t : K, t / w + (w - t) / w = 1 := fun t => by rw [← add_div, add_sub_cancel, div_self hw]
  -- a column of the product matrix sums to the product of the sums of its two 1-d factors
  rw [sum_range_mul]
  simp only [xray3Matrix]
  rw [sum_congr rfl fun r _ => sum_congr rfl fun c hc => by
    rw [digit_div r (mem_range.mp hc), digit_mod r (mem_range.mp hc)]]
  rw [← sum_mul_sum, binShare_sum d0 (I0 p) _ _ a0 a1 (a2.imp id fun h => by rw [h, sub_self, zero_div]),
    binShare_sum d1 (I1 p) _ _ b0 b1 (b2.imp id fun h => by rw [h, sub_self, zero_div]), e, e, one_mul]

end Scatter3

end Scico.LinOps
