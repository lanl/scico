/-
  Assembly of the ADMM x-update systems (C10): what `LinearSubproblemSolver` and its subclasses in `_admmaux.py` hand to
  their back ends *is* the documented system `(2α AᴴWA + Σ ρ_i C_iᴴC_i) x = 2α AᴴWy + Σ ρ_i C_iᴴ(z_i − u_i)`; the rescalings
  of the two block-circulant solvers (`scaled_system_iff`; `reweighted_system_iff` for the weight `2ωρ₁` of G0, recorded
  finding `g0-scale`; `stale_scaled_iff` for the system `set_scale` leaves behind after construction, recorded finding
  `stale-scale-after-init`); the objective in the docstring of G0 as an x-step objective; the entries of the `D` that
  `MatrixSubproblemSolver` builds; and the documented operator as a linear map (`lhsLin`), for the end-to-end statement with `cg`.
-/
import Scico.Proofs.LinSolveADMM
import Scico.Proofs.Sums
import Mathlib.Analysis.InnerProductSpace.Basic
import Mathlib.Tactic.Ring

set_option linter.unusedSectionVars false

namespace Scico.LinSolve

section G0Doc
variable {𝕜 V Y : Type} [RCLike 𝕜] [NormedAddCommGroup V] [InnerProductSpace 𝕜 V]
  [NormedAddCommGroup Y] [InnerProductSpace 𝕜 Y]
  {ι : Type} [Fintype ι] {U : ι → Type} [∀ i, NormedAddCommGroup (U i)] [∀ i, InnerProductSpace 𝕜 (U i)]

/-- the objective written in the docstring of `G0BlockCircularConvolveSolver` -/
noncomputable def g0DocObj (C1 : V →ₗ[𝕜] Y) (C : ∀ i, V →ₗ[𝕜] U i) (ω ρ1 : ℝ) (ρ : ι → ℝ) (v1 : Y) (v : ∀ i, U i) (x : V) : ℝ :=
  ρ1 * ω * ‖C1 x - v1‖ ^ 2 + ∑ i, ρ i / 2 * ‖v i - C i x‖ ^ 2

theorem g0DocObj_eq (C1 : V →ₗ[𝕜] Y) (C : ∀ i, V →ₗ[𝕜] U i) (ω ρ1 : ℝ) (ρ : ι → ℝ) (v1 : Y) (v : ∀ i, U i) (x : V) :
    g0DocObj C1 C ω ρ1 ρ v1 v x = xstepObj C1 LinearMap.id C (ω * ρ1) ρ v1 v x := by
  unfold g0DocObj xstepObj
  congr 1
  rw [LinearMap.id_apply, inner_self_eq_norm_sq (𝕜 := 𝕜)]
  ring

end G0Doc

section Assembly
variable {S M U Y' : Type} [Field S] [AddCommGroup M] [Module S M] [AddCommGroup U]

theorem reduceAdd_fun {α β : Type} [AddCommMonoid β] {gs : List (α → β)} (hne : gs ≠ []) :
    reduceAdd (β := α → β) (fun a b => fun x => a x + b x) gs = some fun x => (gs.map fun h => h x).sum := by
  cases gs with
  | nil => exact absurd rfl hne
  | cons g gs =>
    simp only [reduceAdd, Option.some.injEq]
    funext x
    exact foldl_hom_sum (fun f : α → β => f x) (fun a b x => a x + b x) (fun f => f x) (fun _ _ => rfl) gs g

theorem linearLhs_spec (f : Option (SqL2 S M Y')) (terms : List (Term S M U)) (hne : terms ≠ []) :
    ∃ lhs, linearLhs f terms = some lhs ∧ ∀ x, lhs x = lhsSpec f terms x := by
  unfold linearLhs
  rw [reduceAdd_fun (mt List.map_eq_nil_iff.1 hne)]
  cases f with
  | none => exact ⟨_, rfl, fun x => by simp [lhsSpec, LinOp.gram, List.map_map, Function.comp_def]⟩
  | some f => exact ⟨_, rfl, fun x => by simp [lhsSpec, LinOp.gram, SqL2.hessian, two_eq, List.map_map, Function.comp_def]⟩

theorem linearLhs_nil (f : Option (SqL2 S M Y')) : linearLhs (U := U) f [] = none := rfl

theorem linearRhs_spec (f : Option (SqL2 S M Y')) (terms : List (Term S M U)) :
    linearRhs 0 f terms = rhsSpec f terms := by
  unfold linearRhs rhsSpec
  rw [foldl_add_sum]
  cases f with
  | none => rfl
  | some f => simp [two_eq]

theorem scaled_system_iff {c : S} (hc : c ≠ 0) (a g r : M) : a + (1 / c) • g = (1 / c) • r ↔ c • a + g = r := by
  rw [one_div, eq_inv_smul_iff₀ hc, smul_add, smul_inv_smul₀ hc]

theorem stale_scaled_iff {c0 c1 : S} (h0 : c0 ≠ 0) (h1 : c1 ≠ 0) (a g r : M) (hsys : a + (1 / c0) • g = (1 / c1) • r) :
    g + c1 • a = r ↔ (c1 - c0) • g = 0 := by
  rw [one_div, one_div, eq_inv_smul_iff₀ h1, smul_add, smul_smul] at hsys
  have e : (c1 * c0⁻¹) • g - g = c0⁻¹ • ((c1 - c0) • g) := by
    rw [smul_smul, mul_sub, inv_mul_cancel₀ h0, sub_smul, one_smul, mul_comm]
  rw [← hsys, add_comm, add_right_inj, eq_comm, ← sub_eq_zero, e, smul_eq_zero_iff_right (inv_ne_zero h0)]

theorem reweighted_system_iff {c ρ : S} (a b g r : M) (hsys : c • a + g = c • b + r) :
    ρ • a + g = ρ • b + r ↔ (c - ρ) • (a - b) = 0 := by
  have e : (c - ρ) • (a - b) = ((c • a + g) - (c • b + r)) - ((ρ • a + g) - (ρ • b + r)) := by
    rw [sub_smul, smul_sub, smul_sub]; abel
  rw [e, hsys, sub_self, zero_sub, neg_eq_zero, sub_eq_zero]

theorem g0RhsRaw_spec (omega : S) (t1 : Term S M U) (rest : List (Term S M U)) :
    g0RhsRaw 0 omega (t1 :: rest) =
      (2 * omega * t1.rho) • t1.C.adj (t1.z - t1.u) + (rest.map fun t => t.rho • t.C.adj (t.z - t.u)).sum := by
  unfold g0RhsRaw
  simp only [List.drop_succ_cons, List.drop_zero, List.zip_cons_cons, List.foldl_cons, zero_add, two_eq]
  rw [foldl_add_sum, List.zip_eq_zipWith, List.zipWith_map_left, List.zipWith_self, List.map_map]
  simp [Function.comp_def]

end Assembly

section MatrixSub
variable {K : Type} [Field K] [HasConj K] [HasIsZero K] {m n : Nat}

theorem DMat.smul_entry (c : K) (D : DMat K n) (i j : Fin n) : (D.smul c).entry i j = c * D.entry i j := by
  cases D with
  | diag d => simp only [DMat.smul, DMat.entry]; split <;> simp
  | full D => rfl

theorem DMat.add_entry (a b : DMat K n) (i j : Fin n) : (a.add b).entry i j = a.entry i j + b.entry i j := by
  cases a <;> cases b <;> simp only [DMat.add, DMat.entry]
  split <;> simp

/-- entries of `C.gram_op`: `Cᴴ C` -/
theorem COp.gramD_entry (C : COp K n) (i j : Fin n) :
    C.gramD.entry i j = match C with
      | .diag d => if i = j then conj (d i) * d i else 0
      | .mat _ M => ∑ k, conj (M k i) * M k j := by
  cases C with
  | diag d => rfl
  | mat p M => simp [COp.gramD, DMat.entry, Vec.sum_eq]

theorem DMat.isDiag_add (a b : DMat K n) : (a.add b).isDiag = (a.isDiag && b.isDiag) := by
  cases a <;> cases b <;> rfl

theorem DMat.isDiag_smul (c : K) (D : DMat K n) : (D.smul c).isDiag = D.isDiag := by
  cases D <;> rfl

theorem COp.isDiag_gramD (C : COp K n) : C.gramD.isDiag = true ↔ ∃ d, C = .diag d := by
  cases C with
  | diag d => exact ⟨fun _ => ⟨d, rfl⟩, fun _ => rfl⟩
  | mat p M => exact ⟨fun h => absurd h Bool.false_ne_true, fun ⟨_, h⟩ => nomatch h⟩

/-- a sum of Diagonal operators is a Diagonal; one MatrixOperator makes it a MatrixOperator -/
theorem DMat.isDiag_foldl_add (l : List (DMat K n)) (g : DMat K n) :
    (l.foldl DMat.add g).isDiag = true ↔ (g.isDiag = true ∧ ∀ D ∈ l, D.isDiag = true) := by
  induction l generalizing g with
  | nil => simp
  | cons h hs ih => rw [List.foldl_cons, ih, DMat.isDiag_add, Bool.and_eq_true, List.forall_mem_cons, and_assoc]

end MatrixSub

section LinearE2E
variable {𝕜 V U Y : Type} [RCLike 𝕜] [NormedAddCommGroup V] [InnerProductSpace 𝕜 V] [AddCommGroup U] [Module 𝕜 U]
  [AddCommGroup Y] [Module 𝕜 Y]

/-- a splitting term whose operator and adjoint are linear maps -/
structure LTerm (𝕜 V U : Type) [RCLike 𝕜] [NormedAddCommGroup V] [InnerProductSpace 𝕜 V] [AddCommGroup U] [Module 𝕜 U] where
  rho : 𝕜
  C : V →ₗ[𝕜] U
  CH : U →ₗ[𝕜] V
  z : U
  u : U

def LTerm.toTerm (t : LTerm 𝕜 V U) : Term 𝕜 V U := ⟨t.rho, ⟨⇑t.C, ⇑t.CH⟩, t.z, t.u⟩

/-- a weighted squared-l2 loss whose operator, adjoint and weighting are linear maps -/
structure LSqL2 (𝕜 V Y : Type) [RCLike 𝕜] [NormedAddCommGroup V] [InnerProductSpace 𝕜 V] [AddCommGroup Y] [Module 𝕜 Y] where
  scale : 𝕜
  A : V →ₗ[𝕜] Y
  AH : Y →ₗ[𝕜] V
  W : Y →ₗ[𝕜] Y
  y : Y

def LSqL2.toSqL2 (f : LSqL2 𝕜 V Y) : SqL2 𝕜 V Y := ⟨f.scale, ⟨⇑f.A, ⇑f.AH⟩, ⇑f.W, f.y⟩

/-- the documented left-hand operator as a linear map -/
noncomputable def lhsLin (f : Option (LSqL2 𝕜 V Y)) (terms : List (LTerm 𝕜 V U)) : V →ₗ[𝕜] V :=
  (terms.map fun t => t.rho • (t.CH.comp t.C)).sum +
    (match f with | none => 0 | some f => (2 * f.scale) • (f.AH.comp (f.W.comp f.A)))

theorem list_sum_apply (l : List (V →ₗ[𝕜] V)) (x : V) : (l.sum) x = (l.map fun g => g x).sum := by
  induction l with
  | nil => simp
  | cons g gs ih => simp [ih]

theorem lhsLin_apply (f : Option (LSqL2 𝕜 V Y)) (terms : List (LTerm 𝕜 V U)) (x : V) :
    lhsLin f terms x = lhsSpec (f.map LSqL2.toSqL2) (terms.map LTerm.toTerm) x := by
  unfold lhsLin lhsSpec
  rw [LinearMap.add_apply, list_sum_apply]
  congr 1
  · simp [List.map_map, Function.comp_def, LTerm.toTerm]
  · cases f with
    | none => rfl
    | some f => simp [LSqL2.toSqL2]

end LinearE2E

end Scico.LinSolve
