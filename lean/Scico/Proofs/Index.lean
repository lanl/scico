/-
  Row-major index arithmetic, independent of any model.  The size of a shape is `List.prod`; a flat position is a number
  written with one digit per axis, the radix of a digit being the size of the axes after it (`digit_*`: one digit;
  `ravel`/`unravel`: all of them), and around any axis it splits as (outer, k, inner) (`ravel_axis`, `decomp_idx`).
  A concatenation of blocks is indexed by (block, offset) (`getElem?_flatten_offset`).
  The models define their own `prodL`/`size`/`ravel`/`unravel`; each engine bridges to the functions here.
-/
import Mathlib.Algebra.BigOperators.Group.List.Basic
import Mathlib.Tactic.Ring

namespace Scico.Index

theorem digit_lt {a r R A : Nat} (ha : a < A) (hr : r < R) : a * R + r < A * R :=
  calc a * R + r < (a + 1) * R := by rw [Nat.add_mul, Nat.one_mul]; omega
    _ ≤ A * R := Nat.mul_le_mul_right R ha

theorem digit_div {r R : Nat} (a : Nat) (hr : r < R) : (a * R + r) / R = a := by
  rw [Nat.add_comm, Nat.add_mul_div_right _ _ (Nat.zero_lt_of_lt hr), Nat.div_eq_of_lt hr, Nat.zero_add]

theorem digit_mod {r R : Nat} (a : Nat) (hr : r < R) : (a * R + r) % R = r :=
  Nat.mul_add_mod_of_lt hr

/-- two numbers with the same radix agree iff they agree digit by digit -/
theorem digit_inj {R x y a b : Nat} (hx : x < R) (hy : y < R) : a * R + x = b * R + y ↔ a = b ∧ x = y :=
  ⟨fun h => ⟨by rw [← digit_div a hx, h, digit_div b hy], by rw [← digit_mod a hx, h, digit_mod b hy]⟩,
   fun ⟨h1, h2⟩ => by rw [h1, h2]⟩

theorem div_lt_of_lt_mul {p a b : Nat} (hp : p < a * b) : p / b < a :=
  Nat.div_lt_of_lt_mul (Nat.mul_comm a b ▸ hp)

theorem mod_lt_of_lt_mul {p a b : Nat} (hp : p < a * b) : p % b < b :=
  Nat.mod_lt _ (Nat.pos_of_lt_mul_left hp)

/-- position `(o, k, r)` of an `(outer, n, inner)` array, read back from the flat index -/
theorem decomp_idx (o k r n inner : Nat) (hk : k < n) (hr : r < inner) :
    ((o * n + k) * inner + r) / (n * inner) = o ∧ ((o * n + k) * inner + r) % inner = r
      ∧ ((o * n + k) * inner + r) / inner % n = k := by
  have h1 := digit_div (o * n + k) hr
  exact ⟨by rw [Nat.mul_comm n inner, ← Nat.div_div_eq_div_mul, h1, digit_div o hk], digit_mod _ hr,
    by rw [h1, digit_mod o hk]⟩

/-- `i` is a multi-index into an array of shape `s` -/
abbrev In (s i : List Nat) : Prop := List.Forall₂ (· < ·) i s

def ravel : List Nat → List Nat → Nat
  | _ :: s, i :: is => i * s.prod + ravel s is
  | _, _ => 0

/-- total: every digit is reduced modulo its dimension, so `unravel s (i + k * s.prod) = unravel s i` -/
def unravel : List Nat → Nat → List Nat
  | [], _ => []
  | d :: s, i => (i / s.prod % d) :: unravel s i

theorem length_unravel : ∀ (s : List Nat) (i : Nat), (unravel s i).length = s.length
  | [], _ => rfl
  | _ :: s, i => congrArg (· + 1) (length_unravel s i)

theorem unravel_in : ∀ {s : List Nat} (i : Nat), (∀ d ∈ s, 0 < d) → In s (unravel s i)
  | [], _, _ => .nil
  | d :: _, i, h => .cons (Nat.mod_lt _ (h d (by simp))) (unravel_in i fun e he => h e (by simp [he]))

theorem unravel_add_mul : ∀ (s : List Nat) (i k : Nat), unravel s (i + k * s.prod) = unravel s i
  | [], _, _ => rfl
  | d :: s, i, k => by
    have e : i + k * (d * s.prod) = i + (k * d) * s.prod := by rw [Nat.mul_assoc]
    rw [unravel, unravel, List.prod_cons, e, unravel_add_mul s i (k * d)]
    rcases Nat.eq_zero_or_pos s.prod with h0 | hS
    · simp [h0]
    · rw [Nat.add_mul_div_right _ _ hS, Nat.add_mul_mod_self_right]

theorem ravel_lt : ∀ {s i : List Nat}, In s i → ravel s i < s.prod
  | _, _, .nil => Nat.one_pos
  | _, _, .cons h t => digit_lt h (ravel_lt t)

theorem unravel_ravel : ∀ {s i : List Nat}, In s i → unravel s (ravel s i) = i
  | _, _, .nil => rfl
  | _, _, .cons (a := a) h t => by
    rw [ravel, unravel, digit_div a (ravel_lt t), Nat.mod_eq_of_lt h, Nat.add_comm, unravel_add_mul, unravel_ravel t]

/-- `ravel ∘ unravel` is reduction modulo the size -/
theorem ravel_unravel : ∀ (s : List Nat) (i : Nat), ravel s (unravel s i) = i % s.prod
  | [], i => by simp [ravel, Nat.mod_one]
  | d :: s, i => by
    rw [unravel, ravel, ravel_unravel s i, List.prod_cons, Nat.mul_comm d, Nat.mod_mul, Nat.mul_comm, Nat.add_comm]

/-- the flat index splits as (outer, k, inner) around any axis -/
theorem ravel_axis : ∀ (pre post ip iq : List Nat) (n k : Nat), ip.length = pre.length →
    ravel (pre ++ n :: post) (ip ++ k :: iq) = (ravel pre ip * n + k) * post.prod + ravel post iq
  | [], _, [], _, _, _, _ => by simp [ravel]
  | d :: ds, post, i :: is, iq, n, k, h => by
    simp only [List.cons_append, ravel, ravel_axis ds post is iq n k (by simpa using h), List.prod_append_nat,
      List.prod_cons]
    ring

/-- Horner form of `ravel` (the form a left fold computes) -/
theorem foldl_zip_eq_ravel : ∀ (s i : List Nat) (acc : Nat), i.length = s.length →
    (List.zip s i).foldl (fun acc p => acc * p.1 + p.2) acc = acc * s.prod + ravel s i
  | [], [], acc, _ => by simp [ravel]
  | n :: s, m :: i, acc, h => by
    simp only [List.zip_cons_cons, List.foldl_cons, ravel, List.prod_cons,
      foldl_zip_eq_ravel s i _ (by simpa using h)]
    ring

/-- entry `p` of block `i` sits in the concatenation after the blocks before it -/
theorem getElem?_flatten_offset {α : Type} (l : List (List α)) (i : Nat) (hi : i < l.length) (p : Nat)
    (hp : p < l[i].length) : l.flatten[((l.take i).map List.length).sum + p]? = l[i][p]? := by
  rw [← List.getElem?_drop, List.map_take, List.drop_sum_flatten, List.drop_eq_getElem_cons hi,
    List.flatten_cons, List.getElem?_append_left hp]

end Scico.Index
