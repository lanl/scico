/-
  Property C10 — every ADMM x-update solver returns the sub-problem minimiser.

  The x-step objective is `α‖Ax − y‖²_W + Σ ρ_i/2 ‖z_i − u_i − C_i x‖²`.
  `C10_normal_eq_iff_argmin` says its minimisers are exactly the solutions of the documented normal equations.
  The `C10_assembly_*` theorems say that what each solver class of `_admmaux.py` hands to its back end (cg, the
  factorisation solver, the DFT division, the block-circulant Woodbury solver) *is* that system; the back ends
  themselves are covered by C14 (`C14_cg_exit`, `C14_woodbury_matrix`, `C14_woodbury_conv`).
-/
import Scico.Proofs.LinSolveADMMAssembly
import Scico.Proofs.LinSolveCG
import Scico.Proofs.LinSolveATAD
import Mathlib.Tactic.NormNum
import Mathlib.Tactic.FieldSimp

namespace Scico.Props.C10
open Scico.LinSolve RCLike Matrix

section Argmin
variable {𝕜 V Y : Type} [RCLike 𝕜] [NormedAddCommGroup V] [InnerProductSpace 𝕜 V]
  [NormedAddCommGroup Y] [InnerProductSpace 𝕜 Y]
  {ι : Type} [Fintype ι] {U : ι → Type} [∀ i, NormedAddCommGroup (U i)] [∀ i, InnerProductSpace 𝕜 (U i)]

/-- **Normal equations ⇔ argmin.**  For any linear `A`, `C_i` (with adjoints `AH`, `CH_i`), any Hermitian positive
    semi-definite weighting `W`, any `α ≥ 0`, `ρ_i ≥ 0`, any `y`, `v_i = z_i − u_i`, real or complex:
    `x` satisfies `(2α AᴴWA + Σ ρ_i C_iᴴC_i) x = 2α AᴴW y + Σ ρ_i C_iᴴ v_i` iff `x` minimises
    `α ⟪Ax − y, W(Ax − y)⟫ + Σ ρ_i/2 ‖v_i − C_i x‖²`. -/
theorem C10_normal_eq_iff_argmin (A : V →ₗ[𝕜] Y) (AH : Y →ₗ[𝕜] V) (hA : ∀ x y, inner 𝕜 (A x) y = inner 𝕜 x (AH y))
    (W : Y →ₗ[𝕜] Y) (hWs : ∀ u v, inner 𝕜 (W u) v = inner 𝕜 u (W v)) (hWp : ∀ u, 0 ≤ re (inner 𝕜 u (W u)))
    (C : ∀ i, V →ₗ[𝕜] U i) (CH : ∀ i, U i →ₗ[𝕜] V) (hC : ∀ i x y, inner 𝕜 (C i x) y = inner 𝕜 x (CH i y))
    (α : ℝ) (hα : 0 ≤ α) (ρ : ι → ℝ) (hρ : ∀ i, 0 ≤ ρ i) (y : Y) (v : ∀ i, U i) (x : V) :
    (((2 * α : ℝ) : 𝕜) • AH (W (A x)) + ∑ i, ((ρ i : ℝ) : 𝕜) • CH i (C i x)
        = ((2 * α : ℝ) : 𝕜) • AH (W y) + ∑ i, ((ρ i : ℝ) : 𝕜) • CH i (v i))
      ↔ ∀ x', xstepObj A W C α ρ y v x ≤ xstepObj A W C α ρ y v x' := by
  -- the data term and the splitting terms form one family, indexed by `Option ι`
  have h := argmin_sum_iff (𝕜 := 𝕜) (ι := Option ι)
    (fun o x => o.elim (re (inner 𝕜 (A x - y) (W (A x - y)))) fun i => ‖v i - C i x‖ ^ 2)
    (fun o x => o.elim (AH (W (A x - y))) fun i => CH i (C i x - v i))
    (fun o h => o.elim (re (inner 𝕜 (A h) (W (A h)))) fun i => ‖C i h‖ ^ 2)
    (fun o => o.elim α fun i => ρ i / 2)
    (fun o => by cases o; exacts [hα, div_nonneg (hρ _) zero_le_two])
    (fun o h => by cases o; exacts [hWp _, sq_nonneg _])
    (fun o t h => by cases o; exacts [quadA_smul A W t h, quadC_smul (C _) t h])
    (fun o x h => by cases o; exacts [quadA A AH hA W hWs y x h, quadC (C _) (CH _) (hC _) (v _) x h]) x
  simp only [Fintype.sum_option, Option.elim_none, Option.elim_some] at h
  rw [show (∀ x', xstepObj A W C α ρ y v x ≤ xstepObj A W C α ρ y v x') ↔ _ from h]
  -- gradient zero  ⇔  normal equations
  have hρ2 : ∀ i, 2 * (ρ i / 2) = ρ i := fun i => mul_div_cancel₀ _ two_ne_zero
  simp only [hρ2, LinearMap.map_sub, smul_sub, Finset.sum_sub_distrib]
  rw [sub_add_sub_comm, sub_eq_zero]

-- non-vacuity: V = Y = U = ℝ, A = C = W = identity, α = 3/2 (≠ ½), ρ = 2
example : ∃ (A AH W : ℝ →ₗ[ℝ] ℝ), (∀ x y, inner ℝ (A x) y = inner ℝ x (AH y)) ∧
    (∀ u v, inner ℝ (W u) v = inner ℝ u (W v)) ∧ (∀ u, 0 ≤ re (inner ℝ u (W u))) :=
  ⟨LinearMap.id, LinearMap.id, LinearMap.id, fun _ _ => rfl, fun _ _ => rfl, fun u => by
    simp [inner]; exact mul_self_nonneg u⟩

/-- **All exact solvers return the same `x`.**  If some `C_{i₀}` is injective with `ρ_{i₀} > 0` (an `Identity`, a
    `Diagonal` without zero, a tall full-rank matrix), `W ⪰ 0`, `α ≥ 0`, `ρ ≥ 0`, the normal equations have at most one
    solution: any two `x` satisfying them (from cg, the factorisation, the DFT division, scipy) coincide. -/
theorem C10_solvers_agree (A : V →ₗ[𝕜] Y) (AH : Y →ₗ[𝕜] V) (hA : ∀ x y, inner 𝕜 (A x) y = inner 𝕜 x (AH y))
    (W : Y →ₗ[𝕜] Y) (hWp : ∀ u, 0 ≤ re (inner 𝕜 u (W u)))
    (C : ∀ i, V →ₗ[𝕜] U i) (CH : ∀ i, U i →ₗ[𝕜] V) (hC : ∀ i x y, inner 𝕜 (C i x) y = inner 𝕜 x (CH i y))
    (α : ℝ) (hα : 0 ≤ α) (ρ : ι → ℝ) (hρ : ∀ i, 0 ≤ ρ i) (i0 : ι) (hρ0 : 0 < ρ i0) (hinj : ∀ h, C i0 h = 0 → h = 0)
    (rhs : V) (x1 x2 : V)
    (h1 : ((2 * α : ℝ) : 𝕜) • AH (W (A x1)) + ∑ i, ((ρ i : ℝ) : 𝕜) • CH i (C i x1) = rhs)
    (h2 : ((2 * α : ℝ) : 𝕜) • AH (W (A x2)) + ∑ i, ((ρ i : ℝ) : 𝕜) • CH i (C i x2) = rhs) : x1 = x2 :=
  normal_eq_unique A AH hA W C CH hC α ρ
    (xstepQuad_pos_of_injective A W hWp C α hα ρ hρ i0 hρ0 hinj) rhs x1 x2 h1 h2

-- non-vacuity: the identity on ℝ is injective
example : ∀ h : ℝ, (LinearMap.id : ℝ →ₗ[ℝ] ℝ) h = 0 → h = 0 := fun _ h => h

end Argmin

section Generic
variable {𝕜 V Y U : Type} [RCLike 𝕜] [NormedAddCommGroup V] [InnerProductSpace 𝕜 V]
  [NormedAddCommGroup Y] [InnerProductSpace 𝕜 Y] [NormedAddCommGroup U] [InnerProductSpace 𝕜 U] {n : Nat}

/-- **`GenericSubproblemSolver`**: the function it hands to `scipy.optimize.minimize`
    (`out = Σ 0.5·ρ_i·Σ|z_i − u_i − C_i x|²;  out += f(x)`, model `genericObj`) is, for `f = α‖A· − y‖²_W`, the x-step
    objective; hence a point is an exact minimiser of what scipy receives iff it satisfies the documented normal equations. -/
theorem C10_generic_objective (A : V →ₗ[𝕜] Y) (AH : Y →ₗ[𝕜] V) (hA : ∀ x y, inner 𝕜 (A x) y = inner 𝕜 x (AH y))
    (W : Y →ₗ[𝕜] Y) (hWs : ∀ u v, inner 𝕜 (W u) v = inner 𝕜 u (W v)) (hWp : ∀ u, 0 ≤ re (inner 𝕜 u (W u)))
    (C : Fin n → V →ₗ[𝕜] U) (CH : Fin n → U →ₗ[𝕜] V) (hC : ∀ i x y, inner 𝕜 (C i x) y = inner 𝕜 x (CH i y))
    (α : ℝ) (hα : 0 ≤ α) (ρ : Fin n → ℝ) (hρ : ∀ i, 0 ≤ ρ i) (y : Y) (z u : Fin n → U) (x : V) :
    let obj := genericObj (fun w : U => ‖w‖ ^ 2) (some fun x => α * re (inner 𝕜 (A x - y) (W (A x - y))))
        (List.ofFn fun i => (ρ i, (⇑(C i) : V → U), z i, u i))
    obj x = xstepObj (U := fun _ : Fin n => U) A W C α ρ y (fun i => z i - u i) x ∧
    ((∀ x', obj x ≤ obj x') ↔
      ((2 * α : ℝ) : 𝕜) • AH (W (A x)) + ∑ i, ((ρ i : ℝ) : 𝕜) • CH i (C i x)
        = ((2 * α : ℝ) : 𝕜) • AH (W y) + ∑ i, ((ρ i : ℝ) : 𝕜) • CH i (z i - u i)) := by
  intro obj
  have hobj : ∀ x, obj x = xstepObj (U := fun _ : Fin n => U) A W C α ρ y (fun i => z i - u i) x := by
    intro x
    simp only [obj, genericObj, xstepObj]
    rw [foldl_add_sum, zero_add, List.map_ofFn, List.sum_ofFn, add_comm]
    congr 1
    apply Finset.sum_congr rfl
    intro i _
    simp only [Function.comp_def, two]
    ring
  refine ⟨hobj x, ?_⟩
  rw [C10_normal_eq_iff_argmin (U := fun _ : Fin n => U) A AH hA W hWs hWp C CH hC α hα ρ hρ y (fun i => z i - u i) x]
  simp only [hobj]

/-- **`accuracy` of the block-circulant solvers**: they report `rel_res` of the system divided by `2α` (resp. `2ωρ₁`);
    `rel_res` is invariant under a common non-zero scaling, so this is the relative residual of the unscaled system too. -/
theorem C10_accuracy_scale_invariant {E : Type} [NormedAddCommGroup E] [NormedSpace 𝕜 E] (c : 𝕜) (hc : c ≠ 0) (ax b : E) :
    relRes (fun v : E => ‖v‖) (c • ax) (c • b) = relRes (fun v : E => ‖v‖) ax b := by
  unfold relRes
  simp only
  rw [← smul_sub, norm_smul, norm_smul, norm_smul]
  exact relResOf_scale ‖c‖ _ _ _ (norm_pos_iff.2 hc)

end Generic

section Assembly
variable {S M U Y' : Type} [Field S] [AddCommGroup M] [Module S M] [AddCommGroup U]

/-- **`LinearSubproblemSolver`** (scico cg and jax cg alike — only the back end differs): for any loss scale,
    any weighting, any non-empty list of `(ρ_i, C_i, z_i, u_i)`, the operator handed to `cg` is
    `x ↦ Σ ρ_i C_iᴴC_i x + 2α AᴴW A x` and the right-hand side is `2α AᴴW y + Σ ρ_i C_iᴴ(z_i − u_i)`. -/
theorem C10_assembly_linear (f : Option (SqL2 S M Y')) (terms : List (Term S M U)) (hne : terms ≠ []) :
    (∃ lhs, linearLhs f terms = some lhs ∧ ∀ x, lhs x = lhsSpec f terms x) ∧ linearRhs 0 f terms = rhsSpec f terms :=
  ⟨linearLhs_spec f terms hne, linearRhs_spec f terms⟩

/-- an empty `C_list` is rejected (`reduce` of an empty list) -/
theorem C10_assembly_linear_empty (f : Option (SqL2 S M Y')) : linearLhs (U := U) f [] = none := rfl

/-- **`CircularConvolveSolver`**, per DFT frequency: the divisor is `Σ ρ_i ĝ_i + 2α ĝ_A` (`ĝ` the transfer function
    of the gram operator) and, where it is non-zero, the returned `x̂` satisfies `divisor · x̂ = r̂hs`. -/
theorem C10_assembly_circular {N : Nat} (f : Option (S × Vec S N)) (terms : List (S × Vec S N)) (hne : terms ≠ [])
    (rhs : Vec S N) :
    ∃ lhs, circLhsHat f terms = some lhs ∧
      (∀ w, lhs w = (terms.map fun t => t.1 * t.2 w).sum + (match f with | none => 0 | some (sc, gA) => 2 * sc * gA w)) ∧
      (∀ w, lhs w ≠ 0 → lhs w * circSolveHat lhs rhs w = rhs w) := by
  have hsolve : ∀ (lhs : Vec S N) (w : Fin N), lhs w ≠ 0 → lhs w * circSolveHat lhs rhs w = rhs w := fun lhs w hw => by
    unfold circSolveHat; field_simp
  unfold circLhsHat
  rw [reduceAdd_fun (mt List.map_eq_nil_iff.1 hne)]
  cases f with
  | none => exact ⟨_, rfl, fun w => by simp [List.map_map, Function.comp_def], hsolve _⟩
  | some f => exact ⟨_, rfl, fun w => by simp [List.map_map, Function.comp_def, two_eq], hsolve _⟩

end Assembly

section MatrixSub
variable {K : Type} [Field K] [HasConj K] [HasIsZero K] {m n : Nat}

/-- **`MatrixSubproblemSolver`**: the factorisation solver is built for `A`, `W' = 2αW` and
    `D = Σ ρ_i C_iᴴC_i` (a 1-D `D` iff every `C_i` is a `Diagonal`), so that its documented system
    `(Aᴴ W' A + D) x = rhs` is the x-step normal equation. -/
theorem C10_assembly_matrix (scale : K) (A : Mat K m n) (W : Vec K m) (terms : List (K × COp K n)) (hne : terms ≠ []) :
    ∃ s, matrixSubATAD scale A W terms = some s ∧ s.A = A ∧ (∀ i, s.W i = 2 * scale * W i) ∧
      (∀ i j, s.D.entry i j = (terms.map fun t => t.1 * t.2.gramD.entry i j).sum) ∧
      (s.D.isDiag = true ↔ ∀ t ∈ terms, ∃ d, t.2 = .diag d) := by
  unfold matrixSubATAD
  cases terms with
  | nil => exact absurd rfl hne
  | cons t ts =>
    simp only [List.map_cons, reduceAdd, Option.map_some]
    refine ⟨_, rfl, rfl, fun i => by rw [two_eq], ?_, ?_⟩
    · intro i j
      rw [foldl_hom_sum (fun D : DMat K n => D.entry i j) _ _ (fun a b => DMat.add_entry a b i j)]
      simp only [DMat.smul_entry, List.map_map, Function.comp_def, List.sum_cons]
    · simp only [DMat.isDiag_foldl_add, List.forall_mem_map, DMat.isDiag_smul, COp.isDiag_gramD, List.forall_mem_cons]

/-- **`MatrixSubproblemSolver` end to end**: `C10_assembly_matrix` composed with `C14_woodbury_matrix` — whatever path the
    factorisation solver takes, `solve` returns the solution of `(Aᴴ (2αW) A + Σ ρ_i C_iᴴ C_i) x = rhs`, given the factorisation
    contract and, on the Woodbury path, a 1-D `D = Σ ρ_i |c_i|²` without zero entry. -/
theorem C10_matrix_solver_end_to_end (hz : LawfulIsZero K) (scale : K) (A : Mat K m n) (W : Vec K m) (terms : List (K × COp K n))
    (s : ATAD K m n) (hs : matrixSubATAD scale A W terms = some s)
    (fsW : Vec K m → Vec K m) (fsD : Vec K n → Vec K n) (rhs : Vec K n)
    (hfsW : ∀ d, s.D = .diag d → ∀ c, LinSolve.mulVec (gWoodbury s.A d s.W) (fsW c) = c)
    (hfsD : ∀ c, LinSolve.mulVec (gDirect s.A s.D s.W) (fsD c) = c)
    (hnz : ∀ d, s.D = .diag d → s.useWoodbury = true → ∀ k, d k ≠ 0) :
    (Matrix.of (conjT A) * Matrix.diagonal (fun i => 2 * scale * W i) * Matrix.of A
        + Matrix.of (fun i j => (terms.map fun t => t.1 * t.2.gramD.entry i j).sum)) *ᵥ (s.solve fsW fsD rhs) = rhs := by
  have hne : terms ≠ [] := by
    rintro rfl
    simp [matrixSubATAD, reduceAdd] at hs
  obtain ⟨s', hs', hA, hW, hD, _⟩ := C10_assembly_matrix scale A W terms hne
  rw [hs] at hs'
  cases hs'
  have := atad_solve_spec hz s fsW fsD rhs hfsW hfsD hnz
  unfold specLhs at this
  have eW : s.W = fun i => 2 * scale * W i := funext hW
  have eD : s.D.entry = fun i j => (terms.map fun t => t.1 * t.2.gramD.entry i j).sum := by
    funext i j; exact hD i j
  rw [hA, eW, eD] at this
  exact this

end MatrixSub

section EndToEnd
variable {𝕜 V U Y : Type} [RCLike 𝕜] [NormedAddCommGroup V] [InnerProductSpace 𝕜 V] [AddCommGroup U] [Module 𝕜 U]
  [AddCommGroup Y] [Module 𝕜 Y]

/-- **`LinearSubproblemSolver` end to end** (`scico.solver.cg`, no preconditioner): assembly (`C10_assembly_linear`) composed with
    the exit rule of `cg` (`C14_cg_rel_res_true`): for linear `A`, `W`, `C_i`, any scale, state and non-empty term list, the returned
    `x` satisfies `‖rhs − lhs x‖ ≤ max(tol ‖rhs‖, atol)` for the *documented* `lhs`, `rhs`, unless `maxiter` bodies were used;
    `info["rel_res"] = ‖rhs − lhs x‖ / ‖rhs‖`. -/
theorem C10_linear_solver_end_to_end (f : Option (LSqL2 𝕜 V Y)) (terms : List (LTerm 𝕜 V U)) (hne : terms ≠ []) (x0 : V)
    (tol atol : ℝ) (maxiter : Nat) :
    ∃ lhs, linearLhs (f.map LSqL2.toSqL2) (terms.map LTerm.toTerm) = some lhs ∧
      let rhs := linearRhs 0 (f.map LSqL2.toSqL2) (terms.map LTerm.toTerm)
      let out := cg (rcOps 𝕜 V) lhs (fun v => v) rhs x0 tol atol maxiter
      let res := rhsSpec (f.map LSqL2.toSqL2) (terms.map LTerm.toTerm) - lhsSpec (f.map LSqL2.toSqL2) (terms.map LTerm.toTerm) out.1
      (0 ≤ max (tol * ‖rhs‖) atol → out.2.relRes = ‖res‖ / ‖rhs‖ ∧ (out.2.numIter = maxiter ∨ ‖res‖ ≤ max (tol * ‖rhs‖) atol)) := by
  have hne' : terms.map LTerm.toTerm ≠ [] := by simpa using hne
  obtain ⟨lhs, h1, h2⟩ := linearLhs_spec (f.map LSqL2.toSqL2) (terms.map LTerm.toTerm) hne'
  -- the assembled operator is a linear map, so the exit rule of `cg` applies to it
  obtain rfl : lhs = ⇑(lhsLin f terms) := funext fun x => by rw [h2, lhsLin_apply]
  refine ⟨_, h1, ?_⟩
  intro rhs out res htol
  have hres : res = rhs - lhsLin f terms out.1 := by
    show rhsSpec _ _ - lhsSpec _ _ out.1 = _
    rw [← linearRhs_spec, lhsLin_apply]
  rw [hres]
  exact cg_spec_noprecond (𝕜 := 𝕜) (lhsLin f terms) rhs x0 tol atol maxiter htol

end EndToEnd

section NonVacuityEndToEnd
/- the solver object of a 1×2 problem (`A = [1 1]`, `α = ½`, `W = 1`, one `Diagonal` `C = I`, `ρ = 1`) exists and takes the
   Woodbury path; its factor-solve contract is met by `c ↦ c/3` (see the example in `Props/C14.lean`) -/
local instance : HasConj ℚ := ⟨id⟩
local instance : HasIsZero ℚ := ⟨fun x => decide (x = 0)⟩

example : ∃ s : ATAD ℚ 1 2, matrixSubATAD (1 / 2 : ℚ) (fun _ _ => 1) (fun _ => 1) [(1, COp.diag fun _ => 1)] = some s ∧
    s.D.isDiag = true ∧ ∀ i, s.W i = 1 := by
  refine ⟨_, rfl, rfl, ?_⟩
  intro i
  simp [two]; norm_num

-- a term list and a loss built from linear maps (V = U = Y = ℝ)
example : ∃ (f : LSqL2 ℝ ℝ ℝ) (t : LTerm ℝ ℝ ℝ), [t] ≠ [] ∧ f.scale = 2 :=
  ⟨⟨2, LinearMap.id, LinearMap.id, LinearMap.id, 1⟩, ⟨3, LinearMap.id, LinearMap.id, 1, 0⟩, by simp, rfl⟩
end NonVacuityEndToEnd

section Scaling
variable {S M U Y' : Type} [Field S] [AddCommGroup M] [Module S M] [AddCommGroup U]

/-- **`FBlockCircularConvolveSolver`**: dividing by `2α` gives a system equivalent to
    `2α AᴴA x + Σ ρ_i C_iᴴC_i x = 2α AᴴW y + Σ ρ_i C_iᴴ(z_i − u_i)` … -/
theorem C10_fblock_scaling (f : SqL2 S M Y') (terms : List (Term S M U)) (hne : terms ≠ []) (hc : 2 * f.scale ≠ 0) :
    ∃ lhs rhs, fblockSystem 0 f terms = some (lhs, rhs) ∧
      ∀ x, (lhs x = rhs ↔
        (2 * f.scale) • f.A.adj (f.A.eval x) + (terms.map fun t => t.rho • t.C.adj (t.C.eval x)).sum = rhsSpec (some f) terms) := by
  unfold fblockSystem
  rw [reduceAdd_fun (mt List.map_eq_nil_iff.1 hne)]
  refine ⟨_, _, rfl, fun x => ?_⟩
  simp only [two_eq, linearRhs_spec, LinOp.gram, List.map_map, Function.comp_def]
  exact scaled_system_iff hc _ _ _

/-- … which is the documented system exactly when the loss is unweighted (`W = I`): the solver uses `f.W` on the
    right-hand side only. -/
theorem C10_fblock_scaling_unweighted (f : SqL2 S M Y') (terms : List (Term S M U)) (hne : terms ≠ []) (hc : 2 * f.scale ≠ 0)
    (hW : ∀ v, f.W v = v) :
    ∃ lhs rhs, fblockSystem 0 f terms = some (lhs, rhs) ∧
      ∀ x, (lhs x = rhs ↔ lhsSpec (some f) terms x = rhsSpec (some f) terms) := by
  obtain ⟨lhs, rhs, h1, h2⟩ := C10_fblock_scaling f terms hne hc
  refine ⟨lhs, rhs, h1, fun x => ?_⟩
  rw [h2 x]
  simp only [lhsSpec, hW]
  rw [add_comm]

/-- **`G0BlockCircularConvolveSolver`, what it solves**: the first term is weighted by `2 ω ρ₁`. -/
theorem C10_g0_system (omega : S) (t1 : Term S M U) (rest : List (Term S M U)) (hne : rest ≠ [])
    (hc : 2 * omega * t1.rho ≠ 0) :
    ∃ lhs rhs, g0System 0 omega (t1 :: rest) = some (lhs, rhs) ∧
      ∀ x, (lhs x = rhs ↔
        (2 * omega * t1.rho) • t1.C.adj (t1.C.eval x) + (rest.map fun t => t.rho • t.C.adj (t.C.eval x)).sum
          = (2 * omega * t1.rho) • t1.C.adj (t1.z - t1.u) + (rest.map fun t => t.rho • t.C.adj (t.z - t.u)).sum) := by
  unfold g0System
  simp only
  rw [reduceAdd_fun (mt List.map_eq_nil_iff.1 hne)]
  refine ⟨_, _, rfl, fun x => ?_⟩
  simp only [two_eq, g0RhsRaw_spec, LinOp.gram, List.map_map, Function.comp_def]
  exact scaled_system_iff hc _ _ _

/-- For `g₁.scale = ½` (`2ω = 1`) the system G0 solves is the documented one. -/
theorem C10_g0_scaling_partial (omega : S) (t1 : Term S M U) (rest : List (Term S M U)) (hne : rest ≠ [])
    (hω : 2 * omega = 1) (hρ : t1.rho ≠ 0) :
    ∃ lhs rhs, g0System 0 omega (t1 :: rest) = some (lhs, rhs) ∧
      ∀ x, (lhs x = rhs ↔ lhsSpec (Y' := Y') none (t1 :: rest) x = rhsSpec (Y' := Y') none (t1 :: rest)) := by
  obtain ⟨lhs, rhs, h1, h2⟩ := C10_g0_system omega t1 rest hne (by rw [hω, one_mul]; exact hρ)
  refine ⟨lhs, rhs, h1, fun x => ?_⟩
  rw [h2 x, hω, one_mul]
  simp [lhsSpec, rhsSpec]

/-- the **exact condition** in general: a solution of G0's system satisfies the documented normal equations iff
    `(2ω − 1) ρ₁ · C₁ᴴ(C₁ x − (z₁ − u₁)) = 0` -/
theorem C10_g0_scaling_exact (omega : S) (t1 : Term S M U) (rest : List (Term S M U)) (x : M)
    (hadd : ∀ a b, t1.C.adj (a - b) = t1.C.adj a - t1.C.adj b)
    (hsys : (2 * omega * t1.rho) • t1.C.adj (t1.C.eval x) + (rest.map fun t => t.rho • t.C.adj (t.C.eval x)).sum
          = (2 * omega * t1.rho) • t1.C.adj (t1.z - t1.u) + (rest.map fun t => t.rho • t.C.adj (t.z - t.u)).sum) :
    lhsSpec (Y' := Y') none (t1 :: rest) x = rhsSpec (Y' := Y') none (t1 :: rest) ↔
      ((2 * omega - 1) * t1.rho) • t1.C.adj (t1.C.eval x - (t1.z - t1.u)) = 0 := by
  simp only [lhsSpec, rhsSpec, List.map_cons, List.sum_cons, add_zero, zero_add]
  rw [hadd (t1.C.eval x), sub_mul, one_mul]
  exact reweighted_system_iff _ _ _ _ hsys

end Scaling

section G0Docstring
variable {𝕜 V Y : Type} [RCLike 𝕜] [NormedAddCommGroup V] [InnerProductSpace 𝕜 V]
  [NormedAddCommGroup Y] [InnerProductSpace 𝕜 Y]
  {ι : Type} [Fintype ι] {U : ι → Type} [∀ i, NormedAddCommGroup (U i)] [∀ i, InnerProductSpace 𝕜 (U i)]

/-- **The other side of `g0-scale`: G0 solves the step written in its own docstring.**  For every `ω ≥ 0` the system the solver
    assembles (`C10_g0_system`) characterises the minimisers of `ρ₁ ω ‖C₁ x − v₁‖² + Σ_{i≥2} ρ_i/2 ‖C_i x − v_i‖²` — the objective its
    docstring calls "the ADMM x-step".  The x-step of the ADMM algorithm (`C10_normal_eq_iff_argmin`) has `ρ₁/2` in place of `ρ₁ ω`
    (the scale of `g₁` belongs to the prox of `g₁`, not to the x-step); the two coincide iff `2ω = 1` (`C10_g0_scaling_exact`). -/
theorem C10_g0_solves_docstring (C1 : V →ₗ[𝕜] Y) (C1H : Y →ₗ[𝕜] V) (hC1 : ∀ x y, inner 𝕜 (C1 x) y = inner 𝕜 x (C1H y))
    (C : ∀ i, V →ₗ[𝕜] U i) (CH : ∀ i, U i →ₗ[𝕜] V) (hC : ∀ i x y, inner 𝕜 (C i x) y = inner 𝕜 x (CH i y))
    (ω ρ1 : ℝ) (hω : 0 ≤ ω) (hρ1 : 0 ≤ ρ1) (ρ : ι → ℝ) (hρ : ∀ i, 0 ≤ ρ i) (v1 : Y) (v : ∀ i, U i) (x : V) :
    (((2 * (ω * ρ1) : ℝ) : 𝕜) • C1H (C1 x) + ∑ i, ((ρ i : ℝ) : 𝕜) • CH i (C i x)
        = ((2 * (ω * ρ1) : ℝ) : 𝕜) • C1H v1 + ∑ i, ((ρ i : ℝ) : 𝕜) • CH i (v i))
      ↔ ∀ x', g0DocObj C1 C ω ρ1 ρ v1 v x ≤ g0DocObj C1 C ω ρ1 ρ v1 v x' := by
  have h := C10_normal_eq_iff_argmin (𝕜 := 𝕜) C1 C1H hC1 LinearMap.id (fun _ _ => rfl)
    (fun u => by rw [LinearMap.id_apply, inner_self_eq_norm_sq (𝕜 := 𝕜)]; positivity)
    C CH hC (ω * ρ1) (mul_nonneg hω hρ1) ρ hρ v1 v x
  simp only [LinearMap.id_apply] at h
  rw [h]
  simp only [g0DocObj_eq]

end G0Docstring

section G0Witness
/-- the full statement one would like (NOT claimed): G0's system is the documented one for every scale -/
def C10_g0_scaling_stmt : Prop :=
  ∀ (omega : ℚ) (t1 : Term ℚ ℚ ℚ) (rest : List (Term ℚ ℚ ℚ)), rest ≠ [] → 2 * omega * t1.rho ≠ 0 →
    ∀ lhs rhs, g0System 0 omega (t1 :: rest) = some (lhs, rhs) →
      ∀ x, lhs x = rhs → lhsSpec (Y' := ℚ) none (t1 :: rest) x = rhsSpec (Y' := ℚ) none (t1 :: rest)

/-- recorded finding `g0-scale`: scalars, `C₁ = C₂ = I`, `ρ = (1,1)`, `z₁−u₁ = 1`,
    `z₂−u₂ = 0`, `g₁.scale = 2`: G0 solves `(1 + ¼)x = 1`, i.e. `x = 4/5`, the x-step minimiser is `x = 1/2`. -/
theorem C10_g0_scaling_counterexample : ¬ C10_g0_scaling_stmt := by
  intro h
  let I : LinOp ℚ ℚ := ⟨id, id⟩
  have := h 2 ⟨1, I, 1, 0⟩ [⟨1, I, 0, 0⟩] (by simp) (by norm_num) _ _ rfl (4 / 5)
    (by simp [LinOp.gram, g0RhsRaw, two, I]; norm_num)
  simp [lhsSpec, rhsSpec, I] at this
  norm_num at this

end G0Witness

section StaleScale
variable {S M U Y' : Type} [Field S] [AddCommGroup M] [Module S M] [AddCommGroup U]

/-- **`f.set_scale(s1)` after the ADMM object was built** (recorded finding `stale-scale-after-init`): the solvers that precompute
    their left-hand side in `internal_init` (Matrix, CircularConvolve) then work with the operator of the *old* scale and the
    right-hand side of the *new* one (`staleScaleSystem`) … -/
theorem C10_stale_scale_system (f : SqL2 S M Y') (s1 : S) (terms : List (Term S M U)) (hne : terms ≠ []) :
    ∃ lhs rhs, staleScaleSystem 0 f s1 terms = some (lhs, rhs) ∧
      (∀ x, lhs x = lhsSpec (some f) terms x) ∧ rhs = rhsSpec (some (f.withScale s1)) terms := by
  obtain ⟨lhs, h1, h2⟩ := linearLhs_spec (some f) terms hne
  refine ⟨lhs, _, ?_, h2, linearRhs_spec _ _⟩
  simp [staleScaleSystem, h1]

/-- … and a solution of that system satisfies the documented normal equations of the current loss iff
    `2 (s1 − s0) · Aᴴ W A x = 0` (it does when the scale was not changed, or `AᴴWA x = 0`). -/
theorem C10_stale_scale_partial (f : SqL2 S M Y') (s1 : S) (terms : List (Term S M U)) (x : M)
    (hsys : lhsSpec (some f) terms x = rhsSpec (some (f.withScale s1)) terms) :
    lhsSpec (some (f.withScale s1)) terms x = rhsSpec (some (f.withScale s1)) terms ↔
      (2 * (s1 - f.scale)) • f.A.adj (f.W (f.A.eval x)) = 0 := by
  have e : lhsSpec (some (f.withScale s1)) terms x
      = lhsSpec (some f) terms x + (2 * (s1 - f.scale)) • f.A.adj (f.W (f.A.eval x)) := by
    simp only [lhsSpec, SqL2.withScale]
    rw [add_assoc, ← add_smul]
    congr 2
    ring
  rw [e, hsys, add_eq_left]

/-- the same finding for **`FBlockCircularConvolveSolver`**: `D` was divided by the old `2 s0` in `internal_init`, `solve` divides the
    right-hand side (current scale) by the new `2 s1` (`fblockStaleSystem`) … -/
theorem C10_fblock_stale_system (f : SqL2 S M Y') (s1 : S) (terms : List (Term S M U)) (hne : terms ≠ []) :
    ∃ lhs rhs, fblockStaleSystem 0 f s1 terms = some (lhs, rhs) ∧
      (∀ x, lhs x = f.A.adj (f.A.eval x) + (1 / (2 * f.scale)) • (terms.map fun t => t.rho • t.C.adj (t.C.eval x)).sum) ∧
      rhs = (1 / (2 * s1)) • rhsSpec (some (f.withScale s1)) terms := by
  unfold fblockStaleSystem fblockSystem
  rw [reduceAdd_fun (mt List.map_eq_nil_iff.1 hne)]
  refine ⟨_, _, rfl, fun x => ?_, ?_⟩
  · simp only [two_eq, LinOp.gram, List.map_map, Function.comp_def]
  · simp only [two_eq, linearRhs_spec]

/-- … and (unweighted loss, `s0, s1 ≠ 0`) a solution of it satisfies the documented normal equations of the current loss iff
    `(s1 − s0) · Σ ρ_i C_iᴴ C_i x = 0` -/
theorem C10_fblock_stale_partial (f : SqL2 S M Y') (s1 : S) (terms : List (Term S M U)) (x : M) (hW : ∀ v, f.W v = v)
    (h0 : 2 * f.scale ≠ 0) (h1 : 2 * s1 ≠ 0)
    (hsys : f.A.adj (f.A.eval x) + (1 / (2 * f.scale)) • (terms.map fun t => t.rho • t.C.adj (t.C.eval x)).sum
        = (1 / (2 * s1)) • rhsSpec (some (f.withScale s1)) terms) :
    lhsSpec (some (f.withScale s1)) terms x = rhsSpec (some (f.withScale s1)) terms ↔
      (s1 - f.scale) • (terms.map fun t => t.rho • t.C.adj (t.C.eval x)).sum = 0 := by
  have hl : lhsSpec (some (f.withScale s1)) terms x
      = (terms.map fun t => t.rho • t.C.adj (t.C.eval x)).sum + (2 * s1) • f.A.adj (f.A.eval x) := by
    simp only [lhsSpec, SqL2.withScale, hW]
  rw [hl, stale_scaled_iff h0 h1 _ _ _ hsys, ← mul_sub, mul_smul, smul_eq_zero_iff_right (left_ne_zero_of_mul h0)]

end StaleScale

section StaleWitness
/-- the statement one would like (NOT claimed): whatever the scale was when the ADMM object was built, the solution of the system the
    precomputing solvers work with satisfies the normal equations of the loss as it is now -/
def C10_stale_scale_stmt : Prop :=
  ∀ (f : SqL2 ℚ ℚ ℚ) (s1 : ℚ) (terms : List (Term ℚ ℚ ℚ)) (x : ℚ), terms ≠ [] →
    lhsSpec (some f) terms x = rhsSpec (some (f.withScale s1)) terms →
    lhsSpec (some (f.withScale s1)) terms x = rhsSpec (some (f.withScale s1)) terms

/-- recorded finding `stale-scale-after-init`: scalars, `A = W = C = 1`, `y = 1`, `ρ = 1`, `z − u = 0`, scale `½` at construction then `set_scale(2)`:
    the stale system is `(1 + 1) x = 4`, `x = 2`; the x-step minimiser solves `(4 + 1) x = 4`, `x = 4/5`. -/
theorem C10_stale_scale_counterexample : ¬ C10_stale_scale_stmt := by
  intro h
  let I : LinOp ℚ ℚ := ⟨id, id⟩
  have := h ⟨1 / 2, I, id, 1⟩ 2 [⟨1, I, 0, 0⟩] 2 (by simp) (by simp [lhsSpec, rhsSpec, SqL2.withScale, I]; norm_num)
  simp [lhsSpec, rhsSpec, SqL2.withScale, I] at this
  norm_num at this

end StaleWitness

section InitChecks
/-! ### the class checks of every `internal_init` (tables re-read from the source by `harness/linsolve_translate.py`) -/

/-- every guard and test occurring in the tables is one the model interprets: `initResult` never answers "uninterpretable" -/
theorem C10_init_checks_interpretable : ∀ e ∈ solverTables.checks, checksInterpretable e.2 = true := by decide +kernel

/-- `LinearSubproblemSolver` accepts exactly `f = None` or a `SquaredL2Loss` whose `A` is a `LinearOperator` (else `TypeError`) -/
theorem C10_accepts_linear (F : InitFacts) :
    initResult (checksOf solverTables "LinearSubproblemSolver") F = .ok () ↔
      (F.fNone = true ∨ (F.isinst "admm.f" "SquaredL2Loss" = true ∧ F.isinst "admm.f.A" "LinearOperator" = true)) := by
  simp [checksOf, solverTables, initResult, ClassCheck.fires, guardEval, errKind]
  cases F.fNone <;> cases F.isinst "admm.f" "SquaredL2Loss" <;> cases F.isinst "admm.f.A" "LinearOperator" <;> simp

/-- `MatrixSubproblemSolver`: `f = None` or `SquaredL2Loss` with `A` a `Diagonal`/`MatrixOperator`, and every `C_i` a `Diagonal`/`MatrixOperator` -/
theorem C10_accepts_matrix (F : InitFacts) :
    initResult (checksOf solverTables "MatrixSubproblemSolver") F = .ok () ↔
      ((F.fNone = true ∨ (F.isinst "admm.f" "SquaredL2Loss" = true ∧
          (F.isinst "admm.f.A" "Diagonal" = true ∨ F.isinst "admm.f.A" "MatrixOperator" = true))) ∧
        ∀ p ∈ F.ciInst, (p "Diagonal" = true ∨ p "MatrixOperator" = true)) := by
  have hany : (F.ciInst.any fun p => !p "Diagonal" && !p "MatrixOperator") = false ↔
      ∀ p ∈ F.ciInst, (p "Diagonal" = true ∨ p "MatrixOperator" = true) := by
    simp [List.any_eq_false]
    constructor <;> intro h p hp <;> have := h p hp <;> revert this <;> cases p "Diagonal" <;> cases p "MatrixOperator" <;> simp
  simp [checksOf, solverTables, List.lookup, initResult, ClassCheck.fires, guardEval, errKind, -List.any_eq_true]
  rw [← hany]
  cases F.fNone <;> cases F.isinst "admm.f" "SquaredL2Loss" <;> cases F.isinst "admm.f.A" "Diagonal" <;>
    cases F.isinst "admm.f.A" "MatrixOperator" <;> cases (F.ciInst.any fun p => !p "Diagonal" && !p "MatrixOperator") <;> simp

/-- `CircularConvolveSolver`: `f = None`, or `SquaredL2Loss` with `A` a `CircularConvolve`/`Identity` (else `TypeError`) and an
    unweighted loss (`f.W` an `Identity`, else `ValueError`) -/
theorem C10_accepts_circular (F : InitFacts) :
    (initResult (checksOf solverTables "CircularConvolveSolver") F = .ok () ↔
      (F.fNone = true ∨ (F.isinst "admm.f" "SquaredL2Loss" = true ∧
        (F.isinst "admm.f.A" "CircularConvolve" = true ∨ F.isinst "admm.f.A" "Identity" = true) ∧ F.isinst "admm.f.W" "Identity" = true))) ∧
    (F.fNone = false → F.isinst "admm.f" "SquaredL2Loss" = true →
      (F.isinst "admm.f.A" "CircularConvolve" = true ∨ F.isinst "admm.f.A" "Identity" = true) → F.isinst "admm.f.W" "Identity" = false →
      initResult (checksOf solverTables "CircularConvolveSolver") F = .error "value") := by
  simp [checksOf, solverTables, List.lookup, initResult, ClassCheck.fires, guardEval, errKind]
  cases F.fNone <;> cases F.isinst "admm.f" "SquaredL2Loss" <;> cases F.isinst "admm.f.A" "CircularConvolve" <;>
    cases F.isinst "admm.f.A" "Identity" <;> cases F.isinst "admm.f.W" "Identity" <;> simp

/-- `FBlockCircularConvolveSolver`: `f` must be given (`ValueError`), a `SquaredL2Loss` with `A` a `ComposedLinearOperator` (`TypeError`),
    unweighted (`ValueError`) -/
theorem C10_accepts_fblock (F : InitFacts) :
    (initResult (checksOf solverTables "FBlockCircularConvolveSolver") F = .ok () ↔
      (F.fNone = false ∧ F.isinst "admm.f" "SquaredL2Loss" = true ∧ F.isinst "admm.f.A" "ComposedLinearOperator" = true ∧
        F.isinst "admm.f.W" "Identity" = true)) ∧
    (F.fNone = true → initResult (checksOf solverTables "FBlockCircularConvolveSolver") F = .error "value") := by
  simp [checksOf, solverTables, List.lookup, initResult, ClassCheck.fires, guardEval, testEval, errKind]
  cases F.fNone <;> cases F.isinst "admm.f" "SquaredL2Loss" <;> cases F.isinst "admm.f.A" "ComposedLinearOperator" <;>
    cases F.isinst "admm.f.W" "Identity" <;> simp

/-- `G0BlockCircularConvolveSolver`: `f` is `None` or a `ZeroFunctional` (`ValueError`), `g₁` a `SquaredL2Loss`, `C₁` a
    `ComposedLinearOperator` (`TypeError`) -/
theorem C10_accepts_g0 (F : InitFacts) :
    initResult (checksOf solverTables "G0BlockCircularConvolveSolver") F = .ok () ↔
      ((F.fNone = true ∨ F.isinst "admm.f" "ZeroFunctional" = true) ∧ F.isinst "admm.g_list[0]" "SquaredL2Loss" = true ∧
        F.isinst "admm.C_list[0]" "ComposedLinearOperator" = true) := by
  simp [checksOf, solverTables, List.lookup, initResult, ClassCheck.fires, guardEval, testEval, errKind]
  cases F.fNone <;> cases F.isinst "admm.f" "ZeroFunctional" <;> cases F.isinst "admm.g_list[0]" "SquaredL2Loss" <;>
    cases F.isinst "admm.C_list[0]" "ComposedLinearOperator" <;> simp

-- non-vacuity: facts of an ADMM object with f = None and two Diagonal C_i are accepted by MatrixSubproblemSolver
example : initResult (checksOf solverTables "MatrixSubproblemSolver")
    { fNone := true, isinst := fun _ _ => false, ciInst := [fun c => c == "Diagonal", fun c => c == "Diagonal"] } = .ok () := by decide +kernel

end InitChecks

end Scico.Props.C10
