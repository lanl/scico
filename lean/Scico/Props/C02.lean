/-
  Property C02 — proximal operators return the minimiser of `lam·f(x) + ½‖x - v‖²`.
  Property theorems, each followed by the examples that show its hypotheses satisfiable; general lemmas and long proofs are in
  `Scico/Proofs/Prox*.lean`.

  Reading guide.
  * specification side (`Scico.ProxSpec`, written independently of the model):
      `Cert D f lam v p`   : `p ∈ D ∧ ∀ z ∈ D, f p + ⟪(v-p)/lam, z-p⟫ ≤ f z`     (sub-gradient certificate)
      `IsProx D f lam v p` : `p ∈ D` minimises `lam f + ½‖·-v‖²` over `D` with gap `½‖x-p‖²` (⇒ unique)
      `IsGMin D f lam v p` : `p ∈ D` is a global minimiser                         (non-convex `f`)
    `D` is the domain of `f` (`Set.univ` for finite functionals, the constraint set for indicators).
  * model side (`Scico.Prox`, the code as written, instantiated at `ℝ`): `l1Prox`, `l2Prox`, …
  * `toE v` views a model vector as a point of `EuclideanSpace ℝ (Fin n)`; `toCn` a vector of pairs as
    a point of `ℂⁿ` with the real inner product `Re⟨·,·⟩`.  Block arrays and N-d arrays are their
    flattening (the Euclidean structure is the same); groups are given by a labelling.
  Every convex theorem yields, through `C02_prox_of_cert`, `C02_prox_unique`, `C02_prox_firm`,
  `C02_prox_nonexpansive`, `C02_prox_mem_dom`: unique minimiser, firm non-expansiveness, membership in the domain.
-/
import Scico.Proofs.ProxGroup
import Scico.Proofs.ProxSep
import Scico.Proofs.ProxL1L2
import Scico.Proofs.ProxCubic
import Scico.Proofs.ProxNuclear
import Scico.Proofs.ProxCG
import Scico.Proofs.ProxXR

namespace Scico.Props.C02

open Scico.Prox Scico.ProxSpec Scico.ProxBridge Scico.ProxConvex Scico.ProxGroup Scico.ProxSep
  Scico.ProxNonconvex Scico.ProxL1L2 Scico.ProxCubic Scico.ProxNuclear Scico.ProxAxis Scico.ProxCG Scico.ProxEdge WithLp

/-! ## generic theorems (any real inner-product space: ℝⁿ, ℂⁿ with `Re⟨·,·⟩`, block arrays) -/

section Generic
variable {E : Type*} [NormedAddCommGroup E] [InnerProductSpace ℝ E]

/-- certificate ⇒ minimiser, with the quadratic gap `½‖x-p‖²` -/
theorem C02_prox_of_cert {D : Set E} {f : E → ℝ} {lam : ℝ} {v p : E} (hlam : 0 < lam)
    (h : Cert D f lam v p) : IsProx D f lam v p := prox_of_cert hlam h

/-- the minimiser is unique: every global minimiser equals the certified point -/
theorem C02_prox_unique {D : Set E} {f : E → ℝ} {lam : ℝ} {v p q : E} (hlam : 0 < lam)
    (hp : Cert D f lam v p) (hq : IsGMin D f lam v q) : q = p :=
  (prox_of_cert hlam hp).unique hq

/-- firm non-expansiveness of certified points -/
theorem C02_prox_firm {D : Set E} {f : E → ℝ} {lam : ℝ} {v w p q : E} (hlam : 0 < lam)
    (hp : Cert D f lam v p) (hq : Cert D f lam w q) : ‖p - q‖ ^ 2 ≤ inner ℝ (p - q) (v - w) :=
  prox_firm hlam hp hq

/-- hence 1-Lipschitz -/
theorem C02_prox_nonexpansive {D : Set E} {f : E → ℝ} {lam : ℝ} {v w p q : E} (hlam : 0 < lam)
    (hp : Cert D f lam v p) (hq : Cert D f lam w q) : ‖p - q‖ ≤ ‖v - w‖ := prox_nonexpansive hlam hp hq

/-- a certified point lies in the domain of `f` -/
theorem C02_prox_mem_dom {D : Set E} {f : E → ℝ} {lam : ℝ} {v p : E} (h : Cert D f lam v p) : p ∈ D := h.1

/-- converse for convex `f` on a convex domain: a global minimiser carries the certificate
    (so for convex `f` "minimiser" and "certificate" are the same thing) -/
theorem C02_cert_of_min_convex {D : Set E} {f : E → ℝ} {lam : ℝ} {v p : E} (hlam : 0 < lam)
    (hconv : ∀ x ∈ D, ∀ y ∈ D, ∀ t : ℝ, 0 ≤ t → t ≤ 1 →
      (x + t • (y - x)) ∈ D ∧ f (x + t • (y - x)) ≤ (1 - t) * f x + t * f y)
    (h : IsGMin D f lam v p) : Cert D f lam v p := cert_of_min_convex hlam hconv h

/-- separable sums on product spaces (block arrays, coordinate-wise functionals): component
    certificates assemble to the certificate of the sum -/
theorem C02_separable {ι : Type*} [Fintype ι] {F : ι → Type*} [∀ i, NormedAddCommGroup (F i)]
    [∀ i, InnerProductSpace ℝ (F i)] {D : ∀ i, Set (F i)} {φ : ∀ i, F i → ℝ} {lam : ℝ} {v p : PiLp 2 F}
    (h : ∀ i, Cert (D i) (φ i) lam (v i) (p i)) :
    Cert {x : PiLp 2 F | ∀ i, x i ∈ D i} (fun x => ∑ i, φ i (x i)) lam v p := cert_pi h

/-- L2 norm in ANY real inner-product space (ℂⁿ, block arrays): `max(1 - lam/‖v‖, 0)·v`, and `0` at `v = 0` -/
theorem C02_l2_general {lam : ℝ} (hlam : 0 < lam) (v : E) :
    Cert Set.univ (fun x : E => ‖x‖) lam v ((if ‖v‖ = 0 then 0 else max (1 - lam / ‖v‖) 0) • v) :=
  cert_radial_smul hlam v (radCert_id (norm_nonneg v) hlam)

/-- squared L2 norm in any real inner-product space -/
theorem C02_sqL2_general {lam : ℝ} (hlam : 0 < lam) (v : E) :
    Cert Set.univ (fun x : E => ‖x‖ ^ 2) lam v ((1 / (1 + 2 * lam)) • v) := by
  have := cert_radial_smul hlam v (radCert_sq (κ := 1) (t := ‖v‖) zero_le_one hlam)
  simp only [mul_one, one_mul] at this
  exact this

/-- non-separable Huber norm in any real inner-product space -/
theorem C02_huber_nonsep_general {lam delta : ℝ} (hlam : 0 < lam) (hd : 0 < delta) (v : E) :
    Cert Set.univ (fun x : E => huberFn delta ‖x‖) lam v
      ((1 - delta * lam / max ‖v‖ (delta * (1 + lam))) • v) :=
  cert_radial_smul hlam v (radCert_huber hlam hd)

/-- L2-ball indicator in any real inner-product space: `v·(r / max(‖v‖, r))` is the projection
    (inside: `v`; on the sphere: `v`; outside: `r v/‖v‖`; `v = 0`: `0`) -/
theorem C02_l2ball_general {lam rad : ℝ} (hlam : 0 < lam) (hr : 0 < rad) (v : E) :
    Cert {x : E | ‖x‖ ≤ rad} (fun _ => 0) lam v ((rad / max ‖v‖ rad) • v) :=
  cert_radial_smul hlam v (radCert_ball hr)

/-- distance to a closed convex set given its projector `P` (obtuse-angle property) -/
theorem C02_setdist_general {C : Set E} {P : E → E} (hP : ∀ x, IsProjAt C x (P x)) {lam : ℝ} (hlam : 0 < lam)
    (v : E) :
    Cert Set.univ (fun x => ‖x - P x‖) lam v
      ((if ‖v - P v‖ < lam then 1 else lam / ‖v - P v‖) • P v +
        (1 - (if ‖v - P v‖ < lam then 1 else lam / ‖v - P v‖)) • v) := by
  have h := cert_dist hP hlam v (radCert_id (norm_nonneg (v - P v)) hlam)
  rwa [← one_sub_setdist_theta (norm_nonneg _) hlam, ← segment_eq, sub_sub_cancel] at h

/-- half squared distance to a closed convex set given its projector -/
theorem C02_sqsetdist_general {C : Set E} {P : E → E} (hP : ∀ x, IsProjAt C x (P x)) {lam : ℝ} (hlam : 0 < lam)
    (v : E) :
    Cert Set.univ (fun x => 1 / 2 * ‖x - P x‖ ^ 2) lam v
      ((1 / (1 + lam)) • v + (lam * (1 / (1 + lam))) • P v) := by
  have ea : lam * (1 / (1 + lam)) = 1 - 1 / (1 + lam) := by field_simp; ring
  have := cert_dist hP hlam v (radCert_sq (κ := 1 / 2) (t := ‖v - P v‖) one_half_pos.le hlam)
  rw [show (1 : ℝ) + 2 * (1 / 2) * lam = 1 + lam by ring] at this
  rw [ea, add_comm, segment_eq]
  exact this

-- a projector satisfying the obtuse-angle hypothesis: the non-negative orthant in ℝ (P x = max x 0)
example (x : ℝ) : IsProjAt (Set.Ici (0 : ℝ)) x (max x 0) := by
  refine ⟨Set.mem_Ici.mpr (le_max_right _ _), fun z hz => ?_⟩
  have hz' : (0 : ℝ) ≤ z := hz
  simp only [RCLike.inner_apply, conj_trivial]
  rcases le_total x 0 with h | h
  · rw [max_eq_right h]; nlinarith
  · rw [max_eq_left h]; simp

/-- a metric projection is the prox of the indicator of its set -/
theorem C02_indicator_general {C : Set E} {lam : ℝ} {v y : E} (hlam : 0 < lam) (h : IsProjAt C v y) :
    Cert C (fun _ => 0) lam v y :=
  (cert_iff hlam).mpr ⟨h.1, fun z hz => by linear_combination h.2 z hz⟩

/-- generic `Loss` with identity forward operator: translating a certified prox by the datum `y` and scaling the
    parameter by the loss scale `s > 0` gives the certified prox of `x ↦ s·f(x - y)` (orientation matters: `f` need not be even) -/
theorem C02_loss_translate {D : Set E} {f : E → ℝ} {lam s : ℝ} {v y p : E} (hs : 0 < s)
    (h : Cert D f (s * lam) (v - y) p) :
    Cert {x : E | x - y ∈ D} (fun x => s * f (x - y)) lam v (p + y) := cert_translate hs h

end Generic

/-! ## the model's prox maps on `ℝⁿ` (`n` arbitrary) -/

section Real
variable {n : Nat}

/-- `ZeroFunctional.prox` -/
theorem C02_zero {lam : ℝ} (v : Fin n → ℝ) :
    Cert Set.univ (fun _ : EuclideanSpace ℝ (Fin n) => (0 : ℝ)) lam (toE v) (toE (zeroProx v)) :=
  ⟨trivial, fun z _ => by simp [zeroProx]⟩

/-- `L1Norm.prox`, real input -/
theorem C02_l1 {lam : ℝ} (hlam : 0 < lam) (v : Fin n → ℝ) :
    Cert Set.univ (fun x : EuclideanSpace ℝ (Fin n) => ∑ i, |x i|) lam (toE v) (toE (l1Prox v lam)) :=
  cert_sum_toE (φ := fun _ x => |x|) fun i => (l1Prox1_eq (v i) hlam ▸ C02_l2_general hlam (v i) :)

-- soft threshold of (3, -1/2): (2, 0) — and this point is THE minimiser
example : l1Prox (fun i : Fin 2 => if i = 0 then (3 : ℝ) else -1 / 2) 1 0 = 2 := by
  simp [l1Prox, l1Prox1, Prox.posPart, sign]; norm_num
example : IsProx Set.univ (fun x : EuclideanSpace ℝ (Fin 2) => ∑ i, |x i|) 1
    (toE (fun i : Fin 2 => if i = 0 then (3 : ℝ) else -1 / 2))
    (toE (l1Prox (fun i : Fin 2 => if i = 0 then (3 : ℝ) else -1 / 2) 1)) :=
  C02_prox_of_cert one_pos (C02_l1 one_pos _)

/-- `SquaredL2Norm.prox` -/
theorem C02_sqL2 {lam : ℝ} (hlam : 0 < lam) (v : Fin n → ℝ) :
    Cert Set.univ (fun x : EuclideanSpace ℝ (Fin n) => ‖x‖ ^ 2) lam (toE v) (toE (sqL2Prox v lam)) := by
  rw [sqL2Prox_eq]; exact C02_sqL2_general hlam _

/-- `L2Norm.prox` as coded (`norm_v == 0` test, `max(1 - lam/‖v‖, 0)`), including `v = 0` and `‖v‖ ≤ lam` -/
theorem C02_l2 {lam : ℝ} (hlam : 0 < lam) (v : Fin n → ℝ) :
    Cert Set.univ (fun x : EuclideanSpace ℝ (Fin n) => ‖x‖) lam (toE v) (toE (l2Prox v lam)) := by
  rw [l2Prox_eq]; exact C02_l2_general hlam _

/-- `L21Norm.prox` over an ARBITRARY grouping of the entries (any axis, any block structure) -/
theorem C02_l21 {lam : ℝ} (hlam : 0 < lam) (grp : Fin n → ℕ) (v : Fin n → ℝ) :
    Cert Set.univ (l21Fn grp) lam (toE v) (toE (l21Prox grp v lam)) := by
  refine ⟨trivial, fun z _ => ?_⟩
  rw [l21Fn_eq, l21Fn_eq, ← sum_inner_mask grp, ← Finset.sum_add_distrib]
  refine Finset.sum_le_sum fun c _ => ?_
  have h := (C02_l2_general hlam (mask grp c (toE v))).2 (mask grp c z) trivial
  rw [← mask_l21Prox grp c v hlam] at h
  rw [mask_smul, mask_sub, mask_sub]
  exact h

/-- `L21Norm(l2_axis=axes).prox` on an N-d array of shape `shape` (row-major flattening): the labelling is computed by the
    model (`axisGroup`), and `C02_l21_axis_groups` says which entries it groups -/
theorem C02_l21_axes {lam : ℝ} (hlam : 0 < lam) (shape axes : List ℕ) (v : Fin n → ℝ) :
    Cert Set.univ (l21Fn (fun i : Fin n => axisGroup shape axes i.val)) lam (toE v)
      (toE (l21Prox (fun i : Fin n => axisGroup shape axes i.val) v lam)) := C02_l21 hlam _ v

/-- two flat entries of an array of shape `shape` (all dimensions positive) get the same label iff
    their multi-indices (`unravelAt` = `np.unravel_index`) agree along every axis that `l2_axis` does NOT reduce — the
    groups of `(|x|²).sum(axis=axes, keepdims=True)` -/
theorem C02_l21_axis_groups (shape axes : List ℕ) (hpos : ∀ d, d < shape.length → 0 < shape.getD d 1) (i j : ℕ) :
    axisGroup shape axes i = axisGroup shape axes j ↔
      ∀ d, d < shape.length → d ∉ axes → unravelAt shape i d = unravelAt shape j d :=
  axisGroup_eq_iff shape axes hpos i j

-- L21 on shape (2,3), l2_axis = 0: columns are the groups (entries 1 = (0,1) and 4 = (1,1) together, 1 and 2 apart)
example : axisGroup [2, 3] [0] 1 = axisGroup [2, 3] [0] 4 ∧ axisGroup [2, 3] [0] 1 ≠ axisGroup [2, 3] [0] 2 := by decide

/-- `HuberNorm` separable form, real input (`|v_i|` exactly at the threshold included) -/
theorem C02_huber_sep {lam delta : ℝ} (hlam : 0 < lam) (hd : 0 < delta) (v : Fin n → ℝ) :
    Cert Set.univ (fun x : EuclideanSpace ℝ (Fin n) => ∑ i, huberFn delta |x i|) lam (toE v)
      (toE (huberSepProx delta v lam)) :=
  cert_sum_toE (φ := fun _ x => huberFn delta |x|) fun i =>
    (huberSepProx1_eq delta (v i) lam ▸ C02_huber_nonsep_general hlam hd (v i) :)

/-- `HuberNorm` non-separable form -/
theorem C02_huber_nonsep {lam delta : ℝ} (hlam : 0 < lam) (hd : 0 < delta) (v : Fin n → ℝ) :
    Cert Set.univ (fun x : EuclideanSpace ℝ (Fin n) => huberFn delta ‖x‖) lam (toE v)
      (toE (huberNonsepProx delta v lam)) := by
  rw [huberNonsepProx_eq]; exact C02_huber_nonsep_general hlam hd _

/-- `NonNegativeIndicator.prox` -/
theorem C02_nonneg {lam : ℝ} (hlam : 0 < lam) (v : Fin n → ℝ) :
    Cert {x : EuclideanSpace ℝ (Fin n) | ∀ i, 0 ≤ x i} (fun _ => 0) lam (toE v) (toE (nonnegProx v)) := by
  have e : nonnegProx v = fun i => max (v i) 0 := funext fun i => maxP_eq _ _
  rw [e]; exact C02_indicator_general hlam (isProjAt_nonneg v)

/-- `L2BallIndicator.prox` (code after fix b3feb73): inside / on / outside the ball and `v = 0` -/
theorem C02_l2ball {lam rad : ℝ} (hlam : 0 < lam) (hr : 0 < rad) (v : Fin n → ℝ) :
    Cert {x : EuclideanSpace ℝ (Fin n) | ‖x‖ ≤ rad} (fun _ => 0) lam (toE v) (toE (l2ballProx rad v)) := by
  rw [l2ballProx_eq]; exact C02_l2ball_general hlam hr _

/-- `SetDistance.prox` given a projector with the obtuse-angle property -/
theorem C02_setdist {C : Set (EuclideanSpace ℝ (Fin n))} {P : (Fin n → ℝ) → (Fin n → ℝ)}
    (hP : ∀ x, IsProjAt C (toE x) (toE (P x))) {lam : ℝ} (hlam : 0 < lam) (v : Fin n → ℝ) :
    Cert Set.univ (fun x : EuclideanSpace ℝ (Fin n) => ‖x - toE (P (fun i => x i))‖) lam (toE v)
      (toE (setDistProx v (P v) lam)) := by
  rw [setDistProx_eq]
  exact C02_setdist_general (P := fun x => toE (P (fun i => x i))) (fun x => hP _) hlam (toE v)

/-- `SquaredSetDistance.prox` given a projector with the obtuse-angle property -/
theorem C02_sqsetdist {C : Set (EuclideanSpace ℝ (Fin n))} {P : (Fin n → ℝ) → (Fin n → ℝ)}
    (hP : ∀ x, IsProjAt C (toE x) (toE (P x))) {lam : ℝ} (hlam : 0 < lam) (v : Fin n → ℝ) :
    Cert Set.univ (fun x : EuclideanSpace ℝ (Fin n) => 1 / 2 * ‖x - toE (P (fun i => x i))‖ ^ 2) lam (toE v)
      (toE (sqSetDistProx v (P v) lam)) := by
  rw [sqSetDistProx_eq]
  exact C02_sqsetdist_general (P := fun x => toE (P (fun i => x i))) (fun x => hP _) hlam (toE v)

-- the projector hypothesis of C02_setdist / C02_sqsetdist in ℝⁿ: the non-negative orthant, P x = max(x, 0) entry-wise
example {n : ℕ} (x : Fin n → ℝ) :
    IsProjAt {z : EuclideanSpace ℝ (Fin n) | ∀ i, 0 ≤ z i} (toE x) (toE (fun i => max (x i) 0)) := isProjAt_nonneg x

/-- `SquaredL2Loss.prox` with diagonal `A` (identity: `a = 1`) and weights `w ≥ 0` (zeros allowed) -/
theorem C02_sqL2loss_diag {lam scale : ℝ} (hlam : 0 < lam) (hs : 0 ≤ scale) (w a y v : Fin n → ℝ)
    (hw : ∀ i, 0 ≤ w i) :
    Cert Set.univ (fun x : EuclideanSpace ℝ (Fin n) => ∑ i, scale * (w i * (y i - a i * x i) ^ 2)) lam (toE v)
      (toE (sqL2LossDiagProx scale w a y v lam)) :=
  cert_sum_toE (φ := fun i x => scale * (w i * (y i - a i * x) ^ 2)) fun i => cert_sqL2loss_1d hlam hs (hw i) (a i) (y i) (v i)

/-- the model's residual of the CG system is `sysRes` of `Proofs/ProxCG.lean` -/
theorem C02_sqL2loss_sys_model {m : ℕ} (scale lam : ℝ) (w y : Fin m → ℝ) (A : Fin m → Fin n → ℝ) (v x : Fin n → ℝ) :
    sqL2LossSysResidual scale w A y v x lam = sysRes (2 * scale * lam) w A y v x := by
  funext j
  simp only [sqL2LossSysResidual, matTVec, matVec, Vec.sum_eq, sysRes, sysOp, mtv, mv]

/-- `SquaredL2Loss.prox`, any linear operator `A` (dense `m × n`), weights `w ≥ 0`, `scale ≥ 0`: a point where the residual of the
    system handed to `cg` vanishes carries the sub-gradient certificate of `Σ scale·w_i (y_i - (Ax)_i)²` -/
theorem C02_sqL2loss_normal_eq {m : ℕ} {lam scale : ℝ} (hlam : 0 < lam) (hs : 0 ≤ scale) (w y : Fin m → ℝ)
    (hw : ∀ i, 0 ≤ w i) (A : Fin m → Fin n → ℝ) (v p : Fin n → ℝ)
    (hres : ∀ j, sqL2LossSysResidual scale w A y v p lam j = 0) :
    Cert Set.univ (sqL2Fn scale w A y) lam (toE v) (toE p) := by
  rw [C02_sqL2loss_sys_model] at hres
  exact sqL2Fn_eq scale w A y ▸
    ProxCGGen.cert_of_sysRes_zero hlam hs (sysData hw A) _ _ _ (toE_sysRes .. ▸ congrArg toE (funext hres))

-- C02_sqL2loss_normal_eq on numbers: A = (1 1) (1×2), w = 1, y = 3, scale = 1/2, lam = 1, v = (0, 0): the system (I + AᵀA) p = Aᵀy has p = (1, 1)
example : ∀ j, sqL2LossSysResidual (1 / 2 : ℝ) (fun _ : Fin 1 => 1) (fun _ _ => (1 : ℝ)) (fun _ => 3) (fun _ : Fin 2 => 0) (fun _ => 1) 1 j = 0 := by
  intro j
  simp only [sqL2LossSysResidual, matTVec, matVec, Vec.sum_eq, Fin.sum_univ_one, Fin.sum_univ_two]
  norm_num

/-- the CG path for any linear operator, real or complex, on any array layout (index-free): `A : E → F` real-linear between real
    inner-product spaces (`ℂⁿ` with `Re⟨·,·⟩`, block arrays, …), `At` its adjoint (hypothesis `SysData.adj` — property C01 of the operator),
    `W` symmetric positive semi-definite.  The prox of `scale·⟨W(y - Ax), y - Ax⟩` exists, solves the system the code hands to `cg`, and every `x`
    is within `‖residual(x)‖` of it. -/
theorem C02_sqL2loss_cg_general {E F : Type*} [NormedAddCommGroup E] [InnerProductSpace ℝ E] [FiniteDimensional ℝ E]
    [NormedAddCommGroup F] [InnerProductSpace ℝ F] {lam scale : ℝ} (hlam : 0 < lam) (hs : 0 ≤ scale)
    {A : E →ₗ[ℝ] F} {At : F →ₗ[ℝ] E} {W : F →ₗ[ℝ] F} (h : ProxCGGen.SysData A At W) (y : F) (v : E) :
    ∃ p : E, Cert Set.univ (ProxCGGen.lossFn scale A W y) lam v p ∧
      ∀ x : E, ‖x - p‖ ≤ ‖ProxCGGen.sysRes (2 * scale * lam) A At W y v x‖ := by
  have hc : 0 ≤ 2 * scale * lam := by positivity
  obtain ⟨p, hp⟩ := ProxCGGen.exists_sysRes_zero hc h y v
  exact ⟨p, ProxCGGen.cert_of_sysRes_zero hlam hs h y v p hp, fun x => ProxCGGen.dist_le_norm_sysRes hc h y v x p hp⟩

-- the hypothesis `SysData` of C02_sqL2loss_cg_general on COMPLEX data: `A` = multiplication by `a ∈ ℂ` (real-linear), `At` = multiplication by
-- `conj a` (adjoint for `Re⟨·,·⟩`), `W` = identity
example (a : ℂ) : ProxCGGen.SysData (LinearMap.mulLeft ℝ a) (LinearMap.mulLeft ℝ ((starRingEnd ℂ) a)) (LinearMap.id : ℂ →ₗ[ℝ] ℂ) := by
  simpa using sysData_mul_complex a zero_le_one

/-- the CG path is as accurate as its residual: the prox `p` exists, and every `x` (in particular what `cg` returns after its
    stopping test `‖r‖ ≤ tol‖b‖`, or after `maxiter`) satisfies `‖x - p‖ ≤ ‖residual(x)‖` — the system matrix is `⪰ I` -/
theorem C02_sqL2loss_cg_bound {m : ℕ} {lam scale : ℝ} (hlam : 0 < lam) (hs : 0 ≤ scale) (w y : Fin m → ℝ)
    (hw : ∀ i, 0 ≤ w i) (A : Fin m → Fin n → ℝ) (v : Fin n → ℝ) :
    ∃ p : Fin n → ℝ, Cert Set.univ (sqL2Fn scale w A y) lam (toE v) (toE p) ∧
      ∀ x : Fin n → ℝ, ‖toE x - toE p‖ ≤ ‖toE (sqL2LossSysResidual scale w A y v x lam)‖ := by
  obtain ⟨p, hcert, hdist⟩ := C02_sqL2loss_cg_general hlam hs (sysData hw A) (toE y) (toE v)
  refine ⟨fun j => p j, sqL2Fn_eq scale w A y ▸ hcert, fun x => ?_⟩
  rw [C02_sqL2loss_sys_model, toE_sysRes]
  exact hdist (toE x)

/-- `NuclearNorm.prox` on the vector of singular values (`s ≥ 0`): `maximum(0, s - lam)` is the prox of the l1 norm -/
theorem C02_nuclear_sv {lam : ℝ} (hlam : 0 < lam) (s : Fin n → ℝ) (hs : ∀ i, 0 ≤ s i) :
    Cert Set.univ (fun x : EuclideanSpace ℝ (Fin n) => ∑ i, |x i|) lam (toE s) (toE (nuclearSvProx s lam)) := by
  rw [nuclearSvProx_eq_l1Prox hlam s hs]; exact C02_l1 hlam s

/-- `Loss.prox` as coded (`f.prox(v - y, scale*lam) + y`) for ANY wrapped functional whose model prox is certified -/
theorem C02_loss_generic {D : Set (EuclideanSpace ℝ (Fin n))} {f : EuclideanSpace ℝ (Fin n) → ℝ}
    {fprox : (Fin n → ℝ) → ℝ → (Fin n → ℝ)} {lam scale : ℝ} (hs : 0 < scale) (y v : Fin n → ℝ)
    (hf : Cert D f (scale * lam) (toE (fun i => v i - y i)) (toE (fprox (fun i => v i - y i) (scale * lam)))) :
    Cert {x : EuclideanSpace ℝ (Fin n) | x - toE y ∈ D} (fun x => scale * f (x - toE y)) lam (toE v)
      (toE (lossTranslateProx fprox scale y v lam)) := by
  have e : toE (lossTranslateProx fprox scale y v lam) = toE (fprox (fun i => v i - y i) (scale * lam)) + toE y := rfl
  rw [e]
  exact cert_translate hs hf

/-- instance: generic `Loss` wrapping the (non-even) `NonNegativeIndicator`: the constraint `x ≥ y` -/
theorem C02_loss_nonneg {lam scale : ℝ} (hlam : 0 < lam) (hs : 0 < scale) (y v : Fin n → ℝ) :
    Cert {x : EuclideanSpace ℝ (Fin n) | x - toE y ∈ {x : EuclideanSpace ℝ (Fin n) | ∀ i, 0 ≤ x i}}
      (fun _ => scale * 0) lam (toE v) (toE (lossTranslateProx (fun u _ => nonnegProx u) scale y v lam)) :=
  C02_loss_generic (f := fun _ => 0) (fprox := fun u _ => nonnegProx u) hs y v
    (C02_nonneg (mul_pos hs hlam) _)

-- generic Loss around the non-negative indicator: v = -1, y = 2 gives max(v, y) = 2 (not min, not y - max(y - v, 0) = -1)
example : lossTranslateProx (fun u _ => nonnegProx u) (1 : ℝ) (fun _ : Fin 1 => 2) (fun _ => -1) 1 0 = 2 := by
  simp [lossTranslateProx, nonnegProx, nonnegProx1, maxP]; norm_num

end Real

/-! ## block arrays -/

section Block
variable {B : ℕ} {sz : Fin B → ℕ}

/-- `L1Norm.prox` on a block array (`BlockArray` = product space of its blocks): block-wise soft threshold -/
theorem C02_block_l1 {lam : ℝ} (hlam : 0 < lam) (v : ∀ b : Fin B, Fin (sz b) → ℝ) :
    Cert Set.univ (fun x : PiLp 2 (fun b : Fin B => EuclideanSpace ℝ (Fin (sz b))) => ∑ b, ∑ i, |x b i|) lam
      (toLp 2 (fun b => toE (v b))) (toLp 2 (fun b => toE (l1Prox (v b) lam))) :=
  cert_sum_univ (F := fun b : Fin B => EuclideanSpace ℝ (Fin (sz b))) (φ := fun _ x => ∑ i, |x i|)
    fun b => C02_l1 hlam (v b)

/-- `L21Norm(l2_axis=None).prox` on a block array: the functional is the sum of the block norms, the prox shrinks every
    block radially (`new_length · v_b/‖v_b‖`, and `0` for a zero block) -/
theorem C02_block_l21 {lam : ℝ} (hlam : 0 < lam) (v : PiLp 2 (fun b : Fin B => EuclideanSpace ℝ (Fin (sz b)))) :
    Cert Set.univ (fun x : PiLp 2 (fun b : Fin B => EuclideanSpace ℝ (Fin (sz b))) => ∑ b, ‖x b‖) lam v
      (toLp 2 (fun b => (if ‖v b‖ = 0 then 0 else max (1 - lam / ‖v b‖) 0) • v b)) :=
  cert_sum_univ (F := fun b : Fin B => EuclideanSpace ℝ (Fin (sz b))) (φ := fun _ x => ‖x‖)
    fun b => C02_l2_general hlam (v b)

end Block

/-! ## complex input: `ℂⁿ` as a real inner-product space -/

section Complex
variable {n : Nat}

/-- the phase factor of the code, `exp(1j * angle(v))`, is the model's `cphase v` (`v/|v|`, `1` at `v = 0`) -/
theorem C02_phase (z : ℝ × ℝ) :
    toC (cphase z) = Complex.exp (Complex.I * (Complex.arg (toC z) : ℂ)) := by
  rw [toC_cphase]
  split_ifs with h
  · have hx := Complex.norm_mul_exp_arg_mul_I (toC z)
    rw [mul_comm Complex.I]
    nth_rewrite 2 [← hx]
    rw [Complex.real_smul, Complex.ofReal_inv, inv_mul_cancel_left₀ (by exact_mod_cast h.ne')]
  · rw [norm_eq_zero.1 (le_antisymm (not_lt.1 h) (norm_nonneg _)), Complex.arg_zero, Complex.ofReal_zero, mul_zero,
      Complex.exp_zero]

/-- `L1Norm.prox`, complex input (modulus shrinkage along the phase `v/|v|`) -/
theorem C02_l1_complex {lam : ℝ} (hlam : 0 < lam) (v : Fin n → ℝ × ℝ) :
    Cert Set.univ (fun x : PiLp 2 (fun _ : Fin n => ℂ) => ∑ i, ‖x i‖) lam (toCn v) (toCn (l1ProxC v lam)) :=
  cert_sum_toCn (φ := fun _ x => ‖x‖) fun i => l1ProxC1_eq (v i) hlam ▸ C02_l2_general hlam (toC (v i))

/-- `HuberNorm` separable form, complex input -/
theorem C02_huber_sep_complex {lam delta : ℝ} (hlam : 0 < lam) (hd : 0 < delta) (v : Fin n → ℝ × ℝ) :
    Cert Set.univ (fun x : PiLp 2 (fun _ : Fin n => ℂ) => ∑ i, huberFn delta ‖x i‖) lam (toCn v)
      (toCn (huberSepProxC delta v lam)) :=
  cert_sum_toCn (φ := fun _ x => huberFn delta ‖x‖) fun i =>
    huberSepProxC1_eq delta (v i) lam ▸ C02_huber_nonsep_general hlam hd (toC (v i))

/-- `SquaredL2Loss.prox` with complex diagonal `A`, complex data, weights `w ≥ 0` -/
theorem C02_sqL2loss_diag_complex {lam scale : ℝ} (hlam : 0 < lam) (hs : 0 ≤ scale) (w : Fin n → ℝ)
    (a y v : Fin n → ℝ × ℝ) (hw : ∀ i, 0 ≤ w i) :
    Cert Set.univ (fun x : PiLp 2 (fun _ : Fin n => ℂ) => ∑ i, scale * (w i * ‖toC (y i) - toC (a i) * x i‖ ^ 2))
      lam (toCn v) (toCn (sqL2LossDiagProxC scale w a y v lam)) :=
  cert_sum_toCn (φ := fun i x => scale * (w i * ‖toC (y i) - toC (a i) * x‖ ^ 2)) fun i =>
    cert_sqL2loss_1d_complex hlam hs (hw i) (a i) (y i) (v i)

end Complex

/-! ## non-convex functionals: global minimisers by direct argument -/

section Nonconvex
variable {n : Nat}

/-- SPEC: number of non-zero entries -/
noncomputable def l0Fn (x : EuclideanSpace ℝ (Fin n)) : ℝ := ∑ i, l0Fn1 (x i)

/-- `L0Norm.prox` (threshold `|v_i| ≥ lam`, as coded and documented), exact characterisation:
    its output is a global minimiser of `lam‖x‖₀ + ½‖x-v‖²` IFF every entry satisfies
    `(lam ≤ |v_i| → 2 lam ≤ v_i²) ∧ (|v_i| < lam → v_i² ≤ 2 lam)`;  in particular for every `v`
    when `lam = 2`, and for no `v` having an entry with `lam ≤ |v_i| < √(2 lam)`. -/
theorem C02_l0_partial {lam : ℝ} (hlam : 0 < lam) (v : Fin n → ℝ) :
    IsGMin Set.univ l0Fn lam (toE v) (toE (l0Prox v lam)) ↔ ∀ i, L0Cond |v i| lam :=
  isGMin_sum_toE_iff (φ := fun _ => l0Fn1) |>.trans (forall_congr' fun i => isGMin_l0_iff hlam (v i))

/-- a witness of the negation: `v = 1.2`, `lam = 1` — the code returns `1.2` (objective `1`),
    `x = 0` has objective `0.72`. -/
theorem C02_l0_not_min :
    ¬ IsGMin Set.univ l0Fn (1 : ℝ) (toE (fun _ : Fin 1 => (6 / 5 : ℝ))) (toE (l0Prox (fun _ : Fin 1 => (6 / 5 : ℝ)) 1)) := by
  rw [C02_l0_partial one_pos]
  intro h
  have := (h 0).1 (by rw [abs_of_pos] <;> norm_num)
  rw [abs_of_pos (by norm_num)] at this
  norm_num at this

-- the L0 condition holds for lam = 2 and every t (so C02_l0_partial is not vacuous) and fails at t = 6/5, lam = 1
example (t : ℝ) (ht : 0 ≤ t) : L0Cond t 2 :=
  ⟨fun h => by linarith [mul_self_nonneg (t - 2)],
   fun h => by linarith [mul_nonneg (sub_nonneg.2 h.le) (add_nonneg ht zero_le_two)]⟩
example : ¬ L0Cond (6 / 5) 1 := fun h => by have := h.1 (by norm_num); norm_num at this

/-- what the minimiser is: the hard threshold at `v_i² ≥ 2 lam` is optimal for every `v`, `lam > 0` -/
theorem C02_l0_spec {lam : ℝ} (hlam : 0 < lam) (v : Fin n → ℝ) :
    IsGMin Set.univ l0Fn lam (toE v) (toE (fun i => if (v i) ^ 2 < 2 * lam then 0 else v i)) := by
  refine (isGMin_sum_toE_iff (φ := fun _ => l0Fn1)).2 fun i => ?_
  have := isGMin_l0_spec hlam (v i)
  rwa [Real.norm_eq_abs, sq_abs] at this

/-- `L0Norm.prox`, complex input: the same exact characterisation with the modulus -/
theorem C02_l0_complex_partial {lam : ℝ} (hlam : 0 < lam) (v : Fin n → ℝ × ℝ) :
    IsGMin Set.univ (fun x : PiLp 2 (fun _ : Fin n => ℂ) => ∑ i, l0Fn1 (x i)) lam (toCn v) (toCn (l0ProxC v lam))
      ↔ ∀ i, L0Cond ‖toC (v i)‖ lam :=
  (isGMin_sum_toCn_iff (φ := fun _ => l0Fn1)).trans
    (forall_congr' fun i => (toC_l0ProxC1_eq (v i) lam ▸ isGMin_l0_iff hlam (toC (v i)) :))

/-- `SquaredL2AbsLoss.prox`, real input: global minimiser of `Σ scale·w_i (y_i - |x_i|)²` (`y ≥ 0`, `w ≥ 0`, zeros allowed) -/
theorem C02_sqL2Abs {lam scale : ℝ} (hlam : 0 < lam) (hs : 0 ≤ scale) (w y v : Fin n → ℝ)
    (hw : ∀ i, 0 ≤ w i) (hy : ∀ i, 0 ≤ y i) :
    IsGMin Set.univ (fun x : EuclideanSpace ℝ (Fin n) => ∑ i, scale * w i * (y i - |x i|) ^ 2) lam (toE v)
      (toE (sqL2AbsProx scale w y v lam)) :=
  (isGMin_sum_toE_iff (φ := fun i x => scale * w i * (y i - ‖x‖) ^ 2)).2 fun i =>
    (sqL2AbsProx1_eq scale (w i) (y i) (v i) lam ▸ isGMin_sqL2Abs hlam hs (hw i) (hy i) (v i) (1 : ℝ) norm_one :)

/-- `SquaredL2AbsLoss.prox`, complex input -/
theorem C02_sqL2Abs_complex {lam scale : ℝ} (hlam : 0 < lam) (hs : 0 ≤ scale) (w y : Fin n → ℝ)
    (v : Fin n → ℝ × ℝ) (hw : ∀ i, 0 ≤ w i) (hy : ∀ i, 0 ≤ y i) :
    IsGMin Set.univ (fun x : PiLp 2 (fun _ : Fin n => ℂ) => ∑ i, scale * w i * (y i - ‖x i‖) ^ 2) lam (toCn v)
      (toCn (sqL2AbsProxC scale w y v lam)) :=
  (isGMin_sum_toCn_iff (φ := fun i x => scale * w i * (y i - ‖x‖) ^ 2)).2 fun i =>
    (toC_sqL2AbsProxC1_eq scale (w i) (y i) (v i) lam ▸ isGMin_sqL2Abs hlam hs (hw i) (hy i) (toC (v i)) (1 : ℂ) norm_one :)

/-- why `SquaredL2AbsLoss` advertises its prox only for data `y ≥ 0` (the `snp.all(y >= 0)` guard of the constructor):
    with `y = -1`, `v = 1/2`, `scale = 1/2`, `w = 1`, `lam = 1` the formula returns `-1/4` (objective `17/16`) while `x = 0`
    has objective `5/8` — the hypothesis `hy` of `C02_sqL2Abs` cannot be dropped. -/
theorem C02_sqL2Abs_negative_y_not_min :
    ¬ IsGMin Set.univ (fun x : EuclideanSpace ℝ (Fin 1) => ∑ i, (1 / 2 : ℝ) * (fun _ => (1 : ℝ)) i * ((fun _ => (-1 : ℝ)) i - |x i|) ^ 2)
        1 (toE (fun _ : Fin 1 => (1 / 2 : ℝ)))
        (toE (sqL2AbsProx (1 / 2) (fun _ : Fin 1 => (1 : ℝ)) (fun _ => -1) (fun _ => 1 / 2) 1)) := by
  intro h
  have h0 := (isGMin_real_iff.1 ((isGMin_sum_toE_iff
    (φ := fun i x => (1 / 2 : ℝ) * (fun _ => (1 : ℝ)) i * ((fun _ => (-1 : ℝ)) i - |x|) ^ 2)).1 h 0)).2 0 trivial
  simp only [sqL2AbsProx, sqL2AbsProx1, hasAbs_abs] at h0
  norm_num at h0

/-- `SquaredL2SquaredAbsLoss.prox`, real input, GIVEN the root relation: global minimiser of `Σ scale·w_i (y_i - |x_i|²)²`,
    weights `w ≥ 0` (zeros allowed), any `y` -/
theorem C02_sqL2SqAbs {lam scale : ℝ} (hlam : 0 < lam) (hs : 0 ≤ scale) (w y v r : Fin n → ℝ)
    (hw : ∀ i, 0 ≤ w i) (hroot : ∀ i, CubicRootOK lam scale (w i) (y i) |v i| (r i)) :
    IsGMin Set.univ (fun x : EuclideanSpace ℝ (Fin n) => ∑ i, scale * w i * (y i - |x i| ^ 2) ^ 2) lam (toE v)
      (toE (sqL2SqAbsProx scale w v lam r)) :=
  (isGMin_sum_toE_iff (φ := fun i x => scale * w i * (y i - ‖x‖ ^ 2) ^ 2)).2 fun i =>
    (sqL2SqAbsProx1_eq scale (w i) (v i) lam (r i) ▸ isGMin_sqL2SqAbs_entry hlam hs (hw i) (v i) (1 : ℝ) norm_one (hroot i) :)

/-- `SquaredL2SquaredAbsLoss.prox`, complex input, given the root relation -/
theorem C02_sqL2SqAbs_complex {lam scale : ℝ} (hlam : 0 < lam) (hs : 0 ≤ scale) (w y : Fin n → ℝ)
    (v : Fin n → ℝ × ℝ) (r : Fin n → ℝ) (hw : ∀ i, 0 ≤ w i)
    (hroot : ∀ i, CubicRootOK lam scale (w i) (y i) ‖toC (v i)‖ (r i)) :
    IsGMin Set.univ (fun x : PiLp 2 (fun _ : Fin n => ℂ) => ∑ i, scale * w i * (y i - ‖x i‖ ^ 2) ^ 2) lam (toCn v)
      (toCn (sqL2SqAbsProxC scale w v lam r)) :=
  (isGMin_sum_toCn_iff (φ := fun i x => scale * w i * (y i - ‖x‖ ^ 2) ^ 2)).2 fun i =>
    (toC_sqL2SqAbsProxC1_eq scale (w i) (v i) lam (r i) ▸
      isGMin_sqL2SqAbs_entry hlam hs (hw i) (toC (v i)) (1 : ℂ) norm_one (hroot i) :)

-- the root hypothesis of C02_sqL2SqAbs is satisfiable: lam = 1/4, scale = 1, w = 1 (alpha = 1), y = 0, |v| = 2, r = 1
example : CubicRootOK (1 / 4) 1 1 0 2 1 := by
  intro _
  refine ⟨by norm_num, ?_, by norm_num⟩
  rw [depCubicP_of_pos (by norm_num), depCubicQ_of_pos (by norm_num)]; norm_num

/-- `_dep_cubic_root` as coded (complex square root, `_cbrt` with the principal complex power, `Re(w - p/(3w))`): for
    `q ≤ 0` and `p` outside the band `0 < |p| ≤ eps` (`eps` = the literal `1e-7`) the returned value is a non-negative root of
    `r³ + p r + q`, and `0` only if `p ≥ 0` — in all three regimes (`p = 0`; `Δ ≥ 0`: Cardano; `Δ < 0`: trigonometric). -/
theorem C02_cubic_root {eps p q : ℝ} (heps : 0 ≤ eps) (hq : q ≤ 0) (hband : p = 0 ∨ eps < |p|) :
    0 ≤ depCubicRoot eps p q ∧ depCubicRoot eps p q ^ 3 + p * depCubicRoot eps p q + q = 0 ∧
      (depCubicRoot eps p q = 0 → 0 ≤ p) := depCubicRoot_ok heps hq hband

/-- inside the band the code's value is in general NOT a root (documented compromise of `_dep_cubic_root`):
    `p = eps`, `q = -1` leaves the residual `-eps³/27 ≠ 0` -/
theorem C02_cubic_root_band_not_root {eps : ℝ} (heps : 0 < eps) :
    depCubicRoot eps eps (-1) ^ 3 + eps * depCubicRoot eps eps (-1) + (-1) ≠ 0 := by
  rw [depCubicRoot_band_residual_eq (by norm_num) (abs_of_pos heps).le]
  exact div_ne_zero (pow_ne_zero 3 heps.ne') (by norm_num)

/-- the error of `_dep_cubic_root` inside its band, quantified: for `q < 0` and `|p| ≤ eps` the residual of the cubic at the
    returned value is EXACTLY `p³/(27 q)`, so `|r³ + p r + q| ≤ eps³/(27|q|)` (`eps = 1e-7`: `≤ 3.8e-23/|q|`) -/
theorem C02_cubic_root_band_residual {eps p q : ℝ} (hq : q < 0) (hp : |p| ≤ eps) :
    depCubicRoot eps p q ^ 3 + p * depCubicRoot eps p q + q = p ^ 3 / (27 * q) ∧
      |depCubicRoot eps p q ^ 3 + p * depCubicRoot eps p q + q| ≤ eps ^ 3 / (27 * |q|) := by
  refine ⟨depCubicRoot_band_residual_eq hq hp, ?_⟩
  rw [depCubicRoot_band_residual_eq hq hp, abs_div, abs_mul, abs_pow, abs_of_pos (by norm_num : (0 : ℝ) < 27)]
  exact div_le_div_of_nonneg_right (pow_le_pow_left₀ (abs_nonneg p) hp 3) (mul_pos (by norm_num) (abs_pos.2 hq.ne)).le

/-- inside the band at `q = 0` (`v_i = 0`) the code returns `0`; it is a root, and for `p < 0` the other non-negative root `√(-p)`
    (the stationary radius that `C02_sqL2SqAbs` would select) is at most `√eps` away -/
theorem C02_cubic_root_band_zero {eps p : ℝ} (hp : |p| ≤ eps) :
    depCubicRoot eps p 0 = 0 ∧ (p < 0 → √(-p) ≤ √eps) :=
  ⟨by rw [depCubicRoot_band (le_refl 0) hp, neg_zero, Real.zero_rpow (by norm_num), mul_zero, div_zero, sub_zero],
    fun hneg => Real.sqrt_le_sqrt (by rw [abs_of_neg hneg] at hp; exact hp)⟩

/-- `SquaredL2SquaredAbsLoss.prox` with the root computed by the code's closed form (no relation assumed), real input:
    global minimiser whenever no entry falls into the band `0 < |p_i| ≤ eps` of `_dep_cubic_root` -/
theorem C02_sqL2SqAbs_closed {eps lam scale : ℝ} (heps : 0 ≤ eps) (hlam : 0 < lam) (hs : 0 ≤ scale)
    (w y v : Fin n → ℝ) (hw : ∀ i, 0 ≤ w i)
    (hband : ∀ i, 0 < lam * 4 * scale * w i →
      depCubicP scale (w i) (y i) lam = 0 ∨ eps < |depCubicP scale (w i) (y i) lam|) :
    IsGMin Set.univ (fun x : EuclideanSpace ℝ (Fin n) => ∑ i, scale * w i * (y i - |x i| ^ 2) ^ 2) lam (toE v)
      (toE (sqL2SqAbsProxFull eps scale w y v lam)) :=
  C02_sqL2SqAbs hlam hs w y v
    (fun i => depCubicRoot eps (depCubicP scale (w i) (y i) lam) (depCubicQ scale (w i) |v i| lam)) hw
    (fun i => cubicRootOK_model heps (abs_nonneg _) (hband i))

/-- the same for complex input -/
theorem C02_sqL2SqAbs_closed_complex {eps lam scale : ℝ} (heps : 0 ≤ eps) (hlam : 0 < lam) (hs : 0 ≤ scale)
    (w y : Fin n → ℝ) (v : Fin n → ℝ × ℝ) (hw : ∀ i, 0 ≤ w i)
    (hband : ∀ i, 0 < lam * 4 * scale * w i →
      depCubicP scale (w i) (y i) lam = 0 ∨ eps < |depCubicP scale (w i) (y i) lam|) :
    IsGMin Set.univ (fun x : PiLp 2 (fun _ : Fin n => ℂ) => ∑ i, scale * w i * (y i - ‖x i‖ ^ 2) ^ 2) lam (toCn v)
      (toCn (sqL2SqAbsProxFullC eps scale w y v lam)) :=
  C02_sqL2SqAbs_complex hlam hs w y v
    (fun i => depCubicRoot eps (depCubicP scale (w i) (y i) lam) (depCubicQ scale (w i) (cabs (v i)) lam)) hw
    (fun i => by rw [← cabs_eq]; exact cubicRootOK_model heps (by rw [cabs_eq]; exact norm_nonneg _) (hband i))

-- the band hypothesis of C02_sqL2SqAbs_closed on a concrete entry: lam = 1/4, scale = w = 1 (alpha = 1), y = 0 gives p = 1
example : depCubicP (1 : ℝ) 1 0 (1 / 4) = 0 ∨ (1 / 10 ^ 7 : ℝ) < |depCubicP (1 : ℝ) 1 0 (1 / 4)| := by
  right
  have : depCubicP (1 : ℝ) 1 0 (1 / 4) = 1 := by rw [depCubicP_of_pos (by norm_num)]; norm_num
  rw [this]; norm_num

-- the root relation is DISCHARGED by the model of `_dep_cubic_root` there (no assumption left): alpha = 1, y = 0, |v| = 2
example : CubicRootOK (1 / 4) 1 1 0 2 (depCubicRoot (1 / 10 ^ 7) (depCubicP 1 1 0 (1 / 4)) (depCubicQ 1 1 2 (1 / 4))) :=
  cubicRootOK_model (by positivity) (by norm_num) (fun _ => by
    right
    have : depCubicP (1 : ℝ) 1 0 (1 / 4) = 1 := by rw [depCubicP_of_pos (by norm_num)]; norm_num
    rw [this]; norm_num)

/-- `L1MinusL2Norm.prox` (real input, every `beta ≥ 0`, every `v`): the formula of the code — the four `where`
    branches and the `v = 0` case as repaired in cda1690 — is a global minimiser of `lam(‖x‖₁ - beta‖x‖₂) + ½‖x-v‖²`. -/
theorem C02_l1l2 {lam beta : ℝ} (hlam : 0 < lam) (hb : 0 ≤ beta) (v : Fin n → ℝ) :
    IsGMin Set.univ (l1l2Fn beta) lam (toE v) (toE (l1l2Prox beta v lam)) := isGMin_l1l2Prox hlam hb v

-- the functional of C02_l1l2 vanishes at (1, 0), the point the one-sparse branch returns for v = (1, 1/2), lam = 1, beta = 1
-- (the example evaluates `l1l2Fn`, not the prox)
example : l1l2Fn 1 (toE (fun i : Fin 2 => if i = 0 then (1 : ℝ) else 0)) = 0 := by
  unfold l1l2Fn
  rw [norm_onesparse, l1_onesparse, abs_one, one_mul, sub_self]

/-- `L1MinusL2Norm.prox`, complex input: the code works with the moduli and phases of `v` only
    (`l1l2ProxC` = the real map on `|v|`, times the phases); it is a global minimiser of
    `lam(Σ|x_i| - beta‖x‖₂) + ½‖x-v‖²` on `ℂⁿ`, for every `beta ≥ 0` and every `v`. -/
theorem C02_l1l2_complex {lam beta : ℝ} (hlam : 0 < lam) (hb : 0 ≤ beta) (v : Fin n → ℝ × ℝ) :
    IsGMin Set.univ (l1l2FnC beta) lam (toCn v) (toCn (l1l2ProxC beta v lam)) := by
  have hmv : moduli (toCn v) = toE fun i => cabs (v i) := by
    unfold moduli; congr 1
  have := isGMin_of_moduli (g := l1l2Fn beta) (toCn v) (fun i => toC (cphase (v i))) (l1l2Prox beta (fun i => cabs (v i)) lam)
    (fun i => norm_toC_cphase (v i)) (fun i => toC_eq_norm_smul_cphase (v i)) (l1l2Fn_abs beta _)
    (hmv ▸ isGMin_l1l2Prox hlam hb fun i => cabs (v i))
  have hp : toCn (l1l2ProxC beta v lam) = toLp 2 fun i => l1l2Prox beta (fun i => cabs (v i)) lam i • toC (cphase (v i)) := by
    unfold toCn l1l2ProxC; congr 1; funext i; rw [toC_cscale]
  rw [hp, show l1l2FnC beta = fun x => l1l2Fn beta (moduli x) from funext (l1l2FnC_eq beta)]
  exact this

end Nonconvex

/-! ## nuclear norm: the matrix problem (not only the singular values) -/

section Nuclear
variable {m n k : ℕ}

/-- `NuclearNorm.prox` on `m × n` real matrices.  `U`, `s`, `Vh` are what `svd(v, full_matrices=False)` returned
    (CONTRACT, checked numerically by the tie on every case: orthonormal columns of `U`, orthonormal rows of `Vh`, `s ≥ 0`,
    `v = U diag(s) Vh`).  The nuclear norm is specified as the dual of the operator norm (`nucDual`, no SVD in its definition;
    `C02_nuclear_norm_is_sum_sv`: it is the sum of the singular values wherever an SVD exists).  Then
    `svdU @ diag(maximum(0, svdS - lam)) @ svdV` carries the sub-gradient certificate — hence is THE minimiser of
    `lam‖X‖_* + ½‖X - v‖_F²`, firmly non-expansive.  Neither the existence of SVDs of other matrices nor a trace inequality
    (von Neumann) is assumed: the proof needs Bessel and Cauchy–Schwarz only. -/
theorem C02_nuclear {lam : ℝ} (hlam : 0 < lam) (U : Fin m → Fin k → ℝ) (s : Fin k → ℝ) (Vh : Fin k → Fin n → ℝ)
    (hU : Orthonormal ℝ (colE U)) (hV : Orthonormal ℝ (rowE Vh)) (hs : ∀ l, 0 ≤ s l) :
    Cert Set.univ (nucDual ℝ (outerM (m := m) (n := n))) lam (matE (usvMat U s Vh)) (matE (nuclearProx U s Vh lam)) := by
  rw [matE_usvMat, matE_nuclearProx]
  exact cert_nuclear_dual isOuter_outerM bddAbove_matE hlam ⟨hU, hV, hs, rfl⟩

/-- `NuclearNorm.prox` on complex matrices (real inner product `Re tr(AᴴB)`): the same statement; `u_l` are the columns of
    `U`, `w_l` the conjugated rows of `Vh` (so that `U diag(s) Vh = Σ s_l u_l w_lᴴ`) -/
theorem C02_nuclear_complex {lam : ℝ} (hlam : 0 < lam) (U : Fin m → Fin k → ℝ × ℝ) (s : Fin k → ℝ)
    (Vh : Fin k → Fin n → ℝ × ℝ)
    (hU : Orthonormal ℂ (colC (fun i l => toC (U i l)))) (hV : Orthonormal ℂ (rowConjC (fun l j => toC (Vh l j))))
    (hs : ∀ l, 0 ≤ s l) :
    Cert Set.univ (nucDual ℂ (outerC (m := m) (n := n))) lam (matC (fun i j => toC (usvMatC U s Vh i j)))
      (matC (fun i j => toC (nuclearProxC U s Vh lam i j))) := by
  rw [matC_usvMatC, matC_nuclearProxC]
  exact cert_nuclear_dual isOuter_outerC bddAbove_matC hlam ⟨hU, hV, hs, rfl⟩

-- hypotheses of C02_nuclear on a concrete SVD: U = Vh = identity (2×2), s = (3, 1)
example : Orthonormal ℝ (colE (fun i l : Fin 2 => if i = l then (1 : ℝ) else 0)) := by
  have e : colE (fun i l : Fin 2 => if i = l then (1 : ℝ) else 0) = fun l => EuclideanSpace.single l 1 := by
    funext l; ext i; simp only [colE, PiLp.single_apply]
  rw [e]; exact EuclideanSpace.orthonormal_single

/-- the specification `nucDual` (dual of the operator norm) IS the sum of the singular values on every matrix that has a thin
    SVD — i.e. the value `NuclearNorm.__call__` computes, `sum(svd(x, compute_uv=False))` -/
theorem C02_nuclear_norm_is_sum_sv {Z : MatE m n} {u : Fin k → EuclideanSpace ℝ (Fin m)} {s : Fin k → ℝ}
    {w : Fin k → EuclideanSpace ℝ (Fin n)} (h : IsSVD ℝ outerM Z u s w) :
    nucDual ℝ (outerM (m := m) (n := n)) Z = ∑ i, s i := nucDual_eq_sum_sv isOuter_outerM h

-- thin SVDs in the sense of `IsSVD` exist: every 1 × 1 matrix z is |z| · (1)(sign z)ᵀ (the hypotheses of C02_nuclear_norm_is_sum_sv)
example : ∀ Z : MatE 1 1, ∃ (k : ℕ) (u : Fin k → EuclideanSpace ℝ (Fin 1)) (s : Fin k → ℝ)
    (w : Fin k → EuclideanSpace ℝ (Fin 1)), IsSVD ℝ outerM Z u s w := by
  intro Z
  have h1 : ∀ c : ℝ, |c| = 1 → Orthonormal ℝ (fun _ : Fin 1 => (toLp 2 (fun _ => c) : EuclideanSpace ℝ (Fin 1))) := fun c hc =>
    ⟨fun _ => by rw [EuclideanSpace.norm_eq, Fin.sum_univ_one, Real.norm_eq_abs, hc, one_pow, Real.sqrt_one],
      fun i j hij => absurd (Subsingleton.elim i j) hij⟩
  refine ⟨1, fun _ => toLp 2 (fun _ => 1), fun _ => |Z (0, 0)|,
    fun _ => toLp 2 (fun _ => if Z (0, 0) < 0 then -1 else 1), h1 1 abs_one, h1 _ ?_, fun _ => abs_nonneg _, ?_⟩
  · split_ifs
    · rw [abs_neg, abs_one]
    · exact abs_one
  · ext ij
    obtain ⟨a, b⟩ := ij
    rw [Subsingleton.elim a 0, Subsingleton.elim b 0]
    by_cases h : Z (0, 0) < 0
    · simp [outerM, h, abs_of_neg h]
    · simp [outerM, h, abs_of_nonneg (not_lt.mp h)]

/-- the sum of the singular values is independent of the thin SVD chosen (what makes "the nuclear norm" of the code,
    `sum(svd(x, compute_uv=False))`, a function of the matrix) -/
theorem C02_nuclear_sum_sv_unique {k' : ℕ} {Z : MatE m n} {u : Fin k → EuclideanSpace ℝ (Fin m)} {s : Fin k → ℝ}
    {w : Fin k → EuclideanSpace ℝ (Fin n)} {u' : Fin k' → EuclideanSpace ℝ (Fin m)} {s' : Fin k' → ℝ}
    {w' : Fin k' → EuclideanSpace ℝ (Fin n)} (h : IsSVD ℝ outerM Z u s w) (h' : IsSVD ℝ outerM Z u' s' w') :
    ∑ i, s i = ∑ j, s' j := sum_sv_unique isOuter_outerM h h'

end Nuclear

/-! ## parameter edge cases: what the code does outside the documented parameter range, and whether it still minimises -/

section Edge
variable {n : ℕ}

/-- `L2BallIndicator(radius=0)`: for `v ≠ 0` the code returns `0`, the projection onto `{0}` (at `v = 0`: `0/0`, NaN) -/
theorem C02_l2ball_zero_radius {lam : ℝ} (v : Fin n → ℝ) (hv : toE v ≠ 0) :
    Cert {x : EuclideanSpace ℝ (Fin n) | ‖x‖ ≤ 0} (fun _ => 0) lam (toE v) (toE (l2ballProx 0 v)) :=
  cert_ball_zero_radius v hv

/-- `L2BallIndicator(radius<0)`: the domain is empty — nothing can be a minimiser — and the code returns a point of norm `-radius` -/
theorem C02_l2ball_negative_radius {rad : ℝ} (hr : rad < 0) (v : Fin n → ℝ) (hv : toE v ≠ 0) :
    {x : EuclideanSpace ℝ (Fin n) | ‖x‖ ≤ rad} = ∅ ∧ ‖toE (l2ballProx rad v)‖ = -rad := by
  constructor
  · ext x; simp only [Set.mem_ofPred_eq, Set.mem_empty_iff_false, iff_false, not_le]
    exact lt_of_lt_of_le hr (norm_nonneg x)
  · have hpos : 0 < ‖toE v‖ := norm_pos_iff.mpr hv
    rw [l2ballProx_eq, max_eq_left (by linarith), norm_smul, Real.norm_eq_abs, abs_div, abs_of_neg hr, abs_of_pos hpos]
    field_simp

/-- `HuberNorm(delta<0, separable=False)`, `v ≠ 0`: the functional is concave in `‖x‖` but the objective is still minimised by the
    code's formula (`v` pushed outwards by `-delta·lam`) -/
theorem C02_huber_nonsep_negative_delta {lam delta : ℝ} (hlam : 0 < lam) (hd : delta < 0) (v : Fin n → ℝ) (hv : toE v ≠ 0) :
    IsGMin Set.univ (fun x : EuclideanSpace ℝ (Fin n) => huberFn delta ‖x‖) lam (toE v) (toE (huberNonsepProx delta v lam)) := by
  rw [huberNonsepProx_eq, max_eq_left ((mul_neg_of_neg_of_pos hd (by linarith)).le.trans (norm_nonneg _))]
  exact isGMin_huber_neg hlam hd hv

/-- `SquaredL2Loss` (diagonal `A`) with ANY sign of `scale` and of the weights: the formula is the global minimiser as long as every
    denominator `1 + 2·scale·lam·w_i·a_i²` is positive (no convexity of the loss itself is needed) -/
theorem C02_sqL2loss_diag_anyscale {lam scale : ℝ} (w a y v : Fin n → ℝ)
    (hden : ∀ i, 0 < 2 * scale * lam * a i * w i * a i + 1) :
    IsGMin Set.univ (fun x : EuclideanSpace ℝ (Fin n) => ∑ i, scale * (w i * (y i - a i * x i) ^ 2)) lam (toE v)
      (toE (sqL2LossDiagProx scale w a y v lam)) :=
  (isGMin_sum_toE_iff (φ := fun i x => scale * (w i * (y i - a i * x) ^ 2))).2 fun i => isGMin_sqL2loss_1d_anyscale (hden i)

-- the denominator hypothesis of C02_sqL2loss_diag_anyscale with a NEGATIVE scale: scale = -1/4, lam = w = a = 1 gives 1/2 > 0
example : (0 : ℝ) < 2 * (-1 / 4) * 1 * 1 * 1 * 1 + 1 := by norm_num

/-- with a negative denominator it is not (witness `scale = -1`, `w = a = lam = 1`, `y = v = 0`: returns `0`, but `x = 1` has objective `-½`) -/
theorem C02_sqL2loss_diag_negscale_not_min :
    ¬ IsGMin Set.univ (fun x : EuclideanSpace ℝ (Fin 1) => ∑ i, (-1 : ℝ) * ((fun _ => (1 : ℝ)) i * ((fun _ => (0 : ℝ)) i - (fun _ => (1 : ℝ)) i * x i) ^ 2))
        1 (toE (fun _ : Fin 1 => (0 : ℝ)))
        (toE (sqL2LossDiagProx (-1) (fun _ : Fin 1 => (1 : ℝ)) (fun _ => 1) (fun _ => 0) (fun _ => 0) 1)) := by
  intro h
  have h1 := (isGMin_real_iff.1 ((isGMin_sum_toE_iff
    (φ := fun i x => (-1 : ℝ) * ((fun _ => (1 : ℝ)) i * ((fun _ => (0 : ℝ)) i - (fun _ => (1 : ℝ)) i * x) ^ 2))).1 h 0)).2 1 trivial
  simp only [sqL2LossDiagProx, sqL2LossDiagProx1] at h1
  norm_num at h1

end Edge

/-! ## non-finite entries (`±inf`, `NaN`): what the entry-wise proxes return (model at the IEEE-extended scalar `XR ℚ`) -/

section NonFinite
open Scico.StepSize Scico.ProxXR

/-- `L1Norm.prox`: an infinite entry stays infinite (the minimiser of `lam|x| + ½(x-v)²` escapes with `v`), a NaN entry stays NaN -/
theorem C02_nonfinite_l1 (lam : Rat) :
    l1Prox1 (XR.pinf : X) (XR.fin lam) = XR.pinf ∧ l1Prox1 (XR.ninf : X) (XR.fin lam) = XR.ninf ∧
      l1Prox1 (XR.nan : X) (XR.fin lam) = XR.nan := ⟨rfl, rfl, rfl⟩

/-- `NonNegativeIndicator.prox`: `+inf ↦ +inf`, `-inf ↦ 0`, `NaN ↦ NaN` (`jnp.maximum` propagates NaN); finite entries as over `ℚ` -/
theorem C02_nonfinite_nonneg (a : Rat) :
    nonnegProx1 (XR.pinf : X) = XR.pinf ∧ nonnegProx1 (XR.ninf : X) = (0 : X) ∧ nonnegProx1 (XR.nan : X) = XR.nan ∧
      nonnegProx1 (XR.fin a : X) = XR.fin (nonnegProx1 a) := by
  refine ⟨rfl, rfl, rfl, ?_⟩
  unfold nonnegProx1 maxP
  show (if (XR.fin a : X) < XR.fin 0 then _ else _) = _
  simp only [XR.fin_lt_fin]
  by_cases h : a < 0
  · rw [if_pos h, if_pos h]; rfl
  · rw [if_neg h, if_neg h]

/-- `HuberNorm` (separable): `±inf ↦ ±inf`, `NaN ↦ NaN`, for every finite `delta`, `lam` -/
theorem C02_nonfinite_huber_sep (delta lam : Rat) :
    huberSepProx1 (XR.fin delta) (XR.pinf : X) (XR.fin lam) = XR.pinf ∧
      huberSepProx1 (XR.fin delta) (XR.ninf : X) (XR.fin lam) = XR.ninf ∧
      huberSepProx1 (XR.fin delta) (XR.nan : X) (XR.fin lam) = XR.nan := ⟨huber_inf delta lam true, huber_inf delta lam false, rfl⟩

/-- `SquaredL2Norm.prox`: `±inf ↦ ±inf` (`lam > 0`), `NaN ↦ NaN` -/
theorem C02_nonfinite_sqL2 {lam : Rat} (hlam : 0 < lam) :
    sqL2Prox1 (XR.pinf : X) (XR.fin lam) = XR.pinf ∧ sqL2Prox1 (XR.ninf : X) (XR.fin lam) = XR.ninf ∧
      sqL2Prox1 (XR.nan : X) (XR.fin lam) = XR.nan := ⟨(sqL2_inf hlam).1, (sqL2_inf hlam).2, rfl⟩

/-- `L0Norm.prox` (`where(|v| >= lam, v, 0)`, transcription `l0Prox1X`): a NaN entry fails the comparison and is replaced by `0`
    — the NaN is silently dropped —, `±inf` is kept, and on finite entries it is the main model `l0Prox1` -/
theorem C02_nonfinite_l0 (a lam : Rat) :
    l0Prox1X (XR.nan : X) (XR.fin lam) = (0 : X) ∧ l0Prox1X (XR.pinf : X) (XR.fin lam) = XR.pinf ∧
      l0Prox1X (XR.ninf : X) (XR.fin lam) = XR.ninf ∧
      l0Prox1X (XR.fin a : X) (XR.fin lam) = l0Prox1 (XR.fin a : X) (XR.fin lam) := ⟨rfl, rfl, rfl, l0_fin a lam⟩

end NonFinite

/-! ## the flags: a prox is advertised only where the theorems above apply -/

section Guards

/-- `SquaredL2AbsLoss` / `SquaredL2SquaredAbsLoss` advertise a prox exactly when the constructor accepted the weights
    (`W` absent or a non-negative `Diagonal` — hypothesis `hw`), `A` is the identity and the data are non-negative
    (hypothesis `hy` of `C02_sqL2Abs`, shown necessary by `C02_sqL2Abs_negative_y_not_min`) -/
theorem C02_guard_abs (w : WArg) (a : AArg) (yn : Bool) :
    absLossGuard w a yn = .hasProxClosed ↔
      (w = .none ∨ w = .diagNonneg) ∧ (a = .none ∨ a = .identity) ∧ yn = true := by
  cases w <;> cases a <;> cases yn <;> simp [absLossGuard, wGuard]

/-- `SquaredL2Loss` uses the closed form of `C02_sqL2loss_diag` exactly for accepted weights and `A` absent / identity /
    diagonal; every other linear operator goes to conjugate gradient (not exact: `C02_sqL2loss_cg_bound` bounds the error by the residual),
    a non-linear one has no prox -/
theorem C02_guard_sqL2 (w : WArg) (a : AArg) :
    (sqL2LossGuard w a = .hasProxClosed ↔
      (w = .none ∨ w = .diagNonneg) ∧ (a = .none ∨ a = .identity ∨ a = .diagonal)) ∧
    (sqL2LossGuard w a = .hasProxCG ↔ (w = .none ∨ w = .diagNonneg) ∧ a = .otherLinop) := by
  cases w <;> cases a <;> simp [sqL2LossGuard, wGuard]

end Guards

end Scico.Props.C02
