/-
  Property C08 — proximal calculus rules and capability flags.  Property theorems and their examples;
  the lemmas they rest on in `Scico/Proofs/ProxCalc*.lean`, in `ProxSpec` / `ProxGeneric` (the abstract rules) and in `Except`.

  Abstract layer (`Scico.ProxCalcAbs`): `E` is any real inner-product space — `ℝⁿ`, `ℂⁿ` under
  `Re⟨·,·⟩`, N-d arrays, block arrays (`PiLp 2`).  A functional with values in `ℝ ∪ {+∞}` is a
  pair (domain, finite values); `IsProx f lam v p` is the definition of `p ∈ prox_{lam f}(v)` by
  minimisation (no convexity, no uniqueness assumed), `Cert` the sub-gradient certificate.
  Model layer (`Scico.ProxCalc`): the constructor tree `Fn`, `prox`, `eval`, `conjProx`, flags.
-/
import Mathlib.Analysis.InnerProductSpace.Adjoint
import Scico.Proofs.ProxCalcAbs
import Scico.Proofs.ProxCalcSound

namespace Scico.Props.C08
open Scico.ProxCalcAbs Scico.ProxCalc Scico.FuncEval

/-! the environments and trees of the examples -/
section nonvacuity

/-- over ℚ, leaf 0 has both operations, every other leaf has neither -/
def exEnv : Env ℚ where
  hasEval := fun i => i == 0
  hasProx := fun i => i == 0
  eval := fun _ _ => 0
  prox := fun _ v _ => v
  opEval := fun _ x => x
  solve := fun _ _ _ _ v => v
  cplx := false

def exTree : Fn ℚ := .scaled 2 (.scons (.loss (.arr [1, 2]) none (.leaf 0) 3) (.scons (.leaf 0) .snil))

/-- over ℝ, every leaf is `ZeroFunctional` (prox = identity) -/
def zEnv : Env ℝ where
  hasEval := fun _ => true
  hasProx := fun _ => true
  eval := fun _ _ => 0
  prox := fun _ v _ => v
  opEval := fun _ x => x
  solve := fun _ _ _ _ v => v
  cplx := false

def zSem : LeafSem := ⟨fun _ _ => True, fun _ _ => 0⟩

noncomputable def zTree : Fn ℝ := .scaled 2 (.scons (.loss (.arr [1, 2]) none (.leaf 0) 3) (.scons (.leaf 0) .snil))

end nonvacuity

section abstract
variable {E : Type*} [NormedAddCommGroup E] [InnerProductSpace ℝ E]

/-- `prox_{lam (c f)} = prox_{(lam c) f}`: `p` is a proximal point of `c·f` with parameter `lam`
    iff it is one of `f` with parameter `lam·c` — and `lam·c` is exactly the parameter
    `ScaledFunctional.prox` passes on (second conjunct, about the model of the code). -/
theorem C08_scaled (f : ExtFn E) (c lam : ℝ) (v p : E) :
    (IsProx (f.smul c) lam v p ↔ IsProx f (lam * c) v p) ∧
    (∀ {α : Type} [Add α] [Sub α] [Mul α] [Div α] [Neg α] [Zero α] [One α] [LT α] [DecidableLT α]
       [HasSqrt α] (En : Env α) (g : Fn α) (c' lam' : α) (w : Arg α),
       prox En (.scaled c' g) w lam' = prox En g w (lam' * c')) :=
  ⟨isProx_smul_iff f c lam v p, fun _ _ _ _ _ => rfl⟩

-- non-vacuity: f = 0 on ℝ, c = 2: every v is its own proximal point
example : IsProx ((⟨Set.univ, fun _ => 0⟩ : ExtFn ℝ).smul 2) 1 (3 : ℝ) 3 :=
  (isProx_smul_iff _ 2 1 3 3).2 (isProx_zero _ _)

/-- `Loss.prox`: `f.prox(v − y, scale·lam) + y` is a proximal point of `x ↦ scale·f(x − y)`
    with parameter `lam`; conversely every proximal point arises this way. -/
theorem C08_loss_translate (f : ExtFn E) (y : E) (α lam : ℝ) (v : E) :
    (∀ q, IsProx f (α * lam) (v - y) q → IsProx (f.lossOf y α) lam v (q + y)) ∧
    (∀ p, IsProx (f.lossOf y α) lam v p ↔ IsProx f (α * lam) (v - y) (p - y)) :=
  ⟨fun q h => isProx_lossOf_of f y α lam v q h, fun p => isProx_lossOf_iff f y α lam v p⟩

example : IsProx ((⟨Set.univ, fun _ => 0⟩ : ExtFn ℝ).lossOf 1 2) 1 (3 : ℝ) (2 + 1) :=
  isProx_lossOf_of _ 1 2 1 3 2 ((by norm_num : (2 : ℝ) = 3 - 1) ▸ isProx_zero _ _)

/-- a certificate gives a proximal point, and for a convex functional every proximal point
    carries the certificate (so the two formulations used below agree on convex functionals) -/
theorem C08_cert_iff_prox (f : ExtFn E) (hconv : ConvexOn ℝ f.dom f.val) {lam : ℝ} (hl : 0 < lam) (v p : E) :
    Cert f lam v p ↔ IsProx f lam v p :=
  ⟨isProx_of_cert hl, cert_of_isProx_convex hconv hl⟩

/-- Moreau: for convex `f` (any domain, no lower semicontinuity needed), if
    `q ∈ prox_{f/lam}(v/lam)` then `conj_prox`'s value `v − lam·q` is a proximal point of the
    Fenchel conjugate `f*` (defined as a supremum, `+∞` where unbounded) with parameter `lam`;
    in particular `v = lam·q + prox_{lam f*}(v)`. -/
theorem C08_moreau (f : ExtFn E) (hconv : ConvexOn ℝ f.dom f.val) {lam : ℝ} (hl : 0 < lam) (v q : E)
    (h : IsProx f (1 / lam) ((1 / lam) • v) q) :
    IsProx f.conj lam v (v - lam • q) ∧ v = lam • q + (v - lam • q) := by
  exact ⟨isProx_of_cert hl (cert_conj_of_cert f hl (cert_of_isProx_convex hconv (one_div_pos.2 hl) h)),
    (add_sub_cancel _ _).symm⟩

/-- the form in the property statement: with `p = prox_{lam f}(v)`,
    `(v − p)/lam` is a proximal point of `f*/lam` at `v/lam`, i.e. `v = p + lam·prox_{f*/lam}(v/lam)` -/
theorem C08_moreau_identity (f : ExtFn E) (hconv : ConvexOn ℝ f.dom f.val) {lam : ℝ} (hl : 0 < lam) (v p : E)
    (h : IsProx f lam v p) :
    IsProx f.conj (1 / lam) ((1 / lam) • v) ((1 / lam) • (v - p)) ∧
      v = p + lam • ((1 / lam) • (v - p)) := by
  have h' : IsProx f (1 / (1 / lam)) ((1 / (1 / lam)) • ((1 / lam) • v)) p := by
    rwa [one_div_one_div, smul_smul, mul_one_div_cancel hl.ne', one_smul]
  obtain ⟨h1, _⟩ := C08_moreau f hconv (one_div_pos.2 hl) ((1 / lam) • v) p h'
  rw [← smul_sub] at h1
  exact ⟨h1, by rw [smul_smul, mul_one_div_cancel hl.ne', one_smul, add_sub_cancel]⟩

-- non-vacuity: f = 0 on ℝ is convex, prox is the identity; conj_prox returns v − lam·(v/lam) = 0
example : IsProx (⟨Set.univ, fun _ => 0⟩ : ExtFn ℝ).conj 2 (3 : ℝ) (3 - (2 : ℝ) • ((1 / 2 : ℝ) • 3)) :=
  (C08_moreau (⟨Set.univ, fun _ => 0⟩ : ExtFn ℝ) ⟨convex_univ, fun _ _ _ _ _ _ _ _ _ => by simp⟩
    (by norm_num : (0 : ℝ) < 2) 3 ((1 / 2 : ℝ) • 3)
    (isProx_zero _ _)).1

end abstract

/-- block-wise proximal points are exactly the proximal points of the separable sum on the
    `ℓ²` product of any finite family of inner-product spaces (any number of blocks, blocks of
    different spaces): what `SeparableFunctional.prox` computes. -/
theorem C08_separable {ι : Type*} [Fintype ι] [DecidableEq ι] {E : ι → Type*}
    [∀ i, NormedAddCommGroup (E i)] [∀ i, InnerProductSpace ℝ (E i)]
    (f : ∀ i, ExtFn (E i)) (lam : ℝ) (v p : PiLp 2 E) :
    IsProx (ExtFn.sep f) lam v p ↔ ∀ i, IsProx (f i) lam (v i) (p i) :=
  ProxSpec.isGMin_pi_iff (D := fun i => (f i).dom) (φ := fun i => (f i).val)

example : IsProx (ExtFn.sep (fun _ : Fin 2 => (⟨Set.univ, fun _ => 0⟩ : ExtFn ℝ))) 1
    (WithLp.toLp 2 ![1, 2]) (WithLp.toLp 2 ![1, 2]) :=
  (C08_separable _ 1 _ _).2 fun _ => isProx_zero _ _

/-- before the repair 689de28 a non-positive scale was advertised although the forwarded prox is not a minimiser:
    for `f = |·|` on ℝ, `c = −1`, `lam = 1`, `v = 0` the wrapper returns `prox_{−1·|·|}(0)` as
    computed by `L1Norm.prox` (`sign(0)·… = 0`), but `0` does not minimise `−|x| + x²/2`
    (the value at `x = 1` is `−1/2 < 0`). -/
theorem C08_scaled_nonpositive_counterexample :
    ¬ IsProx ((⟨Set.univ, fun x : ℝ => |x|⟩ : ExtFn ℝ).smul (-1)) 1 0 0 := by
  intro h
  have := h.2 1 trivial
  simp only [proxObj, ExtFn.smul] at this
  norm_num at this

section flags
variable {α : Type} [Add α] [Sub α] [Mul α] [Div α] [Neg α] [Zero α] [One α] [LT α] [DecidableLT α]
  [HasSqrt α]

/-- flags are truthful — a cleared flag: for every nesting of scaling / sum / separable /
    loss wrappers, when `has_eval` is `False` the call raises for every argument, and when
    `has_prox` is `False` the prox raises for every argument — except that a `ScaledFunctional`
    with a non-positive scale clears the flag while still forwarding (`ScaledPos` excludes it). -/
theorem C08_flags_unadvertised_raises (En : Env α) (t : Fn α) :
    (hasProx En t = false → ScaledPos t → ∀ v lam, Raises (prox En t v lam)) ∧
    (hasEval En t = false → ∀ x, Raises (eval En t x)) :=
  ⟨fun h hp v lam => prox_raises_of_not_hasProx En t v lam h hp,
   fun h x => eval_raises_of_not_hasEval En t x h⟩

/-- flags are truthful — a set flag: when the flag is set and the argument conforms to the tree
    (block counts, shapes of measurements / weights / diagonals), `prox` and `__call__` return a
    value (of the argument's shape): an advertised operation does not raise.  That the value
    returned by `prox` *is* the prox of the denoted functional is `C08_tree_sound` (generic
    wrappers) and `C08_sqL2_*` (`SquaredL2Loss`). -/
theorem C08_flags_advertised_available (En : Env α) (hE : En.ShapeOk) (t : Fn α) (v : Arg α) (lam : α)
    (hc : Conforms En t v) :
    (hasProx En t = true → Generic t → ∃ p, prox En t v lam = .ok p ∧ p.shapeEq v) ∧
    (hasEval En t = true → ∃ r, eval En t v = .ok r) ∧
    (∀ y A w s, t = .sqL2 y A w s → hasProx En t = true → ∃ p, prox En t v lam = .ok p) :=
  ⟨fun h hg => let ⟨p, hp⟩ := proxTo_of_hasProx En hE t v lam h hg hc; ⟨p, hp.prox_eq, hp.shapeEq hE hg⟩,
   fun h => let ⟨r, hr⟩ := evalTo_of_hasEval En t v h hc; ⟨r, hr.eval_eq⟩,
   fun y A w s ht h => by subst ht; exact sqL2_prox_ok En y A w s v lam h hc⟩

/-- the repaired flags are never more generous than the rule of the tree before the repairs -/
theorem C08_flags_repaired_le_old (En : Env α) (t : Fn α) :
    (hasProx En t = true → hasProxOld En t = true) ∧ (hasEval En t = true → hasEvalOld En t = true) :=
  ⟨hasProxOld_of_hasProx En t, hasEvalOld_of_hasEval En t⟩

end flags

-- non-vacuity of the flag theorems on `exEnv`, `exTree`
example : hasProx exEnv exTree = true ∧ hasEval exEnv exTree = true := by decide
example : Conforms exEnv exTree (.blk [[5, 6], [7]]) :=
  ⟨_, _, rfl, ⟨by simp [Arg.shapeEq, Env.applyOpt], fun _ _ => trivial⟩, _, _, rfl, trivial, rfl⟩
example : hasProx exEnv (.scaled 2 (.sum (.leaf 0) (.leaf 0))) = false ∧ ScaledPos (.scaled (2 : ℚ) (.sum (.leaf 0) (.leaf 0))) :=
  ⟨by decide, by simp [ScaledPos]⟩

/-- the rule of the tree before the repairs 1a0aadd / 689de28 was not truthful:
    `Loss(y, f=f₁+f₂)` declared `has_prox = True` while its `prox` raises for every argument, and
    `Loss(y)` (`f=None`) declared `has_eval = True` and cannot be evaluated. -/
theorem C08_flags_old_rule_counterexamples (En : Env ℚ) (y : Arg ℚ) :
    (hasProxOld En (.loss y none (.sum (.leaf 0) (.leaf 1)) 1) = true ∧
      ∀ v lam, Raises (prox En (.loss y none (.sum (.leaf 0) (.leaf 1)) 1) v lam)) ∧
    (hasEvalOld En (.lossNone y none 1) = true ∧ ∀ x, Raises (eval En (.lossNone y none 1) x)) :=
  ⟨⟨rfl, fun v lam => prox_raises_of_not_hasProx En _ v lam rfl ⟨trivial, trivial⟩⟩,
   ⟨rfl, fun x => eval_raises_of_not_hasEval En _ x rfl⟩⟩

/-- kinds of scale objects: `ScaledFunctional.has_prox` is set exactly when the wrapped functional has a prox and the
    scale is a positive real *or a real tracer* (inside `jit` the sign is unknown at construction time: the flag is kept,
    and is truthful iff the run-time value is positive); complex-dtype scales (also `2+0j`, also complex tracers) and
    non-positive reals clear it -/
theorem C08_scale_kinds (inner : Bool) (k : ScaleKind) :
    scaledHasProxOf inner k = true ↔ inner = true ∧ (k = .posReal ∨ k = .tracedReal) := by
  cases k <;> cases inner <;> simp [scaledHasProxOf]

example : scaledHasProxOf true .complex = false ∧ scaledHasProxOf true .tracedReal = true := by decide

/-- the model of `Functional.conj_prox` is `v − lam · prox(v / lam, 1 / lam)` (so `C08_moreau` applies to
    it with `q` the value of the inner `prox` call) -/
theorem C08_conj_prox_model {α : Type} [Add α] [Sub α] [Mul α] [Div α] [Neg α] [Zero α] [One α] [LT α] [DecidableLT α]
    [HasSqrt α] (En : Env α) (t : Fn α) (v r : Arg α) (lam : α) (h : conjProx En t v lam = .ok r) :
    ∃ q, prox En t (Arg.map (· / lam) v) (1 / lam) = .ok q ∧ Arg.sub v (Arg.smul lam q) = .ok r :=
  bind_eq_ok.1 h

example : conjProx exEnv (.leaf 0) (.arr [4, 6]) 2 = .ok (.arr [0, 0]) := by
  unfold conjProx
  rw [(ProxTo.leaf (E := exEnv) (i := 0) rfl).prox_eq]
  simp [exEnv, Arg.map, Arg.smul, Arg.sub, Arg.zip, zipSame, Except.map, bind, Except.bind]
  norm_num

/-- keyword arguments (`prox(v, lam, **kwargs)`, e.g. the initial guess `x0`): through every nesting of
    `ScaledFunctional`, `SeparableFunctional`, `Loss` (and `conj_prox`, which calls `prox`) whoever receives keyword
    arguments — the base functionals and the CG-branch `SquaredL2Loss` nodes listed by `kwPlan` — receives exactly the
    caller's dictionary.  The other two conjuncts say what the model's `sqL2X0` is (the CG starting point: `x0` when given
    and not `None`, zeros otherwise); nothing calls it: in `prox` the solver is the opaque `Env.solve`, and the harness compares the starting point the
    real `cg` receives with the same rule written in Python (`harness/c08.py`, `sql2.x0`). -/
theorem C08_kwargs_forwarded {α κ : Type} [Add α] [Sub α] [Mul α] [Div α] [Neg α] [Zero α] [One α] [LT α] [DecidableLT α]
    [HasSqrt α] (En : Env α) (t : Fn α) (kw : κ) (x0 v : List α) :
    (∀ c ∈ kwPlan En t kw, c.2 = kw) ∧ sqL2X0 (some x0) v = x0 ∧ sqL2X0 none v = v.map (fun _ => 0) :=
  ⟨kwPlan_forward En t kw, rfl, rfl⟩

-- `2 * Separable([Loss(y, f=leaf0, scale=3), leaf0])`: both occurrences of leaf 0 receive the dictionary (here the token 7)
example : kwPlan exEnv exTree (7 : Nat) = [(.inl 0, 7), (.inl 0, 7)] := by decide

/-- `SeparableFunctional` applied to a plain array (its documented argument is a `BlockArray`): the code accepts it
    iff `ndim = k` (`ValueError` otherwise) and then acts as the separable functional of the first `min(k, shape[0])`
    functionals on the block array of the first `min(k, shape[0])` slices along the leading axis (`zip` stops at the
    shorter list) — for `__call__` and for `prox` (which returns a `BlockArray`).  In particular on an array with
    exactly `k` leading slices it is the documented separable sum of `C08_separable` / `C09_separable_eval`. -/
theorem C08_separable_plain_array {α : Type} [Add α] [Sub α] [Mul α] [Div α] [Neg α] [Zero α] [One α] [LT α]
    [DecidableLT α] [HasSqrt α] (En : Env α) (fs : List (Fn α)) (shape : List Nat) (x : List α) (lam : α) :
    (shape.length ≠ fs.length → evalSepPlain En fs shape x = .error .value ∧ proxSepPlain En fs shape x lam = .error .value) ∧
    (shape.length = fs.length →
      let rows := leadingSlices shape En.cplx x
      let n := min fs.length rows.length
      evalSepPlain En fs shape x = eval En (Fn.sep (fs.take n)) (.blk (rows.take n)) ∧
      proxSepPlain En fs shape x lam = prox En (Fn.sep (fs.take n)) (.blk (rows.take n)) lam) :=
  ⟨fun h => by simp [evalSepPlain, proxSepPlain, h],
   fun h => by
     simp only [evalSepPlain, proxSepPlain, h, if_true]
     exact ⟨evalZip_eq En fs _, proxZip_eq En fs _ lam⟩⟩

-- two functionals on a (3, 2) array: only the first two rows are used
example : leadingSlices [3, 2] false [(1 : ℚ), 2, 3, 4, 5, 6] = [[1, 2], [3, 4], [5, 6]] := by decide
example : evalSepPlain exEnv [.leaf 0, .leaf 0] [3] [(1 : ℚ), 2, 3] = .error .value := by decide

section sql2
variable {E F : Type*} [NormedAddCommGroup E] [InnerProductSpace ℝ E] [NormedAddCommGroup F]
  [InnerProductSpace ℝ F]

/-- `SquaredL2Loss.prox`: for a linear `A`, symmetric positive semi-definite `W` and `lam·α ≥ 0`,
    `x` is the prox of `α‖Ax − y‖²_W` at `v` iff it solves
    `(I + 2αλ AᴴWA) x = v + 2αλ AᴴW y` (weak form: tested against every direction). -/
theorem C08_sqL2_normal_eq (A : E →ₗ[ℝ] F) (W : F →ₗ[ℝ] F)
    (hsym : ∀ a b, inner ℝ (W a) b = inner ℝ a (W b)) (hpos : ∀ a, 0 ≤ inner ℝ (W a) a) (y : F)
    {α lam : ℝ} (hal : 0 ≤ lam * α) (v x : E) :
    IsProx (sqL2Fn A W y α) lam v x ↔ NormalEq A W y α lam v x := by
  -- along every line `x + t·d` the objective is a quadratic in `t` with non-negative leading coefficient
  -- (`proxObj_sqL2_line`): it is minimal at `t = 0` iff its linear coefficient, the tested expression, vanishes
  constructor
  · intro h d
    refine lin_zero_of_quadratic_nonneg (q := lam * α * inner ℝ (W (A d)) (A d) + (1 / 2) * ‖d‖ ^ 2) fun t => ?_
    have := h.2 (x + t • d) (Set.mem_univ _)
    rwa [proxObj_sqL2_line A W hsym, add_assoc, le_add_iff_nonneg_right] at this
  · intro h
    refine ⟨Set.mem_univ _, fun z _ => ?_⟩
    have := proxObj_sqL2_line A W hsym y α lam v x (z - x) 1
    rw [one_smul, add_sub_cancel, h (z - x), mul_zero, add_zero] at this
    rw [this]
    exact le_add_of_nonneg_right
      (mul_nonneg (sq_nonneg 1) (add_nonneg (mul_nonneg hal (hpos _)) (mul_nonneg one_half_pos.le (sq_nonneg _))))

/-- the same with the adjoint written out (complete spaces, bounded operators): the system
    `x + 2αλ Aᴴ W A x = v + 2αλ Aᴴ W y` — the `lhs`/`rhs` `SquaredL2Loss.prox` hands to `cg` -/
theorem C08_sqL2_normal_eq_adjoint [CompleteSpace E] [CompleteSpace F] (A : E →L[ℝ] F) (W : F →L[ℝ] F)
    (hsym : ∀ a b, inner ℝ (W a) b = inner ℝ a (W b)) (hpos : ∀ a, 0 ≤ inner ℝ (W a) a) (y : F)
    {α lam : ℝ} (hal : 0 ≤ lam * α) (v x : E) :
    IsProx (sqL2Fn (A : E →ₗ[ℝ] F) (W : F →ₗ[ℝ] F) y α) lam v x ↔
      x + (2 * α * lam) • (ContinuousLinearMap.adjoint A) (W (A x)) =
        v + (2 * α * lam) • (ContinuousLinearMap.adjoint A) (W y) :=
  (C08_sqL2_normal_eq _ _ hsym hpos y hal v x).trans <| by
    -- the tested expression is the inner product of `d` with the residual of the system
    have key : ∀ d : E, inner ℝ (x - v) d + 2 * α * lam * inner ℝ (W (A x - y)) (A d) =
        inner ℝ (x - v + (2 * α * lam) • (ContinuousLinearMap.adjoint A) (W (A x - y))) d := fun d => by
      rw [inner_add_left, real_inner_smul_left, ContinuousLinearMap.adjoint_inner_left]
    rw [← sub_eq_zero, add_sub_add_comm, ← smul_sub, ← map_sub, ← map_sub]
    simp only [NormalEq, ContinuousLinearMap.coe_coe, key]
    exact ⟨fun h => inner_self_eq_zero.1 (h _), fun h d => by rw [h, inner_zero_left]⟩

-- non-vacuity: A = W = id on ℝ, α = 1/2, lam = 1, y = 1, v = 3: x = 2 solves (1+1)x = 3+1
example : IsProx (sqL2Fn (LinearMap.id : ℝ →ₗ[ℝ] ℝ) LinearMap.id 1 (1 / 2)) 1 (3 : ℝ) 2 :=
  (C08_sqL2_normal_eq LinearMap.id LinearMap.id (fun _ _ => rfl) (fun a => real_inner_self_nonneg)
    1 (by norm_num) 3 2).2 fun d => by simp; ring

end sql2

/-- the system `SquaredL2Loss.prox` hands to `cg` — `lhs = Identity + lam * hessian`,
    `hessian = 2·scale·AᴴWA`, `rhs = v + 2·lam·scale·AᴴW y` (model `sqL2Lhs`, `sqL2Rhs`) — is entry by
    entry the system of `C08_sqL2_normal_eq`: `x + 2·scale·lam·(AᴴWA x)` and `v + 2·scale·lam·(AᴴW y)` -/
theorem C08_sqL2_cg_system {F : Type} [Field F] (scale lam : F) (ahwa : List F → List F) (ahwy v x : List F) :
    sqL2Lhs scale lam ahwa x = List.zipWith (fun xi ti => xi + 2 * scale * lam * ti) x (ahwa x) ∧
    sqL2Rhs scale lam ahwy v = List.zipWith (fun vi ti => vi + 2 * scale * lam * ti) v ahwy := by
  unfold sqL2Lhs sqL2Rhs
  simp only [List.zipWith_map_right]
  constructor <;> (congr 1; funext a b; ring)

section diag
variable {K : Type} [Field K] [LinearOrder K] [IsStrictOrderedRing K]

/-- diagonal `A` (real or complex data, entry by entry): the closed form returned by the
    `isinstance(A, Diagonal)` branch (model `sqL2DiagProx`, one entry = `diagEntry`) solves the
    scalar complex normal equation `(1 + c·conj(a)·w·a)·x = v + c·conj(a)·w·y`, `c = 2·scale·lam`,
    and is the minimiser of the entry's objective (the objective is a sum over entries). -/
theorem C08_sqL2_diag_closed_form {c w : K} (hc : 0 ≤ c) (hw : 0 ≤ w) (ar ai yr yi vr vi : K) :
    let x := diagEntry c w ar ai yr yi vr vi
    ((1 + c * (w * (ar * ar + ai * ai))) * x.1 = vr + c * (ar * (w * yr) + ai * (w * yi)) ∧
     (1 + c * (w * (ar * ar + ai * ai))) * x.2 = vi + c * (ar * (w * yi) - ai * (w * yr))) ∧
    (∀ xr xi, entryObj c w ar ai yr yi vr vi x.1 x.2 ≤ entryObj c w ar ai yr yi vr vi xr xi) :=
  ⟨diagEntry_solves hc hw ar ai yr yi vr vi, diagEntry_minimises hc hw ar ai yr yi vr vi⟩

/-- the model's list-level closed form is that entry formula (complex and real data) -/
theorem C08_sqL2_diag_model (scale lam w ar ai yr yi vr vi : K) :
    sqL2DiagProx true scale lam (some [w]) [ar, ai] [yr, yi] [vr, vi]
      = [(diagEntry ((1 + 1) * scale * lam) w ar ai yr yi vr vi).1,
         (diagEntry ((1 + 1) * scale * lam) w ar ai yr yi vr vi).2] ∧
    sqL2DiagProx false scale lam (some [w]) [ar] [yr] [vr]
      = [(diagEntry ((1 + 1) * scale * lam) w ar 0 yr 0 vr 0).1] :=
  ⟨sqL2DiagProx_cplx_cons scale lam w ar ai yr yi vr vi [] [] [] [],
   sqL2DiagProx_real_cons scale lam w ar yr vr [] [] [] []⟩

/-- whole arrays, real diagonal `A`: the array returned by the closed-form branch minimises the
    documented objective `lam·scale·Σ w_i (y_i − a_i x_i)² + ½ Σ (x_i − v_i)²` (`diagObj`; its first
    term is `lam` times what `SquaredL2Loss.__call__` returns, second conjunct) among all arrays of
    the same length, for every length, weights `≥ 0` incl. zeros, `scale·lam ≥ 0` -/
theorem C08_sqL2_diag_minimises {scale lam : K} (hc : 0 ≤ (1 + 1) * scale * lam) (w a y v x : List K)
    (hw : ∀ wi ∈ w, 0 ≤ wi) (h1 : w.length = v.length) (h2 : a.length = v.length) (h3 : y.length = v.length)
    (h4 : x.length = v.length) :
    diagObj scale lam w a y v (sqL2DiagProx false scale lam (some w) a y v) ≤ diagObj scale lam w a y v x ∧
    (∀ [HasSqrt K] (En : Env K), En.cplx = false →
      eval En (.sqL2 (.arr y) (.diag a) (some w) scale) (.arr x)
        = .ok (scale * (List.zipWith (· * ·) w (sqmags false (List.zipWith (· - ·) y (List.zipWith (· * ·) a x)))).sum)) :=
  ⟨sqL2DiagProx_minimises_real hc w a y v x hw h1 h2 h3 h4, fun En hE => by
    have h := (EvalTo.sqL2 (E := En) (y := .arr y) (A := .diag a) (w := some w) (s := scale) (x := .arr x)
      (ax := .arr (List.zipWith (· * ·) a x)) (by simp [OpK.apply, hE, emul, h2, h4]) (by simp [Arg.shapeEq, h2, h3, h4])).eval_eq
    simpa only [hE, Arg.zipT, Arg.flat, wsum] using h⟩

example : sqL2DiagProx false (1 / 2 : ℚ) 1 (some [2, 0]) [1, 3] [1, 5] [4, 7] = [2, 7] := by
  norm_num [sqL2DiagProx, emul, econj, rmulL, edivR, sqmags]

-- a = 1+i, w = 2, c = 1, y = 1, v = i over ℚ:  x = (conj(a)·2·1 + i)/(1 + 2·2) = (2 − i)/5
example : diagEntry (1 : ℚ) 2 1 1 1 0 0 1 = (2 / 5, -1 / 5) := by norm_num [diagEntry]

end diag

/-- complex diagonal `A`, whole arrays, every length (companion of `C08_sqL2_diag_minimises`): on interleaved
    complex data the array returned by the closed-form branch minimises
    `Σ_j (c/2)·w_j·|a_j x_j − y_j|² + ½|x_j − v_j|²`, `c = 2·scale·lam` (`diagObjC`, i.e.
    `lam·scale·Σ w|A x − y|² + ½‖x − v‖²`), among all arrays of the same length; weights `≥ 0` incl. zeros -/
theorem C08_sqL2_diag_minimises_complex {K : Type} [Field K] [LinearOrder K] [IsStrictOrderedRing K] {scale lam : K}
    (hc : 0 ≤ (1 + 1) * scale * lam) (w a y v x : List K) (hw : ∀ wi ∈ w, 0 ≤ wi) (ha : a.length = 2 * w.length)
    (hy : y.length = 2 * w.length) (hv : v.length = 2 * w.length) (hx : x.length = 2 * w.length) :
    diagObjC ((1 + 1) * scale * lam) w a y v (sqL2DiagProx true scale lam (some w) a y v)
      ≤ diagObjC ((1 + 1) * scale * lam) w a y v x :=
  sqL2DiagProx_minimises_cplx hc w a y v x hw ha hy hv hx

-- a = [1+i, 2], w = [2, 0], y = [1, 3i], v = [i, 1−i], scale = 1/2, lam = 1 over ℚ
example : sqL2DiagProx true (1 / 2 : ℚ) 1 (some [2, 0]) [1, 1, 2, 0] [1, 0, 0, 3] [0, 1, 1, -1] = [2 / 5, -1 / 5, 1, -1] := by
  norm_num [sqL2DiagProx, emul, econj, cconjL, rmulL, rmulLc, cmulL, sqmags, pairs, edivR, edivRc]

/-- weights of a `SquaredL2Loss` of another length than the data: a diagonal of `n` entries is used as it is, one
    entry is broadcast to all `n`, anything else is a (broadcasting) `TypeError`; the normalised weights have `n`
    entries and stay non-negative, which is what the weighted theorems (`C08_sqL2_*`) ask of their weights.  About the
    model's `wNormalize` alone: `prox` and `eval` take the weights as given, only the driver normalises them first. -/
theorem C08_weights_normalised {K : Type} [Field K] [LinearOrder K] (w : List K) (n : Nat) (hw : ∀ a ∈ w, 0 ≤ a) :
    (w.length = n → wNormalize (some w) n = .ok (some w)) ∧
    (∀ a, w = [a] → n ≠ 1 → wNormalize (some w) n = .ok (some (List.replicate n a))) ∧
    (w.length ≠ n → w.length ≠ 1 → wNormalize (some w) n = .error .type) ∧
    (∀ w', wNormalize (some w) n = .ok (some w') → w'.length = n ∧ ∀ a ∈ w', 0 ≤ a) := by
  refine ⟨fun h => by simp [wNormalize, h], fun a ha hn => ?_, fun h1 h2 => ?_, fun w' h => ?_⟩
  · subst ha
    simp [wNormalize]
    intro h; exact absurd h.symm hn
  · simp only [wNormalize, h1, if_false]
    match w, h2 with
    | [], _ => rfl
    | [_], h2 => simp at h2
    | _ :: _ :: _, _ => rfl
  · simp only [wNormalize] at h
    split at h
    · simp only [Except.ok.injEq, Option.some.injEq] at h
      subst h; exact ⟨‹_›, hw⟩
    · match w, h, hw with
      | [a], h, hw =>
        simp only [Except.ok.injEq, Option.some.injEq] at h
        subst h
        refine ⟨by simp, fun b hb => ?_⟩
        rw [(List.mem_replicate.mp hb).2]; exact hw a (by simp)
      | [], h, _ => simp at h
      | _ :: _ :: _, h, _ => simp at h

example : wNormalize (some [(2 : ℚ)]) 3 = .ok (some [2, 2, 2]) ∧ wNormalize (some [(2 : ℚ), 1]) 3 = .error .type := by decide

/-- closed-form branch on block arrays: with the default Identity on a block shape or a `Diagonal` whose diagonal
    is a block array, `SquaredL2Loss.prox` on block arguments `v`, `y` of the same block shape returns a block array of that
    shape whose concatenation is the entrywise closed form `sqL2DiagProx` of the concatenated data — so the minimisation
    theorems `C08_sqL2_diag_minimises` (real) / `C08_sqL2_diag_minimises_complex` apply to it as they stand -/
theorem C08_sqL2_block_diag {α : Type} [Add α] [Sub α] [Mul α] [Div α] [Neg α] [Zero α] [One α] [LT α] [DecidableLT α] [HasSqrt α]
    (En : Env α) (ys vs : List (List α)) (A : OpK α) (w : Option (List α)) (s lam : α) (p : Arg α)
    (hA : A = .ident ∨ ∃ d, A = .diag d) (h : prox En (.sqL2 (.blk ys) A w s) (.blk vs) lam = .ok p) :
    ∃ a, diagOf En.cplx (nEntries En.cplx vs.flatten) A = some a ∧ a.length = vs.flatten.length ∧
      vs.map List.length = ys.map List.length ∧
      ((sqL2DiagProx En.cplx s lam w a ys.flatten vs.flatten).length = vs.flatten.length →
        p.flat = sqL2DiagProx En.cplx s lam w a ys.flatten vs.flatten ∧
        ∃ ps, p = .blk ps ∧ ps.map List.length = vs.map List.length) := by
  obtain ⟨a, ha⟩ := diagOf_isSome_iff (cplx := En.cplx) (n := nEntries En.cplx vs.flatten).2 hA
  rw [prox_sqL2_blk En ys vs w s lam ha] at h
  obtain ⟨hc, h⟩ := ite_ok_error h
  cases h
  refine ⟨a, ha, hc.2, hc.1, fun hl => ?_⟩
  obtain ⟨f1, f2⟩ := splitLike_flatten vs _ hl
  exact ⟨f1, _, rfl, f2⟩

-- blocks [4],[7] with block diagonal [1],[3], weights [2,0], y = [1],[5], scale 1/2, lam 1: the flat closed form [2, 7], split again
example : prox exEnv (.sqL2 (.blk [[1], [5]]) (.diag [1, 3]) (some [2, 0]) (1 / 2)) (.blk [[4], [7]]) 1 = .ok (.blk [[2], [7]]) := by
  rw [prox_sqL2_blk exEnv _ _ _ _ _ (diagOf_diag _ _ _), if_pos ⟨rfl, rfl⟩]
  norm_num [sqL2DiagProx, emul, econj, rmulL, edivR, sqmags, exEnv, splitLike]

/-- no hypothesis on the signs of the scales: whatever `prox` returns (flag set or cleared, scales of
    either sign) is a proximal point of the denoted functional *provided the base functionals' proximal
    maps are proximal maps at the parameters they are actually called with* (`ParamsOk` collects them:
    `lam·c` below a `ScaledFunctional`, `scale·lam` below a `Loss`).  So a non-positive scale is harmful
    exactly because it hands a non-positive parameter to a base prox, which is outside its contract (C02
    is about `lam > 0`). -/
theorem C08_tree_sound_any_scale (En : Env ℝ) (S : LeafSem) (ok : Nat → ℝ → Prop)
    (okQ : Arg ℝ → OpK ℝ → Option (List ℝ) → ℝ → ℝ → Prop) (hS : LeafSoundOn En S ok) (hQ : SqSoundOn En S okQ)
    (t : Fn ℝ) (v p : Arg ℝ) (lam : ℝ) (hok : ParamsOk ok okQ t lam) (hr : prox En t v lam = .ok p) :
    IsProxA (dom En S t) (den En S t) lam v p :=
  (proxTo_of_eq En t hr).sound hS hQ hok

-- non-vacuity: the zero functional's prox (identity) is a proximal map for every parameter, so the tree
-- `(-2) * Loss(y, f=zero, scale=-3)` (flag cleared) still returns proximal points of `(-2)·(-3)·0`
example : IsProxA (dom zEnv zSem (.scaled (-2) (.loss (.arr [1, 2]) none (.leaf 0) (-3))))
    (den zEnv zSem (.scaled (-2) (.loss (.arr [1, 2]) none (.leaf 0) (-3)))) 1 (.arr [5, 6]) (.arr [5, 6]) := by
  refine C08_tree_sound_any_scale zEnv zSem (fun _ _ => True) (fun _ _ _ _ _ => False)
    (fun _ v lam _ _ => isProxA_zero lam v) (fun _ _ _ _ _ _ _ h _ => h.elim) _ _ _ 1 trivial ?_
  rw [(ProxTo.scaled (c := -2) (.loss (E := zEnv) (y := .arr [1, 2]) (v := .arr [5, 6]) (s := -3) rfl
    (by simp [Arg.shapeEq]) (.leaf (i := 0) rfl) (by simp [Arg.shapeEq, Arg.zipT, zEnv]))).prox_eq]
  simp [Arg.zipT, zEnv]

/-- all nestings with positive parameters: flag set, `lam > 0`, scales of the `Loss` and `SquaredL2Loss` nodes positive
    (`LossScalesPos`), base functionals'
    proximal maps are proximal maps (`LeafSound`, property C02); the trees may contain
    `SquaredL2Loss` nodes with an Identity / Diagonal forward operator (closed-form branch) on real data
    with weights `≥ 0` (`SqNodesDiag`; what the constructor enforces: `W.diagonal >= 0`).  The value the
    model of `prox` returns is a proximal point of the denoted functional, where a `SquaredL2Loss` node
    denotes `s·Σ w_i (y_i − (A x)_i)²`. -/
theorem C08_tree_sound_with_sql2 (En : Env ℝ) (S : LeafSem) (hS : LeafSound En S) (t : Fn ℝ) (v p : Arg ℝ) {lam : ℝ}
    (hl : 0 < lam) (hp : hasProx En t = true) (hd : SqNodesDiag En t) (hls : LossScalesPos t)
    (hr : prox En t v lam = .ok p) :
    IsProxA (dom En S t) (den En S t) lam v p :=
  C08_tree_sound_any_scale En S _ _ hS (sqL2_diag_sound En S) t v p lam (paramsOk_pos En t lam hl hp hd hls) hr

-- non-vacuity: `Separable([SquaredL2Loss(y=[1,5], A=Diagonal([1,3]), W=[2,0], scale=1/2), 2 * zero])`
example : ∃ p, prox zEnv (.scons (.sqL2 (.arr [1, 5]) (.diag [1, 3]) (some [2, 0]) (1 / 2)) (.scons (.scaled 2 (.leaf 0)) .snil))
      (.blk [[4, 7], [3]]) 1 = .ok p ∧
    IsProxA (dom zEnv zSem (.scons (.sqL2 (.arr [1, 5]) (.diag [1, 3]) (some [2, 0]) (1 / 2)) (.scons (.scaled 2 (.leaf 0)) .snil)))
      (den zEnv zSem (.scons (.sqL2 (.arr [1, 5]) (.diag [1, 3]) (some [2, 0]) (1 / 2)) (.scons (.scaled 2 (.leaf 0)) .snil)))
      1 (.blk [[4, 7], [3]]) p := by
  have zSound : LeafSound zEnv zSem := fun _ v lam _ _ => isProxA_zero lam v
  have hr : prox zEnv (.scons (.sqL2 (.arr [1, 5]) (.diag [1, 3]) (some [2, 0]) (1 / 2)) (.scons (.scaled 2 (.leaf 0)) .snil))
      (.blk [[4, 7], [3]]) 1 = .ok (.blk [sqL2DiagProx false (1 / 2) 1 (some [2, 0]) [1, 3] [1, 5] [4, 7], [3]]) :=
    (ProxTo.scons (.sqL2 ((prox_sqL2_arr zEnv _ _ _ _ _ (diagOf_diag _ _ _)).trans (if_pos ⟨rfl, rfl⟩)))
      (.scons (.scaled (.leaf (i := 0) rfl)) .snil)).prox_eq
  refine ⟨_, hr, C08_tree_sound_with_sql2 zEnv zSem zSound _ _ _ one_pos (by simp [hasProx, zEnv]) ?_ (by simp [LossScalesPos]) hr⟩
  refine ⟨⟨rfl, ⟨[1, 5], rfl, fun wl h => ?_⟩, Or.inr ⟨_, rfl⟩⟩, trivial, trivial⟩
  simp only [Option.some.injEq] at h
  subst h
  exact ⟨rfl, by simp⟩

/-- all nestings of the generic wrappers (no `SquaredL2Loss` node, `Generic`): for every tree (any depth) whose `has_prox` flag is set (generic `Loss` scales
    positive), if the base functionals' proximal maps are proximal maps (hypothesis `LeafSound`, property C02), the
    value returned by the model of `prox` is a proximal point of the functional the tree denotes
    (`den`), on plain and block arguments. -/
theorem C08_tree_sound (En : Env ℝ) (S : LeafSem) (hS : LeafSound En S) (t : Fn ℝ) (v p : Arg ℝ) {lam : ℝ}
    (hl : 0 < lam) (hp : hasProx En t = true) (hgen : Generic t) (hls : LossScalesPos t)
    (hr : prox En t v lam = .ok p) :
    IsProxA (dom En S t) (den En S t) lam v p :=
  C08_tree_sound_with_sql2 En S hS t v p hl hp (sqNodesDiag_of_generic En t hgen) hls hr

-- non-vacuity: the tree `2 * Separable([Loss(y, f=zero, scale=3), zero])`
example : ∃ p, prox zEnv zTree (.blk [[5, 6], [7]]) 1 = .ok p ∧
    IsProxA (dom zEnv zSem zTree) (den zEnv zSem zTree) 1 (.blk [[5, 6], [7]]) p := by
  have hp : hasProx zEnv zTree = true := by simp [zTree, hasProx, zEnv]
  have hg : Generic zTree := by simp [zTree, Generic]
  have hls : LossScalesPos zTree := by simp [zTree, LossScalesPos]
  have hc : Conforms zEnv zTree (.blk [[5, 6], [7]]) :=
    ⟨_, _, rfl, ⟨by simp [Arg.shapeEq, Env.applyOpt], fun _ _ => trivial⟩, _, _, rfl, trivial, rfl⟩
  obtain ⟨p, hpr, _⟩ := (C08_flags_advertised_available zEnv
    ⟨fun _ v _ => Arg.shapeEq_refl v, fun _ _ _ _ v => Arg.shapeEq_refl v⟩ zTree _ 1 hc).1 hp hg
  have zSound : LeafSound zEnv zSem := fun _ v lam _ _ => isProxA_zero lam v
  exact ⟨p, hpr, C08_tree_sound zEnv zSem zSound zTree _ p one_pos hp hg hls hpr⟩

/-- the flag of a `Loss` does not look at its scale (finding `loss-nonpositive-scale` in `known_findings.txt`;
    `fixes/loss-nonpositive-scale.patch` would make it, see `hasProxR`): `has_prox` of `Loss(y, A, f, scale)` is the same
    for every `scale` (first conjunct), and for `Loss(y=[0], f=L1Norm(), scale=−1)` the flag is set, the
    model of `prox([0], 1)` returns `[0]` (`L1Norm.prox` called with parameter `−1`), but `[0]` is not a
    proximal point of `x ↦ −|x|` (`−|x| + x²/2` is `−1/2` at `x = 1`).  This is why `C08_tree_sound` keeps the
    hypothesis `LossScalesPos`. -/
theorem C08_loss_nonpositive_counterexample :
    (∀ (En : Env ℝ) (y : Arg ℝ) (A : Option Nat) (f : Fn ℝ) (s s' : ℝ),
      hasProx En (.loss y A f s) = hasProx En (.loss y A f s')) ∧
    hasProx l1Env (.loss (.arr [0]) none (.leaf 0) (-1)) = true ∧
    prox l1Env (.loss (.arr [0]) none (.leaf 0) (-1)) (.arr [0]) 1 = .ok (.arr [0]) ∧
    ¬ IsProxA (fun _ => True) (fun x => (-1) * l1 false x) 1 (.arr [0]) (.arr [0]) := by
  refine ⟨fun _ _ _ _ _ _ => rfl, by simp [hasProx, l1Env], ?_, ?_⟩
  · rw [(ProxTo.loss (E := l1Env) (y := .arr [0]) (v := .arr [0]) (s := -1) (lam := 1) rfl (by simp [Arg.shapeEq])
      (.leaf (i := 0) rfl) (by simp [Arg.shapeEq, Arg.zipT, l1Env, Arg.map])).prox_eq]
    simp [Arg.zipT, l1Env, Arg.map, soft]
  · rintro ⟨_, _, h⟩
    have := h (.arr [1]) (by simp [Arg.shapeEq]) trivial
    simp [l1, mags, absR, Arg.flat, Arg.dist2, sq2] at this
    norm_num at this

/-- with the rule of the proposed repair (`hasProxR`: a `Loss` advertises its prox only while its scale is
    positive) a set flag alone suffices — no hypothesis on the scales is left -/
theorem C08_tree_sound_repaired_flag (En : Env ℝ) (S : LeafSem) (hS : LeafSound En S) (t : Fn ℝ) (v p : Arg ℝ) {lam : ℝ}
    (hl : 0 < lam) (hp : hasProxR En t = true) (hd : SqNodesDiag En t) (hr : prox En t v lam = .ok p) :
    IsProxA (dom En S t) (den En S t) lam v p ∧ hasProx En t = true :=
  have h := hasProx_of_hasProxR En t hp
  ⟨C08_tree_sound_with_sql2 En S hS t v p hl h.1 hd h.2 hr, h.1⟩

example : hasProxR zEnv zTree = true := by simp [zTree, hasProxR, zEnv]
example : hasProxR l1Env (.loss (.arr [0]) none (.leaf 0) (-1)) = false := by simp [hasProxR]

end Scico.Props.C08
