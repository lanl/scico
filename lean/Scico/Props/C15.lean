/-
  Property C15 — solver driver, statistics, callbacks, resumption, NaN stop, interval timer.
  The property theorems and their examples (general lemmas and long proofs:
  `Scico/Proofs/Driver*.lean`; specifications: `Scico/Proofs/DriverSpec.lean` for integer ticks,
  `DriverClockSpec.lean` for any clock).
-/
import Scico.Proofs.DriverTimerLog
import Scico.Proofs.DriverCallbacks
import Scico.Proofs.DriverContextTimer
import Scico.Proofs.DriverTimerStr
import Scico.Proofs.DriverIterationStats
import Scico.Proofs.DriverClock

namespace Scico.Props.C15
open Scico.Driver Scico.Driver.Spec

/-- **The interval timer reports the times of an ideal stop-watch.**  For every constructor
    configuration, every sequence of `start/stop/reset` calls with `None`, single-label, `all` or
    list arguments (a `KeyError` in the middle of a list leaves the earlier labels updated and the
    program carries on), every non-decreasing integer clock and every later query time, the value
    `Timer.elapsed(label, total)` returns — or the `KeyError` it raises — is what the
    history-based stop-watch `specElapsed` prescribes (`DriverSpec.lean`: number of ticks since the
    label's last reset during which its most recent event was a `start`; `total=False`: time since
    the first `start` of the trailing run of `start`s; 0 for an uninitialised default label;
    `KeyError` exactly for an explicitly named label that does not exist). -/
theorem C15_timer_refines_stopwatch {L : Type} [DecidableEq L] (c : Cfg L) (h : List (Call L))
    (now : Nat) (hm : Monotone h now) (label : Option L) (total : Bool) :
    ((Timer.init c.init c.dflt c.all).run h).elapsed label total now =
      specElapsed c h label total now :=
  timer_refines_stopwatch c h now hm label total

/-- **`KeyError` characterised.**  After any history, a call raises `KeyError` iff it is a
    `stop`/`reset` whose argument is an explicit label or list (not the `all` label) naming a
    label that was neither given to the constructor nor ever started.  `start` never raises. -/
theorem C15_timer_keyerror {L : Type} [DecidableEq L] (c : Cfg L) (h : List (Call L)) (k : Call L) :
    (((Timer.init c.init c.dflt c.all).run h).apply k).2 = false ↔
      (k.op ≠ .start ∧ ∃ ls, c.explicitTargets k.arg = some ls ∧ ∃ l ∈ ls, known c h l = false) := by
  rw [timer_keyerror]
  unfold raisesKey
  cases hop : k.op <;> cases ht : c.explicitTargets k.arg <;> simp

/-- **The set of labels** (`Timer.labels()`): a label is a key of the dictionary iff it was given
    to the constructor or named in an earlier `start` call. -/
theorem C15_timer_labels {L : Type} [DecidableEq L] (c : Cfg L) (h : List (Call L)) (l : L) :
    l ∈ ((Timer.init c.init c.dflt c.all).run h).store.keys ↔ known c h l = true :=
  mem_keys_run c h l

-- non-vacuity: a history with a restart, a reset, a `KeyError` in the middle of a list, the `all`
-- label and an unknown label; labels are numbers, default label 0, `all` label 9
example :
    let c : Cfg Nat := ⟨.one 1, 0, 9⟩
    let h : List (Call Nat) :=
      [⟨1, .start, .none⟩, ⟨3, .start, .many [1, 2]⟩, ⟨4, .stop, .many [1, 7, 2]⟩, ⟨6, .start, .one 1⟩,
       ⟨8, .stop, .one 9⟩, ⟨8, .reset, .one 2⟩, ⟨9, .start, .one 2⟩]
    Monotone h 12 ∧
      specElapsed c h none true 12 = some 7 ∧ specElapsed c h (some 1) true 12 = some 3 ∧
      specElapsed c h (some 2) true 12 = some 3 ∧ specElapsed c h (some 2) false 12 = some 3 ∧
      specElapsed c h (some 7) true 12 = none ∧
      ((Timer.init c.init c.dflt c.all).run h).elapsed (some 1) true 12 = some 3 := by
  refine ⟨⟨by decide, by decide⟩, by decide, by decide, by decide, by decide, by decide, by decide⟩

/-- **The interval timer over an arbitrary clock.**  With clock values in ANY additive commutative
    group `τ` (ℤ, ℚ, ℝ — the idealisation of the floats `timeit.default_timer()` returns), for every
    configuration and every sequence of `start/stop/reset` calls (all argument forms, `KeyError`s
    with partial mutation), `Timer.elapsed(label, total)` is what the history-based stop-watch
    `Clock.specElapsed` prescribes: the sum of the lengths of the gaps — between consecutive events
    the label received since its last reset, and from the last event to the query time — that begin
    with a `start`; `total=False`: the time since the first `start` of the trailing run of
    `start`s; a call raises `KeyError` exactly when the specification says so.  No hypothesis on
    the order of the clock values is needed for the equality; on a non-decreasing ordered clock
    every gap is a duration and the reading is never negative. -/
theorem C15_timer_refines_stopwatch_clock {L τ : Type} [DecidableEq L] [AddCommGroup τ]
    (c : Cfg L) (h : List (Clock.Call L τ)) (now : τ) (label : Option L) (total : Bool) (k : Clock.Call L τ) :
    ((Clock.Timer.init c.init c.dflt c.all).run h).elapsed label total now =
        Clock.specElapsed c h label total now ∧
      (((Clock.Timer.init c.init c.dflt c.all).run h).apply k).2 = !(Clock.raisesKey c h k) :=
  ⟨Clock.timer_refines_stopwatch c h now label total, Clock.timer_keyerror c h k⟩

/-- on a non-decreasing ordered clock the reading the stop-watch prescribes is never negative -/
theorem C15_timer_clock_nonneg {L τ : Type} [DecidableEq L] [AddCommGroup τ] [LinearOrder τ]
    [IsOrderedAddMonoid τ] (c : Cfg L) (h : List (Clock.Call L τ)) (now : τ) (hm : Clock.Monotone h now) (l : L) :
    0 ≤ Clock.specTotal (Clock.labelHistory c h l) now := by
  have ⟨hsorted, hle⟩ := Clock.labelHistory_sorted c hm l
  have hsub := Clock.sinceReset_sublist (Clock.labelHistory c h l)
  exact Clock.gapSum_nonneg _ now (hsorted.sublist hsub) (fun e he => hle e (hsub.subset he))

-- non-vacuity at τ = ℤ with a clock that starts below zero: label 1 runs over [-5,-2] and from 4 on, is
-- reset at 1 (so only the second interval counts); label 2 never existed
example :
    let c : Cfg Nat := ⟨.one 1, 0, 9⟩
    let h : List (Clock.Call Nat Int) :=
      [⟨-5, .start, .one 1⟩, ⟨-2, .stop, .many [1, 7]⟩, ⟨1, .reset, .one 9⟩, ⟨4, .start, .many [1, 0]⟩, ⟨6, .start, .one 1⟩]
    Clock.specElapsed c h (some 1) true 10 = some 6 ∧ Clock.specElapsed c h (some 1) false 10 = some 6 ∧
      Clock.specElapsed c h none true 10 = some 6 ∧ Clock.specElapsed c h (some 2) true 10 = none ∧
      Clock.specTotal (Clock.labelHistory c (h.take 2) 1) 0 = 3 ∧
      ((Clock.Timer.init c.init c.dflt c.all).run h).elapsed (some 1) true 10 = some 6 := by
  decide

/-- **Between two calls the timer is an ideal stop-watch.**  For every configuration, every call
    history (any argument forms, `KeyError`s included) over any additive commutative group of clock
    values, and two query times `now`, `now'` with no call in between: `Timer.elapsed(l, total=True)`
    of a known label advances by exactly `now' - now` when the last event the label received since
    its last reset is a `start`, and does not change at all otherwise (stopped, reset, never
    started).  With an ordered clock the reading is therefore non-decreasing in the query time. -/
theorem C15_timer_advance {L τ : Type} [DecidableEq L] [AddCommGroup τ]
    (c : Cfg L) (h : List (Clock.Call L τ)) (now now' : τ) (l : L) (hk : Clock.known c h l = true) :
    ∃ a b, ((Clock.Timer.init c.init c.dflt c.all).run h).elapsed (some l) true now = some a ∧
      ((Clock.Timer.init c.init c.dflt c.all).run h).elapsed (some l) true now' = some b ∧
      b - a = if Clock.running (Clock.labelHistory c h l) then now' - now else 0 := by
  refine ⟨Clock.specTotal (Clock.labelHistory c h l) now, Clock.specTotal (Clock.labelHistory c h l) now', ?_, ?_,
    Clock.specTotal_advance _ now now'⟩
  · rw [Clock.timer_refines_stopwatch]; simp [Clock.specElapsed, hk]
  · rw [Clock.timer_refines_stopwatch]; simp [Clock.specElapsed, hk]

/-- with an ordered clock the reading the stop-watch prescribes does not decrease between two query times -/
theorem C15_timer_mono {L τ : Type} [DecidableEq L] [AddCommGroup τ] [LinearOrder τ] [IsOrderedAddMonoid τ]
    (c : Cfg L) (h : List (Clock.Call L τ)) {now now' : τ} (hn : now ≤ now') (l : L) :
    Clock.specTotal (Clock.labelHistory c h l) now ≤ Clock.specTotal (Clock.labelHistory c h l) now' := by
  rw [← sub_nonneg, Clock.specTotal_advance]
  split
  · exact sub_nonneg.mpr hn
  · exact le_refl _

-- non-vacuity: label 1 is running after the history (last event a start at 6): reading 6 at 10, 11 at 15;
-- label 3 (started at -1, stopped at 0 by stop-all) is stopped: reading 1 at both times
example :
    let c : Cfg Nat := ⟨.one 1, 0, 9⟩
    let h : List (Clock.Call Nat Int) :=
      [⟨-5, .start, .one 1⟩, ⟨-2, .stop, .many [1, 7]⟩, ⟨-1, .start, .one 3⟩, ⟨0, .stop, .one 9⟩, ⟨1, .reset, .one 1⟩,
       ⟨4, .start, .many [1, 0]⟩, ⟨6, .start, .one 1⟩]
    Clock.known c h 1 = true ∧ Clock.running (Clock.labelHistory c h 1) = true ∧
      ((Clock.Timer.init c.init c.dflt c.all).run h).elapsed (some 1) true 10 = some 6 ∧
      ((Clock.Timer.init c.init c.dflt c.all).run h).elapsed (some 1) true 15 = some 11 ∧
      Clock.known c h 3 = true ∧ Clock.running (Clock.labelHistory c h 3) = false ∧
      ((Clock.Timer.init c.init c.dflt c.all).run h).elapsed (some 3) true 10 = some 1 ∧
      ((Clock.Timer.init c.init c.dflt c.all).run h).elapsed (some 3) true 15 = some 1 := by
  decide

/-- **One timer, two transcriptions.**  On every non-decreasing integer-tick history the `Nat`
    transcription of `Timer` (used by the `solve` model) returns, cast to ℤ, exactly what the
    generic-clock transcription returns on the same history — values and `KeyError`s — and
    therefore the tick-counting stop-watch (`specElapsed`) and the gap-summing one
    (`Clock.specElapsed`) agree there. -/
theorem C15_timer_nat_is_clock {L : Type} [DecidableEq L] (c : Cfg L) (h : List (Call L)) (now : Nat)
    (hm : Monotone h now) (label : Option L) (total : Bool) :
    (((Timer.init c.init c.dflt c.all).run h).elapsed label total now).map (fun v => (v : Int)) =
        ((Clock.Timer.init c.init c.dflt c.all : Clock.Timer L Int).run (h.map castCall)).elapsed label total (now : Int) ∧
      (specElapsed c h label total now).map (fun v => (v : Int)) =
        Clock.specElapsed c (h.map castCall) label total (now : Int) :=
  ⟨timer_nat_is_clock c h now hm label total, by
    rw [← timer_refines_stopwatch c h now hm label total, timer_nat_is_clock c h now hm label total,
      Clock.timer_refines_stopwatch]⟩

/-- **`with ContextTimer(timer, label)`** (action `StartStop`; the label — `None` = default label —
    is not the `all` label; a start time of the label, if it is running, is not in the future):
    never raises; after the block the label is *stopped* and its total reading, at any later time,
    is its reading at entry plus the duration of the block — also when it was already running
    (the exit stops it: the context manager is not re-entrant, which is why it cannot replace the
    `stop(); callback(); start()` bracket of `solve`). -/
theorem C15_context_timer_startstop {L : Type} [DecidableEq L] (T : Timer L) (label : Option L)
    (t1 t2 : Nat) (h12 : t1 ≤ t2) (hall : ctxLabel T label ≠ T.all)
    (hwf : ∀ e, T.store.get (ctxLabel T label) = some e → ∀ s, e.t0 = some s → s ≤ t1) :
    let T1 := (ctxEnter T label .startStop t1).1
    let r := ctxExit T1 label .startStop t2
    r.2 = true ∧
      ∀ now, r.1.elapsed (some (ctxLabel T label)) true now =
          some (((T.elapsed (some (ctxLabel T label)) true t1).getD 0) + (t2 - t1)) ∧
        r.1.elapsed (some (ctxLabel T label)) false now = some 0 := by
  intro T1 r
  have hl1 : ctxLabel T1 label = ctxLabel T label := by cases label <;> rfl
  have hg1 : T1.store.get (ctxLabel T label) =
      some (startEntry ((T.store.get (ctxLabel T label)).getD Entry.fresh) t1) :=
    (start_ctx_get T label t1 (ctxLabel T label)).trans (if_pos rfl)
  have hr : r = T1.stop (ctxArg label) t2 := rfl
  rw [hr, stop_ctx T1 label t2 (hl1 ▸ hall), hl1, hg1]
  refine ⟨rfl, fun now => ?_⟩
  simp only [Timer.elapsed, Store.get_set, if_true, Option.map_some, elapsedEntry_stopEntry]
  cases hget : T.store.get (ctxLabel T label) with
  | none => simp [startEntry, Entry.fresh, elapsedEntry]
  | some e => simp [elapsedEntry_startEntry e t1 t2 (hwf e hget) h12]

/-- **`with ContextTimer(timer, label, action="StopStart")`**: on an existing label the duration
    of the block is excluded and the label runs afterwards (whether or not it ran before); on a
    label that does not exist — e.g. the default label of a fresh `Timer()` — entry raises
    `KeyError` and nothing changes. -/
theorem C15_context_timer_stopstart {L : Type} [DecidableEq L] (T : Timer L) (label : Option L)
    (t1 t2 : Nat) (hall : ctxLabel T label ≠ T.all) :
    (∀ e, T.store.get (ctxLabel T label) = some e → (∀ s, e.t0 = some s → s ≤ t1) →
      let r1 := ctxEnter T label .stopStart t1
      let r := ctxExit r1.1 label .stopStart t2
      r1.2 = true ∧ r.2 = true ∧
        ∀ now, t2 ≤ now → r.1.elapsed (some (ctxLabel T label)) true now =
            some (((T.elapsed (some (ctxLabel T label)) true t1).getD 0) + (now - t2)) ∧
          r.1.elapsed (some (ctxLabel T label)) false now = some (now - t2)) ∧
    (T.store.get (ctxLabel T label) = none → ctxEnter T label .stopStart t1 = (T, false)) :=
  ⟨fun e hex _ => ctx_stopStart T label t1 t2 hall e hex,
   fun hex => by
    show T.stop (ctxArg label) t1 = _
    rw [stop_ctx T label t1 hall, hex]⟩

-- non-vacuity: a label that is already running; the block lasts 5 ticks
example :
    let T : Timer Nat := (Timer.init (.one 3) 0 9).start (.one 3) 2
    ctxLabel T (some 3) ≠ T.all ∧ T.elapsed (some 3) true 4 = some 2 ∧
      ((ctxExit (ctxEnter T (some 3) .startStop 4).1 (some 3) .startStop 9).1.elapsed (some 3) true 20 = some 7) ∧
      ((ctxExit (ctxEnter T (some 3) .stopStart 4).1 (some 3) .stopStart 9).1.elapsed (some 3) true 20 = some 13) ∧
      (ctxEnter (Timer.init .none 0 9) none .stopStart 4).2 = false := by
  decide

/-- **The table `Timer.__str__` prints** (documented behaviour; before commit `2b46a8f` a
    `TypeError` was raised while any timer ran — finding `timer-str-running`): after any history on any
    configuration with a non-decreasing clock the rows are those of the existing labels, each
    exactly once, in sorted order; `Accum.` + `Current` is the ideal stop-watch's total, `Current`
    is the ideal stop-watch's `total=False` reading and reads `Stopped` iff the label's last event
    is not a `start`. -/
theorem C15_timer_str {L : Type} [DecidableEq L] (lt : L → L → Bool)
    (htot : ∀ a b, lt a b = false → lt b a = false → a = b)
    (htrans : ∀ a b c, lt a b = true → lt b c = true → lt a c = true) (hirr : ∀ a, lt a a = false)
    (c : Cfg L) (h : List (Call L)) (now : Nat) (hm : Monotone h now) :
    let rows := ((Timer.init c.init c.dflt c.all).run h).strRows lt now
    (∀ l, l ∈ rows.map (·.label) ↔ known c h l = true) ∧
      (rows.map (·.label)).Nodup ∧
      SortedBy lt (rows.map (·.label)) ∧
      ∀ r ∈ rows,
        r.accum + r.current.getD 0 = specTotal (labelHistory c h r.label) now ∧
        r.current = (trailingStarts (labelHistory c h r.label)).head?.map (fun ev => now - ev.1) ∧
        r.current.getD 0 = specCurrent (labelHistory c h r.label) now := by
  intro rows
  have hl : rows.map (·.label) = sortLabels lt ((Timer.init c.init c.dflt c.all).run h).store.keys :=
    strRows_labels lt _ now
  rw [hl]
  refine ⟨fun l => by rw [mem_sortLabels, mem_keys_run], ?_, sorted_sortLabels lt htot htrans hirr _, ?_⟩
  · exact nodup_sortLabels lt _ (nodup_run _ h (nodup_init _ _ _))
  · exact fun r hr => strRows_spec lt c h now hm r hr

-- non-vacuity: labels 1 (running since 6, 3 accumulated) and 2 (stopped, 1 accumulated), `<` on ℕ
example :
    let c : Cfg Nat := ⟨.none, 0, 9⟩
    let h : List (Call Nat) := [⟨1, .start, .many [2, 1]⟩, ⟨2, .stop, .one 2⟩, ⟨4, .stop, .one 1⟩, ⟨6, .start, .one 1⟩]
    Monotone h 10 ∧
      ((Timer.init c.init c.dflt c.all).run h).strRows (fun a b => decide (a < b)) 10 =
        [⟨1, 3, some 4⟩, ⟨2, 1, none⟩] := by
  refine ⟨⟨by decide, by decide⟩, by decide⟩

/-- **`history(transpose=True)`** of a non-empty history: one list per field of the first record,
    each as long as the history, and entry `m` of list `n` is field `n` of record `m`
    (the empty history is returned as it is: `historyTranspose [] = []`). -/
theorem C15_history_transpose {β : Type} (r0 : List β) (rest : List (List β)) :
    historyTranspose ([] : List (List β)) = [] ∧
      (historyTranspose (r0 :: rest)).length = r0.length ∧
      (∀ col ∈ historyTranspose (r0 :: rest), col.length = (r0 :: rest).length) ∧
      ∀ (m n : Nat) (r : List β) (x : β), (r0 :: rest)[m]? = some r → r[n]? = some x → n < r0.length →
        ((historyTranspose (r0 :: rest))[n]?.bind (·[m]?)) = some (some x) := by
  refine ⟨rfl, by simp [historyTranspose], ?_, ?_⟩
  · intro col hc
    simp only [historyTranspose, List.mem_map, List.mem_range] at hc
    obtain ⟨n, _, rfl⟩ := hc
    simp [column]
  · intro m n r x hm hn hlt
    simp only [historyTranspose]
    rw [List.getElem?_map, List.getElem?_range hlt]
    simp only [Option.map_some, Option.bind_some, column, List.getElem?_map, hm, Option.map_some, hn]

example : historyTranspose [[1, 2, 3], [4, 5, 6]] = [[some 1, some 4], [some 2, some 5], [some 3, some 6]] := by
  decide

/-- **What `IterationStats` prints** (`display`, `period ≥ 1`, `shift_cycles`, `overwrite`), for any
    number of insertions from any state: nothing at all with `display=False`; otherwise the
    header exactly once, before the first record printed after construction, and for the record at
    position `n` — with `overwrite` always, terminated by a line feed iff it ends a display cycle
    and by a carriage return otherwise; without `overwrite` only if it ends a cycle.  A record ends
    a cycle iff its position is `0, p, 2p, …` (`shift_cycles`) or `p-1, 2p-1, …` (otherwise);
    `end()` prints one bare line feed iff displaying, overwriting, `period > 1` and the last
    record did not end a cycle. -/
theorem C15_display (o : DisplayOpts) (hp : 0 < o.period) (k : Nat) (s : Disp) :
    (o.display = false → (dispInserts o k s).out = s.out ∧ (dispEnd o s).out = s.out) ∧
    (o.display = true → dispInserts o k s =
      ⟨s.len + k, s.hdrPending && decide (k = 0),
        s.out ++ (if s.hdrPending && decide (0 < k) then [.header] else []) ++
          (List.range k).flatMap (fun n => rowEvent o (s.len + n))⟩) ∧
    (∀ n, cycleEnd o (n + 1) = true ↔
      (if o.shiftCycles then n % o.period = 0 else (n + 1) % o.period = 0)) ∧
    ((dispEnd o s).out = s.out ++
      (if o.display && o.overwrite && decide (o.period > 1) && !(cycleEnd o s.len) then [.newline] else [])) := by
  refine ⟨fun h => ⟨by rw [dispInserts_off o h], by simp [dispEnd, h]⟩, fun h => dispInserts_on o h k s,
    fun n => cycleEnd_iff o n, ?_⟩
  unfold dispEnd
  split <;> simp

/-- **What remains visible after one `solve()`** on an ideal terminal (carriage return: the next
    output replaces the line; line feed: the line stays), `k ≥ 1` iterations on a fresh displaying
    object followed by `end()`: with `overwrite` the header, the records that end a cycle and the
    last record; without it the header and the records that end a cycle are all that is printed. -/
theorem C15_display_visible (o : DisplayOpts) (hd : o.display = true) (hp : 0 < o.period) (k : Nat)
    (hk : 0 < k) :
    (o.overwrite = true →
      ((Screen.mk [] none).run (dispEnd o (dispInserts o k (Disp.init o))).out).visible =
        Line.header :: ((List.range k).filter (fun n => cycleEnd o (n + 1) || decide (n + 1 = k))).map Line.row) ∧
    (o.overwrite = false →
      (dispEnd o (dispInserts o k (Disp.init o))).out =
        PrintEv.header :: ((List.range k).filter (fun n => cycleEnd o (n + 1))).map (fun n => PrintEv.row n true)) := by
  refine ⟨fun ho => ?_, fun ho => ?_⟩
  · rw [(screen_call_overwrite o hd ho hp k (Disp.init o) [] rfl).1]
    have hk0 : k ≠ 0 := by omega
    simp [Screen.visible, callLines, Disp.init, hd, hk, hk0]
  · rw [dispInserts_on o hd]
    have hk0 : decide (0 < k) = true := by simpa using hk
    simp only [dispEnd, hd, ho, Bool.true_and, Bool.false_and, Bool.false_eq_true, if_false, Disp.init, hk0, if_true,
      List.nil_append, Nat.zero_add, List.singleton_append, List.cons.injEq, true_and]
    clear hk hk0
    induction k with
    | zero => rfl
    | succ k ih =>
      rw [List.range_succ, List.flatMap_append, ih, List.filter_append, List.map_append]
      congr 1
      cases hc : cycleEnd o (k + 1) <;> simp [rowEvent, ho, hc]

/-- **What remains visible after any number of `solve()` calls** (overwrite mode, ideal terminal):
    call by call — the header before the first record ever printed, the records that end a display
    cycle, the last record of each call (committed by `end()`), and one blank line for a call that
    inserts nothing while the last record did not end a cycle (`callsLines`); the cursor is on a
    fresh line after every call. -/
theorem C15_display_visible_calls (o : DisplayOpts) (hd : o.display = true) (ho : o.overwrite = true)
    (hp : 0 < o.period) (ks : List Nat) :
    (Screen.mk [] none).run (dispCalls o ks (Disp.init o)).out = ⟨callsLines o 0 true ks, none⟩ := by
  have := screen_calls_overwrite o hd ho hp ks (Disp.init o) [] rfl
  simpa [Disp.init, hd] using this

-- period 3 with shift: calls of 2, 0 and 3 iterations; records 0 and 3 end cycles, records 1 and 4 are the
-- last ones of their calls, and the empty call leaves a blank line
example :
    let o : DisplayOpts := { display := true, period := 3, shiftCycles := true, overwrite := true }
    ((Screen.mk [] none).run (dispCalls o [2, 0, 3] (Disp.init o)).out).lines =
      [.header, .row 0, .row 1, .blank, .row 3, .row 4] := by decide

-- non-vacuity: period 3 without shift, overwrite: 7 records; records 2 and 5 end a cycle, record 6 is
-- committed by `end()`; everything else was overwritten
example :
    let o : DisplayOpts := { display := true, period := 3, shiftCycles := false, overwrite := true }
    (dispEnd o (dispInserts o 7 (Disp.init o))).out =
        [.header, .row 0 false, .row 1 false, .row 2 true, .row 3 false, .row 4 false, .row 5 true, .row 6 false, .newline] ∧
      ((Screen.mk [] none).run (dispEnd o (dispInserts o 7 (Disp.init o))).out).visible =
        [.header, .row 2, .row 5, .row 6] := by
  decide

/-- **Statistics options are read, never written** (`itstat_func_and_object`, for every options
    dictionary with distinct keys, `None` and `{}` included): the caller's `itstat_options` object
    is what it was; the insertion function is the caller's `"itstat_func"` if there is one and the
    generated default otherwise; `IterationStats` receives no `itstat_func` argument, the caller's
    `fields` / `display` if given and the defaults otherwise, and every other key of the caller
    verbatim.  Hence any number of optimisers built one after the other from the *same* options
    object get the same insertion function and the same `IterationStats` arguments. -/
theorem C15_itstat_options {β : Type} (fields func displayOff : β) (user : Option (List (String × β)))
    (hu : ∀ u, user = some u → (u.map (·.1)).Nodup) (n : Nat) :
    ((itstatSetup fields func displayOff user).userAfter = user ∧
      (itstatSetup fields func displayOff user).func = some ((userGet user "itstat_func").getD func) ∧
      dictGet (itstatSetup fields func displayOff user).kwargs "itstat_func" = none ∧
      dictGet (itstatSetup fields func displayOff user).kwargs "fields" = some ((userGet user "fields").getD fields) ∧
      dictGet (itstatSetup fields func displayOff user).kwargs "display" = some ((userGet user "display").getD displayOff) ∧
      ∀ k, k ≠ "itstat_func" → k ≠ "fields" → k ≠ "display" →
        dictGet (itstatSetup fields func displayOff user).kwargs k = userGet user k) ∧
    ((itstatSetups fields func displayOff n user).2 = user ∧
      ∀ s ∈ (itstatSetups fields func displayOff n user).1,
        s.func = (itstatSetup fields func displayOff user).func ∧
        s.kwargs = (itstatSetup fields func displayOff user).kwargs) := by
  have hkw := dictGet_itstatSetup_kwargs fields func displayOff user hu
  refine ⟨⟨rfl, ?_, ?_, ?_, ?_, ?_⟩, ?_⟩
  · show dictGet (mergedOptions _ user) "itstat_func" = _
    rw [dictGet_merged _ _ hu]
    exact Option.or_some
  · rw [hkw]; rfl
  · rw [hkw, if_neg (by decide)]; exact Option.or_some
  · rw [hkw, if_neg (by decide)]; exact Option.or_some
  · intro k h1 h2 h3
    rw [hkw, if_neg h1]
    simp [dictGet, Ne.symm h1, Ne.symm h2, Ne.symm h3]
  · -- only the local dictionary is updated and popped: `userAfter` is `user` by definition
    induction n with
    | zero => simp [itstatSetups]
    | succ n ih =>
      refine ⟨ih.1, fun s hs => ?_⟩
      rcases List.mem_cons.mp hs with rfl | hs
      · exact ⟨rfl, rfl⟩
      · exact ih.2 s hs

-- non-vacuity: custom fields (11) and function (12) with a display period; three optimisers from one object
example :
    let user : Option (List (String × Nat)) := some [("fields", 11), ("itstat_func", 12), ("period", 3)]
    ((itstatSetups 1 2 0 3 user).1.map (fun s => (s.func, s.kwargs))) =
      [(some 12, [("fields", 11), ("display", 0), ("period", 3)]), (some 12, [("fields", 11), ("display", 0), ("period", 3)]),
       (some 12, [("fields", 11), ("display", 0), ("period", 3)])] ∧
    (itstatSetup 1 2 0 (some ([] : List (String × Nat)))).func = some 2 := by
  decide

/-- **The `Objective` column**: present iff the optimiser's `_objective_evaluatable()` holds, and then
    it is the third column, evaluated by `objective()`; `_objective_evaluatable()` holds iff every
    functional that is present can be evaluated (ADMM also without `f`). -/
theorem C15_objective_column (c : OptClass) (sv : AdmmSolver) (fGiven fHas : Bool) (gs : List Bool) :
    let obj := objectiveEvaluable c fGiven fHas gs
    ("Objective" ∈ fieldNames c sv obj ↔ obj = true) ∧
      (obj = true → (fieldSpecs c sv obj)[2]? = some ⟨"Objective", "%9.3e", "objective()"⟩) ∧
      (obj = true ↔ ((c = .admm ∧ fGiven = false) ∨ fHas = true) ∧ ∀ g ∈ gs, g = true) := by
  intro obj
  refine ⟨?_, fun h => by rw [h]; rfl, ?_⟩
  · have hx : "Objective" ∉ (extraFieldSpecs c sv).map (·.name) := by
      by_cases h : c = .admm
      · subst h; cases sv <;> decide
      · rw [extraFieldSpecs_solver c sv h]; cases c <;> decide
    have hn : fieldNames c sv obj =
        ["Iter", "Time"] ++ ((if obj then ["Objective"] else []) ++ (extraFieldSpecs c sv).map (·.name)) := by
      cases obj <;> rfl
    have h2 : "Objective" ∉ ["Iter", "Time"] := by decide
    rw [hn, List.mem_append, List.mem_append]
    cases obj
    · simp only [Bool.false_eq_true, if_false, List.not_mem_nil, false_or, iff_false, not_or]; exact ⟨h2, hx⟩
    · exact ⟨fun _ => rfl, fun _ => Or.inr (Or.inl (List.mem_singleton.mpr rfl))⟩
  · show objectiveEvaluable c fGiven fHas gs = true ↔ _
    by_cases h : c = .admm
    · subst h; simp [objectiveEvaluable]
    · have : objectiveEvaluable c fGiven fHas gs = (fHas && gs.all id) := by
        cases c <;> first | rfl | exact absurd rfl h
      simp [this, h]

example : objectiveEvaluable .admm false false [true, true] = true ∧ objectiveEvaluable .pdhg true true [false] = false := by
  decide

/-- **Statistics columns**: for every optimiser class, sub-problem solver and objective flag the
    column names are pairwise distinct and so are the attribute expressions (one value per column,
    `namedtuple` accepts the names), the record starts with `Iter` (`itnum`) and `Time`
    (`timer.elapsed()`), and there are as many specifications as names (the example below shows the
    generated statistics function reading the attribute expressions in column order).  (That these tables are the ones in the source is the
    generated obligation `Scico.Generated.DriverFields.tables_ok`, re-checked on every run.) -/
theorem C15_field_tables (c : OptClass) (sv : AdmmSolver) (obj : Bool) :
    (fieldNames c sv obj).Nodup ∧ ((fieldSpecs c sv obj).map (·.attrib)).Nodup ∧
      (fieldSpecs c sv obj).take 2 = [⟨"Iter", "%d", "itnum"⟩, ⟨"Time", "%8.2e", "timer.elapsed()"⟩] ∧
      (fieldSpecs c sv obj).length = (fieldNames c sv obj).length := by
  refine ⟨?_, ?_, rfl, by simp [fieldNames]⟩
  all_goals
    by_cases h : c = .admm
    · subst h; cases sv <;> cases obj <;> decide
    · simp only [fieldNames, fieldSpecs, extraFieldSpecs_solver c sv h]; cases c <;> cases obj <;> decide

example : itstatFuncSource ((fieldSpecs .pgm .other true).map (·.attrib)) =
    "def itstat_func(obj): return(obj.itnum, obj.timer.elapsed(), obj.objective(), obj.L, obj.norm_residual())" := by
  decide +kernel

/-- **Constructor options** (`Optimizer.__init__`; the table `optionDefaults` is compared with the
    `kwargs.pop` calls of the source by the generated obligation `DriverSource.optionDefaults_ok`):
    without keywords `iter0 = 0`, `maxiter = 100`, `nanstop = False`, no statistics options; a keyword
    list is rejected (`TypeError`) iff it names something that is not in the table. -/
theorem C15_option_defaults (kw : List (String × Int)) :
    parseKwargs [] = some { iter0 := 0, maxiter := 100, nanstop := false, itstatGiven := false } ∧
      (parseKwargs kw = none ↔ ∃ p ∈ kw, p.1 ∉ ["iter0", "maxiter", "nanstop", "itstat_options"]) := by
  refine ⟨by decide, ?_⟩
  have hk : optionDefaults.map (·.1) = ["iter0", "maxiter", "nanstop", "itstat_options"] := rfl
  have hrest : (kw.filter (fun p => !(["iter0", "maxiter", "nanstop", "itstat_options"].contains p.1))).isEmpty = true ↔
      ¬ ∃ p ∈ kw, p.1 ∉ ["iter0", "maxiter", "nanstop", "itstat_options"] := by
    rw [List.isEmpty_iff, List.filter_eq_nil_iff]
    simp only [Bool.not_eq_true', List.contains_eq_mem, decide_eq_false_iff_not, not_exists, not_and]
  unfold parseKwargs
  simp only [hk]
  split
  · next h => exact ⟨fun e => (nomatch e), fun e => absurd e (hrest.mp h)⟩
  · next h => exact ⟨fun _ => not_not.mp (fun e => h (hrest.mpr e)), fun _ => rfl⟩

example : parseKwargs [("maxiter", 7), ("nanstop", 1)] = some { iter0 := 0, maxiter := 7, nanstop := true, itstatGiven := false } ∧
    parseKwargs [("maxiters", 7)] = none := by decide

/-- `_working_vars_finite()` (every class: conjunction of `_all_finite` over the class's working
    variables) is false exactly when some entry of some block of some working variable is
    non-finite — plain and block arrays alike -/
theorem C15_working_vars_finite_iff {α : Type} (fin : α → Bool) (vars : List (Var α)) :
    workingVarsFinite fin vars = false ↔ hasNonFinite fin vars :=
  workingVarsFinite_eq_false_iff fin vars

example : workingVarsFinite id [Var.plain [true, true], Var.block [[true], [true, false]]] = false := by
  decide

section Solve
variable {ω ρ ξ α L : Type} [DecidableEq L]

/-- **Iteration count.**  A `solve()` that the NaN stop does not interrupt performs exactly
    `m = max(maxiter, 0)` iterations: the final state is `m`-fold application of "`step()`, then
    the callback"; `m` records and (with a callback) `m` callback invocations are added. -/
theorem C15_solve_count (E : Env ω ρ ξ α) (cb : Option (Callback ω)) (d : Drv ω ρ L)
    (hr : Ready d) (hn : NoTrip E cb d) :
    (solve E cb d).2 = .ok ∧
      (solve E cb d).1.world = worldAt E cb d.world d.maxiter.toNat ∧
      (solve E cb d).1.rows.length = d.rows.length + d.maxiter.toNat ∧
      (solve E cb d).1.cblog.length = d.cblog.length + (if cb.isSome then d.maxiter.toNat else 0) ∧
      solveReturn E cb d = E.minimizer (worldAt E cb d.world d.maxiter.toNat) := by
  obtain ⟨ok, S⟩ := solve_clean E cb d hr hn
  refine ⟨ok, S.world, by simp [S.rows], ?_, by simp [solveReturn, S.world]⟩
  rw [S.cblog]
  cases cb <;> simp

/-- **Numbering.**  The records of the call are numbered consecutively from the counter value
    at the call, and the counter ends at `itnum + m` — so a later call continues the numbering. -/
theorem C15_numbering (E : Env ω ρ ξ α) (cb : Option (Callback ω)) (d : Drv ω ρ L)
    (hr : Ready d) (hn : NoTrip E cb d) :
    (solve E cb d).1.rows.map (·.iter) =
        d.rows.map (·.iter) ++ (List.range d.maxiter.toNat).map (fun (k : Nat) => d.itnum + (k : Int)) ∧
      (solve E cb d).1.itnum = d.itnum + (d.maxiter.toNat : Int) := by
  obtain ⟨_, S⟩ := solve_clean E cb d hr hn
  refine ⟨?_, S.itnum⟩
  rw [S.rows, List.map_append, List.map_map]
  rfl

/-- **Records.**  One record per performed iteration, in order; record `k` carries the number
    `itnum + k`, the accessor values `E.fields` of the state right after the `step()` of iteration
    `k` (before the callback), and the time `specRow` prescribes. -/
theorem C15_records (E : Env ω ρ ξ α) (cb : Option (Callback ω)) (d : Drv ω ρ L)
    (hr : Ready d) (hn : NoTrip E cb d) :
    (solve E cb d).1.rows =
      d.rows ++ (List.range d.maxiter.toNat).map
        (specRow E cb d.world d.itnum (d.timer.elapsedDefault true d.clock)) ∧
    ∀ k, (specRow E cb d.world d.itnum (d.timer.elapsedDefault true d.clock) k).fields =
      E.fields (E.step (worldAt E cb d.world k)) :=
  ⟨(solve_clean E cb d hr hn).2.rows, fun _ => rfl⟩

/-- **Callback exactly once per iteration**, after the step and the record of that iteration and
    before the next step, seeing the counter value of that iteration; no invocation without a
    callback. -/
theorem C15_callback_once (E : Env ω ρ ξ α) (cb : Option (Callback ω)) (d : Drv ω ρ L)
    (hr : Ready d) (hn : NoTrip E cb d) :
    (solve E cb d).1.cblog =
      d.cblog ++ (if cb.isSome then
        (List.range d.maxiter.toNat).map (specCb E cb d.world d.itnum d.clock) else []) ∧
    ∀ k, (specCb E cb d.world d.itnum d.clock k).itnum = d.itnum + (k : Int) ∧
      (specCb E cb d.world d.itnum d.clock k).world = E.step (worldAt E cb d.world k) :=
  ⟨(solve_clean E cb d hr hn).2.cblog, fun _ => ⟨rfl, rfl⟩⟩

/-- **`maxiter = 0`** (or negative): no step, no record, no callback, the counter and the clock
    are unchanged, the timer reads what it read (the defect of the pinned tree — the counter was
    incremented — is repaired by commit 4b50827). -/
theorem C15_maxiter_zero (E : Env ω ρ ξ α) (cb : Option (Callback ω)) (d : Drv ω ρ L)
    (hr : Ready d) (hm : d.maxiter ≤ 0) :
    (solve E cb d).2 = .ok ∧ (solve E cb d).1.world = d.world ∧ (solve E cb d).1.itnum = d.itnum ∧
      (solve E cb d).1.rows = d.rows ∧ (solve E cb d).1.cblog = d.cblog ∧
      (solve E cb d).1.clock = d.clock ∧
      (solve E cb d).1.timer.elapsedDefault true d.clock = d.timer.elapsedDefault true d.clock := by
  have hz : d.maxiter.toNat = 0 := by omega
  obtain ⟨ok, S⟩ := solve_clean E cb d hr (fun k hk => by omega)
  have Sw := S.world; have Si := S.itnum; have Sr := S.rows; have Sb := S.cblog
  have Sc := S.clock; have St := S.timer
  rw [hz] at Sw Si Sr Sb Sc St
  refine ⟨ok, Sw, by simpa using Si, by simpa using Sr, ?_, by simpa [stepTime, cbTime] using Sc, ?_⟩
  · rw [Sb]; cases cb <;> simp
  · rw [St.read]; simp [stepTime]

/-- **The reported time excludes the callbacks.**  The `Time` of record `k` is the reading of the
    default timer when `solve` was called plus the durations of the `step()` calls of iterations
    `0..k` — whatever the callbacks' durations: two callbacks with the same effect on the state
    but different durations give identical records. -/
theorem C15_time_excludes_callback (E : Env ω ρ ξ α) (d : Drv ω ρ L) (hr : Ready d)
    (c c' : Callback ω) (hsame : c.run = c'.run)
    (hn : NoTrip E (some c) d) (hn' : NoTrip E (some c') d) :
    (∀ k, (specRow E (some c) d.world d.itnum (d.timer.elapsedDefault true d.clock) k).time =
        d.timer.elapsedDefault true d.clock + stepTime E (some c) d.world (k + 1)) ∧
      (solve E (some c) d).1.rows = (solve E (some c') d).1.rows ∧
      (solve E (some c) d).1.timer.elapsedDefault true (solve E (some c) d).1.clock =
        d.timer.elapsedDefault true d.clock + stepTime E (some c) d.world d.maxiter.toNat := by
  obtain ⟨_, S⟩ := solve_clean E (some c) d hr hn
  obtain ⟨_, S'⟩ := solve_clean E (some c') d hr hn'
  have hw : ∀ k, worldAt E (some c) d.world k = worldAt E (some c') d.world k := by
    intro k
    induction k with
    | zero => rfl
    | succ k ih => simp [worldAt, iterWorld, cbRun, ih, hsame]
  refine ⟨fun _ => rfl, ?_, S.timer.read _⟩
  rw [S.rows, S'.rows]
  congr 1
  apply List.map_congr_left
  intro k _
  simp only [specRow, stepTime, afterStep, hw]

/-- `Logged` holds of a freshly constructed optimiser and is kept by `solve` (with or without
    callback, interrupted or not), so it holds along every sequence of `solve` calls. -/
theorem C15_logged_invariant (E : Env ω ρ ξ α) (cb : Option (Callback ω)) (cfg : Cfg L)
    (hc : cfg.init = .none) (w : ω) (o : Options) (c0 : Nat) :
    Logged cfg (Drv.init (ρ := ρ) w o cfg.dflt cfg.all c0) ∧
      ∀ d : Drv ω ρ L, Logged cfg d → Logged cfg (solve E cb d).1 :=
  ⟨logged_init w o cfg hc c0, fun _ hl => logged_solve E cb hl⟩

/-- **The reported time, through the stop-watch refinement.**  Let the optimiser's timer be a
    `Timer()` on which exactly the logged calls were made (`Logged`; true of a fresh optimiser and
    kept by every `solve`).  The `Time` of record `k` of a `solve(callback)` call equals the ideal
    stop-watch reading — number of counted ticks — over the timer calls issued so far
    (`logAt`: the earlier log, the `start()` of this call, and a `stop()`/`start()` pair around each
    earlier callback) at the moment the record is made; and no tick lying inside the callback of an
    earlier iteration of the call is counted. -/
theorem C15_time_is_stopwatch (E : Env ω ρ ξ α) (c : Callback ω) (cfg : Cfg L) (d : Drv ω ρ L)
    (hl : Logged cfg d) (hr : Ready d) (hn : NoTrip E (some c) d) (k : Nat) (hk : k < d.maxiter.toNat) :
    (specRow E (some c) d.world d.itnum (d.timer.elapsedDefault true d.clock) k).time =
        specTotal (labelHistory cfg (logAt E (some c) d k) cfg.dflt) (recordClock E (some c) d k) ∧
      ∀ j < k, ∀ s, (specCb E (some c) d.world d.itnum d.clock j).enter ≤ s →
        s < (specCb E (some c) d.world d.itnum d.clock j).leave →
        counted (labelHistory cfg (logAt E (some c) d k) cfg.dflt) s = false := by
  have hclean : ∀ j < k, ¬ tripsAt E (some c) d.world d.nanstop j := fun j hj => hn j (by omega)
  refine ⟨(row_time_is_stopwatch E c cfg d hl hr k hclean).2, ?_⟩
  intro j hj s hs1 hs2
  exact callback_ticks_not_counted E c cfg d hl hr k hclean j hj s hs1 hs2

/-- **NaN stop.**  If `j` is the first iteration (0-based) after whose `step()` some entry of some
    block of some working variable is non-finite (with `nanstop` on), `solve()` raises in that
    iteration: the counter shows `itnum + j`, exactly the records and callbacks of the `j` earlier
    iterations exist, the state is the one right after that step. -/
theorem C15_nanstop (E : Env ω ρ ξ α) (cb : Option (Callback ω)) (d : Drv ω ρ L) (hr : Ready d)
    (j : Nat) (hj : j < d.maxiter.toNat) (hbefore : ∀ k < j, ¬ tripsAt E cb d.world d.nanstop k)
    (hat : tripsAt E cb d.world d.nanstop j) :
    (solve E cb d).2 = .nan ∧ (solve E cb d).1.itnum = d.itnum + (j : Int) ∧
      (solve E cb d).1.world = E.step (worldAt E cb d.world j) ∧
      (solve E cb d).1.rows = d.rows ++ (List.range j).map
        (specRow E cb d.world d.itnum (d.timer.elapsedDefault true d.clock)) ∧
      (solve E cb d).1.cblog.length = d.cblog.length + (if cb.isSome then j else 0) := by
  obtain ⟨o, S⟩ := solve_trip E cb d hr j hj hbefore hat
  refine ⟨o, S.itnum, S.world, S.rows, ?_⟩
  rw [S.cblog rfl]
  cases cb <;> simp

/-- **…and not before, and never otherwise.**  `solve()` raises the NaN-stop exception iff some
    iteration of the call trips the test; it never ends in any other exception (in particular the
    timer calls inside `solve` cannot raise `KeyError`). -/
theorem C15_nanstop_iff (E : Env ω ρ ξ α) (cb : Option (Callback ω)) (d : Drv ω ρ L) (hr : Ready d) :
    ((solve E cb d).2 = .nan ↔ ∃ j < d.maxiter.toNat, tripsAt E cb d.world d.nanstop j) ∧
      (solve E cb d).2 ≠ .key := by
  rcases first_trip (tripsAt E cb d.world d.nanstop) d.maxiter.toNat with h | ⟨j, hj, hc, ht⟩
  · obtain ⟨ok, _⟩ := solve_clean E cb d hr h
    exact ⟨⟨fun hn => (by rw [ok] at hn; cases hn), fun ⟨j, hj, hat⟩ => absurd hat (h j hj)⟩, (by rw [ok]; simp)⟩
  · obtain ⟨o, _⟩ := solve_trip E cb d hr j hj hc ht
    exact ⟨⟨fun _ => ⟨j, hj, ht⟩, fun _ => o⟩, (by rw [o]; simp)⟩

/-- **Carrying on after a NaN stop.**  If the call raised in iteration `j`, then after any pause of
    `g` ticks the object again satisfies `Ready` — so every theorem above applies to the next
    `solve()` and to the whole remaining history.  The counter stays at the number of the failed
    iteration (no record carries it, so the record numbers stay consecutive), and the stop-watch
    is left *running*: the time of the failed step and the pause are on it when the next call starts. -/
theorem C15_after_nanstop (E : Env ω ρ ξ α) (cb : Option (Callback ω)) (d : Drv ω ρ L) (hr : Ready d)
    (j : Nat) (hj : j < d.maxiter.toNat) (hbefore : ∀ k < j, ¬ tripsAt E cb d.world d.nanstop k)
    (hat : tripsAt E cb d.world d.nanstop j) (g : Nat) :
    let r := (solve E cb d).1.tick g
    Ready r ∧ r.itnum = d.itnum + (j : Int) ∧
      r.timer.elapsedDefault true r.clock =
        d.timer.elapsedDefault true d.clock + stepTime E cb d.world (j + 1) + g := by
  obtain ⟨_, S⟩ := solve_trip E cb d hr j hj hbefore hat
  have hrun := S.timer
  refine ⟨hr.of_running hrun g, S.itnum, ?_⟩
  simp only [tick_timer, tick_clock, (hrun.after g).2]

/-- **Resumption.**  `solve()` with `m₁` iterations, any pause of `g` ticks, then `solve()` with
    `m₂` iterations ends in the same state, records (numbers, times, fields) and timer as one
    `solve()` with `m₁ + m₂` iterations; the clock differs by the pause, and without a pause the
    callback logs agree as well. -/
theorem C15_resume (E : Env ω ρ ξ α) (cb : Option (Callback ω)) (d : Drv ω ρ L) (m1 m2 g : Nat)
    (hr : Ready d) (hn : NoTrip E cb (d.setMaxiter ((m1 + m2 : Nat) : Int))) :
    let r1 := solve E cb (d.setMaxiter m1)
    let r2 := solve E cb ((r1.1.tick g).setMaxiter m2)
    let r := solve E cb (d.setMaxiter ((m1 + m2 : Nat) : Int))
    r1.2 = .ok ∧ r2.2 = .ok ∧ r.2 = .ok ∧ r2.1.world = r.1.world ∧ r2.1.itnum = r.1.itnum ∧
      r2.1.rows = r.1.rows ∧ r2.1.timer = r.1.timer ∧ r2.1.clock = r.1.clock + g ∧
      (g = 0 → r2.1.cblog = r.1.cblog) := by
  have hclean : ∀ k < m1 + m2, ¬ tripsAt E cb d.world d.nanstop k := hn
  obtain ⟨ok1, D1⟩ := doneAt_solve E cb d m1 hr (fun k hk => hclean k (by omega))
  obtain ⟨ok2, D2⟩ := D1.next hr.labels g m2 hclean
  obtain ⟨ok, D⟩ := doneAt_solve E cb d (m1 + m2) hr hclean
  obtain ⟨hw, hi, hrows, ht, hc⟩ := D2.agree D
  exact ⟨ok1, ok2, ok, hw, hi, hrows, ht, by omega, fun hg => by rw [D2.cblog (by omega), D.cblog rfl]⟩

/-- **Resumption, interrupted.**  If the NaN stop trips in (globally counted) iteration
    `j ≥ m₁` — i.e. during the second call — the two-call run and the single long run raise the
    same exception with the same state, counter and records. -/
theorem C15_resume_nanstop (E : Env ω ρ ξ α) (cb : Option (Callback ω)) (d : Drv ω ρ L) (m1 m2 g : Nat)
    (hr : Ready d) (j : Nat) (hj1 : m1 ≤ j) (hj2 : j < m1 + m2)
    (hbefore : ∀ k < j, ¬ tripsAt E cb d.world d.nanstop k) (hat : tripsAt E cb d.world d.nanstop j) :
    let r1 := solve E cb (d.setMaxiter m1)
    let r2 := solve E cb ((r1.1.tick g).setMaxiter m2)
    let r := solve E cb (d.setMaxiter ((m1 + m2 : Nat) : Int))
    r1.2 = .ok ∧ r2.2 = .nan ∧ r.2 = .nan ∧ r2.1.world = r.1.world ∧ r2.1.itnum = r.1.itnum ∧
      r2.1.rows = r.1.rows ∧ r2.1.clock = r.1.clock + g := by
  obtain ⟨j', rfl⟩ : ∃ j', j = m1 + j' := ⟨j - m1, by omega⟩
  obtain ⟨ok1, D1⟩ := doneAt_solve E cb d m1 hr (fun k hk => hbefore k (by omega))
  obtain ⟨o2, T2⟩ := D1.next_trip hr.labels g m2 j' (by omega) hbefore hat
  obtain ⟨o, T⟩ := trippedAt_solve E cb d (m1 + m2) hr (m1 + j') hj2 hbefore hat
  obtain ⟨hw, hi, hrows, hc⟩ := T2.agree T
  exact ⟨ok1, o2, o, hw, hi, hrows, by omega⟩

/-- **Any sequence of `solve()` calls.**  For every list of calls `solver.maxiter = mᵢ;
    solver.solve(cbᵢ)` (any length, any iteration counts, with or without callbacks) none of which
    is interrupted: the counter ends at `itnum + Σ max(mᵢ,0)` and the records of all the calls
    together are numbered consecutively `itnum, itnum+1, …` — calling `solve()` again continues the
    numbering, and `maxiter = 0` calls in between change nothing. -/
theorem C15_history (E : Env ω ρ ξ α) (calls : List (Int × Option (Callback ω))) (d : Drv ω ρ L)
    (hr : Ready d) (hok : AllOk E calls d) :
    (runSolves E calls d).itnum = d.itnum + (totalIters calls : Int) ∧
      (runSolves E calls d).rows.map (·.iter) =
        d.rows.map (·.iter) ++ (List.range (totalIters calls)).map (fun (k : Nat) => d.itnum + (k : Int)) :=
  ⟨(runSolves_numbering E calls d hr hok).1, (runSolves_numbering E calls d hr hok).2.1⟩

/-- **Any number of calls ≡ one longer run.**  `solver.maxiter = m₀; solve(cb)` followed by any
    list of "pause of `g` ticks; `solver.maxiter = m; solve(cb)`" ends in the same state, counter,
    records (numbers, times, fields) and timer object as ONE `solve(cb)` with
    `maxiter = m₀ + Σ m`; the clock differs by the pauses.  (`C15_resume` is the case of one later
    call; here the list is arbitrary, zero-iteration calls included.) -/
theorem C15_history_equiv (E : Env ω ρ ξ α) (cb : Option (Callback ω)) (d : Drv ω ρ L) (m0 : Nat)
    (rest : List (Nat × Nat)) (hr : Ready d)
    (hn : NoTrip E cb (d.setMaxiter ((m0 + seqIters rest : Nat) : Int))) :
    let r := runSeq E cb d m0 rest
    let s := solve E cb (d.setMaxiter ((m0 + seqIters rest : Nat) : Int))
    s.2 = .ok ∧ r.world = s.1.world ∧ r.itnum = s.1.itnum ∧ r.rows = s.1.rows ∧ r.timer = s.1.timer ∧
      r.clock = s.1.clock + seqPause rest := by
  have h : ∀ k < m0 + seqIters rest, ¬ tripsAt E cb d.world d.nanstop k := hn
  obtain ⟨_, D0⟩ := doneAt_solve E cb d m0 hr (fun k hk => h k (by omega))
  have Dr : DoneAt E cb d (runSeq E cb d m0 rest) _ _ := foldl_doneAt hr.labels rest _ m0 0 D0 h
  obtain ⟨ok, D⟩ := doneAt_solve E cb d (m0 + seqIters rest) hr h
  obtain ⟨hw, hi, hrows, ht, hc⟩ := Dr.agree D
  exact ⟨ok, hw, hi, hrows, ht, by omega⟩

/-- **A callback that raises.**  If the callback raises an exception during its invocation in
    iteration `j` of the call (having changed the state by an arbitrary `pr` and taken `pt` ticks),
    and no earlier iteration nor iteration `j` trips the NaN stop: the exception leaves `solve`
    with the counter at `itnum + j`, the records of iterations `0..j` (the record of iteration `j`
    was made before the callback), `j + 1` callback invocations, and the stop-watch **stopped**
    — it reads the time at the call plus the durations of the steps `0..j` at every later moment:
    neither the time spent in the failing callback nor any pause afterwards is counted (unlike
    after a NaN stop, `C15_after_nanstop`) — and the object is `Ready` for the next call. -/
theorem C15_callback_raises (E : Env ω ρ ξ α) (c : Callback ω) (pr : ω → ω) (pt : ω → Nat) (d : Drv ω ρ L)
    (hr : Ready d) (j : Nat) (hj : j < d.maxiter.toNat)
    (hn : ∀ k ≤ j, ¬ tripsAt E (some c) d.world d.nanstop k) (g : Nat) :
    let r := (solveRaise E c pr pt d j).1
    (solveRaise E c pr pt d j).2 = none ∧ r.world = pr (afterStep E (some c) d.world j) ∧
      r.itnum = d.itnum + (j : Int) ∧
      r.rows = d.rows ++ (List.range (j + 1)).map
        (specRow E (some c) d.world d.itnum (d.timer.elapsedDefault true d.clock)) ∧
      r.cblog.length = d.cblog.length + (j + 1) ∧
      (r.tick g).timer.elapsedDefault true (r.tick g).clock =
        d.timer.elapsedDefault true d.clock + stepTime E (some c) d.world (j + 1) ∧
      Ready (r.tick g) := by
  obtain ⟨h1, h2, h3, h4, h5, _, h7⟩ := solveRaise_spec E c pr pt d hr j hj hn
  exact ⟨h1, h2, h3, h4, h5, h7.read _, hr.of_stopped h7 g⟩

/-- **`period = 0`** (accepted by `IterationStats.__init__`).  Without `display` the period is never
    looked at: nothing is printed by any number of insertions and `end()` does nothing.  With
    `display`, `end()` still never evaluates the modulo, but the first `insert` raises
    `ZeroDivisionError` *after* the record is stored and the header printed; so a `solve()` with
    `maxiter > 0` whose first step does not trip the NaN stop ends in that exception with exactly one
    new record (number `itnum`, time = reading at the call + the step's duration, fields of the
    state after the step), the counter unchanged, no callback invocation, the stop-watch left
    running, and the object `Ready` for whatever follows. -/
theorem C15_period_zero (o : DisplayOpts) (hp0 : o.period = 0) (k : Nat) (s : Disp)
    (E : Env ω ρ ξ α) (cb : Option (Callback ω)) (d : Drv ω ρ L) (hr : Ready d) (hm : 0 < d.maxiter.toNat)
    (hn : ¬ tripsAt E cb d.world d.nanstop 0) (g : Nat) :
    (insertRaises o = o.display) ∧
      (o.display = false → (dispInserts o k s).out = s.out) ∧ (dispEnd o s = s) ∧
      (dispInsertRaise s).len = s.len + 1 ∧
      (let r := (solveInsertRaise E cb d).1
       (solveInsertRaise E cb d).2 = none ∧ r.itnum = d.itnum ∧ r.world = E.step d.world ∧
        r.rows = d.rows ++ [⟨d.itnum, d.timer.elapsedDefault true d.clock + E.stepTicks d.world,
          E.fields (E.step d.world)⟩] ∧
        r.cblog = d.cblog ∧
        (r.tick g).timer.elapsedDefault true (r.tick g).clock =
          d.timer.elapsedDefault true d.clock + E.stepTicks d.world + g ∧
        Ready (r.tick g)) := by
  obtain ⟨h1, h2, h3, h4, h5, _, h7⟩ := solveInsertRaise_spec E cb d hr.past hm hn
  refine ⟨by simp [insertRaises, hp0], fun hd => by rw [dispInserts_off o hd], by simp [dispEnd, hp0], rfl, ?_⟩
  refine ⟨h1, h3, h2, h4, h5, ?_, hr.of_running h7 g⟩
  simp only [tick_timer, tick_clock, (h7.after g).2]

/-- **Callbacks that assign `optimizer.itnum` / `optimizer.maxiter`** (`CallbackX`: arbitrary
    `ctl`), for the tree before commit `1b5db51` (`late = true`) and since it (`late = false`).
    Unconditionally — also when the NaN stop trips — the call has the same outcome and leaves the
    same state, records (numbers included), callback log, clock and timer as with the plain
    callback: the number of iterations and the numbering are fixed when the call starts and no
    assignment by a callback can change them. -/
theorem C15_callback_assigns (late : Bool) (E : Env ω ρ ξ α) (cbx : Option (CallbackX ω)) (d : Drv ω ρ L) :
    (solveX late E cbx d).2 = (solve E (plainCb cbx) d).2 ∧
      (solveX late E cbx d).1.world = (solve E (plainCb cbx) d).1.world ∧
      (solveX late E cbx d).1.rows = (solve E (plainCb cbx) d).1.rows ∧
      (solveX late E cbx d).1.cblog = (solve E (plainCb cbx) d).1.cblog ∧
      (solveX late E cbx d).1.clock = (solve E (plainCb cbx) d).1.clock ∧
      (solveX late E cbx d).1.timer = (solve E (plainCb cbx) d).1.timer := by
  obtain ⟨ho, hs⟩ := solveX_sim late E cbx d
  exact ⟨ho, hs.world, hs.rows, hs.cblog, hs.clock, hs.timer⟩

/-- **…and what they do to the counter.**  After an uninterrupted call, `maxiter` is what the last
    callback left (`ctlAt`: the loop assigns `itnum = i₀ + k` at the start of iteration `k`, so
    only the *last* callback's assignment to `itnum` survives; assignments to `maxiter`
    accumulate).  The counter is what the last callback left, plus one iff
    * `late = true` (before `1b5db51`): the `maxiter` *left by the callbacks* is positive — a callback
      that sets `maxiter ≤ 0` leaves the counter one short, and the next call repeats an iteration
      number (finding `callback-maxiter-counter`);
    * `late = false` (since `1b5db51`): the `maxiter` of the call was positive.
    With callbacks that assign nothing both are `itnum + max(maxiter,0)`. -/
theorem C15_callback_counter (late : Bool) (E : Env ω ρ ξ α) (cbx : Option (CallbackX ω)) (d : Drv ω ρ L)
    (hr : Ready d) (hn : NoTrip E (plainCb cbx) d) :
    let a := ctlAt E cbx d.world d.itnum d.maxiter d.maxiter.toNat
    (solveX late E cbx d).1.maxiter = a.2 ∧
      (solveX late E cbx d).1.itnum = (if (if late then a.2 else d.maxiter) > 0 then a.1 + 1 else a.1) ∧
      ((∀ c, cbx = some c → c.neutral) →
        (solveX late E cbx d).1.maxiter = d.maxiter ∧
        (solveX late E cbx d).1.itnum = d.itnum + (d.maxiter.toNat : Int)) := by
  intro a
  obtain ⟨h1, h2⟩ := solveX_attrs late E cbx d hr hn
  refine ⟨h1, h2, ?_⟩
  intro hneu
  have ha : ctlAt E cbx d.world d.itnum d.maxiter d.maxiter.toNat =
      (if d.maxiter.toNat = 0 then d.itnum else d.itnum + ((d.maxiter.toNat : Int) - 1), d.maxiter) :=
    ctlAt_neutral E cbx d.world d.itnum d.maxiter hneu _
  rw [h1, h2, ha]
  refine ⟨rfl, ?_⟩
  simp only [ite_self]
  by_cases hp : d.maxiter > 0
  · have : d.maxiter.toNat ≠ 0 := by omega
    simp only [hp, if_true, this, if_false]; omega
  · have : d.maxiter.toNat = 0 := by omega
    simp [hp, this]

/-- **Callbacks that assign `optimizer.nanstop`.**  `solve` reads the attribute afresh in every
    iteration, so what counts for iteration `j` is the value the callbacks of the earlier iterations
    left (`nanAt`; the value at the call for `j = 0`).  `solveN` — the transcription with such a
    callback — is exactly `solve` of an optimiser that carries the attribute in its state
    (`solveN_rel`), hence: the exception is raised iff in some iteration `j` the attribute is on
    *at that moment* and a working variable is non-finite after the step; no other exception occurs;
    and it is raised in the FIRST such iteration, with the counter at `itnum + j` and exactly the
    `j` earlier records. -/
theorem C15_callback_nanstop (E : Env ω ρ ξ α) (c : CallbackN ω) (d : Drv ω ρ L) (hr : Ready d) :
    let trips := fun j => nanAt E c d.world d.nanstop j = true ∧
      hasNonFinite E.fin (E.vars (afterStep E (some c.toCallback) d.world j))
    ((solveN E c d).2 = .nan ↔ ∃ j < d.maxiter.toNat, trips j) ∧ (solveN E c d).2 ≠ .key ∧
      ∀ j < d.maxiter.toNat, (∀ k < j, ¬ trips k) → trips j →
        (solveN E c d).1.itnum = d.itnum + (j : Int) ∧ (solveN E c d).1.rows.length = d.rows.length + j := by
  intro trips
  have hr' : Ready (liftN d) := ⟨hr.labels, hr.past⟩
  obtain ⟨ho, hs⟩ := solveN_rel E c d
  obtain ⟨hiff, hkey⟩ := C15_nanstop_iff (envN E) (some (cbN c)) (liftN d) hr'
  have htr : ∀ j, tripsAt (envN E) (some (cbN c)) (liftN d).world (liftN d).nanstop j ↔ trips j :=
    fun j => tripsAt_envN E c d.world d.nanstop j
  refine ⟨?_, by rw [← ho]; exact hkey, ?_⟩
  · rw [← ho, hiff]
    constructor
    · rintro ⟨j, hj, h⟩; exact ⟨j, hj, (htr j).mp h⟩
    · rintro ⟨j, hj, h⟩; exact ⟨j, hj, (htr j).mpr h⟩
  · intro j hj hbefore hat
    obtain ⟨_, hi, _, hrows, _⟩ := C15_nanstop (envN E) (some (cbN c)) (liftN d) hr' j hj
      (fun k hk h => hbefore k hk ((htr k).mp h)) ((htr j).mpr hat)
    refine ⟨by rw [← hs.itnum, hi]; rfl, ?_⟩
    rw [← hs.rows, hrows]
    simp [liftN]

end Solve

/-! ### non-vacuity: a concrete optimiser satisfying every hypothesis above -/

/-- state = number of steps taken; a step takes `w + 1` ticks; one block-array working variable
    whose second block becomes non-finite from the 4th step on -/
def exEnv : Env Nat Nat Nat Bool :=
  { step := fun w => w + 1, stepTicks := fun w => w + 1,
    vars := fun w => [Var.plain [true], Var.block [[true], [decide (w < 4)]]], fin := id,
    fields := fun w => 10 * w, minimizer := id }

def exCb : Callback Nat := { run := id, ticks := fun _ => 100 }

/-- `Optimizer(iter0=2, maxiter=3, nanstop=True)` at clock 7; labels 0 = "main", 1 = "all" -/
def exDrv : Drv Nat Nat Nat := Drv.init 0 { iter0 := 2, maxiter := 3, nanstop := true } 0 1 7

example : Ready exDrv := ready_init 0 _ 0 1 7 (by decide)
example : Logged ⟨.none, 0, 1⟩ exDrv := logged_init 0 _ ⟨.none, 0, 1⟩ rfl 7
-- record 2 of the example: 6 counted ticks among the 213 that have passed (two callbacks of 100)
example : recordClock exEnv (some exCb) exDrv 2 = 7 + 6 + 200 ∧
    specTotal (labelHistory (⟨.none, 0, 1⟩ : Cfg Nat) (logAt exEnv (some exCb) exDrv 2) 0) 213 = 6 := by
  decide +kernel

example : NoTrip exEnv (some exCb) exDrv := by
  intro k hk
  have hk' : k < 3 := hk
  rw [← tripsB_iff]
  have : k = 0 ∨ k = 1 ∨ k = 2 := by omega
  rcases this with rfl | rfl | rfl <;> decide

-- three records numbered 2,3,4; times 1, 1+2, 1+2+3 although each callback takes 100 ticks
example : (solve exEnv (some exCb) exDrv).1.rows.map (fun r => (r.iter, r.time, r.fields)) =
    [(2, 1, 10), (3, 3, 20), (4, 6, 30)] := by decide
example : (solve exEnv (some exCb) exDrv).1.itnum = 5 ∧ (solve exEnv (some exCb) exDrv).1.clock = 313 := by
  decide
-- resuming for three more iterations trips the NaN stop in the iteration numbered 5 (4th step)
example : (solve exEnv none (solve exEnv (some exCb) exDrv).1).2 = .nan ∧
    (solve exEnv none (solve exEnv (some exCb) exDrv).1).1.itnum = 5 := by decide
-- three calls (2 iterations with callback, 0 iterations, 1 iteration): none raises, numbering 2,3,4
example : AllOk exEnv [(2, some exCb), (0, none), (1, none)] exDrv := by
  refine ⟨by decide, by decide, by decide, trivial⟩
example : (runSolves exEnv [(2, some exCb), (0, none), (1, none)] exDrv).rows.map (·.iter) = [2, 3, 4] := by
  decide
example : tripsAt exEnv none 3 true 0 := by
  refine ⟨rfl, Var.block [[true], [false]], by simp [exEnv, afterStep, worldAt], ?_⟩
  exact ⟨[false], by simp, false, by simp, rfl⟩

-- after the NaN stop of the resumed run (iteration numbered 5) and a pause of 9 ticks: counter 5, and the
-- stop-watch shows the 6 ticks of the first call + the 4 of the failed step + the pause
example :
    let d1 := (solve exEnv (some exCb) exDrv).1
    let r := (solve exEnv none d1).1.tick 9
    r.itnum = 5 ∧ r.timer.elapsedDefault true r.clock = 6 + 4 + 9 := by decide

-- the callback raises in the second iteration (j = 1) after 40 of its ticks: records 2 and 3 exist, the
-- counter shows 3, and 50 ticks later the stop-watch still reads the 1 + 2 ticks of the two steps
example :
    let r := solveRaise exEnv exCb id (fun _ => 40) exDrv 1
    r.2 = none ∧ r.1.rows.map (·.iter) = [2, 3] ∧ r.1.itnum = 3 ∧
      (r.1.tick 50).timer.elapsedDefault true (r.1.tick 50).clock = 3 := by decide

-- display with period 0: the first insert raises; one record (number 2, time 1) is stored, the counter stays 2
example :
    let r := solveInsertRaise exEnv (some exCb) exDrv
    r.2 = none ∧ r.1.rows.map (fun x => (x.iter, x.time)) = [(2, 1)] ∧ r.1.itnum = 2 ∧
      insertRaises { display := true, period := 0 } = true := by decide
-- the NaN stop in the LAST iteration of a call: `maxiter = 4` from the fresh example object trips in its 4th step
example : (solve exEnv none (exDrv.setMaxiter 4)).2 = .nan ∧ (solve exEnv none (exDrv.setMaxiter 4)).1.itnum = 5 ∧
    (solve exEnv none (exDrv.setMaxiter 4)).1.rows.length = 3 ∧ (solve exEnv none (exDrv.setMaxiter 3)).2 = .ok := by decide

/-- a callback that switches the NaN stop off in the iteration numbered 3 (second iteration of the example) -/
def exCbNanOff : CallbackN Nat := { run := id, ticks := fun _ => 1, setNan := fun w => if w = 2 then some false else none }

-- from the example object (nanstop on, 4th step non-finite) six iterations complete: the test of the 4th
-- iteration finds the attribute off; with a callback that assigns nothing the same call stops there
example : (solveN exEnv exCbNanOff (exDrv.setMaxiter 6)).2 = .ok ∧
    (solveN exEnv exCbNanOff (exDrv.setMaxiter 6)).1.rows.length = 6 ∧
    (solveN exEnv { run := id, ticks := fun _ => 1, setNan := fun _ => none } (exDrv.setMaxiter 6)).2 = .nan ∧
    nanAt exEnv exCbNanOff 0 true 3 = false := by decide

/-- a callback that asks for "no further iterations" by `optimizer.maxiter = 0` -/
def exCbStop : CallbackX Nat := { run := id, ticks := fun _ => 1, ctl := fun _ i _ => (i, 0) }

-- before 1b5db51: three iterations 2,3,4 are performed and recorded, but the counter ends at 4, so the
-- next call would number its first iteration 4 again; since then: 5
example : (solveX true exEnv (some exCbStop) exDrv).1.rows.map (·.iter) = [2, 3, 4] ∧
    (solveX true exEnv (some exCbStop) exDrv).1.itnum = 4 ∧
    (solveX false exEnv (some exCbStop) exDrv).1.itnum = 5 := by decide
-- three calls with pauses against one call with the total
example : (runSeq exEnv (some exCb) exDrv 1 [(5, 0), (2, 2)]).rows.map (fun r => (r.iter, r.time, r.fields)) =
    (solve exEnv (some exCb) (exDrv.setMaxiter 3)).1.rows.map (fun r => (r.iter, r.time, r.fields)) ∧
    seqIters [(5, 0), (2, 2)] = 2 ∧ seqPause [(5, 0), (2, 2)] = 7 := by decide

end Scico.Props.C15
