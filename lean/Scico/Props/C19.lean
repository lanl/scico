/-
  Property C19 — results do not depend on execution mode or call history; randomness is explicit.

  What these theorems carry: the *stateful pieces* of scico, modelled as state machines in
  `Scico.Model.Cache` (TVNorm operator cache, object graph of rescaled losses, helper-object
  back-references, constructor option dictionaries, `jit` slots of linear operators, cached traces,
  argument handling of the random generators), for ALL call histories.
  What they do not carry: that XLA-compiled and eager execution of the same traced program agree
  (a fact about the JAX runtime) — covered only by the multi-mode differential tie of harness/c19.py.
-/
import Scico.Proofs.Cache
import Scico.Proofs.CacheOpts
import Scico.Proofs.CacheJit

namespace Scico.Props.C19
open Scico.Cache

/-- History independence ⇔ the cached operators are a function of the cache key.
    For a `TVNorm` whose cached operators report the key they were built for (`Sound.gKey/pKey`):
    every call after every history (from every constructor variant) uses exactly the operator a fresh
    object would build  **iff**  both builders factor through the key the code compares. -/
theorem C19_tv_cache {ι κ ωG ωP : Type} [DecidableEq κ] (S : TVSpec ι κ ωG ωP)
    (hG : ∀ i, S.gKey (S.buildG i) = S.keyOf i) (hP : ∀ i, S.pKey (S.buildP i) = S.keyOf i) :
    (∀ (pre : Option ι) (hist : List (TVOp ι)) (o : TVOp ι),
        (TV.step S (TV.run S (TV.init S pre) hist) o).2 = TV.fresh S o) ↔
      (∀ i j, S.keyOf i = S.keyOf j → S.buildG i = S.buildG j ∧ S.buildP i = S.buildP j) := by
  constructor
  · intro h i j hk
    exact ⟨Sum.inl.inj ((TV.call_stale S hG i j hk).symm.trans (h none [.call i] (.call j))),
      Sum.inr.inj ((TV.prox_stale S hP i j hk).symm.trans (h none [.prox i] (.prox j)))⟩
  · intro h pre hist o
    have hS : S.Sound := ⟨hG, hP, fun i j hk => (h i j hk).1, fun i j hk => (h i j hk).2⟩
    exact (TV.step_good S hS _ (TV.run_good S hS hist _ (TV.init_good S pre)) o).1

/-- The keying of the current code — the operator is rebuilt when `op.shape[1] != x.shape or
    op.input_dtype != x.dtype` (or the recorded `(circular, axes)` differ: read them as part of `Shape`),
    i.e. the key *is* what the operators are built from — is history independent, for all histories,
    whatever the builders are. -/
theorem C19_tv_cache_shape_dtype {Shape DType ωG ωP : Type} [DecidableEq Shape] [DecidableEq DType]
    (buildG : Shape × DType → ωG) (buildP : Shape × DType → ωP)
    (gKey : ωG → Shape × DType) (pKey : ωP → Shape × DType)
    (hG : ∀ i, gKey (buildG i) = i) (hP : ∀ i, pKey (buildP i) = i)
    (pre : Option (Shape × DType)) (hist : List (TVOp (Shape × DType))) (o : TVOp (Shape × DType)) :
    let S : TVSpec (Shape × DType) (Shape × DType) ωG ωP := ⟨id, gKey, pKey, buildG, buildP⟩
    (TV.step S (TV.run S (TV.init S pre) hist) o).2 = TV.fresh S o := by
  intro S
  exact (C19_tv_cache S hG hP).mpr (fun i j hk => by cases (show i = j from hk); exact ⟨rfl, rfl⟩) pre hist o

/-- The keying of the pinned tree (shape only) is history dependent as soon as the difference operator
    depends on the dtype: after a call with dtype `d`, a call with `d'` on the same shape uses the
    operator built for `d` (negation witness; repaired upstream by keying on (shape, dtype)). -/
theorem C19_tv_cache_shape_only_stale {Shape DType ωG ωP : Type} [DecidableEq Shape]
    (buildG : Shape × DType → ωG) (buildP : Shape × DType → ωP) (gKey : ωG → Shape) (pKey : ωP → Shape)
    (hG : ∀ i, gKey (buildG i) = i.1) (s : Shape) (d d' : DType) (hne : buildG (s, d) ≠ buildG (s, d')) :
    let S : TVSpec (Shape × DType) Shape ωG ωP := ⟨Prod.fst, gKey, pKey, buildG, buildP⟩
    (TV.step S (TV.run S (TV.init S none) [.call (s, d)]) (.call (s, d'))).2 ≠ TV.fresh S (.call (s, d')) := by
  intro S
  rw [TV.call_stale S hG (s, d) (s, d') rfl]
  exact fun h => hne (Sum.inl.inj h)

-- non-vacuity: shapes and dtypes as numbers, the operator *is* its (shape, dtype) descriptor
example : (TV.step (⟨id, id, id, id, id⟩ : TVSpec (Nat × Nat) (Nat × Nat) (Nat × Nat) (Nat × Nat))
    (TV.run ⟨id, id, id, id, id⟩ (TV.init ⟨id, id, id, id, id⟩ (some (4, 0))) [.call (4, 0), .prox (5, 1), .call (4, 1)])
    (.call (4, 0))).2 = .inl (4, 0) := rfl
example : (TV.step (⟨Prod.fst, Prod.fst, Prod.fst, id, id⟩ : TVSpec (Nat × Nat) Nat (Nat × Nat) (Nat × Nat))
    (TV.run ⟨Prod.fst, Prod.fst, Prod.fst, id, id⟩ (TV.init ⟨Prod.fst, Prod.fst, Prod.fst, id, id⟩ none) [.call (4, 0)])
    (.call (4, 1))).2 = .inl (4, 0) := rfl

/-! ### caches filled inside a `jax.jit` trace (TVNorm deferred operators, `LinearOperator._adj`) -/

/-- Repaired code (`concrete = true`: construction under `jax.ensure_compile_time_eval`): after ANY history of
    queries in ANY mixture of contexts (eager, different jit traces), a query in any context succeeds and
    uses the operator a fresh object would build. -/
theorem C19_ctx_fixed {ι κ ω : Type} [DecidableEq κ] (opKey : ω → κ) (keyOf : ι → κ) (build : ι → ω)
    (hF : ∀ i j, keyOf i = keyOf j → build i = build j) (hK : ∀ i, opKey (build i) = keyOf i)
    (hist : List (ExecCtx × ι)) (c : ExecCtx) (i : ι) :
    (queryCtx true opKey keyOf build (runCtx true opKey keyOf build none hist) c i).2 = .ok (build i) :=
  queryCtx_run opKey keyOf build true (· = .eager) hF hK hist (fun p _ => serves_eager p.1) c (serves_eager c) i

/-- Code before the repair (`concrete = false`), partial: as long as every call of the history and the
    probe happen in ONE context (e.g. the object is only ever used eagerly, or only inside one trace) the
    query succeeds and equals the fresh object's. -/
theorem C19_ctx_partial {ι κ ω : Type} [DecidableEq κ] (opKey : ω → κ) (keyOf : ι → κ) (build : ι → ω)
    (hF : ∀ i j, keyOf i = keyOf j → build i = build j) (hK : ∀ i, opKey (build i) = keyOf i)
    (c : ExecCtx) (hist : List (ExecCtx × ι)) (hc : ∀ p ∈ hist, p.1 = c) (i : ι) :
    (queryCtx false opKey keyOf build (runCtx false opKey keyOf build none hist) c i).2 = .ok (build i) :=
  queryCtx_run opKey keyOf build false (· = c) hF hK hist (fun p hp => hc p hp ▸ serves_self c) c (serves_self c) i

/-- Code before the repair, negation witness (findings `tvnorm-jit-tracer-leak`,
    `linop-lazy-adjoint-tracer-leak`): a first query inside a jit trace followed by a query with the same key
    eagerly, or inside another trace, fails — although a fresh object succeeds. -/
theorem C19_ctx_leak {ι κ ω : Type} [DecidableEq κ] (opKey : ω → κ) (keyOf : ι → κ) (build : ι → ω)
    (hK : ∀ i, opKey (build i) = keyOf i) (t : Nat) (c : ExecCtx) (hct : c ≠ .trace t) (i j : ι)
    (hk : keyOf i = keyOf j) :
    (queryCtx false opKey keyOf build (runCtx false opKey keyOf build none [(.trace t, i)]) c j).2 = .error .leak ∧
      (queryCtx false opKey keyOf build none c j).2 = .ok (build j) := by
  refine ⟨?_, rfl⟩
  simp [runCtx, queryCtx, hK, hk, usable_trace_ne t c hct]

-- non-vacuity: the lazily created adjoint (trivial key): jit first, then eager
example : (queryCtx false (fun _ : Nat => ()) (fun _ : Unit => ()) (fun _ => 7)
    (runCtx false (fun _ : Nat => ()) (fun _ : Unit => ()) (fun _ => 7) none [(.trace 0, ())]) .eager ()).2 = .error .leak :=
  rfl
example : (queryCtx true (fun _ : Nat => ()) (fun _ : Unit => ()) (fun _ => 7)
    (runCtx true (fun _ : Nat => ()) (fun _ : Unit => ()) (fun _ => 7) none [(.trace 0, ()), (.eager, ()), (.trace 1, ())]) .eager ()).2 = .ok 7 :=
  rfl

/-- `c * loss` / `loss * c` on a well-formed heap: every existing object (the original included) keeps
    its scale, its value and its gradient; the new object has scale `scale·c`, value `c`-scaled, and its
    gradient is the gradient of ITS OWN `__call__` (`scale·c` times the unscaled gradient), not the
    original's; the heap stays well-formed. -/
theorem C19_rescale_no_alias {α : Type} [Mul α] (h : Heap α) (hw : h.WF) (i : Nat) (o : LossObj α)
    (ho : h[i]? = some o) (c b g : α) :
    (∀ j, j < h.length → (h.mul i c)[j]? = h[j]? ∧ (h.mul i c).value j b = h.value j b ∧
        (h.mul i c).grad j g = h.grad j g) ∧
      (h.mul i c)[h.length]? = some ⟨o.scale * c, h.length⟩ ∧
      (h.mul i c).value h.length b = some (o.scale * c * b) ∧
      (h.mul i c).grad h.length g = some (o.scale * c * g) ∧
      (h.mul i c).WF := by
  rw [Heap.mul_eq h i c o ho]
  exact Heap.new_no_alias h hw (o.scale * c) b g

/-- Any history of constructions, rescalings (`*`, `/`) and in-place `set_scale` calls, on any objects,
    in any order: each object's scale is what its own derivation says (`specScales` never looks at
    gradient bindings), and each object's gradient is its own current scale times the unscaled gradient
    — a later `set_scale` on a copy never reaches the original and vice versa. -/
theorem C19_rescale_history {α : Type} [Mul α] [Div α] (ops : List (LossOp α)) (j : Nat) (g : α) :
    let h := Heap.run ([] : Heap α) ops
    h.map (·.scale) = specScales [] ops ∧
      h.grad j g = ((specScales [] ops)[j]?).map (· * g) :=
  ⟨Heap.scales_run ops [], Heap.grad_run ops [] Heap.wf_nil j g⟩

/-- Without the rebinding line (`copy` alone) the copy's gradient would be the ORIGINAL's gradient:
    the rebinding is what the theorem above rests on (negation witness for the mutated code). -/
theorem C19_rescale_needs_rebind :
    (Heap.mulNoRebind (Heap.new ([] : Heap Int) 2) 0 5).grad 1 7 = some (2 * 7) ∧
      (Heap.mul (Heap.new ([] : Heap Int) 2) 0 5).grad 1 7 = some (2 * 5 * 7) :=
  ⟨rfl, rfl⟩

-- non-vacuity: L = new(2); M = L*5; M.set_scale(3); N = L/2  → scales [2,3,1], gradients own
example : (Heap.run ([] : Heap Int) [.new 2, .mul 0 5, .setScale 1 3, .div 0 2]).map (·.scale) = [2, 3, 1] := rfl
example : (Heap.run ([] : Heap Int) [.new 2, .mul 0 5, .setScale 1 3, .div 0 2]).grad 0 7 = some 14 := rfl
example : (Heap.new ([] : Heap Int) 2).WF ∧ (Heap.new ([] : Heap Int) 2)[0]? = some ⟨2, 0⟩ :=
  ⟨Heap.wf_new [] Heap.wf_nil 2, rfl⟩

/-! ### attaching helper objects (sub-problem solvers, step-size policies) -/

/-- Any sequence of optimiser constructions `ss` (entry = the helper object handed to the constructor):
    a step of optimiser `a` reads, through its helper's back-reference, the state of the MOST RECENTLY
    constructed optimiser that was given the same helper object.  Hence: every optimiser reads its own
    state iff no helper object is shared. -/
theorem C19_solver_attach (ss : List Nat) :
    (∀ a s, ss[a]? = some s →
        ∃ b, (World.run World.empty ss).readsFrom a = some b ∧ ss[b]? = some s ∧ a ≤ b ∧
          ∀ c, b < c → ss[c]? ≠ some s) ∧
      (ss.Nodup ↔ ∀ a, a < ss.length → (World.run World.empty ss).readsFrom a = some a) := by
  have h1 : (World.run World.empty ss).helperOf = ss := World.helperOf_run ss World.empty
  have h2 := World.inv_run ss World.empty (fun _ ht => nomatch ht)
  generalize World.run World.empty ss = w at h1 h2 ⊢
  subst h1
  refine ⟨fun a s ha => ?_, h2.nodup_iff⟩
  obtain ⟨b, hb, hl, hab⟩ := h2.reads ha
  exact ⟨b, hb, hl.1, hab, hl.2⟩

-- non-vacuity: one solver object (id 7) given to two optimisers: optimiser 0 reads optimiser 1's state
example : (World.run World.empty [7, 7]).readsFrom 0 = some 1 := rfl
example : (World.run World.empty [7, 8, 9]).readsFrom 1 = some 1 := rfl

/-- Constructors that build their option dictionary from a literal (`LinearSubproblemSolver.cg_kwargs`,
    `MatrixSubproblemSolver.solve_kwargs`, `SquaredL2Loss.prox_kwargs`): after ANY history of constructions
    (with any option dictionaries), dictionaries built by the caller and in-place writes to any dictionary object,
    (a) an object constructed without options sees exactly the literal defaults, (a') with options `u` the
    literal updated by `u`; (b) no two objects hold the same dictionary and none holds the default object;
    (c) a constructor call leaves every existing dictionary (the caller's options included) as it was. -/
theorem C19_defaults_fresh {ν : Type} (lit : Dict ν) (ops : List (OptOp ν)) :
    let w := OptWorld.run .copyUpdate lit (OptWorld.init lit) ops
    (w.ctor .copyUpdate lit none).view w.insts.length = some lit ∧
    (∀ a u, w.dicts[a]? = some u → (w.ctor .copyUpdate lit (some a)).view w.insts.length = some (lit.update u)) ∧
    w.insts.Nodup ∧ 0 ∉ w.insts ∧
    (∀ arg id, id < w.dicts.length → (w.ctor .copyUpdate lit arg).dicts[id]? = w.dicts[id]?) := by
  intro w
  have hw : w.Own := OptWorld.own_run_copyUpdate lit ops _ (OptWorld.own_init lit)
  refine ⟨?_, ?_, hw.nodup, fun h => Nat.lt_irrefl 0 (hw.inb 0 h).1, ?_⟩
  · exact (OptWorld.view_last _ _ _ rfl).trans List.getElem?_concat_length
  · intro a u ha
    refine (OptWorld.view_last _ _ _ rfl).trans ?_
    simp only [OptWorld.ctor, ha]
    exact List.getElem?_concat_length
  · intro arg id hid
    exact List.getElem?_append_left hid

/-- A constructor that stores its mutable default argument by reference (`GenericSubproblemSolver`,
    `minimize_kwargs={"options": …}`), code as it is, partial: every object constructed without options holds THE
    default-argument object; what a later one sees is the literal with exactly the in-place writes to that object
    applied — so it sees the literal defaults as long as nobody writes into the options of a default-constructed
    object (scico itself only reads them: checked by the tie), whatever else happens. -/
theorem C19_defaults_shared_partial {ν : Type} (lit : Dict ν) (ops : List (OptOp ν)) :
    let w := OptWorld.run .byRef lit (OptWorld.init lit) ops
    (w.ctor .byRef lit none).view w.insts.length = some (mutsOn 0 ops lit) ∧
    ((∀ k v, OptOp.mutate 0 k v ∉ ops) → (w.ctor .byRef lit none).view w.insts.length = some lit) := by
  intro w
  have h0 : w.dicts[0]? = some (mutsOn 0 ops lit) :=
    OptWorld.dict_run .byRef (by decide) lit ops 0 (OptWorld.init lit) lit rfl
  have hv : (w.ctor .byRef lit none).view w.insts.length = some (mutsOn 0 ops lit) :=
    (OptWorld.view_last _ _ _ rfl).trans h0
  exact ⟨hv, fun hno => by rw [hv, mutsOn_none 0 ops hno]⟩

/-- Negation witnesses.  Stored-by-reference default: one in-place write through a default-constructed object
    reaches every later default-constructed object.  Class-level dictionary updated in place (not in scico; the
    seeded defect): options given to ONE constructor call are seen by a later default-constructed object — while
    the literal pattern is immune to both. -/
theorem C19_defaults_leak :
    let lit : Dict Nat := [("maxiter", 100)]
    ((OptWorld.run .byRef lit (OptWorld.init lit) [.ctor none, .mutate 0 "maxiter" 5, .ctor none]).view 1
        = some [("maxiter", 5)]) ∧
    ((OptWorld.run .classUpdate lit (OptWorld.init lit) [.userDict [("maxiter", 7)], .ctor (some 1), .ctor none]).view 1
        = some [("maxiter", 7)]) ∧
    ((OptWorld.run .copyUpdate lit (OptWorld.init lit) [.userDict [("maxiter", 7)], .ctor (some 1), .mutate 2 "maxiter" 5,
        .ctor none]).view 1 = some lit) := by decide

-- non-vacuity: options {"tol": 3} given to one object, then a default-constructed one
example : (OptWorld.run .copyUpdate [("tol", 4), ("maxiter", 100)] (OptWorld.init [("tol", 4), ("maxiter", 100)])
    [.userDict [("tol", 3)], .ctor (some 1), .ctor none] : OptWorld Nat).dicts
    = [[("tol", 4), ("maxiter", 100)], [("tol", 3)], [("tol", 3), ("maxiter", 100)], [("tol", 4), ("maxiter", 100)]] :=
  rfl

/-- For every way of constructing a `LinearOperator` (adjoint given / defined by the subclass / derived lazily), with the
    constructor option `jit` on or off, after ANY history of `jit()`, `A(x)`, `A.adj(y)`, `A.gram(x)`, `A.gram_op`:
    `_eval` is wrapped exactly as many times as `jit()` was called (`n`); the adjoint callable, once it exists, is the one
    this kind of object is specified to use (never another one, whatever came first) and is wrapped `n` times; likewise
    `_gram`; after the first `jit()` all three exist; and the constructor option is the same as calling `jit()` right
    after construction. -/
theorem C19_jit_slots (v : LinOpVariant) (jit : Bool) (ops : List LinOpOp) :
    let s := (LinOpState.init v jit).run ops
    let n := jitCount jit ops
    s.evalDepth = n ∧ (∀ a, s.adj = some a → a = (specAdjSrc v, n)) ∧ (∀ g, s.gram = some g → g = n) ∧
      (0 < n → s.adj ≠ none ∧ s.gram ≠ none) ∧ (v ≠ .plain → s.adj ≠ none) ∧
      LinOpState.init v true = (LinOpState.init v false).jit := by
  intro s n
  have h : s.Inv v n := (LinOpState.inv_init v jit).run ops
  exact ⟨h.ev, fun _ => eq_of_none_or_some h.adjOk, fun _ => eq_of_none_or_some h.gramOk, h.jitted, h.given, rfl⟩

/-- Values: GIVEN the contract of `jax.jit` on values (`J f = f`, extensionally — NOT proved here, exercised by the
    multi-mode tie), a slot wrapped any number of times denotes the function it wraps; so after any history the
    adjoint evaluated is the specified one and `_eval` is the operator's own map. -/
theorem C19_jit_value {F : Type} (J : F → F) (hJ : ∀ f, J f = f) (fns : AdjSrc → F) (e : F)
    (v : LinOpVariant) (jit : Bool) (ops : List LinOpOp) :
    let s := (LinOpState.init v jit).run ops
    Nat.iterate J s.evalDepth e = e ∧ ∀ a, s.adj = some a → Nat.iterate J a.2 (fns a.1) = fns (specAdjSrc v) := by
  intro s
  refine ⟨Function.iterate_fixed (hJ e) _, fun a ha => ?_⟩
  rw [Function.iterate_fixed (hJ _), (C19_jit_slots v jit ops).2.1 a ha]

/-- `MatrixOperator` — the one linear-operator class that defines `adj`, `gram`, `gram_op` itself (pinned by the generated
    `slot_model_coverage`): after ANY history of `jit()`, `A(x)`, `A.adj(y)`, `A.gram(x)`, `A.gram_op`, its private slots are a
    function of the number `n` of `jit()` calls only — untouched (`_adj = _gram = None`) while `n = 0`, afterwards the derived
    adjoint and `_gram`, all wrapped `n` times; its own `adj` / `gram` / `gram_op` never create or read them. -/
theorem C19_jit_slots_matrix (ops : List LinOpOp) :
    (LinOpState.init0 .plain).runOwn ops = specOwnSlots ((ops.filter (· == .jit)).length) :=
  (LinOpState.runOwn_spec ops 0).trans (congrArg specOwnSlots (Nat.zero_add _))

example : (LinOpState.init0 .plain).runOwn [.adj, .gram, .gramOp, .call] = ⟨0, none, none⟩ := rfl
example : (LinOpState.init0 .plain).runOwn [.adj, .jit, .gram, .jit] = ⟨2, some (.derived, 2), some 2⟩ := rfl

-- non-vacuity: no adjoint given, `gram_op` first, then `adj`, then `jit()` twice
example : (LinOpState.init .plain false).run [.gramOp, .adj, .jit, .call, .jit] = ⟨2, some (.derived, 2), some 2⟩ := rfl
example : (LinOpState.init .classAdj true).run [.gram] = ⟨1, some (.classMethod, 1), some 1⟩ := rfl
example : (LinOpState.init .plain false).run [.gram] = ⟨0, some (.derived, 0), some 0⟩ := rfl

/-- A callable whose trace is cached per input signature: after ANY history of calls (any signatures) and attribute
    assignments that never touch an attribute read at trace time, a call computes with the object's CURRENT attributes —
    exactly what a fresh object built with them computes with.  (Which attributes are read at trace time is the table
    `Scico.Generated.CacheAttrs`, regenerated from the sources on every run; for functionals and losses it is empty.) -/
theorem C19_call_time_params {ν : Type} (traced : String → Bool) (attrs₀ : String → ν) (hist : List (TraceOp ν))
    (hh : ∀ a v, TraceOp.set a v ∈ hist → traced a = false) (sig : Nat) :
    ((TracedObj.run ⟨attrs₀, []⟩ hist).effective traced sig) = (TracedObj.run ⟨attrs₀, []⟩ hist).attrs :=
  TracedObj.effective_of_fresh traced _ (TracedObj.fresh_run traced hist hh ⟨attrs₀, []⟩ fun _ he => nomatch he) sig

/-- Conversely (negation witness, the mechanism of `hubernorm-nonsep-stale-delta`, `pgm-xstep-stale-loss-scale` and of a
    per-object jitted projection): an attribute read at trace time and assigned after a first call keeps its OLD value for
    every signature already seen, and its new value for signatures not seen before — history dependence. -/
theorem C19_trace_time_stale {ν : Type} (traced : String → Bool) (attrs₀ : String → ν) (a : String) (v : ν)
    (ha : traced a = true) (sig sig' : Nat) (hs : sig' ≠ sig) :
    let o := TracedObj.run ⟨attrs₀, []⟩ [.call sig, .set a v]
    o.effective traced sig a = attrs₀ a ∧ o.effective traced sig' a = v ∧ o.attrs a = v := by
  simp [TracedObj.run, TracedObj.step, TracedObj.effective, ha, beq_false_of_ne hs.symm]

-- non-vacuity: `radius` read at call time, `delta` at trace time; history: call, radius := 7, delta := 9, call again
example : ((TracedObj.run ⟨fun _ => (1 : Nat), []⟩ [.call 0, .set "radius" 7, .set "delta" 9]).effective
    (fun a => a == "delta") 0) "radius" = 7 := rfl
example : ((TracedObj.run ⟨fun _ => (1 : Nat), []⟩ [.call 0, .set "radius" 7, .set "delta" 9]).effective
    (fun a => a == "delta") 0) "delta" = 1 := rfl

/-- Argument handling of the wrapped `jax.random` functions (`numParams` = arity of the jax function):
    with an effective key `k` the result is `draw k` and the returned key `split(k)[0]`; with a seed `s`
    the same for `k = PRNGKey(s)`; with neither, seed 0; with both, `ValueError` — and nothing else
    influences the outcome.  A positional key/seed (call with all positional arguments) takes precedence
    over the keyword. -/
theorem C19_rng_args {κ ρ σ τ : Type} (R : RngOps κ ρ σ) (numParams nargs : Nat) (posKey kwKey : Option κ)
    (posSeed kwSeed : Option Int) (d : κ → τ) :
    let key := if nargs ≥ numParams then posKey else kwKey
    let seed := if nargs > numParams then posSeed else kwSeed
    rngCall R numParams nargs posKey posSeed kwKey kwSeed d =
      match key, seed with
      | some _, some _ => .error .value
      | some k, none => .ok (d k, (R.split k).1)
      | none, some s => .ok (d (R.prngKey s), (R.split (R.prngKey s)).1)
      | none, none => .ok (d (R.prngKey 0), (R.split (R.prngKey 0)).1) := by
  unfold rngCall
  generalize (if nargs ≥ numParams then posKey else kwKey) = key
  generalize (if nargs > numParams then posSeed else kwSeed) = seed
  rcases key with _ | k <;> rcases seed with _ | s <;> rfl

/-- Nested shapes give block arrays: one block per inner shape, each drawn by the wrapped function for
    that shape; a plain shape gives a plain array.  With the keyword forms the call equals the
    documented specification `specRng`. -/
theorem C19_rng_blocks {κ ρ σ : Type} (R : RngOps κ ρ σ) (numParams : Nat) (hnp : 0 < numParams) (k : κ) (s : Int) :
    (∀ sh : σ, drawShape R (.inl sh) k = .inl (R.draw k sh)) ∧
    (∀ shs : List σ, ∃ blocks, drawShape R (.inr shs) k = .inr blocks ∧ blocks.length = shs.length ∧
        ∀ i (hi : i < shs.length), blocks[i]? = some (R.draw k shs[i])) ∧
    (∀ shape, rngCall R numParams 0 none none (some k) none (drawShape R shape) = .ok (specRng R shape k)) ∧
    (∀ shape, rngCall R numParams 0 none none none (some s) (drawShape R shape) = .ok (specRng R shape (R.prngKey s))) ∧
    (∀ shape, rngCall R numParams 0 none none none none (drawShape R shape) = .ok (specRng R shape (R.prngKey 0))) ∧
    (∀ shape, rngCall R numParams 0 none none (some k) (some s) (drawShape R shape) = .error .value) := by
  have kw := fun shape kwKey kwSeed => rngCall_kw R numParams hnp kwKey kwSeed (drawShape R shape)
  exact ⟨fun _ => rfl, fun shs => ⟨shs.map (R.draw k), rfl, List.length_map _, fun i hi => by simp [hi]⟩,
    fun _ => kw _ _ _, fun _ => kw _ _ _, fun _ => kw _ _ _, fun _ => kw _ _ _⟩

/-- Threading the returned key through `n` successive calls draws with the keys `k, adv k, adv² k, …`
    (`adv = first component of split`), for every `n`: the stream is a function of the starting key. -/
theorem C19_rng_chain {κ ρ σ : Type} (R : RngOps κ ρ σ) (numParams : Nat) (hnp : 0 < numParams)
    (shape : σ ⊕ List σ) (n : Nat) (k : κ) :
    chainCalls R numParams shape n k =
      .ok ((List.range n).map (fun i => drawShape R shape (Nat.iterate (adv R) i k)), Nat.iterate (adv R) n k) := by
  induction n generalizing k with
  | zero => rfl
  | succ n ih =>
    simp only [chainCalls, rngCall_kw R numParams hnp, ih, List.range_succ_eq_map, List.map_cons, List.map_map,
      Function.iterate_succ, Function.comp_def, Function.iterate_zero, id]

-- non-vacuity: keys are integers, split k = (2k+1, 2k+2), a draw records (key, shape)
def exR : RngOps Int (Int × Nat) Nat := ⟨fun s => s, fun k => (2 * k + 1, 2 * k + 2), fun k sh => (k, sh)⟩
example : rngCall exR 3 1 none none none none (drawShape exR (.inl 4)) = .ok (.inl (0, 4), 1) := rfl
example : rngCall exR 3 1 none none (some 5) none (drawShape exR (.inr [2, 3])) = .ok (.inr [(5, 2), (5, 3)], 11) := rfl
example : rngCall exR 3 3 (some 5) none none (some 1) (drawShape exR (.inl 4)) = .error .value := rfl
example : chainCalls exR 3 (.inl 4) 3 0 = .ok ([.inl (0, 4), .inl (1, 4), .inl (3, 4)], 7) := rfl

end Scico.Props.C19
