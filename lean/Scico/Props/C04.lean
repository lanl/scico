/-
  Property C04 — built-in operators compute exactly their documented mathematical maps.
  Property theorems and their non-vacuity examples; models in `Scico/Model/LinOps.lean`, lemmas that several theorems
  share in `Scico/Proofs/LinOps*.lean`; a theorem whose proof nothing else uses is proved here, long or short.

  The core theorems have the form  "the map as the code builds it" = "the documented matrix · x"  (or an exact identity
  of the documented map), for all sizes, all options, all vectors; beside them stand the constructors' bookkeeping
  (shapes, axes, dtypes, error cases) and recorded negations (`…_fails`, `…_differs`, `…_old_form`).
  `K` is any commutative ring (so `ℤ`, `ℚ`, `ℝ`, `ℂ`), a field where division is needed.
-/
import Scico.Proofs.LinOpsFD
import Scico.Proofs.LinOpsIndex
import Scico.Proofs.LinOpsConv
import Scico.Proofs.LinOpsCircNd
import Scico.Proofs.LinOpsXRay3D
import Scico.Proofs.LinOpsAbel
import Mathlib.Tactic.IntervalCases
import Mathlib.Data.Complex.Basic
import Mathlib.Tactic.NormNum

namespace Scico.Props.C04
open Scico.LinOps Scico.Shape

variable {K : Type} [CommRing K]

/-- `SingleAxisFiniteDifference` (`diff` after prepending / appending a slice or a zero, or the
    circular wrap) is multiplication by the banded matrix of the class docstring, for each of the
    3×3 `prepend`/`append` options and `circular`, every length `n ≥ 1`, every output row. -/
theorem C04_fd (c : FDCfg) (n : Nat) (hn : 0 < n) (x : V K) (i : Nat) (hi : i < fdOutLen c n) :
    fdEval c n x i = mulVec (fdMatrix c n) n x i :=
  fdEval_eq_mulVec c n hn x i hi

/-- lifting lemma: a 1-d linear map applied along one axis of an N-d row-major array is
    `I_outer ⊗ A ⊗ I_inner`. -/
theorem C04_alongAxis (outer n m inner : Nat) (A : M K) (x : V K) (p : Nat) (hp : p < outer * m * inner) :
    alongAxis n m inner (mulVec A n) x p = mulVec (kronAxis n m inner A) (outer * n * inner) x p :=
  alongAxis_mulVec outer n m inner A x p hp

/-- the `(outer, k, inner)` split used by `alongAxis` is the row-major layout around any axis of an N-d shape -/
theorem C04_ravel_axis (pre post ip iq : List Nat) (n k : Nat) (h : ip.length = pre.length) :
    ravel (pre ++ n :: post) (ip ++ k :: iq) = (ravel pre ip * n + k) * prodL post + ravel post iq := by
  simp only [ravel_eq, prodL_eq_prod]; exact Index.ravel_axis pre post ip iq n k h

/-- finite difference along any axis of an N-d array = Kronecker-lifted documented matrix -/
theorem C04_fd_axis (c : FDCfg) (outer n inner : Nat) (hn : 0 < n) (x : V K) (p : Nat)
    (hp : p < outer * fdOutLen c n * inner) :
    alongAxis n (fdOutLen c n) inner (fdEval c n) x p
      = mulVec (kronAxis n (fdOutLen c n) inner (fdMatrix c n)) (outer * n * inner) x p := by
  rw [← alongAxis_mulVec outer n (fdOutLen c n) inner (fdMatrix c n) x p hp]
  unfold alongAxis
  exact fdEval_eq_mulVec c n hn _ _ (Index.mod_lt_of_lt_mul (Index.div_lt_of_lt_mul hp))

/-- `FiniteDifference` over any list of axes = block column of the lifted banded matrices -/
theorem C04_fd_multi_axis (c : FDCfg) (N : Nat) (specs : List (Nat × Nat × Nat))
    (hs : ∀ s ∈ specs, s.1 * s.2.1 * s.2.2 = N ∧ 0 < s.2.1) (x : V K) (i : Nat) (hi : i < fdNdRows c specs) :
    fdNdEval c specs x i = mulVec (fdNdMatrix c specs) N x i := by
  induction specs generalizing i with
  | nil => simp [fdNdRows] at hi
  | cons s rest ih =>
    obtain ⟨outer, n, inner⟩ := s
    obtain ⟨hN, hn⟩ := hs (outer, n, inner) (by simp)
    simp only at hN hn
    refine cat_vstack _ _ _ N x _ _ i (fun h => ?_) (fun h => ?_)
    · rw [C04_fd_axis c outer n inner hn x i h, hN]
    · exact ih (fun s hs' => hs s (by simp [hs'])) _ (by simp [fdNdRows] at hi ⊢; omega)

-- non-vacuity: the matrices displayed in the class docstring (n = 4, over ℤ), one more option pair at n = 3, one evaluation
example : fdRows ⟨.no, .no, false⟩ 4 = [[-1, 1, 0, 0], [0, -1, 1, 0], [0, 0, -1, 1]] := by decide +kernel
example : fdRows ⟨.no, .no, true⟩ 4 = [[-1, 1, 0, 0], [0, -1, 1, 0], [0, 0, -1, 1], [1, 0, 0, -1]] := by decide +kernel
example : fdRows ⟨.no, .b0, false⟩ 4 = [[-1, 1, 0, 0], [0, -1, 1, 0], [0, 0, -1, 1], [0, 0, 0, 0]] := by decide +kernel
example : fdRows ⟨.b1, .b1, false⟩ 4 = [[1, 0, 0, 0], [-1, 1, 0, 0], [0, -1, 1, 0], [0, 0, -1, 1], [0, 0, 0, -1]] := by decide +kernel
example : fdRows ⟨.b0, .b1, false⟩ 3 = [[0, 0, 0], [-1, 1, 0], [0, -1, 1], [0, 0, -1]] := by decide +kernel
example : (List.range 3).map (fdEval (α := Int) ⟨.b1, .no, false⟩ 3 (fun j => [5, 7, 4].getD j 0)) = [5, 2, -3] := by decide +kernel

/-- `SingleAxisFiniteSum` (`x + roll(x, −1)`, the low-pass half of the Haar transform used by the TV
    norm) = ones on the diagonal and the circular superdiagonal (the class docstring without its
    spurious first row it showed before 0e32add) -/
theorem C04_finite_sum (n : Nat) (hn : 0 < n) (x : V K) (i : Nat) (hi : i < n) :
    fsumEval n x i = mulVec (fsumMatrix n) n x i := by
  unfold fsumEval mulVec fsumMatrix
  simp only [add_mul, sumTo_eq_sum, Finset.sum_add_distrib]
  rw [← sumTo_eq_sum, ← sumTo_eq_sum, sumTo_select hi (fun _ _ => Iff.rfl),
    sumTo_select (Nat.mod_lt _ hn) (fun _ _ => Iff.rfl)]

example : (List.range 3).map (fun i => (List.range 3).map (fsumMatrix (α := Int) 3 i)) = [[1, 1, 0], [0, 1, 1], [1, 0, 1]] := by decide +kernel

/-- `FiniteDifference(input_shape, axes=…)` in terms of the constructor arguments: for every shape with
    non-empty axes and every list of (normalised) axes inside it, the operator is the block column of the
    banded matrices lifted to the listed axes (`axisSpec shape a = (Π before, shape[a], Π after)`). -/
theorem C04_fd_shape_axes (c : FDCfg) (shape : List Nat) (axes : List Nat) (hpos : ∀ n ∈ shape, 0 < n)
    (hax : ∀ a ∈ axes, a < shape.length) (x : V K) (i : Nat)
    (hi : i < fdNdRows c (axes.map (axisSpec shape))) :
    fdNdEval c (axes.map (axisSpec shape)) x i
      = mulVec (fdNdMatrix c (axes.map (axisSpec shape))) (prodL shape) x i := by
  apply C04_fd_multi_axis c (prodL shape) _ _ x i hi
  intro s hs
  obtain ⟨a, ha, rfl⟩ := List.mem_map.mp hs
  refine ⟨axisSpec_prod shape a (hax a ha), ?_⟩
  simp only [axisSpec]
  rw [getD_eq_getElem shape a 1 (hax a ha)]
  exact hpos _ (List.getElem_mem _)

/-- `normalize_axes`: an accepted `axes` argument denotes the list of positions `pyIx ndim a` (negative values
    count from the end), all inside the shape and pairwise different — exactly the hypotheses of
    `C04_fd_shape_axes`; `None` denotes all axes; in-range distinct axes are accepted. -/
theorem C04_norm_axes (nd : Nat) (axes : Option (List Int)) (l : List Nat) (h : normAxes nd axes = some l) :
    (∀ a ∈ l, a < nd) ∧ l.Nodup ∧ (axes = none → l = List.range nd) ∧ (∀ ax, axes = some ax → l = ax.map (pyIx nd)) := by
  cases axes with
  | none =>
    simp only [normAxes, Option.some.injEq] at h
    subst h
    exact ⟨fun a ha => List.mem_range.mp ha, List.nodup_range, fun _ => rfl, fun ax hax => (by cases hax)⟩
  | some ax =>
    simp only [normAxes] at h
    split at h
    · cases h
    · split at h
      · rename_i hall
        split at h
        · rename_i hnd
          simp only [Option.some.injEq] at h
          subst h
          refine ⟨?_, hnd, fun h' => (by cases h'), fun ax' h' => (by cases h'; rfl)⟩
          intro a ha
          obtain ⟨z, hz, rfl⟩ := List.mem_map.mp ha
          have := (List.all_eq_true.mp hall) z hz
          simp only [decide_eq_true_eq] at this
          unfold pyIx; split <;> omega
        · cases h
      · cases h

example : normAxes 3 (some [0, -1]) = some [0, 2] := by decide +kernel
example : normAxes 2 (some [-5]) = none ∧ normAxes 2 (some [0, -2]) = none ∧ normAxes 2 (some []) = none := by decide +kernel
example : [0, 1].map (axisSpec [2, 3]) = [(1, 2, 3), (2, 3, 1)] := by decide +kernel
-- non-vacuity of the hypotheses of `C04_fd_multi_axis`: shape (2,3), both axes
example : ∀ s ∈ [(1, 2, 3), (2, 3, 1)], s.1 * s.2.1 * s.2.2 = 6 ∧ 0 < s.2.1 := by decide +kernel
-- the class docstring example `FiniteDifference((2, 3))` on `[[1,2,4],[0,4,1]]`: `[-1,2,-3]` then `[[1,2],[4,-3]]`
example : (List.range 7).map (fdNdEval (α := Int) ⟨.no, .no, false⟩ ([0, 1].map (axisSpec [2, 3]))
    (fun j => [1, 2, 4, 0, 4, 1].getD j 0)) = [-1, 2, -3, 1, 2, 4, -3] := by decide +kernel

/-- `VerticalStack` = block column `(A_1; …; A_N)` -/
theorem C04_stack_blockmatrix (ops : List (M K × Nat)) (n : Nat) (x : V K) (i : Nat) (hi : i < totalRows ops) :
    vstackEval ops n x i = mulVec (vstackMatrix ops) n x i := by
  induction ops generalizing i with
  | nil => simp [totalRows] at hi
  | cons op rest ih =>
    obtain ⟨A, m⟩ := op
    exact cat_vstack A m rest n x _ _ i (fun _ => rfl)
      (fun h => ih (i - m) (by simp [totalRows] at hi ⊢; omega))

/-- `DiagonalStack` = block diagonal `diag(A_1, …, A_N)` -/
theorem C04_stack_blockdiag (ops : List (M K × Nat × Nat)) (x : V K) (i : Nat) (hi : i < dRows ops) :
    dstackEval ops x i = mulVec (dstackMatrix ops) (dCols ops) x i :=
  dstack_eq_mulVec ops x i hi

example : (List.range 3).map (vstackEval (α := Int) [(fun _ _ => 1, 1), (fun i j => if i = j then 2 else 0, 2)] 2
    (fun j => [3, 4].getD j 0)) = [7, 6, 8] := by decide +kernel

/-- `ProjectedGradient._eval` for one local axis: `sum(c[m] * grad[m])` over the stacked differences
    `grad[m] = G_m x` is multiplication by `Σ_m diag(c_m) · G_m` — the inner product of the Cartesian gradient
    with the local axis at every position (`G_m` = lifted `C04_fd` matrix with `append=0`, or `C04_cdiff`). -/
theorem C04_proj_grad (n : Nat) (x : V K) (i : Nat) (l : List (V K × M K)) :
    projEval (l.map (fun cG => (cG.1, mulVec cG.2 n x))) i = mulVec (projMatrix l) n x i :=
  projEval_eq_mulVec n x i l

/-- `ProjectedGradient` with `cdiff=False`, assembled: for every list of gradient axes `(outer, n, inner)` of an
    array of `N` entries and coordinate fields `c_m`, the code (`diffstack` = `snp.diff(…, append=x[-1:])` along each
    axis, then `sum(c[m]·grad[m])`) is multiplication by `Σ_m diag(c_m) · (I ⊗ D_{n_m} ⊗ I)`, `D` the documented
    `append=0` banded matrix of `C04_fd`. -/
theorem C04_proj_grad_fd (N : Nat) (x : V K) (i : Nat) (hi : i < N) (l : List (V K × Nat × Nat × Nat))
    (hl : ∀ s ∈ l, s.2.1 * s.2.2.1 * s.2.2.2 = N ∧ 0 < s.2.2.1) :
    projEval (l.map (fun s => (s.1, alongAxis s.2.2.1 (fdOutLen diffstackCfg s.2.2.1) s.2.2.2 (fdEval diffstackCfg s.2.2.1) x))) i
      = mulVec (projMatrix (l.map (fun s => (s.1,
          kronAxis s.2.2.1 (fdOutLen diffstackCfg s.2.2.1) s.2.2.2 (fdMatrix diffstackCfg s.2.2.1))))) N x i := by
  rw [← projEval_eq_mulVec N x i]
  apply projEval_congr
  rw [List.map_map]
  induction l with
  | nil => exact List.Forall₂.nil
  | cons s rest ih =>
    simp only [List.map_cons]
    refine List.Forall₂.cons ⟨rfl, ?_⟩ (ih (fun t ht => hl t (List.mem_cons_of_mem _ ht)))
    obtain ⟨hN, hn⟩ := hl s List.mem_cons_self
    simp only [Function.comp]
    rw [C04_fd_axis diffstackCfg s.2.1 s.2.2.1 s.2.2.2 hn x i (by rw [fdOutLen_diffstack, hN]; exact hi), hN]

-- a (2,2) image, gradient axes 0 and 1, constant coordinate fields 1 and 2: x = [[1,2],[4,8]]
example : (List.range 4).map (projEval (α := Int) ([((fun _ => 1), 1, 2, 2), ((fun _ => 2), 2, 2, 1)].map (fun s : V Int × Nat × Nat × Nat =>
    (s.1, alongAxis s.2.2.1 (fdOutLen diffstackCfg s.2.2.1) s.2.2.2 (fdEval diffstackCfg s.2.2.1) (fun j => [1, 2, 4, 8].getD j 0)))))
    = [5, 6, 8, 0] := by decide +kernel

/-- `cdiff=True`: `snp.gradient` (central differences inside, one-sided at the two ends) as a matrix, `n ≥ 2` -/
theorem C04_cdiff {F : Type} [Field F] (n : Nat) (hn : 2 ≤ n) (x : V F) (i : Nat) (hi : i < n) :
    cdiffEval (2 : F) n x i = mulVec (cdiffMatrix (2 : F) n) n x i := by
  have h0 : 0 < n := Nat.lt_of_lt_of_le Nat.zero_lt_two hn
  unfold cdiffEval mulVec cdiffMatrix
  split
  · exact (sumTo_ite_sub n 1 0 x hn h0).symm
  · split
    · exact (sumTo_ite_sub n (n - 1) (n - 2) x (Nat.sub_lt h0 Nat.one_pos) (Nat.sub_lt h0 Nat.two_pos)).symm
    · rename_i _ h2
      rw [← sumTo_ite_sub n (i + 1) (i - 1) x (Nat.lt_of_le_of_ne hi h2) (Nat.lt_of_le_of_lt (Nat.sub_le i 1) hi),
        sumTo_eq_sum, sumTo_eq_sum, Finset.sum_div]
      exact Finset.sum_congr rfl (fun j _ => by rw [div_mul_eq_mul_div])

/-- the documented local axes of `PolarGradient` (`angular = (−cos θ, sin θ)`, `radial = (sin θ, cos θ)`,
    `θ = arctan2(g0, g1)`) form an orthonormal frame whenever `sin² + cos² = 1`: the projected gradient is a
    rotation of the Cartesian gradient (norm preserved, Cartesian components recovered); with
    `sin θ = p0/r`, `cos θ = p1/r` the radial component is the derivative along the position vector. -/
theorem C04_polar_frame {F : Type} [Field F] (s c g0 g1 : F) (h : s * s + c * c = 1) :
    (-c * g0 + s * g1) * (-c * g0 + s * g1) + (s * g0 + c * g1) * (s * g0 + c * g1) = g0 * g0 + g1 * g1
    ∧ g0 = -c * (-c * g0 + s * g1) + s * (s * g0 + c * g1)
    ∧ g1 = s * (-c * g0 + s * g1) + c * (s * g0 + c * g1)
    ∧ ∀ p0 p1 r : F, r ≠ 0 → (p0 / r) * g0 + (p1 / r) * g1 = (p0 * g0 + p1 * g1) / r :=
  ⟨calc _ = (s * s + c * c) * (g0 * g0 + g1 * g1) := by ring
      _ = _ := by rw [h, one_mul],
   calc g0 = (s * s + c * c) * g0 := by rw [h, one_mul]
      _ = _ := by ring,
   calc g1 = (s * s + c * c) * g1 := by rw [h, one_mul]
      _ = _ := by ring,
   fun p0 p1 r _ => by rw [add_div, div_mul_eq_mul_div, div_mul_eq_mul_div]⟩

example : (List.range 4).map (cdiffEval (α := ℚ) 2 4 (fun j => [1, 4, 9, 16].getD j 0)) = [3, 4, 6, 7] := by decide +kernel
example : ((3 : ℚ) / 5) * (3 / 5) + (4 / 5) * (4 / 5) = 1 := by norm_num

/-- `Slice`: every selected position is inside the axis and the map is the selection matrix
    (positions are those of Python slicing, cf. C12). -/
theorem C04_slice (n : Nat) (sl : PySlice) (a b s : Int) (h : pyIndices n sl = some (a, b, s))
    (x : V K) (t : Nat) (ht : (t : Int) < rangeLen a b s) :
    (0 ≤ a + t * s ∧ a + t * s < n) ∧ sliceEval a s x t = mulVec (sliceMatrix a s) n x t := by
  obtain ⟨hs, hpos, hneg⟩ := pyIndices_bounds n sl a b s h
  have hb := slice_pos_in_range hs hpos hneg t ht
  refine ⟨hb, ?_⟩
  unfold sliceEval mulVec sliceMatrix
  exact (sumTo_select (q := (a + t * s).toNat) (by omega) (fun j _ => by omega) x).symm

/-- position `t` of the slice is element `t` of the enumeration `selected` that C12 proves correct -/
theorem C04_slice_selected (n : Nat) (sl : PySlice) (a b s : Int) (l : List Int)
    (h : pyIndices n sl = some (a, b, s)) (hl : selected n sl = some l) (t : Nat) (ht : t < l.length) :
    l[t] = a + t * s := by
  unfold selected at hl
  simp only [h, Option.some.injEq] at hl
  subst hl
  exact rangeList_getElem n a b s t ht

/-- zero `Pad` and `Crop` are the documented shift matrices; `Crop` is a left inverse and the
    adjoint of `Pad`; the output length computed as `2·in − padded` is `in − lo − hi`. -/
theorem C04_pad_crop (lo n hi : Nat) (x y : V K) :
    (∀ i, padEval lo n x i = mulVec (padMatrix lo) n x i)
    ∧ (∀ i, i + lo < lo + n + hi → cropEval lo y i = mulVec (cropMatrix lo) (lo + n + hi) y i)
    ∧ (∀ i, i < n → cropEval lo (padEval lo n x) i = x i)
    ∧ dotTo (lo + n + hi) (padEval lo n x) y = dotTo n x (cropEval lo y)
    ∧ cropOutLen (lo + n + hi) lo hi = n :=
  ⟨fun i => padEval_eq_mulVec lo n x i, fun i h => cropEval_eq_mulVec lo _ y i h,
   fun i h => by
     have : lo ≤ i + lo ∧ i + lo < lo + n := by omega
     simp [cropEval, padEval, this],
   -- `cropMatrix` is the transpose of `padMatrix`
   by rw [dotTo_congr (fun i _ => padEval_eq_mulVec lo n x i) (fun _ _ => rfl), dotTo_mulVec]
      exact dotTo_congr (fun _ _ => rfl) fun i hi => (cropEval_eq_mulVec lo _ y i (by omega)).symm,
   by unfold cropOutLen; push_cast; ring⟩

/-- `Sum` over an axis = `I ⊗ 1ᵀ ⊗ I` -/
theorem C04_sum (outer n inner : Nat) (x : V K) (p : Nat) (hp : p < outer * inner) :
    sumAxisEval n inner x p = mulVec (sumAxisMatrix n inner) (outer * n * inner) x p := by
  have h := alongAxis_mulVec outer n 1 inner (fun _ _ => (1 : K)) x p (by simpa using hp)
  unfold alongAxis mulVec kronAxis at h
  unfold sumAxisEval mulVec sumAxisMatrix
  simp only [one_mul] at h
  rw [h]

/-- `Transpose` / `Reshape`: row-major index arithmetic.  Flat and multi-indices are inverse to each
    other (so `Reshape`, which keeps the flat index, moves element `k` to multi-index
    `unravel newshape k`), and `transpose(x, perm)` puts the input element with multi-index `idx` at
    the output multi-index `perm.map idx[·]`, for every permutation of the axes. -/
theorem C04_transpose_reshape {α : Type} (dims perm idx : List Nat) (x : V α)
    (hperm : perm.Perm (List.range dims.length)) (hidx : InBounds dims idx) :
    (∀ k, k < prodL dims → ravel dims (unravel dims k) = k ∧ InBounds dims (unravel dims k))
    ∧ unravel dims (ravel dims idx) = idx
    ∧ transposeEval dims perm x (ravel (perm.map (fun a => dims.getD a 1)) (perm.map (fun a => idx.getD a 0)))
        = x (ravel dims idx) :=
  ⟨fun k hk => ⟨ravel_unravel dims k hk, unravel_inBounds dims k hk⟩, unravel_ravel dims idx hidx,
   transposeEval_spec dims perm idx x hperm hidx⟩

/-- swapping two adjacent axes, in flat-index form -/
theorem C04_swap_axes {α : Type} (a b inner : Nat) (x : V α) (o i j r : Nat) (hi : i < a) (hj : j < b) (hr : r < inner) :
    swapAxesEval a b inner x (((o * b + j) * a + i) * inner + r) = x (((o * a + i) * b + j) * inner + r) := by
  unfold swapAxesEval
  obtain ⟨e1, e2, e3⟩ := Index.decomp_idx (o * b + j) i r a inner hi hr
  have e6 : (((o * b + j) * a + i) * inner + r) / (a * inner * b) = o := by
    rw [← Nat.div_div_eq_div_mul, e1, Index.digit_div o hj]
  simp only [Nat.mul_comm inner a, e1, e2, e3, e6, Index.digit_mod o hj]

example : (List.range 6).map (transposeEval [2, 3] [1, 0] (fun k => k)) = [0, 3, 1, 4, 2, 5] := by decide +kernel
example : (List.range 5).map (padEval (α := Int) 1 3 (fun j => [7, 8, 9].getD j 0)) = [0, 7, 8, 9, 0] := by decide +kernel
example : pyIndices 5 ⟨none, none, some (-2)⟩ = some (4, -1, -2) := by decide +kernel

/-- `Pad` with mode `edge` / `wrap` / `reflect` / `symmetric` on one axis is a gather: every padded position
    reads a position inside the array (so the operator is linear with one `1` per matrix row), the interior
    is copied, and `Crop` of the same widths is a left inverse. -/
theorem C04_pad_modes (mode : PadMode) (lo n : Nat) (hn : 0 < n) (x : V K) (i : Nat) :
    (0 ≤ padSrc mode n ((i : Int) - lo) ∧ padSrc mode n ((i : Int) - lo) < n)
    ∧ padModeEval mode lo n x i = mulVec (padModeMatrix mode lo n) n x i
    ∧ (i < n → cropEval lo (padModeEval mode lo n x) i = x i) := by
  obtain ⟨h0, h1⟩ := padSrc_range mode n hn ((i : Int) - lo)
  refine ⟨⟨h0, h1⟩, ?_, fun hi => ?_⟩
  · unfold padModeEval mulVec padModeMatrix
    exact (sumTo_select (q := (padSrc mode n ((i : Int) - lo)).toNat) (by omega) (fun j _ => by omega) x).symm
  · unfold cropEval padModeEval
    rw [padSrc_interior mode n _ (by omega) (by omega)]
    congr 1; omega

/-- the documented meaning of each mode, for every offset `t ∈ ℤ` relative to the array (any pad width):
    `edge` continues with the first / last value, `wrap` has period `n`, `reflect` mirrors about the first and
    the last sample, `symmetric` about the two array edges. -/
theorem C04_pad_modes_documented (n : Nat) (hn : 0 < n) (t : Int) :
    ((t < 0 → padSrc .edge n t = 0) ∧ ((n : Int) ≤ t → padSrc .edge n t = n - 1))
    ∧ padSrc .wrap n (t + n) = padSrc .wrap n t
    ∧ (2 ≤ n → padSrc .reflect n (-t) = padSrc .reflect n t
        ∧ padSrc .reflect n ((n : Int) - 1 + t) = padSrc .reflect n ((n : Int) - 1 - t))
    ∧ (padSrc .symmetric n (-1 - t) = padSrc .symmetric n t
        ∧ padSrc .symmetric n ((n : Int) + t) = padSrc .symmetric n ((n : Int) - 1 - t)) :=
  ⟨padSrc_edge n t, padSrc_wrap n t, fun h => padSrc_reflect n h t, padSrc_symmetric n hn t⟩

/-- mode `mean`: the padded positions carry the mean of the axis (matrix rows `1/n … 1/n`) -/
theorem C04_pad_mean {F : Type} [Field F] (lo n : Nat) (x : V F) (i : Nat) :
    padMeanEval (fun m => (m : F)) lo n x i = mulVec (padMeanMatrix (fun m => (m : F)) lo n) n x i := by
  unfold padMeanEval mulVec padMeanMatrix
  split
  · rename_i h
    exact (sumTo_select (q := i - lo) (by omega) (fun j _ => by omega) x).symm
  · rw [sumTo_eq_sum, sumTo_eq_sum, Finset.sum_div]
    exact Finset.sum_congr rfl (fun j _ => by ring)

-- numpy: pad([1,2,3], (2,3), mode) for the four modes
example : (List.range 8).map (padModeEval .reflect 2 3 (fun j => [1, 2, 3].getD j 0)) = [3, 2, 1, 2, 3, 2, 1, 2] := by decide +kernel
example : (List.range 8).map (padModeEval .symmetric 2 3 (fun j => [1, 2, 3].getD j 0)) = [2, 1, 1, 2, 3, 3, 2, 1] := by decide +kernel
example : (List.range 8).map (padModeEval .wrap 2 3 (fun j => [1, 2, 3].getD j 0)) = [2, 3, 1, 2, 3, 1, 2, 3] := by decide +kernel
example : (List.range 8).map (padModeEval .edge 2 3 (fun j => [1, 2, 3].getD j 0)) = [1, 1, 1, 2, 3, 3, 3, 3] := by decide +kernel

/-- full convolution (sum over the filter taps) = Toeplitz matrix, and each mode is the documented
    window of it -/
theorem C04_conv_modes (mode : ConvMode) (h : V K) (k : Nat) (x : V K) (n : Nat) (i : Nat) :
    convEval mode h k x n i = mulVec (convMatrix mode h k n) n x i := by
  unfold convEval convMatrix convFullEval mulVec convFullMatrix
  rw [sumTo_eq_sum, sumTo_eq_sum, sum_conv_flip k n _ (fun m j => h m * x j)]
  exact Finset.sum_congr rfl (fun j _ => by rw [ite_mul, zero_mul])

/-- index ranges: every kept output is an output of `full` (sizes `n+k−1`, `n`, `max−min+1`) -/
theorem C04_conv_ranges (mode : ConvMode) (n1 n2 : Nat) (h1 : 0 < n1) (h2 : 0 < n2) :
    convStart mode n1 n2 + convLen mode n1 n2 ≤ n1 + n2 - 1 := by
  cases mode <;> simp only [convStart, convLen]
  · omega
  · omega
  · have := Nat.div_le_self (n2 - 1) 2
    omega

/-- `valid` keeps exactly outputs whose every product lies inside both arrays -/
theorem C04_conv_valid_complete (n k : Nat) (hk : 0 < k) (hkn : k ≤ n) (i : Nat) (hi : i < convLen .valid n k) :
    ∀ m, m < k → m ≤ i + convStart .valid n k ∧ i + convStart .valid n k - m < n := by
  intro m hm
  have hi' : i < n - k + 1 := by simpa only [convLen, Nat.max_eq_left hkn, Nat.min_eq_right hkn] using hi
  show m ≤ i + (min n k - 1) ∧ i + (min n k - 1) - m < n
  rw [Nat.min_eq_right hkn]
  omega

example : (List.range 4).map (convEval (α := Int) .full (fun m => [1, 2].getD m 0) 2 (fun j => [1, 1, 3].getD j 0) 3)
    = [1, 3, 5, 6] := by decide +kernel
example : (List.range 3).map (convEval (α := Int) .same (fun m => [1, 2].getD m 0) 2 (fun j => [1, 1, 3].getD j 0) 3)
    = [1, 3, 5] := by decide +kernel
example : (List.range 2).map (convEval (α := Int) .valid (fun m => [1, 2].getD m 0) 2 (fun j => [1, 1, 3].getD j 0) 3)
    = [3, 5] := by decide +kernel

/-- N-d `Convolve` / `ConvolveByX`: the tap-sum `y[i] = Σ_m h[m] · x[i + start − m]` on the window of a mode is
    multiplication by the N-d Toeplitz matrix, for any number of axes; the window of each mode is the 1-d
    one axis by axis (`convStarts`, `convLens`; ranges by `C04_conv_ranges`). -/
theorem C04_conv_nd (ss os ks ds : List Nat) (h x : V K) (p : Nat) (hs : ConvShapes ss os ks ds) :
    convNdW ss os ks ds h x p = mulVec (convMatrixNdW ss os ks ds h) (prodL ds) x p :=
  convNdW_eq_mulVec ss os ks ds h x p hs

example : ConvShapes (convStarts .same [3, 4] [2, 2]) (convLens .same [3, 4] [2, 2]) [2, 2] [3, 4] := by
  simp [ConvShapes, convStarts, convLens]
example : convStarts .valid [3, 4] [2, 2] = [1, 1] ∧ convLens .valid [3, 4] [2, 2] = [2, 3] := by decide +kernel
-- `convolve([[1,2],[3,4]], [[1,1],[1,1]], 'full')` = [[1,3,2],[4,10,6],[3,7,4]]
example : (List.range 9).map (convNdW (α := Int) (convStarts .full [2, 2] [2, 2]) (convLens .full [2, 2] [2, 2]) [2, 2] [2, 2]
    (fun _ => 1) (fun j => [1, 2, 3, 4].getD j 0)) = [1, 3, 2, 4, 10, 6, 3, 7, 4] := by decide +kernel

/-- signal-domain circular convolution with integer centre shift = the documented circulant of the filter
    zero-padded — or, when the filter is longer than the axis (`k > n`), cropped, as `fftn(h, s=n)` does — to
    the axis length: the sum runs over the first `min k n` taps.  Every filter length, every `n ≥ 1`. -/
theorem C04_circ (h : V K) (k n c : Nat) (hn : 0 < n) (x : V K) (i : Nat) :
    circEval h (min k n) n c x i = mulVec (circMatrix h k n c) n x i := by
  unfold circEval mulVec circMatrix
  rw [sumTo_padTo h (min k n) n (min_le_right _ _) (fun m => x ((i + c + n - m) % n)), sumTo_eq_sum, sumTo_eq_sum,
    sum_circ_flip n (i + c + n) (Nat.le_add_left _ _) hn (fun m j => padTo h (min k n) m * x j)]
  exact Finset.sum_congr rfl (fun j _ => by rw [padTo_min h k n _ (Nat.mod_lt _ hn)])

/-- circulant structure: the matrix commutes with the cyclic shift -/
theorem C04_circ_circulant (h : V K) (k n c : Nat) : ShiftInvariant (circMatrix h k n c) n := by
  intro i j hi hj
  unfold circMatrix
  congr 1
  have hjn : (j + 1) % n ≤ c + n := ((Nat.mod_lt _ (by omega)).le).trans (Nat.le_add_left _ _)
  rw [Nat.add_assoc ((i + 1) % n), Nat.add_sub_assoc hjn, Nat.mod_add_mod]
  by_cases h2 : j + 1 < n
  · rw [Nat.mod_eq_of_lt h2]; congr 1; omega
  · obtain rfl : j + 1 = n := by omega
    rw [Nat.mod_self, Nat.sub_zero, show i + 1 + (c + (j + 1)) = (i + c + (j + 1) - j) + (j + 1) by omega,
      Nat.add_mod_right]

/-- `CircularConvolve.from_operator` of a shift-invariant operator reproduces its matrix, for any
    placement `d` of the impulse -/
theorem C04_circ_from_operator (A : M K) (n d : Nat) (hA : ShiftInvariant A n) (hd : d < n)
    (i j : Nat) (hi : i < n) (hj : j < n) : fromOperatorMatrix A n d i j = A i j := by
  have hn : 0 < n := by omega
  unfold fromOperatorMatrix circMatrix padTo
  simp only [Nat.mod_lt _ hn, if_true]
  have h := shiftInvariant_iter A n hA hn (d + n - j) i j hi hj
  have e1 : i + (d + n - j) = i + d + n - j := by omega
  have e2 : (j + (d + n - j)) % n = d := by
    have : j + (d + n - j) = d + n := by omega
    rw [this, Nat.add_mod_right, Nat.mod_eq_of_lt hd]
  rw [e1, e2] at h
  exact h

/-- convolution theorem with the centre-shift phase: what `CircularConvolve._eval` computes —
    `ifft( fft(h, n) · exp(+2πi c f/n) · fft(x) )` — equals the signal-domain circular convolution with
    filter centre `c` (exact in any field with a primitive `n`-th root of unity `ζ = exp(−2πi/n)`;
    for an integer `c` the three branches of the phase in the code all equal `ζ⁻¹^(c f)`: `C04_circ_phase_integer`;
    a filter longer than the axis is cropped). -/
theorem C04_circ_fft {F : Type} [Field F] {ζ : F} {n : Nat} (hζ : IsPrimitiveRoot ζ n) (hn : 0 < n)
    (hnF : (n : F) ≠ 0) (h : V F) (k c : Nat) (x : V F) (j : Nat) :
    dftInvCropEval ζ⁻¹ (1 / (n : F)) n
        (fun f => dftEval ζ 1 n n (padTo h k) f * ζ⁻¹ ^ (c * f) * dftEval ζ 1 n n x f) j
      = circEval h (min k n) n c x j := by
  rw [← circ_fft_eq hζ hn hnF h (min k n) c (min_le_right _ _) x j]
  have e : ∀ f, dftEval ζ 1 n n (padTo h k) f = dftEval ζ 1 n n (padTo h (min k n)) f := by
    intro f
    unfold dftEval
    congr 1
    exact sumTo_congr (fun m hm => by simp only [hm, if_true, padTo_min h k n m hm])
  simp only [e]

example : (List.range 4).map (circEval (α := Int) (fun m => [1, -1].getD m 0) 2 4 1 (fun j => [3, 5, 6, 10].getD j 0))
    = [2, 1, 4, -7] := by decide +kernel

-- a filter longer than the axis is cropped: taps [1,-1,5] on n = 2 act as [1,-1]
example : (List.range 2).map (circEval (α := Int) (fun m => [1, -1, 5].getD m 0) (min 3 2) 2 0 (fun j => [3, 5].getD j 0))
    = [-2, 2] := by decide +kernel
-- shift invariance is satisfiable by non-constant matrices (hypothesis of `C04_circ_from_operator`)
example : ShiftInvariant (fun i j : Nat => if (i + 1) % 3 = j then (1 : Int) else 0) 3 := by
  intro i j hi hj; interval_cases i <;> interval_cases j <;> decide

/-- spectral-multiplier form of the convolution theorem: `ifft(H · fft(x))` — `CircularConvolve._eval` for ANY
    `h_dft` (a filter passed with `h_is_dft=True`, or `fft(h, n)` times the phases of a fractional
    `h_center`) — is the circular convolution of `x` with the impulse response `g = ifft(H)`. -/
theorem C04_circ_spectrum {F : Type} [Field F] {ζ : F} {n : Nat} (hζ : IsPrimitiveRoot ζ n) (hn : 0 < n) (s : F)
    (H x : V F) (j : Nat) :
    circSpecEval ζ ζ⁻¹ s n H x j = mulVec (circMatrix (dftInvCropEval ζ⁻¹ s n H) n n 0) n x j :=
  circSpec_eq hζ hn s H x j

/-- the phases `CircularConvolve.__init__` multiplies into `h_dft` (three `np.select` branches: below, at and
    above the Nyquist bin), for an INTEGER centre `c` (negative centres included), all equal `ζ^(−c f)` with
    `ζ = E(−1/s) = exp(−2πi/s)`, which is `ζ⁻¹^((c mod s)·f)`: the phase of `C04_circ_fft` with the centre
    reduced modulo the axis length.  `E t = exp(2πi t)`, `C t = cos(2π t)` enter only through `ExpContract`
    (`E(a+b) = E a · E b`, `E 1 = 1`, `C t = (E t + E(−t))/2`). -/
theorem C04_circ_phase_integer {F Q : Type} [Field F] [Field Q] [CharZero Q] {E C : Q → F} (h : ExpContract E C)
    (c : Int) (s f : Nat) (hs : 0 < s) (hf : f < s) :
    shiftPhase E C (fun m => (m : Q)) (-(c : Q)) s f = E (-(1 / (s : Q))) ^ (-(c * f))
    ∧ E (-(1 / (s : Q))) ^ (-(c * f)) = (E (-(1 / (s : Q))))⁻¹ ^ ((c % s).toNat * f) :=
  ⟨shiftPhase_int h c s f hs hf, root_zpow_mod (h.root_pow s hs) hs c f⟩

/-- Hermitian symmetry of the phases for ANY (fractional) centre: `phase(s − f) = conj(phase(f))`, so the
    shifted filter of a real filter is real — this is why the Nyquist bin carries `cos(kπ)`. -/
theorem C04_circ_phase_hermitian {F Q : Type} [Field F] [StarRing F] [Field Q] {E C : Q → F}
    (hE : ∀ t, star (E t) = E (-t)) (hC : ∀ t, star (C t) = C t) (k : Q) (s f : Nat) (hf0 : 0 < f) (hf : f < s) :
    shiftPhase E C (fun m => (m : Q)) k s (s - f) = star (shiftPhase E C (fun m => (m : Q)) k s f) := by
  simp only [shiftPhase]
  -- the mirrored bin lies on the other side of the Nyquist bin
  have key : (2 * (s - f) < s ↔ s < 2 * f) ∧ (2 * (s - f) = s ↔ 2 * f = s) := by omega
  simp only [key.1, key.2, Nat.sub_sub_self hf.le]
  by_cases h1 : 2 * f < s
  · simp only [if_pos h1, if_neg (Nat.lt_asymm h1), if_neg (Nat.ne_of_lt h1), hE]; congr 1; ring
  · by_cases h2 : 2 * f = s
    · simp only [if_neg h1, if_pos h2, if_neg (h2 ▸ Nat.lt_irrefl _ : ¬ s < 2 * f), hC]
    · simp only [if_neg h1, if_neg h2, if_pos (Nat.lt_of_le_of_ne (Nat.not_lt.mp h1) (Ne.symm h2)), hE]

/-- further facts about the constructor's shift phases for ANY (fractional) centre: the zero-frequency bin is
    untouched (the shifted filter has the same sum of taps), and away from the Nyquist bin shifts compose. -/
theorem C04_circ_phase_dc_add {F Q : Type} [Field F] [Field Q] [CharZero Q] {E C : Q → F} (h : ExpContract E C)
    (k1 k2 : Q) (s f : Nat) (hs : 0 < s) :
    shiftPhase E C (fun m => (m : Q)) k1 s 0 = 1
    ∧ (2 * f ≠ s → shiftPhase E C (fun m => (m : Q)) (k1 + k2) s f
        = shiftPhase E C (fun m => (m : Q)) k1 s f * shiftPhase E C (fun m => (m : Q)) k2 s f) := by
  refine ⟨?_, fun hf => ?_⟩
  · simp only [shiftPhase]
    rw [if_pos (by omega)]
    simp [h.zero]
  · simp only [shiftPhase, if_neg hf]
    split
    · rw [← h.add]; congr 1; ring
    · rw [← h.add]; congr 1; ring

-- non-vacuity of `ExpContract`: over ℚ, `E = 1`, `C = 1` (the trivial character); the contract is the
-- exponential law, satisfied by `t ↦ exp(2πi t)`, `t ↦ cos(2πt)` over ℂ
example : ExpContract (fun _ : ℚ => (1 : ℚ)) (fun _ => 1) := ⟨by simp, rfl, by simp, by norm_num⟩

/-- the N-d circular convolution is multiplication by the documented N-d circulant
    `H[i, j] = h_pad[(i + c − j) mod dims]`; in multi-index form (`ravel`) the flat index arithmetic is exactly
    that: `shiftIdx` is `(i + c − j) mod dims` axis by axis and `padNd` is `h` inside the filter shape, `0` outside. -/
theorem C04_circ_nd (ks dims cs : List Nat) (h x : V K) (p : Nat) (hpos : ∀ n ∈ dims, 0 < n) (hf : FitsIn ks dims cs) :
    circNd ks dims cs h x p = mulVec (circMatrixNd ks dims cs h) (prodL dims) x p :=
  circNd_eq_mulVec ks dims cs h x p hpos hf

/-- the multi-index reading of `shiftIdx` and `padNd` that the docstring of `C04_circ_nd` speaks of -/
theorem C04_circ_nd_index (ks dims cs i j : List Nat) (h : V K) (hi : InBounds dims i) (hj : InBounds dims j)
    (hl : ks.length = dims.length) :
    shiftIdx dims cs (ravel dims i) (ravel dims j) = ravel dims (shiftMI dims cs i j)
    ∧ (InBounds ks i → padNd ks dims h (ravel dims i) = h (ravel ks i))
    ∧ (¬ InBounds ks i → padNd ks dims h (ravel dims i) = 0) :=
  ⟨shiftIdx_ravel dims cs i j hi hj, padNd_ravel_in ks dims i h hi, padNd_ravel_out ks dims i h hi hl⟩

/-- N-d spectral-multiplier form: for ANY N-d spectrum `H` (filter in the DFT domain, fractional centres on
    several axes), `ifftn(H · fftn(x))[p] = Σ_q ifftn(H)[(p − q) mod dims] · x[q]`. -/
theorem C04_circ_nd_spectrum {F : Type} [Field F] (dims : List Nat) (ws : List F) (s : F) (H x : V F) (p : Nat)
    (hr : Roots dims ws) (hp : p < prodL dims) :
    circNdSpecEval dims ws (ws.map (·⁻¹)) s H x p
      = mulVec (fun p q => s * dftNd dims (ws.map (·⁻¹)) H (shiftIdx dims (List.replicate dims.length 0) p q))
          (prodL dims) x p := by
  unfold circNdSpecEval mulVec
  rw [circNdSpec_raw dims ws H x p hr hp, sumTo_eq_sum, Finset.mul_sum]
  exact Finset.sum_congr rfl (fun q _ => by ring)

/-- N-d convolution theorem: `ifftn( fftn(h, s=dims) · Π_a ζ_a⁻¹^(c_a f_a) · fftn(x) )` — `CircularConvolve._eval`
    over `ndims = dims.length` axes with integer centres — equals the signal-domain N-d circular convolution
    `y[i] = Σ_m h[m] · x[(i + c − m) mod dims]`; any number of axes, any sizes `ks ≤ dims`. -/
theorem C04_circ_nd_fft {F : Type} [Field F] (dims : List Nat) (ws : List F) (ks cs : List Nat) (s : F)
    (h x : V F) (p : Nat) (hr : Roots dims ws) (hf : FitsIn ks dims cs) (hs : s * (prodL dims : F) = 1)
    (hp : p < prodL dims) :
    circNdSpecEval dims ws (ws.map (·⁻¹)) s
        (fun f => dftNd dims ws (padNd ks dims h) f * phaseNd dims (ws.map (·⁻¹)) cs f) x p
      = circNd ks dims cs h x p := by
  have hpos := roots_pos dims ws hr
  rw [circNd_eq_mulVec ks dims cs h x p hpos hf]
  unfold circNdSpecEval mulVec circMatrixNd
  rw [circNdSpec_raw dims ws _ x p hr hp, sumTo_eq_sum, Finset.mul_sum]
  refine Finset.sum_congr rfl (fun q hq => ?_)
  rw [dftNd_shift dims ws cs _ _ hr (fitsIn_length ks dims cs hf) (shiftIdx_lt dims _ p q hpos),
    shiftIdx_shiftIdx dims cs p q hpos (Finset.mem_range.mp hq), ← mul_assoc, ← mul_assoc, hs, one_mul]

-- non-vacuity: ℚ has primitive 2nd and 1st roots; a 2×2 filter on a (2,2) image
example : Roots [2, 1] [(-1 : ℚ), 1] := by
  exact ⟨IsPrimitiveRoot.neg_one 0 (by norm_num), by norm_num, IsPrimitiveRoot.one, by norm_num, trivial⟩
example : FitsIn [2, 2] [3, 4] [1, 0] := by simp [FitsIn]
-- a (2,2) filter on a (2,3) image, centre (1,0): direct evaluation of the N-d definition
example : (List.range 6).map (circNd (α := Int) [2, 2] [2, 3] [1, 0] (fun m => [1, 2, 3, 4].getD m 0)
    (fun j => [1, 0, 0, 0, 0, 0].getD j 0)) = [3, 4, 0, 1, 2, 0] := by decide +kernel
example : shiftMI [3, 4] [1, 0] [0, 1] [2, 3] = [2, 2] := by decide +kernel

/-- `C04_circ_nd_fft` without the restriction `ks ≤ dims`: for a filter of ANY shape (same rank), what
    `CircularConvolve._eval` computes is the N-d circular convolution with the filter CROPPED to `min(ks, dims)` axis by
    axis (`fftn(h, s=dims)` crops), `cropFilter ks dims h = h[:n_0, :n_1, …]`. -/
theorem C04_circ_nd_fft_crop {F : Type} [Field F] (dims : List Nat) (ws : List F) (ks cs : List Nat) (s : F)
    (h x : V F) (p : Nat) (hr : Roots dims ws) (hk : ks.length = dims.length) (hc : cs.length = dims.length)
    (hs : s * (prodL dims : F) = 1) (hp : p < prodL dims) :
    circNdSpecEval dims ws (ws.map (·⁻¹)) s
        (fun f => dftNd dims ws (padNd ks dims h) f * phaseNd dims (ws.map (·⁻¹)) cs f) x p
      = circNd (minShape ks dims) dims cs (cropFilter ks dims h) x p := by
  have hpos := roots_pos dims ws hr
  rw [← C04_circ_nd_fft dims ws (minShape ks dims) cs s (cropFilter ks dims h) x p hr (fitsIn_min ks dims cs hk hc) hs hp]
  unfold circNdSpecEval
  congr 1
  apply dftNd_congr dims _ _ _ p _ hp
  intro q hq
  beta_reduce
  rw [dftNd_congr dims ws _ _ q (fun r hr' => padNd_crop ks dims h r hk hpos hr') hq]

-- a (2,3) filter on a (3,2) image: cropped to (2,2), keeping h[0,0], h[0,1], h[1,0], h[1,1]
example : minShape [2, 3] [3, 2] = [2, 2]
    ∧ (List.range 4).map (cropFilter [2, 3] [3, 2] (fun q => [10, 11, 12, 20, 21, 22].getD q 0)) = [10, 11, 20, 21] := by decide +kernel

/-- end to end for `CircularConvolve` with integer centres over any number of axes: the spectrum the
    CONSTRUCTOR builds (`fftn(h, s=dims)` times `math.prod` of the three-branch `np.select` phases, `shiftPhaseNd`)
    followed by `_eval` (`ifftn(h_dft · fftn x)`) is the signal-domain N-d circular convolution.  `E`, `C` enter
    through `ExpContract` and through `E(−1/n_a)` being a primitive `n_a`-th root of unity (`Roots`). -/
theorem C04_circ_nd_code {F Q : Type} [Field F] [Field Q] [CharZero Q] {E C : Q → F} (h : ExpContract E C)
    (dims ks cs : List Nat) (s : F) (hf x : V F) (p : Nat)
    (hr : Roots dims (dims.map (fun (n : Nat) => E (-(1 / ((n : Nat) : Q))))))
    (hfit : FitsIn ks dims cs) (hs : s * (prodL dims : F) = 1) (hp : p < prodL dims) :
    circNdSpecEval dims (dims.map (fun (n : Nat) => E (-(1 / ((n : Nat) : Q)))))
        (dims.map (fun (n : Nat) => (E (-(1 / ((n : Nat) : Q))))⁻¹)) s
        (fun f => dftNd dims (dims.map (fun (n : Nat) => E (-(1 / ((n : Nat) : Q))))) (padNd ks dims hf) f
          * shiftPhaseNd E C (fun m => (m : Q)) (cs.map (fun (c : Nat) => -((c : Nat) : Q))) dims f) x p
      = circNd ks dims cs hf x p := by
  have hpos := roots_pos dims _ hr
  have hmap : (dims.map (fun (n : Nat) => E (-(1 / ((n : Nat) : Q))))).map (·⁻¹)
      = dims.map (fun (n : Nat) => (E (-(1 / ((n : Nat) : Q))))⁻¹) := by
    rw [List.map_map]; rfl
  rw [← C04_circ_nd_fft dims _ ks cs s hf x p hr hfit hs hp, hmap]
  unfold circNdSpecEval
  congr 1
  apply dftNd_congr dims _ _ _ p _ hp
  intro q hq
  beta_reduce
  rw [shiftPhaseNd_nat h dims cs q hpos (fitsIn_length ks dims cs hfit) hq]

/-- dtype promotion of `CircularConvolve` / `Convolve` / `ConvolveByX` (`result_type(filter, input)`): complex exactly
    when filter or input is, double precision exactly when one of them is; commutative, idempotent, and a real output
    (`real = True`, the `.real` part is returned) exactly for real filter AND real input. -/
theorem C04_conv_dtype (a b : DT) :
    (resultType a b).cx = (a.cx || b.cx) ∧ (resultType a b).wide = (a.wide || b.wide)
    ∧ resultType a b = resultType b a ∧ resultType a a = a
    ∧ (∀ hs is nd out odt real, circInit hs is nd false false a b = some (out, odt, real) →
        odt = resultType a b ∧ (real = true ↔ a.cx = false ∧ b.cx = false)) := by
  refine ⟨by cases a <;> cases b <;> rfl, by cases a <;> cases b <;> rfl, by cases a <;> cases b <;> rfl,
    by cases a <;> rfl, ?_⟩
  intro hs is nd out odt real h
  simp only [circInit, Bool.false_and, Bool.false_eq_true, if_false] at h
  split at h
  · cases h
  · simp only [Option.some.injEq, Prod.mk.injEq] at h
    obtain ⟨_, h2, h3⟩ := h
    subst h2 h3
    refine ⟨rfl, ?_⟩
    cases a <;> cases b <;> decide

/-- error cases of the constructors: `h_center` with `h_is_dft` is rejected whatever the shapes; `Convolve` rejects a
    filter of the wrong rank and an unknown mode, and accepts the three documented modes for equal ranks. -/
theorem C04_conv_init_errors (hs is : List Nat) (nd : Option Nat) (a b : DT) (k : Nat) (mode : String) :
    circInit hs is nd true true a b = none
    ∧ (∀ j, j ≠ k → convInit j k mode a b = none)
    ∧ (mode = "full" ∨ mode = "valid" ∨ mode = "same" → convInit k k mode a b = some (resultType b a)) := by
  refine ⟨by simp [circInit], fun j hj => by simp [convInit, hj], fun h => ?_⟩
  rcases h with rfl | rfl | rfl <;> simp [convInit]

example : circInit [3, 2] [4] (some 1) false false .f64 .f64 = some ([3, 4], .f64, true) := by decide +kernel
example : circInit [2, 3] [3, 4] (some 1) false true .c128 .f64 = none := by decide   -- (2,4) vs (3,4) do not broadcast
example : broadcastShapes [2, 1, 4] [3, 1] = some [2, 3, 4] := by decide +kernel

/-- constructor bookkeeping of `DFT(input_shape, axes, axes_shape)` for Python axes (negative values count
    from the end; `pyIx` is the list position they address): output shape is the input shape with
    `axes_shape[k]` on axis `axes[k]` and unchanged elsewhere; `inv_axes_shape` restores the input sizes, so
    `inv` returns an array of the input shape. -/
theorem C04_dft_shape (inShape : List Nat) (ax : List Int) (s : List Nat) (hlen : ax.length = s.length)
    (hax : ∀ a ∈ ax, -(inShape.length : Int) ≤ a ∧ a < inShape.length)
    (hnd : (ax.map (pyIx inShape.length)).Nodup) :
    ∃ out, dftInit ⟨inShape, some ax, some s⟩
        = some (some ax, out, some (ax.map (fun i => inShape.getD (pyIx inShape.length i) 0)))
      ∧ out.length = inShape.length
      ∧ (∀ k (hk : k < ax.length), out[pyIx inShape.length ax[k]]? = some (s[k]'(hlen ▸ hk)))
      ∧ (∀ i, i ∉ ax.map (pyIx inShape.length) → out[i]? = inShape[i]?)
      ∧ dftInvShape (some ax) out (some (ax.map (fun i => inShape.getD (pyIx inShape.length i) 0))) = inShape := by
  have hlen' : (ax.map (pyIx inShape.length)).length = s.length := by simpa using hlen
  have hpy : ∀ a ∈ ax, pyIx inShape.length a < inShape.length := by
    intro a ha
    obtain ⟨h1, h2⟩ := hax a ha
    unfold pyIx; split <;> omega
  have hout : ∀ i, i ∉ ax.map (pyIx inShape.length) →
      (setMany inShape ((ax.map (pyIx inShape.length)).zip s))[i]? = inShape[i]? := fun i hi =>
    setMany_getElem?_of_not_mem _ _ i (by rw [List.map_fst_zip (by omega)]; exact hi)
  refine ⟨setMany inShape ((ax.map (pyIx inShape.length)).zip s), ?_, setMany_length _ _, ?_, hout, ?_⟩
  · have hok : ax.all (fun a => decide (-(inShape.length : Int) ≤ a ∧ a < inShape.length)) = true :=
      List.all_eq_true.mpr (fun a ha => decide_eq_true (hax a ha))
    simp only [dftInit, hlen, ne_eq, not_true_eq_false, if_false, hok, Bool.not_true, Bool.false_eq_true, setMany]
  · intro k hk
    have hk' : k < s.length := hlen ▸ hk
    apply setMany_getElem?_of_mem
    · rw [List.map_fst_zip (by omega)]; exact hnd
    · exact List.mem_iff_getElem.mpr ⟨k, by simp [hk, hk'], by simp⟩
    · exact hpy _ (List.getElem_mem hk)
  · unfold dftInvShape
    have e : ax.map (fun i => inShape.getD (pyIx inShape.length i) 0)
        = (ax.map (pyIx inShape.length)).map (fun i => inShape.getD i 0) := by simp [List.map_map, Function.comp_def]
    rw [e]
    simp only [setMany_length]
    exact setMany_restore inShape _ (ax.map (pyIx inShape.length)) (setMany_length _ _) hout

/-- `axes=None` with `axes_shape` of length `r ≤ ndim`: the transform acts on the trailing `r` axes; more
    trailing axes than the array has is an error (the code builds negative axes that `fftn` rejects) -/
theorem C04_dft_default_axes (inShape s : List Nat) :
    (s.length ≤ inShape.length → ∃ out inv, dftInit ⟨inShape, none, some s⟩
      = some (some ((List.range s.length).map (fun k => ((inShape.length - s.length + k : Nat) : Int))), out, inv))
    ∧ (inShape.length < s.length → dftInit ⟨inShape, none, some s⟩ = none) := by
  constructor
  · intro h; exact ⟨_, _, by simp only [dftInit, Nat.not_lt.mpr h, if_false]; rfl⟩
  · intro h; simp only [dftInit, h, if_true]

/-- without `axes_shape` nothing changes and `inv` is the plain inverse transform -/
theorem C04_dft_no_axes_shape (inShape : List Nat) (ax : Option (List Int)) :
    dftInit ⟨inShape, ax, none⟩ = some (ax, inShape, none) := by
  cases ax <;> simp [dftInit]

example : dftInit ⟨[4, 5, 6], some [0, 2], some [8, 3]⟩ = some (some [0, 2], [8, 5, 3], some [4, 6]) := by decide +kernel
example : dftInit ⟨[4, 5, 6], none, some [7]⟩ = some (some [2], [4, 5, 7], some [6]) := by decide +kernel
-- negative axes: `DFT((4,5,6), axes=(-1, 0), axes_shape=(3, 8))`
example : dftInit ⟨[4, 5, 6], some [-1, 0], some [3, 8]⟩ = some (some [-1, 0], [8, 5, 3], some [6, 4]) := by decide +kernel
example : dftInit ⟨[4, 5], some [-3], some [3]⟩ = none := by decide +kernel

section Field
variable {F : Type} [Field F]

/-- the documented inversion, `inv ∘ eval = id` whenever no axis is truncated (every `m ≥ n`).  Not proved: false for
    the code as it is when `m > n` (`C04_dft_inv_padded_fails`). -/
def C04_dft_inv_stmt : Prop :=
  ∀ (n m : Nat) (ζm ζn : ℂ) (s s' : ℂ), n ≤ m → 0 < n → IsPrimitiveRoot ζm m → IsPrimitiveRoot ζn n →
    s * s' * (n : ℂ) = 1 → ∀ (x : V ℂ) (j : Nat), j < n →
      dftInvEval ζn⁻¹ s' n m (dftEval ζm s n m x) j = x j

/-- proved part: `DFT.inv` undoes `DFT` for every normalisation (`s·s'·n = 1`: backward `1, 1/n`,
    ortho `1/√n, 1/√n`, forward `1/n, 1`) when the transform size equals the input size
    (`axes_shape` absent or equal to the input sizes).  What is missing for the full statement is
    the zero-padded case `m > n`, where the code crops the spectrum (`C04_dft_inv_padded_fails`). -/
theorem C04_dft_inv_partial {ζ : F} {n : Nat} (hζ : IsPrimitiveRoot ζ n) (s s' : F)
    (hs : s * s' * (n : F) = 1) (x : V F) (j : Nat) (hj : j < n) :
    dftInvEval ζ⁻¹ s' n n (dftEval ζ s n n x) j = x j := by
  rw [dftInv_eq_crop_of_eq, dft_invCrop hζ s s' hs n x j hj]
  simp [hj]

/-- the inverse the documentation promises (transform at the padded size `m ≥ n`, then crop) does
    undo the zero-padded transform — this is what `fixes/dft-inv-padded.patch` implements. -/
theorem C04_dft_inv_documented {ζ : F} {n m : Nat} (hnm : n ≤ m) (hζ : IsPrimitiveRoot ζ m) (s s' : F)
    (hs : s * s' * (m : F) = 1) (x : V F) (j : Nat) (hj : j < n) :
    dftInvCropEval ζ⁻¹ s' m (dftEval ζ s n m x) j = x j := by
  rw [dft_invCrop hζ s s' hs n x j (by omega)]
  simp [hj]

end Field

/-- negation witness for the code as it is (known finding `dft-inv-padded`): input `[0, 1]`,
    `axes_shape = (4,)`; `eval` gives `[1, −i, −1, i]`, `inv` crops it to `[1, −i]` and returns
    `[(1−i)/2, (1+i)/2] ≠ [0, 1]`. -/
theorem C04_dft_inv_padded_fails :
    dftInvEval (-1 : ℂ) (1 / 2) 2 4 (dftEval (-Complex.I) 1 2 4 (fun j => if j = 1 then 1 else 0)) 0 ≠
      (fun j => if j = 1 then (1 : ℂ) else 0) 0 := by
  simp [dftInvEval, dftEval, sumTo, dftEval.npow, Complex.ext_iff]

-- non-vacuity of the hypotheses of the inversion theorems: the three normalisations at n = 2 over ℚ (ortho needs √2: ℝ/ℂ)
example : (1 : ℚ) * (1 / 2) * ((2 : Nat) : ℚ) = 1 ∧ (1 / 2 : ℚ) * 1 * ((2 : Nat) : ℚ) = 1 := by norm_num
-- `-1` is a primitive 2nd root of unity in ℚ
example : IsPrimitiveRoot (-1 : ℚ) 2 := IsPrimitiveRoot.neg_one 0 (by norm_num)

/-- N-d DFT over all axes of an array of any shape: `inv ∘ eval = id` for every normalisation
    (`s · s' · Π dims = 1`) when the transform size equals the input size. -/
theorem C04_dft_nd_inv {F : Type} [Field F] (dims : List Nat) (ws : List F) (s s' : F) (x : V F) (p : Nat)
    (hr : Roots dims ws) (hs : s * s' * (prodL dims : F) = 1) (hp : p < prodL dims) :
    s' * dftNd dims (ws.map (·⁻¹)) (fun f => s * dftNd dims ws x f) p = x p := by
  simp only [dftNd_eq_dftAxes, ← map_some_inv]
  exact dftAxes_inv dims _ s s' x p hr.opt (by rw [dftAxesSize_some hr]; exact hs) hp

/-- DFT over ANY subset of the axes of an array of any shape (`DFT(input_shape, axes=…)` without `axes_shape`):
    `inv ∘ eval = id` for every normalisation (`s·s'·Π_{a ∈ axes} n_a = 1`); `ws[a] = some ω_a` marks a transformed
    axis, `none` an axis that is left alone. -/
theorem C04_dft_axes_inv {F : Type} [Field F] (dims : List Nat) (ws : List (Option F)) (s s' : F) (x : V F) (p : Nat)
    (hr : RootsOpt dims ws) (hs : s * s' * (dftAxesSize dims ws : F) = 1) (hp : p < prodL dims) :
    s' * dftAxes dims (ws.map (Option.map (·⁻¹))) (fun f => s * dftAxes dims ws x f) p = x p :=
  dftAxes_inv dims ws s s' x p hr hs hp

-- non-vacuity: shape (3, 2), transform over axis 1 only, over ℚ
example : RootsOpt [3, 2] [none, some (-1 : ℚ)] := by
  exact ⟨by norm_num, IsPrimitiveRoot.neg_one 0 (by norm_num), by norm_num, trivial⟩
example : dftAxesSize [3, 2] [none, some (-1 : ℚ)] = 2 := by decide +kernel

/-- `DFT(input_shape = ns, axes, axes_shape)` with transform shape `ms ≥ ns` (zero padding) over ANY subset of the axes
    of an N-d array: the inverse the documentation promises — inverse transform at the transform shape, then crop to
    the input shape — undoes `_eval = fftn(x, s=axes_shape, axes, norm)`, for every normalisation.  (N-d form of
    `C04_dft_inv_documented`; this is what `fixes/dft-inv-padded.patch` implements.) -/
theorem C04_dft_nd_inv_documented {F : Type} [Field F] (ns ms : List Nat) (ws : List (Option F)) (s s' : F) (x : V F)
    (p : Nat) (hfit : FitsPad ns ms) (hr : RootsOpt ms ws) (hs : s * s' * (dftAxesSize ms ws : F) = 1)
    (hp : p < prodL ns) :
    dftInvDocNd ns ms (ws.map (Option.map (·⁻¹))) s' (dftFwdPad ns ms ws s x) p = x p :=
  dftPad_inv_documented ns ms ws s s' x p hfit hr hs hp

/-- proved part for `DFT.inv` AS CODED in N dimensions (`ifftn(z, s=inv_axes_shape, axes)`): it undoes `DFT` when the
    transform shape equals the input shape.  Missing for the full statement: `ms > ns` on some axis, where the code crops
    the spectrum (`C04_dft_nd_inv_padded_fails`). -/
theorem C04_dft_nd_inv_partial {F : Type} [Field F] (ns : List Nat) (ws : List (Option F)) (s s' : F) (x : V F) (p : Nat)
    (hr : RootsOpt ns ws) (hs : s * s' * (dftAxesSize ns ws : F) = 1) (hp : p < prodL ns) :
    dftInvCodedNd ns ns (ws.map (Option.map (·⁻¹))) s' (dftFwdPad ns ns ws s x) p = x p :=
  dftInvCoded_unpadded ns ws s s' x p hr hs hp

/-- negation witness in N dimensions for the code as it is (known finding `dft-inv-padded`): `DFT((1,2), axes=(1,),
    axes_shape=(4,))` on `[[0, 1]]`: `inv(eval(x))[0,0] = (1 − i)/2 ≠ 0`. -/
theorem C04_dft_nd_inv_padded_fails :
    dftInvCodedNd [1, 2] [1, 4] [none, some (-1 : ℂ)] (1 / 2)
        (dftFwdPad [1, 2] [1, 4] [none, some (-Complex.I)] 1 (fun j => if j = 1 then 1 else 0)) 0
      ≠ (fun j => if j = 1 then (1 : ℂ) else 0) 0 := by
  rw [dftInvCodedNd_unit_lead 2 4 _ _ _ _ _ 0 Nat.zero_lt_two]
  exact C04_dft_inv_padded_fails

example : FitsPad [2, 3] [4, 3] := by simp [FitsPad]
example : embedIdx [2, 3] [4, 5] 4 = 6 := by decide +kernel

/-- `Propagator._eval = F.inv(D @ F @ x)` without padding (`pad_factor = 1`), over any subset of transformed axes and for
    every DFT normalisation: with the transfer function `D ≡ 1` (propagation distance `z = 0`: `exp(0)`) the propagator is
    the identity, and propagators compose like their transfer functions — propagating with `D₂` and then with `D₁` is
    propagating with `D₁·D₂` (for `D_z = exp(i z φ)`: distances add).  With `pad_factor > 1` the coded inverse crops the
    spectrum (known finding `dft-inv-padded`), so neither holds there; with the documented inverse the identity for `D ≡ 1`
    is `C04_dft_nd_inv_documented`. -/
theorem C04_propagator_semigroup {F : Type} [Field F] (ns : List Nat) (ws : List (Option F)) (s s' : F) (D1 D2 x : V F)
    (p : Nat) (hr : RootsOpt ns ws) (hs : s * s' * (dftAxesSize ns ws : F) = 1) (hp : p < prodL ns) :
    ((∀ f, f < prodL ns → D1 f = 1) → propEval ns ns ws (ws.map (Option.map (·⁻¹))) s s' D1 x p = x p)
    ∧ propEval ns ns ws (ws.map (Option.map (·⁻¹))) s s' D1 (propEval ns ns ws (ws.map (Option.map (·⁻¹))) s s' D2 x) p
        = propEval ns ns ws (ws.map (Option.map (·⁻¹))) s s' (fun f => D1 f * D2 f) x p := by
  have hpos := rootsOpt_pos ns ws hr
  refine ⟨fun hD => ?_, ?_⟩
  · unfold propEval
    rw [← dftInvCoded_unpadded ns ws s s' x p hr hs hp]
    unfold dftInvCodedNd
    congr 1
    apply dftAxes_congr ns _ _ _ p _ hp
    intro q hq
    rw [padNd_self ns hpos _ q hq, padNd_self ns hpos _ q hq, hD q hq, one_mul]
  · unfold propEval
    unfold dftInvCodedNd
    congr 1
    apply dftAxes_congr ns _ _ _ p _ hp
    intro q hq
    rw [padNd_self ns hpos _ q hq, padNd_self ns hpos _ q hq]
    have := dftFwd_inv ns ws s s' (fun f => D2 f * dftFwdPad ns ns ws s x f) q hr hs hq
    unfold dftInvCodedNd at this
    rw [this]; ring

-- a 2-point propagator over ℚ with D = (1, -1): applying it twice is the identity (D·D = 1)
example : (List.range 2).map (propEval (α := ℚ) [2] [2] [some (-1)] [some (-1)] 1 (1 / 2) (fun f => if f = 0 then 1 else -1)
    (propEval [2] [2] [some (-1)] [some (-1)] 1 (1 / 2) (fun f => if f = 0 then 1 else -1) (fun j => if j = 0 then 3 else 5)))
    = [3, 5] := by decide +kernel

/-- padded propagators (`pad_factor > 1`, transform shape `ms ≥ ns`), statement for the DOCUMENTED operator `F⁻¹ D F` (inverse
    at the padded shape, then crop): propagation over `z = 0` (`D ≡ 1`) is the identity, any axes subset, every norm. -/
theorem C04_propagator_padded_documented {F : Type} [Field F] (ns ms : List Nat) (ws : List (Option F)) (s s' : F)
    (D x : V F) (p : Nat) (hfit : FitsPad ns ms) (hr : RootsOpt ms ws) (hs : s * s' * (dftAxesSize ms ws : F) = 1)
    (hD : ∀ f, f < prodL ms → D f = 1) (hp : p < prodL ns) :
    propEvalDoc ns ms ws (ws.map (Option.map (·⁻¹))) s s' D x p = x p := by
  unfold propEvalDoc
  rw [← dftPad_inv_documented ns ms ws s s' x p hfit hr hs hp]
  unfold dftInvDocNd
  congr 1
  apply dftAxes_congr ms _ _ _ _ _ (embedIdx_lt ns ms p hfit hp)
  intro q hq
  rw [hD q hq, one_mul]

/-- negation witness for the code as it is (known finding `dft-inv-padded`): the padded propagator `F.inv(D @ F @ x)` with
    `D ≡ 1` is NOT the identity — input `[[0, 1]]`, padded shape `(1, 4)`: the result at `[0,0]` is `(1 − i)/2`.  The
    model `propEval` is what the adapter ties to the real padded propagators (matrix of the code as it is). -/
theorem C04_propagator_padded_fails :
    propEval [1, 2] [1, 4] [none, some (-Complex.I)] [none, some (-1 : ℂ)] 1 (1 / 2) (fun _ => 1)
        (fun j => if j = 1 then 1 else 0) 0 ≠ (fun j => if j = 1 then (1 : ℂ) else 0) 0 := by
  simp only [propEval, one_mul]
  exact C04_dft_nd_inv_padded_fails

section Freq
variable {F : Type} [Field F]

/-- in the statements naturals are embedded by `Nat.cast` -/
local instance : HasNat F := ⟨Nat.cast⟩

/-- `fftfreq` as numpy assembles it (two `arange`s) is the documented signed frequency
    `i/(n·d)` for `2i < n` and `(i − n)/(n·d)` otherwise — exact, for every `n` and `d`. -/
theorem C04_freq_grid (n : Nat) (hn : 0 < n) (d : F) (i : Nat) : fftfreq n d i = signedFreq n d i := by
  unfold fftfreq signedFreq
  simp only [HasNat.nat]
  have hN : (n - 1) / 2 + 1 + n / 2 = n := by omega
  by_cases h : i < (n - 1) / 2 + 1
  · have h2 : 2 * i < n := by omega
    simp [h, h2]
  · have h2 : ¬ 2 * i < n := by omega
    simp only [h, h2, if_false]
    congr 1
    have hle : (n - 1) / 2 + 1 ≤ i := by omega
    rw [Nat.cast_sub hle]
    have : ((n : Nat) : F) = (((n - 1) / 2 + 1 : Nat) : F) + ((n / 2 : Nat) : F) := by
      rw [← Nat.cast_add, hN]
    rw [this]; ring

/-- the grid `kpSqPinned` (/repo before 5ab2488) is the transpose of the documented one (axis 0 carries the
    `(N_y, Δy)` frequencies); they agree for square shapes with isotropic sampling. -/
theorem C04_freq_grid_pinned (n0 n1 : Nat) (d0 d1 : F) (a b : Nat) :
    kpSqPinned n0 n1 d0 d1 a b = kpSqDoc n0 n1 d0 d1 b a
    ∧ kpSqPinned n0 n0 d0 d0 a b = kpSqDoc n0 n0 d0 d0 a b :=
  ⟨by unfold kpSqPinned kpSqDoc; ring, by unfold kpSqPinned kpSqDoc; ring⟩

end Freq

/-- witness that the transposition matters for anisotropic `dx` on a square shape:
    shape `(2,2)`, `dx = (1, 2)`, index `(0,1)`: documented `1/16`, pinned `1/4`. -/
theorem C04_freq_grid_pinned_differs :
    @kpSqPinned ℚ ⟨Nat.cast⟩ _ _ _ _ 2 2 1 2 0 1 ≠ @kpSqDoc ℚ ⟨Nat.cast⟩ _ _ _ _ 2 2 1 2 0 1 := by
  decide +kernel

example : (List.range 4).map (@fftfreq ℚ ⟨Nat.cast⟩ _ _ _ 4 (1 / 2)) = [0, 1 / 2, -1, -1 / 2] := by decide +kernel

/-- the two scatter-adds realise the documented two-bin (boxcar) matrix for EVERY bin index: a bin that is off the
    detector (negative or `≥ ny`) is dropped on its own, the other one is kept. -/
theorem C04_xray_matrix (np : Nat) (I : Nat → Int) (w x : V K) (ny : Nat)
    (b : Nat) (hb : b < ny) : xrayProject np I w x ny b = mulVec (xrayMatrix I w) np x b :=
  xray_eq_mulVec np I w x ny b hb

/-- mass conservation in a view: `Σ_bins y = Σ_pixels x` whenever all `I` and `I+1` lie on the detector -/
theorem C04_xray_mass (np : Nat) (I : Nat → Int) (w x : V K) (ny : Nat)
    (hI : ∀ p, p < np → 0 ≤ I p ∧ I p + 1 < ny) :
    sumTo ny (xrayProject np I w x ny) = sumTo np x :=
  xray_mass_covered np I w x ny (fun p hp => ⟨(hI p hp).1, by have := (hI p hp).2; omega, Or.inl (hI p hp).2⟩)

/-- converse failure: one pixel of mass 1 whose second bin falls off a 1-bin detector loses mass -/
theorem C04_xray_mass_fails_off_detector :
    sumTo 1 (xrayProject (α := ℚ) 1 (fun _ => 0) (fun _ => 1 / 2) (fun _ => 1) 1) ≠ sumTo 1 (fun _ => (1 : ℚ)) := by
  decide +kernel

/-- `xrayProjectCoupled` is the scatter of /repo before e359064 (finding `xray-left-edge-drop`): it replaces
    a negative first bin by `ny` BEFORE forming `inds + 1`, so a pixel whose first bin is `−1` (its boxcar straddles the
    left detector edge) contributes nothing, although the documented matrix gives bin `0` the share `1 − w`. -/
theorem C04_xray_left_edge_old_form :
    xrayProjectCoupled (α := ℚ) 1 (fun _ => -1) (fun _ => 1 / 2) (fun _ => 1) 2 0
      ≠ mulVec (xrayMatrix (fun _ => -1) (fun _ => (1 / 2 : ℚ))) 1 (fun _ => 1) 0
    ∧ xrayProject (α := ℚ) 1 (fun _ => -1) (fun _ => 1 / 2) (fun _ => 1) 2 0 = 1 / 2 := by
  decide +kernel

example : ∀ p : Nat, p < 2 → (0 : Int) ≤ (fun p : Nat => (p : Int)) p ∧ (fun p : Nat => (p : Int)) p + 1 < (3 : Nat) := by
  intro p hp; simp only; omega

section XRayAngles
variable {F : Type} [Field F] [LinearOrder F] [IsStrictOrderedRing F]
local instance : HasNat F := ⟨Nat.cast⟩
local instance : Scico.HasAbs F := ⟨abs⟩

/-- "an angle of 0 corresponds to summing rows, π/2 to summing columns": from the index / weight formulas of
    `_calc_weights`, whenever `sin(angle) = 0` the projected position does not depend on the column (resp. on
    the row when `cos(angle) = 0`), and a view whose bins and weights depend on the row (column) only is the
    1-d footprint operator applied to the row (column) sums of the image — for every pixel size, offset and
    detector. -/
theorem C04_xray_rows_cols (g : XGeom F) (n0 n1 : Nat) (I : Nat → Int) (w x : V F) (ny b : Nat) :
    (g.u1 = 0 → ∀ i j, g.px i j = g.px i 0) ∧ (g.u0 = 0 → ∀ i j, g.px i j = g.px 0 j)
    ∧ (∀ (I0 : Nat → Int) (w0 : V F), (∀ i j, i < n0 → j < n1 → I (i * n1 + j) = I0 i) →
        (∀ i j, i < n0 → j < n1 → w (i * n1 + j) = w0 i) →
        xrayProject (n0 * n1) I w x ny b = xrayProject n0 I0 w0 (rowSums n1 x) ny b)
    ∧ (∀ (I1 : Nat → Int) (w1 : V F), (∀ i j, i < n0 → j < n1 → I (i * n1 + j) = I1 j) →
        (∀ i j, i < n0 → j < n1 → w (i * n1 + j) = w1 j) →
        xrayProject (n0 * n1) I w x ny b = xrayProject n1 I1 w1 (colSums n0 n1 x) ny b) :=
  ⟨fun h i j => by simp only [XGeom.px, h, mul_zero, zero_mul, add_zero],
   fun h i j => by simp only [XGeom.px, h, mul_zero, zero_mul, add_zero],
   fun I0 w0 hI hw => xrayProject_rows n0 n1 I w x I0 w0 ny hI hw b,
   fun I1 w1 hI hw => xrayProject_cols n0 n1 I w x I1 w1 ny hI hw b⟩

/-- angle 0 with unit pixels whose edges lie on bin edges (`x0[0] − y0 = d ∈ ℕ`): the view IS the vector of
    row sums placed at bins `d, d+1, …` (`floor` enters only through `floor(z) = z` for integers `z`). -/
theorem C04_xray_angle0 (g : XGeom F) (fl : F → Int) (hfl : ∀ z : Int, fl (z : F) = z) (d n0 n1 ny : Nat)
    (hu0 : g.u0 = 1) (hu1 : g.u1 = 0) (hdx : g.dxa = 1) (hd : g.x0a - g.y0 = d) (x : V F) (b : Nat) (hb : b < ny) :
    xrayProject (n0 * n1) (fun p => g.ind fl (p / n1) (p % n1)) (fun p => g.wt fl (fun z => (z : F)) (p / n1) (p % n1)) x ny b
      = if d ≤ b ∧ b < d + n0 then rowSums n1 x (b - d) else 0 := by
  have hI : ∀ i j, i < n0 → j < n1 → (fun p => g.ind fl (p / n1) (p % n1)) (i * n1 + j) = (d : Int) + i := by
    intro i j _ hj
    simp only [Index.digit_div i hj]
    exact (xray_angle0_weights g fl hfl d hu0 hu1 hdx hd _ _).1
  rw [xrayProject_rows n0 n1 (fun p => g.ind fl (p / n1) (p % n1))
    (fun p => g.wt fl (fun z => (z : F)) (p / n1) (p % n1)) x (fun i => (d : Int) + i) (fun _ => 1) ny hI
    (fun i j _ _ => (xray_angle0_weights g fl hfl d hu0 hu1 hdx hd _ _).2) b]
  exact xrayProject_shift n0 d _ ny b hb

/-- angle π/2 (`u = (0, 1)`), unit pixels along the second axis, aligned edges: the view is the vector of
    column sums placed at bins `d, d+1, …`. -/
theorem C04_xray_angle90 (g : XGeom F) (fl : F → Int) (hfl : ∀ z : Int, fl (z : F) = z) (d n0 n1 ny : Nat)
    (hu0 : g.u0 = 0) (hu1 : g.u1 = 1) (hdx : g.dxb = 1) (hd : g.x0b - g.y0 = d) (x : V F) (b : Nat) (hb : b < ny) :
    xrayProject (n0 * n1) (fun p => g.ind fl (p / n1) (p % n1)) (fun p => g.wt fl (fun z => (z : F)) (p / n1) (p % n1)) x ny b
      = if d ≤ b ∧ b < d + n1 then colSums n0 n1 x (b - d) else 0 := by
  have hI : ∀ i j, i < n0 → j < n1 → (fun p => g.ind fl (p / n1) (p % n1)) (i * n1 + j) = (d : Int) + j := by
    intro i j _ hj
    simp only [Index.digit_mod i hj]
    exact (xray_angle90_weights g fl hfl d hu0 hu1 hdx hd _ _).1
  rw [xrayProject_cols n0 n1 (fun p => g.ind fl (p / n1) (p % n1))
    (fun p => g.wt fl (fun z => (z : F)) (p / n1) (p % n1)) x (fun j => (d : Int) + j) (fun _ => 1) ny hI
    (fun i j _ _ => (xray_angle90_weights g fl hfl d hu0 hu1 hdx hd _ _).2) b]
  exact xrayProject_shift n1 d _ ny b hb

end XRayAngles

-- non-vacuity: the default geometry of a (2,3) image with `dx = 1`, `det_count = 4`: `x0 = (−1, −3/2)`,
-- `y0 = −2`, so `x0[0] − y0 = 1 ∈ ℕ`; over ℚ with `floor` = `Rat.floor`
example : ∀ z : Int, Rat.floor (z : ℚ) = z := fun z => Rat.floor_intCast z

section XRayGeometry
variable {F : Type} [Field F] [LinearOrder F] [IsStrictOrderedRing F]
local instance : HasNat F := ⟨Nat.cast⟩
local instance : Scico.HasAbs F := ⟨abs⟩

/-- the weight of the first bin lies in `(0, 1]` (so `w, 1 − w` is a convex split of the pixel value) for every
    geometry with a footprint of positive width; `floor` enters through `floor z ≤ z < floor z + 1`. -/
theorem C04_xray_weight_range (g : XGeom F) (fl : F → Int) (hfl : FloorContract fl) (hw : 0 < g.width) (i j : Nat) :
    0 < g.wt fl (fun z => (z : F)) i j ∧ g.wt fl (fun z => (z : F)) i j ≤ 1 := by
  obtain ⟨_, h2⟩ := hfl (g.px i j)
  have hd0 : 0 < (1 : F) - (g.px i j - ((fl (g.px i j) : Int) : F)) := sub_pos.mpr (sub_lt_iff_lt_add'.mpr h2)
  unfold XGeom.wt
  simp only [HasNat.nat, Nat.cast_one]
  constructor
  · exact div_pos (lt_min hd0 hw) hw
  · rw [div_le_one hw]; exact min_le_right _ _

/-- mass conservation stated on the GEOMETRY: if the detector covers the shadow of the object in a view
    (`0 ≤ Px[i,j]` and `Px[i,j] + 1 < ny` for every pixel, `Px` from the `_calc_weights` formula), the view of
    `XRayTransform2D` conserves the total mass — for every image, pixel size, offset and angle. -/
theorem C04_xray_mass_geometry (g : XGeom F) (fl : F → Int) (hfl : FloorContract fl) (n0 n1 ny : Nat) (x : V F)
    (hcov : ∀ i j, i < n0 → j < n1 → 0 ≤ g.px i j ∧ g.px i j + 1 < (ny : F)) :
    sumTo ny (xrayProject (n0 * n1) (fun p => g.ind fl (p / n1) (p % n1))
        (fun p => g.wt fl (fun z => (z : F)) (p / n1) (p % n1)) x ny) = sumTo (n0 * n1) x := by
  refine C04_xray_mass _ _ _ x ny (fun p hp => ?_)
  obtain ⟨a, b⟩ := hcov _ _ (Index.div_lt_of_lt_mul hp) (Index.mod_lt_of_lt_mul hp)
  exact xray_ind_on_detector g fl hfl ny _ _ a b

end XRayGeometry

-- non-vacuity: `Rat.floor` satisfies the floor contract
example : FloorContract (K := ℚ) Rat.floor := fun z => ⟨Rat.le_floor_iff.mp (Int.le_refl _), by
  by_contra h
  have h' : ((Rat.floor z + 1 : Int) : ℚ) ≤ z := by push_cast; exact not_lt.mp h
  have := Rat.le_floor_iff.mpr h'
  omega⟩

section X3
variable {F : Type} [Field F] [LinearOrder F] [IsStrictOrderedRing F]

/-- split of a voxel footprint `[le, le + w]` between its first bin `floor(le)` and the next one, as coded
    (`to_next = minimum(floor(le) + 1 − le, w)`): for EVERY left edge the first share is the length of the overlap of
    the footprint with the first bin, positive and at most `w` (the complement `w − share` goes to the next bin; the
    four pixel weights are products of two such splits divided by `w²`). -/
theorem C04_xray3d_split (fl : F → Int) (hfl : FloorContract fl) (w le : F) (hw : 0 < w) :
    x3ToNext fl (fun z => (z : F)) 1 w le = x3Overlap fl (fun z => (z : F)) 1 w le
    ∧ 0 < x3ToNext fl (fun z => (z : F)) 1 w le ∧ x3ToNext fl (fun z => (z : F)) 1 w le ≤ w := by
  unfold x3ToNext x3Overlap
  exact ⟨by rw [← min_sub_sub_right, add_sub_cancel_left], lt_min (sub_pos.mpr (hfl le).2) hw, min_le_right _ _⟩

/-- `x3ToNextCeil` is the form of /repo before 883e83f, `minimum(ceil(le) − le, w)`: it
    agrees with the overlap off the bin edges, but ON a bin edge `z` it gives the first bin the share `0` — the whole
    footprint `[z, z + w] ⊂ [z, z + 1]` is credited to bin `z + 1` — where the overlap is `w`. -/
theorem C04_xray3d_ceil_form (fl cl : F → Int) (hfl : FloorContract fl) (hcl : CeilContract cl) (w : F) (hw : 0 < w)
    (hw1 : w ≤ 1) :
    (∀ le : F, ((fl le : Int) : F) < le → x3ToNextCeil cl (fun z => (z : F)) w le = x3ToNext fl (fun z => (z : F)) 1 w le)
    ∧ (∀ z : Int, x3ToNextCeil cl (fun z => (z : F)) w (z : F) = 0 ∧ x3ToNext fl (fun z => (z : F)) 1 w (z : F) = w) := by
  refine ⟨fun le hne => ?_, fun z => ?_⟩
  · have e : cl le = fl le + 1 :=
      le_antisymm (hcl.le_of_le (by push_cast; exact (hfl le).2.le)) (hcl.lt_of_lt hne)
    unfold x3ToNextCeil x3ToNext
    rw [e]; push_cast; rfl
  · have ef : fl (z : F) = z :=
      le_antisymm (Int.lt_add_one_iff.mp (hfl.lt_of_lt (Int.cast_lt.mpr (Int.lt_succ z)))) (hfl.le_of_le le_rfl)
    have ec : cl (z : F) = z :=
      le_antisymm (hcl.le_of_le le_rfl) (Int.sub_one_lt_iff.mp (hcl.lt_of_lt (Int.cast_lt.mpr (sub_one_lt z))))
    unfold x3ToNextCeil x3ToNext
    rw [ef, ec]
    exact ⟨by rw [sub_self, min_eq_left hw.le], by rw [add_sub_cancel_left, min_eq_right hw1]⟩

end X3

example : CeilContract (K := ℚ) Rat.ceil := fun z => by
  constructor
  · have h : ¬ Rat.ceil z ≤ Rat.ceil z - 1 := by omega
    rw [Rat.ceil_le_iff] at h
    push_cast at h
    exact not_le.mp h
  · exact Rat.ceil_le_iff.mp (Int.le_refl _)

/-- `XRayTransform3D._project_single`: the four scatter-adds (weights `t0·t1/w²`, `(w−t0)·t1/w²`, `t0·(w−t1)/w²`,
    `(w−t0)·(w−t1)/w²`, each update dropped on its own when its pixel is off the detector) realise the documented matrix:
    detector pixel `(r, c)` receives the product of the two 1-d fractions of the footprint (area fraction of the square). -/
theorem C04_xray3d_scatter {F : Type} [Field F] (nv : Nat) (I0 I1 : Nat → Int) (t0 t1 : V F) (w : F) (x : V F)
    (d0 d1 : Nat) (q : Nat) (hq : q < d0 * d1) :
    xray3Project nv I0 I1 t0 t1 w x d0 d1 q = mulVec (xray3Matrix I0 I1 t0 t1 w d1) nv x q :=
  xray3_eq_mulVec nv I0 I1 t0 t1 w x d0 d1 q hq

section Cover
variable {F : Type} [Field F] [LinearOrder F] [IsStrictOrderedRing F]
local instance : HasNat F := ⟨Nat.cast⟩
local instance : Scico.HasAbs F := ⟨abs⟩

/-- "X-ray transforms conserve total mass in every view whenever the detector covers the object's shadow", 3-D, from the
    geometry: if every voxel footprint (the square of side `w` with left edges `le0 p`, `le1 p` — centres from the
    projection matrices, a contract) lies on the detector `[0, d0] × [0, d1]`, then `Σ_pixels y = Σ_voxels x`.  Indices
    and shares are those `_calc_weights` computes (`floor`, `x3ToNext`); a pixel just past the detector edge is harmless
    because its share is exactly 0. -/
theorem C04_xray3d_mass (fl : F → Int) (hfl : FloorContract fl) (w : F) (hw : 0 < w) (nv : Nat) (le0 le1 : V F)
    (x : V F) (d0 d1 : Nat)
    (hc0 : ∀ p, p < nv → 0 ≤ le0 p ∧ le0 p + w ≤ (d0 : F)) (hc1 : ∀ p, p < nv → 0 ≤ le1 p ∧ le1 p + w ≤ (d1 : F)) :
    sumTo (d0 * d1) (xray3Project nv (fun p => fl (le0 p)) (fun p => fl (le1 p))
        (fun p => x3ToNext fl (fun z => (z : F)) 1 w (le0 p)) (fun p => x3ToNext fl (fun z => (z : F)) 1 w (le1 p)) w x d0 d1)
      = sumTo nv x :=
  xray3_mass nv _ _ _ _ w hw.ne' x d0 d1
    (fun p hp => floor_cover fl hfl w (le0 p) hw d0 (hc0 p hp).1 (hc0 p hp).2)
    (fun p hp => floor_cover fl hfl w (le1 p) hw d1 (hc1 p hp).1 (hc1 p hp).2)

/-- the same for `XRayTransform2D` with the covering hypothesis in its exact form, `0 ≤ Px` and `Px + width ≤ ny` for every pixel
    (weaker than the `Px + 1 < ny` of `C04_xray_mass_geometry`: the boxcar may end exactly at the detector edge). -/
theorem C04_xray_mass_covered (g : XGeom F) (fl : F → Int) (hfl : FloorContract fl) (hw : 0 < g.width)
    (n0 n1 ny : Nat) (x : V F)
    (hcov : ∀ i j, i < n0 → j < n1 → 0 ≤ g.px i j ∧ g.px i j + g.width ≤ (ny : F)) :
    sumTo ny (xrayProject (n0 * n1) (fun p => g.ind fl (p / n1) (p % n1))
        (fun p => g.wt fl (fun z => (z : F)) (p / n1) (p % n1)) x ny) = sumTo (n0 * n1) x := by
  refine xray_mass_covered _ _ _ x ny (fun p hp => ?_)
  obtain ⟨a, b⟩ := hcov _ _ (Index.div_lt_of_lt_mul hp) (Index.mod_lt_of_lt_mul hp)
  exact xray2_cover g fl hfl hw ny _ _ a b

end Cover

-- a voxel whose footprint [1, 3/2]² ends inside pixel (1,1) of a (2,2) detector: all of it arrives there
example : (List.range 4).map (xray3Project (α := ℚ) 1 (fun _ => 1) (fun _ => 1) (fun _ => 1 / 2) (fun _ => 1 / 2) (1 / 2)
    (fun _ => 3) 2 2) = [0, 0, 0, 3] := by decide +kernel

/-- `XRayTransform3D.matrices_from_euler_angles` (assembly around scipy's rotation matrix `R`, a contract): with
    `M = diag(1/det_spacing)·R[:2,:]·diag(voxel_spacing)` and `t = −M·(input_shape/2) + output_shape/2` the centre of the
    volume is projected to the centre of the detector for EVERY rotation and spacing ("line up the centers"), and for the
    identity rotation with unit spacings voxel coordinates are only translated. -/
theorem C04_xray3d_euler_centre {F : Type} [Field F] (R : M F) (vs ds halfIn halfOut x : V F) (i : Nat) :
    eulerProject R vs ds halfIn halfOut halfIn i = halfOut i
    ∧ (i < 2 → eulerProject (fun a b => if a = b then (1 : F) else 0) (fun _ => 1) (fun _ => 1) halfIn halfOut x i
        = x i - halfIn i + halfOut i) := by
  refine ⟨by unfold eulerProject eulerT; ring, fun hi => ?_⟩
  have e : ∀ y : V F, sumTo 3 (fun j => (if i = j then (1 : F) else 0) * 1 / 1 * y j) = y i := fun y => by
    rw [sumTo_single 3 i _ (fun j _ hne => by rw [if_neg (Ne.symm hne), zero_mul, zero_div, zero_mul]),
      if_pos (by omega), if_pos rfl, mul_one, div_one, one_mul]
  unfold eulerProject eulerT eulerM
  rw [e, e]; ring

example : eulerProject (α := ℚ) (fun a b => if a = b then 1 else 0) (fun _ => 1 / 2) (fun _ => 2) (fun _ => 1) (fun _ => 3)
    (fun _ => 5) 0 = 4 := by decide +kernel

/-- `AbelTransform._eval` = `_pyabel_transform(x, "forward", P)`: extracting the four quadrants (flipped to the
    orientation of the upper right one), multiplying each by the single-quadrant matrix `P` (`Q.dot(P)`; `P` itself —
    PyAbel's Daun basis projection — is a contract), trimming the duplicated centre row / column of odd sizes and
    reassembling, is `I_n ⊗ T`: every image row is transformed on its own by `T = abelRowMatrix P m mc` (`P` on the right
    half, mirrored on the left half).  Every `n`, `m ≥ 1`, every `P`; the same holds for `"transpose"` (`P.T`) and for any
    other matrix in place of `P`. -/
theorem C04_abel_rows (P : M K) (n m nc mc : Nat) (hm0 : 0 < m) (hmc : mc ≤ m) (x : V K) (p : Nat) (hp : p < n * m) :
    abelEval P n m nc mc x p = mulVec (kronAxis m m 1 (abelRowMatrix P m mc)) (n * m * 1) x p := by
  rw [abelEval_row P n m nc mc hmc x p hp, ← alongAxis_mulVec n m m 1 _ x p (by simpa using hp)]
  unfold alongAxis mulVec
  simp only [sumTo_eq_sum, Nat.mul_one, Nat.div_one, Nat.mod_one, Nat.add_zero]

/-- "the input image is assumed to be centered and left-right symmetric": for an even number of columns the row
    matrix commutes with the left-right flip, so a symmetric image has a symmetric transform. -/
theorem C04_abel_mirror (P : M K) (mc c c' : Nat) (hc : c < 2 * mc) (hc' : c' < 2 * mc) :
    abelRowMatrix P (2 * mc) mc (2 * mc - 1 - c) (2 * mc - 1 - c') = abelRowMatrix P (2 * mc) mc c c' :=
  abelRowMatrix_mirror P mc c c' hc hc'

-- a 1×3 image (odd width, mc = 2) with P = [[1,2],[0,3]]: the centre column is taken from the right half
example : (List.range 3).map (abelEval (α := Int) (fun i j => [[1, 2], [0, 3]].getD i [] |>.getD j 0) 1 3 1 2
    (fun j => [5, 7, 11].getD j 0)) = [29, 7, 47] := by decide +kernel

end Scico.Props.C04
