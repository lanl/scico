/-
  Property C17 — norm estimates and parameter estimators satisfy their documented inequalities.

  Power iteration is reasoned about on an arbitrary real inner-product space (`ℝⁿ`, `ℂⁿ` with
  `Re⟨·,·⟩`, block arrays), the operator being any bounded linear map, and on a complex one for the
  complex Rayleigh quotient; the closed-form norms on `Fin n → ℝ` for every `n`; the estimators over `ℝ`
  for a positive norm estimate and over the IEEE-extended reals `XR ℝ` at the estimate `0`; last, the tables
  the translator reads from the source against the model functions.
-/
import Scico.Proofs.EstimNorms
import Scico.Proofs.EstimConvergence
import Scico.Proofs.EstimParameters
import Scico.Proofs.EstimSource
import Mathlib.Analysis.InnerProductSpace.Adjoint
import Mathlib.Analysis.InnerProductSpace.Spectrum

namespace Scico.Props.C17
open Scico.Estim

section power

variable {E F : Type} [NormedAddCommGroup E] [InnerProductSpace ℝ E]
  [NormedAddCommGroup F] [InnerProductSpace ℝ F]

/-- Every eigenvalue estimate `power_iteration` returns for a bounded operator `B` — for every
    iteration budget and every non-zero start — is at most `‖B‖`. -/
theorem C17_rayleigh_le_opNorm (B : E →L[ℝ] E) (maxiter : Nat) (v0 : E) (hv0 : v0 ≠ 0) (mu : ℝ) (v : E)
    (h : powerIteration (opsOf B) maxiter v0 = .ok (mu, v)) : mu ≤ ‖B‖ :=
  powerIteration_pred B (· ≤ ‖B‖) (norm_nonneg _) (fun w hw => (le_abs_self _).trans (abs_rq_le_opNorm B w hw)) hv0 h

/-- … and two-sided: for *any* bounded operator (not necessarily symmetric or positive — `power_iteration` accepts every
    `LinearOperator`) the estimate satisfies `|mu| ≤ ‖B‖`. -/
theorem C17_rayleigh_abs_le_opNorm (B : E →L[ℝ] E) (maxiter : Nat) (v0 : E) (hv0 : v0 ≠ 0) (mu : ℝ) (v : E)
    (h : powerIteration (opsOf B) maxiter v0 = .ok (mu, v)) : |mu| ≤ ‖B‖ :=
  powerIteration_pred B (fun m => |m| ≤ ‖B‖) (abs_zero.trans_le (norm_nonneg _)) (abs_rq_le_opNorm B) hv0 h

/-- For a Gram operator `B = AᴴA` (what `operator_norm` iterates) every estimate lies in `[0, ‖A‖²]`. -/
theorem C17_rayleigh_le (B : E →L[ℝ] E) (A : E →L[ℝ] F) (hG : IsGram B A) (maxiter : Nat) (v0 : E)
    (hv0 : v0 ≠ 0) (mu : ℝ) (v : E) (h : powerIteration (opsOf B) maxiter v0 = .ok (mu, v)) :
    0 ≤ mu ∧ mu ≤ ‖A‖ ^ 2 :=
  powerIteration_pred B (fun m => 0 ≤ m ∧ m ≤ ‖A‖ ^ 2) ⟨le_rfl, sq_nonneg _⟩
    (fun w hw => ⟨hG.rq_nonneg w, hG.rq_le w hw⟩) hv0 h

/-- `operator_norm(A) ≤ ‖A‖₂` for every budget and every non-zero start. -/
theorem C17_opnorm_le (B : E →L[ℝ] E) (A : E →L[ℝ] F) (hG : IsGram B A) (maxiter : Nat) (v0 : E)
    (hv0 : v0 ≠ 0) (c : ℝ) (h : operatorNorm (opsOf B) maxiter v0 = .ok c) : 0 ≤ c ∧ c ≤ ‖A‖ := by
  obtain ⟨mu, v, hp, rfl⟩ := operatorNorm_ok _ _ _ _ h
  exact ⟨Real.sqrt_nonneg _,
    (Real.sqrt_le_sqrt (C17_rayleigh_le B A hG maxiter v0 hv0 mu v hp).2).trans_eq (Real.sqrt_sq (norm_nonneg _))⟩

/-- with complete spaces `A.H @ A` (adjoint composed with `A`) is such a Gram operator -/
theorem C17_gram_adjoint [CompleteSpace E] [CompleteSpace F] (A : E →L[ℝ] F) :
    IsGram ((ContinuousLinearMap.adjoint A).comp A) A :=
  fun x y => ContinuousLinearMap.adjoint_inner_left A y (A x)

/-- The estimates are non-decreasing in the iteration budget (Gram operator, same start):
    the estimate with budget `k+1` never exceeds the one with budget `k+2`. -/
theorem C17_rayleigh_mono (B : E →L[ℝ] E) (A : E →L[ℝ] F) (hG : IsGram B A) (k : Nat) (v0 : E)
    (hv0 : v0 ≠ 0) (m m' : ℝ) (v v' : E)
    (h : powerIteration (opsOf B) (k + 1) v0 = .ok (m, v))
    (h' : powerIteration (opsOf B) (k + 2) v0 = .ok (m', v')) : m ≤ m' := by
  have hm : (powerLoop (opsOf B) (k + 1) none (‖v0‖⁻¹ • v0)).1 = some m :=
    congrArg Prod.fst (powerIteration_eq_ok.1 h).2
  have hm' : (powerLoop (opsOf B) (k + 2) none (‖v0‖⁻¹ • v0)).1 = some m' :=
    congrArg Prod.fst (powerIteration_eq_ok.1 h').2
  -- both runs take the zero exit at the first iteration, or neither ever takes it
  by_cases hBv : B (‖v0‖⁻¹ • v0) = 0
  · rw [powerLoop_succ_zero B _ none _ hBv] at hm hm'
    exact ((Option.some.inj hm).symm.trans (Option.some.inj hm')).le
  · rw [hG.powerLoop_run _ none _ hBv] at hm hm'
    exact Option.some.inj hm ▸ Option.some.inj hm' ▸ hG.rq_iterate_mono k _ (normalize_ne_zero v0 hv0) hBv

/-- hence `operator_norm` is non-decreasing in the budget too -/
theorem C17_opnorm_mono (B : E →L[ℝ] E) (A : E →L[ℝ] F) (hG : IsGram B A) (k : Nat) (v0 : E)
    (hv0 : v0 ≠ 0) (c c' : ℝ) (h : operatorNorm (opsOf B) (k + 1) v0 = .ok c)
    (h' : operatorNorm (opsOf B) (k + 2) v0 = .ok c') : c ≤ c' := by
  obtain ⟨mu, v, hp, rfl⟩ := operatorNorm_ok _ _ _ _ h
  obtain ⟨mu', v', hp', rfl⟩ := operatorNorm_ok _ _ _ _ h'
  exact Real.sqrt_le_sqrt (C17_rayleigh_mono B A hG k v0 hv0 mu mu' v v' hp hp')

/-- Scale equivariance: for every `s > 0`, however small or large, the estimate for `s • B` is `s` times the
    estimate for `B` (same start, same budget) — only an operator that maps the iterate to exactly `0` takes the
    zero exit.  (`v0 ≠ 0` is not used by the proof: it is the guard of the normalisation `v0 / ‖v0‖`, which the code turns
    into NaN for a zero start; see `C17_zero_exact`.) -/
theorem C17_scale (B : E →L[ℝ] E) (s : ℝ) (hs : 0 < s) (maxiter : Nat) (v0 : E) (_hv0 : v0 ≠ 0) (m m' : ℝ) (v v' : E)
    (h : powerIteration (opsOf B) maxiter v0 = .ok (m, v))
    (h' : powerIteration (opsOf (s • B)) maxiter v0 = .ok (m', v')) : m' = s * m := by
  have hp : powerLoop (opsOf B) maxiter none (‖v0‖⁻¹ • v0) = (some m, v) := (powerIteration_eq_ok.1 h).2
  have hp' : powerLoop (opsOf (s • B)) maxiter none (‖v0‖⁻¹ • v0) = (some m', v') := (powerIteration_eq_ok.1 h').2
  have := powerLoop_smul_op B s hs maxiter none (‖v0‖⁻¹ • v0)
  rw [Option.map_none, hp, hp'] at this
  exact Option.some.inj this

/-- hence `operator_norm(c·A) = |c|·operator_norm(A)` for `c ≠ 0` (Gram operator `c²·B`) -/
theorem C17_opnorm_scale (B : E →L[ℝ] E) (c : ℝ) (hc : c ≠ 0) (maxiter : Nat) (v0 : E) (hv0 : v0 ≠ 0) (n n' : ℝ)
    (h : operatorNorm (opsOf B) maxiter v0 = .ok n)
    (h' : operatorNorm (opsOf ((c ^ 2) • B)) maxiter v0 = .ok n') : n' = |c| * n := by
  obtain ⟨mu, v, hp, rfl⟩ := operatorNorm_ok _ _ _ _ h
  obtain ⟨mu', v', hp', rfl⟩ := operatorNorm_ok _ _ _ _ h'
  rw [C17_scale B (c ^ 2) (sq_pos_iff.2 hc) maxiter v0 hv0 mu mu' v v' hp hp', Real.sqrt_mul (sq_nonneg c),
    Real.sqrt_sq_eq_abs]

/-- The zero operator: the estimate is exactly `0` (and the returned vector `0`) for every budget ≥ 1.
    (`v0 ≠ 0` is the guard of the normalisation `v0 / ‖v0‖`: over `ℝ` the model totalises `0/0 = 0`, whereas the
    code would produce NaN for a zero start — the proof does not need the guard, the *reading* of the theorem does.) -/
theorem C17_zero_exact (k : Nat) (v0 : E) (_hv0 : v0 ≠ 0) :
    powerIteration (opsOf (0 : E →L[ℝ] E)) (k + 1) v0 = .ok (0, 0) ∧
    operatorNorm (opsOf (0 : E →L[ℝ] E)) (k + 1) v0 = .ok 0 := by
  have hp : powerIteration (opsOf (0 : E →L[ℝ] E)) (k + 1) v0 = .ok (0, 0) :=
    powerIteration_eq_ok.2 ⟨k.succ_pos, powerLoop_succ_zero 0 k none _ rfl⟩
  refine ⟨hp, ?_⟩
  unfold operatorNorm
  rw [hp]
  exact congrArg Except.ok Real.sqrt_zero

/-- `maxiter < 1` is rejected (`ValueError`), and any budget ≥ 1 yields an estimate -/
theorem C17_budget (B : E →L[ℝ] E) (maxiter : Nat) (v0 : E) :
    (maxiter = 0 → powerIteration (opsOf B) maxiter v0 = .error "value") ∧
    (1 ≤ maxiter → ∃ mu v, powerIteration (opsOf B) maxiter v0 = .ok (mu, v)) := by
  constructor
  · rintro rfl; rfl
  · intro h
    obtain ⟨k, rfl⟩ := Nat.exists_eq_succ_of_ne_zero (Nat.pos_iff_ne_zero.1 h)
    obtain ⟨m, w, hm⟩ := powerLoop_isSome (opsOf B) k none ((opsOf B).sdiv v0 ((opsOf B).norm v0))
    exact ⟨m, w, powerIteration_eq_ok.2 ⟨h, hm⟩⟩

section converge

variable {ι : Type} [Fintype ι] [DecidableEq ι]

/-- **Geometric convergence of `power_iteration`.**  `B` diagonal in an orthonormal basis `b` with eigenvalues `lam`;
    the largest eigenvalue `lam1 > 0` is attained on the index set `D` (multiplicity allowed — e.g. a complex operator
    seen as a real one) and separated from the rest (`Dominant lam D lam1 r`: all others in `[0, r·lam1]`, `r ≤ 1`); the
    random start has a non-zero component `P v0` in the dominant eigenspace (`Σ_{i∈D} ⟨b i,v0⟩² > 0`).  Then the estimate
    returned with budget `k+1` satisfies

        lam1 · (1 − r^(2k) · ‖v0 − P v0‖² / ‖P v0‖²)  ≤  mu  ≤  lam1 . -/
theorem C17_power_converges_rate (B : E →L[ℝ] E) (b : OrthonormalBasis ι ℝ E) (lam : ι → ℝ)
    (hB : IsDiagIn B b lam) (D : Finset ι) (lam1 r : ℝ) (hd : Dominant lam D lam1 r) (v0 : E)
    (hc0 : 0 < ∑ i ∈ D, inner ℝ (b i) v0 ^ 2)
    (k : Nat) (mu : ℝ) (v : E) (h : powerIteration (opsOf B) (k + 1) v0 = .ok (mu, v)) :
    mu ≤ lam1 ∧
      lam1 - lam1 * (r ^ (2 * k) * ((‖v0‖ ^ 2 - ∑ i ∈ D, inner ℝ (b i) v0 ^ 2) / ∑ i ∈ D, inner ℝ (b i) v0 ^ 2)) ≤ mu :=
  ⟨(powerIteration_gap hB hd v0 hc0 k mu v h).1, (powerIteration_gap hB hd v0 hc0 k mu v h).2.1⟩

/-- The vector `power_iteration` returns ("eigenvector with eigenvalue `mu`" in the docstring) under the same hypotheses:
    it has unit length, and its squared distance from the dominant eigenspace, `‖v‖² − Σ_{i∈D}⟨b i,v⟩²`, is at most
    `r^(2(k+1))·‖v0 − P v0‖²/‖P v0‖²` — it converges to the top eigenspace at the same geometric rate. -/
theorem C17_power_vector_converges (B : E →L[ℝ] E) (b : OrthonormalBasis ι ℝ E) (lam : ι → ℝ)
    (hB : IsDiagIn B b lam) (D : Finset ι) (lam1 r : ℝ) (hd : Dominant lam D lam1 r) (v0 : E)
    (hc0 : 0 < ∑ i ∈ D, inner ℝ (b i) v0 ^ 2)
    (k : Nat) (mu : ℝ) (v : E) (h : powerIteration (opsOf B) (k + 1) v0 = .ok (mu, v)) :
    ‖v‖ = 1 ∧
      ‖v‖ ^ 2 - ∑ i ∈ D, inner ℝ (b i) v ^ 2 ≤
        r ^ (2 * (k + 1)) * ((‖v0‖ ^ 2 - ∑ i ∈ D, inner ℝ (b i) v0 ^ 2) / ∑ i ∈ D, inner ℝ (b i) v0 ^ 2) :=
  (powerIteration_gap hB hd v0 hc0 k mu v h).2.2

/-- the case of a simple largest eigenvalue (`D = {i0}`): the start must not be orthogonal to the top eigenvector -/
theorem C17_power_converges_rate_simple (B : E →L[ℝ] E) (b : OrthonormalBasis ι ℝ E) (lam : ι → ℝ)
    (hB : IsDiagIn B b lam) (i0 : ι) (r : ℝ) (hd : Dominant lam {i0} (lam i0) r) (v0 : E)
    (hc0 : inner ℝ (b i0) v0 ≠ 0)
    (k : Nat) (mu : ℝ) (v : E) (h : powerIteration (opsOf B) (k + 1) v0 = .ok (mu, v)) :
    mu ≤ lam i0 ∧
      lam i0 - lam i0 * (r ^ (2 * k) * ((‖v0‖ ^ 2 - inner ℝ (b i0) v0 ^ 2) / inner ℝ (b i0) v0 ^ 2)) ≤ mu := by
  have := C17_power_converges_rate B b lam hB {i0} (lam i0) r hd v0
    (by rw [Finset.sum_singleton]; positivity) k mu v h
  simpa only [Finset.sum_singleton] using this

/-- hence, when the gap is strict (`r < 1`), the estimates converge to the largest eigenvalue as the budget grows -/
theorem C17_power_converges (B : E →L[ℝ] E) (b : OrthonormalBasis ι ℝ E) (lam : ι → ℝ)
    (hB : IsDiagIn B b lam) (D : Finset ι) (lam1 r : ℝ) (hd : Dominant lam D lam1 r) (hr : r < 1) (v0 : E)
    (hc0 : 0 < ∑ i ∈ D, inner ℝ (b i) v0 ^ 2) (mu : ℕ → ℝ)
    (h : ∀ k, ∃ v, powerIteration (opsOf B) (k + 1) v0 = .ok (mu k, v)) :
    Filter.Tendsto mu Filter.atTop (nhds lam1) := by
  choose v hv using h
  exact tendsto_of_geometric_gap hd.r_nonneg hr fun k =>
    C17_power_converges_rate B b lam hB D lam1 r hd v0 hc0 k (mu k) (v k) (hv k)

/-- **`operator_norm` converges to the induced 2-norm.**  `B = AᴴA` (Gram operator) diagonal in an orthonormal
    basis, largest eigenvalue `lam1 > 0` attained on `D ≠ ∅` and separated from the rest (`lam i ≤ r·lam1`, `r < 1`, for
    `i ∉ D`), start with a non-zero component in the dominant eigenspace.  Then `lam1 = ‖A‖²` (`σ_max(A)²`), every
    estimate `c k` (budget `k+1`) satisfies `‖A‖²(1 − r^(2k)·C) ≤ (c k)² ≤ ‖A‖²`, and `c k → ‖A‖`. -/
theorem C17_opnorm_converges (B : E →L[ℝ] E) (A : E →L[ℝ] F) (hG : IsGram B A) (b : OrthonormalBasis ι ℝ E)
    (lam : ι → ℝ) (hB : IsDiagIn B b lam) (D : Finset ι) (lam1 : ℝ) (hpos : 0 < lam1) (htop : ∀ i, i ∈ D → lam i = lam1)
    (r : ℝ) (hr0 : 0 ≤ r) (hr : r < 1) (hgap : ∀ i, i ∉ D → lam i ≤ r * lam1) (v0 : E)
    (hc0 : 0 < ∑ i ∈ D, inner ℝ (b i) v0 ^ 2) (c : ℕ → ℝ)
    (h : ∀ k, operatorNorm (opsOf B) (k + 1) v0 = .ok (c k)) :
    lam1 = ‖A‖ ^ 2 ∧
    (∀ k, c k ^ 2 ≤ ‖A‖ ^ 2 ∧
      ‖A‖ ^ 2 - ‖A‖ ^ 2 * (r ^ (2 * k) * ((‖v0‖ ^ 2 - ∑ i ∈ D, inner ℝ (b i) v0 ^ 2) / ∑ i ∈ D, inner ℝ (b i) v0 ^ 2)) ≤ c k ^ 2) ∧
    Filter.Tendsto c Filter.atTop (nhds ‖A‖) := by
  have hd : Dominant lam D lam1 r := hG.dominant hB hpos hr0 hr.le htop hgap
  have gap := fun k => hG.operatorNorm_gap hB hd v0 hc0 k (c k) (h k)
  refine ⟨hG.top_eq_opNorm_sq hB hd (Finset.nonempty_of_sum_ne_zero hc0.ne'), fun k => (gap k).2, ?_⟩
  -- `(c k)² → ‖A‖²` by the squeeze, and `c k = √((c k)²)`
  have ht : Filter.Tendsto (fun k => c k ^ 2) Filter.atTop (nhds (‖A‖ ^ 2)) :=
    tendsto_of_geometric_gap hr0 hr fun k => (gap k).2
  have := (Real.continuous_sqrt.tendsto _).comp ht
  rw [Real.sqrt_sq (norm_nonneg _)] at this
  exact this.congr fun k => Real.sqrt_sq (gap k).1

/-- a Gram operator is symmetric -/
theorem C17_gram_symmetric (B : E →L[ℝ] E) (A : E →L[ℝ] F) (hG : IsGram B A) :
    (B : E →ₗ[ℝ] E).IsSymmetric := by
  intro x y
  show inner ℝ (B x) y = inner ℝ x (B y)
  rw [hG x y, real_inner_comm (B y) x, hG y x, real_inner_comm]

/-- The eigenbasis need not be supplied: on a finite-dimensional space every Gram operator is symmetric
    (`C17_gram_symmetric`) and Mathlib's spectral theorem provides eigenvalues `ev 0 ≥ ev 1 ≥ …` with an orthonormal
    eigenbasis.  If the largest one is positive and separated from the *different* ones (`ev i ≠ ev 0 → ev i ≤ r·ev 0`,
    `r < 1`; the largest may be repeated) and the start is not orthogonal to the top eigenspace, `operator_norm`
    converges to `‖A‖`. -/
theorem C17_opnorm_converges_spectral [FiniteDimensional ℝ E] {n : Nat} (hn : Module.finrank ℝ E = n + 1)
    (B : E →L[ℝ] E) (A : E →L[ℝ] F) (hG : IsGram B A) (hS : (B : E →ₗ[ℝ] E).IsSymmetric)
    (hpos : 0 < hS.eigenvalues hn 0) (r : ℝ) (hr0 : 0 ≤ r) (hr : r < 1)
    (hgap : ∀ i, hS.eigenvalues hn i ≠ hS.eigenvalues hn 0 → hS.eigenvalues hn i ≤ r * hS.eigenvalues hn 0) (v0 : E)
    (hc0 : ∃ i, hS.eigenvalues hn i = hS.eigenvalues hn 0 ∧ inner ℝ (hS.eigenvectorBasis hn i) v0 ≠ 0) (c : ℕ → ℝ)
    (h : ∀ k, operatorNorm (opsOf B) (k + 1) v0 = .ok (c k)) :
    Filter.Tendsto c Filter.atTop (nhds ‖A‖) := by
  classical
  have hB : IsDiagIn B (hS.eigenvectorBasis hn) (hS.eigenvalues hn) := fun i => by
    simpa only [ContinuousLinearMap.coe_coe, RCLike.ofReal_real_eq_id, id_eq] using hS.apply_eigenvectorBasis hn i
  -- the dominant index set: all `i` with `ev i = ev 0`
  have hmem : ∀ i, i ∈ Finset.univ.filter (fun i => hS.eigenvalues hn i = hS.eigenvalues hn 0) ↔
      hS.eigenvalues hn i = hS.eigenvalues hn 0 := fun i => by
    rw [Finset.mem_filter]; exact and_iff_right (Finset.mem_univ i)
  obtain ⟨i1, hi1, hne⟩ := hc0
  have hstart := (sq_pos_iff.2 hne).trans_le
    (Finset.single_le_sum (f := fun i => inner ℝ (hS.eigenvectorBasis hn i) v0 ^ 2) (fun i _ => sq_nonneg _)
      ((hmem i1).2 hi1))
  exact (C17_opnorm_converges B A hG (hS.eigenvectorBasis hn) (hS.eigenvalues hn) hB _ (hS.eigenvalues hn 0) hpos
    (fun i hi => (hmem i).1 hi) r hr0 hr (fun i hi => hgap i (fun he => hi ((hmem i).2 he))) v0 hstart c h).2.2

end converge

end power

section complexpower

variable {Ec : Type} [NormedAddCommGroup Ec] [InnerProductSpace ℂ Ec]

/-- **Complex operators.**  On a complex inner-product space (`ℂⁿ`, `⟨v,w⟩ = Σ conj(vᵢ)wᵢ`) the value `mu` that `power_iteration`
    returns for a bounded ℂ-linear operator `B` — any budget, any non-zero start, `B` not necessarily Hermitian or normal — is a
    complex number with `|mu| ≤ ‖B‖`; it is real when `B` is Hermitian (so `operator_norm` loses nothing by taking `.real` of the
    estimate for `AᴴA`); the zero operator gives exactly `(0, 0)`; `maxiter = 0` is rejected. -/
theorem C17_power_complex (B : Ec →L[ℂ] Ec) (maxiter : Nat) (v0 : Ec) (hv0 : v0 ≠ 0) (mu : ℂ) (v : Ec)
    (h : powerIterationC (opsOfC B) maxiter v0 = .ok (mu, v)) :
    ‖mu‖ ≤ ‖B‖ ∧ ((∀ x y, inner ℂ (B x) y = inner ℂ x (B y)) → mu.im = 0) :=
  ⟨powerIterationC_pred B (fun m => ‖m‖ ≤ ‖B‖) (norm_zero.trans_le (norm_nonneg _)) (norm_rqC_le B) hv0 h,
    fun hB => powerIterationC_pred B (fun m => m.im = 0) Complex.zero_im (fun w _ => rqC_im_eq_zero B hB w) hv0 h⟩

/-- the zero operator gives exactly `(0, 0)` for every budget ≥ 1 (`_hv0`: guard as in `C17_zero_exact`), and `maxiter = 0` raises
    the `ValueError` -/
theorem C17_power_complex_zero_budget (B : Ec →L[ℂ] Ec) (k : Nat) (v0 : Ec) (_hv0 : v0 ≠ 0) :
    powerIterationC (opsOfC (0 : Ec →L[ℂ] Ec)) (k + 1) v0 = .ok (0, 0) ∧
    powerIterationC (opsOfC B) 0 v0 = .error "value" :=
  ⟨powerIterationC_eq_ok.2 ⟨k.succ_pos, powerLoopC_succ_zero 0 k none _ rfl⟩, rfl⟩

-- non-vacuity: multiplication by `i` on ℂ is a bounded operator that is not Hermitian (⟨i·1, 1⟩ = −i ≠ i = ⟨1, i·1⟩)
example : inner ℂ ((Complex.I • ContinuousLinearMap.id ℂ ℂ) (1 : ℂ)) (1 : ℂ) ≠
    inner ℂ (1 : ℂ) ((Complex.I • ContinuousLinearMap.id ℂ ℂ) (1 : ℂ)) := by
  simp [Complex.ext_iff]
  norm_num

end complexpower

/-! ### `MatrixOperator.norm`: the entrywise orders are the induced norms -/

section matnorm
variable {m n : Nat}

/-- `MatrixOperator.norm(inf)` (model `matNorm`, i.e. what `jnp.linalg.norm(A, inf)` computes: the largest absolute row
    sum) is the norm induced by the vector ∞-norm: `‖Mx‖∞ ≤ c` whenever `‖x‖∞ ≤ 1`, with equality for a sign vector. -/
theorem C17_mat_norm_inf (M : Matrix (Fin m) (Fin n) ℝ) (hm : 0 < m) :
    ∃ c, matNorm .pinf (absRowsR M) (absColsR M) = some c ∧
      IsMaxOf c (List.ofFn fun i => ∑ j, |M i j|) ∧
      (∀ x : Fin n → ℝ, (∀ j, |x j| ≤ 1) → ∀ i, |∑ j, M i j * x j| ≤ c) ∧
      (∃ x : Fin n → ℝ, (∀ j, |x j| ≤ 1) ∧ ∃ i, |∑ j, M i j * x j| = c) := by
  obtain ⟨c, hc, hspec⟩ := lmax_ofFn hm fun i => ∑ j, |M i j|
  refine ⟨c, by simp only [matNorm, absRowsR_sums, hc], hspec, ?_, ?_⟩
  · intro x hx i
    exact (row_bound M x hx i).trans (hspec.ofFn_le i)
  · obtain ⟨i, hi⟩ := hspec.exists_ofFn
    obtain ⟨x, hx, hsum⟩ := row_attained M i
    exact ⟨x, hx, i, hsum.trans hi⟩

/-- `MatrixOperator.norm(1)` (largest absolute column sum) is the norm induced by the vector 1-norm:
    `‖Mx‖₁ ≤ c‖x‖₁` with equality at a basis vector. -/
theorem C17_mat_norm_one (M : Matrix (Fin m) (Fin n) ℝ) (hn : 0 < n) :
    ∃ c, matNorm (.int 1) (absRowsR M) (absColsR M) = some c ∧
      IsMaxOf c (List.ofFn fun j => ∑ i, |M i j|) ∧
      (∀ x : Fin n → ℝ, ∑ i, |∑ j, M i j * x j| ≤ c * ∑ j, |x j|) ∧
      (∃ x : Fin n → ℝ, ∑ j, |x j| = 1 ∧ ∑ i, |∑ j, M i j * x j| = c) := by
  obtain ⟨c, hc, hspec⟩ := lmax_ofFn hn fun j => ∑ i, |M i j|
  refine ⟨c, by simp only [matNorm, absColsR_sums, hc], hspec, col_bound M c hspec.ofFn_le, ?_⟩
  obtain ⟨j0, hj⟩ := hspec.exists_ofFn
  -- the basis vector `e_{j0}` attains it
  refine ⟨fun j => if j = j0 then 1 else 0, ?_, ?_⟩
  · simp only [apply_ite abs, abs_one, abs_zero, Finset.sum_ite_eq', Finset.mem_univ, if_true]
  · rw [← hj]
    simp only [mul_ite, mul_one, mul_zero, Finset.sum_ite_eq', Finset.mem_univ, if_true]

/-- `ord = -inf` / `-1`: the smallest absolute row / column sum (numpy's definition of these orders) -/
theorem C17_mat_norm_min (M : Matrix (Fin m) (Fin n) ℝ) (hm : 0 < m) (hn : 0 < n) :
    (∃ c, matNorm .ninf (absRowsR M) (absColsR M) = some c ∧ IsMinOf c (List.ofFn fun i => ∑ j, |M i j|)) ∧
    (∃ c, matNorm (.int (-1)) (absRowsR M) (absColsR M) = some c ∧ IsMinOf c (List.ofFn fun j => ∑ i, |M i j|)) := by
  constructor
  · obtain ⟨c, hc, hspec⟩ := lmin_ofFn hm fun i => ∑ j, |M i j|
    exact ⟨c, by simp only [matNorm, absRowsR_sums, hc], hspec⟩
  · obtain ⟨c, hc, hspec⟩ := lmin_ofFn hn fun j => ∑ i, |M i j|
    exact ⟨c, by simp only [matNorm, absColsR_sums, hc], hspec⟩

/-- `ord = None / 'fro'`: the Frobenius norm `√ΣᵢΣⱼ Mᵢⱼ²` -/
theorem C17_mat_norm_fro (M : Matrix (Fin m) (Fin n) ℝ) :
    matNorm .fro (absRowsR M) (absColsR M) = some (Real.sqrt (∑ i, ∑ j, M i j ^ 2)) ∧
    matNorm .none (absRowsR M) (absColsR M) = matNorm .fro (absRowsR M) (absColsR M) := by
  refine ⟨?_, rfl⟩
  simp only [matNorm, absRowsR, List.map_ofFn, Function.comp, lsum_ofFn, hasSqrt_real]
  congr 2
  refine Finset.sum_congr rfl fun i _ => Finset.sum_congr rfl fun j _ => ?_
  rw [abs_mul_abs_self, sq]

end matnorm

section norms

variable {n : Nat}

/-- `ord = None / 'fro'`: the Frobenius norm of the matrix `diag d` -/
theorem C17_diag_norms_fro (d : Fin n → ℝ) :
    diagNorm .fro (List.ofFn d) = .ok (Real.sqrt (∑ i, ∑ j, (Matrix.diagonal d i j) ^ 2)) ∧
    diagNorm .none (List.ofFn d) = diagNorm .fro (List.ofFn d) := by
  rw [diagonal_sq_sum]
  exact ⟨diagNorm_fro d, rfl⟩

/-- `ord = 'nuc'`: the sum of the singular values of `diag d`, i.e. of the square roots of the
    eigenvalues (roots of the characteristic polynomial, with multiplicity) of `(diag d)ᵀ diag d` -/
theorem C17_diag_norms_nuc (d : Fin n → ℝ) :
    diagNorm .nuc (List.ofFn d) =
      .ok ((((Matrix.diagonal d).transpose * Matrix.diagonal d).charpoly.roots.map Real.sqrt).sum) := by
  rw [singular_values_diagonal_sum]
  exact diagNorm_nuc d

/-- `ord = inf, 1, 2` all return `max |dᵢ|`, which is the maximal absolute row sum, the maximal
    absolute column sum, and the largest singular value (`‖diag d · x‖ ≤ m‖x‖` with equality at a
    basis vector) of `diag d`. -/
theorem C17_diag_norms_max (d : Fin n → ℝ) (hn : 0 < n) :
    ∃ m, diagNorm .pinf (List.ofFn d) = .ok m ∧ diagNorm (.int 1) (List.ofFn d) = .ok m ∧
      diagNorm (.int 2) (List.ofFn d) = .ok m ∧
      IsMaxOf m (List.ofFn fun i => ∑ j, |Matrix.diagonal d i j|) ∧
      IsMaxOf m (List.ofFn fun j => ∑ i, |Matrix.diagonal d i j|) ∧
      (∀ x : Fin n → ℝ, ∑ i, (d i * x i) ^ 2 ≤ m ^ 2 * ∑ i, x i ^ 2) ∧
      (∃ x : Fin n → ℝ, ∑ i, x i ^ 2 = 1 ∧ ∑ i, (d i * x i) ^ 2 = m ^ 2) := by
  obtain ⟨m, hm, hspec⟩ := lmax_ofFn hn fun i => |d i|
  have hok := diagNorm_pinf_ok d m hm
  exact ⟨m, hok, hok, hok, by simpa only [diagonal_row_abs_sum] using hspec,
    by simpa only [diagonal_col_abs_sum] using hspec, fun x => (diag_apply_sq_bounds d x m).1 hspec.ofFn_le,
    diag_attained d m hspec.1⟩

/-- `ord = -inf, -1, -2` all return `min |dᵢ|`: minimal absolute row / column sum and smallest
    singular value (`‖diag d · x‖ ≥ m‖x‖` with equality at a basis vector). -/
theorem C17_diag_norms_min (d : Fin n → ℝ) (hn : 0 < n) :
    ∃ m, diagNorm .ninf (List.ofFn d) = .ok m ∧ diagNorm (.int (-1)) (List.ofFn d) = .ok m ∧
      diagNorm (.int (-2)) (List.ofFn d) = .ok m ∧
      IsMinOf m (List.ofFn fun i => ∑ j, |Matrix.diagonal d i j|) ∧
      IsMinOf m (List.ofFn fun j => ∑ i, |Matrix.diagonal d i j|) ∧
      (∀ x : Fin n → ℝ, m ^ 2 * ∑ i, x i ^ 2 ≤ ∑ i, (d i * x i) ^ 2) ∧
      (∃ x : Fin n → ℝ, ∑ i, x i ^ 2 = 1 ∧ ∑ i, (d i * x i) ^ 2 = m ^ 2) := by
  obtain ⟨m, hm, hspec⟩ := lmin_ofFn hn fun i => |d i|
  have hok := diagNorm_ninf_ok d m hm
  obtain ⟨k, hk⟩ := hspec.exists_ofFn
  exact ⟨m, hok, hok, hok, by simpa only [diagonal_row_abs_sum] using hspec,
    by simpa only [diagonal_col_abs_sum] using hspec,
    fun x => (diag_apply_sq_bounds d x m).2 (hk ▸ abs_nonneg _) hspec.le_ofFn, diag_attained d m hspec.1⟩

/-- The entrywise-computable matrix norms (`fro`, `±inf`, `±1`) of the dense matrix `diag d`
    (model `matNorm`, tied to `MatrixOperator.norm` / numpy) coincide with `Diagonal.norm`. -/
theorem C17_diag_norms_dense (d : Fin n → ℝ) (hn : 0 < n) (o : Ord)
    (ho : o = .fro ∨ o = .none ∨ o = .pinf ∨ o = .ninf ∨ o = .int 1 ∨ o = .int (-1)) :
    (matNorm o (absRows (Matrix.diagonal d)) (absCols (Matrix.diagonal d))).map Except.ok =
      some (diagNorm o (List.ofFn d)) := by
  -- `absRows`, `absCols` are `absRowsR`, `absColsR` at a square matrix
  have hfro : (matNorm .fro (absRows (Matrix.diagonal d)) (absCols (Matrix.diagonal d))).map Except.ok =
      some (diagNorm .fro (List.ofFn d)) := by
    rw [(C17_diag_norms_fro d).1]
    exact congrArg (Option.map Except.ok) (C17_mat_norm_fro (Matrix.diagonal d)).1
  rcases ho with rfl | rfl | rfl | rfl | rfl | rfl
  · exact hfro
  · exact hfro
  · obtain ⟨m, hm, -⟩ := lmax_ofFn hn fun i => |d i|
    simp only [matNorm, absRows_diagonal_sums, hm, Option.map_some, diagNorm_pinf_ok d m hm]
  · obtain ⟨m, hm, -⟩ := lmin_ofFn hn fun i => |d i|
    simp only [matNorm, absRows_diagonal_sums, hm, Option.map_some, diagNorm_ninf_ok d m hm]
  · obtain ⟨m, hm, -⟩ := lmax_ofFn hn fun i => |d i|
    simp only [matNorm, absCols_diagonal_sums, hm, Option.map_some, diagNorm_one, diagNorm_pinf_ok d m hm]
  · obtain ⟨m, hm, -⟩ := lmin_ofFn hn fun i => |d i|
    simp only [matNorm, absCols_diagonal_sums, hm, Option.map_some, diagNorm_neg_one, diagNorm_ninf_ok d m hm]

/-- A complex diagonal: `Diagonal.norm` is the same function of the moduli `|dᵢ|` as for the real
    diagonal `(|d₁|,…,|dₙ|)` (to which `diag d` is unitarily equivalent), for every order. -/
theorem C17_diag_norms_complex (z : Fin n → ℂ) (o : Ord) :
    diagNormC o (List.ofFn fun i => ((z i).re, (z i).im)) = diagNorm o (List.ofFn fun i => ‖z i‖) := by
  have h1 : (cabs ∘ fun i => ((z i).re, (z i).im)) = fun i => ‖z i‖ := funext fun i => cabs_eq_norm (z i)
  have h2 : (HasAbs.abs ∘ fun i => ‖z i‖) = fun i => ‖z i‖ := funext fun i => abs_norm (z i)
  unfold diagNormC diagNorm
  simp only [List.map_ofFn, h1, h2]

/-- any other `ord` (0, 3, unknown strings, …) is rejected with `ValueError` by both classes -/
theorem C17_diag_norms_reject (d : List ℝ) (ac sN nN : ℝ) (k : Int) (hk : k ≠ 1 ∧ k ≠ 2 ∧ k ≠ -1 ∧ k ≠ -2) :
    diagNorm (.int k) d = .error "value" ∧ diagNorm .other d = .error "value" ∧
    scaledIdNorm (.int k) ac sN nN = .error "value" ∧ scaledIdNorm .other ac sN nN = .error "value" := by
  obtain ⟨hkey, hsid⟩ := ord_int_other hk
  refine ⟨?_, rfl, hsid ac sN nN, rfl⟩
  unfold diagNorm
  rw [hkey]

/-- `ScaledIdentity(c, N).norm(ord)` equals `Diagonal` of the constant diagonal `(c,…,c)` for every order -/
theorem C17_scaledid_norms (c : ℝ) (N : Nat) (hN : 0 < N) (o : Ord) :
    scaledIdNorm o |c| (Real.sqrt N) N = diagNorm o (List.ofFn fun _ : Fin N => c) := by
  have hmax : lmax (List.ofFn fun _ : Fin N => |c|) = some |c| := by
    obtain ⟨m, hm, hspec⟩ := lmax_ofFn hN fun _ => |c|
    obtain ⟨k, hk⟩ := hspec.exists_ofFn
    rw [hm, ← hk]
  have hmin : lmin (List.ofFn fun _ : Fin N => |c|) = some |c| := by
    obtain ⟨m, hm, hspec⟩ := lmin_ofFn hN fun _ => |c|
    obtain ⟨k, hk⟩ := hspec.exists_ofFn
    rw [hm, ← hk]
  have hfro : diagNorm .fro (List.ofFn fun _ : Fin N => c) = .ok (|c| * Real.sqrt N) := by
    rw [diagNorm_fro]
    congr 1
    rw [Finset.sum_const, Finset.card_univ, Fintype.card_fin, nsmul_eq_mul, mul_comm,
      Real.sqrt_mul (sq_nonneg c), Real.sqrt_sq_eq_abs]
  have hnuc : diagNorm .nuc (List.ofFn fun _ : Fin N => c) = .ok (|c| * N) := by
    rw [diagNorm_nuc]
    congr 1
    rw [Finset.sum_const, Finset.card_univ, Fintype.card_fin, nsmul_eq_mul, mul_comm]
  have hp := diagNorm_pinf_ok (fun _ : Fin N => c) |c| hmax
  have hq := diagNorm_ninf_ok (fun _ : Fin N => c) |c| hmin
  cases o with
  | none => exact hfro.symm
  | fro => exact hfro.symm
  | nuc => exact hnuc.symm
  | pinf => exact hp.symm
  | ninf => exact hq.symm
  | other => rfl
  | int k =>
    rcases int_ord_cases k with rfl | rfl | rfl | rfl | hk
    · exact hp.symm
    · exact hp.symm
    · exact hq.symm
    · exact hq.symm
    obtain ⟨hkey, hsid⟩ := ord_int_other hk
    rw [hsid]
    unfold diagNorm
    rw [hkey]

end norms

section svd
variable {E F : Type} [NormedAddCommGroup E] [InnerProductSpace ℝ E] [NormedAddCommGroup F] [InnerProductSpace ℝ F]
variable {ι : Type} [Fintype ι] [DecidableEq ι]

/-- **What `ord = 2` and `ord = -2` mean** (`MatrixOperator.norm`, `Diagonal.norm`): with `lam` the eigenvalues of the Gram
    operator `AᴴA` in an orthonormal eigenbasis (squared singular values of `A`), the largest singular value
    `√(max lam)` is the induced 2-norm `‖A‖` (= `sup ‖Ax‖/‖x‖`, what `operator_norm` estimates), and the smallest one
    `√(min lam)` is `inf ‖Ax‖/‖x‖`, attained at its eigenvector.  (The computation of the spectrum — the SVD behind
    `jnp.linalg.norm(A, ±2)` — remains a contract.) -/
theorem C17_sigma_max_min (B : E →L[ℝ] E) (A : E →L[ℝ] F) (hG : IsGram B A) (b : OrthonormalBasis ι ℝ E)
    (lam : ι → ℝ) (hB : IsDiagIn B b lam) (imax imin : ι) (hmax : ∀ i, lam i ≤ lam imax) (hmin : ∀ i, lam imin ≤ lam i) :
    ‖A‖ = Real.sqrt (lam imax) ∧
    (∀ x : E, Real.sqrt (lam imin) * ‖x‖ ≤ ‖A x‖) ∧ ‖A (b imin)‖ = Real.sqrt (lam imin) * ‖b imin‖ :=
  ⟨hG.opNorm_eq_sqrt hB imax hmax, hG.sigma_min hB imin hmin⟩

/-- **`MatrixOperator.norm(2)`, `(-2)`, `('nuc')` through the singular values.**  Contract: the singular values handed to
    `svNorm` are `sᵢ = √lamᵢ` for the eigenvalues `lam` of the Gram operator `AᴴA` in an orthonormal eigenbasis (`n` of them,
    `n ≥ 1`: the case of a matrix with at least as many rows as columns; for a wide matrix apply it to `Aᴴ`, which has the
    same non-zero singular values).  Then `ord = 2` returns the induced 2-norm `‖A‖`, `ord = -2` the number
    `inf ‖Ax‖/‖x‖` (a lower bound for all `x`, attained at a unit eigenvector), `ord = 'nuc'` the sum `Σ √lamᵢ`. -/
theorem C17_mat_norm_sv {n : Nat} (hn : 0 < n) (B : E →L[ℝ] E) (A : E →L[ℝ] F) (hG : IsGram B A)
    (b : OrthonormalBasis (Fin n) ℝ E) (lam : Fin n → ℝ) (hB : IsDiagIn B b lam) :
    svNorm (.int 2) (List.ofFn fun i => Real.sqrt (lam i)) = some ‖A‖ ∧
    (∃ c, svNorm (.int (-2)) (List.ofFn fun i => Real.sqrt (lam i)) = some c ∧
      (∀ x : E, c * ‖x‖ ≤ ‖A x‖) ∧ ∃ x : E, ‖x‖ = 1 ∧ ‖A x‖ = c) ∧
    svNorm .nuc (List.ofFn fun i => Real.sqrt (lam i)) = some (∑ i, Real.sqrt (lam i)) := by
  have hnn : ∀ i, 0 ≤ lam i := fun i => hG.eigen_nonneg hB i
  refine ⟨?_, ?_, ?_⟩
  · obtain ⟨c, hc, hspec⟩ := lmax_ofFn hn fun i => Real.sqrt (lam i)
    obtain ⟨imax, himax⟩ := hspec.exists_ofFn
    have hmax : ∀ i, lam i ≤ lam imax := fun i =>
      (Real.sqrt_le_sqrt_iff (hnn imax)).1 (himax ▸ hspec.ofFn_le i)
    show lmax _ = _
    rw [hc, hG.opNorm_eq_sqrt hB imax hmax, himax]
  · obtain ⟨c, hc, hspec⟩ := lmin_ofFn hn fun i => Real.sqrt (lam i)
    obtain ⟨imin, himin⟩ := hspec.exists_ofFn
    have hmin : ∀ i, lam imin ≤ lam i := fun i =>
      (Real.sqrt_le_sqrt_iff (hnn i)).1 (himin ▸ hspec.le_ofFn i)
    obtain ⟨h1, h2⟩ := hG.sigma_min hB imin hmin
    refine ⟨c, hc, ?_, b imin, b.orthonormal.1 imin, ?_⟩
    · intro x; rw [← himin]; exact h1 x
    · rw [h2, b.orthonormal.1 imin, mul_one, himin]
  · show some (lsum _) = _
    rw [lsum_ofFn]

/-- a wide matrix is handled through its adjoint: `Aᴴ` has the same induced 2-norm (and the same non-zero singular values) -/
theorem C17_opnorm_adjoint [CompleteSpace E] [CompleteSpace F] (A : E →L[ℝ] F) :
    ‖ContinuousLinearMap.adjoint A‖ = ‖A‖ :=
  LinearIsometryEquiv.norm_map ContinuousLinearMap.adjoint A

end svd

section estimators

/-- `PDHG.estimate_parameters` with a safety factor: `τσc² = 1/factor` — hence `< 1` for every
    `factor > 1` (default 1.01) — `σ = ratio·τ`, both positive; `c` is the norm estimate used. -/
theorem C17_pdhg_est (c ratio fac : ℝ) (hc : 0 < c) (hr : 0 < ratio) (hf : 1 < fac) :
    let p := pdhgEst c ratio (some fac)
    p.1 * p.2 * c ^ 2 = 1 / fac ∧ p.1 * p.2 * c ^ 2 < 1 ∧ p.2 = ratio * p.1 ∧ 0 < p.1 ∧ 0 < p.2 := by
  intro p
  have h0 : 0 < fac := by linarith
  have hprod := pdhgEst_prod c ratio fac hc hr h0
  refine ⟨hprod, ?_, rfl, (pdhgEst_pos c ratio fac hc hr h0).1, (pdhgEst_pos c ratio fac hc hr h0).2⟩
  show (pdhgEst c ratio (some fac)).1 * (pdhgEst c ratio (some fac)).2 * c ^ 2 < 1
  rw [hprod, div_lt_one h0]
  exact hf

/-- factor disabled (`None`, replaced by `1.0`): `τσc² = 1` and `σ = ratio·τ` -/
theorem C17_pdhg_est_disabled (c ratio : ℝ) (hc : 0 < c) (hr : 0 < ratio) :
    let p := pdhgEst c ratio none
    p.1 * p.2 * c ^ 2 = 1 ∧ p.2 = ratio * p.1 ∧ pdhgEst c ratio none = pdhgEst c ratio (some 1) := by
  intro p
  have h : pdhgEst c ratio none = pdhgEst c ratio (some 1) := rfl
  refine ⟨?_, rfl, h⟩
  show (pdhgEst c ratio none).1 * (pdhgEst c ratio none).2 * c ^ 2 = 1
  rw [h, pdhgEst_prod c ratio 1 hc hr one_pos]
  norm_num

/-- `ProximalADMM.estimate_parameters`: `μ > c_A²`, `ν > c_B²` for `factor > 1` and positive norm
    estimates; the bare squares when the factor is disabled. -/
theorem C17_padmm_est (cA cB fac : ℝ) (hA : 0 < cA) (hB : 0 < cB) (hf : 1 < fac) :
    cA ^ 2 < (padmmEst cA cB (some fac)).1 ∧ cB ^ 2 < (padmmEst cA cB (some fac)).2 ∧
    padmmEst cA cB none = (cA ^ 2, cB ^ 2) := by
  simp only [padmmEst, sq]
  exact ⟨lt_mul_of_one_lt_left (mul_pos hA hA) hf, lt_mul_of_one_lt_left (mul_pos hB hB) hf, trivial⟩

/-- `NonLinearPADMM.estimate_parameters` applies the same rule to the norm estimates of the two
    partial Jacobians `J_x H(x,z)`, `J_z H(x,z)`. -/
theorem C17_nlpadmm_est (cJx cJz fac : ℝ) (hx : 0 < cJx) (hz : 0 < cJz) (hf : 1 < fac) :
    cJx ^ 2 < (padmmEst cJx cJz (some fac)).1 ∧ cJz ^ 2 < (padmmEst cJx cJz (some fac)).2 :=
  ⟨(C17_padmm_est cJx cJz fac hx hz hf).1, (C17_padmm_est cJx cJz fac hx hz hf).2.1⟩

/-- `PDHG.estimate_parameters` and the constraint the solver needs, `τσ‖C‖₂² < 1` for the **true** norm `nC`: it holds as soon
    as the estimate `c ≤ nC` used is within the safety factor, `nC² < factor·c²` (power iteration only under-estimates). -/
theorem C17_pdhg_true_constraint (nC c ratio fac : ℝ) (hc : 0 < c) (hr : 0 < ratio) (hf : 0 < fac)
    (h : nC ^ 2 < fac * c ^ 2) :
    let p := pdhgEst c ratio (some fac)
    p.1 * p.2 * nC ^ 2 < 1 := by
  intro p
  have hprod : p.1 * p.2 * c ^ 2 = 1 / fac := pdhgEst_prod c ratio fac hc hr hf
  have hpos := pdhgEst_pos c ratio fac hc hr hf
  calc p.1 * p.2 * nC ^ 2 < p.1 * p.2 * (fac * c ^ 2) := mul_lt_mul_of_pos_left h (mul_pos hpos.1 hpos.2)
    _ = fac * (p.1 * p.2 * c ^ 2) := mul_left_comm ..
    _ = 1 := by rw [hprod, mul_one_div_cancel hf.ne']

/-- the same for `ProximalADMM` / `NonLinearPADMM`: `μ = factor·c² > ‖A‖²` for the true norm under the same condition -/
theorem C17_padmm_true_constraint (nA nB cA cB fac : ℝ) (hA : nA ^ 2 < fac * cA ^ 2) (hB : nB ^ 2 < fac * cB ^ 2) :
    nA ^ 2 < (padmmEst cA cB (some fac)).1 ∧ nB ^ 2 < (padmmEst cA cB (some fac)).2 := by
  simp only [padmmEst]
  constructor
  · calc nA ^ 2 < fac * cA ^ 2 := hA
      _ = fac * (cA * cA) := by ring
  · calc nB ^ 2 < fac * cB ^ 2 := hB
      _ = fac * (cB * cB) := by ring

section eventually
variable {E F : Type} [NormedAddCommGroup E] [InnerProductSpace ℝ E] [NormedAddCommGroup F] [InnerProductSpace ℝ F]
variable {ι : Type} [Fintype ι] [DecidableEq ι]

/-- **When is the budget large enough?**  Under the spectral-gap hypotheses of `C17_opnorm_converges`, with
    `C₀ = ‖v0 − P v0‖²/‖P v0‖²`: as soon as `r^(2k)·C₀ < 1 − 1/factor` the norm estimate `c` obtained with budget `k+1`
    satisfies `‖A‖² < factor·c²`, so the parameters derived from it respect the constraints for the **true** norm:
    `τσ‖A‖² < 1` (PDHG) and `μ > ‖A‖²` (proximal ADMM). -/
theorem C17_estimators_true_norm (B : E →L[ℝ] E) (A : E →L[ℝ] F) (hG : IsGram B A) (b : OrthonormalBasis ι ℝ E)
    (lam : ι → ℝ) (hB : IsDiagIn B b lam) (D : Finset ι) (lam1 : ℝ) (hpos : 0 < lam1) (htop : ∀ i, i ∈ D → lam i = lam1)
    (r : ℝ) (hr0 : 0 ≤ r) (hr : r < 1) (hgap : ∀ i, i ∉ D → lam i ≤ r * lam1) (v0 : E)
    (hc0 : 0 < ∑ i ∈ D, inner ℝ (b i) v0 ^ 2) (k : Nat) (c : ℝ)
    (h : operatorNorm (opsOf B) (k + 1) v0 = .ok c) (ratio fac : ℝ) (hratio : 0 < ratio) (hf : 1 < fac)
    (hk : r ^ (2 * k) * ((‖v0‖ ^ 2 - ∑ i ∈ D, inner ℝ (b i) v0 ^ 2) / ∑ i ∈ D, inner ℝ (b i) v0 ^ 2) < 1 - 1 / fac) :
    0 < c ∧ ‖A‖ ^ 2 < fac * c ^ 2 ∧
    (pdhgEst c ratio (some fac)).1 * (pdhgEst c ratio (some fac)).2 * ‖A‖ ^ 2 < 1 ∧
    ‖A‖ ^ 2 < (padmmEst c c (some fac)).1 := by
  have hd : Dominant lam D lam1 r := hG.dominant hB hpos hr0 hr.le htop hgap
  obtain ⟨hc0', -, hlow⟩ := hG.operatorNorm_gap hB hd v0 hc0 k c h
  have hL : 0 < ‖A‖ ^ 2 := hG.top_eq_opNorm_sq hB hd (Finset.nonempty_of_sum_ne_zero hc0.ne') ▸ hpos
  have hmain : ‖A‖ ^ 2 < fac * c ^ 2 := lt_factor_of_gap hL hf hk hlow
  have hcpos : 0 < c := hc0'.lt_of_ne fun h0 => by
    rw [← h0, zero_pow two_ne_zero, mul_zero] at hmain
    exact lt_asymm hL hmain
  exact ⟨hcpos, hmain, C17_pdhg_true_constraint ‖A‖ c ratio fac hcpos hratio (one_pos.trans hf) hmain,
    (C17_padmm_true_constraint ‖A‖ ‖A‖ c c fac hmain hmain).1⟩

end eventually

-- non-vacuity of the budget condition: gap ratio r = 1/4, C₀ = 1, default factor 1.01: budget k+1 = 3 suffices
example : ((1 : ℝ) / 4) ^ (2 * 2) * 1 < 1 - 1 / 1.01 := by norm_num

/-! ### the estimators at a zero norm estimate (zero operator, `C17_zero_exact`) — what the code does there

Over the IEEE-extended reals (`XR ℝ`: `1/0 = +inf`, `inf·0 = NaN`, NaN-false comparisons).  These are *negation
witnesses*: for the zero operator the documented strict inequalities are not satisfied (known finding
`estimators-zero-operator`); `C17_pdhg_est`, `C17_padmm_est`, `C17_nlpadmm_est` assume a positive estimate. -/

section zero
open Scico.StepSize Scico.StepSize.XR

/-- `PDHG.estimate_parameters` for a norm estimate `0`: `τ = σ = +inf` (any factor, also disabled), and
    `τ·σ·c²` is NaN, not `< 1`. -/
theorem C17_pdhg_est_zero (ratio fac : ℝ) (hr : 0 < ratio) (hf : 0 < fac) :
    pdhgEst (fin 0 : XR ℝ) (fin ratio) (some (fin fac)) = (pinf, pinf) ∧
    pdhgEst (fin 0 : XR ℝ) (fin ratio) none = (pinf, pinf) ∧
    ¬ ((pinf : XR ℝ) * pinf * (fin 0 * fin 0) < 1) :=
  -- `τ·σ·c²` is `inf · 0`, NaN
  ⟨pdhgEst_zero ratio fac hr hf, pdhgEst_zero ratio 1 hr one_pos,
    by rw [pinf_mul_pinf, fin_mul_fin, mul_zero, pinf_mul_zero]; exact not_nan_lt _⟩

/-- `ProximalADMM` / `NonLinearPADMM.estimate_parameters` for norm estimates `0`: `μ = ν = 0` whatever the factor, so
    `μ > ‖A‖²` (`0 > 0`) does not hold. -/
theorem C17_padmm_est_zero (fac : Option ℝ) :
    padmmEst (fin 0 : XR ℝ) (fin 0) (fac.map fin) = (fin 0, fin 0) ∧ ¬ ((fin 0 * fin 0 : XR ℝ) < fin 0) :=
  ⟨by cases fac <;> simp only [padmmEst, Option.map_none, Option.map_some, fin_mul_fin, mul_zero],
    by rw [fin_mul_fin, mul_zero, fin_lt_fin]; exact lt_irrefl 0⟩

end zero

end estimators

/-! ### the data the model copies from the source (kept equal to it by `Generated/EstimTables.lean`) -/

section source

/-- **The `ord` tables.**  The model functions are the tables the translator reads from `_diag.py`: `diagKey` is the remapping
    chain of `Diagonal.norm` (`None → 'fro'`, `-1,-2 → -inf`, `1,2 → inf`), an order is accepted iff its image is a key of
    `ordfunc` (then the listed function of `|d|` is applied), and `ScaledIdentity.norm` is its if-chain
    (`|c|√N`, `|c|N`, `|c|`, else `ValueError`). -/
theorem C17_ord_tables (o : Ord) (d : List ℝ) (ac sN nN : ℝ) :
    diagKey o = remapOrd diagRemap o ∧
    ((diagOrdFunc.map (·.1)).contains (diagKey o) = false → diagNorm o d = .error "value") ∧
    ((diagOrdFunc.map (·.1)).contains (diagKey o) = true → diagNorm o d = absNorm (diagKey o) (d.map HasAbs.abs)) ∧
    scaledIdNorm o ac sN nN =
      (match branchOf sidBranches o with
      | some "snp.abs(scalar) * snp.sqrt(N)" => .ok (ac * sN)
      | some "snp.abs(scalar) * N" => .ok (ac * nN)
      | some "snp.abs(scalar)" => .ok ac
      | _ => .error "value") := by
  refine ⟨?_, ?_, ?_, ?_⟩
  · cases o with
    | int k =>
      rcases int_ord_cases k with rfl | rfl | rfl | rfl | hk
      iterate 4 rfl
      rw [(ord_int_other hk).1]
      simp [remapOrd, diagRemap, List.find?, hk]
    | _ => rfl
  · intro h
    rw [diagNorm_eq_ordFunc, h]
    rfl
  · intro h
    rw [diagNorm_eq_ordFunc, h]
    rfl
  · cases o with
    | int k =>
      rcases int_ord_cases k with rfl | rfl | rfl | rfl | hk
      iterate 4 rfl
      have hb : branchOf sidBranches (.int k) = Option.none := by
        simp [branchOf, sidBranches, List.find?, hk]
      rw [(ord_int_other hk).2, hb]
    | _ => rfl

/-- **The default arguments** (`ratio=1.0`, `factor=1.01`, read from the signatures): for every positive norm estimate `c` the
    parameters returned *by default* satisfy `τσc² < 1`, `σ = τ`, `μ > c²`; `factor=None` is replaced by the literal `1.0`. -/
theorem C17_default_parameters (fac ratio one : ℝ)
    (hfac : (defaultOf estimSignatures "PDHG.estimate_parameters" "factor").bind PyLit.toReal = some fac)
    (hratio : (defaultOf estimSignatures "PDHG.estimate_parameters" "ratio").bind PyLit.toReal = some ratio)
    (hone : pdhgFactorNone.toReal = some one) (c : ℝ) (hc : 0 < c) :
    (pdhgEst c ratio (some fac)).1 * (pdhgEst c ratio (some fac)).2 * c ^ 2 < 1 ∧
    (pdhgEst c ratio (some fac)).2 = (pdhgEst c ratio (some fac)).1 ∧
    c ^ 2 < (padmmEst c c (some fac)).1 ∧
    pdhgEst c ratio none = pdhgEst c ratio (some one) := by
  obtain ⟨h1, _, _, h4, h5, _, _⟩ := estimator_defaults
  rw [h1] at hfac
  rw [h4] at hratio
  rw [h5] at hone
  have hf : fac = 101 / 10 ^ 2 := (Option.some.inj hfac).symm
  have hr : ratio = 1 := by rw [← Option.some.inj hratio]; norm_num
  have ho : one = 1 := by rw [← Option.some.inj hone]; norm_num
  subst hr; subst ho
  have hf1 : 1 < fac := by rw [hf]; norm_num
  obtain ⟨_, a, b, _, _⟩ := C17_pdhg_est c 1 fac hc one_pos hf1
  refine ⟨a, by rw [b]; ring, (C17_padmm_est c c fac hc hc hf1).1, rfl⟩

end source

-- default PDHG parameters for an estimate c = 2, ratio 4
example : (1 : ℝ) / 1.01 < 1 := by norm_num
example : let p := pdhgEst (2 : ℝ) 4 (some 1.01); p.1 * p.2 * 2 ^ 2 < 1 :=
  (C17_pdhg_est 2 4 1.01 (by norm_num) (by norm_num) (by norm_num)).2.1
example : (padmmEst (3 : ℝ) 1 (some 1.01)).1 = 1.01 * (3 * 3) := rfl
-- `svNorm` on the singular values (2, 1): nuclear norm 3
example : svNorm .nuc ([2, 1] : List ℝ) = some 3 := by
  simp [svNorm, lsum]; norm_num
-- closed forms on diag(1,-3,2)
example : diagNorm .nuc (List.ofFn ![(1 : ℝ), -3, 2]) = .ok 6 := by
  rw [diagNorm_nuc]; simp [Fin.sum_univ_succ]; norm_num
-- a Gram operator exists: the identity on ℝ is its own
example : IsGram (ContinuousLinearMap.id ℝ ℝ) (ContinuousLinearMap.id ℝ ℝ) := fun _ _ => rfl

-- convergence hypotheses are satisfiable for any prescribed spectrum: diag(4,1) on ℝ², gap ratio r = 1/4,
-- it is the Gram operator of diag(2,1), and the start (1,1) has a non-zero dominant component
example : ∃ (B A : EuclideanSpace ℝ (Fin 2) →L[ℝ] EuclideanSpace ℝ (Fin 2)),
    IsGram B A ∧ IsDiagIn B (EuclideanSpace.basisFun (Fin 2) ℝ) ![4, 1] ∧ Dominant ![(4 : ℝ), 1] {0} 4 (1 / 4) ∧
    inner ℝ ((EuclideanSpace.basisFun (Fin 2) ℝ) 0) (WithLp.toLp 2 ![(1 : ℝ), 1]) ≠ 0 := by
  refine ⟨diagOp _ ![4, 1], diagOp _ (fun i => Real.sqrt (![4, 1] i)), isGram_diagOp _ _ ?_, isDiagIn_diagOp _ _, ?_, ?_⟩
  · exact Fin.forall_fin_two.2 ⟨by norm_num, by norm_num⟩
  · refine ⟨by norm_num, by norm_num, by norm_num, fun i hi => Finset.mem_singleton.1 hi ▸ rfl, ?_⟩
    exact Fin.forall_fin_two.2 ⟨fun h => absurd (Finset.mem_singleton_self _) h, fun _ => by norm_num⟩
  · rw [EuclideanSpace.basisFun_apply, EuclideanSpace.inner_single_left]
    simp
-- a repeated largest eigenvalue (2·identity on ℝ²: every index is dominant, r = 0): the estimate is exact at budget 1
example : Dominant ![(2 : ℝ), 2] Finset.univ 2 0 :=
  ⟨by norm_num, le_refl _, by norm_num, fun i _ => by fin_cases i <;> simp, fun i hi => absurd (Finset.mem_univ i) hi⟩

end Scico.Props.C17
