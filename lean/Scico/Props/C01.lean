/-
  Property C01 — adjoint identity ⟪A x, y⟫ = ⟪x, Aᴴ y⟫ for every linear operator.

  Model: Scico/Model/Adjoint.lean (how scico BUILDS adjoint closures).  Scalars: any field with an involution
  (`ℝ`, `ℂ`).  `ip n u w = Σ_{i<n} u i * conj (w i)` is what `valid_adjoint` computes.
  Quantifiers: all sizes, all vectors, all filters / index arrays / matrices, derivation trees of any depth.
-/
import Scico.Proofs.AdjointComplex
import Scico.Proofs.AdjointConvScatter
import Scico.Proofs.AdjointLink

namespace Scico.Props.C01
open Scico.Adjoint Finset

variable {K : Type} [Field K] [StarRing K]

/-- Every operator derived from leaves by `+`, `-`, unary `-`, scalar `*` and `/`, composition, `.T`, `.H`,
    `.conj()`, `.gram_op`, vertical / diagonal stacks and replication along arbitrary axes satisfies the adjoint
    identity if the leaves do — for trees of any depth that pass scico's own shape checks.  (`hdiv` is not used:
    `A / c` is `c⁻¹ · A` for every `c`, `sdiv_eq_smul`.) -/
theorem C01_derived (env : Nat → Op K) (henv : ∀ i, IsAdj (env i)) (e : Expr K)
    (hwf : wf env e = true) (hdiv : divOK e) : IsAdj (run env e) :=
  derived_isAdjW test_id env henv e hwf

-- a well-formed tree over two matrix leaves: ((2·A)ᴴ ∘ (A + B)).gram stacked on top of A.T.conj
example (A B : Nat → Nat → K) :
    let env : Nat → Op K := fun i => if i = 0 then Op.mat 3 2 A else Op.mat 3 2 B
    let e : Expr K := .vcons (.gram (.comp (.herm (.smul 2 (.leaf 0))) (.add (.leaf 0) (.leaf 1))))
      (.vcons (.cj (.tr true (.herm (.leaf 0)))) (.vnil 2))
    IsAdj (run env e) := by
  intro env e
  refine C01_derived env (fun i => ?_) e rfl ⟨⟨trivial, trivial, trivial⟩, trivial, trivial⟩
  show IsAdj (if i = 0 then _ else _)
  split <;> exact mat_isAdj _ _ _

/-- over `ℂ`, `IsAdjRe` says exactly `Re⟪A x, y⟫ = Re⟪x, Aᴴ y⟫` -/
theorem C01_isAdjRe_iff (A : Op ℂ) :
    IsAdjRe A ↔ ∀ x y, (ip A.nout (A.eval x) y).re = (ip A.nin x (A.adj y)).re := isAdjRe_iff A

/-- The same in the real inner product `Re⟪·,·⟫` (operators from a real into a complex space), for ALL scalar factors,
    real or not: the code applies `conj c` before the operand's adjoint (`self.adj(conj(c)*y)`, repo 9a89e4c), so a
    complex multiple of a real→complex operator is again an adjoint pair in `Re⟪·,·⟫`.  (`hdiv` is not used.) -/
theorem C01_derived_re (env : Nat → Op K) (henv : ∀ i, IsAdjRe (env i)) (e : Expr K)
    (hwf : wf env e = true) (hdiv : divOK e) : IsAdjRe (run env e) :=
  derived_isAdjW test_re env henv e hwf

/-! ### views (`.T`, `.H`, `.conj()`, `.gram_op`) -/

/-- `.H` applies the conjugate transpose of the operator's matrix (it *is* the adjoint) -/
theorem C01_H_eq_adj {A : Op K} {M : Nat → Nat → K} (hA : IsAdj A) (hM : IsMat A M) :
    ∀ y, ∀ j < A.nin, (Op.herm A).eval y j = ∑ i ∈ range A.nout, star (M i j) * y i :=
  IsMat.herm hA hM

/-- `.T` of a complex operator applies the plain transpose: no conjugation -/
theorem C01_T_unconj {A : Op K} {M : Nat → Nat → K} (hA : IsAdj A) (hM : IsMat A M) :
    ∀ y, ∀ j < A.nin, (Op.tr true A).eval y j = ∑ i ∈ range A.nout, M i j * y i :=
  IsMat.tr hA hM true (fun h => nomatch h)

/-- `.conj()` applies the entrywise conjugate matrix -/
theorem C01_conj_entrywise {A : Op K} {M : Nat → Nat → K} (hM : IsMat A M) :
    ∀ x, ∀ i < A.nout, (Op.cj A).eval x i = ∑ j ∈ range A.nin, star (M i j) * x j :=
  IsMat.cj hM

/-- for an operator with a real matrix, `.T` (either dtype branch) and `.H` coincide -/
theorem C01_real_T_eq_H {A : Op K} {M : Nat → Nat → K} (hA : IsAdj A) (hM : IsMat A M)
    (hreal : ∀ i j, star (M i j) = M i j) (c : Bool) :
    ∀ y, ∀ j < A.nin, (Op.tr c A).eval y j = (Op.herm A).eval y j := by
  intro y j hj
  cases c with
  | false => rfl
  | true =>
    exact (IsMat.tr hA hM true (fun h => nomatch h) y j hj).trans
      ((Finset.sum_congr rfl fun i _ => congrArg (· * y i) (hreal i j).symm).trans (IsMat.herm hA hM y j hj).symm)

/-- the views are themselves adjoint pairs (`(A.T).adj`, `(A.H).adj`, `(A.conj()).adj`, `G.adj`) -/
theorem C01_views_adjoint {A : Op K} (hA : IsAdj A) (c : Bool) :
    IsAdj (Op.tr c A) ∧ IsAdj (Op.herm A) ∧ IsAdj (Op.cj A) ∧ IsAdj (Op.gram A) :=
  ⟨tr_isAdjW test_id hA c, herm_isAdjW test_id hA, cj_isAdjW test_id hA, gram_isAdjW test_id hA⟩

-- the matrix leaf satisfies the hypotheses of the view theorems
example (M : Nat → Nat → K) : IsAdj (Op.mat 2 3 M) ∧ IsMat (Op.mat 2 3 M) M := ⟨mat_isAdj _ _ _, mat_isMat _ _ _⟩

/-- views of views of ANY operator built by the generic constructions (no closed form needed — generic LinearOperator,
    CircularConvolve, …; complex dtype branch of `.T`): the closures are identical as functions —
    `A.T.T = A`, `A.H.H = A`, `A.conj().conj() = A`, `A.T.H = A.H.T = A.conj()`, `A.conj().T = A.T.conj() = A.H`,
    `A.conj().H = A.H.conj() = A.T`, `(B @ A).H = A.H @ B.H`, `(B @ A).T = A.T @ B.T`, `(B @ A).conj() = B.conj() @ A.conj()`;
    hence every nested view of an adjoint pair is an adjoint pair with the matrix the view algebra predicts -/
theorem C01_view_algebra (A B : Op K) :
    Op.tr true (Op.tr true A) = A ∧ Op.herm (Op.herm A) = A ∧ Op.cj (Op.cj A) = A
      ∧ Op.herm (Op.tr true A) = Op.cj A ∧ Op.tr true (Op.herm A) = Op.cj A
      ∧ Op.tr true (Op.cj A) = Op.herm A ∧ Op.cj (Op.tr true A) = Op.herm A
      ∧ Op.herm (Op.cj A) = Op.tr true A ∧ Op.cj (Op.herm A) = Op.tr true A
      ∧ Op.herm (Op.comp B A) = Op.comp (Op.herm A) (Op.herm B)
      ∧ Op.tr true (Op.comp B A) = Op.comp (Op.tr true A) (Op.tr true B)
      ∧ Op.cj (Op.comp B A) = Op.comp (Op.cj B) (Op.cj A) := by
  cases A
  cases B
  simp [Op.tr, Op.herm, Op.cj, Op.comp, vconj_vconj]

/-- `A.H.gram_op` applies `A Aᴴ` (both closures) -/
theorem C01_gram_of_herm (A : Op K) :
    (Op.gram (Op.herm A)).eval = (Op.comp A (Op.herm A)).eval ∧ (Op.gram (Op.herm A)).adj = (Op.comp A (Op.herm A)).eval :=
  ⟨rfl, rfl⟩

/-! ### `MatrixOperator`, `CircularConvolve` -/

/-- `MatrixOperator`: `A.conj().T @ y` is the adjoint of `A @ x` -/
theorem C01_mat_adj (m n : Nat) (M : Nat → Nat → K) : IsAdj (Op.mat m n M) := mat_isAdj m n M

/-- `CircularConvolve`: correlation with the conjugated filter is the adjoint of circular convolution -/
theorem C01_circ_adj (n : Nat) (h : V K) : IsAdj (Op.circ n h) := circ_isAdj n h

/-- … including the sum over a broadcast batch axis (`k` filters, one signal) -/
theorem C01_circ_batch_adj (k n : Nat) (hk : 0 < k) (hn : 0 < n) (h : V K) : IsAdj (Op.circBatch k n h) :=
  circBatch_isAdj k n h

/-! ### `CircularConvolve` as coded (transform domain) -/

/-- `_adj` as coded, `ifftn(conj(h_dft)·fftn(y))`, is the adjoint of `_eval` as coded, `ifftn(h_dft·fftn(x))`, for EVERY
    `h_dft` (transform of `h`, with `h_center` phases, or given with `h_is_dft`), whenever the inverse transform is a real
    multiple of the conjugate transpose of the forward transform (`F`, `G` arbitrary matrices: any number of axes, any
    normalisation) -/
theorem C01_circ_dft_domain (n : Nat) (F G : Nat → Nat → K) (s : K) (hs : star s = s)
    (hG : ∀ i < n, ∀ f < n, G i f = s * star (F f i)) (D : V K) : IsAdj (Op.spectral n F G D) :=
  spectral_isAdj n F G s hs hG D

/-- the 1-D DFT (`fft`: `ζ^(j f)`, `ifft`: `n⁻¹ ζ⁻¹^(i f)`) with a root on the unit circle is such a pair -/
theorem C01_dft_pair (n : Nat) (ζ : K) (hζ : star ζ = ζ⁻¹) (D : V K) :
    IsAdj (Op.spectral n (fun f j => ζ ^ (j * f)) (fun i f => (n : K)⁻¹ * ζ⁻¹ ^ (i * f)) D) :=
  spectral_isAdj n _ _ (n : K)⁻¹ (star_natCast_inv n) (fun i _ f _ => by rw [star_pow, hζ]) D

/-- `fftn` / `ifftn` over ANY number of axes (`F` = Kronecker product of the 1-D transforms with roots on the unit
    circle, `G = N⁻¹·` the same with the inverse roots): `CircularConvolve` as coded in the transform domain is an adjoint
    pair for every `h_dft`, every `ndims` -/
theorem C01_dft_nd_pair (ds : List Nat) (zs : List K) (hz : ∀ z ∈ zs, star z = z⁻¹) (n N : Nat) (D : V K) :
    IsAdj (Op.spectral n (kronF ds zs) (fun i f => (N : K)⁻¹ * kronF ds (zs.map (·⁻¹)) i f) D) :=
  spectral_isAdj n _ _ (N : K)⁻¹ (star_natCast_inv N) (fun i _ f _ => by rw [star_kronF ds zs hz f i]) D

-- two axes of lengths 4 and 2 with the roots i and −1 (both on the unit circle)
example : ∀ z ∈ [Complex.I, (-1 : ℂ)], star z = z⁻¹ := by
  intro z hz
  simp only [List.mem_cons, List.mem_nil_iff, or_false] at hz
  rcases hz with rfl | rfl <;> simp

/-- the real parts `_eval` / `_adj` take for a real output space (`self.real`) or a real input space keep an adjoint
    pair adjoint in `Re⟪·,·⟫` -/
theorem C01_circ_real_wrappers {A : Op ℂ} (hA : IsAdjRe A) :
    IsAdjRe (Op.wrapRR creal A) ∧ IsAdjRe (Op.wrapRC creal A) :=
  ⟨wrapRR_isAdjRe hA, wrapRC_isAdjRe hA⟩

-- a root on the unit circle: ζ = i (4-point DFT); and an operator satisfying the hypothesis of the wrappers
example : star Complex.I = Complex.I⁻¹ := by simp
example (D : V ℂ) : IsAdjRe (Op.spectral 4 (fun f j => Complex.I ^ (j * f)) (fun i f => ((4 : ℕ) : ℂ)⁻¹ * Complex.I⁻¹ ^ (i * f)) D) :=
  isAdjRe_of_isAdj (C01_dft_pair 4 Complex.I (by simp) D)

/-! ### X-ray projectors -/

/-- X-ray projectors: gather-with-zero-fill is the adjoint of scatter-add-with-drop for ALL index arrays -/
theorem C01_scatter_gather (np ny : Nat) (I : Nat → Nat) (w : V K) (hw : ∀ p, star (w p) = w p) :
    ∀ x y, ip ny (scatterAddDrop np ny I w x) y = ip np x (gatherFill0 ny I w y) :=
  scatFill_isAdj np ny I w hw

/-- FULL STATEMENT (the code of /repo at e359064: `.at[idx].add` drops, `.at[idx].get(mode="fill", fill_value=0)` fills,
    negative indices redirected per bin on both sides): one projector term with its back-projector AS CODED is an adjoint pair for
    EVERY index array — every geometry, detector size and offset, 1-D detector (2-D transform) and flattened 2-D detector
    (3-D transform, `flat2`) — and all real weights -/
theorem C01_xray_backproject (np ny : Nat) (I : Nat → Nat) (w : V K) (hw : ∀ p, star (w p) = w p) :
    IsAdj (Op.scatFill np ny I w) :=
  scatFill_isAdj np ny I w hw

/-- the whole projector as the code assembles it — vertical stack over views of sums of scatter terms (2 per view in
    2-D, 4 per view in 3-D) — is an adjoint pair, for every geometry (instance of `C01_derived` on the coded leaves) -/
theorem C01_xray_projector (env : Nat → Op K)
    (hleaf : ∀ i, ∃ np ny I w, env i = Op.scatFill np ny I w ∧ ∀ p, star (w p) = w p)
    (e : Expr K) (hwf : wf env e = true) (hdiv : divOK e) : IsAdj (run env e) := by
  apply C01_derived env _ e hwf hdiv
  intro i
  obtain ⟨np, ny, I, w, he, hw⟩ := hleaf i
  rw [he]
  exact scatFill_isAdj np ny I w hw

/-! ### slab loops of the 3-D projector (`MAX_SLICE_LEN`) -/

/-- `XRayTransform3D._project` / `_back_project` process the volume in slabs and recompute indices and weights per slab
    with `slice_offset`: the accumulated slab scatters are the whole-volume scatter and the slab-wise gathers (fill-0 as coded; at
    arbitrary positions `J` for the pinned clamp) are the whole-volume gathers — for every slab size, every number of slabs covering the volume (incl. a partial last slab),
    all index arrays and weights -/
theorem C01_xray3d_slab_loop (B nslab np ny : Nat) (h : np ≤ nslab * B) (I J : Nat → Nat) (w : V K) :
    (∀ x, slabScatter B nslab np ny I w x = scatterAddDrop np ny I w x)
      ∧ (∀ y, slabGatherFill B ny I w y = gatherFill0 ny I w y) ∧ ∀ y, slabGather B J w y = gatherAt J w y :=
  ⟨fun x => slabScatter_eq B nslab np ny h I w x, fun y => slabGatherFill_eq B ny I w y, fun y => slabGather_eq B J w y⟩

/-- FULL STATEMENT for the 3-D transform as coded (slab loops, drop scatter, fill-0 gather): the slab-coded term is an
    adjoint pair for EVERY index array, slab size and number of slabs covering the volume -/
theorem C01_xray3d_slab (B nslab np ny : Nat) (h : np ≤ nslab * B) (I : Nat → Nat) (w : V K)
    (hw : ∀ p, star (w p) = w p) : IsAdj (Op.scatSlabFill B nslab np ny I w) := by
  rw [scatSlabFill_eq_scatFill B nslab np ny h]
  exact scatFill_isAdj np ny I w hw

-- slab hypotheses: 23 voxels in slabs of 10 need 3 slabs; real weights; indices may leave the detector (p % 7 on 4 bins)
example : (23 : Nat) ≤ 3 * 10 ∧ (∀ p : Nat, star ((fun _ => (1 : K)) p) = (fun _ => (1 : K)) p) ∧ ¬ (∀ p < 23, (fun p => p % 7) p < 4) :=
  ⟨by decide, fun _ => star_one K, fun h => absurd (h 4 (by decide)) (by decide)⟩

/-- a back-projector that does not forward the slab offset to the index computation (seeded change C01-m2) is NOT the
    adjoint, already for two voxels in two slabs — with the coded fill-0 gather and with the pinned clamped gather -/
theorem C01_xray3d_slab_no_offset_fails :
    ¬ IsAdj (Op.scatSlabFillNoOffset 1 2 2 2 (fun p => p) (fun _ => (1 : K)))
      ∧ ¬ IsAdj (Op.scatSlabNoOffset 1 2 2 2 (fun p => p) (fun p => clampIdx 2 p) (fun _ => (1 : K))) := by
  -- with slabs of one voxel, voxel 1 reads the bin of voxel 0: entry (1, 1) is `1` in the projector, `0` in either gather
  have e : ((0 : K) + (0 + 0) + (0 + 1 * 1) = star (1 * 0)) → False := fun e => by simp at e
  exact ⟨fun h => e (h.entry (j := 1) (i := 1) (show 1 < 2 by decide) (show 1 < 2 by decide)),
    fun h => e (h.entry (j := 1) (i := 1) (show 1 < 2 by decide) (show 1 < 2 by decide))⟩

/-! ### the back-projectors of the pinned tree (clamped gather; findings `xray2d/3d-backproject-clamp`, fixed in /repo
    by e359064) -/

/-- the clamped gather of the pinned `back_project` equals the true adjoint iff every pixel of non-zero weight is on the detector -/
theorem C01_gatherClamp_eq_fill_iff (np ny : Nat) (hny : 0 < ny) (I : Nat → Nat) (w : V K) :
    (∀ y : V K, ∀ p < np, gatherClamp ny I w y p = gatherFill0 ny I w y p) ↔ ∀ p < np, w p = 0 ∨ I p < ny :=
  gatherClamp_eq_fill_iff np ny hny I w

/-- the same for the 2-D detector of the 3-D transform (per-axis clamping of `y[a,b]`) -/
theorem C01_gather2_eq_fill_iff (np d0 d1 : Nat) (h0 : 0 < d0) (h1 : 0 < d1) (a b : Nat → Nat) (w : V K) :
    (∀ y : V K, ∀ p < np,
        gatherAt (fun p => clamp2 d0 d1 (a p) (b p)) w y p
          = gatherFill0 (d0 * d1) (fun p => flat2 d0 d1 (a p) (b p)) w y p)
      ↔ ∀ p < np, w p = 0 ∨ (a p < d0 ∧ b p < d1) := by
  rw [gatherAt_eq_fill_iff np (d0 * d1) _ _ w (fun p _ => clamp2_lt h0 h1)]
  exact forall₂_congr fun p _ => or_congr_right (flat2_eq_clamp2_iff h0 h1)

/-- the statement for the PINNED back-projector (not claimed; false): the clamped term is an adjoint pair for every
    index array -/
def C01_xray_clamped_stmt : Prop :=
  ∀ (np ny : Nat) (I : Nat → Nat) (w : V K), (∀ p, star (w p) = w p) → IsAdj (Op.scatClamp np ny I w)

/-- pinned back-projector: adjoint pair when the detector covers the shadow -/
theorem C01_xray_clamped_partial (np ny : Nat) (hny : 0 < ny) (I : Nat → Nat) (w : V K)
    (hw : ∀ p, star (w p) = w p) (hcov : ∀ p < np, w p = 0 ∨ I p < ny) : IsAdj (Op.scatClamp np ny I w) :=
  scatClamp_isAdj_of_covered np ny hny I w hw hcov

-- covered detector: indices 0,1,0 on a detector of 2 bins
example : ∀ p < 3, (fun _ => (1 : K)) p = 0 ∨ (fun p => p % 2) p < 2 := by
  intro p _; right; exact Nat.mod_lt _ (by decide)

/-- pinned back-projector: one pixel of non-zero weight off the detector breaks the identity -/
theorem C01_xray_clamped_fails (np ny : Nat) (hny : 0 < ny) (I : Nat → Nat) (w : V K)
    (p : Nat) (hp : p < np) (hwp : w p ≠ 0) (hoff : ny ≤ I p) : ¬ IsAdj (Op.scatClamp np ny I w) :=
  scatClamp_not_isAdj np ny hny I w p hp hwp hoff

theorem C01_xray_clamped_stmt_false : ¬ (C01_xray_clamped_stmt (K := K)) := by
  intro h
  exact scatClamp_not_isAdj 1 1 Nat.one_pos (fun _ => 1) (fun _ => 1) 0 Nat.one_pos one_ne_zero (Nat.le_refl 1)
    (h 1 1 (fun _ => 1) (fun _ => 1) (fun _ => star_one K))

/-! ### index maps -/

/-- an operator that reads `x` along ANY index map `φ` (0 where out of range) — `Slice`, `Crop`, `Transpose`, `Reshape`,
    zero `Pad`, for every shape/axes/slice configuration — and the scatter-add along `φ` are an adjoint pair; `Sum` over
    axes is the scatter `Op.scatFill … 1` of `C01_xray_backproject` with the broadcast as adjoint -/
theorem C01_index_map (n m : Nat) (φ : Nat → Nat) : IsAdj (Op.imap (α := K) n m φ) :=
  -- `Op.imap n m φ` is `Op.herm (Op.scatFill m n φ 1)`, by definition
  herm_isAdjW test_id (scatFill_isAdj m n φ _ (fun _ => star_one K))

/-- explicit instance: the adjoint of zero padding (`lo` in front, `hi` behind) is cropping -/
theorem C01_pad_adj_is_crop (n lo hi : Nat) (y : V K) (i : Nat) (h : i < n) :
    (Op.imap (α := K) n (lo + n + hi) (padMap n lo)).adj y i = y (lo + i) := by
  simp only [Op.imap, scatterAddDrop, h, if_true, sumTo_eq, one_mul]
  rw [Finset.sum_eq_single (lo + i)]
  · simp [padMap, h]
  · intro j _ hj
    have : padMap n lo j ≠ i := by
      unfold padMap
      split <;> omega
    simp [this]
  · intro h'
    exact absurd (Finset.mem_range.mpr (by omega)) h'

/-! ### class-specific overrides (`Diagonal`, `ScaledIdentity`, `Identity`, `MatrixOperator`) -/

/-- `Diagonal(d)` (hence `ScaledIdentity`, `Identity`) with its automatically derived adjoint `conj(d)·y` is an adjoint pair -/
theorem C01_diag_adj (n : Nat) (d : V K) : IsAdj (Op.diag n d) := diag_isAdj n d

/-- the overrides of the Diagonal family build operators with the same `eval` and `adj` as the generic constructions of
    `_linop.py` on the same operands: `.conj()` = `Diagonal(conj d)`, `.H` = `self.conj()`, `.T` = `self` (complex dtype
    branch always; real dtype branch for real `d`), `gram_op` = `Diagonal(conj(d)·d)`, `±`, scalar `*`, `/`, `@` -/
theorem C01_diagonal_overrides (n : Nat) (d e : V K) (c : K) :
    OpEq (Op.cj (Op.diag n d)) (Op.diag n (vconj d))
      ∧ OpEq (Op.herm (Op.diag n d)) (Op.diag n (vconj d))
      ∧ OpEq (Op.tr true (Op.diag n d)) (Op.diag n d)
      ∧ ((∀ i, star (d i) = d i) → OpEq (Op.tr false (Op.diag n d)) (Op.diag n d))
      ∧ OpEq (Op.gram (Op.diag n d)) (Op.diag n (fun i => conj (d i) * d i))
      ∧ OpEq (Op.add (Op.diag n d) (Op.diag n e)) (Op.diag n (vadd d e))
      ∧ OpEq (Op.sub (Op.diag n d) (Op.diag n e)) (Op.diag n (vsub d e))
      ∧ OpEq (Op.smul c (Op.diag n d)) (Op.diag n (vsmul c d))
      ∧ OpEq (Op.sdiv c (Op.diag n d)) (Op.diag n (vsdiv d c))
      ∧ OpEq (Op.comp (Op.diag n d) (Op.diag n e)) (Op.diag n (fun i => d i * e i)) :=
  have hD := isAdj_iff_isAdjW_id.1 (diag_isAdj n d)
  have hE := isAdj_iff_isAdjW_id.1 (diag_isAdj n e)
  ⟨.of_diag (cj_isAdjW test_id hD) rfl fun x i _ => by
      show star (d i * star (x i)) = star (d i) * x i
      rw [star_mul', star_star],
    .of_diag (herm_isAdjW test_id hD) rfl fun _ _ _ => rfl,
    .of_diag (tr_isAdjW test_id hD true) rfl fun x i _ => by
      show star (star (d i) * star (x i)) = d i * x i
      rw [star_mul', star_star, star_star],
    fun h => .of_diag (tr_isAdjW test_id hD false) rfl fun x i _ => by
      show star (d i) * x i = d i * x i
      rw [h i],
    .of_diag (gram_isAdjW test_id hD) rfl fun _ _ _ => (mul_assoc _ _ _).symm,
    .of_diag (add_isAdjW test_id hD hE rfl rfl) rfl fun _ _ _ => (add_mul _ _ _).symm,
    .of_diag (sub_isAdjW test_id hD hE rfl rfl) rfl fun _ _ _ => (sub_mul _ _ _).symm,
    .of_diag (smul_isAdjW hD c) rfl fun _ _ _ => (mul_assoc _ _ _).symm,
    .of_diag (sdiv_isAdjW hD c) rfl fun _ _ _ => (div_mul_eq_mul_div _ _ _).symm,
    .of_diag (comp_isAdjW hD hE rfl) rfl fun _ _ _ => (mul_assoc _ _ _).symm⟩

/-- the overrides of `MatrixOperator`: `.H` = `MatrixOperator(A.conj().T)`, `.conj()`, `.T` = `MatrixOperator(A.T)`,
    `gram_op` = `MatrixOperator(Aᴴ A)`, `±`, scalar `*`, `/`, `@` = `MatrixOperator(A @ B)` -/
theorem C01_matrix_overrides (m k n : Nat) (A B : Nat → Nat → K) (C : Nat → Nat → K) (c : K) :
    OpEq (Op.herm (Op.mat m n A)) (Op.mat n m (fun j i => conj (A i j)))
      ∧ OpEq (Op.cj (Op.mat m n A)) (Op.mat m n (fun i j => conj (A i j)))
      ∧ OpEq (Op.tr true (Op.mat m n A)) (Op.mat n m (fun j i => A i j))
      ∧ ((∀ i j, star (A i j) = A i j) → OpEq (Op.tr false (Op.mat m n A)) (Op.mat n m (fun j i => A i j)))
      ∧ OpEq (Op.gram (Op.mat m n A)) (Op.mat n n (matMul m (fun j i => conj (A i j)) A))
      ∧ OpEq (Op.add (Op.mat m n A) (Op.mat m n B)) (Op.mat m n (fun i j => A i j + B i j))
      ∧ OpEq (Op.sub (Op.mat m n A) (Op.mat m n B)) (Op.mat m n (fun i j => A i j - B i j))
      ∧ OpEq (Op.smul c (Op.mat m n A)) (Op.mat m n (fun i j => c * A i j))
      ∧ OpEq (Op.sdiv c (Op.mat m n A)) (Op.mat m n (fun i j => A i j / c))
      ∧ OpEq (Op.comp (Op.mat m k C) (Op.mat k n A)) (Op.mat m n (matMul k C A)) :=
  have hA := isAdj_iff_isAdjW_id.1 (mat_isAdj m n A)
  have hB := isAdj_iff_isAdjW_id.1 (mat_isAdj m n B)
  have hC := isAdj_iff_isAdjW_id.1 (mat_isAdj m k C)
  have mA := mat_isMat m n A
  have mB := mat_isMat m n B
  have mC := mat_isMat m k C
  ⟨.of_isMat (herm_isAdjW test_id hA) (mA.herm hA), .of_isMat (cj_isAdjW test_id hA) mA.cj,
    .of_isMat (tr_isAdjW test_id hA true) (mA.tr hA true (fun h => by cases h)),
    fun h => .of_isMat (tr_isAdjW test_id hA false) (mA.tr hA false (fun _ => h)),
    .of_isMat (gram_isAdjW test_id hA) (mA.gram hA), .of_isMat (add_isAdjW test_id hA hB rfl rfl) (mA.add mB rfl rfl),
    .of_isMat (sub_isAdjW test_id hA hB rfl rfl) (mA.sub mB rfl rfl), .of_isMat (smul_isAdjW hA c) (mA.smul c),
    .of_isMat (sdiv_isAdjW hA c) (mA.sdiv c),
    .of_isMat (comp_isAdjW hC (mat_isAdj k n A) rfl) (mC.comp (mat_isMat k n A) rfl)⟩

/-- operators with the same `eval`/`adj` are adjoint pairs together (so every shortcut above is an adjoint pair) -/
theorem C01_opEq_adjoint {A B : Op K} (h : OpEq A B) (hA : IsAdj A) : IsAdj B := h.isAdj hA

-- the shortcut `Diagonal.gram_op` is an adjoint pair, through the generic construction
example (d : V K) : IsAdj (Op.diag 3 (fun i => conj (d i) * d i)) :=
  C01_opEq_adjoint (C01_diagonal_overrides 3 d d 0).2.2.2.2.1 (gram_isAdjW test_id (diag_isAdj 3 d))

/-! ### automatically derived adjoints (`scico.linear_adjoint`, `linop.jacobian`) -/

/-- `scico.linear_adjoint`, complex primal: the derived adjoint is `y ↦ Mᴴ y`, given the `jax.linear_transpose` contract -/
theorem C01_linear_adjoint_complex {jt} (hjt : JaxTranspose (K := K) jt) (m n : Nat) (oc : Bool) (M : Nat → Nat → K) :
    IsAdj (autoOp jt m n true oc M) :=
  isAdj_of_isMat (M := M) (fun _ _ _ => sumTo_eq _ _) (fun y j hj => linearAdjoint_complex hjt m n oc M y j hj)

/-- `scico.linear_adjoint`, real primal and real output -/
theorem C01_linear_adjoint_real {jt} (hjt : JaxTranspose (K := K) jt) (m n : Nat) (M : Nat → Nat → K)
    (hM : ∀ i j, star (M i j) = M i j) : IsAdj (autoOp jt m n false false M) :=
  isAdj_of_isMat (M := M) (fun _ _ _ => sumTo_eq _ _) (fun y j hj => linearAdjoint_real hjt m n M hM y j hj)

-- a contract-satisfying transpose exists
example : JaxTranspose (K := K) probeTranspose := probeTranspose_ok

/-- an operator from a REAL space into `ℂᵐ` (`eval x = M x`, `adj y = Re(Mᴴ y)`) satisfies the identity in `Re⟪·,·⟫` -/
theorem C01_real_to_complex (m n : Nat) (M : Nat → Nat → ℂ) : IsAdjRe (realToComplex m n M) :=
  wrapRC_isAdjRe (A := Op.mat m n M) (isAdjRe_of_isAdj (mat_isAdj m n M))

/-- `scico.linear_adjoint`, real primal with complex output: the derived adjoint is `y ↦ Re(Mᴴ y)` -/
theorem C01_linear_adjoint_real_to_complex {jt} (hjt : JaxTransposeRC jt) (m n : Nat) (M : Nat → Nat → ℂ)
    (y : V ℂ) (j : Nat) (hj : j < n) :
    linearAdjoint jt m n false true (mulVec n M) y j = (realToComplex m n M).adj y j := by
  simp only [linearAdjoint, Bool.false_eq_true, if_false, if_true]
  rw [conjFun_mulVec, hjt m n _ y j hj]
  simp [realToComplex, vre, mulVec, sumTo_eq]

example : JaxTransposeRC probeTransposeRC := probeTransposeRC_ok

/-- `linop.jacobian(F, u)`: `eval = jvp`, `adj = ` conjugated `vjp` — an adjoint pair given the `jax.jvp`/`jax.vjp`
    contract (push-forward by the Jacobian matrix `J`, pull-back by `Jᵀ`) -/
theorem C01_jacobian_adj (m n : Nat) (J : Nat → Nat → K) (jvp G : V K → V K)
    (hj : ∀ v, ∀ i < m, jvp v i = ∑ j ∈ range n, J i j * v j)
    (hG : ∀ ct, ∀ j < n, G ct j = ∑ i ∈ range m, J i j * ct i) : IsAdj (Op.jacobian m n jvp G) :=
  isAdj_of_isMat (A := Op.jacobian m n jvp G) hj fun y j hj' => by
    show star (G (vconj y) j) = _
    rw [hG _ j hj', star_sum]
    exact Finset.sum_congr rfl fun i _ => by rw [star_mul', vconj, conj_eq_star, star_star]

-- the contract of `C01_jacobian_adj` is met by the matrix maps themselves
example (J : Nat → Nat → K) :
    (∀ v : V K, ∀ i < 2, mulVec 3 J v i = ∑ j ∈ range 3, J i j * v j)
      ∧ ∀ ct : V K, ∀ j < 3, mulVec 2 (fun j i => J i j) ct j = ∑ i ∈ range 2, J i j * ct i :=
  ⟨fun v i _ => mulVec_eq_sum 3 J v i, fun ct j _ => mulVec_eq_sum 2 _ ct j⟩

/-! ### the real inner product `Re⟪·,·⟫`; lifting from pairs of basis vectors -/

/-- for a complex-linear operator the identity of real parts gives the complex identity -/
theorem C01_re_to_complex {A : Op ℂ} (hre : IsAdjRe A) (hE : CommutesI A.eval) : IsAdj A :=
  re_to_complex hre hE

/-- complex scalar times an operator with a real output space (`_to_output_space` keeps the real part of `conj(c)·y`):
    adjoint pair in `Re⟪·,·⟫` -/
theorem C01_smul_complex_on_real_output {A : Op ℂ} (hA : IsAdjRe A) (hreal : ∀ x, ∀ i < A.nout, (A.eval x i).im = 0)
    (c : ℂ) : IsAdjRe (Op.smulRe creal c A) := by
  rw [isAdjRe_iff] at hA ⊢
  intro x y
  have h := hA x (fun i => creal (star c * y i))
  show (ip A.nout (vsmul c (A.eval x)) y).re = (ip A.nin x (A.adj fun i => creal (conj c * y i))).re
  rw [conj_eq_star] at *
  rw [← h]
  simp only [ip_eq, Complex.re_sum]
  apply Finset.sum_congr rfl
  intro i hi
  have hi0 := hreal x i (Finset.mem_range.mp hi)
  simp [vsmul, creal, Complex.mul_re, Complex.mul_im, hi0]
  ring

-- an operator over ℂ with real-valued output that satisfies the Re-identity (hypotheses of C01_smul_complex_on_real_output)
example (r : Nat → Nat → ℝ) :
    IsAdjRe (realToComplex 2 3 (fun i j => (r i j : ℂ)))
      ∧ ∀ x, ∀ i < 2, ((realToComplex 2 3 (fun i j => (r i j : ℂ))).eval x i).im = 0 := by
  refine ⟨C01_real_to_complex _ _ _, ?_⟩
  intro x i _
  simp [realToComplex, mulVec, sumTo_eq, vre, Complex.im_sum]

/-- lifting lemma: for linear `eval`, `adj` the identity on all pairs of basis vectors gives the identity for all vectors -/
theorem C01_basis {A : Op K} (hE : IsLinear A.nin A.eval) (hB : IsLinear A.nout A.adj)
    (hb : ∀ j < A.nin, ∀ i < A.nout,
      ip A.nout (A.eval (basis j)) (basis i) = ip A.nin (basis j) (A.adj (basis i))) : IsAdj A := by
  refine single_lift test_id hE.add hE.zero hE.ext hB.add hB.zero hB.ext fun j hj i hi c d => ?_
  have key := hb j hj i hi
  rw [ip_basis_right _ _ hi, ip_basis_left _ _ hj] at key
  show A.eval (vsmul c (basis j)) i * star d = c * star (A.adj (vsmul d (basis i)) j)
  rw [hE.smul, hB.smul]
  show c * A.eval (basis j) i * star d = c * star (d * A.adj (basis i) j)
  rw [key, star_mul']
  ring

-- the matrix leaf satisfies the hypotheses of the lifting lemma
example (M : Nat → Nat → K) : IsLinear 3 (Op.mat 2 3 M).eval := mat_isLinear 2 3 M

/-- the lifting lemma in `Re⟪·,·⟫` (operators between real and complex spaces, realified basis `{e_j, i·e_j}`): this is
    the form of the finite check the harness evaluates on the implementation -/
theorem C01_basis_re {A : Op ℂ} (hE : IsRLinear A.nin A.eval) (hB : IsRLinear A.nout A.adj)
    (h11 : ∀ j < A.nin, ∀ i < A.nout, (ip A.nout (A.eval (basis j)) (basis i)).re = (ip A.nin (basis j) (A.adj (basis i))).re)
    (h1i : ∀ j < A.nin, ∀ i < A.nout, (ip A.nout (A.eval (basis j)) (ibasis i)).re = (ip A.nin (basis j) (A.adj (ibasis i))).re)
    (hi1 : ∀ j < A.nin, ∀ i < A.nout, (ip A.nout (A.eval (ibasis j)) (basis i)).re = (ip A.nin (ibasis j) (A.adj (basis i))).re)
    (hii : ∀ j < A.nin, ∀ i < A.nout, (ip A.nout (A.eval (ibasis j)) (ibasis i)).re = (ip A.nin (ibasis j) (A.adj (ibasis i))).re) :
    IsAdjRe A :=
  basis_lift_re hE hB h11 h1i hi1 hii

-- a complex matrix leaf is real-linear in the sense of `C01_basis_re`
example (M : Nat → Nat → ℂ) : IsRLinear 3 (Op.mat 2 3 M).eval := (mat_isLinear 2 3 M).isRLinear

/-! ### recorded defects of the pinned tree -/

/-- RECORDED (fixed in /repo by 17a96e9): `.T` of a complex operator with `adj_fn = self.__call__` -/
theorem C01_T_pinned_fails (c : K) (hc : star c ≠ c) : ¬ IsAdj (Op.trPinned (Op.mat 1 1 (fun _ _ => c))) :=
  trPinned_not_adjoint c hc

/-- RECORDED (fixed in /repo by 70afcf0): `DiagonalStack._adj` through `op.T` -/
theorem C01_dstack_pinned_fails (c : K) (hc : star c ≠ c) :
    ¬ IsAdj (Op.dconsPinned true (Op.mat 1 1 (fun _ _ => c)) Op.dnil) := by
  intro h
  have := h.entry (j := 0) (i := 0) Nat.one_pos Nat.one_pos
  simp [Op.dconsPinned, Op.tr, Op.mat, Op.dnil, sumTo, vconj, vappend, basis, conj_eq_star] at this
  exact hc this.symm

/-- RECORDED (fixed in /repo by fa45c48): `DiagonalReplicated` adjoint mapped over the un-swapped axes -/
theorem C01_drep_pinned_fails :
    ¬ IsAdj (Op.drepPinned 2 2 1 (Op.mat 2 2 (fun i j => if i = 0 ∧ j = 1 then (1 : K) else 0))) := by
  -- `A = [[0,1],[0,0]]`, two replicates, input axis 0 (`Qi = 2`), output axis 1 (`Qo = 1`)
  -- entry (0, 1) of the operator is `1`, entry (1, 0) of the pinned adjoint is `0`
  intro h
  have e : (0 + (0 : K) * 0 + 1 * 1) = star (0 + star (0 : K) * 0 + star (0 : K) * 0) :=
    h.entry (j := 1) (i := 0) (show 1 < 4 by decide) (show 0 < 4 by decide)
  simp at e

/-! ### "applying the adjoint never fails for a conforming input"  (dtype / shape layer, Model/AdjointTy.lean) -/

/-- For every derivation tree (any depth) over leaves that behave as they declare, that passes scico's construction
    tests and contains no `+`/`-` of operands on different dtypes: `D.adj(y)` passes the dtype and shape guard of
    `LinearOperator.adj` — and the guard of every nested `adj`/`__call__` inside the closures — for the `y` of the declared
    output dtype and shape, and returns an array of the declared input dtype and shape; `D(x)` returns the declared
    output type for the conforming `x`; hence also `D.adj(D(x))` never raises.
    `coded = false`: `.T` as /repo has it at 1ee9fab (input and output dtype swapped; no condition on `.T`);
    `coded = true`: `.T` of the tree before 1ee9fab, complex branch with the dtypes not swapped (then additionally no `.T`
    of an operand with complex input dtype ≠ output dtype).  The docstrings of Model/AdjointTy.lean call the latter "as coded". -/
theorem C01_adj_total (coded : Bool) (env : Nat → TOp) (henv : ∀ i, Faithful (env i)) (t : TExpr)
    (hwf : wfT coded env t = true) (hh : homog coded env t = true) :
    (runT coded env t).adjC ⟨(runT coded env t).odt, (runT coded env t).osh⟩
        = .ok ⟨(runT coded env t).idt, (runT coded env t).ish⟩
      ∧ (runT coded env t).call ⟨(runT coded env t).idt, (runT coded env t).ish⟩
        = .ok ⟨(runT coded env t).odt, (runT coded env t).osh⟩
      ∧ andThen ((runT coded env t).call ⟨(runT coded env t).idt, (runT coded env t).ish⟩) (runT coded env t).adjC
        = .ok ⟨(runT coded env t).idt, (runT coded env t).ish⟩ := by
  have h := faithful_runT coded env henv t hwf hh
  refine ⟨h.adjC_ok, h.call_ok, ?_⟩
  rw [h.call_ok]
  exact h.adjC_ok

-- well-formed homogeneous typed trees over the witness environment, `(c·A₂ᴴ) ∘ ((A₂ − A₂.conj()).T).gram_op` with a Python
-- complex `c` and two stacks: all construction tests pass, no mixed sum: hypotheses of `C01_adj_total` hold (both `.T` variants)
example : wfT true witnessEnv (.comp (.smul .wcplx (.herm (.leaf 2))) (.gram (.tr (.sub (.leaf 2) (.cj (.leaf 2)))))) = true
    ∧ homog true witnessEnv (.comp (.smul .wcplx (.herm (.leaf 2))) (.gram (.tr (.sub (.leaf 2) (.cj (.leaf 2)))))) = true := by
  decide

example : wfT false witnessEnv (.vfin (.vcons (.leaf 0) (.vone (.neg (.leaf 0))))) = true
    ∧ homog false witnessEnv (.dfin true false (.dcons (.drep 2 0 1 (.leaf 0)) (.done (.drep 2 1 0 (.leaf 0))))) = true
    ∧ wfT false witnessEnv (.dfin true false (.dcons (.drep 2 0 1 (.leaf 0)) (.done (.drep 2 1 0 (.leaf 0))))) = true := by
  decide

/-- conversely the guard of `LinearOperator.adj` rejects every array that is not of the declared output dtype and
    shape (no silent cast, no broadcast) -/
theorem C01_adj_guard_rejects (A : TOp) (hg : A.guard = true) (y : Ty) (h : y.dt ≠ A.odt ∨ y.sh ≠ A.osh) :
    ∃ e, A.adjC y = .error e :=
  adjC_rejects hg h

/-- the statement without the exclusion (not claimed): every accepted tree over faithful leaves has a total adjoint
    (stated at `coded = true`; the refuting witness has no `.T`, so the flag plays no part) -/
def C01_adj_total_stmt : Prop :=
  ∀ (env : Nat → TOp), (∀ i, Faithful (env i)) → ∀ t : TExpr, wfT true env t = true →
    (runT true env t).adjC ⟨(runT true env t).odt, (runT true env t).osh⟩
      = .ok ⟨(runT true env t).idt, (runT true env t).ish⟩

/-- RECORDED `mixed-operand-dtypes`: it is false — the recorded witness
    `SingleAxisFiniteDifference((3,), float64, circular=True) + MatrixOperator(complex128 3×3)` is accepted at
    construction and its `adj` raises the dtype error for the conforming `y` -/
theorem C01_adj_total_stmt_false : ¬ C01_adj_total_stmt := by
  intro h
  have := h witnessEnv witnessEnv_faithful (.add (.leaf 0) (.leaf 1)) (by decide)
  revert this
  decide

/-- … in general: whenever the operands of `A ± B` declare different output dtypes, `adj` of the result raises for
    EVERY array `y` (so the exclusion in `C01_adj_total` cannot be dropped); for the conforming `y` the error is the
    dtype error of an operand's guard -/
theorem C01_mixed_sum_adj_fails (A B : TOp) (hgA : A.guard = true) (hgB : B.guard = true) (hd : A.odt ≠ B.odt) :
    (∀ y, ∃ e, (TOp.add A B).adjC y = .error e)
      ∧ (Faithful A → (TOp.add A B).adjC ⟨(TOp.add A B).odt, (TOp.add A B).osh⟩ = .error .dtype) :=
  ⟨add_mixed_adj_fails hgA hgB hd, fun hA => add_mixed_adj_dtype_error hA hgA hgB hd⟩

/-- operands that agree on the output dtype but whose input dtypes do not promote to the first one: `adj` returns an
    array that is NOT of the declared input dtype -/
theorem C01_mixed_sum_adj_wrong_dtype (A B : TOp) (hA : Faithful A) (hB : Faithful B) (hi : A.ish = B.ish)
    (ho : A.osh = B.osh) (hdo : A.odt = B.odt) (hdi : DT.promote A.idt B.idt ≠ A.idt) :
    ∃ d, d ≠ (TOp.add A B).idt ∧
      (TOp.add A B).adjC ⟨(TOp.add A B).odt, (TOp.add A B).osh⟩ = .ok ⟨d, (TOp.add A B).ish⟩ := by
  refine ⟨DT.promote A.idt B.idt, hdi, ?_⟩
  rw [adjC_conforming _ rfl rfl]
  exact (congrArg TOp.sealBlk (add_adjT_ok hA hB hi ho hdo)).trans (sealBlk_ok hA.ish_nh)

/-- RECORDED `linop-T-complex-dtypes` (/repo before 1ee9fab, `TOp.trCoded`): `.T` of an operator with complex input dtype ≠ output dtype
    and a guarded `adj` (`hg`) cannot be evaluated on a conforming input, and `A.T.H.adj(y)` raises the dtype error for the conforming `y` -/
theorem C01_T_coded_dtypes_fail (A : TOp) (hg : A.guard = true) (hc : A.idt.cplx = true) (hd : A.idt ≠ A.odt) :
    (TOp.trCoded A).call ⟨(TOp.trCoded A).idt, (TOp.trCoded A).ish⟩ = .error .dtype
      ∧ (TOp.herm (TOp.trCoded A)).adjC ⟨(TOp.herm (TOp.trCoded A)).odt, (TOp.herm (TOp.trCoded A)).osh⟩ = .error .dtype := by
  have e : TOp.trCoded A
      = { ish := A.osh, osh := A.ish, idt := A.idt, odt := A.odt, guard := true, evalT := A.adjC, adjT := A.call } := by
    unfold TOp.trCoded
    rw [if_pos hc]
  have h1 : (TOp.trCoded A).call ⟨(TOp.trCoded A).idt, (TOp.trCoded A).ish⟩ = .error .dtype := by
    rw [call_conforming _ rfl, e]
    exact congrArg TOp.sealBlk (adjC_dtype_error hg (y := ⟨A.idt, A.osh⟩) hd)
  -- `.H` of it evaluates its adjoint by calling it
  exact ⟨h1, (adjC_conforming _ rfl rfl).trans (congrArg TOp.sealBlk h1)⟩

-- the hypotheses of the negation theorems are met by the recorded witnesses
example : (witnessEnv 0).guard = true ∧ (witnessEnv 2).guard = true ∧ (witnessEnv 0).odt ≠ (witnessEnv 2).odt := by decide
example : (witnessEnv 3).guard = true ∧ (witnessEnv 3).idt.cplx = true ∧ (witnessEnv 3).idt ≠ (witnessEnv 3).odt := by decide

/-! ### the two layers together -/

/-- Every derivation tree that scico's own construction tests accept (typed tree `t`, `wfT`: shapes compared as tuples,
    dtype test of compositions and stacks), read as a value tree `e` with the flags scico computes (`Erase`: the `.T`
    branch from the declared input dtype, replication strides from the shapes), over leaves that satisfy the adjoint
    identity and have the declared sizes: the value tree passes `wf`, the derived operator has the declared flat sizes
    and satisfies the adjoint identity.  (With `C01_adj_total`: and its `adj` never fails for a conforming input.) -/
theorem C01_typed_tree (coded : Bool) (env : Nat → Op K) (envT : Nat → TOp) (hsz : SizesAgree env envT)
    (henv : ∀ i, IsAdj (env i)) {t : TExpr} {e : Expr K} (he : Erase coded envT t e)
    (hw : wfT coded envT t = true) (hp : posOK coded envT t) (hd : divOK e) :
    IsAdj (run env e) ∧ (run env e).nin = (runT coded envT t).ish.size ∧ (run env e).nout = (runT coded envT t).osh.size :=
  have g := erase_good coded env envT hsz he hw hp
  ⟨derived_isAdjW test_id env henv e g.wf, g.nin, g.nout⟩

-- hypotheses of `C01_typed_tree`: matrix leaves of the declared sizes, an accepted typed tree and its erasure
example (A : Nat → Nat → K) :
    let envT : Nat → TOp := fun _ => stdLeaf (.arr [3]) (.arr [2]) .c128 .c128 true
    let env : Nat → Op K := fun _ => Op.mat 2 3 A
    let t : TExpr := .vfin (.vcons (.tr (.herm (.leaf 0))) (.vone (.smul .wcplx (.leaf 0))))
    SizesAgree env envT ∧ wfT false envT t = true ∧ posOK false envT t
      ∧ Erase (α := K) false envT t (.vcons (.tr true (.herm (.leaf 0))) (.vcons (.smul 2 (.leaf 0)) (.vnil 3))) := by
  intro envT env t
  refine ⟨fun _ => ⟨rfl, rfl⟩, by decide, by simp [t, posOK], ?_⟩
  exact .vfin (.vcons (.tr (.herm (.leaf 0))) (.vone (.smul .wcplx 2 (.leaf 0))))

end Scico.Props.C01
