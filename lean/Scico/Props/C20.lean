/-
  Property C20 — learned-model support: application, data iteration and persistence are faithful.

  Model: `Scico.Model.Flax` (FlaxMap.__call__, save/load_variables, IterateData, checkpoint manager,
  trainer loop).  Contracts assumed: `jax.random.permutation key n` is a permutation of `range n` and
  msgpack restore ∘ serialize = id (explicit hypotheses); orbax save/restore of one step is atomic and
  returns the saved tree (built into the model's `save`/`restore`).
-/
import Scico.Proofs.FlaxMap
import Scico.Proofs.FlaxIter
import Scico.Proofs.FlaxTrain
import Mathlib.Data.List.Nodup

namespace Scico.Props.C20
open Scico.Flax

/-- For rank 2, 3, 4 input and ANY rank-preserving network, the wrapper as coded applies the network to
    the canonical `(K,H,W,C)` array and removes exactly the axes it added (error iff one of them is no
    longer a singleton) — i.e. it equals the separately written specification. -/
theorem C20_flaxmap_axes {α : Type} (net : Arr α → Arr α) (x : Arr α)
    (hx : x.shape.length = 2 ∨ x.shape.length = 3 ∨ x.shape.length = 4)
    (hy : (net (canon x)).shape.length = 4) : flaxMap net x = specFlaxMap net x :=
  flaxMap_eq_spec net x (hy.trans (canon_length x hx).symm)

/-- Channel/batch-changing networks characterised: `(H,W)` input succeeds iff the network returns one
    batch entry and one channel; `(H,W,C)` input iff one batch entry (any channel count). -/
theorem C20_flaxmap_channels {α : Type} (net : Arr α → Arr α) (d : List α) (h w c k h' w' c' : Nat) :
    ((net ⟨[1, h, w, 1], d⟩).shape = [k, h', w', c'] →
      flaxMap net ⟨[h, w], d⟩ =
        if k = 1 ∧ c' = 1 then .ok ⟨[h', w'], (net ⟨[1, h, w, 1], d⟩).data⟩ else .error .shape) ∧
    ((net ⟨[1, h, w, c], d⟩).shape = [k, h', w', c'] →
      flaxMap net ⟨[h, w, c], d⟩ =
        if k = 1 then .ok ⟨[h', w', c'], (net ⟨[1, h, w, c], d⟩).data⟩ else .error .shape) := by
  constructor <;> intro hs
  · refine (flaxPost_squeeze 2 _ (net ⟨[1, h, w, 1], d⟩) (by rw [hs]; rfl) (by decide) (Or.inl rfl)).trans ?_
    rw [hs]; exact if_congr (by simp) rfl rfl
  · refine (flaxPost_squeeze 3 _ (net ⟨[1, h, w, c], d⟩) (by rw [hs]; rfl) (by decide) (Or.inr rfl)).trans ?_
    rw [hs]; exact if_congr (by simp) rfl rfl

/-- The axes removed are exactly the axes added: a shape-preserving network gives a result of the
    input's own shape, carrying the network's output data unchanged, for rank 2, 3 and 4. -/
theorem C20_flaxmap_roundtrip {α : Type} (net : Arr α → Arr α) (x : Arr α)
    (hx : x.shape.length = 2 ∨ x.shape.length = 3 ∨ x.shape.length = 4)
    (hnet : (net (canon x)).shape = (canon x).shape) :
    flaxMap net x = .ok ⟨x.shape, (net (canon x)).data⟩ := by
  -- `hx` is not used: the statement holds without it
  rw [flaxMap_eq_spec net x (by rw [hnet]), specFlaxMap, hnet]
  simp only [canon, insertAxes_singletons, removeAxes_insertAxes, if_true]

-- non-vacuity: identity network on a 2×3 image; a 2-channel network on the same image is rejected
example : flaxMap (fun a => a) (⟨[2, 3], [1, 2, 3, 4, 5, 6]⟩ : Arr Nat) = .ok ⟨[2, 3], [1, 2, 3, 4, 5, 6]⟩ := rfl
example : flaxMap (fun a => ⟨[1, 2, 3, 2], a.data ++ a.data⟩) (⟨[2, 3], [1, 2, 3, 4, 5, 6]⟩ : Arr Nat)
    = .error .shape := rfl
example : flaxMap (fun a => ⟨[1, 2, 3, 2], a.data ++ a.data⟩) (⟨[2, 3, 1], [1, 2, 3, 4, 5, 6]⟩ : Arr Nat)
    = .ok ⟨[2, 3, 2], [1, 2, 3, 4, 5, 6, 1, 2, 3, 4, 5, 6]⟩ := rfl

/-- Given the serialisation contract (`de (ser v) = v`), re-loading saved variables returns exactly the
    saved `params` and `batch_stats` sub-trees; a tree lacking one of them is rejected (`KeyError`). -/
theorem C20_variables_roundtrip {τ β : Type} (ser : VarTree τ → β) (de : β → VarTree τ)
    (hser : ∀ v, de (ser v) = v) (v : VarTree τ) :
    (∀ p b, lookup v "params" = some p → lookup v "batch_stats" = some b →
      loadVars de (saveVars ser v) = .ok [("params", p), ("batch_stats", b)]) ∧
    ((lookup v "params" = none ∨ lookup v "batch_stats" = none) →
      loadVars de (saveVars ser v) = .error .key) := by
  constructor
  · intro p b hp hb
    simp [loadVars, saveVars, hser, hp, hb]
  · intro h
    rcases h with h | h
    · simp only [loadVars, saveVars, hser, h]
    · simp only [loadVars, saveVars, hser, h]
      cases lookup v "params" <;> rfl

example : loadVars (fun v => v) (saveVars (fun v => v) [("params", 1), ("batch_stats", 2)])
    = .ok [("params", 1), ("batch_stats", 2)] := rfl

/-- One epoch (the index array built by `reset`): GIVEN that `jax.random.permutation` returns a
    permutation of `range n`, there are `⌊n/b⌋` batches of exactly `b` rows, they are pairwise disjoint
    and drawn without replacement (the concatenation has no duplicate), every row index is valid,
    exactly `⌊n/b⌋·b` distinct samples are covered, and they are the first `⌊n/b⌋·b` entries of the
    permutation.  For all `n`, `b` and both modes. -/
theorem C20_epoch_batches {κ : Type} (K : KeyOps κ) (it : Iter κ) (hspe : it.spe = it.n / it.b)
    (hperm : it.train = true → (K.permutation (K.split it.key).2 it.n).Perm (List.range it.n)) :
    let rows := (Iter.reset K it).perms
    let p := if it.train then K.permutation (K.split it.key).2 it.n else List.range it.n
    rows.length = it.n / it.b ∧ (∀ r ∈ rows, r.length = it.b) ∧ rows.flatten = p.take (it.n / it.b * it.b) ∧
      rows.flatten.Nodup ∧ (∀ i ∈ rows.flatten, i < it.n) ∧ rows.flatten.length = it.n / it.b * it.b ∧
      rows.Pairwise List.Disjoint := by
  intro rows p
  have hp : p.Perm (List.range it.n) := by
    cases ht : it.train with
    | false => simp [p, ht]
    | true => simpa [p, ht] using hperm ht
  have hrows : rows = reshapeRows p (it.n / it.b) it.b := by
    simp only [rows, p, reset_eq, hspe]
  rw [hrows]
  have hle : it.n / it.b * it.b ≤ p.length :=
    (hp.length_eq.trans List.length_range).symm ▸ Nat.div_mul_le_self it.n it.b
  have hflat := flatten_reshapeRows p (it.n / it.b) it.b
  have hnd : (reshapeRows p (it.n / it.b) it.b).flatten.Nodup := by
    rw [hflat]; exact (hp.nodup_iff.mpr List.nodup_range).sublist (List.take_sublist _ _)
  refine ⟨reshapeRows_length _ _ _, reshapeRows_row_length _ _ _ hle, hflat, hnd, fun i hi => ?_, ?_,
    (List.nodup_flatten.mp hnd).2⟩
  · rw [hflat] at hi; exact List.mem_range.mp (hp.subset (List.mem_of_mem_take hi))
  · rw [hflat, List.length_take, Nat.min_eq_left hle]

/-- Pairing: every entry of the data dictionary is indexed by the same row list — entry `i` of each
    key's batch is that key's array at row `rows[i]`, and the keys are those of the dictionary. -/
theorem C20_pairing {ρ : Type} (dt : List (String × (Nat → ρ))) (rows : List Nat) :
    (gather dt rows).map (·.1) = dt.map (·.1) ∧
    ∀ kv ∈ dt, (kv.1, rows.map kv.2) ∈ gather dt rows ∧
      ∀ i (hi : i < rows.length), (rows.map kv.2)[i]? = some (kv.2 rows[i]) := by
  refine ⟨by simp [gather], ?_⟩
  intro kv hkv
  refine ⟨List.mem_map.mpr ⟨kv, hkv, rfl⟩, ?_⟩
  intro i hi
  simp [hi]

/-- Any number of `next` calls (any number of epochs, reset on exhaustion): the `t`-th batch produced by
    the state machine is batch `t mod ⌊n/b⌋` of epoch `t div ⌊n/b⌋`, whose sample order is the
    permutation drawn with the `t div ⌊n/b⌋`-th sub-key of the split chain — a function of
    `(key, n, b, mode, t)` only.  For all `1 ≤ b ≤ n`, all `t`. -/
theorem C20_epochs {κ : Type} (K : KeyOps κ) (key : κ) (n b : Nat) (train : Bool) (t : Nat)
    (hb : 1 ≤ b) (hbn : b ≤ n) :
    ∃ it0 itT, Iter.init K n b train key = .ok it0 ∧
      Iter.run K t it0 = .ok (itT, (List.range t).map (specBatch K key n b train)) := by
  obtain ⟨itT, hrun⟩ := run_stateAt K key n b train (Nat.div_pos hbn hb) t 0 0 (Nat.zero_le _)
  refine ⟨_, itT, init_stateAt K key n b train (by omega), ?_⟩
  rw [hrun, Nat.zero_mul, List.range_eq_range']

/-- Evaluation iterator: dataset order is preserved — the `t`-th batch is rows
    `(t mod ⌊n/b⌋)·b, …, +b−1` in order, cycling after `⌊n/b⌋` batches; the key is never used. -/
theorem C20_eval_order {κ : Type} (K : KeyOps κ) (key : κ) (n b : Nat) (t : Nat) (hb : 1 ≤ b) (hbn : b ≤ n) :
    specBatch K key n b false t = List.range' ((t % (n / b)) * b) b := by
  have hrow := row_end_le (Nat.mod_lt t (Nat.div_pos hbn hb)) (Nat.div_mul_le_self n b)
  simp only [specBatch, epochPerm_eval]
  rw [List.range_eq_range', List.drop_range', List.take_range'_of_length_ge (by omega)]
  simp

/-- Rejections: `batch_size = 0` fails at construction; `batch_size > n` (no complete batch) constructs
    but the first `next` raises `IndexError`, in both modes. -/
theorem C20_iter_errors {κ : Type} (K : KeyOps κ) (key : κ) (n b : Nat) (train : Bool) :
    (b = 0 → Iter.init K n b train key = .error .other) ∧
    (n < b → ∃ it0, Iter.init K n b train key = .ok it0 ∧ Iter.next K it0 = .error .index) := by
  constructor
  · intro h; simp [Iter.init, h]
  · intro h
    -- `n / b = 0`: the initial state `stateAt 0 0` stands at the end of its epoch, and the next epoch has no row 0
    have hnext := next_stateAt_end K key n b train 0
    rw [Nat.div_eq_of_lt h] at hnext
    exact ⟨_, init_stateAt K key n b train (by omega), by rw [hnext, reshapeRows_get_none _ _ _ _ (Nat.le_refl 0)]⟩

-- non-vacuity: n = 7, b = 3, a concrete "key" (epoch counter) with rotating permutations
def exK : KeyOps Nat := ⟨fun k => (k + 1, k), fun k n => (List.range n).rotate (k + 2)⟩
example : (exK.permutation 0 7).Perm (List.range 7) := by decide
example : (do let it ← Iter.init exK 7 3 true 0; let r ← Iter.run exK 5 it; pure r.2 : Except Err _)
    = .ok [[2, 3, 4], [5, 6, 0], [3, 4, 5], [6, 0, 1], [4, 5, 6]] := rfl
example : (do let it ← Iter.init exK 7 3 false 0; let r ← Iter.run exK 3 it; pure r.2 : Except Err _)
    = .ok [[0, 1, 2], [3, 4, 5], [0, 1, 2]] := rfl

/-- Any sequence of saves, in any order, with repetitions, onto any existing directory: the saves that
    take effect are exactly the strict running maxima of the step sequence (a step not larger than the
    latest one present is skipped), and the directory holds the last `max_to_keep` of everything accepted. -/
theorem C20_save_any_order {σ : Type} (k : Nat) (hk : 1 ≤ k) (l : List (Nat × σ)) (ps : List (Nat × σ)) :
    saveAll k (some l) ps = some (lastK k (l ++ records (latest l) ps)) ∨
      (saveAll k (some l) ps = some l ∧ records (latest l) ps = []) :=
  saveAll_eq k hk ps l

/-- Saves at strictly increasing steps into a fresh (missing or empty) directory: the `max_to_keep`
    most recent are kept and `checkpoint_restore` returns the state of the most recent save, whatever
    the passed-in state and the `ok_no_ckpt` flag. -/
theorem C20_restore_latest {σ : Type} (k : Nat) (hk : 1 ≤ k) (ps : List (Nat × σ)) (hne : ps ≠ [])
    (hinc : ps.Pairwise (fun a b => a.1 < b.1)) (d0 : Dir σ) (hd0 : d0 = none ∨ d0 = some [])
    (cur : σ) (ok : Bool) :
    saveAll k d0 ps = some (ps.drop (ps.length - k)) ∧
      restore (saveAll k d0 ps) cur ok = .ok (ps.getLast hne).2 := by
  have hsave : saveAll k d0 ps = some (lastK k ps) := by
    have h0 : saveAll k d0 ps = saveAll k (some []) ps := by
      rcases hd0 with rfl | rfl
      · exact saveAll_none k ps hne
      · rfl
    rw [h0]
    exact saveAll_increasing k hk [] ps (Nat.zero_le k) hinc (fun _ h => nomatch h)
  refine ⟨hsave, ?_⟩
  rw [hsave, restore_sorted _ (lastK_pairwise k ps hinc) (lastK_ne_nil k hk ps hne), lastK_getLast k hk ps hne]

/-- ANY sequence of saves (any order, repetitions, any states) onto any well-formed directory (steps increasing, at most
    `max_to_keep` entries — in particular the empty one), any `max_to_keep ≥ 1`: the directory stays well formed, and if it is not
    empty `checkpoint_restore` returns exactly the state stored LAST in it, which is the one with the largest step —
    whatever the passed-in state and flag. -/
theorem C20_dir_invariant {σ : Type} (k : Nat) (hk : 1 ≤ k) (l : List (Nat × σ)) (hl : DirOk k l) (ps : List (Nat × σ))
    (cur : σ) (ok : Bool) :
    ∃ l', saveAll k (some l) ps = some l' ∧ l'.Pairwise (fun a b => a.1 < b.1) ∧ l'.length ≤ k ∧
      ∀ hne : l' ≠ [], restore (some l') cur ok = .ok (l'.getLast hne).2 ∧ ∀ p ∈ l', p.1 ≤ (l'.getLast hne).1 := by
  -- `hk` is not used: the statement holds without it
  obtain ⟨l', hs, hok⟩ := dirOk_saveAll k ps l hl
  exact ⟨l', hs, hok.1, hok.2, fun hne => ⟨restore_sorted l' hok.1 hne cur ok, fun p hp => (last_sorted l' hok.1 hne p hp).1⟩⟩

example : DirOk 3 ([] : List (Nat × String)) := ⟨List.Pairwise.nil, Nat.zero_le 3⟩
example : saveAll 3 (some []) [(5, "a"), (2, "b"), (7, "c"), (9, "d"), (9, "e"), (12, "f"), (3, "g")]
    = some [(7, "c"), (9, "d"), (12, "f")] := rfl
example : saveAll 3 none [(5, "a"), (2, "b"), (7, "c"), (9, "d"), (9, "e"), (12, "f")]
    = some [(7, "c"), (9, "d"), (12, "f")] := rfl
example : restore (saveAll 3 none [(5, "a"), (2, "b"), (7, "c"), (9, "d"), (9, "e"), (12, "f")]) "" false
    = .ok "f" := rfl

/-- Missing checkpoint handled as documented: no directory, or a directory without any checkpoint,
    returns the passed-in state when `ok_no_ckpt`, and is an error otherwise. -/
theorem C20_restore_missing {σ : Type} (cur : σ) (d : Dir σ) (hd : d = none ∨ d = some []) :
    restore d cur true = .ok cur ∧ restore d cur false = .error .other := by
  rcases hd with rfl | rfl <;> exact ⟨rfl, rfl⟩

/-- Resume offset (any `max_to_keep ≥ 1`; the code uses 3): a `train()` against a directory whose latest checkpoint is step `s ≤ N₁` executes
    exactly steps `s … N₁−1` and leaves `N₁` as latest step; a later `train()` with `N₂ ≥ N₁` executes
    exactly `N₁ … N₂−1`.  Together they execute every step of the uninterrupted run once, none twice. -/
theorem C20_resume_offset (k : Nat) (hk : 1 ≤ k) (d : Dir Nat) (hc : Coh d) (N₁ N₂ spc : Nat) (hspc : 1 ≤ spc)
    (hs : stepOf (latestD d) ≤ N₁) (h12 : N₁ ≤ N₂) :
    ∃ d₁ d₂ d₂', let s := stepOf (latestD d)
      trainRun k d N₁ spc = .ok (List.range' s (N₁ - s), d₁) ∧
      restore d₁ 0 true = .ok N₁ ∧
      trainRun k d₁ N₂ spc = .ok (List.range' N₁ (N₂ - N₁), d₂) ∧
      trainRun k d N₂ spc = .ok (List.range' s (N₂ - s), d₂') ∧
      List.range' s (N₁ - s) ++ List.range' N₁ (N₂ - N₁) = List.range' s (N₂ - s) ∧
      restore d₂ 0 true = .ok N₂ ∧ restore d₂' 0 true = .ok N₂ := by
  -- `hspc` is not used: the statement holds without it
  -- the two-run case of `C20_resume_chain`, but on `trainRun` (§5 of the model), which no lemma relates to the `trainChain` (§6) of that theorem
  obtain ⟨d₁, h1, hc1, hl1⟩ := trainRun_spec k hk d hc N₁ spc hs
  have hs1 : stepOf (latestD d₁) = N₁ := by rw [hl1]; rfl
  obtain ⟨d₂, h2, hc2, hl2⟩ := trainRun_spec k hk d₁ hc1 N₂ spc (by rw [hs1]; exact h12)
  obtain ⟨d₂', h2', hc2', hl2'⟩ := trainRun_spec k hk d hc N₂ spc (Nat.le_trans hs h12)
  rw [hs1] at h2
  exact ⟨d₁, d₂, d₂', h1, restore_coh_of_latestD d₁ hc1 hl1, h2, h2', range'_append_sub _ _ _ hs h12,
    restore_coh_of_latestD d₂ hc2 hl2, restore_coh_of_latestD d₂' hc2' hl2'⟩

-- non-vacuity: the sequence observed on the real trainer (n=6, b=2: 3 steps/epoch, checkpoint every 2)
example : Coh none ∧ stepOf (latestD (none : Dir Nat)) ≤ 3 := ⟨fun _ h => (nomatch h), Nat.zero_le 3⟩
example : trainRun 3 none 3 2 = .ok ([0, 1, 2], some [(2, 2), (3, 3)]) := rfl
example : trainRun 3 (some [(2, 2), (3, 3)]) 9 2 = .ok ([3, 4, 5, 6, 7, 8], some [(6, 6), (8, 8), (9, 9)]) := rfl

/-! ### trainer bookkeeping (`BasicFlaxTrainer`: derived counters, sessions, chains of sessions) -/

/-- ANY chain of trainer runs sharing one checkpoint directory (any number of runs, any targets `Nᵢ =
    ⌊len/b⌋·epochs` in any order — also smaller than what was already reached —, any checkpoint period,
    any `max_to_keep ≥ 1`): run `i` executes exactly the steps from the largest target reached so far up to
    `Nᵢ−1` (nothing if `Nᵢ` was already reached); concatenated, every step from the initial latest step to the
    largest target is executed exactly once, in order; the directory's latest step is that largest target. -/
theorem C20_resume_chain (k : Nat) (hk : 1 ≤ k) (cs : List TrainCfg) (hcs : ∀ c ∈ cs, c.Resuming)
    (d : Dir Nat) (hd : Coh d) :
    ∃ outs d', let s₀ := stepOf (latestD d); let Ns := cs.map (·.numSteps)
      trainChain k d cs = .ok (outs, d') ∧ outs = specChain s₀ Ns ∧
      outs.flatten = List.range' s₀ (Ns.foldl max s₀ - s₀) ∧ outs.flatten.Nodup ∧
      restore d' 0 true = .ok (Ns.foldl max s₀) := by
  obtain ⟨d', hch, hcoh, hlat⟩ := trainChain_spec k hk cs hcs d hd
  refine ⟨_, d', hch, rfl, specChain_flatten _ _, ?_, ?_⟩
  · rw [specChain_flatten]; exact List.nodup_range'
  · rw [restore_coh d' hcoh, hlat]

/-- One run that resumes (checkpointing on, no `variables0`): it starts at the latest step `s` of the
    directory, executes `s … N−1` with `N = ⌊len_train/b⌋·epochs`, step `s+i` consuming batch `i` of the run's own
    (re-started) training iterator; with logging on, the evaluation iterator is advanced by exactly
    `steps_per_eval · (⌊max(s,N)/L⌋ − ⌊s/L⌋)` batches (`L = log_every_steps`), and a second `train()` on the same
    object (`self.state` is not written back) repeats the same steps — on the NEXT `N−s` batches of the same iterator —
    without changing the directory (its saves are all skipped). -/
theorem C20_train_session (k : Nat) (hk : 1 ≤ k) (c : TrainCfg) (hc : c.Resuming) (d : Dir Nat) (hd : Coh d) :
    ∃ o o', let s := stepOf (latestD d)
      trainSession k c d = .ok o ∧ o.offset = s ∧
      o.events.map (·.step) = List.range' s (c.numSteps - s) ∧
      o.events.map (·.batch) = List.range (c.numSteps - s) ∧
      (c.logflag = true → o.evalBatches = c.stepsPerEval * (max s c.numSteps / c.logEvery - s / c.logEvery)) ∧
      restore o.dir 0 true = .ok (max s c.numSteps) ∧
      trainAgain k c o = .ok o' ∧ o'.events.map (·.step) = o.events.map (·.step) ∧
      o'.events.map (·.batch) = List.range' (c.numSteps - s) (c.numSteps - s) ∧ o'.dir = o.dir := by
  obtain ⟨o', hagain, hev, hdir⟩ := trainAgain_spec k hk c hc d hd
  obtain ⟨hcoh, hlat⟩ := session_dir k hk c hc d hd
  have hbatch := loopEvs_batch c (stepOf (latestD d))
  refine ⟨_, o', trainSession_resuming k c hc d hd, rfl, loopEvs_step c _, ?_, fun hlf => ?_,
    restore_coh_of_latestD _ hcoh hlat, hagain, ?_, ?_, hdir⟩
  · have h0 := hbatch 0
    rwa [List.map_map, ← List.range_eq_range'] at h0
  · show (if c.logflag then _ else 0) = _
    rw [if_pos hlf, loopEvs_logged]
  · rw [hev, List.map_map]; rfl
  · rw [hev]; exact (hbatch _).trans (congrArg (List.range' · _) (loopEvs_length c _))

/-- No resume when it is not asked for: without checkpointing, or with `variables0` given, a run starts at
    step 0 whatever the directory holds; without checkpointing the directory is left untouched. -/
theorem C20_train_fresh_start (k : Nat) (c : TrainCfg) (d : Dir Nat) (hb : 0 < c.batchSize)
    (h : c.checkpointing = false ∨ c.hasVars0 = true) (hz : (1 ≤ c.logEvery ∧ 1 ≤ c.spc) ∨ c.numSteps = 0) :
    ∃ o, trainSession k c d = .ok o ∧ o.offset = 0 ∧ o.events.map (·.step) = List.range c.numSteps ∧
      (c.checkpointing = false → o.dir = d) := by
  have hb' : c.batchSize ≠ 0 := by omega
  have hoffs : sessionOffset c d = .ok 0 := by
    rcases h with h | h <;> simp [sessionOffset, h]
  have hloop := sessionLoop_eq c 0 (hz.imp_right Nat.le_of_eq)
  refine ⟨_, trainSession_eq k c d 0 _ hb' hoffs hloop, rfl, ?_, fun hck => ?_⟩
  · rw [List.range_eq_range']; exact loopEvs_step c 0
  · simp only [outcome, hck, Bool.false_eq_true, if_false]

/-- The rejections are real (nothing is totalised): `batch_size = 0` fails in `configure_steps`
    (`len_train // batch_size`); a checkpoint period or log period of 0 fails in the first loop iteration
    (`ZeroDivisionError`) — unless the loop is empty. -/
theorem C20_train_errors (k : Nat) (c : TrainCfg) (d : Dir Nat) :
    (c.batchSize = 0 → trainSession k c d = .error .other) ∧
    (∀ offset, offset < c.numSteps → (c.logEvery = 0 ∨ c.spc = 0) → sessionLoop c offset = .error .other) ∧
    (∀ offset, c.numSteps ≤ offset → sessionLoop c offset = .ok []) := by
  refine ⟨fun h => by simp [trainSession, h], fun offset h1 h2 => by simp [sessionLoop, h1, h2], ?_⟩
  intro offset h
  rw [sessionLoop_eq c offset (Or.inr h), loopEvs, Nat.sub_eq_zero_of_le h]
  rfl

def exCfg0 (ep : Nat) : TrainCfg :=
  { lenTrain := 6, lenTest := 6, batchSize := 2, numEpochs := ep, spcOpt := some 2, logOpt := some 4, evalOpt := none,
    checkpointing := true, hasVars0 := false, logflag := true }

/-- The loop of `train()` run one iteration at a time (`loopStep`: append to `train_metrics`, test the log period, hand the list
    to `update_metrics` and empty it, test the checkpoint condition) against the closed form, for every configuration with
    periods ≥ 1 and every start offset: the recorded events are exactly those of `sessionLoop`; `update_metrics` is called at
    exactly the steps `s` with `L ∣ s+1`, and the list it receives at step `s` has `min(L, s+1−offset)` entries — a full window
    of `L` steps except for the first call of a resumed run, never empty; what is left in `train_metrics` at the end. -/
theorem C20_train_loop (c : TrainCfg) (hL : 1 ≤ c.logEvery) (hS : 1 ≤ c.spc) (offset : Nat) :
    let st := loopRun c offset
    let steps := List.range' offset (c.numSteps - offset)
    sessionLoop c offset = .ok st.evs ∧
    st.windows.map (·.1) = steps.filter (fun s => (s + 1) % c.logEvery == 0) ∧
    (∀ w ∈ st.windows, w.2 = min c.logEvery (w.1 + 1 - offset) ∧ 1 ≤ w.2) ∧
    st.metrics = min (c.numSteps - offset) ((offset + (c.numSteps - offset)) % c.logEvery) := by
  intro st steps
  have hspec : st = _ := loopRunN_spec c hL offset (c.numSteps - offset)
  refine ⟨?_, ?_, ?_, ?_⟩
  · rw [hspec]; exact sessionLoop_eq c offset (Or.inl ⟨hL, hS⟩)
  · rw [hspec]; exact (List.map_map ..).trans (List.map_id _)
  · intro w hw
    rw [hspec] at hw
    obtain ⟨s, hs, rfl⟩ := List.mem_map.mp hw
    have := List.mem_range'_1.mp (List.mem_of_mem_filter hs)
    exact ⟨rfl, by show 1 ≤ min c.logEvery (s + 1 - offset); omega⟩
  · rw [hspec]

-- non-vacuity: resumed at step 3 of 9, log every 4: update_metrics at steps 3 and 7 with 1 and 4 entries; 1 entry left over
example : (loopRun (exCfg0 3) 3).windows = [(3, 1), (7, 4)] ∧ (loopRun (exCfg0 3) 3).metrics = 1 := ⟨rfl, rfl⟩

/-- Data order of a resumed run: step `s+i` of a run that resumes at step `s` is trained on the rows the run's own
    iterator state machine (§3, started from the run's key) produces as its `i`-th batch, i.e. `specBatch … i` — the
    uninterrupted run would use `specBatch … (s+i)` for the same step.  For all sizes `1 ≤ b ≤ n`, all keys. -/
theorem C20_resume_data_order {κ : Type} (K : KeyOps κ) (key : κ) (k : Nat) (hk : 1 ≤ k) (c : TrainCfg) (hc : c.Resuming)
    (hb : 1 ≤ c.batchSize) (hbn : c.batchSize ≤ c.lenTrain) (d : Dir Nat) (hd : Coh d) :
    ∃ o it0 itT, let s := stepOf (latestD d)
      trainSession k c d = .ok o ∧ Iter.init K c.lenTrain c.batchSize true key = .ok it0 ∧
      Iter.run K (c.numSteps - s) it0 = .ok (itT, (sessionRows K key c.lenTrain c.batchSize o.events).map (·.2)) ∧
      (sessionRows K key c.lenTrain c.batchSize o.events).map (·.1) = List.range' s (c.numSteps - s) := by
  obtain ⟨o, _, ho, _, hsteps, hbatch, _, _, _, _, _, _⟩ := C20_train_session k hk c hc d hd
  obtain ⟨it0, itT, hinit, hrun⟩ := C20_epochs K key c.lenTrain c.batchSize true (c.numSteps - stepOf (latestD d)) hb hbn
  exact ⟨o, it0, itT, ho, hinit, by rw [hrun, sessionRows_rows, hbatch], by rw [sessionRows_step]; exact hsteps⟩

-- non-vacuity: the chain run on the real trainer (n=6, b=2 → 3 steps/epoch; epochs 1, 3, 3, 2; checkpoint every 2)
def exCfg (ep : Nat) : TrainCfg :=
  { lenTrain := 6, lenTest := 6, batchSize := 2, numEpochs := ep, spcOpt := some 2, logOpt := some 4, evalOpt := none,
    checkpointing := true, hasVars0 := false, logflag := true }
example : (exCfg 3).Resuming := ⟨by decide, rfl, rfl, by decide, by decide⟩
example : trainChain 3 none [exCfg 1, exCfg 3, exCfg 3, exCfg 2] =
    .ok ([[0, 1, 2], [3, 4, 5, 6, 7, 8], [], []], some [(6, 6), (8, 8), (9, 9)]) := rfl
example : (trainSession 3 (exCfg 3) (some [(2, 2), (3, 3)])).map (·.evalBatches) = .ok (3 * (9 / 4 - 3 / 4)) := rfl
example : (trainSession 3 { exCfg 3 with spcOpt := some 0 } none).map (·.offset) = .error .other := rfl
-- non-vacuity / the restart is visible: n = 7, b = 3 (2 steps per epoch), resumed at step 1 of 4: step 1 is trained on
-- batch 0 of the new iterator, [2,3,4]; the uninterrupted run trains step 1 on batch 1, [5,6,0]
example : (trainSession 3 { exCfg 2 with lenTrain := 7, batchSize := 3 } (some [(1, 1)])).map
    (fun o => sessionRows exK 0 7 3 o.events) = .ok [(1, [2, 3, 4]), (2, [5, 6, 0]), (3, [3, 4, 5])] := rfl
example : (trainSession 3 { exCfg 2 with lenTrain := 7, batchSize := 3 } none).map
    (fun o => sessionRows exK 0 7 3 o.events) = .ok [(0, [2, 3, 4]), (1, [5, 6, 0]), (2, [3, 4, 5]), (3, [6, 0, 1])] := rfl

end Scico.Props.C20
