/-
  Property C14 — linear-system and scalar solver primitives meet their contracts.

  Conventions: `𝕜` is ℝ or ℂ (`RCLike`), `V` any inner-product space over `𝕜` (so ℝⁿ, ℂⁿ, arrays of any
  shape, block arrays); `K` any field (matrix identities) resp. any linearly ordered field (bisect, golden).
-/
import Scico.Proofs.LinSolveArgmin
import Scico.Proofs.LinSolveATAD
import Scico.Proofs.LinSolveScalar
import Scico.Proofs.LinSolveCGRate
import Scico.Proofs.LinSolveCGJax
import Mathlib.Analysis.InnerProductSpace.Basic
import Mathlib.Tactic.NormNum
import Mathlib.Topology.Order.IntermediateValue
import Mathlib.Topology.Algebra.Order.Field
import Mathlib.Topology.MetricSpace.Pseudo.Defs

namespace Scico.Props.C14
open Scico.LinSolve RCLike

section CG
variable {𝕜 V : Type} [RCLike 𝕜] [NormedAddCommGroup V] [InnerProductSpace 𝕜 V]

/-- **CG loop invariant, every iteration count.**  For any linear `A`, any map `M`, any `b, x0`, any
    tolerance and any `maxiter`: every state the `while` loop of `scico.solver.cg` visits (hence also the
    returned one) satisfies `r = b − A x`, `z = M r`, `num = ⟪r, z⟫`. -/
theorem C14_cg_invariant (A : V →ₗ[𝕜] V) (M : V → V) (b x0 : V) (tolsq : ℝ) (maxiter : Nat) :
    ∀ s ∈ cgRun (rcOps 𝕜 V) A M maxiter tolsq maxiter (cgInit (rcOps 𝕜 V) A M b x0),
      s.r = b - A s.x ∧ s.z = M s.r ∧ s.num = inner 𝕜 s.r s.z := by
  intro s hs
  have := fuelRun_inv _ _ (cgRun (rcOps 𝕜 V) A M maxiter tolsq) (fun _ => rfl) (fun _ _ => rfl) _ (cgStep_inv A M b)
    maxiter _ (cgInit_inv A M b x0) s hs
  exact ⟨this.res, this.pre, this.num⟩

/-- **What `cg` returns.**  With `r = b − A x` the residual of the *returned* `x` and `num = ⟪r, M r⟫`:
    `info.rel_res = sqrt(num).real / ‖b‖`, `num_iter ≤ maxiter`, and the loop was left because
    `num_iter = maxiter` or because `num > max(tol‖b‖, atol)²` is false (jax's lexicographic `>`). -/
theorem C14_cg_exit (A : V →ₗ[𝕜] V) (M : V → V) (b x0 : V) (tol atol : ℝ) (maxiter : Nat) :
    let out := cg (rcOps 𝕜 V) A M b x0 tol atol maxiter
    let r := b - A out.1
    let num : 𝕜 := inner 𝕜 r (M r)
    out.2.relRes = (rcOps 𝕜 V).sqrtRe num / ‖b‖ ∧ out.2.numIter ≤ maxiter ∧
      (out.2.numIter = maxiter ∨
        ¬ (cgTolSq tol atol ‖b‖ < re num ∨ (cgTolSq tol atol ‖b‖ = re num ∧ 0 < im num))) :=
  cg_spec A M b x0 tol atol maxiter

/-- for a Hermitian positive semi-definite preconditioner `num` is real and non-negative, so the reported
    value is `√⟪r, M r⟫ / ‖b‖` (the `M`-weighted residual) and the exit test is `⟪r, M r⟫ ≤ max(tol‖b‖, atol)²` -/
theorem C14_cg_exit_precond (A : V →ₗ[𝕜] V) (M : V → V) (hMs : ∀ x y, inner 𝕜 (M x) y = inner 𝕜 x (M y))
    (hMp : ∀ x, 0 ≤ re (inner 𝕜 x (M x))) (b x0 : V) (tol atol : ℝ) (maxiter : Nat) :
    let out := cg (rcOps 𝕜 V) A M b x0 tol atol maxiter
    let r := b - A out.1
    out.2.relRes = Real.sqrt (re (inner 𝕜 r (M r))) / ‖b‖ ∧
      (out.2.numIter = maxiter ∨ re (inner 𝕜 r (M r)) ≤ (max (tol * ‖b‖) atol) ^ 2) := by
  intro out r
  obtain ⟨h1, _, h3⟩ := cg_spec A M b x0 tol atol maxiter
  have him := im_inner_herm M hMs r
  refine ⟨by rw [h1, sqrtRe_of_real_nonneg _ him (hMp r)], ?_⟩
  rcases h3 with h | h
  · exact Or.inl h
  · right
    push Not at h
    have := h.1
    simpa [cgTolSq, sq] using this

/-- **`M = None`: the reported `rel_res` is the true relative residual of the returned `x`** (`b ≠ 0`
    is only needed for the quotient to make sense), and the solver stopped because the budget was used up
    or because `‖b − A x‖ ≤ max(tol ‖b‖, atol)`. -/
theorem C14_cg_rel_res_true (A : V →ₗ[𝕜] V) (b x0 : V) (tol atol : ℝ) (maxiter : Nat) (hb : b ≠ 0)
    (htol : 0 ≤ max (tol * ‖b‖) atol) :
    let out := cg (rcOps 𝕜 V) A (fun v => v) b x0 tol atol maxiter
    out.2.relRes * ‖b‖ = ‖b - A out.1‖ ∧
      (out.2.numIter = maxiter ∨ ‖b - A out.1‖ ≤ max (tol * ‖b‖) atol) := by
  intro out
  obtain ⟨h1, h2⟩ := cg_spec_noprecond A b x0 tol atol maxiter htol
  refine ⟨?_, h2⟩
  rw [h1, div_mul_cancel₀ _ (norm_ne_zero_iff.2 hb)]

/-- **zero right-hand side** (where the code's `rel_res` is `0/0` or `x/0`, i.e. NaN/inf, and no relative
    residual exists): the returned `x` still meets the absolute stopping rule `‖A x‖ ≤ atol`, unless
    `maxiter` iterations were used. -/
theorem C14_cg_zero_rhs (A : V →ₗ[𝕜] V) (x0 : V) (tol atol : ℝ) (maxiter : Nat) (hatol : 0 ≤ atol) :
    let out := cg (rcOps 𝕜 V) A (fun v => v) (0 : V) x0 tol atol maxiter
    out.2.numIter = maxiter ∨ ‖A out.1‖ ≤ atol := by
  intro out
  have h := (cg_spec_noprecond (𝕜 := 𝕜) A (0 : V) x0 tol atol maxiter (by simp [hatol])).2
  simpa [hatol] using h

/-- **Non-zero starting point that already solves the system** (`A x0 = b`, any `x0`, any preconditioner, any tolerances, any
    `maxiter`): the initial residual is `b − A x0 = 0`, the loop body is never entered, `cg` returns `x0` itself with `num_iter = 0`.
    (The stopping reference is `‖b‖`, not `‖r₀‖`: with the latter the test `0 > (tol·0)²` would also be false, but for `r₀ ≠ 0` the two
    rules differ — `C14_cg_exit` states the rule with `‖b‖` for every `x0`.) -/
theorem C14_cg_start_at_solution (A : V →ₗ[𝕜] V) (M : V → V) (b x0 : V) (h : A x0 = b) (tol atol : ℝ) (maxiter : Nat) :
    (cg (rcOps 𝕜 V) A M b x0 tol atol maxiter).1 = x0 ∧ (cg (rcOps 𝕜 V) A M b x0 tol atol maxiter).2.numIter = 0 := by
  have hnum : (cgSeq (𝕜 := 𝕜) (⇑A) M b x0 0).num = 0 := by
    show inner 𝕜 (b - A x0) (M (b - A x0)) = 0
    rw [h, sub_self, inner_zero_left]
  -- the loop test fails at the initial state, so no body runs
  obtain ⟨k, he, _, hmin⟩ := cgLoop_eq_cgSeq (𝕜 := 𝕜) (⇑A) M b x0 maxiter (cgTolSq tol atol ‖b‖)
  obtain rfl : k = 0 := Nat.le_zero.1 (hmin 0 (cgCond_false_of_num_zero maxiter (cgTolSq_nonneg tol atol ‖b‖) hnum))
  exact ⟨congrArg CGState.x he, congrArg CGState.ii he⟩

/-- **No division by zero.**  For Hermitian positive-definite `A` and Hermitian `M`, as long as the loop
    condition holds (with a non-negative threshold) both denominators of the next step — `⟪p, A p⟫` for
    `alpha` and `num` for `beta` — are non-zero. -/
theorem C14_cg_no_breakdown (A : V →ₗ[𝕜] V) (M : V → V) (b x0 : V)
    (hAs : ∀ x y, inner 𝕜 (A x) y = inner 𝕜 x (A y)) (hAp : ∀ x, x ≠ 0 → 0 < re (inner 𝕜 x (A x)))
    (hM : ∀ x y, inner 𝕜 (M x) y = inner 𝕜 x (M y)) (maxiter : Nat) (tolsq : ℝ) (htol : 0 ≤ tolsq) (j : Nat)
    (hj : ∀ i ≤ j, cgCond (rcOps 𝕜 V) maxiter tolsq ((cgStep (rcOps 𝕜 V) A M)^[i] (cgInit (rcOps 𝕜 V) A M b x0)) = true) :
    let s := (cgStep (rcOps 𝕜 V) A M)^[j] (cgInit (rcOps 𝕜 V) A M b x0)
    s.num ≠ 0 ∧ inner 𝕜 s.p (A s.p) ≠ 0 := by
  have hnum := fun i hi => num_ne_zero_of_cond maxiter tolsq htol _ (hj i hi)
  have hinv := (cgConj A M b x0 hAs hAp hM j (fun i hi => hnum i hi.le)).inv j le_rfl
  exact ⟨hnum j le_rfl, hinv.den_ne_zero hAp (hnum j le_rfl)⟩

-- non-vacuity: on V = ℝ the map x ↦ 2x is Hermitian positive definite, the identity is Hermitian
example : ∃ A : ℝ →ₗ[ℝ] ℝ, (∀ x y, inner ℝ (A x) y = inner ℝ x (A y)) ∧ (∀ x, x ≠ 0 → 0 < re (inner ℝ x (A x))) := by
  refine ⟨(2 : ℝ) • LinearMap.id, ?_, ?_⟩
  · intro x y
    rw [LinearMap.smul_apply, LinearMap.smul_apply, real_inner_smul_left, real_inner_smul_right]; rfl
  · intro x hx
    rw [LinearMap.smul_apply, LinearMap.id_apply, real_inner_smul_right, real_inner_self_eq_norm_sq, RCLike.re_to_real]
    exact mul_pos two_pos (pow_pos (norm_pos_iff.2 hx) 2)

/-! ### classical CG theory for the loop of `scico.solver.cg`

`cgSeq A M b x0 j` is the state after `j` loop bodies.  The hypothesis `num_j ≠ 0` is what the loop test guarantees for
every body it executes (`num > max(tol‖b‖, atol)² ≥ 0`, lemma `num_ne_zero_of_cond`). -/

/-- **Orthogonality and conjugacy, by induction over the iteration count.**  For Hermitian positive-definite `A` and
    Hermitian `M` (real and complex), as long as `num_j ≠ 0` for `j < k`: for all `j < i ≤ k` the residual `r_i` is
    orthogonal to the earlier search direction `p_j` and `M`-orthogonal to the earlier residual `r_j`
    (`M = None`: the residuals are mutually orthogonal), and the search directions are `A`-conjugate. -/
theorem C14_cg_conjugacy (A : V →ₗ[𝕜] V) (M : V → V) (b x0 : V)
    (hAs : ∀ x y, inner 𝕜 (A x) y = inner 𝕜 x (A y)) (hAp : ∀ x, x ≠ 0 → 0 < re (inner 𝕜 x (A x)))
    (hM : ∀ x y, inner 𝕜 (M x) y = inner 𝕜 x (M y)) (k : Nat)
    (hrun : ∀ j < k, (cgSeq (𝕜 := 𝕜) (⇑A) M b x0 j).num ≠ 0) (i j : Nat) (hji : j < i) (hik : i ≤ k) :
    inner 𝕜 (cgSeq (𝕜 := 𝕜) (⇑A) M b x0 i).r (cgSeq (𝕜 := 𝕜) (⇑A) M b x0 j).p = 0 ∧
    inner 𝕜 (cgSeq (𝕜 := 𝕜) (⇑A) M b x0 i).p (A (cgSeq (𝕜 := 𝕜) (⇑A) M b x0 j).p) = 0 ∧
    inner 𝕜 (cgSeq (𝕜 := 𝕜) (⇑A) M b x0 i).r (M (cgSeq (𝕜 := 𝕜) (⇑A) M b x0 j).r) = 0 := by
  have hC := cgConj A M b x0 hAs hAp hM k hrun
  refine ⟨hC.orth i j hji hik, hC.conj i j hji hik, ?_⟩
  rw [← (hC.inv j (by omega)).pre]
  exact inner_z_of_inner_p A M b x0 _ j (hC.orth i j hji hik)
    (fun j' hj' => hC.orth i j' (by omega) hik)

/-- **Every executed body decreases the `A`-norm of the error**, by exactly `num² / ⟪p, A p⟫`: with `A x⋆ = b`,
    `‖x⋆ − x_{k+1}‖²_A = ‖x⋆ − x_k‖²_A − num_k² / ⟪p_k, A p_k⟫ < ‖x⋆ − x_k‖²_A`. -/
theorem C14_cg_error_decreases (A : V →ₗ[𝕜] V) (M : V → V) (b x0 xs : V) (hxs : A xs = b)
    (hAs : ∀ x y, inner 𝕜 (A x) y = inner 𝕜 x (A y)) (hAp : ∀ x, x ≠ 0 → 0 < re (inner 𝕜 x (A x)))
    (hM : ∀ x y, inner 𝕜 (M x) y = inner 𝕜 x (M y)) (k : Nat)
    (hrun : ∀ j ≤ k, (cgSeq (𝕜 := 𝕜) (⇑A) M b x0 j).num ≠ 0) :
    let errA := fun x : V => re (inner 𝕜 (xs - x) (A (xs - x)))
    let s := cgSeq (𝕜 := 𝕜) (⇑A) M b x0 k
    errA (cgSeq (𝕜 := 𝕜) (⇑A) M b x0 (k + 1)).x = errA s.x - (re s.num) ^ 2 / re (inner 𝕜 s.p (A s.p)) ∧
      errA (cgSeq (𝕜 := 𝕜) (⇑A) M b x0 (k + 1)).x < errA s.x := by
  intro errA s
  have hC := cgConj A M b x0 hAs hAp hM k (fun j hj => hrun j (by omega))
  have hinv := hC.inv k le_rfl
  have hnum := hrun k le_rfl
  have heq := cgStep_energy A M b xs hxs hAs s hinv (hinv.den_ne_zero hAp hnum)
  rw [← cgSeq_succ] at heq
  refine ⟨heq, ?_⟩
  have hdpos := hAp s.p (hinv.p_ne_zero hnum)
  have hre : re s.num ≠ 0 := by
    intro h0
    apply hnum
    rw [← re_add_im s.num, hinv.real, h0]; simp
  exact heq.trans_lt (sub_lt_self _ (div_pos (by positivity) hdpos))

/-- **CG is optimal over the search space.**  With `A x⋆ = b`: for every `v` in the span of the directions `p_0 … p_{k-1}` used
    so far, `‖x⋆ − (x_k + v)‖²_A = ‖x⋆ − x_k‖²_A + ‖v‖²_A ≥ ‖x⋆ − x_k‖²_A` — the `k`-th iterate minimises the `A`-norm of
    the error over `x_k + span{p_j}`, the span of the search directions. -/
theorem C14_cg_optimal (A : V →ₗ[𝕜] V) (M : V → V) (b x0 xs : V) (hxs : A xs = b)
    (hAs : ∀ x y, inner 𝕜 (A x) y = inner 𝕜 x (A y)) (hAp : ∀ x, x ≠ 0 → 0 < re (inner 𝕜 x (A x)))
    (hM : ∀ x y, inner 𝕜 (M x) y = inner 𝕜 x (M y)) (k : Nat)
    (hrun : ∀ j < k, (cgSeq (𝕜 := 𝕜) (⇑A) M b x0 j).num ≠ 0) (v : V)
    (hv : v ∈ Submodule.span 𝕜 (Set.range fun j : Fin k => (cgSeq (𝕜 := 𝕜) (⇑A) M b x0 j.val).p)) :
    let xk := (cgSeq (𝕜 := 𝕜) (⇑A) M b x0 k).x
    re (inner 𝕜 (xs - (xk + v)) (A (xs - (xk + v)))) = re (inner 𝕜 (xs - xk) (A (xs - xk))) + re (inner 𝕜 v (A v)) ∧
      re (inner 𝕜 (xs - xk) (A (xs - xk))) ≤ re (inner 𝕜 (xs - (xk + v)) (A (xs - (xk + v)))) :=
  cg_optimal A M b x0 xs hxs hAs hAp hM k hrun v hv

/-- **Convergence rate** (no preconditioner).  If `m ‖v‖² ≤ ⟪v, A v⟫ ≤ L ‖v‖²` with `0 < m ≤ L` (so `κ = L/m`), then while the loop
    runs `‖x⋆ − x_k‖²_A ≤ (1 − m/L)^k ‖x⋆ − x_0‖²_A`, i.e. `‖e_k‖_A ≤ (1 − 1/κ)^{k/2} ‖e_0‖_A`: by optimality over the span of the search directions
    CG is at least as good as exact-line-search steepest descent in every body.  (The sharper Chebyshev bound
    `2((√κ−1)/(√κ+1))^k` is not proved.) -/
theorem C14_cg_rate (A : V →ₗ[𝕜] V) (b x0 xs : V) (hxs : A xs = b)
    (hAs : ∀ x y, inner 𝕜 (A x) y = inner 𝕜 x (A y)) (m L : ℝ) (hm : 0 < m) (hmL : m ≤ L)
    (hlo : ∀ v, m * ‖v‖ ^ 2 ≤ re (inner 𝕜 v (A v))) (hhi : ∀ v, re (inner 𝕜 v (A v)) ≤ L * ‖v‖ ^ 2) (k : Nat)
    (hrun : ∀ j < k, (cgSeq (𝕜 := 𝕜) (⇑A) (fun v => v) b x0 j).num ≠ 0) :
    re (inner 𝕜 (xs - (cgSeq (𝕜 := 𝕜) (⇑A) (fun v => v) b x0 k).x) (A (xs - (cgSeq (𝕜 := 𝕜) (⇑A) (fun v => v) b x0 k).x)))
      ≤ (1 - m / L) ^ k * re (inner 𝕜 (xs - x0) (A (xs - x0))) := by
  have hfac : 0 ≤ 1 - m / L := by
    have : m / L ≤ 1 := (div_le_one (lt_of_lt_of_le hm hmL)).2 hmL
    linarith
  induction k with
  | zero => simp [cgSeq, cgInit]
  | succ k ih =>
    have h1 := cg_rate_step A b x0 xs hxs hAs m L hm hlo hhi k (fun j hj => hrun j (by omega))
    have h2 := ih (fun j hj => hrun j (by omega))
    calc _ ≤ (1 - m / L) * _ := h1
      _ ≤ (1 - m / L) * ((1 - m / L) ^ k * re (inner 𝕜 (xs - x0) (A (xs - x0)))) := mul_le_mul_of_nonneg_left h2 hfac
      _ = (1 - m / L) ^ (k + 1) * re (inner 𝕜 (xs - x0) (A (xs - x0))) := by ring

-- non-vacuity of the spectral bounds: A = 2·id on ℝ has m = L = 2
example : ∀ v : ℝ, (2 : ℝ) * ‖v‖ ^ 2 ≤ re (inner ℝ v (((2 : ℝ) • LinearMap.id : ℝ →ₗ[ℝ] ℝ) v)) ∧
    re (inner ℝ v (((2 : ℝ) • LinearMap.id : ℝ →ₗ[ℝ] ℝ) v)) ≤ 2 * ‖v‖ ^ 2 := by
  intro v
  have h : re (inner ℝ v (((2 : ℝ) • LinearMap.id : ℝ →ₗ[ℝ] ℝ) v)) = 2 * ‖v‖ ^ 2 := by
    rw [LinearMap.smul_apply, LinearMap.id_apply, real_inner_smul_right, real_inner_self_eq_norm_sq, RCLike.re_to_real]
  exact ⟨h.ge, h.le⟩

/-- **At most `dim V` iterations** (exact arithmetic).  For Hermitian positive-definite `A`, Hermitian `M`, any data and
    tolerances: `num_iter ≤ dim V`; and with `maxiter ≥ dim V` the disjunct "`maxiter` used up" of `C14_cg_exit` never
    applies — the returned `x` always satisfies the stopping rule `⟪r, M r⟫ ≤ max(tol‖b‖, atol)²`. -/
theorem C14_cg_dim_steps [Module.Finite 𝕜 V] (A : V →ₗ[𝕜] V) (M : V → V) (b x0 : V)
    (hAs : ∀ x y, inner 𝕜 (A x) y = inner 𝕜 x (A y)) (hAp : ∀ x, x ≠ 0 → 0 < re (inner 𝕜 x (A x)))
    (hM : ∀ x y, inner 𝕜 (M x) y = inner 𝕜 x (M y)) (tol atol : ℝ) (maxiter : Nat) :
    let out := cg (rcOps 𝕜 V) A M b x0 tol atol maxiter
    let r := b - A out.1
    out.2.numIter ≤ Module.finrank 𝕜 V ∧
      (Module.finrank 𝕜 V ≤ maxiter → re (inner 𝕜 r (M r)) ≤ cgTolSq tol atol ‖b‖) := by
  intro out r
  have htol : 0 ≤ cgTolSq tol atol ‖b‖ := cgTolSq_nonneg _ _ _
  -- `cg` returns `cgSeq k` for the least `k` at which the test fails, and the test fails where `num = 0`
  obtain ⟨k, he, _, hmin⟩ := cgLoop_eq_cgSeq (𝕜 := 𝕜) (⇑A) M b x0 maxiter (cgTolSq tol atol ‖b‖)
  obtain ⟨k0, hk0, hz⟩ := cg_finite_termination A M b x0 hAs hAp hM
  have hkk0 : k ≤ k0 := hmin k0 (cgCond_false_of_num_zero maxiter htol hz)
  have hii : out.2.numIter = k := (congrArg CGState.ii he).trans (cgSeq_ii _ _ _ _ k)
  refine ⟨by rw [hii]; omega, fun hmax => ?_⟩
  obtain ⟨_, _, h3⟩ := cg_spec A M b x0 tol atol maxiter
  rcases h3 with h | h
  · -- all of `maxiter` was used: then `k = k0`, where `num = 0`
    obtain rfl : k = k0 := by
      have : out.2.numIter = maxiter := h
      omega
    have hnum : inner 𝕜 r (M r) = (cgSeq (𝕜 := 𝕜) (⇑A) M b x0 k).num := by
      rw [(cgSeq_inv A M b x0 k).num_eq, ← he]; rfl
    rw [hnum, hz, AddMonoidHom.map_zero]
    exact htol
  · push Not at h
    exact h.1

/-- in particular, with `tol = atol = 0`, a positive-definite `M` and `maxiter ≥ dim V`, `cg` returns the exact solution -/
theorem C14_cg_exact_in_dim_steps [Module.Finite 𝕜 V] (A : V →ₗ[𝕜] V) (M : V → V) (b x0 : V)
    (hAs : ∀ x y, inner 𝕜 (A x) y = inner 𝕜 x (A y)) (hAp : ∀ x, x ≠ 0 → 0 < re (inner 𝕜 x (A x)))
    (hM : ∀ x y, inner 𝕜 (M x) y = inner 𝕜 x (M y)) (hMp : ∀ x, x ≠ 0 → 0 < re (inner 𝕜 x (M x)))
    (maxiter : Nat) (hmax : Module.finrank 𝕜 V ≤ maxiter) :
    A (cg (rcOps 𝕜 V) A M b x0 0 0 maxiter).1 = b := by
  have h := (C14_cg_dim_steps A M b x0 hAs hAp hM 0 0 maxiter).2 hmax
  have h0 : cgTolSq (0 : ℝ) 0 ‖b‖ = 0 := by simp [cgTolSq]
  rw [h0] at h
  by_contra hne
  have hr : b - A (cg (rcOps 𝕜 V) A M b x0 0 0 maxiter).1 ≠ 0 := fun h' => hne (sub_eq_zero.1 h').symm
  have := hMp _ hr
  linarith

/-- **Fixed-iteration variant (`flax.inverse.cg_solver`)**: after any number `k` of scan steps
    `r = b − A x` and `num = ⟪r, r⟫`. -/
theorem C14_cgscan_invariant (A : V →ₗ[𝕜] V) (b x0 : V) (k : Nat) :
    let s := scanIter (rcOps 𝕜 V) A k (scanInit (rcOps 𝕜 V) A b x0)
    s.r = b - A s.x ∧ s.num = inner 𝕜 s.r s.r := by
  intro s
  show (fun s : ScanState 𝕜 V => s.r = b - A s.x ∧ s.num = inner 𝕜 s.r s.r) (scanIter _ _ _ _)
  rw [scanIter_eq_iterate]
  exact Function.Iterate.rec _ ⟨rfl, rfl⟩ (fun s h => ⟨residual_step A h.1 _ _, rfl⟩) k

/-- `cg_solver` has no stopping test, but its two quotients are guarded (`jnp.where(den == 0, 0, num/den)`):
    started at an exact solution (`A x0 = b`, e.g. `b = 0`, `x0 = 0`) it returns `x0` for every `maxiter` — in
    particular no `0/0` is ever evaluated. -/
theorem C14_cgscan_stays_at_solution (A : V →ₗ[𝕜] V) (b x0 : V) (h : A x0 = b) (maxiter : Nat) :
    cgScan (rcOps 𝕜 V) A b x0 maxiter = x0 := by
  unfold cgScan
  rw [scanIter_eq_iterate, Function.iterate_fixed
    (scanStep_fixed A _ (by simp [scanInit, h]) (by simp [scanInit, h]) (by simp [scanInit, rcOps, h]))]
  rfl

/-- **`cg_solver` (fixed-length scan) is exact after `dim V` iterations**: Hermitian positive-definite `A`, any `b, x0`,
    `maxiter ≥ dim V` ⇒ `A x = b` for the returned `x`; the guarded quotients keep the iterate once the residual vanished. -/
theorem C14_cgscan_exact [Module.Finite 𝕜 V] (A : V →ₗ[𝕜] V) (b x0 : V)
    (hAs : ∀ x y, inner 𝕜 (A x) y = inner 𝕜 x (A y)) (hAp : ∀ x, x ≠ 0 → 0 < re (inner 𝕜 x (A x)))
    (maxiter : Nat) (hmax : Module.finrank 𝕜 V ≤ maxiter) :
    A (cgScan (rcOps 𝕜 V) A b x0 maxiter) = b := by
  -- up to the first index `k0` with `num = 0` the scan is `cg`; there `r = p = 0`, and the guards keep the state
  obtain ⟨k0, hk0, hz, hnz⟩ := cg_first_exact A (fun v => v) b x0 hAs hAp (fun _ _ => rfl)
  obtain ⟨hr0, hsol⟩ := cgSeq_exact A (fun v => v) b x0 (fun _ hx => re_inner_self_pos.2 hx) hz
  have hp0 := cgSeq_p_eq_zero A (fun v => v) b x0 rfl hz hr0
  obtain ⟨c, rfl⟩ : ∃ c, maxiter = k0 + c := ⟨maxiter - k0, by omega⟩
  unfold cgScan
  rw [scanIter_eq_iterate, Nat.add_comm k0 c, Function.iterate_add_apply,
    scan_iterates_eq A b x0 hAs hAp k0 hnz k0 le_rfl, Function.iterate_fixed (scanStep_fixed A _ hr0 hp0 hz) c]
  exact hsol

/-- **`lstsq`**: the system it hands to `cg` is `Aᴴ A x = Aᴴ b`, and `x` solves it iff `x` minimises
    `‖A x − b‖` — for real and complex `A` alike, `AH` being the adjoint (`Aop.H`). -/
theorem C14_lstsq {U : Type} [NormedAddCommGroup U] [InnerProductSpace 𝕜 U]
    (A : V →ₗ[𝕜] U) (AH : U →ₗ[𝕜] V) (hadj : ∀ x y, inner 𝕜 (A x) y = inner 𝕜 x (AH y)) (b : U) (x : V) :
    ((lstsqSys (⇑A) (⇑AH) b).1 x = AH (A x) ∧ (lstsqSys (⇑A) (⇑AH) b).2 = AH b) ∧
    ((lstsqSys (⇑A) (⇑AH) b).1 x = (lstsqSys (⇑A) (⇑AH) b).2 ↔ ∀ x', ‖A x - b‖ ≤ ‖A x' - b‖) := by
  refine ⟨⟨rfl, rfl⟩, ?_⟩
  -- `‖b − A x‖²` has a quadratic expansion with gradient `Aᴴ (A x − b)`
  have hmain := argmin_iff_grad_zero (𝕜 := 𝕜) (fun x => ‖b - A x‖ ^ 2) (fun x => AH (A x - b)) (fun h => ‖A h‖ ^ 2)
    (fun h => sq_nonneg _) (quadC_smul A) (quadC A AH hadj b) x
  simp only [lstsqSys]
  rw [show (AH (A x) = AH b) ↔ AH (A x - b) = 0 by rw [LinearMap.map_sub, sub_eq_zero], ← hmain]
  exact forall_congr' fun x' => by
    rw [norm_sub_rev b, norm_sub_rev b]; exact sq_le_sq₀ (norm_nonneg _) (norm_nonneg _)

/-! ### the jax variant (`jax.scipy.sparse.linalg.cg`, `LinearSubproblemSolver(cg_function="jax")`) — contract model `jaxCg` -/

/-- **What the jax solver returns**: for any linear `A`, any preconditioner or none, any `b, x0, tol, atol, maxiter`: the
    loop invariant `r = b − A x` holds at the returned state, at most `maxiter` bodies ran, and either all of them were
    used or the **true** residual satisfies `‖b − A x‖² ≤ max(tol² ‖b‖², atol²)` (with a preconditioner too — unlike
    `scico.solver.cg`, which then tests `⟪r, M r⟫`). -/
theorem C14_jaxcg_exit (A : V →ₗ[𝕜] V) (M : Option (V → V)) (b x0 : V) (tol atol : ℝ) (maxiter : Nat) :
    let s := jaxCgLoop (rcJaxOps 𝕜 V) A (precondOf M) M.isNone maxiter (jaxAtol2 tol atol (re (inner 𝕜 b b))) maxiter
      (jaxCgInit (rcJaxOps 𝕜 V) A (precondOf M) b x0)
    jaxCg (rcJaxOps 𝕜 V) A M b x0 tol atol maxiter = s.x ∧ s.r = b - A s.x ∧ s.k ≤ maxiter ∧
      (s.k = maxiter ∨ ‖b - A s.x‖ ^ 2 ≤ max (tol ^ 2 * ‖b‖ ^ 2) (atol ^ 2)) := by
  intro s
  obtain ⟨hinv, hle, hc⟩ := countedLoop_spec
    (jaxCgCond (rcJaxOps 𝕜 V) M.isNone maxiter (jaxAtol2 tol atol (re (inner 𝕜 b b)))) (jaxCgStep (rcJaxOps 𝕜 V) A (precondOf M))
    (jaxCgLoop (rcJaxOps 𝕜 V) A (precondOf M) M.isNone maxiter (jaxAtol2 tol atol (re (inner 𝕜 b b)))) (fun _ => rfl)
    (fun _ _ => rfl) (·.k) (fun _ => rfl) maxiter (fun s h => of_decide_eq_true (Bool.and_eq_true _ _ ▸ h).2)
    (JaxInv (⇑A) (precondOf M) b) (jaxCgStep_inv A (precondOf M) b) (jaxCgInit (rcJaxOps 𝕜 V) A (precondOf M) b x0) rfl
    ⟨rfl, rfl⟩
  refine ⟨rfl, hinv.res, hle, ?_⟩
  by_cases hlt : s.k < maxiter
  · right
    have hc : jaxCgCond (rcJaxOps 𝕜 V) M.isNone maxiter (jaxAtol2 tol atol (re (inner 𝕜 b b))) s = false := hc
    have hrr : ∀ v : V, re (inner 𝕜 v v) = ‖v‖ ^ 2 := inner_self_eq_norm_sq
    have hb : jaxAtol2 tol atol (re (inner 𝕜 b b)) = max (tol ^ 2 * ‖b‖ ^ 2) (atol ^ 2) := by
      unfold jaxAtol2; rw [hrr]; simp only [sq]
    -- the quantity tested is the true squared residual
    have hrs : (if M.isNone then (rcJaxOps 𝕜 V).re s.gamma else (rcJaxOps 𝕜 V).vdotRe s.r s.r) = ‖s.r‖ ^ 2 := by
      cases M with
      | none =>
        simp only [Option.isNone_none, if_true, rcJaxOps]
        rw [hinv.gam]
        simp only [precondOf, RCLike.ofReal_re]
        exact hrr _
      | some m =>
        simp only [Option.isNone_some, rcJaxOps]
        exact hrr _
    simp only [jaxCgCond, hrs, hlt, decide_true, Bool.and_true, decide_eq_false_iff_not, not_lt] at hc
    rw [← hinv.res, ← hb]
    exact hc
  · exact Or.inl (le_antisymm hle (not_lt.1 hlt))

/-- for non-negative tolerances the squared rule is the documented `‖b − A x‖ ≤ max(tol ‖b‖, atol)` -/
theorem C14_jaxcg_rule_norm (tol atol bn res : ℝ) (htol : 0 ≤ tol) (hatol : 0 ≤ atol) (hbn : 0 ≤ bn) (hres : 0 ≤ res)
    (hsq : res ^ 2 ≤ max (tol ^ 2 * bn ^ 2) (atol ^ 2)) : res ≤ max (tol * bn) atol := by
  have hm : 0 ≤ tol * bn := mul_nonneg htol hbn
  have h1 : max (tol ^ 2 * bn ^ 2) (atol ^ 2) = (max (tol * bn) atol) ^ 2 := by
    rcases le_total (tol * bn) atol with h | h
    · rw [max_eq_right h, max_eq_right]
      rw [← mul_pow]; exact pow_le_pow_left₀ hm h 2
    · rw [max_eq_left h, max_eq_left, mul_pow]
      rw [← mul_pow]; exact pow_le_pow_left₀ hatol h 2
  rw [h1] at hsq
  exact (sq_le_sq₀ hres (le_max_of_le_left hm)).1 hsq

/-- **Same iterates as `scico.solver.cg`** for Hermitian `A` and `M`: after any number `j` of bodies the jax state
    `(x, r, gamma, p, k)` is the scico state `(x, r, num, p, ii)`; only the stopping tests differ.  (All the classical facts
    above therefore hold for the jax variant as well.) -/
theorem C14_jaxcg_same_iterates (A M : V → V) (hAs : ∀ x y, inner 𝕜 (A x) y = inner 𝕜 x (A y))
    (hM : ∀ x y, inner 𝕜 (M x) y = inner 𝕜 x (M y)) (b x0 : V) (j : Nat) :
    (jaxCgStep (rcJaxOps 𝕜 V) A M)^[j] (jaxCgInit (rcJaxOps 𝕜 V) A M b x0) = (cgSeq (𝕜 := 𝕜) A M b x0 j).toJax :=
  jax_iterates_eq A M hAs hM b x0 j

/-- **the jax variant with `maxiter ≥ dim V`** (Hermitian positive-definite `A`; `M` none or Hermitian positive definite)
    always returns `x` with `‖b − A x‖² ≤ max(tol² ‖b‖², atol²)` -/
theorem C14_jaxcg_dim_steps [Module.Finite 𝕜 V] (A : V →ₗ[𝕜] V) (M : Option (V → V)) (b x0 : V)
    (hAs : ∀ x y, inner 𝕜 (A x) y = inner 𝕜 x (A y)) (hAp : ∀ x, x ≠ 0 → 0 < re (inner 𝕜 x (A x)))
    (hM : ∀ m, M = some m → (∀ x y, inner 𝕜 (m x) y = inner 𝕜 x (m y)) ∧ ∀ x, x ≠ 0 → 0 < re (inner 𝕜 x (m x)))
    (tol atol : ℝ) (maxiter : Nat) (hmax : Module.finrank 𝕜 V ≤ maxiter) :
    let x := jaxCg (rcJaxOps 𝕜 V) A M b x0 tol atol maxiter
    ‖b - A x‖ ^ 2 ≤ max (tol ^ 2 * ‖b‖ ^ 2) (atol ^ 2) := by
  intro x
  obtain ⟨hx, hres, hk, hexit⟩ := C14_jaxcg_exit A M b x0 tol atol maxiter
  rcases hexit with hmaxed | hdone
  swap
  · show ‖b - A (jaxCg (rcJaxOps 𝕜 V) (⇑A) M b x0 tol atol maxiter)‖ ^ 2 ≤ _
    rw [hx]; exact hdone
  obtain ⟨hMs, hMp⟩ := precondOf_herm_posDef M hM
  have hat0 : 0 ≤ jaxAtol2 tol atol (re (inner 𝕜 b b)) := le_max_of_le_right (mul_self_nonneg _)
  -- all of `maxiter` was used; the state returned is that of `cg` at the least `k` at which the jax test fails, and it fails
  -- at the index `k0` where `num = 0`, because `r = 0` there
  obtain ⟨k, he, _, hmin⟩ := jaxCgLoop_eq_cgSeq (⇑A) (precondOf M) hAs hMs b x0 M.isNone maxiter
    (jaxAtol2 tol atol (re (inner 𝕜 b b)))
  obtain ⟨k0, hk0, hz⟩ := cg_finite_termination A (precondOf M) b x0 hAs hAp hMs
  have hr0 := (cgSeq_exact A (precondOf M) b x0 hMp hz).1
  have hkk0 : k ≤ k0 := hmin k0 (jaxCgCond_false_of_zero M.isNone maxiter _ hat0 _ hz hr0)
  obtain rfl : k = k0 := by
    have : maxiter = k := hmaxed.symm.trans ((congrArg JaxCGState.k he).trans (cgSeq_ii _ _ _ _ k))
    omega
  show ‖b - A (jaxCg (rcJaxOps 𝕜 V) (⇑A) M b x0 tol atol maxiter)‖ ^ 2 ≤ _
  rw [hx, ← hres, he, show (cgSeq (𝕜 := 𝕜) (⇑A) (precondOf M) b x0 k).toJax.r = 0 from hr0, norm_zero,
    zero_pow two_ne_zero]
  exact le_max_of_le_right (sq_nonneg _)

-- non-vacuity of the finite-dimensional hypotheses: V = ℝ has dimension 1 (A = 2·id above is HPD on it)
example : Module.finrank ℝ ℝ = 1 := Module.finrank_self ℝ

end CG

section Matrix
variable {K : Type} [Field K] [HasConj K] [HasIsZero K]
open Matrix

/-- **constructor checks of `MatrixATADSolver`**: the arguments are accepted exactly when `D` is a `Diagonal` with a 1-D
    diagonal or a 1-D/2-D array and `W` is `None`, a `Diagonal` with a 1-D diagonal, or an array; a bad `D` is reported
    (`ValueError`) before `W` is looked at, a non-array `W` gives `TypeError`. -/
theorem C14_atad_validate (d : DArg) (w : WArg) :
    (atadValidate d w = .ok () ↔
      ((d = .diagonalOp 1 ∨ d = .array 1 ∨ d = .array 2) ∧ (w = .none ∨ w = .diagonalOp 1 ∨ w = .array))) ∧
    (¬ (d = .diagonalOp 1 ∨ d = .array 1 ∨ d = .array 2) → atadValidate d w = .error "value") ∧
    ((d = .diagonalOp 1 ∨ d = .array 1 ∨ d = .array 2) → w = .other → atadValidate d w = .error "type") := by
  refine ⟨?_, ?_, ?_⟩
  · cases d with
    | diagonalOp nd =>
      cases w with
      | none => by_cases h : nd = 1 <;> simp [atadValidate, h]
      | diagonalOp wn => by_cases h : nd = 1 <;> by_cases h2 : wn = 1 <;> simp [atadValidate, h, h2]
      | array => by_cases h : nd = 1 <;> simp [atadValidate, h]
      | other => by_cases h : nd = 1 <;> simp [atadValidate, h]
    | array nd =>
      cases w with
      | none => by_cases h : nd = 1 <;> by_cases h' : nd = 2 <;> simp [atadValidate, h, h']
      | diagonalOp wn => by_cases h : nd = 1 <;> by_cases h' : nd = 2 <;> by_cases h2 : wn = 1 <;> simp [atadValidate, h, h', h2]
      | array => by_cases h : nd = 1 <;> by_cases h' : nd = 2 <;> simp [atadValidate, h, h']
      | other => by_cases h : nd = 1 <;> by_cases h' : nd = 2 <;> simp [atadValidate, h, h']
  · intro h
    cases d with
    | diagonalOp nd =>
      have : nd ≠ 1 := fun e => h (Or.inl (by rw [e]))
      simp [atadValidate, this]
    | array nd =>
      have h1 : nd ≠ 1 := fun e => h (Or.inr (Or.inl (by rw [e])))
      have h2 : nd ≠ 2 := fun e => h (Or.inr (Or.inr (by rw [e])))
      simp [atadValidate, h1, h2]
  · rintro (rfl | rfl | rfl) rfl <;> simp [atadValidate]

/-- the branch taken is exactly `rows < cols ∧ D 1-D ∧ no zero weight`, and the matrix factorised is
    `W⁻¹ + A D⁻¹ Aᴴ` (size rows) on that branch and `Aᴴ W A + D` (size cols) otherwise -/
theorem C14_woodbury_branch (hz : LawfulIsZero K) {m n : Nat} (s : ATAD K m n) :
    (s.useWoodbury = true ↔ m < n ∧ (∃ d, s.D = .diag d) ∧ ∀ i, s.W i ≠ 0) ∧
    (∀ d, s.D = .diag d → s.useWoodbury = true → s.gOf = ⟨m, gWoodbury s.A d s.W⟩) ∧
    (s.useWoodbury = false → s.gOf = ⟨n, gDirect s.A s.D s.W⟩) := by
  obtain ⟨A, D, W⟩ := s
  cases D with
  | diag d =>
    refine ⟨by simp [ATAD.useWoodbury, DMat.isDiag, allNonzero_iff hz], ?_, ?_⟩
    · intro d' hd hwb
      cases hd
      simp [ATAD.gOf, hwb]
    · intro h
      simp [ATAD.gOf, h]
  | full D =>
    refine ⟨by simp [ATAD.useWoodbury, DMat.isDiag], ?_, ?_⟩
    · intro d' hd; cases hd
    · intro _; simp [ATAD.gOf]

/-- **the branch rule of the model is the branch condition of the source.**  `solverTables.woodbury` is the conjunction
    `N < M and D.ndim == 1 and snp.all(W != 0)` with `N, M = A.shape` as read from `MatrixATADSolver.__init__` by `ast` on every run
    (obligation `Scico.Generated.LinSolveTables.tables_ok`); evaluated on a solver object it is `ATAD.useWoodbury`. -/
theorem C14_woodbury_rule_of_source {m n : Nat} (s : ATAD K m n) :
    woodburyEval solverTables.woodbury m n (if s.D.isDiag then 1 else 2) (allNonzero s.W) = some s.useWoodbury ∧
      solverTables.woodburyBind = ("N, M", "A.shape") := by
  refine ⟨?_, rfl⟩
  cases hD : s.D.isDiag <;> simp [woodburyEval, solverTables, CondAtom.eval, ATAD.useWoodbury, hD]

/-- **`MatrixATADSolver.solve`, vector right-hand side, both paths.**  Whichever branch
    `rows < cols ∧ D 1-D ∧ all(W ≠ 0)` selects, the returned `x` solves the documented system `(Aᴴ W A + D) x = b`,
    given that the factorisation back end inverts the matrix that was factorised (contract of `lu/cho_solve`)
    and, on the Woodbury path, that the 1-D `D` has no zero entry (the path divides by it; `W ≠ 0` there is
    guaranteed by the branch rule).  `hz`: the scalar zero test is exact. -/
theorem C14_woodbury_matrix (hz : LawfulIsZero K) {m n : Nat} (s : ATAD K m n) (fsW : Vec K m → Vec K m) (fsD : Vec K n → Vec K n) (b : Vec K n)
    (hfsW : ∀ d, s.D = .diag d → ∀ c, LinSolve.mulVec (gWoodbury s.A d s.W) (fsW c) = c)
    (hfsD : ∀ c, LinSolve.mulVec (gDirect s.A s.D s.W) (fsD c) = c)
    (hnz : ∀ d, s.D = .diag d → s.useWoodbury = true → ∀ k, d k ≠ 0) :
    (Matrix.of (conjT s.A) * Matrix.diagonal s.W * Matrix.of s.A + Matrix.of s.D.entry) *ᵥ (s.solve fsW fsD b) = b :=
  atad_solve_spec hz s fsW fsD b hfsW hfsD hnz

/-- the same for a 2-D right-hand side `B` -/
theorem C14_woodbury_matrix_rhs2d (hz : LawfulIsZero K) {m n k : Nat} (s : ATAD K m n) (fsW : Mat K m k → Mat K m k) (fsD : Mat K n k → Mat K n k)
    (b : Mat K n k)
    (hfsW : ∀ d, s.D = .diag d → ∀ c, matMul (gWoodbury s.A d s.W) (fsW c) = c)
    (hfsD : ∀ c, matMul (gDirect s.A s.D s.W) (fsD c) = c)
    (hnz : ∀ d, s.D = .diag d → s.useWoodbury = true → ∀ k, d k ≠ 0) :
    ((Matrix.of (conjT s.A) * Matrix.diagonal s.W * Matrix.of s.A + Matrix.of s.D.entry) * Matrix.of (s.solveM fsW fsD b)
      : Matrix (Fin n) (Fin k) K) = Matrix.of b :=
  atad_solveM_spec hz s fsW fsD b hfsW hfsD hnz

/-- **`accuracy`**: the quantity compared with `b` is `(Aᴴ W A + D) x` (1-D and 2-D `D`, vector and matrix
    `x`), so `accuracy x b = rel_res((Aᴴ W A + D) x, b)`. -/
theorem C14_accuracy {m n : Nat} {R : Type} [Zero R] [Div R] [Max R] [LT R] [DecidableLT R]
    (s : ATAD K m n) (norm : Vec K n → R) (x b : Vec K n) :
    let lhs := (Matrix.of (conjT s.A) * Matrix.diagonal s.W * Matrix.of s.A + Matrix.of s.D.entry) *ᵥ x
    s.lhsApply x = lhs ∧ s.accuracy norm x b = relResOf (norm lhs) (norm b) (norm (fun i => b i - lhs i)) := by
  intro lhs
  have h : s.lhsApply x = lhs := lhsApply_eq_spec s x
  exact ⟨h, by simp only [ATAD.accuracy, h]⟩

/-- the left-hand side that `accuracy` forms for a 2-D argument is the documented `(Aᴴ W A + D) X` (1-D and 2-D `D`) -/
theorem C14_accuracy_rhs2d {m n k : Nat} (s : ATAD K m n) (x : Mat K n k) :
    s.lhsApplyM x =
      ((Matrix.of (conjT s.A) * Matrix.diagonal s.W * Matrix.of s.A + Matrix.of s.D.entry) * Matrix.of x : Matrix (Fin n) (Fin k) K) :=
  lhsApplyM_eq_spec s x

/-- **`accuracy` for matrix arguments** (`rel_res` ravels, `norm` = Frobenius norm): `accuracy X B = rel_res((Aᴴ W A + D) X, B)` -/
theorem C14_accuracy_matrix {m n k : Nat} {R : Type} [Zero R] [Div R] [Max R] [LT R] [DecidableLT R]
    (s : ATAD K m n) (norm : Mat K n k → R) (x b : Mat K n k) :
    let lhs : Mat K n k := fun i l =>
      ((Matrix.of (conjT s.A) * Matrix.diagonal s.W * Matrix.of s.A + Matrix.of s.D.entry) * Matrix.of x : Matrix (Fin n) (Fin k) K) i l
    s.accuracyM norm x b = relResOf (norm lhs) (norm b) (norm (fun i l => b i l - lhs i l)) := by
  intro lhs
  have h : s.lhsApplyM x = lhs := C14_accuracy_rhs2d s x
  simp only [ATAD.accuracyM, h]

/-- **constructor checks of `ConvATADSolver`**: accepted exactly for `A = Sum ∘ CircularConvolve` summing over a single axis;
    anything that is not such a composition is a `TypeError`, a tuple of axes a `ValueError` -/
theorem C14_conv_validate (a : ConvArg) :
    (convValidate a = .ok () ↔ (a.composed = true ∧ a.outerIsSum = true ∧ a.innerIsConv = true ∧ a.axisIsInt = true)) ∧
    ((a.composed = false ∨ a.outerIsSum = false ∨ a.innerIsConv = false) → convValidate a = .error "type") ∧
    (a.composed = true → a.outerIsSum = true → a.innerIsConv = true → a.axisIsInt = false → convValidate a = .error "value") := by
  obtain ⟨c, o, i, x⟩ := a
  cases c <;> cases o <;> cases i <;> cases x <;> simp [convValidate]

/-- **`ConvATADSolver.solve`, per frequency (Sherman–Morrison).**  At every frequency `w` where `D̂` has no
    zero and `1 + Σ_k Â_k conj(Â_k)/D̂_k ≠ 0`, the computed `x̂` satisfies the DFT-domain form of
    `(Aᴴ A + D) x = b`:  `conj(Â_j) Σ_k Â_k x̂_k + D̂_j x̂_j = b̂_j` for every filter `j`. -/
theorem C14_woodbury_conv {Kf N : Nat} (Ahat Dhat bhat : Mat K Kf N) (w : Fin N) (hD : ∀ k, Dhat k w ≠ 0)
    (hE : 1 + ∑ k, Ahat k w * (conj (Ahat k w) / Dhat k w) ≠ 0) (j : Fin Kf) :
    conj (Ahat j w) * (∑ k, Ahat k w * convSolveHat Ahat Dhat bhat k w) + Dhat j w * convSolveHat Ahat Dhat bhat j w
      = bhat j w := by
  have := conv_solve_spec Ahat Dhat bhat w hD hE j
  simpa [convLhsHat, Vec.sum_eq] using this

end Matrix

section NonVacuityMatrix
/- a 1×2 real system on the Woodbury path: A = [1 1], D = diag(1,1), W = [1]; G = 1 + 2 = 3 -/
local instance : HasConj ℚ := ⟨id⟩
local instance : HasIsZero ℚ := ⟨fun x => decide (x = 0)⟩

example : LawfulIsZero ℚ := fun x => by simp [isZ]

example : let s : ATAD ℚ 1 2 := ⟨fun _ _ => 1, .diag (fun _ => 1), fun _ => 1⟩
    s.useWoodbury = true ∧ (∀ c : Vec ℚ 1, mulVec (gWoodbury s.A (fun _ => 1) s.W) (fun i => c i / 3) = c) := by
  intro s
  refine ⟨by decide, ?_⟩
  intro c
  funext i
  have : i = 0 := Subsingleton.elim _ _
  subst this
  simp [mulVec, gWoodbury, Vec.sum, s, conj, List.ofFn_succ]
  ring
end NonVacuityMatrix

section Bisect
variable {K : Type} [Field K] [LinearOrder K] [IsStrictOrderedRing K] [Inhabited K] {n : Nat}

/-- `range_check=True` accepts exactly the brackets on which no element has `sign f(a) = sign f(b)`; an
    accepted bracket therefore has `f(a)·f(b) ≤ 0` in every element -/
theorem C14_bisect_range_check (f : Fin n → K → K) (a0 b0 : Vec K n) (xtol ftol : K) (maxiter : Nat)
    (x : Vec K n) (s : BisectSt K n) (h : bisect f a0 b0 xtol ftol maxiter true = .ok (x, s)) (i : Fin n) :
    f i (a0 i) * f i (b0 i) ≤ 0 := by
  unfold bisect at h
  simp only [Bool.true_and] at h
  split at h
  · cases h
  · rename_i hbad
    have hi : isZero (sgn (f i (a0 i)) - sgn (f i (b0 i))) = false := by
      by_contra hcon
      apply hbad
      simp only [bisectRangeBad, List.any_eq_true, List.mem_ofFn]
      exact ⟨true, ⟨i, by simpa [bisectInit] using hcon⟩, rfl⟩
    have hne : sgn (f i (a0 i)) ≠ sgn (f i (b0 i)) := by
      intro he
      rw [he, sub_self] at hi
      have := (isZero_iff (0 : K)).2 rfl
      rw [this] at hi; cases hi
    by_contra hpos
    have hpos : 0 < f i (a0 i) * f i (b0 i) := not_le.1 hpos
    rcases pos_and_pos_or_neg_and_neg_of_mul_pos hpos with ⟨h1, h2⟩ | ⟨h1, h2⟩
    · exact hne (by rw [sgn_pos h1, sgn_pos h2])
    · exact hne (by rw [sgn_neg h1, sgn_neg h2])

/-- **Bisection, all iteration counts.**  If element `i` starts with `a₀ ≤ b₀` and `f(a₀)·f(b₀) ≤ 0`, then for
    whatever `maxiter`, `xtol`, `ftol`: the final bracket satisfies `a₀ ≤ a ≤ b ≤ b₀` and still has
    `f(a)·f(b) ≤ 0`; the returned point is one of its end points (so it lies in the initial bracket); and if the
    loop was left before `maxiter` bodies it was left by the tolerance test, in which case `b − a ≤ xtol`:
    the returned point is within `xtol` of both ends of a bracket that contains a sign change. -/
theorem C14_bisect (f : Fin n → K → K) (a0 b0 : Vec K n) (xtol ftol : K) (maxiter : Nat) (rc : Bool)
    (x : Vec K n) (s : BisectSt K n) (h : bisect f a0 b0 xtol ftol maxiter rc = .ok (x, s)) (i : Fin n)
    (h0 : a0 i ≤ b0 i) (hs : f i (a0 i) * f i (b0 i) ≤ 0) :
    a0 i ≤ s.a i ∧ s.a i ≤ s.b i ∧ s.b i ≤ b0 i ∧ f i (s.a i) * f i (s.b i) ≤ 0 ∧
    (x i = s.a i ∨ x i = s.b i) ∧ a0 i ≤ x i ∧ x i ≤ b0 i ∧ s.steps ≤ maxiter ∧
    (s.steps < maxiter → s.xerr ≤ xtol ∧ s.ferr ≤ ftol ∧ s.b i - s.a i ≤ xtol ∧ |x i - s.a i| ≤ xtol ∧ |x i - s.b i| ≤ xtol) := by
  unfold bisect at h
  simp only at h
  split at h
  · cases h
  · simp only [Except.ok.injEq, Prod.mk.injEq] at h
    obtain ⟨hx, hs'⟩ := h
    obtain ⟨k, hk, he, hexit⟩ := bisectLoop_iterate f xtol ftol maxiter (bisectInit f a0 b0)
    have hinv := bisect_iterate_bracketed f a0 b0 i h0 hs k
    rw [← he, hs'] at hinv
    have hm : s.a i ≤ s.b i := hinv.mid
    have hsteps : s.steps = k := by
      rw [← hs', he, iterate_counter _ BisectSt.steps (fun _ => rfl)]; exact Nat.zero_add k
    have hpick : x i = s.a i ∨ x i = s.b i := by
      rw [← hx, hs']; exact (ite_eq_or_eq _ _ _).symm
    refine ⟨hinv.lo, hm, hinv.hi, hinv.sign, hpick, ?_, ?_, by omega, ?_⟩
    · rcases hpick with e | e <;> rw [e]
      exacts [hinv.lo, hinv.lo.trans hm]
    · rcases hpick with e | e <;> rw [e]
      exacts [hm.trans hinv.hi, hinv.hi]
    · intro hlt
      rcases hexit with hk' | ⟨hxe, hfe, hkpos⟩
      · omega
      · rw [hs'] at hxe hfe
        have hw : s.b i - s.a i ≤ xtol := by
          obtain ⟨j, rfl⟩ : ∃ j, k = j + 1 := ⟨k - 1, by omega⟩
          have hb := bisectStep_xerr f ((bisectStep f)^[j] (bisectInit f a0 b0)) i
          rw [← Function.iterate_succ_apply' (bisectStep f), ← he, hs'] at hb
          exact le_trans (le_trans (le_abs_self _) hb) hxe
        have h0 : 0 ≤ xtol := (sub_nonneg.2 hm).trans hw
        have hba : |s.b i - s.a i| ≤ xtol := by rwa [abs_of_nonneg (sub_nonneg.2 hm)]
        refine ⟨hxe, hfe, hw, ?_, ?_⟩ <;> rcases hpick with e | e <;> rw [e]
        · rwa [sub_self, abs_zero]
        · exact hba
        · rwa [abs_sub_comm]
        · rwa [sub_self, abs_zero]

/-- the same invariants for the bracket after *every* number `k` of loop bodies (not only the final one) -/
theorem C14_bisect_invariant (f : Fin n → K → K) (a0 b0 : Vec K n) (i : Fin n) (h0 : a0 i ≤ b0 i)
    (hs : f i (a0 i) * f i (b0 i) ≤ 0) (k : Nat) :
    let s := (bisectStep f)^[k] (bisectInit f a0 b0)
    a0 i ≤ s.a i ∧ s.a i ≤ s.b i ∧ s.b i ≤ b0 i ∧ f i (s.a i) * f i (s.b i) ≤ 0 ∧
      s.fa i = f i (s.a i) ∧ s.fb i = f i (s.b i) := by
  intro s
  have h := bisect_iterate_bracketed f a0 b0 i h0 hs k
  exact ⟨h.lo, h.mid, h.hi, h.sign, h.hfa, h.hfb⟩

-- `h0` is not needed: the signed width halves whichever end is the larger one
set_option linter.unusedVariables false in
/-- **the width halves**: with a strict sign change initially, after `k` bodies either the sign change is
    still strict and `b − a = (b₀ − a₀)/2^k`, or an exact zero was hit and the bracket is that single point -/
theorem C14_bisect_width (f : Fin n → K → K) (a0 b0 : Vec K n) (i : Fin n) (h0 : a0 i ≤ b0 i)
    (hs : f i (a0 i) * f i (b0 i) < 0) (k : Nat) :
    let s := (bisectStep f)^[k] (bisectInit f a0 b0)
    (f i (s.a i) * f i (s.b i) < 0 ∧ s.b i - s.a i = (b0 i - a0 i) / 2 ^ k) ∨ (s.a i = s.b i ∧ f i (s.a i) = 0) :=
  (bisect_iterate_halved f a0 b0 i hs k).2.2

/-- **Lanes are independent (bisection).**  Two vectorised calls — of any widths `n`, `m`, whatever the other lanes do,
    converged or not — that agree on one lane's function and initial bracket produce the same bracket `(a, b, f(a), f(b))`
    on that lane after every number `k` of loop bodies.  The lanes interact only through the common stopping test. -/
theorem C14_bisect_lane_independent {m : Nat} (f : Fin n → K → K) (g : Fin m → K → K) (a0 b0 : Vec K n) (a0' b0' : Vec K m)
    (i : Fin n) (j : Fin m) (hfg : f i = g j) (ha : a0 i = a0' j) (hb : b0 i = b0' j) (k : Nat) :
    let s := (bisectStep f)^[k] (bisectInit f a0 b0)
    let t := (bisectStep g)^[k] (bisectInit g a0' b0')
    s.a i = t.a j ∧ s.b i = t.b j ∧ s.fa i = t.fa j ∧ s.fb i = t.fb j := by
  intro s t
  -- both lanes are the same scalar iterate
  have h : s.lane i = t.lane j := by
    rw [bisect_lane_iterate, bisect_lane_iterate, bisectInit_lane, bisectInit_lane, hfg, ha, hb]
  simpa only [BisectSt.lane, BLane.mk.injEq] using h

end Bisect

section BisectRoot

/-- **Bisection returns a point within `xtol` of a root** (real case): if `f_i` is continuous on the initial bracket,
    the bracket has `f(a₀)·f(b₀) ≤ 0`, and the loop was left by the tolerance test (fewer than `maxiter` bodies), then
    there is an exact root `ξ` of `f_i` in the initial bracket with `|x_i − ξ| ≤ xtol`. -/
theorem C14_bisect_root {n : Nat} (f : Fin n → ℝ → ℝ) (a0 b0 : Vec ℝ n) (xtol ftol : ℝ) (maxiter : Nat) (rc : Bool)
    (x : Vec ℝ n) (s : BisectSt ℝ n) (h : bisect f a0 b0 xtol ftol maxiter rc = .ok (x, s)) (i : Fin n)
    (h0 : a0 i ≤ b0 i) (hs : f i (a0 i) * f i (b0 i) ≤ 0) (hcont : ContinuousOn (f i) (Set.Icc (a0 i) (b0 i)))
    (hexit : s.steps < maxiter) :
    ∃ ξ, a0 i ≤ ξ ∧ ξ ≤ b0 i ∧ f i ξ = 0 ∧ |x i - ξ| ≤ xtol := by
  obtain ⟨q1, q2, q3, q4, q5, _, _, _, q9⟩ := C14_bisect f a0 b0 xtol ftol maxiter rc x s h i h0 hs
  obtain ⟨_, _, hw, _, _⟩ := q9 hexit
  have hsub : Set.Icc (s.a i) (s.b i) ⊆ Set.Icc (a0 i) (b0 i) := Set.Icc_subset_Icc q1 q3
  have hc' : ContinuousOn (f i) (Set.Icc (s.a i) (s.b i)) := hcont.mono hsub
  have hroot : ∃ ξ ∈ Set.Icc (s.a i) (s.b i), f i ξ = 0 := by
    rcases mul_nonpos_iff.1 q4 with ⟨ha, hb⟩ | ⟨ha, hb⟩
    · exact intermediate_value_Icc' q2 hc' ⟨hb, ha⟩
    · exact intermediate_value_Icc q2 hc' ⟨ha, hb⟩
  obtain ⟨ξ, ⟨hξ1, hξ2⟩, hξ⟩ := hroot
  refine ⟨ξ, le_trans q1 hξ1, le_trans hξ2 q3, hξ, ?_⟩
  rcases q5 with e | e <;> rw [e, abs_le] <;> constructor <;> linarith

end BisectRoot

section Golden
variable {K : Type} [Field K] [LinearOrder K] [IsStrictOrderedRing K] [Inhabited K] {n : Nat}

/-- **Golden-section search, all iteration counts** (`c=None`).  For any ratio `gr` with `1/2 < gr < 1` (the code
    uses `2/(√5+1)`), if element `i` is strictly unimodal on `[a₀, b₀]` with minimiser `xs`, then for whatever
    `xtol` and `maxiter ≥ 1` there is `k < maxiter` (the number of completed bodies) such that the final bracket
    lies in `[a₀, b₀]`, contains `xs`, has width exactly `gr^(k+1)(b₀ − a₀)`; the returned point is one of its
    end points, hence within that width of `xs`; and if the loop stopped early, within `xtol` of `xs`. -/
theorem C14_golden (gr : K) (hg1 : 1 / 2 < gr) (hg2 : gr < 1) (f : Fin n → K → K) (a0 b0 : Vec K n)
    (xtol : K) (maxiter : Nat) (hmax : 0 < maxiter) (i : Fin n) (xs : K) (hab : a0 i < b0 i)
    (hu : Unimodal (f i) (a0 i) (b0 i) xs) :
    let out := golden gr f a0 b0 none xtol maxiter
    ∃ k, k < maxiter ∧ a0 i ≤ out.2.a i ∧ out.2.a i ≤ xs ∧ xs ≤ out.2.b i ∧ out.2.b i ≤ b0 i ∧
      out.2.b i - out.2.a i = gr ^ (k + 1) * (b0 i - a0 i) ∧
      (out.1 i = out.2.a i ∨ out.1 i = out.2.b i) ∧ |out.1 i - xs| ≤ gr ^ (k + 1) * (b0 i - a0 i) ∧
      (k + 1 = maxiter ∨ (out.2.xerr ≤ xtol ∧ |out.1 i - xs| ≤ xtol)) := by
  intro out
  obtain ⟨o1, o2, o3⟩ := gold_points_order hg1 hg2 hab
  obtain ⟨k, w1, hk, hw, r1, r2, r3, r4, r5, r6, r7, r8⟩ :=
    goldLoop_spec gr hg1 hg2 f (goldInit gr a0 b0 none) xtol maxiter hmax i xs hu o1 o2 o3
  -- both candidates for the first width are `gr (b₀ − a₀)`
  have hw' : gr ^ k * w1 = gr ^ (k + 1) * (b0 i - a0 i) := by
    rcases hw with h | h <;> rw [h, pow_succ] <;> simp only [goldInit] <;> ring
  rw [hw'] at r5 r7
  exact ⟨k, hk, r1, r2, r3, r4, r5, r6, r7, r8⟩

/-- **`golden` with a supplied first interior point `c`** — proved part (`_partial`): for `a₀ < c < d₀ = a₀ + gr (b₀ − a₀)`
    the same guarantees as `C14_golden` hold, the first shrink having width `w₁ ∈ {gr (b₀ − a₀), b₀ − c}`: final bracket
    inside `[a₀, b₀]`, containing the minimiser, of width `gr^k w₁`; returned end point within that of the minimiser, within
    `xtol` when stopped early.  For `c ≥ d₀` — also "within the interval `(a, b)`" as documented — see the counterexample. -/
theorem C14_golden_c_partial (gr : K) (hg1 : 1 / 2 < gr) (hg2 : gr < 1) (f : Fin n → K → K) (a0 b0 c : Vec K n)
    (xtol : K) (maxiter : Nat) (hmax : 0 < maxiter) (i : Fin n) (xs : K) (hab : a0 i < b0 i)
    (hu : Unimodal (f i) (a0 i) (b0 i) xs) (hc1 : a0 i < c i) (hc2 : c i < a0 i + gr * (b0 i - a0 i)) :
    let out := golden gr f a0 b0 (some c) xtol maxiter
    ∃ k w1, k < maxiter ∧ (w1 = gr * (b0 i - a0 i) ∨ w1 = b0 i - c i) ∧
      a0 i ≤ out.2.a i ∧ out.2.a i ≤ xs ∧ xs ≤ out.2.b i ∧ out.2.b i ≤ b0 i ∧
      out.2.b i - out.2.a i = gr ^ k * w1 ∧
      (out.1 i = out.2.a i ∨ out.1 i = out.2.b i) ∧ |out.1 i - xs| ≤ gr ^ k * w1 ∧
      (k + 1 = maxiter ∨ (out.2.xerr ≤ xtol ∧ |out.1 i - xs| ≤ xtol)) := by
  intro out
  obtain ⟨k, w1, hk, hw, r⟩ := goldLoop_spec gr hg1 hg2 f (goldInit gr a0 b0 (some c)) xtol maxiter hmax i xs
    hu hc1 hc2 (gold_points_order hg1 hg2 hab).2.2
  exact ⟨k, w1, hk, hw.imp (fun h => by rw [h]; exact add_sub_cancel_left _ _) id, r⟩

/-- **`golden` with the ordered interior points of `fixes/golden-c-beyond-d.patch`** (model `goldenSorted`):
    for *every* supplied `c` strictly inside `(a₀, b₀)` — the documented
    requirement — the full guarantee holds: final bracket inside `[a₀, b₀]`, containing the minimiser, of width `gr^k w₁`
    with `0 < w₁ < b₀ − a₀`; returned end point within that of the minimiser, within `xtol` when stopped early. -/
theorem C14_golden_c_sorted (gr : K) (hg1 : 1 / 2 < gr) (hg2 : gr < 1) (f : Fin n → K → K) (a0 b0 c : Vec K n)
    (xtol : K) (maxiter : Nat) (hmax : 0 < maxiter) (i : Fin n) (xs : K) (hab : a0 i < b0 i)
    (hu : Unimodal (f i) (a0 i) (b0 i) xs) (hc1 : a0 i < c i) (hc2 : c i < b0 i) :
    let out := goldenSorted gr f a0 b0 (some c) xtol maxiter
    ∃ k w1, k < maxiter ∧ 0 < w1 ∧ w1 < b0 i - a0 i ∧
      a0 i ≤ out.2.a i ∧ out.2.a i ≤ xs ∧ xs ≤ out.2.b i ∧ out.2.b i ≤ b0 i ∧
      out.2.b i - out.2.a i = gr ^ k * w1 ∧
      (out.1 i = out.2.a i ∨ out.1 i = out.2.b i) ∧ |out.1 i - xs| ≤ gr ^ k * w1 ∧
      (k + 1 = maxiter ∨ (out.2.xerr ≤ xtol ∧ |out.1 i - xs| ≤ xtol)) := by
  intro out
  obtain ⟨p1, p2, p3⟩ := goldInitSorted_order gr hg1 hg2 a0 b0 c i hab hc1 hc2
  obtain ⟨k, w1, hk, hw, r⟩ := goldLoop_spec gr hg1 hg2 f (goldInitSorted gr a0 b0 (some c)) xtol maxiter hmax i xs
    hu p1 p2 p3
  have hw1 : 0 < w1 ∧ w1 < b0 i - a0 i := by
    rcases hw with h | h <;> rw [h]
    · exact ⟨sub_pos.2 (p1.trans p2), sub_lt_sub_right p3 _⟩
    · exact ⟨sub_pos.2 (p2.trans p3), sub_lt_sub_left p1 _⟩
  exact ⟨k, w1, hk, hw1.1, hw1.2, r⟩

/-- **Lanes are independent (golden section)**, with or without a supplied `c` -/
theorem C14_golden_lane_independent {m : Nat} (gr : K) (f : Fin n → K → K) (g : Fin m → K → K) (a0 b0 : Vec K n)
    (a0' b0' : Vec K m) (c : Option (Vec K n)) (c' : Option (Vec K m)) (i : Fin n) (j : Fin m) (hfg : f i = g j)
    (ha : a0 i = a0' j) (hb : b0 i = b0' j)
    (hc : (goldInit gr a0 b0 c).c i = (goldInit gr a0' b0' c').c j) (k : Nat) :
    let s := (fun s => goldPoints gr (goldShrink f s))^[k] (goldInit gr a0 b0 c)
    let t := (fun s => goldPoints gr (goldShrink g s))^[k] (goldInit gr a0' b0' c')
    s.a i = t.a j ∧ s.b i = t.b j ∧ s.c i = t.c j ∧ s.d i = t.d j := by
  intro s t
  have h0 : (goldInit gr a0 b0 c).lane i = (goldInit gr a0' b0' c').lane j := by
    simp only [GoldSt.lane, hc]
    simp only [goldInit, ha, hb]
  have h : s.lane i = t.lane j := by rw [gold_lane_iterate, gold_lane_iterate, h0, hfg]
  simpa only [GoldSt.lane, GLane.mk.injEq] using h

end Golden

section GoldenCWitness

/-- the full statement suggested by the docstring ("`c` must be within the interval `(a, b)`"), NOT claimed:
    for every interior `c` the final bracket of `golden` contains the minimiser -/
def C14_golden_c_stmt : Prop :=
  ∀ (gr : ℚ), 1 / 2 < gr → gr < 1 → ∀ (f : Fin 1 → ℚ → ℚ) (a0 b0 c : Vec ℚ 1) (xtol : ℚ) (maxiter : Nat), 0 < maxiter →
    ∀ xs : ℚ, a0 0 < b0 0 → Unimodal (f 0) (a0 0) (b0 0) xs → a0 0 < c 0 → c 0 < b0 0 →
      (golden gr f a0 b0 (some c) xtol maxiter).2.a 0 ≤ xs ∧ xs ≤ (golden gr f a0 b0 (some c) xtol maxiter).2.b 0

/-- recorded finding `golden-c-beyond-d`: `gr = 5/8`, `f(x) = (x − 4/5)²` on `[0, 1]`, `c = 9/10 > d = 5/8`:
    `f(c) < f(d)` makes the first body cut the bracket to `[0, 5/8]`, which no longer contains the minimiser `4/5`. -/
theorem C14_golden_c_counterexample : ¬ C14_golden_c_stmt := by
  intro h
  have hu : Unimodal (fun x : ℚ => (x - 4 / 5) ^ 2) 0 1 (4 / 5) := unimodal_sq_sub (by norm_num) (by norm_num)
  have h1 := (h (5 / 8) (by norm_num) (by norm_num) (fun _ x => (x - 4 / 5) ^ 2) (fun _ => 0) (fun _ => 1) (fun _ => 9 / 10) 0 1
    (by norm_num) (4 / 5) (by norm_num) hu (by norm_num) (by norm_num)).2
  -- with `maxiter = 1` the loop is one shrink, followed by `goldPoints` (which moves no end point) unless `xerr ≤ xtol`
  have e : (golden (5 / 8 : ℚ) (fun (_ : Fin 1) (x : ℚ) => (x - 4 / 5) ^ 2) (fun _ => 0) (fun _ => 1) (some fun _ => 9 / 10) 0 1).2.b 0
      = (GLane.shrink (fun x : ℚ => (x - 4 / 5) ^ 2)
          ((goldInit (5 / 8 : ℚ) (fun (_ : Fin 1) => 0) (fun _ => 1) (some fun _ => 9 / 10)).lane 0)).2 := by
    refine Eq.trans ?_ (congrArg Prod.snd (goldShrink_lane (fun (_ : Fin 1) (x : ℚ) => (x - 4 / 5) ^ 2) _ 0))
    rcases goldLoop_iterate (5 / 8 : ℚ) (fun (_ : Fin 1) (x : ℚ) => (x - 4 / 5) ^ 2) 0 1
      (goldInit (5 / 8) (fun _ => 0) (fun _ => 1) (some fun _ => 9 / 10)) with h | ⟨k, hk, h, _⟩
    · exact (congrArg (fun s : GoldSt ℚ 1 => s.b 0) h).trans rfl
    · obtain rfl : k = 0 := by omega
      exact congrArg (fun s : GoldSt ℚ 1 => s.b 0) h
  rw [e] at h1
  simp only [GLane.shrink, GoldSt.lane, goldInit] at h1
  norm_num at h1

end GoldenCWitness

section GoldenRatio
@[reducible] noncomputable def realSqrt : HasSqrt ℝ := ⟨Real.sqrt⟩
attribute [local instance] realSqrt

/-- the constant the code uses, `gr = 2/(√5+1)`, satisfies the hypothesis `1/2 < gr < 1` of `C14_golden` -/
theorem C14_golden_ratio : (1 : ℝ) / 2 < goldenRatio ∧ (goldenRatio : ℝ) < 1 := by
  have h5 : (five : ℝ) = 5 := by unfold five; norm_num
  have hlo : (1 : ℝ) < Real.sqrt 5 := by
    rw [show (1 : ℝ) = Real.sqrt 1 by simp]
    exact Real.sqrt_lt_sqrt (by norm_num) (by norm_num)
  have hhi : Real.sqrt 5 < 3 := by
    rw [show (3 : ℝ) = Real.sqrt 9 by rw [show (9 : ℝ) = 3 ^ 2 by norm_num, Real.sqrt_sq (by norm_num)]]
    exact Real.sqrt_lt_sqrt (by norm_num) (by norm_num)
  unfold goldenRatio
  rw [h5, two_eq]
  show 1 / 2 < 2 / (Real.sqrt 5 + 1) ∧ 2 / (Real.sqrt 5 + 1) < 1
  constructor
  · rw [div_lt_div_iff₀ (by norm_num) (by linarith)]; linarith
  · rw [div_lt_one (by linarith)]; linarith
end GoldenRatio

section NonVacuityScalar
-- f(x) = x − 1/3 on [0,1] has a strict sign change; (x − 1/3)² is strictly unimodal on [0,1]
example : (0 : ℚ) ≤ 1 ∧ ((0 : ℚ) - 1 / 3) * ((1 : ℚ) - 1 / 3) < 0 := by norm_num

example : Unimodal (fun x : ℚ => (x - 1 / 3) ^ 2) 0 1 (1 / 3) := unimodal_sq_sub (by norm_num) (by norm_num)
end NonVacuityScalar

end Scico.Props.C14
