/-
  Property C11 — solver iterations follow the documented update equations; accessors return the
  documented expressions.

  `…ImplStep` is the transcription of the `step()` method body (`Model/Steps.lean`, one structure
  update per Python assignment), `…SpecStep` the transcription of the class docstring equations.
  The theorems are equalities of *functions of the state*: they hold on every state (hence on every
  reachable one, after any number of prior iterations), for every value of the scalar options
  (ρ, α, μ, ν, τ, σ, L₀ — no range restriction), for arbitrary operators / proximal maps /
  sub-problem solvers / Jacobian products / step-size hooks, and for variables in arbitrary modules
  over a linearly ordered field: real arrays, complex arrays (a complex space is a real module),
  block arrays (products of modules).
-/
import Scico.Proofs.StepsEq
import Scico.Model.StepsSource
import Mathlib.LinearAlgebra.Complex.Module
import Mathlib.Algebra.Order.Ring.Rat
import Mathlib.Algebra.Module.Pi
import Mathlib.Algebra.Module.Prod

set_option linter.unusedSectionVars false

namespace Scico.Props.C11
open Scico Scico.Steps

variable {K X Z U σ : Type} [Field K] [LinearOrder K]
  [AddCommGroup X] [Module K X] [AddCommGroup Z] [Module K Z] [AddCommGroup U] [Module K U]

/-- ADMM: the in-place loop over the live lists `z_list`/`u_list`, with the `alpha == 1.0`
    shortcut and `z_list_old = z_list.copy()` taken before the loop, is the documented iteration
    (with Boyd's relaxation) — on every state whose lists have the common length `N`. -/
theorem C11_admm_impl_eq_spec (p : ADMMParams K X Z) (s : ADMMState X Z) (N : Nat)
    (h : ADMMWf N p s) : admmImplStep p s = admmSpecStep p s :=
  admm_impl_eq_spec p s N h

/-- the length hypothesis of `C11_admm_impl_eq_spec` holds after `__init__` (which checks
    `len(C_list) = len(g_list) = len(rho_list)`) and after any number of steps -/
theorem C11_admm_wf_reachable (p : ADMMParams K X Z) (x0 : Option X) (N : Nat)
    (hr : p.rho.length = N) (hp : p.proxg.length = N) (hc : p.C.length = N) (k : Nat) :
    ADMMWf N p (iter (admmImplStep p) k (admmInit p x0)) :=
  iter_invariant (fun s => admm_step_wf p s N) k _ (admm_init_wf p x0 N hr hp hc)

/-- ADMM trajectories: `k` calls of `step()` from the constructor state are `k` documented
    iterations, for every `k` -/
theorem C11_admm_iterates (p : ADMMParams K X Z) (x0 : Option X) (N : Nat)
    (hr : p.rho.length = N) (hp : p.proxg.length = N) (hc : p.C.length = N) (k : Nat) :
    iter (admmImplStep p) k (admmInit p x0) = iter (admmSpecStep p) k (admmInit p x0) :=
  iter_semiconj_on (φ := id) (fun s => admm_step_wf p s N) (fun s => admm_impl_eq_spec p s N) k _
    (admm_init_wf p x0 N hr hp hc)

theorem C11_ladmm_impl_eq_spec (p : LADMMParams K X Z) :
    ladmmImplStep p = ladmmSpecStep p := funext fun _ => rfl

theorem C11_padmm_impl_eq_spec (p : PADMMParams K X Z U) :
    padmmImplStep p = padmmSpecStep p := by
  funext s
  unfold padmmImplStep padmmSpecStep
  simp only [one_div, mul_inv]

/-- constructor defaults `B = None` (→ `−I`) and `c = None` (→ `0.0`): the step is the documented
    iteration for the constraint `A x − z = 0` -/
theorem C11_padmm_default_B (p : PADMMParams K X U U) (s : PADMMState X U U)
    (hB : p.B = padmmDefaultB.1) (hBH : p.BH = padmmDefaultB.2) (hc : p.c = padmmC none) :
    padmmImplStep p s =
      let xn := p.proxf (p.rho⁻¹ * p.mu⁻¹) (s.x - p.mu⁻¹ • p.AH ((2 : K) • s.u - s.uOld))
      let zn := p.proxg (p.rho⁻¹ * p.nu⁻¹) (s.z + p.nu⁻¹ • (p.A xn - s.z + s.u))
      { x := xn, z := zn, zOld := s.z, u := s.u + (p.A xn - zn), uOld := s.u } := by
  rw [C11_padmm_impl_eq_spec]
  unfold padmmSpecStep
  simp only [hB, hBH, hc, padmmDefaultB, padmmC, sub_zero, smul_neg, sub_neg_eq_add]
  congr 1
  · congr 2
    rw [sub_eq_add_neg (p.A _) s.z]
  · abel_nf

theorem C11_nlpadmm_impl_eq_spec (p : NLPADMMParams K X Z U) :
    nlpadmmImplStep p = nlpadmmSpecStep p := by
  funext s
  unfold nlpadmmImplStep nlpadmmSpecStep
  simp only [one_div, mul_inv]

/-- PDHG, linear and non-linear `C` (the branch is `isinstance(C, LinearOperator)`); note that
    the Jacobian is taken at the *old* `x` because `self.x` has not been reassigned yet -/
theorem C11_pdhg_impl_eq_spec (p : PDHGParams K X Z) :
    pdhgImplStep p = pdhgSpecStep p := by
  funext s
  unfold pdhgImplStep pdhgSpecStep
  cases h : p.linear <;> simp

/-- PGM with an arbitrary step-size hook -/
theorem C11_pgm_impl_eq_spec [HasSqrt K] (p : PGMParams σ K X) :
    pgmImplStep p = pgmSpecStep p := by
  funext s
  unfold pgmImplStep pgmSpecStep pgmXStep
  simp only [one_div]

/-- accelerated PGM = FISTA with an arbitrary step-size hook; which point the hook is consulted at
    and the robust-line-search replacement follow the `isinstance` tests of the code -/
theorem C11_apgm_impl_eq_spec [HasSqrt K] (p : PGMParams σ K X) :
    apgmImplStep p = apgmSpecStep p := by
  funext s
  unfold apgmImplStep apgmSpecStep pgmXStep fistaTImpl
  cases hk : p.pol.kind <;> simp [PolKind.isBB, PolKind.isRobust, one_div]

/-- any number of steps (all single-list optimisers): equal step maps give equal trajectories -/
theorem C11_iterates {S : Type} (f g : S → S) (h : f = g) (k : Nat) (s : S) :
    iter f k s = iter g k s ∧ trace f k s = trace g k s := by
  subst h; exact ⟨rfl, rfl⟩

/-- ADMM accessors: `objective(x, z_list)`, `norm_primal_residual(x)`, `norm_dual_residual()`,
    `minimizer()` are the documented expressions of the supplied point resp. the current state;
    exactly one of `x`, `z_list` is rejected (`ValueError`). -/
theorem C11_accessors_admm [HasSqrt K] (p : ADMMParams K X Z) (s : ADMMState X Z) (x : X) (zl : List Z) :
    admmObjectiveImpl p s (some x) (some zl) = .ok (admmObjectiveSpec p x zl) ∧
    admmObjectiveImpl p s none none = .ok (admmObjectiveSpec p s.x s.z) ∧
    admmObjectiveImpl p s (some x) none = .error .value ∧
    admmObjectiveImpl p s none (some zl) = .error .value ∧
    admmNormPrimalImpl p s (some x) = admmNormPrimalSpec p x s.z ∧
    admmNormPrimalImpl p s none = admmNormPrimalSpec p s.x s.z ∧
    admmNormDualImpl p s = admmNormDualSpec p s ∧
    admmMinimizer s = s.x := by
  refine ⟨?_, ?_, rfl, rfl, admm_normPrimal_some p s x, admm_normPrimal_none p s, admm_normDual_spec p s, rfl⟩ <;>
  · unfold admmObjectiveImpl admmObjectiveSpec
    cases p.f <;> simp [foldl_zip_eq (fun (g : Z → K) z => g z)]

theorem C11_accessors_ladmm (p : LADMMParams K X Z) (s : LADMMState X Z) (x : X) (z : Z) :
    ladmmObjectiveImpl p s (some x) (some z) = .ok (ladmmObjectiveSpec p x z) ∧
    ladmmObjectiveImpl p s none none = .ok (ladmmObjectiveSpec p s.x s.z) ∧
    ladmmObjectiveImpl p s (some x) none = .error .value ∧
    ladmmObjectiveImpl p s none (some z) = .error .value ∧
    ladmmNormPrimalImpl p s (some x) = ladmmNormPrimalSpec p x s.z ∧
    ladmmNormPrimalImpl p s none = ladmmNormPrimalSpec p s.x s.z ∧
    ladmmNormDualImpl p s = ladmmNormDualSpec p s ∧
    ladmmMinimizer s = s.x :=
  ⟨rfl, rfl, rfl, rfl, rfl, rfl, rfl, rfl⟩

theorem C11_accessors_padmm (p : PADMMParams K X Z U) (s : PADMMState X Z U) (x : X) (z : Z) :
    padmmObjectiveImpl p.f p.g s (some x) (some z) = .ok (padmmObjectiveSpec p.f p.g x z) ∧
    padmmObjectiveImpl p.f p.g s none none = .ok (padmmObjectiveSpec p.f p.g s.x s.z) ∧
    padmmObjectiveImpl p.f p.g s (some x) none = .error .value ∧
    padmmObjectiveImpl p.f p.g s none (some z) = .error .value ∧
    padmmNormPrimalImpl p s (some x) (some z) = .ok (padmmNormPrimalSpec p x z) ∧
    padmmNormPrimalImpl p s none none = .ok (padmmNormPrimalSpec p s.x s.z) ∧
    padmmNormPrimalImpl p s (some x) none = .error .value ∧
    padmmNormPrimalImpl p s none (some z) = .error .value ∧
    padmmNormDualImpl p s = padmmNormDualSpec p s ∧
    padmmMinimizer s = s.x :=
  ⟨rfl, rfl, rfl, rfl, rfl, rfl, rfl, rfl, by unfold padmmNormDualImpl padmmNormDualSpec; cases p.fastDual <;> rfl, rfl⟩

theorem C11_accessors_nlpadmm (p : NLPADMMParams K X Z U) (s : PADMMState X Z U) (x : X) (z : Z) :
    nlpadmmNormPrimalImpl p s (some x) (some z) = .ok (nlpadmmNormPrimalSpec p x z) ∧
    nlpadmmNormPrimalImpl p s none none = .ok (nlpadmmNormPrimalSpec p s.x s.z) ∧
    nlpadmmNormPrimalImpl p s (some x) none = .error .value ∧
    nlpadmmNormPrimalImpl p s none (some z) = .error .value ∧
    nlpadmmNormDualImpl p s = nlpadmmNormDualSpec p s :=
  ⟨rfl, rfl, rfl, rfl, by unfold nlpadmmNormDualImpl nlpadmmNormDualSpec; cases p.fastDual <;> rfl⟩

theorem C11_accessors_pdhg (p : PDHGParams K X Z) (s : PDHGState X Z) (x : X) :
    pdhgObjectiveImpl p s (some x) = pdhgObjectiveSpec p x ∧
    pdhgObjectiveImpl p s none = pdhgObjectiveSpec p s.x ∧
    pdhgNormPrimalImpl p s = pdhgNormPrimalSpec p s ∧
    pdhgNormDualImpl p s = pdhgNormDualSpec p s ∧
    pdhgMinimizer s = s.x :=
  ⟨rfl, rfl, div_eq_inv_mul _ _, div_eq_inv_mul _ _, rfl⟩

theorem C11_accessors_pgm [HasSqrt K] (p : PGMParams σ K X) (s : PGMState σ K X) (a : APGMState σ K X)
    (ri : X → X → K) (x y : X) (L : K) :
    pgmObjectiveImpl p s.x (some x) = pgmObjectiveSpec p x ∧
    pgmObjectiveImpl p s.x none = pgmObjectiveSpec p s.x ∧
    pgmFQuadApproxImpl p ri x y L = pgmFQuadApproxSpec p ri x y L ∧
    pgmNormResidual (pgmImplStep p s) = p.normX (s.x - (pgmSpecStep p s).x) ∧
    (p.pol.kind ≠ .robust → apgmNormResidual (apgmImplStep p a) = p.normX ((apgmSpecStep p a).x - a.v)) ∧
    (p.pol.kind = .robust → apgmNormResidual (apgmImplStep p a) = p.normX ((apgmSpecStep p a).x - a.x)) ∧
    pgmMinimizer s = s.x ∧ apgmMinimizer a = a.x := by
  refine ⟨rfl, rfl, rfl, ?_, ?_, ?_, rfl, rfl⟩
  · rw [C11_pgm_impl_eq_spec]; rfl
  · intro hk
    rw [C11_apgm_impl_eq_spec]
    unfold apgmSpecStep apgmNormResidual
    cases hkk : p.pol.kind <;> simp_all
  · intro hk
    rw [C11_apgm_impl_eq_spec]
    unfold apgmSpecStep apgmNormResidual
    simp [hk]

/-- constructors / `z_init` / `u_init`: `x = x0` (zeros when `None`), `z_i = C_i x0`, `z_old = z`, `u_i = 0`
    (ADMM, LinearizedADMM); missing starts are zeros and the previous-iterate copies equal the current
    ones (ProximalADMM family, PDHG); `v = x0`, `t = 1`, `L = L0`, residual `inf` (PGM / AcceleratedPGM) -/
theorem C11_init (pa : ADMMParams K X Z) (pl : LADMMParams K X Z) (x0 : X) (z0 : Z) (u0 : U) (L0 inf : K) (m : σ) :
    admmInit pa (some x0) = { x := x0, z := pa.C.map (fun C => C x0), zOld := pa.C.map (fun C => C x0),
                              u := pa.C.map (fun _ => 0) } ∧
    (admmInit pa none).x = 0 ∧
    ladmmInit pl (some x0) = { x := x0, z := pl.C x0, zOld := pl.C x0, u := 0 } ∧
    (ladmmInit pl none).x = 0 ∧
    (padmmInit (some x0) (some z0) (some u0) : PADMMState X Z U) = { x := x0, z := z0, zOld := z0, u := u0, uOld := u0 } ∧
    (padmmInit none none none : PADMMState X Z U) = { x := 0, z := 0, zOld := 0, u := 0, uOld := 0 } ∧
    (pdhgInit (some x0) (some z0) : PDHGState X Z) = { x := x0, xOld := x0, z := z0, zOld := z0 } ∧
    (pdhgInit none none : PDHGState X Z) = { x := 0, xOld := 0, z := 0, zOld := 0 } ∧
    (pgmInit L0 inf x0 m : PGMState σ K X) = { x := x0, L := L0, fpr := inf, mem := m } ∧
    (apgmInit L0 inf x0 m : APGMState σ K X) = { x := x0, v := x0, t := 1, L := L0, fpr := inf, mem := m } :=
  ⟨rfl, rfl, rfl, rfl, rfl, rfl, rfl, rfl, rfl, rfl⟩

/-- EVERY combination of given / missing starts (`x0`, `z0`, `u0` each `None` or an array): the constructor state is the supplied
    value (zeros where missing) and each `*_old` copy is initialised FROM THE SAME value as its variable — `z_old = z`, `u_old = u`
    (`ProximalADMMBase.__init__`), `x_old = x`, `z_old = z` (`PDHG.__init__`), `z_old = z = C x0`, `u = 0` (`ADMM`, `LinearizedADMM`) -/
theorem C11_init_any_starts (pa : ADMMParams K X Z) (pl : LADMMParams K X Z) (x0 : Option X) (z0 : Option Z) (u0 : Option U) :
    (padmmInit x0 z0 u0 : PADMMState X Z U)
      = { x := x0.getD 0, z := z0.getD 0, zOld := z0.getD 0, u := u0.getD 0, uOld := u0.getD 0 } ∧
    (pdhgInit x0 z0 : PDHGState X Z) = { x := x0.getD 0, xOld := x0.getD 0, z := z0.getD 0, zOld := z0.getD 0 } ∧
    ladmmInit pl x0 = { x := x0.getD 0, z := pl.C (x0.getD 0), zOld := pl.C (x0.getD 0), u := 0 } ∧
    admmInit pa x0 = { x := x0.getD 0, z := pa.C.map (fun C => C (x0.getD 0)), zOld := pa.C.map (fun C => C (x0.getD 0)),
                       u := pa.C.map (fun _ => 0) } := by
  cases x0 <;> cases z0 <;> cases u0 <;> exact ⟨rfl, rfl, rfl, rfl⟩

/-- constructor argument checks.  `ADMM.__init__`: `len(C_list) ≠ len(g_list)` or `len(rho_list) ≠ len(g_list)` is a
    `ValueError`; otherwise the state is `admmInit` and all lists have the common length `N = len(g_list)` — the
    hypothesis of `C11_admm_impl_eq_spec` (`proxg` and `g` are the same list of functional objects, hence `hpg`).
    `PGM/AcceleratedPGM.__init__`: `g.has_prox` false is a `ValueError`. -/
theorem C11_init_checked (p : ADMMParams K X Z) (x0 : Option X) (hpg : p.proxg.length = p.g.length)
    (L0 inf : K) (x1 : X) (m : σ) :
    (p.C.length ≠ p.g.length → admmInitChecked p x0 = .error .value) ∧
    (p.rho.length ≠ p.g.length → admmInitChecked p x0 = .error .value) ∧
    (p.C.length = p.g.length → p.rho.length = p.g.length →
      admmInitChecked p x0 = .ok (admmInit p x0) ∧ ADMMWf p.g.length p (admmInit p x0)) ∧
    (admmInit p none).z = p.C.map (fun C => C 0) ∧
    (pgmInitChecked false L0 inf x1 m : Except Err (PGMState σ K X)) = .error .value ∧
    (pgmInitChecked true L0 inf x1 m : Except Err (PGMState σ K X)) = .ok (pgmInit L0 inf x1 m) ∧
    (apgmInitChecked false L0 inf x1 m : Except Err (APGMState σ K X)) = .error .value ∧
    (apgmInitChecked true L0 inf x1 m : Except Err (APGMState σ K X)) = .ok (apgmInit L0 inf x1 m) := by
  refine ⟨fun h => ?_, fun h => ?_, fun h1 h2 => ⟨?_, admm_init_wf p x0 _ h2 hpg h1⟩, rfl, rfl, rfl, rfl, rfl⟩
  · unfold admmInitChecked; simp [h]
  · unfold admmInitChecked
    by_cases hc : p.C.length = p.g.length <;> simp [hc, h]
  · unfold admmInitChecked; simp [h1, h2]

/-- the empty constraint list `N = 0` (`g_list = C_list = rho_list = []`): the linear-system sub-problem solvers reject it
    (`TypeError` from `internal_init`), `GenericSubproblemSolver` accepts it when `x0` is given (`IndexError` otherwise); the
    accepted state has empty lists, `step()` is `x ← solver.solve(x)` (the documented `argmin f`) and keeps the lists empty,
    both residual accessors are the norm of an empty sum.  For `N ≥ 1` the full constructor agrees with `admmInitChecked`. -/
theorem C11_admm_empty [HasSqrt K] (p : ADMMParams K X Z) (hg : p.g = []) (hC : p.C = []) (hr : p.rho = [])
    (hp : p.proxg = []) (x0 : X) (q : ADMMParams K X Z) (hq : q.C ≠ []) (r : Bool) (y0 : Option X) :
    admmInitFull true p (some x0) = .error .type ∧ admmInitFull true p none = .error .type ∧
    admmInitFull false p none = .error .index ∧
    admmInitFull false p (some x0) = .ok { x := x0, z := [], zOld := [], u := [] } ∧
    admmImplStep p { x := x0, z := [], zOld := [], u := [] } = { x := p.solveX [] [] x0, z := [], zOld := [], u := [] } ∧
    admmNormPrimalImpl p { x := x0, z := [], zOld := [], u := [] } none = HasSqrt.sqrt 0 ∧
    admmNormDualImpl p { x := x0, z := [], zOld := [], u := [] } = p.normX 0 ∧
    admmInitFull r q y0 = admmInitChecked q y0 := by
  refine ⟨?_, ?_, ?_, ?_, ?_, ?_, ?_, ?_⟩
  · simp [admmInitFull, hg, hC, hr]
  · simp [admmInitFull, hg, hC, hr]
  · simp [admmInitFull, hg, hC, hr]
  · simp [admmInitFull, admmInit, hg, hC, hr]
  · simp [admmImplStep, admmZipLen, hC, hr, hp]
  · simp [admmNormPrimalImpl, hC, hr]
  · simp [admmNormDualImpl, hr]
  · have hl : q.C.length ≠ 0 := fun h => hq (List.length_eq_zero_iff.1 h)
    unfold admmInitFull admmInitChecked
    by_cases h1 : q.C.length = q.g.length <;> by_cases h2 : q.rho.length = q.g.length
    · have hgne : q.g ≠ [] := fun h => hl (by rw [h1, h]; rfl)
      simp [h1, h2, hgne]
    · simp [h1, h2]
    · simp [h1]
    · simp [h1]

/-- step-size state of the Barzilai–Borwein policies (`BBStepSize`, `AdaptiveBBStepSize`): after every call of `step()`
    of PGM and of AcceleratedPGM the policy's memory `(xprev, gradprev)` is the iterate `x` of the pre-state and its
    gradient — whether or not the BB value was accepted — and `L` is the documented quotient `ΔgᵀΔg / ΔxᵀΔg` of the
    differences to the remembered point when it passes the finiteness / positivity test, the previous `L` otherwise -/
theorem C11_bb_step [HasSqrt K] (gradf : X → X) (ri : X → X → K) (ok : K → Bool) (dz : X) (kappa : K)
    (p : PGMParams (BBMem X) K X) (hp : p.pol = bbPolicy gradf ri ok dz)
    (q : PGMParams (ABBMem K X) K X) (hq : q.pol = abbPolicy gradf ri ok kappa dz)
    (s : PGMState (BBMem X) K X) (a : APGMState (BBMem X) K X)
    (s' : PGMState (ABBMem K X) K X) (a' : APGMState (ABBMem K X) K X) :
    (pgmImplStep p s).mem = some (s.x, gradf s.x) ∧ (apgmImplStep p a).mem = some (a.x, gradf a.x) ∧
    (pgmImplStep q s').mem.prev = some (s'.x, gradf s'.x) ∧ (apgmImplStep q a').mem.prev = some (a'.x, gradf a'.x) ∧
    (pgmImplStep p s).L = (match s.mem with
      | none => s.L
      | some (xp, gp) =>
        if ok (ri (gradf s.x - gp) (gradf s.x - gp) / ri (s.x - xp) (gradf s.x - gp))
        then ri (gradf s.x - gp) (gradf s.x - gp) / ri (s.x - xp) (gradf s.x - gp) else s.L) := by
  refine ⟨?_, ?_, ?_, ?_, ?_⟩
  · unfold pgmImplStep; rw [hp]; unfold bbPolicy
    rcases s.mem with _ | ⟨xp, gp⟩ <;> rfl
  · unfold apgmImplStep; rw [hp]; unfold bbPolicy
    rcases a.mem with _ | ⟨xp, gp⟩ <;> simp [PolKind.isBB, PolKind.isRobust]
  · unfold pgmImplStep; rw [hq]; unfold abbPolicy
    rcases hm : s'.mem.prev with _ | ⟨xp, gp⟩ <;> simp [hm]
  · unfold apgmImplStep; rw [hq]; unfold abbPolicy
    rcases hm : a'.mem.prev with _ | ⟨xp, gp⟩ <;> simp [hm, PolKind.isBB, PolKind.isRobust]
  · unfold pgmImplStep; rw [hp]; unfold bbPolicy
    rcases s.mem with _ | ⟨xp, gp⟩ <;> rfl

/-- … hence along every PGM trajectory with `BBStepSize` the difference used at iteration `k+1` is between the
    consecutive iterates `x_{k+1}` and `x_k` (the memory after `k+1` steps is `(x_k, ∇f(x_k))`), for every history of
    accepted and rejected values -/
theorem C11_bb_memory_traj [HasSqrt K] (gradf : X → X) (ri : X → X → K) (ok : K → Bool) (dz : X)
    (p : PGMParams (BBMem X) K X) (hp : p.pol = bbPolicy gradf ri ok dz) (s : PGMState (BBMem X) K X) (k : Nat) :
    (iter (pgmImplStep p) (k + 1) s).mem = some ((iter (pgmImplStep p) k s).x, gradf (iter (pgmImplStep p) k s).x) := by
  rw [iter_succ']
  generalize iter (pgmImplStep p) k s = t
  unfold pgmImplStep; rw [hp]; unfold bbPolicy
  rcases t.mem with _ | ⟨xp, gp⟩ <;> rfl

/-- the defect of the pinned tree, as a theorem about the pinned body: ignoring the supplied `x`
    is *not* the documented residual (witness over ℚ: `C = id`, `z = 0`, current `x = 0`,
    supplied `x = 1`) -/
theorem C11_ladmm_primal_pinned_differs :
    ∃ (p : LADMMParams ℚ ℚ ℚ) (s : LADMMState ℚ ℚ) (x : ℚ),
      ladmmNormPrimalPinned p s (some x) ≠ ladmmNormPrimalSpec p x s.z := by
  refine ⟨{ f := fun _ => 0, g := fun _ => 0, proxf := fun _ v => v, proxg := fun _ v => v,
            C := id, Cadj := id, mu := 1, nu := 1, normX := abs, normZ := abs },
          { x := 0, z := 0, zOld := 0, u := 0 }, 1, ?_⟩
  simp [ladmmNormPrimalPinned, ladmmNormPrimalImpl, ladmmNormPrimalSpec]

/-- what the model copies from the optimiser sources, pinned as tables in `Model/StepsSource.lean`; the generated module
    `Scico.Generated.StepsTables` (rewritten from the working tree by `harness/steps_translate.py` on every run) states that the
    tables read from the source equal the pinned ones.  Consequences used by the model: the order of the state updates of every
    `step()` (`…ImplStep` performs one structure update per assignment, in this order); the defaults the model hard-wires
    (`alpha = 1.0`, `B = None`, `c = None`, missing starts, `fast_dual_residual = True`); the state attributes the constructors
    store (`…Init`); and which sub-problem solver classes reduce over `C_list` at attachment (`solverReduces` of
    `admmInitFull`: an empty list is a `TypeError` exactly for those) -/
theorem C11_source_transcription :
    Steps.Source.StepTargets ∧ Steps.Source.ModelDefaults ∧ Steps.Source.InitStateAttrs ∧ Steps.Source.SolverReducesFlags :=
  ⟨Steps.Source.step_targets, Steps.Source.model_defaults, Steps.Source.init_state_attrs, Steps.Source.solver_reduces_flags⟩

-- complex variables: ℂ is a module over ℝ; block variables: products of modules
example (p : LADMMParams ℝ ℂ (ℂ × ℂ)) : ladmmImplStep p = ladmmSpecStep p := C11_ladmm_impl_eq_spec p
example (p : PDHGParams ℝ (ℝ × (Fin 3 → ℝ)) (Fin 2 → ℂ)) : pdhgImplStep p = pdhgSpecStep p :=
  C11_pdhg_impl_eq_spec p
example (p : PADMMParams ℚ (Fin 2 → ℚ) ℚ (ℚ × ℚ)) : padmmImplStep p = padmmSpecStep p :=
  C11_padmm_impl_eq_spec p

/-- a concrete two-constraint ADMM instance over ℚ (relaxation `α = 3/2`, `ρ = (1, 2)`) -/
def exP : ADMMParams ℚ ℚ ℚ :=
  { f := none, g := [fun _ => 0, fun z => z], proxg := [fun _ v => v, fun lam v => v - lam],
    C := [id, fun x => 2 * x], Cadj := [id, fun z => 2 * z], rho := [1, 2], alpha := 3 / 2,
    solveX := fun z u _ => (z.zipWith (fun a b => a - b) u).sum / 4, normX := abs, normZ := abs }
def exS : ADMMState ℚ ℚ := { x := 1, z := [1, 2], zOld := [0, 0], u := [1 / 2, 0] }

example : ADMMWf 2 exP exS := by simp [ADMMWf, exP, exS]
-- the empty constraint list: accepted by the generic solver with a start, one step is the solver's x-update
example :
    let p0 : ADMMParams ℚ ℚ ℚ := { exP with g := [], proxg := [], C := [], Cadj := [], rho := [], solveX := fun _ _ x => x / 2 }
    admmInitFull false p0 (some 4) = .ok { x := 4, z := [], zOld := [], u := [] } ∧
    (admmImplStep p0 { x := 4, z := [], zOld := [], u := [] }).x = 2 ∧ admmInitFull true p0 (some 4) = .error .type := by
  refine ⟨by simp [admmInitFull, admmInit], by simp [admmImplStep, admmZipLen, exP]; norm_num, by simp [admmInitFull]⟩
-- BB policy on the concave `f(x) = −x²/2` over ℚ (`Δx·Δg < 0`): the value is rejected (`L` kept) and the memory is still refreshed
example :
    let pol : Policy (BBMem ℚ) ℚ ℚ := bbPolicy (fun x => -x) (fun a b => a * b) (fun l => decide (0 < l)) 0
    pol.update (some (1, -1)) 3 2 2 = (3, some (2, -2)) := by decide +kernel
-- the constructor check accepts the instance and rejects it when a penalty parameter is missing
example : admmInitChecked exP (some 1) = .ok (admmInit exP (some 1)) := by simp [admmInitChecked, exP]
example : admmInitChecked { exP with rho := [1] } (some 1) = .error .value := by simp [admmInitChecked, exP]
-- the step really moves the state, and both transcriptions compute the same numbers
example : (admmImplStep exP exS).x = 5 / 8 ∧ (admmImplStep exP exS).z = [15 / 16, 3 / 8] ∧
    (admmImplStep exP exS).u = [0, 1 / 2] ∧ (admmImplStep exP exS).zOld = [1, 2] := by
  refine ⟨?_, ?_, ?_, ?_⟩ <;> decide +kernel
example : (admmSpecStep exP exS).z = [15 / 16, 3 / 8] := by decide +kernel

end Scico.Props.C11
