/-
  Property C06 — everything presented as a linear operator is linear.

  `Scico.Jaxpr.check` is a decidable structural test on a JAX-traced program (`Model/Jaxpr.lean`).  On every run the
  translator `harness/translate_jaxpr.py` regenerates the traced program of every linear operator's forward map, adjoint,
  transposes and Gram map from the working tree, and Lean re-checks `checkFast prog = .linC` (over ℝ, where `.linC`,
  `.antiC` and `.linR` all mean ℝ-linear: whichever of the three the program gets) by evaluation
  (`Scico/Generated/Jaxprs_*.lean`).  The theorems below lift that finite verdict to all inputs and all scalars, for
  every interpretation of the primitives that satisfies the per-class facts `I.Sound R K` (the trusted primitive table,
  as explicit hypotheses).  Conjugate-linearity is tracked so that `conj ∘ A ∘ conj` – the shape of every adjoint derived
  by `scico.linear_adjoint` for a complex operator and of `A.T`, `A.conj()` – is recognised as ℂ-linear.
-/
import Scico.Proofs.JaxprExample
import Scico.Proofs.JaxprChecker
import Mathlib.LinearAlgebra.Pi
import Mathlib.LinearAlgebra.Matrix.ToLin
import Mathlib.LinearAlgebra.Matrix.DotProduct
import Mathlib.LinearAlgebra.Matrix.ConjTranspose
import Mathlib.Algebra.Star.Pi
import Mathlib.Algebra.Star.Module

namespace Scico.Props.C06
open Scico.Jaxpr

section
variable {R K V : Type} [CommSemiring R] [CommSemiring K] [StarRing K] [Algebra R K]
  [AddCommMonoid V] [Module R V] [Module K V] [IsScalarTower R K V]

/-- **Soundness of the checker**, in the form the property is stated: a program the checker tags
    `linC` denotes a map with `f (a•x + b•y) = a•f x + b•f y` for all inputs `x y` and all scalars
    `a b : K`, and `f 0 = 0`; tagged `linR`, the same for all scalars of the sub-field `R`.
    Induction over the equation list — any number of equations, inputs, outputs. -/
theorem C06_check_sound (I : Interp V) (hI : I.Sound R K) (p : Prog) :
    (check p = .linC →
      (∀ (a b : K) (x y : Fin p.nin → V), run I p (a • x + b • y) = a • run I p x + b • run I p y) ∧
        run I p 0 = 0) ∧
    (check p = .linR →
      (∀ (a b : R) (x y : Fin p.nin → V), run I p (a • x + b • y) = a • run I p x + b • run I p y) ∧
        run I p 0 = 0) :=
  ⟨fun h => isLinearMap_comb ((hI.run_verdicts p).1 h), fun h => isLinearMap_comb ((hI.run_verdicts p).2.1 h)⟩

/-- **Local form**: only the primitive instances that occur in the program have to satisfy their class
    fact (`Interp.SoundAt`, one statement per equation) - not every primitive id.  With the equations numbered
    `0, 1, 2, …` (`C06_check_ignores_prim`) and `den cls k` the `k`-th equation's JAX primitive with its static
    parameters, these hypotheses are what the run-time table validation tests, instance by instance (harness/jaxpr_table.py,
    streams "coverage" and "in situ") - there at the constant values of the instance's parameter operands, here for all values;
    the proof uses them at the values of the run only. -/
theorem C06_check_sound_local (I : Interp V) (hstar : ∀ r : R, star (algebraMap R K r) = algebraMap R K r)
    (p : Prog) (hat : ∀ e ∈ p.eqns, I.SoundAt R K e.cls e.prim) :
    (check p = .linC → IsLinearMap K (run I p)) ∧ (check p = .linR → IsLinearMap R (run I p)) ∧
    (check p = .antiC → (∀ x y, run I p (x + y) = run I p x + run I p y) ∧
        ∀ (c : K) x, run I p (c • x) = star c • run I p x) :=
  have h := run_verdicts hstar p hat
  ⟨h.1, h.2.1, h.2.2.1⟩

/-- the accepted program is (the underlying function of) a `K`-linear map -/
theorem C06_check_linC_linearMap (I : Interp V) (hI : I.Sound R K) (p : Prog) (h : check p = .linC) :
    ∃ f : (Fin p.nin → V) →ₗ[K] (Fin p.outs.length → V), ∀ x, f x = run I p x :=
  ⟨((hI.run_verdicts p).1 h).mk' _, fun _ => rfl⟩

/-- a program accepted after taking real parts / conjugates is an `R`-linear map -/
theorem C06_check_linR_linearMap (I : Interp V) (hI : I.Sound R K) (p : Prog) (h : check p = .linR) :
    ∃ f : (Fin p.nin → V) →ₗ[R] (Fin p.outs.length → V), ∀ x, f x = run I p x :=
  ⟨((hI.run_verdicts p).2.1 h).mk' _, fun _ => rfl⟩

/-- `linC` is the stronger verdict: it implies linearity over the sub-field as well -/
theorem C06_linC_is_linR (I : Interp V) (hI : I.Sound R K) (p : Prog) (h : check p = .linC) :
    IsLinearMap R (run I p) :=
  (SemiLin.restrict (hI.run_holds p h)).isLinearMap_real

/-- a program tagged `antiC` (an odd number of conjugations) is additive and conjugate-homogeneous,
    `f (c • x) = conj c • f x`; in particular it is `R`-linear -/
theorem C06_check_antiC (I : Interp V) (hI : I.Sound R K) (p : Prog) (h : check p = .antiC) :
    (∀ x y, run I p (x + y) = run I p x + run I p y) ∧
    (∀ (c : K) x, run I p (c • x) = star c • run I p x) ∧ IsLinearMap R (run I p) := by
  have H : SemiLin (fun c : K => star c) (run I p) := hI.run_holds p h
  exact ⟨H.1, H.2, (SemiLin.restrict_anti hI.star_real H).isLinearMap_real⟩

/-- a program tagged `const z` ignores its input, and is identically zero when `z = true` -/
theorem C06_check_const (I : Interp V) (hI : I.Sound R K) (p : Prog) (z : Bool) (h : check p = .const z) :
    (∀ x, run I p x = run I p 0) ∧ (z = true → ∀ x, run I p x = 0) :=
  hI.run_holds p h

/-- the invariant behind the theorem: *every* variable of the program (not only the outputs)
    has the dependence on the input that its tag claims -/
theorem C06_every_variable (I : Interp V) (hI : I.Sound R K) (p : Prog) (i : Nat) :
    Holds R K (tagOf (progTags p) i) (fun x : Fin p.nin → V => valOf (finalEnv I p x) i) :=
  (progTags_holds hI.star_real p fun e _ => hI.at R K e.cls e.prim).2 i

/-- the verdict does not read the `prim` field: giving every equation its own primitive id (its position, so that
    one interpretation can give each equation its own static parameters) does not change it, and after relabelling
    the `k`-th equation is the only one carrying id `k` -/
theorem C06_check_ignores_prim (p : Prog) :
    check p.relabel = check p ∧
      ∀ i (hi : i < p.relabel.eqns.length), (p.relabel.eqns[i]).prim = i :=
  ⟨check_relabel p, fun i hi => (relabelFrom_prim p.eqns 0 i hi).trans (Nat.zero_add i)⟩

/-- the generated obligations are stated with `checkFast`, the same checker in an evaluation order the
    kernel reduces quickly; it computes `check` -/
theorem C06_checkFast_eq_check (p : Prog) : checkFast p = check p := checkFast_eq_check p

/-- nothing the checker accepts depends on the default value the semantics returns for an undefined
    variable: a variable that is not tagged `bad` is defined by an equation reading only the inputs and
    the variables of earlier equations -/
theorem C06_accepted_reads_defined (p : Prog) (k : Nat) (hk : k < p.eqns.length)
    (h : tagOf (progTags p) (p.nin + k) ≠ .bad) :
    (∀ a ∈ p.eqns[k].params, a < p.nin + k) ∧ ∀ a ∈ p.eqns[k].args, a < p.nin + k := by
  unfold progTags at h
  have hat := checkEqns_at p.eqns (List.replicate p.nin .linC) k hk
  simp only [List.length_replicate] at hat
  rw [hat] at h
  have := stepTag_reads_defined h
  simpa [checkEqns_length, Nat.min_eq_left (Nat.le_of_lt hk)] using this

/-- the checker is not vacuously strict: every well-scoped program built from jointly linear
    primitives without parameter operands only (`PureLin`) is accepted (`linC`, or `const true` when no output
    depends on the input) -/
theorem C06_check_accepts_pureLin (p : Prog) (h : PureLin p.nin p.eqns)
    (houts : ∀ o ∈ p.outs, o < p.nin + p.eqns.length) :
    check p = .linC ∨ check p = .const true := by
  rcases check_accepts_pureLin p h houts with h | h | h | ⟨h, -⟩
  · cases h
  · exact .inr h
  · exact .inl h
  · cases h

end

section
variable {K W : Type} [CommSemiring K] [AddCommMonoid W] [Module K W]

/-- **A linear map on `Kⁿ` is the combination of its values on the standard basis** with the coordinates of the
    input … -/
theorem C06_basis_expansion {n : Nat} (f : (Fin n → K) → W) (hf : IsLinearMap K f) (x : Fin n → K) :
    f x = ∑ i, x i • f (Pi.single i 1) := by
  conv_lhs => rw [pi_eq_sum_univ' x]
  rw [← IsLinearMap.mk'_apply hf, map_sum]
  exact Finset.sum_congr rfl fun i _ => (hf.mk' f).map_smul _ _

/-- … hence determined by those values -/
theorem C06_basis_determines {n : Nat} (f g : (Fin n → K) → W) (hf : IsLinearMap K f) (hg : IsLinearMap K g)
    (h : ∀ i, f (Pi.single i 1) = g (Pi.single i 1)) : f = g := by
  funext x
  rw [C06_basis_expansion f hf x, C06_basis_expansion g hg x]
  exact Finset.sum_congr rfl fun i _ => congrArg _ (h i)

/-- consequently a linear map `Kⁿ → Kᵐ` *is* a matrix (its columns are the images of the basis) —
    the object whose conjugate transpose the derived adjoint has to be -/
theorem C06_matrix_of_linear {K : Type} [CommRing K] {n m : Nat} (f : (Fin n → K) → (Fin m → K))
    (hf : IsLinearMap K f) :
    ∃ M : Matrix (Fin m) (Fin n) K, (∀ x, f x = M.mulVec x) ∧ ∀ i j, M j i = f (Pi.single i 1) j := by
  refine ⟨LinearMap.toMatrix' (hf.mk' f), fun x => ?_, fun i j => ?_⟩
  · rw [← Matrix.toLin'_apply, Matrix.toLin'_toMatrix']; rfl
  · simp [LinearMap.toMatrix'_apply]

end

section
variable {K : Type} [CommSemiring K] [StarRing K] {n m l : Nat}

/-- **The operator calculus preserves linearity**: sums, scalar multiples and compositions (hence the Gram
    map `Aᴴ ∘ A`) of linear maps are linear, and so is the conjugated map `x ↦ conj (f (conj x))` - the shape of
    `A.conj()` and, composed with a transpose, of `A.T`.  With the linear leaves certified by the checker this covers
    the derived operators for all leaf configurations (the tie traces a sample of them: class `Derived`). -/
theorem C06_derived_linear (f g : (Fin n → K) → (Fin m → K)) (h : (Fin m → K) → (Fin l → K)) (c : K)
    (hf : IsLinearMap K f) (hg : IsLinearMap K g) (hh : IsLinearMap K h) :
    IsLinearMap K (fun x => f x + g x) ∧ IsLinearMap K (fun x => c • f x) ∧
    IsLinearMap K (fun x => h (f x)) ∧ IsLinearMap K (fun x => star (f (star x))) := by
  refine ⟨(hf.mk' f + hg.mk' g).isLinear, (c • hf.mk' f).isLinear, ((hh.mk' h).comp (hf.mk' f)).isLinear,
    fun x y => ?_, fun a x => ?_⟩
  · simp only [star_add, hf.map_add]
  · simp only [star_smul, hf.map_smul, star_star]

end

section
open Matrix

/-- **The derived adjoint is well defined (existence).**  A linear map `Kⁿ → Kᵐ` has an adjoint for the
    pairing `⟨u,v⟩ = Σ conj(uᵢ) vᵢ`: multiplication by the conjugate transpose of its matrix, itself linear. -/
theorem C06_adjoint_exists {K : Type} [CommRing K] [StarRing K] {n m : Nat} (f : (Fin n → K) → (Fin m → K))
    (hf : IsLinearMap K f) :
    ∃ g : (Fin m → K) → (Fin n → K), IsLinearMap K g ∧ ∀ x y, star (f x) ⬝ᵥ y = star x ⬝ᵥ g y := by
  obtain ⟨M, hM, -⟩ := C06_matrix_of_linear f hf
  refine ⟨fun y => Mᴴ *ᵥ y, ⟨fun y z => Matrix.mulVec_add _ _ _, fun c y => Matrix.mulVec_smul _ _ _⟩, fun x y => ?_⟩
  rw [hM, Matrix.star_mulVec, Matrix.dotProduct_mulVec]

/-- **… and unique**: two maps adjoint to the same `f` coincide (test against the standard basis). -/
theorem C06_adjoint_unique {K : Type} [CommRing K] [StarRing K] {n m : Nat} (f : (Fin n → K) → (Fin m → K))
    (g g' : (Fin m → K) → (Fin n → K))
    (hg : ∀ x y, star (f x) ⬝ᵥ y = star x ⬝ᵥ g y) (hg' : ∀ x y, star (f x) ⬝ᵥ y = star x ⬝ᵥ g' y) : g = g' := by
  funext y i
  have h := (hg (Pi.single i 1) y).symm.trans (hg' (Pi.single i 1) y)
  have key : ∀ v : Fin n → K, star (Pi.single i (1 : K) : Fin n → K) ⬝ᵥ v = v i := fun v => by
    have : star (Pi.single i (1 : K) : Fin n → K) = Pi.single i 1 := by
      funext j; by_cases hj : j = i <;> simp [hj]
    rw [this, single_one_dotProduct]
  rwa [key, key] at h

end

/-- **A concrete array family with no hypothesis left**: values are flattened arrays `ℕ → ℂ`; jointly
    linear primitives are arbitrary row-finite sparse matrices over their operands (`Arr.applyDesc`: add, sub, neg,
    scaling, slice, zero padding, concatenate, reduce_sum, cumsum, reverse, broadcast, transpose, gather with constant
    indices, select_n with a constant predicate, constant matrices such as the DFT - `Proofs/JaxprArray.lean`),
    bilinear ones are the pointwise product and the full convolution, plus pointwise quotient, real / imaginary part
    and conjugate.  For EVERY descriptor table `T` and constant table `C` the verdict of the checker gives linearity
    outright. -/
theorem C06_array_family_linear (T : ℕ → List Arr.Vc → Arr.LinDesc) (C : ℕ → Arr.Vc) (p : Prog) :
    (check p = .linC → IsLinearMap ℂ (run (Arr.arrInterp T C) p)) ∧
    (check p = .linR → IsLinearMap ℝ (run (Arr.arrInterp T C) p)) ∧
    (check p = .const true → ∀ x, run (Arr.arrInterp T C) p x = 0) :=
  have h := (Arr.arrInterp_sound T C).run_verdicts p
  ⟨h.1, h.2.1, h.2.2.2⟩

/-- **Programs over the whole proved family need no hypothesis**.  `Fam.famInterp nl F` interprets
    `linAll` by arbitrary row-finite sparse matrices, `bilinear` by arbitrary row-finite sparse bilinear forms
    `Σ c·u j·v k` (mul with broadcasting, dot_general, conv_general_dilated), `divLike` by `u j / v k`, `realPart` by
    `Σ Re (c·u j)` (real, imag, complex → real) and `conj` by the pointwise conjugate - `Model/Jaxpr.lean: famDen` at ℂ,
    sound for EVERY table `F` (`Fam.famInterp_sound`).  The driver executes this very `run` at complex floats against
    the scico operators (stream 9) and every equation against its JAX primitive (stream 8): a translated program all of
    whose equations are family instances is "proved outright" (counted in the evidence: `proved_outright`). -/
theorem C06_family_programs_linear (nl : ℕ → List Arr.Vc → Arr.Vc) (F : FamTables ℂ) (p : Prog) :
    (check p = .linC → IsLinearMap ℂ (run (Fam.famInterp nl F) p)) ∧
    (check p = .linR → IsLinearMap ℝ (run (Fam.famInterp nl F) p)) ∧
    (check p = .antiC → (∀ x y, run (Fam.famInterp nl F) p (x + y) = run (Fam.famInterp nl F) p x + run (Fam.famInterp nl F) p y) ∧
        ∀ (c : ℂ) x, run (Fam.famInterp nl F) p (c • x) = star c • run (Fam.famInterp nl F) p x) ∧
    (check p = .const true → ∀ x, run (Fam.famInterp nl F) p x = 0) :=
  (Fam.famInterp_sound nl F).run_verdicts p

/-- **The dispatch of the operator calculus is sound**.  `combineKind` is the model of which class scico
    gives to `A + B`, `A - B`, `A(B)`, `A @ B` (a `LinearOperator` only when both operands are; tied on every run for
    every LinearOperator class with arithmetic of its own - generated table - against non-linear operands, stream 10).
    If each operand keeps the promise of its presentation (`KindOK`: presented linear ⇒ linear map), the sum and the
    composition keep the promise of the presentation `combineKind` assigns. -/
theorem C06_calculus_kind_sound {K : Type} [CommSemiring K] {n : Nat} (ka kb : OpKind)
    (f g : (Fin n → K) → (Fin n → K)) (hf : KindOK ka f) (hg : KindOK kb g) :
    KindOK (combineKind ka kb) (fun x => f x + g x) ∧ KindOK (combineKind ka kb) (fun x => f (g x)) := by
  cases ka <;> cases kb
  · exact ⟨fun _ => ((hf rfl).mk' f + (hg rfl).mk' g).isLinear,
      fun _ => (((hf rfl).mk' f).comp ((hg rfl).mk' g)).isLinear⟩
  all_goals exact ⟨nofun, nofun⟩

open Scico.Jaxpr.Example

-- the hypotheses `Interp.Sound ℝ ℂ` are satisfiable: complex sequences with add / neg / shift / mask /
-- pointwise product, quotient, real part, conjugate, square
example : vecInterp.Sound ℝ ℂ := vecInterp_sound

-- forward difference: accepted, so ℂ-linear by the theorem, and it denotes x(i+1) - x(i)
example : check fdProg = .linC := by decide
example : checkFast fdProg = .linC := by decide +kernel   -- the form of the generated obligations
example (a b : ℂ) (x y : Fin 1 → Vc) :
    run vecInterp fdProg (a • x + b • y) = a • run vecInterp fdProg x + b • run vecInterp fdProg y :=
  ((C06_check_sound vecInterp vecInterp_sound fdProg).1 (by decide)).1 a b x y
example (x : Fin 1 → Vc) (j) (i : ℕ) : run vecInterp fdProg x j i = x 0 (i + 1) - x 0 i := fdProg_run x j i

-- constants, a product with a constant, a quotient by a constant, a constant-predicate mask: accepted
example : check scaleProg = .linC := by decide

-- real part: accepted as ℝ-linear only — and it is *not* ℂ-linear
example : check reProg = .linR := by decide
example : ¬ IsLinearMap ℂ (run vecInterp reProg) := reProg_not_complex_linear
example : IsLinearMap ℝ (run vecInterp reProg) :=
  (C06_check_linR_linearMap (K := ℂ) vecInterp vecInterp_sound reProg (by decide)).elim
    fun f hf => by rw [← funext hf]; exact f.isLinear

-- one conjugation: conjugate-linear, not ℂ-linear (f(i•1) = -i ≠ i = i•f(1));
-- conj ∘ (3·) ∘ conj (the shape of a derived complex adjoint): ℂ-linear again
example : check conjProg = .antiC := by decide
example : ¬ IsLinearMap ℂ (run vecInterp conjProg) := conjProg_not_complex_linear
example : check conjConjProg = .linC := by decide

-- x*x is rejected and really is not additive: f(1+1) = 4 ≠ 2 = f(1)+f(1)
example : check sqProg = .bad := by decide
example : ¬ ∀ x y, run vecInterp sqProg (x + y) = run vecInterp sqProg x + run vecInterp sqProg y :=
  sqProg_not_additive

-- x+1 (affine; accepted silently by jax.linear_transpose) is rejected and does not map 0 to 0
example : check affProg = .bad := by decide
example : run vecInterp affProg 0 ≠ 0 := affProg_zero_ne

-- a data-dependent predicate and a division by the input are rejected
example : check dataMaskProg = .bad := by decide
example : check recipProg = .bad := by decide

-- local form: a globally sound interpretation satisfies the per-equation hypotheses of every program, and the
-- relabelled forward difference is accepted with ids 0, 1, 2
example (p : Prog) : ∀ e ∈ p.eqns, vecInterp.SoundAt ℝ ℂ e.cls e.prim := fun e _ => vecInterp_sound.at ℝ ℂ e.cls e.prim
example : check fdProg.relabel = .linC ∧ fdProg.relabel.eqns.map (·.prim) = [0, 1, 2] := by decide

-- the array family: forward difference by slice, slice, sub is accepted and computes x[i+1] - x[i] for i < n-1;
-- centring by reduce_sum, broadcast, sub computes x[i] - Σ x; Re(M x) under a constant mask is ℝ-linear only;
-- x + 1 over the same family is rejected and does not map 0 to 0
open Scico.Jaxpr.Arr in
example : check diffProg = .linC ∧ check centreProg = .linC ∧ check reMatProg = .linR ∧ check affArrProg = .bad := by decide
open Scico.Jaxpr.Arr in
example (n : ℕ) (h : ℕ → ℕ → ℂ) (C : ℕ → Arr.Vc) : IsLinearMap ℂ (run (arrInterp (demoTable n h) C) diffProg) :=
  (C06_array_family_linear (demoTable n h) C diffProg).1 (by decide)
open Scico.Jaxpr.Arr in
example (n : ℕ) (h : ℕ → ℕ → ℂ) (C : ℕ → Arr.Vc) (x : Fin 1 → Arr.Vc) (j) (i : ℕ) :
    run (arrInterp (demoTable n h) C) diffProg x j i = if i < n - 1 then x 0 (i + 1) - x 0 i else 0 :=
  diffProg_run n h C x j i
open Scico.Jaxpr.Arr in
example (n : ℕ) (h : ℕ → ℕ → ℂ) (C : ℕ → Arr.Vc) (x : Fin 1 → Arr.Vc) (j) (i : ℕ) (hi : i < n) :
    run (arrInterp (demoTable n h) C) centreProg x j i = x 0 i - ((List.range n).map (x 0)).sum :=
  centreProg_run n h C x j i hi
open Scico.Jaxpr.Arr in
example (n : ℕ) (h : ℕ → ℕ → ℂ) : run (arrInterp (demoTable n h) (fun _ _ => 1)) affArrProg 0 ≠ 0 := affArrProg_zero n h

-- the map the driver runs at Float against the JAX primitives (harness/jaxpr_family.py, stream 8) is, at ℂ, the map
-- proved jointly linear for every descriptor
example (T : Arr.LinDesc) (xs : List Arr.Vc) : Arr.applyDesc T xs = applyDescG T xs := rfl
example (T : Arr.LinDesc) (c : ℂ) (xs ys : List Arr.Vc) (h : xs.length = ys.length) :
    applyDescG T (ladd xs ys) = applyDescG T xs + applyDescG T ys ∧ applyDescG T (lsmul c xs) = c • applyDescG T xs :=
  ⟨Arr.applyDesc_add T xs ys h, Arr.applyDesc_smul T c xs⟩

-- the whole family: y = conj ((3·x)/2) through a constant product, a constant quotient and a conjugation is `antiC`
-- and denotes exactly that; the real part of the same value is `linR`; both with no hypothesis on the primitives
example : check Fam.exProg = .antiC ∧ check Fam.exProgRe = .linR := by decide
example (nl) (x : Fin 1 → Arr.Vc) (j) (i : ℕ) :
    run (Fam.famInterp nl Fam.exTables) Fam.exProg x j i = (starRingEnd ℂ) (3 * x 0 i / 2) := Fam.exProg_run nl x j i
example (nl) : IsLinearMap ℝ (run (Fam.famInterp nl Fam.exTables) Fam.exProgRe) :=
  (C06_family_programs_linear nl Fam.exTables Fam.exProgRe).2.1 (by decide)

-- dispatch rule: linear with non-linear is presented non-linear (both orders), linear with linear stays linear; the rule
-- is necessary: identity + |.| on R^1 is not a linear map, so presenting it as a LinearOperator would be a violation
example : combineKind .linear .nonlinear = .nonlinear ∧ combineKind .nonlinear .linear = .nonlinear ∧
    combineKind .linear .linear = .linear := by decide
example : ¬ IsLinearMap ℝ (fun x : Fin 1 → ℝ => x + fun i => |x i|) := abs_sum_not_linear

-- the calculus: with f = (2·), g = (3·), h = (5·) on ℂ¹ the four derived maps are linear (hypotheses satisfiable)
example : IsLinearMap ℂ (fun x : Fin 1 → ℂ => star ((2 : ℂ) • star x)) :=
  (C06_derived_linear (fun x : Fin 1 → ℂ => (2 : ℂ) • x) (fun x => (3 : ℂ) • x) (fun x : Fin 1 → ℂ => (5 : ℂ) • x) 7
    ⟨fun x y => smul_add _ x y, fun a x => smul_comm _ a x⟩ ⟨fun x y => smul_add _ x y, fun a x => smul_comm _ a x⟩
    ⟨fun x y => smul_add _ x y, fun a x => smul_comm _ a x⟩).2.2.2

end Scico.Props.C06
