/-
  Property C12 — declared shapes match actual behaviour.

  First the integer shape calculus behind `Slice`, `indexed_shape`, `slice_length`: the declared
  length of a sliced axis equals the number of positions Python/NumPy indexing actually selects, for
  every axis length, every start/stop/step (including negative steps and out-of-range bounds), and
  every selected position is a valid index of the axis.  Then the declared metadata of derived
  operators (engine OpAlg).
-/
import Scico.Proofs.Shape
import Scico.Proofs.ShapeIdx
import Scico.Proofs.OpAlgDtUniform
import Scico.Proofs.OpAlgStack
import Scico.Proofs.OpAlgRep
import Scico.Proofs.OpAlgTables

namespace Scico.Props.C12
open Scico.Shape

/-- `slice_length` (model `sliceLen`) = number of positions selected by Python slicing. -/
theorem C12_sliceLen_eq_selected (n : Nat) (sl : PySlice) (l : List Int)
    (h : selected n sl = some l) : sliceLen n sl = some (l.length : Int) := by
  unfold selected at h
  unfold sliceLen
  cases hidx : pyIndices n sl with
  | none => simp [hidx] at h
  | some t =>
    obtain ⟨a, b, s⟩ := t
    simp only [hidx, Option.some.injEq] at h ⊢
    subst h
    obtain ⟨hs, hpos, hneg⟩ := pyIndices_bounds n sl a b s hidx
    exact (rangeList_length n a b s hs (rangeLen_le_of_bounds hs hpos hneg)).symm

/-- slicing is rejected (Python `ValueError`) exactly for a zero step -/
theorem C12_slice_rejected_iff (n : Nat) (sl : PySlice) :
    sliceLen n sl = none ↔ sl.step = some 0 := by
  unfold sliceLen pyIndices
  cases hst : sl.step with
  | none => simp
  | some v => by_cases hv : v = 0 <;> simp [hv]

/-- every selected position is a valid index of the axis -/
theorem C12_selected_in_bounds (n : Nat) (sl : PySlice) (l : List Int)
    (h : selected n sl = some l) : ∀ p ∈ l, 0 ≤ p ∧ p < n := by
  unfold selected at h
  cases hidx : pyIndices n sl with
  | none => simp [hidx] at h
  | some t =>
    obtain ⟨a, b, s⟩ := t
    simp only [hidx, Option.some.injEq] at h
    subst h
    obtain ⟨_, hpos, hneg⟩ := pyIndices_bounds n sl a b s hidx
    intro p hp
    rcases rangeList_mem n a b s p hp with ⟨h1, h2, h3⟩ | ⟨h1, h2, h3⟩
    · obtain ⟨q1, q2, q3, q4⟩ := hpos h1
      omega
    · obtain ⟨q1, q2, q3, q4⟩ := hneg h1
      omega

/-- the declared length never exceeds the axis and is never negative -/
theorem C12_sliceLen_range (n : Nat) (sl : PySlice) (k : Int) (h : sliceLen n sl = some k) :
    0 ≤ k ∧ k ≤ n := by
  unfold sliceLen at h
  cases hidx : pyIndices n sl with
  | none => simp [hidx] at h
  | some t =>
    obtain ⟨a, b, s⟩ := t
    simp only [hidx, Option.some.injEq] at h
    subst h
    obtain ⟨hs, hpos, hneg⟩ := pyIndices_bounds n sl a b s hidx
    exact ⟨rangeLen_nonneg a b s, rangeLen_le_of_bounds hs hpos hneg⟩

-- non-vacuity: a reversed slice of a length-5 axis selects 4,3,2,1,0 (five positions)
example : selected 5 ⟨none, none, some (-1)⟩ = some [4, 3, 2, 1, 0] := by decide
example : sliceLen 5 ⟨none, none, some (-1)⟩ = some 5 := by decide
example : selected 6 ⟨some (-8), some 5, some 2⟩ = some [0, 2, 4] := by decide

/-! ### stacking / collapse rules (`scico/operator/_stack.py`, after fixes/opalg-13) and `indexed_shape` -/

/-- **Collapse rules.**  A sequence of shapes is *stacked* into the plain shape `(N, *S)` exactly when
    collapsing is allowed and all of them are one plain shape `S` (then the number of elements is
    preserved); it is *rejected* (twice-nested) exactly when it is not stacked and some shape is a
    BlockArray shape; otherwise it becomes the BlockArray shape of the given blocks. -/
theorem C12_collapse_spec (s : NShape) (rest : List NShape) (allow : Bool) :
    (∀ d, collapseShapes (s :: rest) allow = some (.stacked d)
        ↔ (allow = true ∧ ∃ dims, s = .plain dims ∧ (∀ t ∈ rest, t = s) ∧ d = (rest.length + 1) :: dims))
    ∧ (collapseShapes (s :: rest) allow = none
        ↔ (¬ (isCollapsible (s :: rest) = true ∧ allow = true) ∧ ∃ t ∈ s :: rest, t.isNested = true))
    ∧ (∀ d, collapseShapes (s :: rest) allow = some (.stacked d)
        → prodList d = ((s :: rest).map shapeToSize).foldr (· + ·) 0) :=
  ⟨fun d => collapse_stacked_iff s rest allow d, collapse_error_iff s rest allow,
   fun d h => collapse_stacked_size s rest allow d h⟩

/-- **`indexed_shape` = NumPy basic indexing.**  The loop of `indexed_shape` (model `indexedShape`:
    the state `idx_shape, offset, newaxis` exactly as the code updates it) computes the shape NumPy's
    basic indexing gives (`indexSpec`: consume the axes left to right, `None` inserts a unit axis,
    `Ellipsis` stands for the axes not consumed by the other entries, missing trailing entries are
    full slices) for EVERY shape and EVERY index tuple of ints / slices / `None` with at most one
    `Ellipsis` — including which indices are rejected (out-of-range integer, zero step, too many
    indices). -/
theorem C12_indexedShape_spec (shape : List Nat) (idx : List Idx)
    (h : (idx.filter (· = .ellipsis)).length ≤ 1) :
    indexedShape shape idx = indexSpec shape idx := by
  unfold indexedShape indexSpec
  by_cases hg : (idx.filter Idx.consumes).length > shape.length
  · simp [hg]
  · simp only [hg, if_false]
    have hle : 0 + nCons idx ≤ shape.length := by simp only [nCons]; omega
    have := loop_spec shape (idx.filter (· = .newaxis)).length idx.length idx 0 [] 0 0 0 h hle
      (by simp) rfl
      (by
        intro he
        have := count_split idx
        simp only [nNew] at this
        push_cast
        omega)
    simp only [List.nil_append, List.drop_zero, List.filterMap_nil, Nat.sub_zero] at this
    rw [this]
    simp only [nCons]
    cases indexWalk shape idx (shape.length - (idx.filter Idx.consumes).length) <;> simp

/-- what the specification says in the three basic situations (sanity of `indexSpec`): the empty
    index keeps the shape; one leading `None` prepends a unit axis; one leading in-range integer
    removes the first axis -/
theorem C12_indexSpec_basic (n : Nat) (shape : List Nat) (i : Int) (hi : -(n : Int) ≤ i ∧ i < n) :
    indexSpec (n :: shape) [] = some (n :: shape)
    ∧ indexSpec (n :: shape) [.newaxis] = some (1 :: n :: shape)
    ∧ indexSpec (n :: shape) [.int i] = some shape
    ∧ indexSpec (n :: shape) [.ellipsis] = some (n :: shape) := by
  refine ⟨rfl, rfl, ?_, ?_⟩
  · have h1 : ¬ (i < -(n : Int) ∨ i > (n : Int) - 1) := by omega
    simp [indexSpec, indexWalk, List.filter_cons, Idx.consumes, axisLen, h1]
  · simp [indexSpec, indexWalk, Idx.consumes]

example : indexedShape [3, 4] [.newaxis, .slice ⟨some 0, some 2, none⟩] = some [1, 2, 4] := by decide
example : indexSpec [3, 4] [.newaxis, .slice ⟨some 0, some 2, none⟩] = some [1, 2, 4] := by decide
example : indexedShape [2, 3, 4] [.ellipsis, .int (-1)] = some [2, 3] := by decide
example : indexSpec [2, 3, 4] [.int 1, .ellipsis, .newaxis, .slice ⟨none, none, some (-2)⟩] = some [3, 1, 2] := by decide
example : indexSpec [2, 3] [.int 0, .int 0, .int 0] = none := by decide
example : collapseShapes [.plain [2, 3], .plain [2, 3]] true = some (.stacked [2, 2, 3]) := by decide
example : collapseShapes [.nested [[2], [3]], .nested [[2], [3]]] true = none := by decide

set_option linter.unusedSectionVars false
section opmeta
open Scico.OpAlg Scico.DType
attribute [local instance] starConj
variable {K : Type} [Field K] [StarRing K] [HasRe K]

/-- **Declared shapes are the actual shapes.**  For every accepted linear expression (any depth,
    any classes): evaluation returns an array with exactly the declared output size, the adjoint
    one with exactly the declared input size, nothing is written beyond those sizes, and
    `matrix_shape` is (output size, input size) = the shape of the denoted matrix.  (`hp` is not used: the statement keeps
    the hypothesis, `OpAlg.infer_sound` is the same conclusion without it.) -/
theorem C12_meta_sound (e : LExpr K) (m : Meta) (hm : infer e = .ok m) (hl : Lin e)
    (hp : PlainDiagProducts e) (hK : RealK K ∨ AllC e) :
    m.matrixShape = (m.outShape.size, m.inShape.size) ∧ m.matrixShape = dims e
    ∧ (∀ x : Vc K, ((run e).eval x).size = m.outShape.size
        ∧ ∀ i, m.outShape.size ≤ i → ((run e).eval x).get i = 0)
    ∧ (∀ y : Vc K, ((run e).adj y).size = m.inShape.size
        ∧ ∀ j, m.inShape.size ≤ j → ((run e).adj y).get j = 0) := by
  obtain ⟨o, ⟨hS, h1, h2⟩, rfl, hr⟩ := infer_sound hm hl hK
  rw [hr]
  exact ⟨rfl, Prod.ext h1 h2, fun x => ⟨hS.evSz x, fun _ hi => Computes.zero_beyond hS.ev x hi⟩,
    fun y => ⟨hS.adSz y, fun _ hj => Computes.zero_beyond hS.ad y hj⟩⟩

/-- **Non-conforming arrays are rejected, never broadcast.**  `__call__` evaluates an array exactly
    when its shape is the declared input shape (and then returns `_eval` of it). -/
theorem C12_reject_nonconforming (o : Obj K) (xsh : Shape) (x : Vc K) :
    ((∃ v, o.callArr xsh x = .ok v) ↔ xsh = o.md.inShape)
    ∧ (∀ v, o.callArr xsh x = .ok v → v = o.eval x) := by
  unfold Obj.callArr
  by_cases h : o.md.inShape = xsh
  · simp [h]
  · have h' : ¬ xsh = o.md.inShape := fun hh => h hh.symm
    simp [h, h']

/-- **The adjoint enforces shape and dtype.**  `LinearOperator.adj` evaluates an array exactly when
    it has the declared output shape and (except for `MatrixOperator`, whose `adj` checks the shape
    only) the declared output dtype. -/
theorem C12_adj_enforces (o : Obj K) (ysh : Shape) (ydt : DT) (y : Vc K) :
    (∃ v, o.adjArr ysh ydt y = .ok v)
      ↔ (ysh = o.md.outShape ∧ (o.md.cls = .matrix ∨ ydt = o.md.outDt)) := by
  unfold Obj.adjArr
  by_cases hc : o.md.cls = .matrix
  · by_cases hs : o.md.outShape = ysh
    · simp [hc, hs]
    · have hs' : ¬ ysh = o.md.outShape := fun hh => hs hh.symm
      simp [hc, hs, hs']
  · by_cases hd : o.md.outDt = ydt
    · by_cases hs : o.md.outShape = ysh
      · simp [hc, hd, hs]
      · have hs' : ¬ ysh = o.md.outShape := fun hh => hs hh.symm
        simp [hc, hd, hs, hs']
    · have hd' : ¬ ydt = o.md.outDt := fun hh => hd hh.symm
      simp [hc, hd, hd']

/-- `jax.numpy.result_type` on scico's four dtypes is the join of a lattice: commutative,
    associative, idempotent, with `float32` as bottom — so the declared dtype of a sum does not
    depend on operand order or grouping. -/
theorem C12_resultType_lattice (a b c : DT) :
    resultType a b = resultType b a ∧ resultType (resultType a b) c = resultType a (resultType b c)
    ∧ resultType a a = a ∧ resultType .f32 a = a :=
  ⟨rt_comm a b, by cases a <;> cases b <;> cases c <;> rfl, rt_idem a, by cases a <;> rfl⟩

/-- **Declared dtypes are the returned dtypes** (any expression, linear or not, any depth).
    Under the agreement conditions that scico does not check itself (`DtAgrees`: the operands of a
    *generic* sum declare the same dtypes, a composition through `Operator.__call__` chains its dtypes,
    a hand-written `adj_fn` returns the input dtype) evaluation on the declared input dtype returns
    exactly the declared output dtype, and `adj` accepts the declared output dtype (its dtype check and
    every inner one pass) and returns the declared input dtype.  Closed-form results (`MatrixOperator`,
    `Diagonal`, `ScaledIdentity`, `Identity`) need no condition.  The excluded cases are exactly the
    recorded findings `mixed-operand-dtypes` / `adj-dtype-check-mixed` (see the negative example). -/
theorem C12_dtype_sound (e : LExpr K) (o : Obj K) (hb : build e = .ok o) (hg : DtAgrees e) :
    o.evalDt o.md.inDt = .ok o.md.outDt
    ∧ (o.md.cls ≠ .op → o.adjCallDt o.md.outDt = .ok o.md.inDt)
    ∧ (o.md.cls = .matrix → o.md.outDt = o.md.inDt) :=
  let h := build_dt e o hg hb
  ⟨h.ev, h.ad, h.mx⟩

/-- **Dtype-uniform expressions** (a syntactic condition: every leaf is declared with the one dtype
    `dt`, scalar factors do not change it — Python floats always, Python complex numbers for a complex
    `dt`): every derived operator declares `dt` on both sides and returns it, forward and adjoint. -/
theorem C12_dtype_sound_uniform (dt : DT) (e : LExpr K) (o : Obj K) (hu : Uniform dt e)
    (hb : build e = .ok o) :
    o.md.inDt = dt ∧ o.md.outDt = dt ∧ o.evalDt dt = .ok dt
    ∧ (o.md.cls ≠ .op → o.adjCallDt dt = .ok dt) := by
  obtain ⟨hU, hD⟩ := build_uniform dt e o hu hb
  refine ⟨hU.inD, hU.outD, ?_, fun hc => ?_⟩
  · have := hD.ev; rwa [hU.inD, hU.outD] at this
  · have := hD.ad hc; rwa [hU.inD, hU.outD] at this

/-- **Stacks: declared shapes and dtypes.**  For `VerticalStack` / `DiagonalStack` of operator objects
    that denote matrices (any classes / derived expressions, any number):
    the vertical stack returns an array of exactly the declared output size = the sum of the operands'
    output sizes, on the operands' common input space, and its declared output shape is a plain array
    `(N, *S)` **iff** collapsing was requested and all operands have one plain output shape `S` (a block
    array otherwise); the diagonal stack's declared sizes are the sums on both sides. -/
theorem C12_stack_meta (ops : List (Obj K)) (Ds : List (Mx K)) (hA : AllSound ops Ds) :
    (∀ collapse o, vstack true ops collapse = .ok o →
        o.md.outShape.size = sumM ops ∧ (∀ o' ∈ ops, o'.md.inShape.size = o.md.inShape.size)
        ∧ (∀ x : Vc K, (o.eval x).size = o.md.outShape.size)
        ∧ (o.md.outShape.isNested = false
            ↔ (isCollapsibleS (ops.map (fun o => o.md.outShape)) && collapse) = true))
    ∧ (∀ cIn cOut o, dstack true ops cIn cOut = .ok o →
        o.md.outShape.size = sumM ops ∧ o.md.inShape.size = sumN ops
        ∧ (∀ x : Vc K, (o.eval x).size = o.md.outShape.size)
        ∧ (∀ y : Vc K, (o.adj y).size = o.md.inShape.size)) := by
  constructor
  · intro collapse o h
    obtain ⟨hS, hm, hn, hc⟩ := vstack_sound collapse hA h
    exact ⟨hm, hn, hS.evSz, hc⟩
  · intro cIn cOut o h
    obtain ⟨hS, hm, hn⟩ := dstack_sound cIn cOut hA h
    exact ⟨hm, hn, hS.evSz, hS.adSz⟩

/-- **Stacks: dtypes.**  Operands that declare different input or output dtypes cannot be stacked
    (both stacks, linear or not, whatever the collapse flags — the check repaired by repo commit
    d500f6a), and an accepted stack of dtype-sound operands is dtype-sound with no further condition:
    it returns its declared output dtype and its adjoint returns the declared input dtype. -/
theorem C12_stack_dtypes (lin : Bool) (ops : List (Obj K)) :
    (∀ a ∈ ops, ∀ b ∈ ops, (a.md.inDt ≠ b.md.inDt ∨ a.md.outDt ≠ b.md.outDt) → ∀ c1 c2,
        (∃ k, vstack lin ops c1 = .error k) ∧ (∃ k, dstack lin ops c1 c2 = .error k))
    ∧ ((∀ o' ∈ ops, DtOk o') →
        (∀ c o, vstack lin ops c = .ok o → DtOk o) ∧ (∀ c1 c2 o, dstack lin ops c1 c2 = .ok o → DtOk o)) := by
  refine ⟨fun a ha b hb hne c1 c2 => ?_,
    fun hd => ⟨fun c _ h => vstack_dt lin c hd h, fun c1 c2 _ h => dstack_dt lin c1 c2 hd h⟩⟩
  have key : ∀ {o0 : Obj K}, ¬ StackOk lin ops o0 := fun hok =>
    hne.elim (fun h => h ((hok.inDt a ha).trans (hok.inDt b hb).symm))
      (fun h => h ((hok.outDt a ha).trans (hok.outDt b hb).symm))
  constructor
  · cases hv : vstack lin ops c1 with
    | error k => exact ⟨k, rfl⟩
    | ok o => obtain ⟨o0, os, _, hok, _⟩ := vstack_ok hv; exact (key hok).elim
  · cases hv : dstack lin ops c1 c2 with
    | error k => exact ⟨k, rfl⟩
    | ok o => obtain ⟨o0, os, _, _, _, _, _, hok, _⟩ := dstack_ok hv; exact (key hok).elim

/-- **`Operator.freeze`: acceptance, index normalisation, declared shapes** (repaired tree, ed13728).
    `freeze(argnum, val)` is accepted exactly for an operator on a BlockArray input, an index in
    `[-N, N)` and a value of the shape of that block; a negative index is the index counted from the end;
    the result declares the remaining blocks (a plain array iff two blocks, i.e. one remains), the
    operand's output space and dtypes, and its input size is the operand's minus the frozen block. -/
theorem C12_freeze_meta (o : Obj K) (k : Int) (valSh : Shape) (valDt : DT) (val : Vc K) :
    ((∃ r, freeze o k valSh valDt val = .ok r)
      ↔ ∃ bs p, o.md.inShape = .nested bs ∧ normIdx bs.length k = some p ∧ valSh = .plain (bs.getD p []))
    ∧ (∀ bs, o.md.inShape = .nested bs → -(bs.length : Int) ≤ k → k < 0 →
        freeze o k valSh valDt val = freeze o (k + bs.length) valSh valDt val)
    ∧ (∀ r bs p, o.md.inShape = .nested bs → normIdx bs.length k = some p →
        freeze o k valSh valDt val = .ok r →
        r.md.inShape = restShape (bs.eraseIdx p) ∧ r.md.outShape = o.md.outShape
        ∧ r.md.inDt = o.md.inDt ∧ r.md.outDt = o.md.outDt
        ∧ r.md.inShape.size + prodL (bs.getD p []) = o.md.inShape.size
        ∧ (r.md.inShape.isNested = false ↔ bs.length = 2)) := by
  refine ⟨freeze_ok_iff o k valSh valDt val, fun bs hsh h1 h2 => ?_, ?_⟩
  · unfold freeze
    simp only [hsh, normIdx_neg bs.length k h1 h2]
  intro r bs p hsh hp h
  exact (freeze_spec o k valSh valDt val r bs p hsh hp h).1

/-- **`Function.slice` / `Function.join`: declared metadata** (ed13728).  `slice(index, *fix)` is accepted
    iff the index is in `[-N, N)` (negative = from the end) and declares the shape and dtype of that
    parameter; `join()` is accepted iff all parameters have one dtype and declares the block shape of the
    parameters. -/
theorem C12_function_meta (f : Fn K) (k : Int) (fixArgs : List (Vc K)) (fixDts : List DT) :
    (∀ p, normIdx f.inShapes.length k = some p →
        ∃ r, f.slice k fixArgs fixDts = .ok r ∧ r.md.inShape = f.inShapes.getD p (.plain [])
          ∧ r.md.inDt = f.inDts.getD p .f32 ∧ r.md.outShape = f.outShape ∧ r.md.outDt = f.outDt)
    ∧ (normIdx f.inShapes.length k = none → f.slice k fixArgs fixDts = .error .other)
    ∧ (-(f.inShapes.length : Int) ≤ k → k < 0 →
        f.slice k fixArgs fixDts = f.slice (k + f.inShapes.length) fixArgs fixDts)
    ∧ (∀ d0 ds, f.inDts = d0 :: ds →
        (((∃ r, f.join = .ok r) ↔ ∀ d ∈ ds, d = d0)
          ∧ ∀ r, f.join = .ok r → r.md.inShape = .nested (f.inShapes.map plainDims) ∧ r.md.inDt = d0
              ∧ r.md.outShape = f.outShape ∧ r.md.outDt = f.outDt)) := by
  obtain ⟨h1, h2, h3⟩ := slice_spec f k fixArgs fixDts
  refine ⟨fun p hp => ?_, h2, h3, fun d0 ds hd => ?_⟩
  · obtain ⟨r, hr, _, a, b, c, d, _⟩ := h1 p hp
    exact ⟨r, hr, a, b, c, d⟩
  · obtain ⟨j1, j2⟩ := join_spec f d0 ds hd
    refine ⟨j1, fun r hr => ?_⟩
    obtain ⟨_, a, b, c, d, _⟩ := j2 r hr
    exact ⟨a, b, c, d⟩

/-- **`DiagonalReplicated`: axes and declared shapes** (repaired tree, 9420b1a).  An accepted
    `DiagonalReplicated(op, N, input_axis, output_axis)` has plain operand shapes, both axes resolved to
    positions `a ≤ len(input_shape)`, `b ≤ len(output_shape)` (`output_axis=None` means `b = a`),
    declares `shape[0:a] + (N,) + shape[a:]` on both sides — `N` times the operand's sizes — and the
    operand's dtypes; a negative `output_axis` is the axis counted from the end; one outside
    `[-(d+1), d]` is rejected. -/
theorem C12_drep_meta (lin : Bool) (o : Obj K) (N : Nat) (ia : Int) (oa : Option Int) :
    (∀ r, drep lin o N ia oa = .ok r →
      ∃ din dout a b, o.md.inShape = .plain din ∧ o.md.outShape = .plain dout
        ∧ normAxis din.length ia = some a ∧ a ≤ din.length ∧ b ≤ dout.length
        ∧ (match oa with | none => b = a | some ax => normAxis dout.length ax = some b)
        ∧ r.md.inShape = .plain (insertDim din a N) ∧ r.md.outShape = .plain (insertDim dout b N)
        ∧ r.md.inDt = o.md.inDt ∧ r.md.outDt = o.md.outDt
        ∧ r.md.inShape.size = N * o.md.inShape.size ∧ r.md.outShape.size = N * o.md.outShape.size)
    ∧ (∀ dout ax, o.md.outShape = .plain dout → -(dout.length : Int) - 1 ≤ ax → ax < 0 →
        drep lin o N ia (some ax) = drep lin o N ia (some ((dout.length : Int) + 1 + ax)))
    ∧ (∀ dout ax, o.md.outShape = .plain dout → (ax < -(dout.length : Int) - 1 ∨ (dout.length : Int) < ax) →
        ∃ e, drep lin o N ia (some ax) = .error e) := by
  refine ⟨fun r h => ?_, fun dout ax hout h1 h2 => drep_neg_output_axis lin o N ia dout hout ax h1 h2,
    fun dout ax hout h => drep_reject_output_axis lin o N ia dout hout ax h⟩
  obtain ⟨din, dout, a, b, hmeta, _⟩ := drep_spec lin o N ia oa r h
  exact ⟨din, dout, a, b, hmeta⟩

/-- **The declared metadata of the generic derived operators is what the source passes to the constructors.**  With
    `Tables.model` = the constructor-argument table read from the scico sources (generated obligation
    `Scico.Generated.OpAlgTables.tables_ok`): the `input_shape / output_shape / input_dtype / output_dtype` expressions
    of `LinearOperator.__add__/__sub__/__mul__/__truediv__/T` (both returns)`/H/conj/gram_op`, `Operator.__add__/__sub__/
    __mul__/__rmul__/__truediv__/__call__` and `ComposedLinearOperator.__init__`, interpreted on the operands' metadata
    (`result_type(·, scalar)` through the scalar's kind), are exactly the metadata the model declares. -/
theorem C12_metadata_from_source (a b : Obj K) (c : Scal K) (sub : Bool) :
    Tables.RowGives (Tables.ctorRow Tables.model "linop" (if sub then "__sub__" else "__add__") 0) a.md b.md .wFloat (linAddSub sub a b).md
    ∧ (∀ o, opAddSub sub a b = .ok o →
        Tables.RowGives (Tables.ctorRow Tables.model "op" (if sub then "__sub__" else "__add__") 0) a.md b.md .wFloat o.md)
    ∧ (∀ o, opComp Cfg.fixed a b = .ok o → Tables.RowGives (Tables.ctorRow Tables.model "op" "__call__" 0) a.md b.md .wFloat o.md)
    ∧ (∀ o, linComp a b = .ok o → Tables.RowGives (Tables.ctorRow Tables.model "composed" "__init__" 0) a.md b.md .wFloat o.md)
    ∧ (∀ o, linMul a c = .ok o → Tables.RowGives (Tables.ctorRow Tables.model "linop" "__mul__" 0) a.md a.md c.kind.sk o.md)
    ∧ (∀ o, linDiv a c = .ok o → Tables.RowGives (Tables.ctorRow Tables.model "linop" "__truediv__" 0) a.md a.md c.kind.sk o.md)
    ∧ (∀ o, opMul a c = .ok o → Tables.RowGives (Tables.ctorRow Tables.model "op" "__mul__" 0) a.md a.md c.kind.sk o.md
        ∧ Tables.RowGives (Tables.ctorRow Tables.model "op" "__rmul__" 0) a.md a.md c.kind.sk o.md)
    ∧ (∀ o, opDiv a c = .ok o → Tables.RowGives (Tables.ctorRow Tables.model "op" "__truediv__" 0) a.md a.md c.kind.sk o.md)
    ∧ Tables.RowGives (Tables.ctorRow Tables.model "linop" "T" 0) a.md a.md .wFloat (linT a).md
    ∧ Tables.RowGives (Tables.ctorRow Tables.model "linop" "T" 1) a.md a.md .wFloat (linT a).md
    ∧ Tables.RowGives (Tables.ctorRow Tables.model "linop" "H" 0) a.md a.md .wFloat (linH a).md
    ∧ Tables.RowGives (Tables.ctorRow Tables.model "linop" "conj" 0) a.md a.md .wFloat (linConj a).md
    ∧ Tables.RowGives (Tables.ctorRow Tables.model "linop" "gram_op" 0) a.md a.md .wFloat (linGram Cfg.fixed a).md :=
  ⟨Tables.row_linAddSub sub a b, fun o h => Tables.row_opAddSub sub a b o h, fun o h => Tables.row_opComp a b o h,
   fun o h => Tables.row_linComp a b o h, fun o h => Tables.row_linMul a o c h, fun o h => Tables.row_linDiv a o c h,
   fun o h => Tables.row_opMul a o c h, fun o h => Tables.row_opDiv a o c h,
   (Tables.row_views a).1, (Tables.row_views a).2.1, (Tables.row_views a).2.2.1, (Tables.row_views a).2.2.2.1,
   (Tables.row_views a).2.2.2.2⟩

/-- **`Diagonal` closed forms: the arguments of the rebuilt `Diagonal` are those of the source.**  `+ − · / @` rebuild
    on `self.input_shape` (`other.input_shape` for `@`) WITHOUT `input_dtype` (so the dtype of the new diagonal is
    declared), `conj` / `gram_op` forward `self.input_dtype` — read from the source table and equal to what the model's
    `rediag` receives. -/
theorem C12_diagonal_args_from_source (cfg : Cfg) (sub : Bool) (a b : Obj K) (c : Scal K) :
    (∃ row, Tables.ctorRow Tables.model "diag" (if sub then "__sub__" else "__add__") 0 = some row
      ∧ Tables.shArg a.md b.md row.inSh = some a.md.inShape ∧ Tables.dtArg a.md row.inDt = some none
      ∧ diagAddSub cfg sub a b = (if a.diagonal.2.1 = b.diagonal.2.1 then
          rediag cfg (fun i => pm sub (a.diagonal.1.get i) (b.diagonal.1.get i)) a.diagonal.2.1
            (resultType a.diagonal.2.2 b.diagonal.2.2) a.md.inShape none else .error .shape))
    ∧ (∃ row, Tables.ctorRow Tables.model "diag" "__mul__" 0 = some row
      ∧ Tables.shArg a.md b.md row.inSh = some a.md.inShape ∧ Tables.dtArg a.md row.inDt = some none
      ∧ (c.kind.isScalarEquiv = true → diagMul cfg a c =
          rediag cfg (fun i => a.diagonal.1.get i * c.val) a.diagonal.2.1 (resultTypeS a.diagonal.2.2 c.kind.sk) a.md.inShape none))
    ∧ (∃ row, Tables.ctorRow Tables.model "diag" "__truediv__" 0 = some row
      ∧ Tables.shArg a.md b.md row.inSh = some a.md.inShape ∧ Tables.dtArg a.md row.inDt = some none
      ∧ (c.kind.isScalarEquiv = true → diagDiv cfg a c =
          rediag cfg (fun i => a.diagonal.1.get i / c.val) a.diagonal.2.1 (resultTypeS a.diagonal.2.2 c.kind.sk) a.md.inShape none))
    ∧ (∃ row, Tables.ctorRow Tables.model "diag" "conj" 0 = some row
      ∧ Tables.shArg a.md b.md row.inSh = some a.md.inShape ∧ Tables.dtArg a.md row.inDt = some (some a.md.inDt)
      ∧ (a.md.cls = .diag → diagConj cfg a =
          rediag cfg (fun i => conj (a.diagonal.1.get i)) a.diagonal.2.1 a.diagonal.2.2 a.md.inShape (some a.md.inDt)))
    ∧ (∃ row, Tables.ctorRow Tables.model "diag" "gram_op" 0 = some row
      ∧ Tables.shArg a.md b.md row.inSh = some a.md.inShape ∧ Tables.dtArg a.md row.inDt = some (some a.md.inDt))
    ∧ (∃ row, Tables.ctorRow Tables.model "diag" "__matmul__" 0 = some row
      ∧ Tables.shArg a.md b.md row.inSh = some b.md.inShape ∧ Tables.dtArg a.md row.inDt = some none)
    ∧ (∃ row, Tables.ctorRow Tables.model "scaledId" "__matmul__" 1 = some row
      ∧ Tables.shArg a.md b.md row.inSh = some b.md.inShape ∧ Tables.dtArg a.md row.inDt = some none) := by
  open Tables in
  -- what a row of the given signature hands to `rediag`
  have arg : ∀ {r : Option CtorRow} {x y z w : SE} {sh : Shape} {dt : Option DT},
      r.map CtorRow.sig = some (x, y, z, w) → shArg a.md b.md x = some sh → dtArg a.md z = some dt →
      ∃ row, r = some row ∧ shArg a.md b.md row.inSh = some sh ∧ dtArg a.md row.inDt = some dt := fun hr h1 h2 => by
    obtain ⟨row, hrow, rfl, _, rfl, _⟩ := exists_row_of_sig hr
    exact ⟨row, hrow, h1, h2⟩
  have self_none : ∀ meth ∈ ["__add__", "__sub__", "__mul__", "__truediv__"], _ := fun meth hm =>
    arg (sh := a.md.inShape) (dt := none) (rows_diag_arith meth hm) (by simp [shArg]) (by simp [dtArg])
  have self_dt : ∀ meth ∈ ["conj", "gram_op"], _ := fun meth hm =>
    arg (sh := a.md.inShape) (dt := some a.md.inDt) (rows_diag_views meth hm) (by simp [shArg]) (by simp [dtArg])
  have other_none : ∀ ti ∈ [("diag", 0), ("scaledId", 1)], _ := fun ti hm =>
    arg (sh := b.md.inShape) (dt := none) (rows_diag_matmul ti hm) (by simp [shArg]) (by simp [dtArg])
  refine ⟨?_, ?_, ?_, ?_, self_dt "gram_op" (by simp), other_none ("diag", 0) (by simp),
    other_none ("scaledId", 1) (by simp)⟩
  · obtain ⟨row, hr, h1, h2⟩ := self_none (if sub then "__sub__" else "__add__") (by cases sub <;> simp)
    exact ⟨row, hr, h1, h2, rfl⟩
  · obtain ⟨row, hr, h1, h2⟩ := self_none "__mul__" (by simp)
    exact ⟨row, hr, h1, h2, fun hc => by unfold diagMul; simp only [hc, if_true]⟩
  · obtain ⟨row, hr, h1, h2⟩ := self_none "__truediv__" (by simp)
    exact ⟨row, hr, h1, h2, fun hc => by unfold diagDiv; simp only [hc, if_true]⟩
  · obtain ⟨row, hr, h1, h2⟩ := self_dt "conj" (by simp)
    exact ⟨row, hr, h1, h2, fun hc => by unfold diagConj; simp only [hc]⟩

end opmeta

section dtexamples
open Scico.OpAlg Scico.DType
attribute [local instance] starConj

instance : StarRing ℚ := starRingOfComm
instance : HasRe ℚ := ⟨id⟩

/-- `(2·I − D) @ M.H + M.gram_op`, everything float64: dtype-uniform -/
def dtM : LExpr ℚ := .mat 3 3 .f64 (fun i j => (i : ℚ) + 2 * j)
def dtD : LExpr ℚ := .diag (.plain [3]) .f64 none none (fun i => (i : ℚ) - 1)
def dtE : LExpr ℚ :=
  .add (.matmul (.sub (.smulL ⟨2, .pyFloat⟩ (.ident (.plain [3]) .f64)) dtD) (.H dtM)) (.gram dtM)

example : Uniform .f64 dtE := by
  simp only [dtE, dtM, dtD, Uniform, ScalOk]
  decide
example : ∃ o, build dtE = .ok o := ⟨_, rfl⟩

/-- the recorded finding `mixed-operand-dtypes`: `Diagonal(float64) + LinearOperator(input_dtype =
    complex128)` with a real matrix — accepted, declares float64 → complex128, returns float64.
    The hypothesis `DtAgrees` fails exactly at the sum, and so does the conclusion. -/
def dtMixed : LExpr ℚ :=
  .add (.diag (.plain [2]) .f64 none none (fun _ => 1))
       (.lin (.plain [2]) (.plain [2]) .c128 .f64 true (fun i j => if i = j then 2 else 0))

example : ∃ o, build dtMixed = .ok o ∧ o.md.inDt = .f64 ∧ o.md.outDt = .c128
    ∧ o.evalDt o.md.inDt = .ok .f64 := ⟨_, rfl, rfl, rfl, rfl⟩
example : ¬ DtAgrees dtMixed := by
  intro h
  have := h.2.2 _ _ _ rfl rfl rfl (Or.inr rfl)
  exact absurd this.1 (by decide)

/-- a real and a complex `MatrixOperator` cannot be stacked -/
example : ∃ k, buildVStack true [dtM, (.mat 3 3 .c128 (fun _ _ => 1) : LExpr ℚ)] true = .error k :=
  ⟨_, rfl⟩
example : ∃ o, buildDStack true [dtM, dtD] true true = .ok o ∧ o.md.inShape = .plain [2, 3]
    ∧ o.md.outShape = .plain [2, 3] := ⟨_, rfl, rfl, rfl⟩

/-- `freeze(-1, v)` on an operator over `((2,),(3,))` is `freeze(1, v)`: the remaining input is the plain
    shape `(2,)` (the witness of the repaired finding `freeze-slice-negative-index`) -/
def fzOp : Obj ℚ := mkOp (.nested [[2], [3]]) (.plain [2]) .f64 .f64
  (fun x => trunc 2 (fun i => x.get i + x.get (2 + i))) (fun d => .ok d)
example : ∃ r, freeze fzOp (-1) (.plain [3]) .f64 ⟨3, fun _ => 1⟩ = .ok r ∧ r.md.inShape = .plain [2] :=
  ⟨_, rfl, rfl⟩
example : freeze fzOp (-1) (.plain [3]) .f64 ⟨3, fun _ => 1⟩ = freeze fzOp 1 (.plain [3]) .f64 ⟨3, fun _ => 1⟩ :=
  (C12_freeze_meta fzOp (-1) _ _ _).2.1 [[2], [3]] rfl (by decide) (by decide)
example : ∃ e, freeze fzOp (-3) (.plain [3]) .f64 ⟨3, fun _ => 1⟩ = .error e := ⟨_, rfl⟩

/-- `DiagonalReplicated(A: (3,)→(2,), 4, output_axis=-1)` declares `(2, 4)` (the witness of the repaired
    finding `diagonal-replicated-output-axis`; the code before 9420b1a declared `(4, 2)` and returned `(2, 4)`) -/
def drOp : Obj ℚ := mkMat 2 3 .f64 (fun i j => (i : ℚ) + j)
example : ∃ r, drep true drOp 4 0 (some (-1)) = .ok r ∧ r.md.outShape = .plain [2, 4]
    ∧ r.md.inShape = .plain [4, 3] := ⟨_, rfl, rfl, rfl⟩
example : ∃ e, drep true drOp 4 0 (some 2) = .error e := ⟨_, rfl⟩

end dtexamples

end Scico.Props.C12
