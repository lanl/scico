/-
  Property C09 — functionals, losses and metrics evaluate to their definitions.
  Property theorems and their examples; lemmas in `Scico/Proofs/FuncEval*.lean`, for the wrapper tree in `ProxCalcTree` /
  `ProxCalcSound`, the list inequalities in `Sums`.  Model: `Scico.Model.FuncEval` (one definition per `__call__` /
  metric, transcribed from the code) and the wrapper tree of `Scico.Model.ProxCalc`.
  Data convention: complex arrays are interleaved `re, im` lists (flag `cplx`), so a block of
  complex data has even length (hypothesis `cplx = true → even lengths`).
-/
import Scico.Proofs.FuncEvalND
import Scico.Proofs.FuncEvalBounds
import Scico.Proofs.ProxCalcSound

namespace Scico.Props.C09
open Scico.FuncEval Scico.ProxCalc

/-- The code applies every full reduction to the concatenation of the ravelled blocks
    (`add_full_reduction`, model `Arg.flat`).  That value equals the documented one — the
    reduction over *all entries of all blocks*: sum of the per-block sums for `‖·‖₁`, `‖·‖₂²`,
    the non-zero count and the separable Huber norm, root of the sum of squared block norms
    for `‖·‖₂`; any number of blocks of any sizes, real or complex data. -/
theorem C09_block_eq_concat (cplx : Bool) (delta : ℝ) (bs : List (List ℝ))
    (h : cplx = true → ∀ b ∈ bs, b.length % 2 = 0) :
    l1 cplx (.blk bs) = (bs.map (fun b => l1 cplx (.arr b))).sum ∧
    sql2 cplx (.blk bs) = (bs.map (fun b => sql2 cplx (.arr b))).sum ∧
    l0 cplx (.blk bs) = (bs.map (fun b => l0 cplx (.arr b))).sum ∧
    huberSep cplx delta (.blk bs) = (bs.map (fun b => huberSep cplx delta (.arr b))).sum ∧
    l2 cplx (.blk bs) = Real.sqrt ((bs.map (fun b => (l2 cplx (.arr b)) ^ 2)).sum) :=
  ⟨l1_block cplx bs h, sql2_block cplx bs h, l0_block cplx bs h, huberSep_block cplx delta bs h,
   l2_block cplx bs h⟩

/-- and by definition the value on a block array is the value on the plain concatenation -/
theorem C09_block_is_flat (cplx : Bool) (bs : List (List ℝ)) :
    l1 cplx (.blk bs) = l1 cplx (.arr bs.flatten) ∧ sql2 cplx (.blk bs) = sql2 cplx (.arr bs.flatten) ∧
    l2 cplx (.blk bs) = l2 cplx (.arr bs.flatten) ∧ l0 cplx (.blk bs) = l0 cplx (.arr bs.flatten) :=
  ⟨rfl, rfl, rfl, rfl⟩

/-- documented block-wise rule of `L21Norm(l2_axis=None)`: the sum of the block 2-norms
    (not the 2-norm of the concatenation) -/
theorem C09_l21_blockwise (cplx : Bool) (bs : List (List ℝ)) :
    l21None cplx (.blk bs) = (bs.map (fun b => l2 cplx (.arr b))).sum := by
  simp only [l21None, Arg.blocks, l2, Arg.flat]
  congr 1
  apply List.map_congr_left
  intro b _
  rw [absR_eq_abs]
  exact abs_of_nonneg (Real.sqrt_nonneg _)

-- non-vacuity: two blocks [3,4] and [0,-5]: ‖·‖₂,₁ (None) = 5 + 5, whereas the 2-norm of the concatenation is √50
example : l21None false (.blk [[3, 4], [0, -5]]) = (10 : ℝ) := by
  rw [C09_l21_blockwise]
  have h1 : Real.sqrt 25 = 5 := by
    rw [show (25 : ℝ) = 5 ^ 2 by norm_num]; exact Real.sqrt_sq (by norm_num)
  simp [l2, sqmags, Arg.flat, hasSqrt_sqrt]
  norm_num [h1]

example : sql2 false (.blk [[3, 4], [0, -5]]) = (50 : ℝ) := by
  norm_num [sql2, sqmags, Arg.flat]

/-- `L21Norm(l2_axis=0)` on an array of shape `k :: rest` (`k ≥ 1`): the group-key index arithmetic of
    the model (`ravel ∘ dropAxes ∘ unravel`) is the documented
    `Σ_{r < ∏ rest} sqrt( Σ_{j < k} |x[j, r]|² )` (`sq` = the `|x|²` in row-major order).  Together with
    `ravel (unravel i) = i mod size` for every shape. -/
theorem C09_l21_axis0 (k : Nat) (hk : 0 < k) (rest : List Nat) (sq : List ℝ) :
    l21AxesOfSq (k :: rest) [0] sq =
      ((List.range (size rest)).map (fun r =>
        |Real.sqrt (((List.range k).map (fun j => sq.getD (j * size rest + r) 0)).sum)|)).sum ∧
    (∀ (s : List Nat) (i : Nat), ravel s (unravel s i) = i % size s) :=
  ⟨l21AxesOfSq_axis0 k rest sq, ravel_unravel⟩

-- 2×2 array [[3,0],[4,5]] → |x|² = [9,0,16,25], l2_axis=0: sqrt(9+16) + sqrt(0+25) = 10
example : l21Axes false [2, 2] [0] [(3 : ℝ), 0, 4, 5] = 10 := by
  have h := (C09_l21_axis0 2 (by decide) [2] [9, 0, 16, 25]).1
  have e : sqmags false [(3 : ℝ), 0, 4, 5] = [9, 0, 16, 25] := by norm_num [sqmags]
  rw [l21Axes, e, h]
  have h25 : Real.sqrt 25 = 5 := by
    rw [show (25 : ℝ) = 5 ^ 2 by norm_num]; exact Real.sqrt_sq (by norm_num)
  norm_num [size, List.range_succ, h25]

/-- `L21Norm(l2_axis=axes)` for an arbitrary axis subset, any shape with positive dimensions.  The model sums one
    `sqrt` per group over the `|x|²` of the group (first conjunct, the definition written with the group key
    `l21Key = ravel ∘ dropAxes ∘ unravel`); two entries are in the same group iff their multi-indices
    (`unravel` = `np.unravel_index`) agree along every axis that is not reduced — the groups of
    `(|x|²).sum(axis=axes)` —; and every entry's group has exactly one representative inside the array (its key, which
    is its own key), so each entry is counted in exactly one `sqrt`.  Positive dimensions: with a dimension `0` the
    array is empty and `unravel` (a `mod` by the dimension) leaves the index range. -/
theorem C09_l21_axis_groups (shape axes : List Nat) (hpos : ∀ d ∈ shape, 0 < d) (sq : List ℝ) :
    l21AxesOfSq shape axes sq =
      (((List.range (size shape)).filter (fun i => l21Key shape axes i == i)).map (fun r =>
        |Real.sqrt ((((List.range (size shape)).filter (fun i => l21Key shape axes i == r)).map
          (fun i => sq.getD i 0)).sum)|)).sum ∧
    (∀ i j, l21Key shape axes i = l21Key shape axes j ↔
      ∀ p, axes.contains p = false → (unravel shape i).getD p 0 = (unravel shape j).getD p 0) ∧
    (∀ i, l21Key shape axes i < size shape ∧ l21Key shape axes (l21Key shape axes i) = l21Key shape axes i) ∧
    (∀ mi, List.Forall₂ (· < ·) mi shape → unravel shape (ravel shape mi) = mi) :=
  ⟨l21AxesOfSq_eq shape axes sq, l21Key_eq_iff shape axes hpos, l21Key_rep shape axes hpos, unravel_ravel shape⟩

-- shape (2,3), l2_axis=1: positions 1 = (0,1) and 2 = (0,2) share the kept coordinate 0; 1 and 4 = (1,1) do not
example : l21Key [2, 3] [1] 1 = l21Key [2, 3] [1] 2 ∧ l21Key [2, 3] [1] 1 ≠ l21Key [2, 3] [1] 4 := by decide

/-- `L21Norm.__call__` accepts a block argument only with `l2_axis=None` (`ValueError` otherwise) and then
    follows the block-wise rule of `C09_l21_blockwise` -/
theorem C09_l21_call (cplx : Bool) (axes : List Nat) (shape : List Nat) (bs : List (List ℝ)) (v : List ℝ) :
    l21Call cplx (some axes) shape (.blk bs) = none ∧
    l21Call cplx none shape (.blk bs) = some ((bs.map (fun b => l2 cplx (.arr b))).sum) ∧
    l21Call cplx (some axes) shape (.arr v) = some (l21Axes cplx shape axes v) :=
  ⟨rfl, by rw [← C09_l21_blockwise]; rfl, rfl⟩

/-- indicator functionals take only the values `0` and `+∞`, and are `0` exactly on their set:
    the non-negative orthant (all entries of all blocks `≥ 0`) and the ℓ² ball (`‖x‖₂ ≤ r`,
    boundary included) -/
theorem C09_indicators {K : Type} [Field K] [LinearOrder K] [IsStrictOrderedRing K] [HasSqrt K]
    (cplx : Bool) (r : K) (x : Arg K) :
    (nonnegInd x = .fin 0 ∨ nonnegInd x = .top) ∧ (nonnegInd x = .fin 0 ↔ ∀ a ∈ x.flat, 0 ≤ a) ∧
    (l2ballInd cplx r x = .fin 0 ∨ l2ballInd cplx r x = .top) ∧ (l2ballInd cplx r x = .fin 0 ↔ l2 cplx x ≤ r) :=
  ⟨by unfold nonnegInd; split <;> simp,
   by simp only [nonnegInd, ite_top_eq_fin_iff, List.any_eq_true, decide_eq_true_eq, not_exists, not_and, not_lt],
   by unfold l2ballInd; split <;> simp,
   by simp only [l2ballInd, ite_top_eq_fin_iff, not_lt]⟩

example : nonnegInd (.blk [[1, 0], [(2 : ℤ)]]) = .fin 0 := by simp [nonnegInd, Arg.flat]
example : nonnegInd (.blk [[1, 0], [(-2 : ℤ)]]) = .top := by simp [nonnegInd, Arg.flat]

/-- the quadratic and the linear branch of the Huber function agree at `|x| = δ` (so the
    choice made by `<=` at the tie is immaterial), and the value is non-negative -/
theorem C09_huber_tie {K : Type} [Field K] [LinearOrder K] [IsStrictOrderedRing K] (delta : K) :
    (1 / (1 + 1)) * (delta * delta) = delta * (delta - delta / (1 + 1)) ∧
    huber1 delta delta = delta * (delta - delta / (1 + 1)) ∧
    (0 ≤ delta → ∀ a, 0 ≤ huber1 delta a) :=
  ⟨by ring, by simp only [huber1, leR, lt_irrefl, decide_false, Bool.not_false, if_true]; ring,
   fun hd _ => huber1_nonneg hd⟩

/-- the non-separable Huber norm, which the code evaluates through the squared norm
    (`0.5·Σ|x|²` inside, `δ(√Σ|x|² − δ/2)` outside), is the Huber function of `‖x‖₂` -/
theorem C09_huber_nonsep (cplx : Bool) (delta : ℝ) (x : Arg ℝ) :
    huberNonsep cplx delta x = huber1 delta (l2 cplx x) := by
  simp only [huberNonsep, huber1, l2, hasSqrt_sqrt]
  rw [Real.mul_self_sqrt (sum_sqmags_nonneg cplx x.flat)]
  rfl

example : huber1 (2 : ℚ) 2 = 2 := by norm_num [huber1, leR]
example : huber1 (2 : ℚ) 3 = 4 := by norm_num [huber1, leR]

/-- for every nesting of `ScaledFunctional`, `+`, `SeparableFunctional`, `Loss` and `SquaredL2Loss`, the
    value the model of `__call__` returns is the arithmetic combination the tree denotes
    (`den`: `c·f(x)`, `f(x)+g(x)`, `Σ_i f_i(x_i)`, `s·f(A x − y)`, `s·Σ w_i |y_i − (A x)_i|²`), given that
    the base functionals evaluate to their meanings -/
theorem C09_wrappers_eval (E : Env ℝ) (S : LeafSem)
    (hS : ∀ i x, E.hasEval i = true → E.eval i x = S.val i x) (t : Fn ℝ) (x : Arg ℝ) (r : ℝ)
    (h : eval E t x = .ok r) : r = den E S t x :=
  (evalTo_of_eq E t h).eq_den hS

/-- `SeparableFunctional([f₁…f_k])` denotes `Σ_i f_i(x_i)` -/
theorem C09_separable_eval (E : Env ℝ) (S : LeafSem) (fs : List (Fn ℝ)) (bs : List (List ℝ))
    (h : fs.length = bs.length) :
    den E S (Fn.sep fs) (.blk bs) = (List.zipWith (fun f b => den E S f (.arr b)) fs bs).sum := by
  induction fs generalizing bs with
  | nil => cases bs with
    | nil => simp [Fn.sep, den]
    | cons _ _ => simp at h
  | cons f fs ih => cases bs with
    | nil => simp at h
    | cons b bs =>
      simp only [List.length_cons, Nat.add_right_cancel_iff] at h
      simp [Fn.sep, den, ih bs h]

/-- `c * f` / `f * c` — including the overrides of `ScaledFunctional` (scale folded) and of
    `Loss` (`set_scale`) — evaluates to `c · f(x)` whenever `f(x)` is available -/
theorem C09_mul_eval {K : Type} [Field K] [LinearOrder K] [IsStrictOrderedRing K] [HasSqrt K]
    (E : Env K) (t : Fn K) (c : K) (x : Arg K) :
    eval E (t.mul c) x = (eval E t x).map (c * ·) := by
  cases t with
  | scaled s f => simp only [Fn.mul, eval, map_bind, mul_assoc]; rfl
  | loss y A f s => simp only [Fn.mul, eval, map_bind, mul_comm s c, mul_assoc]; rfl
  | sqL2 y A w s => simp only [Fn.mul, eval, map_bind, mul_comm s c, mul_assoc]; rfl
  | leaf i => simp only [Fn.mul, eval]; split <;> rfl
  | _ => rfl

/-- `SingleAxisFiniteDifference._eval` as used by `TVNorm` (append a copy of the last entry for
    `append=0`, of the first for `circular`, then `diff`) returns `n` rows:
    `x_{i+1} − x_i` for `i < n−1`, then `0` (append=0) or `x_0 − x_{n−1}` (circular) —
    the matrices of the class docstring, for every `n`. -/
theorem C09_tv_difference {K : Type} [Field K] (circular : Bool) (x : List K) :
    (diffAppend circular x).length = x.length ∧
    ∀ i, i < x.length → (diffAppend circular x).getD i 0 =
      if i + 1 < x.length then x.getD (i + 1) 0 - x.getD i 0
      else if circular then x.getD 0 0 - x.getD i 0 else 0 :=
  ⟨diffAppend_length circular x, fun i hi => diffAppend_getD circular x i hi⟩

/-- on a 1-D array the N-d index formula the TV model is written with (`fdAxis`) is that
    code-shaped difference, for every length and both boundary modes -/
theorem C09_tv_model_1d {K : Type} [Field K] (circular : Bool) (x : List K) :
    fdAxis circular [x.length] 0 x = diffAppend circular x := by
  apply List.ext_getElem
  · simp [fdAxis, size, diffAppend_length]
  · intro i h1 h2
    have hi : i < x.length := by simpa [diffAppend_length] using h2
    rw [List.getElem_eq_getD 0, List.getElem_eq_getD 0, diffAppend_getD circular x i hi,
      fdAxis_getD _ _ _ _ _ (by simpa [size] using hi)]
    simp only [size, List.getD_cons_zero, List.drop_succ_cons, List.drop_zero, List.foldl_nil, Nat.div_one,
      Nat.mod_eq_of_lt hi, Nat.mul_one, Nat.sub_self]

example : diffAppend false [(1 : ℤ), 2, 4] = [1, 2, 0] := by decide
example : diffAppend true [(1 : ℤ), 2, 4] = [1, 2, -3] := by decide
-- N-d index formula used by the TV model, 2×3 image: axis 1 with append=0, axis 0 circular
example : fdAxis false [2, 3] 1 [(1 : ℤ), 2, 4, 0, 4, 1] = [1, 2, 0, 4, -3, 0] := by decide
example : fdAxis true [2, 3] 0 [(1 : ℤ), 2, 4, 0, 4, 1] = [-1, 2, -3, 1, -2, 3] := by decide

/-- N-d arrays, every shape, every axis, both boundary modes.  For a row-major array of shape
    `pre ++ [n] ++ post` (`x.reshape(P, n, S)[a, c, b]` sits at flat position `(a·n + c)·S + b`) the finite
    difference along axis `len(pre)` that the TV norms are evaluated through (model `fdAxis`, tied axis by
    axis to `FiniteDifference`) has the shape of the input and at `(a, c, b)` equals
    `x[a, c+1, b] − x[a, c, b]` for `c + 1 < n`, and at `c = n − 1`: `x[a, 0, b] − x[a, n−1, b]` (circular) or
    `0` (`append=0`); equivalently, along every fibre `(a, ·, b)` it is the code-shaped 1-D difference
    `diffAppend` of `C09_tv_difference` (append a copy, then `diff`).  (All indices are in range.) -/
theorem C09_tv_nd {K : Type} [Field K] (circular : Bool) (pre post : List Nat) (n : Nat) (x : List K)
    (a c b : Nat) (ha : a < size pre) (hc : c < n) (hb : b < size post) :
    (fdAxis circular (pre ++ n :: post) pre.length x).length = size (pre ++ n :: post) ∧
    (a * n + c) * size post + b < size (pre ++ n :: post) ∧
    (fdAxis circular (pre ++ n :: post) pre.length x).getD ((a * n + c) * size post + b) 0 =
      (if c + 1 < n then
        x.getD ((a * n + (c + 1)) * size post + b) 0 - x.getD ((a * n + c) * size post + b) 0
      else if circular then
        x.getD ((a * n + 0) * size post + b) 0 - x.getD ((a * n + c) * size post + b) 0
      else 0) ∧
    (fdAxis circular (pre ++ n :: post) pre.length x).getD ((a * n + c) * size post + b) 0 =
      (diffAppend circular (fibre n (size post) x a b)).getD c 0 := by
  have hnd := fdAxis_nd circular pre post n x a c b ha hc hb
  refine ⟨fdAxis_length _ _ _ _, by rw [size_split]; exact flatIndex_lt ha hc hb, hnd, ?_⟩
  rw [hnd, diffAppend_getD circular _ c (by rw [fibre_length]; exact hc), fibre_length]
  have h0 : 0 < n := by omega
  by_cases h1 : c + 1 < n
  · rw [if_pos h1, if_pos h1, fibre_getD _ _ _ _ _ _ h1, fibre_getD _ _ _ _ _ _ hc]
  · rw [if_neg h1, if_neg h1, fibre_getD _ _ _ _ _ _ h0, fibre_getD _ _ _ _ _ _ hc]

-- 2×3 image [[1,2,4],[0,4,1]], axis 1 (pre = [2], n = 3, post = []), position (a, c, b) = (1, 2, 0): last column
example : (fdAxis true ([2] ++ 3 :: []) [2].length [(1 : ℚ), 2, 4, 0, 4, 1]).getD ((1 * 3 + 2) * size [] + 0) 0 = 0 - 1 := by
  rw [(C09_tv_nd true [2] [] 3 [(1 : ℚ), 2, 4, 0, 4, 1] 1 2 0 (by decide) (by decide) (by decide)).2.2.1]
  norm_num [size]
-- 3-D: shape [2,2,2], axis 1, element (a,c,b) = (1,0,1): x[1,1,1] − x[1,0,1] = 8 − 6
example : (fdAxis false [2, 2, 2] 1 [(1 : ℤ), 2, 3, 4, 5, 6, 7, 8]).getD 5 0 = 2 := by decide

/-- the TV norms are the stated norms of those differences (any shape, any list of axes, both
    boundary modes).  Real data: `AnisotropicTVNorm` = `L1Norm` of the stack `G x` = `Σ_axes Σ_positions |D_ax x|`;
    `IsotropicTVNorm` = `Σ_positions sqrt(Σ_axes |D_ax x|²)`.  Complex data (`comps = [re, im]`, the
    difference acts on both parts): the same with `|D_ax x|² = (D_ax re)² + (D_ax im)²`.  And
    `IsotropicTVNorm` is `L21Norm(l2_axis=0)` applied to the stack of shape `len(axes) :: shape`
    (how the code evaluates it), real or complex. -/
theorem C09_tv_norms (circular : Bool) (shape axes : List Nat) (x re im : List ℝ) :
    tvAniso circular shape axes [x] = l1 false (.blk (axes.map (fun ax => fdAxis circular shape ax x))) ∧
    tvAniso circular shape axes [x] =
      (axes.map (fun ax => ((fdAxis circular shape ax x).map (fun d => |d|)).sum)).sum ∧
    tvAniso circular shape axes [re, im] =
      (axes.map (fun ax => ((List.range (size shape)).map (fun i =>
        Real.sqrt ((fdAxis circular shape ax re).getD i 0 ^ 2 + (fdAxis circular shape ax im).getD i 0 ^ 2))).sum)).sum ∧
    tvIso circular shape axes [x] =
      ((List.range (size shape)).map (fun i =>
        Real.sqrt ((axes.map (fun ax => (fdAxis circular shape ax x).getD i 0 ^ 2)).sum))).sum ∧
    tvIso circular shape axes [re, im] =
      ((List.range (size shape)).map (fun i =>
        Real.sqrt ((axes.map (fun ax => (fdAxis circular shape ax re).getD i 0 ^ 2
          + (fdAxis circular shape ax im).getD i 0 ^ 2)).sum))).sum ∧
    (axes ≠ [] → ∀ comps : List (List ℝ), tvIso circular shape axes comps =
      l21AxesOfSq (axes.length :: shape) [0] (tvSq circular shape axes comps).flatten) :=
  ⟨(tvAniso_real circular shape axes x).2, (tvAniso_real circular shape axes x).1,
   by rw [tvAniso_eq]; simp only [List.map_cons, List.map_nil, List.sum_cons, List.sum_nil, add_zero],
   by rw [tvIso_eq]; simp only [List.map_cons, List.map_nil, List.sum_cons, List.sum_nil, add_zero],
   by rw [tvIso_eq]; simp only [List.map_cons, List.map_nil, List.sum_cons, List.sum_nil, add_zero],
   fun _ comps => tvIso_eq_l21 circular shape axes comps⟩

-- anisotropic TV of the 2×2 image [[1,3],[6,10]] (append=0), both axes: |5|+|7| + |2|+|4| = 18
example : tvAniso false [2, 2] [0, 1] [[(1 : ℝ), 3, 6, 10]] = 18 := by
  rw [(C09_tv_norms false [2, 2] [0, 1] [1, 3, 6, 10] [] []).2.1]
  simp [fdAxis, size, List.range_succ]
  norm_num

/-- a constant image has zero differences along every axis, in both boundary modes (the appended copy /
    the wrap-around produce a zero row) -/
theorem C09_tv_constant (circular : Bool) (pre post : List Nat) (n : Nat) (k : ℝ) (x : List ℝ)
    (hx : ∀ i, i < size (pre ++ n :: post) → x.getD i 0 = k)
    (a c b : Nat) (ha : a < size pre) (hc : c < n) (hb : b < size post) :
    (fdAxis circular (pre ++ n :: post) pre.length x).getD ((a * n + c) * size post + b) 0 = 0 := by
  rw [fdAxis_nd circular pre post n x a c b ha hc hb]
  have h0 : 0 < n := by omega
  have g : ∀ c', c' < n → x.getD ((a * n + c') * size post + b) 0 = k := fun c' hc' =>
    hx _ (by rw [size_split]; exact flatIndex_lt ha hc' hb)
  split
  · rw [g _ ‹_›, g _ hc]; ring
  · split
    · rw [g 0 h0, g _ hc]; ring
    · rfl

/-- `NuclearNorm.__call__` is `Σ σ_i` for a 2-D argument and raises otherwise; on the singular values
    `σ ≥ 0` (`k = min(m, n)` of them): `0 ≤ ‖X‖_*`, `‖X‖_F = sqrt(Σσ²) ≤ ‖X‖_* ≤ sqrt(k)·‖X‖_F` (checked on the
    real code with the Frobenius norm of `X`), and for a diagonal matrix (`σ = |d|`) it is `‖d‖₁` -/
theorem C09_nuclear (ndim : Nat) (sv d : List ℝ) (h : ∀ a ∈ sv, 0 ≤ a) :
    nuclearCall ndim sv = (if ndim = 2 then some sv.sum else none) ∧
    0 ≤ nuclearOfSv sv ∧
    Real.sqrt ((sv.map (fun a => a ^ 2)).sum) ≤ nuclearOfSv sv ∧
    nuclearOfSv sv ≤ Real.sqrt sv.length * Real.sqrt ((sv.map (fun a => a ^ 2)).sum) ∧
    nuclearOfSv (d.map (fun a => |a|)) = l1 false (.arr d) := by
  have hs : 0 ≤ sv.sum := List.sum_nonneg h
  refine ⟨rfl, hs, ?_, ?_, by simp only [nuclearOfSv, l1, Arg.flat, mags_real, funext absR_eq_abs]⟩
  · unfold nuclearOfSv
    rw [← Real.sqrt_sq hs]
    exact Real.sqrt_le_sqrt (sum_sq_le_sq_sum sv h)
  · unfold nuclearOfSv
    rw [← Real.sqrt_mul (Nat.cast_nonneg _), ← Real.sqrt_sq hs]
    -- `(Σσ)² ≤ k·Σσ²`: Cauchy–Schwarz against the all-ones vector
    exact Real.sqrt_le_sqrt (by simpa using list_weighted_cs sv (fun _ => (1 : ℝ)) id (fun _ _ => zero_le_one))

example : nuclearCall 2 [(5 : ℝ), 5] = some 10 ∧ nuclearCall 3 [(5 : ℝ), 5] = none := by
  constructor <;> norm_num [nuclearCall, nuclearOfSv]

/-- the three squared losses are non-negative for `scale ≥ 0`, `W ≥ 0` (any data, real or complex);
    for real data and measurements `y ≥ 0`: `SquaredL2AbsLoss(x) ≤ SquaredL2Loss(x)` (reverse triangle inequality,
    every length); and on block arrays the residual `y − A x` is formed block-wise, which after flattening is
    the residual of the concatenations (so the value is the documented sum over all entries) -/
theorem C09_squared_losses (cplx : Bool) {scale : ℝ} (hs : 0 ≤ scale) (w : Option (List ℝ))
    (hw : ∀ l, w = some l → ∀ a ∈ l, 0 ≤ a) (y ax : List ℝ) :
    (0 ≤ sqL2Loss cplx scale w y ax ∧ 0 ≤ sqL2AbsLoss cplx scale w y ax ∧ 0 ≤ sqL2SqAbsLoss cplx scale w y ax) ∧
    ((∀ a ∈ y, 0 ≤ a) → sqL2AbsLoss false scale w y ax ≤ sqL2Loss false scale w y ax) ∧
    (∀ r c : Arg ℝ, r.shapeEq c → (Arg.zipT (· - ·) r c).flat = List.zipWith (· - ·) r.flat c.flat) :=
  ⟨⟨mul_nonneg hs (wsum_nonneg w _ hw (sqmags_nonneg cplx _)), mul_nonneg hs (wsum_nonneg w _ hw (sqmags_nonneg false _)),
    mul_nonneg hs (wsum_nonneg w _ hw (sqmags_nonneg false _))⟩,
   fun hy => sqL2AbsLoss_le_sqL2Loss_real hs w hw y ax hy, fun _ _ h => flat_zipT _ h⟩

example : sqL2AbsLoss false (1 / 2 : ℝ) (some [2, 1]) [1, 3] [-1, 2] = 1 / 2 := by
  norm_num [sqL2AbsLoss, wsum, mags, absR]
example : sqL2Loss false (1 / 2 : ℝ) (some [2, 1]) [1, 3] [-1, 2] = 9 / 2 := by
  norm_num [sqL2Loss, wsum, sqmags]

/-- `PoissonLoss`: for counts `y > 0`, predictions `A x > 0` and `scale ≥ 0` the value
    `scale·Σ (Ax − y log Ax + log y!)` is at least its value at `A x = y` (every length) -/
theorem C09_poisson_min {scale : ℝ} (hs : 0 ≤ scale) (y ax const : List ℝ) (h1 : y.length = ax.length)
    (h2 : const.length = ax.length) (hy : ∀ a ∈ y, 0 < a) (ha : ∀ a ∈ ax, 0 < a) :
    poissonLoss scale y y const ≤ poissonLoss scale y ax const := by
  unfold poissonLoss
  refine mul_le_mul_of_nonneg_left
    (List.Forall₂.sum_le_sum (List.forall₂_iff_get.2 ⟨by simp only [List.length_zipWith, h1], fun i _ hi => ?_⟩)) hs
  simp only [List.length_zipWith, lt_min_iff] at hi
  simp only [List.get_eq_getElem, List.getElem_zipWith, hasLog_log]
  exact add_le_add_left (poisson_entry_min _ _ (ha _ (List.getElem_mem hi.1.1)) (hy _ (List.getElem_mem hi.1.2))) _

example : poissonLoss (1 : ℝ) [2] [2] [0] ≤ poissonLoss (1 : ℝ) [2] [5] [0] :=
  C09_poisson_min zero_le_one _ _ _ rfl rfl (by simp) (by simp)

/-- `ProximalAverage`: a weight list of the wrong length is rejected; the stored weights sum to one (default `1/N`
    for `N ≥ 1` functionals; given weights with non-zero sum, kept when they already sum to one and divided by
    their sum otherwise); `__call__` is `Σ α_i f_i(x)`, with `no_inf_eval` the infinite terms count as `0` -/
theorem C09_proxavg (n : Nat) (hn : 0 < n) (al : List ℝ) (hs : al.sum ≠ 0) (isInf : ℝ → Bool) (ws vals : List ℝ) :
    (al.length ≠ n → proxAvgInit (n : ℝ) (some al) n = none) ∧
    (proxAvgWeights (n : ℝ) none n).sum = 1 ∧ (proxAvgWeights (n : ℝ) (some al) n).sum = 1 ∧
    proxAvgEval isInf false ws vals = (List.zipWith (· * ·) ws vals).sum ∧
    proxAvgEval isInf true ws vals = ((List.zipWith (· * ·) ws vals).map (fun a => if isInf a then 0 else a)).sum := by
  refine ⟨fun h => by simp [proxAvgInit, h], ?_, ?_, by simp [proxAvgEval, ← List.sum_eq_foldl],
    by simp [proxAvgEval, ← List.sum_eq_foldl]⟩
  · have hn' : (n : ℝ) ≠ 0 := by exact_mod_cast hn.ne'
    simp only [proxAvgWeights, List.sum_replicate, nsmul_eq_mul]
    field_simp
  · simp only [proxAvgWeights, ← List.sum_eq_foldl]
    by_cases h1 : isZero (al.sum - 1) = true
    · rw [if_pos h1]
      exact sub_eq_zero.1 ((isZero_iff _).1 h1)
    · rw [if_neg h1]
      simp only [div_eq_mul_inv, List.sum_map_mul_right, List.map_id']
      exact mul_inv_cancel₀ hs

example : proxAvgWeights (2 : ℝ) (some [1, 3]) 2 = [1 / 4, 3 / 4] := by
  norm_num [proxAvgWeights, isZero]

/-- `mse ≥ 0` (non-empty images: the mean divides by the number of entries);
    `isnr = snr(ref, restored) − snr(ref, degraded)`;
    `psnr = snr + 10·log₁₀(range²/var(ref))` (whenever the logarithms' arguments are positive) -/
theorem C09_metric_identities (cplx : Bool) (r d s : List ℝ) (range : ℝ) :
    (0 < (sqmags cplx (List.zipWith (· - ·) r d)).length → 0 ≤ mse cplx r d) ∧
    (0 < var cplx r → 0 < mse cplx r d → 0 < mse cplx r s →
      isnr cplx r d s = snr cplx r s - snr cplx r d) ∧
    (range ≠ 0 → 0 < var false r → 0 < mse false r d →
      psnr r d (some range) = snr false r d + db (range * range / var false r)) := by
  refine ⟨fun _ => mean_nonneg _ (sqmags_nonneg cplx _), fun hv hd hs => ?_, fun hr hv hm => ?_⟩
  · simp only [isnr, snr, db, hasLog10_log10]
    rw [Real.logb_div hd.ne' hs.ne', Real.logb_div hv.ne' hs.ne', Real.logb_div hv.ne' hd.ne']
    ring
  · simp only [psnr, snr, db, hasLog10_log10]
    have h2 : range * range ≠ 0 := mul_ne_zero hr hr
    rw [Real.logb_div h2 hm.ne', Real.logb_div hv.ne' hm.ne', Real.logb_div h2 hv.ne']
    ring

/-- `mae ≥ 0`; for real images of the same non-zero size `mse = 0` exactly when they are equal; and on block
    arrays the metrics are evaluated on `_flatten(reference − comparison)`, which is the
    difference of the concatenations, so every metric of block arrays is the metric of the concatenations -/
theorem C09_metric_zero_and_blocks (r c : List ℝ) (hl : r.length = c.length) (hne : r ≠ []) :
    0 ≤ mae false r c ∧ (mse false r c = 0 ↔ r = c) ∧
    (∀ R C : Arg ℝ, R.shapeEq C → (Arg.zipT (· - ·) R C).flat = List.zipWith (· - ·) R.flat C.flat) := by
  refine ⟨mean_nonneg _ fun a ha => ?_, mse_eq_zero_iff r c hl hne, fun _ _ h => flat_zipT _ h⟩
  rw [mags_real, List.mem_map] at ha
  obtain ⟨b, _, rfl⟩ := ha
  rw [absR_eq_abs]
  exact abs_nonneg b

example : mse false [1, 2] [(1 : ℝ), 2] = 0 := (C09_metric_zero_and_blocks _ _ rfl (by simp)).2.1.2 rfl

/-- `rel_res`: `0` when `‖Ax‖ = ‖b‖ = 0` (the code returns before dividing), otherwise
    `‖b − Ax‖ / max(‖Ax‖, ‖b‖)`, which is the standard `‖b − Ax‖/‖b‖` when `‖Ax‖ ≤ ‖b‖ ≠ 0` -/
theorem C09_rel_res (cplx : Bool) (ax b : List ℝ) :
    ((sqmags cplx ax).sum = 0 → (sqmags cplx b).sum = 0 → relRes cplx ax b = 0) ∧
    (0 < max (Real.sqrt (sqmags cplx ax).sum) (Real.sqrt (sqmags cplx b).sum) →
      relRes cplx ax b = Real.sqrt (sqmags cplx (List.zipWith (· - ·) b ax)).sum /
        max (Real.sqrt (sqmags cplx ax).sum) (Real.sqrt (sqmags cplx b).sum)) ∧
    (0 < Real.sqrt (sqmags cplx b).sum → Real.sqrt (sqmags cplx ax).sum ≤ Real.sqrt (sqmags cplx b).sum →
      relRes cplx ax b = Real.sqrt (sqmags cplx (List.zipWith (· - ·) b ax)).sum / Real.sqrt (sqmags cplx b).sum) :=
  ⟨fun ha hb => by rw [relRes_def, ha, hb, Real.sqrt_zero, max_self, if_pos rfl], relRes_of_max_pos cplx ax b,
   fun hb hle => by rw [relRes_of_max_pos cplx ax b (lt_of_lt_of_le hb (le_max_right _ _)), max_eq_right hle]⟩

example : relRes false [0, 0] [(0 : ℝ), 0] = 0 := (C09_rel_res false _ _).1 (by simp [sqmags]) (by simp [sqmags])

/-- `rel_res ≤ 2` for real arrays of the same shape (triangle inequality `‖b − Ax‖ ≤ ‖b‖ + ‖Ax‖ ≤ 2·max`) -/
theorem C09_rel_res_le_two (ax b : List ℝ) (h : ax.length = b.length) : relRes false ax b ≤ 2 := by
  rw [relRes_def]
  split
  · norm_num
  · rename_i hz
    have hpos := lt_of_le_of_ne (le_max_of_le_left (Real.sqrt_nonneg _)) (Ne.symm hz)
    rw [div_le_iff₀ hpos]
    linarith [triangle_sqmags ax b h, le_max_left (Real.sqrt (sqmags false ax).sum) (Real.sqrt (sqmags false b).sum),
      le_max_right (Real.sqrt (sqmags false ax).sum) (Real.sqrt (sqmags false b).sum)]

-- attained: b = −Ax
example : relRes false [1, 0] [(-1 : ℝ), 0] = 2 := by
  have h1 : Real.sqrt 4 = 2 := by rw [show (4 : ℝ) = 2 ^ 2 by norm_num]; exact Real.sqrt_sq (by norm_num)
  norm_num [relRes, sqmags, hasSqrt_sqrt, maxR, isZero, h1]

end Scico.Props.C09
