/-
  Property C05 — the operator calculus denotes the pointwise / matrix construction.
  Property theorems and their examples; general lemmas and long proofs in Scico/Proofs/OpAlg*.lean.

  `K` is any field with an involution (ℝ with the trivial one, ℂ with conjugation); `infer e` is
  what scico declares, `run e` the closures it builds (following the class-directed dispatch and
  every closed-form override of the repaired tree), `den e` the dense matrix obtained by the same
  construction on the operands' matrices.
-/
import Scico.Proofs.OpAlgStack
import Scico.Proofs.OpAlgPlain
import Scico.Proofs.OpAlgNonlin
import Scico.Proofs.OpAlgRep
import Scico.Proofs.OpAlgConv
import Scico.Proofs.OpAlgTables

namespace Scico.Props.C05
open Scico.OpAlg Scico.DType
attribute [local instance] starConj

section
variable {K : Type} [Field K] [StarRing K] [HasRe K]

/-- **Forward map.**  For every linear expression tree that scico accepts, the closure it builds
    (generic or closed-form, whatever the classes of the operands and their order) computes
    `x ↦ den e · x`, an array of the declared output size.
    (`hp : PlainDiagProducts e` restricts `Diagonal @ Diagonal` products on *BlockArray* shapes.  The statement keeps the
    hypothesis and the proof does not use it: `OpAlg.infer_sound` is the same conclusion without it, resting on
    `diagMatmul_sound_all`.  The same holds of `hp`, `hs`, `hpa`, `hpb`, `AllIn` and `MatmulPlain a b` in the theorems below.) -/
theorem C05_run_eq_den (e : LExpr K) (m : Meta) (hm : infer e = .ok m) (hl : Lin e)
    (hp : PlainDiagProducts e) (hK : RealK K ∨ AllC e) (x : Vc K) :
    (∀ i, ((run e).eval x).get i
        = if i < m.outShape.size then mulVec m.inShape.size (den e) x.get i else 0)
    ∧ ((run e).eval x).size = m.outShape.size := by
  obtain ⟨o, ⟨hS, _, _⟩, rfl, hr⟩ := infer_sound hm hl hK
  rw [hr]
  exact ⟨fun i => hS.ev x i, hS.evSz x⟩

/-- **Adjoint map.**  The adjoint closure (hand-written, derived, or created by transposition)
    computes `y ↦ (den e)ᴴ · y`.  (`hp` is not used: `OpAlg.infer_sound`, see `C05_run_eq_den`.) -/
theorem C05_adj_eq_denH (e : LExpr K) (m : Meta) (hm : infer e = .ok m) (hl : Lin e)
    (hp : PlainDiagProducts e) (hK : RealK K ∨ AllC e) (y : Vc K) :
    (∀ j, ((run e).adj y).get j
        = if j < m.inShape.size then mulVecH m.outShape.size (den e) y.get j else 0)
    ∧ ((run e).adj y).size = m.inShape.size := by
  obtain ⟨o, ⟨hS, _, _⟩, rfl, hr⟩ := infer_sound hm hl hK
  rw [hr]
  exact ⟨fun j => hS.ad y j, hS.adSz y⟩

/-- the declared `matrix_shape` is the shape of the denoted matrix, and a linear expression is
    always built as a `LinearOperator` (`hp` is not used: `OpAlg.infer_sound`) -/
theorem C05_matrix_shape (e : LExpr K) (m : Meta) (hm : infer e = .ok m) (hl : Lin e)
    (hp : PlainDiagProducts e) (hK : RealK K ∨ AllC e) :
    m.matrixShape = dims e ∧ m.cls ≠ .op := by
  obtain ⟨o, ⟨hS, h1, h2⟩, rfl, _⟩ := infer_sound hm hl hK
  refine ⟨?_, hS.lin⟩
  simp only [Meta.matrixShape]
  exact Prod.ext h1 h2

/-- **Plain (non-block) shapes.**  `C05_run_eq_den`, `C05_adj_eq_denH`, `C05_matrix_shape` with the syntactic `PlainShapes e`
    in the place of `PlainDiagProducts e`: for every accepted linear expression whose leaves have plain shapes — including
    `Diagonal @ Diagonal` with arbitrary numpy broadcasting between the two diagonal arrays and non-square broadcasting
    diagonals — forward and adjoint closures are `den e · x` and `(den e)ᴴ · y`, and `matrix_shape = dims e`.  (`hs` is not
    used either: `OpAlg.infer_sound`.) -/
theorem C05_run_eq_den_plain (e : LExpr K) (m : Meta) (hm : infer e = .ok m) (hl : Lin e)
    (hs : PlainShapes e) (hK : RealK K ∨ AllC e) (x y : Vc K) :
    (∀ i, ((run e).eval x).get i
        = if i < m.outShape.size then mulVec m.inShape.size (den e) x.get i else 0)
    ∧ (∀ j, ((run e).adj y).get j
        = if j < m.inShape.size then mulVecH m.outShape.size (den e) y.get j else 0)
    ∧ m.matrixShape = dims e := by
  obtain ⟨o, ⟨hS, h1, h2⟩, rfl, hr⟩ := infer_sound hm hl hK
  rw [hr]
  exact ⟨fun i => hS.ev x i, fun j => hS.ad y j, Prod.ext h1 h2⟩

/-- **Arbitrary trees (linear or not): the pointwise construction.**  For every accepted expression —
    including non-linear `Operator` leaves anywhere — the closure scico builds evaluates `denF e`:
    `(A ± B)(x) = A(x) ± B(x)`, `(c·A)(x) = c·A(x)`, `(A/c)(x) = A(x)/c`, `(−A)(x) = −A(x)`,
    `(A(B))(x) = (A @ B)(x) = A(B(x))`, linear sub-expressions acting through their dense matrix
    (whatever closed-form or generic branch the class-directed dispatch takes, reflected methods of
    `MatrixOperator` / `Identity` included); `matrix_shape = dims e`; and the result is a plain
    `Operator` exactly when the expression has a non-linear leaf.  (`hp` is not used: `OpAlg.build_denF` has no such
    hypothesis.) -/
theorem C05_run_eq_denF (e : LExpr K) (m : Meta) (hm : infer e = .ok m)
    (hp : PlainDiagProducts e) (hK : RealK K ∨ AllC e) (x : Vc K) :
    (∀ i, ((run e).eval x).get i = if i < m.outShape.size then denF e x.get i else 0)
    ∧ m.matrixShape = dims e ∧ (m.cls = .op ↔ ¬ Lin e) := by
  obtain ⟨o, hb, hmd, hr⟩ := of_infer hm
  have hI := build_denF e o hK hb
  subst hmd
  rw [hr]
  refine ⟨fun i => hI.evF.ev x i, Prod.ext hI.rows hI.cols, ⟨fun hc hl => ?_, hI.nonlin⟩⟩
  exact (build_sound e o hl hK hb).1.lin hc

/-- **Non-linear operators: pointwise construction.**  `Operator.__add__/__sub__`, scalar `*` and `/`
    and `Operator.__call__(Operator)` build exactly `x ↦ A(x) ± B(x)`, `c·A(x)`, `A(x)/c`,
    `A(B(x))` (for arbitrary closures `A`, `B`), and whenever the right operand of `+`/`-` is a plain
    `Operator` every class of left operand dispatches to that generic sum (or rejects a shape
    mismatch). -/
theorem C05_operator_pointwise (a b : Obj K) (c : Scal K) (x : Vc K) :
    (∀ sub o, opAddSub sub a b = .ok o →
        ∀ i, (o.eval x).get i = if i < a.m then pm sub ((a.eval x).get i) ((b.eval x).get i) else 0)
    ∧ (∀ o, opMul a c = .ok o → ∀ i, (o.eval x).get i = if i < a.m then c.val * (a.eval x).get i else 0)
    ∧ (∀ o, opDiv a c = .ok o → ∀ i, (o.eval x).get i = if i < a.m then (a.eval x).get i / c.val else 0)
    ∧ (∀ cfg o, opComp cfg a b = .ok o → o.eval x = a.eval (b.eval x))
    ∧ (b.cls = .op → ∀ sub, addSub Cfg.fixed sub a b
          = (if a.sameShape b then opAddSub sub a b else .error .shape)) :=
  -- each generic constructor returns, once its check has passed, the closure written in the model
  ⟨fun sub o h i => by obtain ⟨_, h⟩ := ite_ok_error h; cases h; rfl,
   fun o h i => by obtain ⟨_, h⟩ := ite_ok_error h; cases h; rfl,
   fun o h i => by obtain ⟨_, h⟩ := ite_ok_error h; cases h; rfl,
   fun cfg o h => by obtain ⟨_, h⟩ := ite_ok_error h; cases h; rfl,
   fun hb sub => by
    have hb' : b.md.cls = .op := hb
    unfold addSub
    simp only [hb]
    simp only [show (decide (Cls.op = Cls.matrix)) = false from by decide, Bool.false_and, Bool.false_eq_true, if_false]
    by_cases hs : a.sameShape b = true
    · cases hca : a.cls <;>
        simp [hca, hs, matAddSub, wrapAddSub, addSubOf, opAddSub, hb, hb', Cls.isSub, Cls.arith, Cls.isLinop]
    · have hs' : a.sameShape b = false := by simpa using hs
      cases hca : a.cls <;>
        simp [hs', matAddSub, wrapAddSub, opAddSub, hb']⟩

/-- **Derived objects inside further arithmetic (stacks of stacks, arithmetic on stacks, …).**  The
    invariant "`o` denotes the matrix `D`" (`Sound o D`: eval = `D·x`, adj = `Dᴴ·y`, class payload = `D`,
    declared sizes) is closed under every node of the calculus, whatever built the operands — an
    expression (`build_sound`), a `VerticalStack` / `DiagonalStack` (`vstack_sound`, `dstack_sound`, whose
    operands may themselves be stacks), or any combination: `a ± b`, `−a`, `c·a`, `a/c`, `a(b)`, `a @ b`,
    `.T`, `.H`, `.conj()`, `gram_op` of such objects denote the same construction on their matrices, and
    stacking such objects denotes the block matrix of their matrices.  (The `MatmulPlain a b` in front of the `@` conjunct is
    not used: `OpAlg.ProdOf.sound` has no such hypothesis.) -/
theorem C05_sound_closed (a b : Obj K) (Da Db : Mx K) (ha : Sound a Da) (hb : Sound b Db) (c : Scal K) :
    (∀ sub o, addSub Cfg.fixed sub a b = .ok o → Sound o (fun i j => pm sub (Da i j) (Db i j)))
    ∧ (∀ o, neg Cfg.fixed a = .ok o → Sound o (fun i j => - Da i j))
    ∧ (∀ o, smul Cfg.fixed a c = .ok o → Sound o (fun i j => c.val * Da i j))
    ∧ (∀ o, sdiv Cfg.fixed a c = .ok o → Sound o (fun i j => Da i j / c.val))
    ∧ (∀ o, call Cfg.fixed a b = .ok o → Sound o (matMul a.n Da Db))
    ∧ (∀ o, matmul Cfg.fixed a b = .ok o → MatmulPlain a b → Sound o (matMul a.n Da Db))
    ∧ (∀ o, opT Cfg.fixed a = .ok o → Sound o (matT Da))
    ∧ (∀ o, opH Cfg.fixed a = .ok o → Sound o (matH Da))
    ∧ (∀ o, opConj Cfg.fixed a = .ok o → Sound o (matConj Da))
    ∧ (∀ o, opGram Cfg.fixed a = .ok o → Sound o (matMul a.m (matH Da) Da))
    ∧ (∀ collapse o, vstack true [a, b] collapse = .ok o → Sound o (vcatMx [a, b] [Da, Db]))
    ∧ (∀ ci co o, dstack true [a, b] ci co = .ok o → Sound o (bdiagMx [a, b] [Da, Db])) :=
  ⟨fun sub _ h => (addSub_sound sub ha hb h).1, fun _ h => (neg_sound ha h).1,
   fun _ h => (smul_sound c ha h).1, fun _ h => (sdiv_sound c ha h).1,
   fun _ h => ((call_out h).sound ha hb).1, fun _ h _ => ((matmul_out h).sound ha hb).1,
   fun _ h => (opT_sound ha h).1, fun _ h => (opH_sound ha h).1, fun _ h => (opConj_sound ha h).1,
   fun _ h => (opGram_sound ha h).1,
   fun collapse _ h => (vstack_sound collapse (.cons ha (.cons hb .nil)) h).1,
   fun ci co _ h => (dstack_sound ci co (.cons ha (.cons hb .nil)) h).1⟩

/-- **Vertical stack.**  `VerticalStack([e₁, …, e_N], collapse_output)` of linear expressions (any
    classes, any depth, any number of operands, collapsed to `(N, *S)` or left as a block array) computes
    `x ↦ [den e₁; …; den e_N] · x`; its adjoint `y ↦ Σ_k (den e_k)ᴴ y_k` is the conjugate transpose of that
    concatenation; its output size is the sum of the operands' and all operands share its input size.  (`AllIn` asks
    `PlainDiagProducts e` of every operand; `OpAlg.buildAll_sound` does not use it.) -/
theorem C05_vstack_eq_den (es : List (LExpr K)) (collapse : Bool) (o : Obj K) (hin : AllIn es)
    (h : buildVStack true es collapse = .ok o) (x y : Vc K) :
    (∀ i, (o.eval x).get i = if i < rowsOf es then mulVec o.n (vcatDen es) x.get i else 0)
    ∧ (∀ j, (o.adj y).get j = if j < o.n then mulVecH (rowsOf es) (vcatDen es) y.get j else 0)
    ∧ o.md.outShape.size = rowsOf es ∧ (∀ e ∈ es, (dims e).2 = o.md.inShape.size) := by
  obtain ⟨hS, hm, hn⟩ := buildVStack_sound es collapse o hin h
  refine ⟨fun i => ?_, fun j => ?_, hm, hn⟩
  · rw [hS.ev x i, hm]
  · rw [hS.ad y j, hm]

/-- **Diagonal stack.**  `DiagonalStack([e₁, …, e_N], collapse_input, collapse_output)` computes
    `x ↦ diag(den e₁, …, den e_N) · x` on the stacked / block input; the adjoint is the conjugate
    transpose; sizes are the sums of the operands' sizes.  (`PlainDiagProducts` inside `AllIn`: as for `C05_vstack_eq_den`.) -/
theorem C05_dstack_eq_den (es : List (LExpr K)) (cIn cOut : Bool) (o : Obj K) (hin : AllIn es)
    (h : buildDStack true es cIn cOut = .ok o) (x y : Vc K) :
    (∀ i, (o.eval x).get i = if i < rowsOf es then mulVec (colsOf es) (bdiagDen es) x.get i else 0)
    ∧ (∀ j, (o.adj y).get j = if j < colsOf es then mulVecH (rowsOf es) (bdiagDen es) y.get j else 0)
    ∧ o.md.outShape.size = rowsOf es ∧ o.md.inShape.size = colsOf es := by
  obtain ⟨hS, hm, hn⟩ := buildDStack_sound es cIn cOut o hin h
  refine ⟨fun i => ?_, fun j => ?_, hm, hn⟩
  · rw [hS.ev x i, hm, hn]
  · rw [hS.ad y j, hm, hn]

/-- **Freezing a block argument / fixing parameters of a `Function`.**  `F.freeze(argnum, val)` evaluates
    `F` on the block array obtained from its argument by inserting `val` as block `p` (`p` = `argnum`
    normalised: a negative index counts from the end), entry by entry as stated; `Fn.slice(index, *fix)`
    evaluates the function with the free argument at parameter position `p`; `Fn.join()` evaluates it on
    the blocks of its BlockArray argument. -/
theorem C05_freeze_slice_join (o : Obj K) (k : Int) (valSh : Shape) (valDt : DT) (val : Vc K)
    (f : Fn K) (fixArgs : List (Vc K)) (fixDts : List DT) :
    (∀ r bs p, o.md.inShape = .nested bs → normIdx bs.length k = some p →
        freeze o k valSh valDt val = .ok r → ∀ x,
          r.eval x = o.eval (vinsert o.n (offsetOf bs p) (prodL (bs.getD p [])) val x)
          ∧ ∀ j, (vinsert o.n (offsetOf bs p) (prodL (bs.getD p [])) val x).get j
              = if j < o.n then
                  (if j < offsetOf bs p then x.get j
                   else if j < offsetOf bs p + prodL (bs.getD p []) then val.get (j - offsetOf bs p)
                   else x.get (j - prodL (bs.getD p [])))
                else 0)
    ∧ (∀ p, normIdx f.inShapes.length k = some p → ∃ r, f.slice k fixArgs fixDts = .ok r
        ∧ ∀ x, r.eval x = f.eval (fixArgs.take p ++ x :: fixArgs.drop p))
    ∧ (∀ r, f.join = .ok r → ∀ x, r.eval x = f.eval (splitBlocks (f.inShapes.map Shape.size) 0 x)) := by
  refine ⟨fun r bs p hsh hp h x => ?_, fun p hp => ?_, fun r hr x => ?_⟩
  · exact ⟨(freeze_spec o k valSh valDt val r bs p hsh hp h).2.2.1 x, fun j => vinsert_get _ _ _ _ _ j⟩
  · obtain ⟨r, hr, _, _, _, _, _, hev⟩ := (slice_spec f k fixArgs fixDts).1 p hp
    exact ⟨r, hr, hev⟩
  · cases hd : f.inDts with
    | nil => simp [Fn.join, hd] at hr
    | cons d0 ds =>
      obtain ⟨_, _, _, _, _, hev⟩ := (join_spec f d0 ds hd).2 r hr
      exact hev x

/-- **Replicated stacking: the documented block formula `H(x)_k = A(x_k)`.**  For an accepted
    `DiagonalReplicated(op, N, input_axis, output_axis)` (axes at positions `a`, `b`; `P_in`, `P_out` the
    numbers of elements behind them) and every replicate `k < N`: entry `r` of replicate `k` of `H(x)` —
    flat index `joinIdx N P_out k r` — is entry `r` of `op` applied to replicate `k` of `x`, whose entry
    `j` is `x[joinIdx N P_in k j]`; every flat index of the output is of this form; and (linear case) the
    adjoint is the same construction with `op.adj` and the two axes exchanged.  (`0 < o.m`, `0 < o.n`: the numbers of
    elements behind the axes are then positive, which the index maps need to be inverse to each other.) -/
theorem C05_drep_blocks (lin : Bool) (o : Obj K) (N : Nat) (ia : Int) (oa : Option Int) (r : Obj K)
    (h : drep lin o N ia oa = .ok r) (hm : 0 < o.m) (hn : 0 < o.n) :
    ∃ pin pout, 0 < pin ∧ 0 < pout
      ∧ (∀ (x : Vc K) k i, k < N → i < o.m →
          (r.eval x).get (joinIdx N pout k i) = (o.eval (vtake o.n N pin k x)).get i)
      ∧ (∀ (x : Vc K) k j, j < o.n → (vtake o.n N pin k x).get j = x.get (joinIdx N pin k j))
      ∧ (∀ t, 0 < N → joinIdx N pout (repK N pout t) (repRest N pout t) = t)
      ∧ (lin = true → ∀ (y : Vc K) k j, k < N → j < o.n →
          (r.adj y).get (joinIdx N pin k j) = (o.adj (vtake o.m N pout k y)).get j) := by
  obtain ⟨din, dout, a, b, ⟨h1, h2, _⟩, hev, had⟩ := drep_spec lin o N ia oa r h
  have hmA : o.m = prodL (dout.take b) * prodL (dout.drop b) := by
    simp only [Obj.m, h2, Shape.size]; exact (prodL_take_drop dout b).symm
  have hnA : o.n = prodL (din.take a) * prodL (din.drop a) := by
    simp only [Obj.n, h1, Shape.size]; exact (prodL_take_drop din a).symm
  have hpout : 0 < prodL (dout.drop b) := Nat.pos_of_mul_pos_left (hmA ▸ hm)
  have hpin : 0 < prodL (din.drop a) := Nat.pos_of_mul_pos_left (hnA ▸ hn)
  refine ⟨prodL (din.drop a), prodL (dout.drop b), hpin, hpout, ?_, ?_, ?_, ?_⟩
  · intro x k i hk hi
    rw [hev x]
    exact vgather_block N _ _ o.m hmA hpout _ k i hk hi
  · intro x k j hj
    rw [vtake_get]; simp [hj]
  · exact fun t _ => joinIdx_repK_repRest N _ t hpout
  · intro hl y k j hk hj
    rw [had hl y]
    exact vgather_block N _ _ o.n hnA hpin _ k j hk hj

/-- **`Convolve` closed forms (operands of the same class).**  `A ± B` is accepted iff input length,
    output length, mode and filter length agree, and then convolves with `h_A ± h_B` — which is the
    pointwise `A(x) ± B(x)`; `c·A` / `A/c` are accepted iff `c` is scalar-equivalent and convolve with
    `h·c` / `h/c` — which is `c·A(x)` / `A(x)/c`; declared dtypes by `result_type`.  (`convEval` is the model
    of `jax.scipy.signal.convolve` of engine LinOps, all three modes.) -/
theorem C05_convolve_arith (a b : ConvOp K) (c : Scal K) (sub : Bool) :
    (((∃ r, ConvOp.addSub sub a b = .ok r) ↔ (a.n = b.n ∧ a.outLen = b.outLen ∧ a.mode = b.mode ∧ a.k = b.k))
      ∧ ∀ r, ConvOp.addSub sub a b = .ok r → r.n = a.n ∧ r.k = a.k ∧ r.mode = a.mode
          ∧ r.inDt = resultType a.inDt b.inDt ∧ r.hDt = resultType a.hDt b.hDt
          ∧ ∀ x i, r.eval x i = pm sub (a.eval x i) (b.eval x i))
    ∧ ((∃ r, a.smul c = .ok r) ↔ c.kind.isScalarEquiv = true)
    ∧ ((∃ r, a.sdiv c = .ok r) ↔ c.kind.isScalarEquiv = true)
    ∧ (∀ r, a.smul c = .ok r → r.inDt = resultTypeS a.inDt c.kind.sk ∧ ∀ x i, r.eval x i = c.val * a.eval x i)
    ∧ (∀ r, a.sdiv c = .ok r → r.inDt = resultTypeS a.inDt c.kind.sk ∧ ∀ x i, r.eval x i = a.eval x i / c.val) := by
  obtain ⟨h1, h2⟩ := ConvOp.addSub_spec sub a b
  obtain ⟨s1, s2, s3, s4⟩ := ConvOp.scal_spec a c
  refine ⟨⟨h1, fun r hr => ?_⟩, s1, s2, fun r hr => ?_, fun r hr => ?_⟩
  · obtain ⟨q1, q2, q3, _, q5, q6, q7⟩ := h2 r hr
    exact ⟨q1, q2, q3, q5, q6, q7⟩
  · obtain ⟨_, _, _, q4, _, q6⟩ := s3 r hr
    exact ⟨q4, q6⟩
  · obtain ⟨_, _, _, q4, _, q6⟩ := s4 r hr
    exact ⟨q4, q6⟩

/-- **`CircularConvolve` closed forms.**  `CircularConvolve` evaluates `ifftn(h_dft · fftn(x))`
    (`circNdSpecEval`, any number of axes, any spectrum); the operators built from the spectra
    `H_A ± H_B`, `H·c`, `H/c` are `A ± B`, `c·A`, `A/c`. -/
theorem C05_circconv_arith (dims : List Nat) (ws wis : List K) (s c : K) (HA HB x : Scico.LinOps.V K) (p : Nat) :
    Scico.LinOps.circNdSpecEval dims ws wis s (fun f => HA f + HB f) x p
        = Scico.LinOps.circNdSpecEval dims ws wis s HA x p + Scico.LinOps.circNdSpecEval dims ws wis s HB x p
    ∧ Scico.LinOps.circNdSpecEval dims ws wis s (fun f => HA f - HB f) x p
        = Scico.LinOps.circNdSpecEval dims ws wis s HA x p - Scico.LinOps.circNdSpecEval dims ws wis s HB x p
    ∧ Scico.LinOps.circNdSpecEval dims ws wis s (fun f => HA f * c) x p
        = c * Scico.LinOps.circNdSpecEval dims ws wis s HA x p
    ∧ Scico.LinOps.circNdSpecEval dims ws wis s (fun f => HA f / c) x p
        = Scico.LinOps.circNdSpecEval dims ws wis s HA x p / c := by
  have L := fun c1 c2 H2 => circNdSpec_lin dims ws wis s c1 c2 HA H2 x p
  refine ⟨?_, ?_, ?_, ?_⟩
  · have := L 1 1 HB; simp only [one_mul] at this; exact this
  · have := L 1 (-1) HB
    simp only [one_mul, neg_one_mul, ← sub_eq_add_neg] at this; exact this
  · have := L c 0 HA
    simp only [zero_mul, add_zero] at this
    rw [← this]; congr 1; funext f; ring
  · have := L c⁻¹ 0 HA
    simp only [zero_mul, add_zero] at this
    rw [div_eq_mul_inv, mul_comm, ← this]; congr 1; funext f; rw [div_eq_mul_inv, mul_comm]

/-- **Rejection: non-scalar factor.**  `a * c`, `c * a`, `a / c` with `c` not scalar-equivalent
    raise for every operand class. -/
theorem C05_reject_nonscalar (e : LExpr K) (c : Scal K) (hc : c.kind.isScalarEquiv = false) :
    (∃ k, build (.smulR e c) = .error k) ∧ (∃ k, build (.smulL c e) = .error k)
    ∧ (∃ k, build (.sdiv e c) = .error k) := by
  simp only [build, buildC]
  cases hb : buildC Cfg.fixed e with
  | error k => exact ⟨⟨k, rfl⟩, ⟨k, rfl⟩, ⟨k, rfl⟩⟩
  | ok o =>
    simp only [bind, Except.bind]
    have h1 := smul_reject_nonscalar Cfg.fixed o c hc
    have h2 := sdiv_reject_nonscalar Cfg.fixed o c hc
    refine ⟨?_, ?_, ?_⟩
    · rcases h1 with h | ⟨_, _, h⟩ <;> exact ⟨_, h⟩
    · rcases h1 with h | ⟨_, _, h⟩ <;> exact ⟨_, h⟩
    · rcases h2 with h | ⟨_, _, h⟩ <;> exact ⟨_, h⟩

/-- **Rejection: shape mismatch in a sum.**  Two accepted linear operands whose matrices have
    different shapes cannot be added or subtracted.  (`hpa`, `hpb` are not used: `OpAlg.build_sound`.) -/
theorem C05_reject_sum_mismatch (a b : LExpr K) (oa ob : Obj K) (ha : build a = .ok oa)
    (hb : build b = .ok ob) (hla : Lin a) (hlb : Lin b) (hpa : PlainDiagProducts a)
    (hpb : PlainDiagProducts b) (hK : RealK K ∨ (AllC a ∧ AllC b)) (hd : dims a ≠ dims b) :
    (∃ k, build (.add a b) = .error k) ∧ (∃ k, build (.sub a b) = .error k) := by
  have hSa := build_sound a oa hla (hK.imp id (·.1)) ha
  have hSb := build_sound b ob hlb (hK.imp id (·.2)) hb
  have key : ∀ sub, ∃ k, addSub Cfg.fixed sub oa ob = .error k := by
    intro sub
    cases h : addSub Cfg.fixed sub oa ob with
    | error k => exact ⟨k, rfl⟩
    | ok o =>
      obtain ⟨h1, h2⟩ := addSub_ok_sizes sub h
      exact absurd (Prod.ext (hSa.2.1.symm.trans (h1.trans hSb.2.1)) (hSa.2.2.symm.trans (h2.trans hSb.2.2))) hd
  unfold build at ha hb
  simp only [build, buildC, ha, hb, bind, Except.bind]
  exact ⟨key false, key true⟩

/-- **Rejection: non-conforming product.**  `a(b)` is rejected when the number of columns of `a` differs from the number
    of rows of `b`.  (`hpa`, `hpb` are not used: `OpAlg.build_sound`.) -/
theorem C05_reject_product_mismatch (a b : LExpr K) (oa ob : Obj K) (ha : build a = .ok oa)
    (hb : build b = .ok ob) (hla : Lin a) (hlb : Lin b) (hpa : PlainDiagProducts a)
    (hpb : PlainDiagProducts b) (hK : RealK K ∨ (AllC a ∧ AllC b))
    (hd : (dims a).2 ≠ (dims b).1) : ∃ k, build (.comp a b) = .error k := by
  have hSa := build_sound a oa hla (hK.imp id (·.1)) ha
  have hSb := build_sound b ob hlb (hK.imp id (·.2)) hb
  unfold build at ha hb
  simp only [build, buildC, ha, hb, bind, Except.bind]
  cases h : call Cfg.fixed oa ob with
  | error k => exact ⟨k, rfl⟩
  | ok o =>
    have hk : oa.n = ob.m := conform_sizes (call_out h).conform
    exact absurd (hSa.2.2.symm.trans (hk.trans hSb.2.1)) hd

/-- **Valid combinations are not rejected** (generic classes): two `LinearOperator`s /
    compositions of equal shape add to the generic sum; a composition of two generic operators
    is accepted exactly when the shapes conform and the dtypes chain. -/
theorem C05_accepts_valid (a b : Obj K) :
    ((a.cls = .linop ∨ a.cls = .composed) → (b.cls = .linop ∨ b.cls = .composed) →
        a.sameShape b = true → ∀ sub, addSub Cfg.fixed sub a b = .ok (linAddSub sub a b))
    ∧ ((∃ o, linComp a b = .ok o) ↔ (a.md.inShape = b.md.outShape ∧ a.md.inDt = b.md.outDt)) :=
  ⟨fun h1 h2 hs sub => by
      unfold addSub wrapAddSub addSubOf
      rcases h1 with h1 | h1 <;> rcases h2 with h2 | h2 <;>
        simp [h1, h2, hs, Cls.isSub, Cls.arith],
   by
      unfold linComp
      by_cases h1 : a.md.inShape = b.md.outShape <;> by_cases h2 : a.md.inDt = b.md.outDt <;> simp [h1, h2]⟩

/-- **The dispatch of the model is derived from the source tables.**  With `Tables.model` = the override table read from
    the scico sources (kept equal to the working tree by the generated obligation `Scico.Generated.OpAlgTables.tables_ok`):
    `Cls.isSub` is reachability along the base classes; `Cls.arith c` is the first class of the MRO of `c` defining
    `__add__` (and `__sub__`, `__mul__`, `__truediv__`); the decorator found there selects the branch of `a ± b`; the
    class owning `T / H / conj / gram_op` selects the branch of the four views. -/
theorem C05_dispatch_from_source (cfg : Cfg) (sub : Bool) (a b : Obj K) :
    (∀ c ∈ Tables.allCls, ∀ d ∈ Tables.allCls,
        ((Tables.mro Tables.model 8 (Tables.tagOf c)).contains (Tables.tagOf d)) = c.isSub d)
    ∧ (∀ c ∈ Tables.allCls, Tables.owner Tables.model (Tables.tagOf c) "__add__" = some (Tables.tagOf c.arith)
        ∧ Tables.decoratorOf Tables.model (Tables.tagOf c.arith) "__add__" = some (Tables.addWrapper c)
        ∧ Tables.decoratorOf Tables.model (Tables.tagOf c.arith) "__mul__" = some (Tables.mulWrapper c))
    ∧ (¬ (b.cls = .matrix ∧ (a.cls = .op ∨ a.cls = .linop)) →
        addSub cfg sub a b = (if Tables.addWrapper a.cls = "" then opAddSub sub a b
          else if Tables.addWrapper a.cls = "_wrap_add_sub" then wrapAddSub cfg sub a b else matAddSub sub a b))
    ∧ (∀ c ∈ Tables.allCls, ∀ meth ∈ ["T", "H", "conj", "gram_op"],
        Tables.owner Tables.model (Tables.tagOf c) meth = (Tables.viewOwner meth c).map Tables.tagOf)
    ∧ opT cfg a = (match Tables.viewOwner "T" a.cls with
        | none => .error .other | some .matrix => .ok (matTop a) | some .diag => .ok (diagT cfg a) | some _ => .ok (linT a))
    ∧ opH cfg a = (match Tables.viewOwner "H" a.cls with
        | none => .error .other | some .matrix => .ok (matHop a) | some .diag => diagH cfg a | some _ => .ok (linH a)) :=
  have ⟨hsub, harith, hwrap, _, hviews⟩ := Tables.dispatch_from_table
  ⟨hsub, fun c hc => ⟨(harith c hc).1, (hwrap c hc).1, (hwrap c hc).2.1⟩,
   fun hr => by
    unfold addSub
    rw [show (b.cls = .matrix && (a.cls = .op || a.cls = .linop)) = false from
      Bool.eq_false_iff.mpr (fun h => hr (by simpa using h))]
    cases ha : a.cls <;> simp [Tables.addWrapper],
   hviews, by unfold opT; cases a.cls <;> simp [Tables.viewOwner],
   by unfold opH; cases a.cls <;> simp [Tables.viewOwner]⟩

end

/-! ### non-vacuity: the hypotheses are satisfiable on concrete trees over ℚ -/
section examples

instance : StarRing ℚ := starRingOfComm
instance : HasRe ℚ := ⟨id⟩

example : RealK ℚ := fun _ => ⟨rfl, rfl⟩

/-- `(2·I − D) @ M.H + M.gram_op` on ℚ³ -/
def exM : LExpr ℚ := .mat 3 3 .f64 (fun i j => (i : ℚ) + 2 * j)
def exD : LExpr ℚ := .diag (.plain [3]) .f64 none none (fun i => (i : ℚ) - 1)
def exE : LExpr ℚ :=
  .add (.matmul (.sub (.smulL ⟨2, .pyFloat⟩ (.ident (.plain [3]) .f64)) exD) (.H exM)) (.gram exM)

example : Lin exE := by simp [exE, exM, exD, Lin]
example : PlainDiagProducts exE := by
  simp only [exE, exM, exD, PlainDiagProducts, and_true, true_and]
  intro oa ob ha hb hc _
  -- the left factor `2·I − D` is built by `Diagonal.__sub__`; the right factor is a MatrixOperator
  exfalso
  simp only [build, buildC, bind, Except.bind] at hb
  injection hb with hb
  rename_i hfam
  subst hb
  rcases hfam with h | h | h <;> simp [matHop, rematrix, mkMat] at h

/-- scico accepts the expression (so `C05_run_eq_den` applies to it, ℚ being real) -/
example : ∃ m, infer exE = .ok m := ⟨_, rfl⟩
/-- a shape mismatch: `M (3×3) + Identity((2,))` -/
example : dims exM ≠ dims (LExpr.ident (.plain [2]) .f64 : LExpr ℚ) := by decide

/-- a vertical and a diagonal stack of `M` (3×3) and `Identity((3,))`: accepted, and `AllIn` holds of the operands -/
example : AllIn [exM, LExpr.ident (.plain [3]) .f64] := by
  intro e he
  simp only [List.mem_cons, List.mem_nil_iff, or_false] at he
  rcases he with rfl | rfl
  · exact ⟨by simp [exM, Lin], by simp [exM, PlainDiagProducts], Or.inl (fun _ => ⟨rfl, rfl⟩)⟩
  · exact ⟨by simp [Lin], by simp [PlainDiagProducts], Or.inl (fun _ => ⟨rfl, rfl⟩)⟩
example : ∃ o, buildVStack true [exM, LExpr.ident (.plain [3]) .f64] true = .ok o
    ∧ o.md.outShape = .plain [2, 3] := ⟨_, rfl, rfl⟩
example : ∃ o, buildVStack true [exM, LExpr.ident (.plain [3]) .f64] false = .ok o
    ∧ o.md.outShape = .nested [[3], [3]] := ⟨_, rfl, rfl⟩
example : ∃ o, buildDStack true [exM, LExpr.ident (.plain [3]) .f64] true false = .ok o
    ∧ o.md.inShape = .plain [2, 3] ∧ o.md.outShape = .nested [[3], [3]] := ⟨_, rfl, rfl, rfl⟩

/-- `Diagonal(d₁ of shape (2,3)) @ Diagonal(d₂ of shape (3,), input_shape=(2,3))`: the two diagonal arrays
    broadcast against each other (outside `DiagProductPlain`, inside `C05_run_eq_den_plain`) -/
def exBD : LExpr ℚ :=
  .matmul (.diag (.plain [2, 3]) .f64 none none (fun i => (i : ℚ) + 1))
          (.diag (.plain [3]) .f64 (some (.plain [2, 3])) none (fun i => 2 * (i : ℚ) - 1))
example : PlainShapes exBD ∧ Lin exBD := by simp [exBD, PlainShapes, Lin, Shape.isPlain]
example : ∃ m, infer exBD = .ok m ∧ m.cls = .diag ∧ m.datShape = .plain [2, 3] := ⟨_, rfl, rfl, rfl⟩
example : PlainShapes exE := by simp [exE, exM, exD, PlainShapes, Shape.isPlain]

/-- a non-linear tree: `(N + M)(D) / 2` with `N(x) = (G x)²` -/
def exN : LExpr ℚ :=
  .sdiv (.comp (.add (.nonlin (.plain [3]) (.plain [3]) .f64 .f64 (fun i j => (i : ℚ) - j)) exM) exD) ⟨2, .pyInt⟩
example : ¬ Lin exN := by simp [exN, Lin]
example : PlainDiagProducts exN := by simp [exN, exM, exD, PlainDiagProducts]
example : ∃ m, infer exN = .ok m ∧ m.cls = .op := ⟨_, rfl, rfl⟩

/-- two `Convolve` operators with filters of length 2 on inputs of length 3 can be added; an operand on another input
    length is rejected -/
def cvA : ConvOp ℚ := ⟨fun m => [1, 2].getD m 0, 2, 3, .full, .f64, .f64⟩
def cvB : ConvOp ℚ := ⟨fun m => [3, -1].getD m 0, 2, 3, .full, .f64, .f64⟩
example : ∃ r, ConvOp.addSub false cvA cvB = .ok r := ⟨_, rfl⟩
example : ∃ e, ConvOp.addSub false cvA { cvB with mode := .same, n := 4 } = .error e := ⟨_, rfl⟩

/-- a stack of a stack and a matrix, then `.H` of it: accepted (so `C05_sound_closed` applies twice) -/
example : ∃ v w h, buildVStack true [exM, LExpr.ident (.plain [3]) .f64] true = .ok v
    ∧ vstack true [v, mkMat 2 3 .f64 (fun _ _ => (1 : ℚ))] false = .ok w ∧ opH Cfg.fixed w = .ok h
    ∧ h.md.inShape = .nested [[2, 3], [2]] := ⟨_, _, _, rfl, rfl, rfl, rfl⟩

end examples

end Scico.Props.C05
