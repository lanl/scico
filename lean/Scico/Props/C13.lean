/-
  Property C13 — block arrays and the wrapped numpy namespace act block-wise as documented.

  The model (`Scico.Model.Block`) transcribes `_blockarray.py` / `_wrappers.py`; the
  specification side is index-wise (`Rel₂`, `Proj`, `FirstBlk`, `Homog`, `WF` of
  `Scico.Proofs.Block`).  Every statement holds for an arbitrary universe `α` of Python
  values, arbitrary jax primitives `E`, an arbitrary per-block function `f`/`op` (which
  may raise), any number of blocks and any mix of positional / keyword arguments.
-/
import Scico.Proofs.BlockTree
import Scico.Proofs.BlockIndexing

namespace Scico.Props.C13
open Scico.Block

variable {α β δ : Type} [DecidableEq δ]

/-- unary operators act block by block -/
theorem C13_unary (E : Env α δ) (op : α → Res α) (h : α → α) (self : List α)
    (hop : ∀ x ∈ self, op x = .ok (h x)) (harr : ∀ x ∈ self, E.isArr (h x) = true)
    (hdt : Homog E (self.map h)) : unop E op self = .ok (self.map h) :=
  mkFrom_of_arrays E hop harr hdt

/-- … and nothing else can come out: any result has one block per input block, block `i` being
    `op self[i]` (converted with `jnp.array` when it is not an array) -/
theorem C13_unary_conv (E : Env α δ) (op : α → Res α) (self r : List α)
    (h : unop E op self = .ok r) :
    r.length = self.length ∧
    ∀ (i : Nat) (h1 : i < self.length) (h2 : i < r.length),
      ∃ z, op self[i] = .ok z ∧ coerce E z = .ok r[i] :=
  ((mkFrom_ok_iff E).1 h).1

/-- binary operator on two block arrays with equally many blocks: corresponding blocks -/
theorem C13_binary_blocks (E : Env α δ) (op : α → α → Res (Option α)) (h : α → α → α)
    (self other : List α) (hlen : self.length = other.length)
    (hop : ∀ p ∈ List.zip self other, op p.1 p.2 = .ok (some (h p.1 p.2)))
    (harr : ∀ p ∈ List.zip self other, E.isArr (h p.1 p.2) = true)
    (hdt : Homog E (List.zipWith h self other)) :
    binop E op self (.blk other) = .ok (some (List.zipWith h self other)) := by
  have e : List.zipWith h self other = (List.zip self other).map (fun p => h p.1 p.2) :=
    (List.map_zip_eq_zipWith (f := fun p => h p.1 p.2)).symm
  rw [e] at hdt ⊢
  have := mkFrom_of_arrays E (g := opPair op) (fun p hp => by simp [opPair, hop p hp]) harr hdt
  rw [binop_blk, if_neg (not_not.2 hlen), this]
  rfl

/-- block operands with different numbers of blocks are rejected, whatever the operator -/
theorem C13_binary_mismatch (E : Env α δ) (op : α → α → Res (Option α)) (self other : List α)
    (hlen : self.length ≠ other.length) : binop E op self (.blk other) = .error .type := by
  rw [binop_blk, if_pos hlen]

/-- a scalar or plain array operand is broadcast to every block -/
theorem C13_binary_broadcast (E : Env α δ) (op : α → α → Res (Option α)) (h : α → α → α)
    (self : List α) (o : α)
    (hop : ∀ x ∈ self, op x o = .ok (some (h x o)))
    (harr : ∀ x ∈ self, E.isArr (h x o) = true)
    (hdt : Homog E (self.map (fun x => h x o))) :
    binop E op self (.one o) = .ok (some (self.map (fun x => h x o))) := by
  have h1 : mapE (fun x => op x o) self = .ok (self.map (fun x => some (h x o))) :=
    mapE_ok_of_forall hop
  simp [binop_one E h1, mkBlock_wf E (wf_map harr hdt), Except.map]

/-- if the per-block operator answers `NotImplemented` for some block (and raises for none),
    the block operator answers `NotImplemented` (Python then tries the reflected operator) -/
theorem C13_binary_notimpl (E : Env α δ) (op : α → α → Res (Option α)) (self : List α) (o : α)
    (res : α → Option α) (hop : ∀ x ∈ self, op x o = .ok (res x))
    (hni : ∃ x ∈ self, res x = none) : binop E op self (.one o) = .ok none := by
  have h1 : mapE (fun x => op x o) self = .ok (self.map res) := mapE_ok_of_forall hop
  have h2 : (self.map res).any Option.isNone = true := by
    obtain ⟨x, hx, hr⟩ := hni
    simp only [List.any_map, List.any_eq_true]
    exact ⟨x, hx, by simp [hr]⟩
  rw [binop_one E h1, if_pos h2]

/-- lifted methods / properties: per block; a `BlockArray` when the results are arrays … -/
theorem C13_method_blocks (E : Env α δ) (m : α → Res α) (h : α → α) (self : List α)
    (hne : self ≠ []) (hm : ∀ x ∈ self, m x = .ok (h x))
    (harr : ∀ x ∈ self, E.isArr (h x) = true) (hdt : Homog E (self.map h)) :
    liftMethod E m self = .ok (.blk (self.map h)) := by
  cases self with
  | nil => exact absurd rfl hne
  | cons x xs =>
    rw [liftMethod_cons E (mapE_ok_of_forall hm), if_pos (harr x List.mem_cons_self)]
    exact congrArg (Except.map Out.blk) (mkBlock_wf E (wf_map harr hdt))

/-- … and the plain tuple of the per-block results otherwise (`x.shape`, `x.size`, `x.ndim`) -/
theorem C13_method_tuple (E : Env α δ) (m : α → Res α) (h : α → α) (x : α) (xs : List α)
    (hm : ∀ y ∈ x :: xs, m y = .ok (h y)) (hnarr : E.isArr (h x) = false) :
    liftMethod E m (x :: xs) = .ok (.tup ((x :: xs).map h)) := by
  rw [liftMethod_cons E (mapE_ok_of_forall hm), if_neg (by simp [hnarr])]
  rfl

/-- `x[k]` is list indexing: for `-n ≤ k < n` it is block `k` (counted from the end when negative),
    otherwise `IndexError` -/
theorem C13_getitem (self : List α) (k : Int) :
    (∀ (_ : 0 ≤ k) (h1 : k < self.length), getItem self k = .ok (self[k.toNat]'(by omega))) ∧
    (∀ (_ : k < 0) (h1 : -(self.length : Int) ≤ k),
        getItem self k = .ok (self[(k + self.length).toNat]'(by omega))) ∧
    (k < -(self.length : Int) ∨ (self.length : Int) ≤ k → getItem self k = .error .index) := by
  refine ⟨fun h0 h1 => ?_, fun h0 h1 => ?_, fun h => ?_⟩
  · exact getItem_of_pyIndex (pyIndex_of_nonneg h0 h1)
  · exact getItem_of_pyIndex (pyIndex_of_neg h0 h1)
  · rw [getItem_eq, pyIndex_eq_none h]

/-- `x[start:stop:step]` is Python list slicing, returned as a block array: a zero step is a
    ValueError; otherwise, with `(a, b, st)` the clipped bounds of `slice.indices(n)`, the result has one
    block per index `j` of `range(a, b, st)`, namely block `j` of `x` (every `j` is a valid index: nothing
    is read outside the list), and it is well formed -/
theorem C13_getslice (E : Env α δ) (self : List α) (hwf : WF E self) (start stop step : Option Int) :
    (step = some 0 → getSlice E self start stop step = .error .value) ∧
    (∀ a b st, sliceBounds self.length start stop step = some (a, b, st) →
      ∃ r, getSlice E self start stop step = .ok r ∧ WF E r ∧
        List.Forall₂ (fun (j : Int) (x : α) => ∃ hj : j.toNat < self.length, x = self[j.toNat])
          (sliceIdx a b st) r) := by
  constructor
  · rintro rfl
    simp [getSlice, sliceBounds]
  · intro a b st h
    have hwf' : WF E ((sliceIdx a b st).filterMap (fun j => self[j.toNat]?)) :=
      hwf.of_subset fun x hx => by
        obtain ⟨j, _, hj⟩ := List.mem_filterMap.1 hx
        exact List.mem_of_getElem? hj
    exact ⟨_, by simp [getSlice, h, mkBlock_wf E hwf'], hwf', reads_of_in_range self (sliceIdx_in_range h)⟩

/-- the documented forms: `x[:k]` are the first `k` blocks (`0 ≤ k ≤ n`) -/
theorem C13_getslice_prefix (E : Env α δ) (self : List α) (hwf : WF E self) (k : Nat) (hk : k ≤ self.length) :
    getSlice E self none (some (k : Int)) none = .ok (self.take k) := by
  simp only [getSlice, sliceBounds_prefix hk, slice_prefix_reads]
  exact mkBlock_wf E (hwf.of_subset fun _ => List.mem_of_mem_take)

/-- a block array behaves as the tuple of its blocks under iteration: Python's legacy sequence protocol
    (`x[0], x[1], …` until `IndexError`; this is what `for x in self`, `zip(self, other)`, `tuple(x)` and
    `solver._ravel` run) yields exactly the blocks, in order, after `n + 1` calls of `__getitem__` — which is
    why the model may work on the block list directly -/
theorem C13_iter (self : List α) :
    iterBlocks self = self ∧ ∀ fuel, self.length + 1 ≤ fuel → iterFrom self 0 fuel = self := by
  constructor
  · simpa [iterBlocks] using iterFrom_eq_drop self 0 (self.length + 1) (by omega)
  · intro fuel h
    simpa using iterFrom_eq_drop self 0 fuel (by omega)

/-- `x[k] = v` with `v` an array of the block array's dtype replaces block `k` (negative `k` from the
    end), an index outside `[-n, n)` is an `IndexError` … -/
theorem C13_setitem (E : Env α δ) (self : List α) (k : Int) (v : α)
    (hwf : WF E self) (hv : E.isArr v = true) (hdt : ∀ a ∈ self, E.dt a = E.dt v) :
    (∀ (_ : 0 ≤ k) (_ : k < self.length), setItem E self k v = .ok (self.set k.toNat v)) ∧
    (∀ (_ : k < 0) (_ : -(self.length : Int) ≤ k),
        setItem E self k v = .ok (self.set (k + self.length).toNat v)) ∧
    (k < -(self.length : Int) ∨ (self.length : Int) ≤ k → setItem E self k v = .error .index) := by
  have hwf' := hwf.set hv hdt
  refine ⟨fun h0 h1 => ?_, fun h0 h1 => ?_, fun h => ?_⟩
  · simp only [setItem, pyIndex_of_nonneg h0 h1, mkBlock_wf E (hwf' _)]
  · simp only [setItem, pyIndex_of_neg h0 h1, mkBlock_wf E (hwf' _)]
  · simp only [setItem, pyIndex_eq_none h]

/-- … and an array of another dtype is rejected: the block array keeps one dtype
    (the general invariant for every value is the last clause of `C13_dtype_inv`) -/
theorem C13_setitem_reject (E : Env α δ) (self : List α) (k : Int) (v : α) (j : Nat)
    (hwf : WF E self) (hv : E.isArr v = true) (hj : pyIndex self.length k = some j)
    (hother : ∃ a ∈ self.set j v, E.dt a ≠ E.dt v) :
    setItem E self k v = .error .dtype := by
  have harr := forall_mem_set hwf.1 hv j
  have hnh : ¬ Homog E (self.set j v) := by
    intro hh
    obtain ⟨a, ha, hne⟩ := hother
    exact hne (hh a ha v (List.mem_set (pyIndex_lt hj) v))
  simp only [setItem, hj]
  exact mkBlock_hetero E harr hnh

/-- `x.dtype` is the dtype of every block — also after an assignment, in particular after the one
    block of a single-block array was replaced by an array of another dtype (the property reads the
    blocks, it is not a value remembered from construction) -/
theorem C13_dtype_property (E : Env α δ) (hAs : ∀ x y, E.asArr x = .ok y → E.isArr y = true) :
    (∀ b, WF E b → b ≠ [] → ∃ d, dtypeOf E b = .ok d ∧ ∀ a ∈ b, E.dt a = d) ∧
    (∀ self k v r, setItem E self k v = .ok r → ∃ d, dtypeOf E r = .ok d ∧ ∀ a ∈ r, E.dt a = d) ∧
    (∀ (a0 v : α), E.isArr v = true → setItem E [a0] 0 v = .ok [v] ∧ dtypeOf E [v] = .ok (E.dt v)) := by
  have key : ∀ b, WF E b → b ≠ [] → ∃ d, dtypeOf E b = .ok d ∧ ∀ a ∈ b, E.dt a = d := by
    intro b hwf hne
    cases b with
    | nil => exact absurd rfl hne
    | cons a0 rest => exact ⟨E.dt a0, rfl, fun a ha => hwf.2 a ha a0 (by simp)⟩
  refine ⟨key, fun self k v r h => ?_, fun a0 v hv => ?_⟩
  · obtain ⟨j, hp, hm⟩ := setItem_ok E h
    -- the result has as many blocks as `self`, and `self` has block `j`
    have hl := ((mkFrom_ok_iff E).1 hm).1.1
    have hj := pyIndex_lt hp
    refine key r (mkFrom_wf E hAs hm) fun hr => ?_
    rw [hr, List.length_set] at hl
    simp only [List.length_nil] at hl
    omega
  · have hwf : WF E [v] := ⟨by simpa using hv, by intro a ha b hb; simp at ha hb; rw [ha, hb]⟩
    refine ⟨?_, rfl⟩
    have : pyIndex 1 0 = some 0 := by decide
    simp [setItem, this, mkBlock_wf E hwf]

/-- `x[start:stop:step] = values` is Python list slice assignment followed by the constructor:
    whatever is accepted is a well-formed block array (one dtype); a simple slice (step omitted or 1)
    is replaced by ANY number of values — `x[:lo] ++ values ++ x[hi:]`, the number of blocks changes —
    while an extended slice takes exactly as many values as it has indices, and a zero step is a
    ValueError -/
theorem C13_setslice (E : Env α δ) (hAs : ∀ x y, E.asArr x = .ok y → E.isArr y = true)
    (self values : List α) (start stop step : Option Int) :
    (∀ r, setSlice E self start stop step values = .ok r → WF E r) ∧
    (∀ a b, sliceBounds self.length start stop step = some (a, b, 1) →
      WF E (self.take a.toNat ++ values ++ self.drop (max a b).toNat) →
      setSlice E self start stop step values
        = .ok (self.take a.toNat ++ values ++ self.drop (max a b).toNat)) ∧
    (∀ a b st, sliceBounds self.length start stop step = some (a, b, st) → st ≠ 1 →
      values.length ≠ sliceLen a b st → setSlice E self start stop step values = .error .shape) ∧
    (step = some 0 → setSlice E self start stop step values = .error .value) := by
  refine ⟨fun r h => ?_, fun a b hb hwf => ?_, fun a b st hb h1 h2 => ?_, ?_⟩
  · unfold setSlice at h
    split at h
    · cases h
    · split_ifs at h
      · exact mkFrom_wf E hAs h
      · exact mkFrom_wf E hAs h
  · simp only [setSlice, hb, if_true]
    exact mkBlock_wf E hwf
  · simp [setSlice, hb, h1, h2]
  · rintro rfl
    simp [setSlice, sliceBounds]

/-- before d088c11 the value was stored as it is and the invariant could be broken
    (finding `blockarray-setitem-unchecked`, repaired): blocks = numbers, dtype = parity -/
theorem C13_setitem_old_witness :
    ∃ (E : Env Nat Nat) (self : List Nat) (r : List Nat), WF E self ∧
      setItemOld self 0 1 = .ok r ∧ ¬ WF E r ∧ setItem E self 0 1 = .error .dtype := by
  refine ⟨⟨fun _ => true, Except.ok, fun x => x % 2⟩, [0, 2], [1, 2], ⟨fun _ _ => rfl, ?_⟩, by decide, ?_, by decide⟩
  · intro a ha b hb
    simp at ha hb
    rcases ha with rfl | rfl <;> rcases hb with rfl | rfl <;> rfl
  · intro h
    have := h.2 1 (by simp) 2 (by simp)
    revert this
    decide

/-- the number of blocks is taken from the first `BlockArray` in the order
    positional arguments, then keyword arguments; none → no mapping -/
theorem C13_search_order (args : List (PyVal α)) (kwargs : List (String × PyVal α)) :
    (∀ l, FirstBlk (args ++ kwargs.map Prod.snd) l → numBlocksInArgs args kwargs = l.length) ∧
    (NoBlk (args ++ kwargs.map Prod.snd) → numBlocksInArgs args kwargs = 0) :=
  ⟨fun _ h => numBlocks_first h, numBlocks_noblk⟩

/-- For any `f` and any mix of positional / keyword block arguments the result is
    `[f(args↓i, kwargs↓i)]ᵢ`, `i < n`, `n` the block count of the first block argument. -/
theorem C13_map_blocks_partial (E : Env α δ) (f : List (PyVal α) → List (String × PyVal α) → Res α)
    (args : List (PyVal α)) (kwargs : List (String × PyVal α)) (l0 : List α)
    (hfirst : FirstBlk (args ++ kwargs.map Prod.snd) l0) (hpos : 0 < l0.length)
    (hlen : ∀ v ∈ args ++ kwargs.map Prod.snd, ∀ l, v = PyVal.blk l → l.length = l0.length)
    (A : Nat → List (PyVal α)) (K : Nat → List (String × PyVal α))
    (hA : ∀ i, i < l0.length → Rel₂ (Proj i) args (A i))
    (hK : ∀ i, i < l0.length →
      Rel₂ (fun kv kv' => kv'.1 = kv.1 ∧ Proj i kv.2 kv'.2) kwargs (K i))
    (r : Nat → α) (hf : ∀ i, i < l0.length → f (A i) (K i) = .ok (r i))
    (harr : ∀ i, i < l0.length → E.isArr (r i) = true)
    (hdt : Homog E ((List.range l0.length).map r)) :
    mapFuncOverBlocks E f args kwargs = .ok (.blk ((List.range l0.length).map r)) := by
  obtain ⟨h0, hl, hb⟩ := blockArgsKwargs_first hfirst hpos hlen hA hK
  unfold mapFuncOverBlocks
  simp only [h0, hl, hb, Bool.not_true, Bool.false_eq_true, if_false]
  rw [mkFrom_map]
  have := mkFrom_of_arrays E (g := fun i => f (A i) (K i)) (h := r) (xs := List.range l0.length)
    (fun i hi => hf i (List.mem_range.1 hi)) (fun i hi => harr i (List.mem_range.1 hi)) hdt
  simp [this, Except.map]

/-- The full statement — *whatever* the per-block function returns (also tuples, as `frexp` or
    `linalg.eig` do), the result is the list of the per-block results — is NOT claimed: it fails on
    the code as it is (finding `map-blocks-tuple-results`).  `C13_map_blocks_partial` above is the proved part:
    it needs `harr` (the per-block results are arrays). -/
def C13_map_blocks_stmt : Prop :=
  ∀ (α δ : Type) [DecidableEq δ] (E : Env α δ) (f : List (PyVal α) → List (String × PyVal α) → Res α)
    (bs : List α) (r : α → α), bs ≠ [] → (∀ b ∈ bs, f [PyVal.one b] [] = .ok (r b)) →
    mapFuncOverBlocks E f [PyVal.blk bs] [] = .ok (.blk (bs.map r))

/-- negation witness: a per-block function whose results are not arrays and cannot be converted
    (ragged tuples): every per-block call succeeds, yet the mapped call is rejected -/
theorem C13_map_blocks_tuple_witness : ¬ C13_map_blocks_stmt := by
  intro h
  -- values: 0 = an array, 1 = a tuple that `jnp.array` rejects
  let E : Env Nat Unit := ⟨fun x => x == 0, fun _ => .error .shape, fun _ => ()⟩
  have := h Nat Unit E (fun _ _ => .ok 1) [0] (fun _ => 1) (by simp) (by simp)
  revert this
  decide

/-- converse: whatever block array comes out has `n` blocks, block `i` being `f` applied to
    the `i`-th projections of the arguments -/
theorem C13_map_blocks_conv (E : Env α δ) (f : List (PyVal α) → List (String × PyVal α) → Res α)
    (args : List (PyVal α)) (kwargs : List (String × PyVal α)) (rs : List α)
    (hpos : 0 < numBlocksInArgs args kwargs)
    (h : mapFuncOverBlocks E f args kwargs = .ok (.blk rs)) :
    rs.length = numBlocksInArgs args kwargs ∧ Homog E rs ∧
    ∀ (i : Nat) (hi : i < rs.length), ∃ a k z,
      Rel₂ (Proj i) args a ∧
      Rel₂ (fun kv kv' => kv'.1 = kv.1 ∧ Proj i kv.2 kv'.2) kwargs k ∧
      f a k = .ok z ∧ coerce E z = .ok rs[i] := by
  obtain ⟨calls, hb, hm⟩ := mapFuncOverBlocks_pos E f args kwargs hpos h
  obtain ⟨⟨hlen, hget⟩, hh⟩ := (mkFrom_ok_iff E).1 hm
  obtain ⟨hcl, hcalls⟩ := blockArgsKwargs_conv hb
  refine ⟨by omega, hh, fun i hi => ?_⟩
  obtain ⟨z, hz, hc⟩ := hget i (by omega) hi
  obtain ⟨ha, hk⟩ := hcalls i (by omega)
  exact ⟨_, _, z, ha, hk, hz, hc⟩

/-- no block argument: the function is called once, unchanged -/
theorem C13_map_noblock (E : Env α δ) (f : List (PyVal α) → List (String × PyVal α) → Res α)
    (args : List (PyVal α)) (kwargs : List (String × PyVal α))
    (h : NoBlk (args ++ kwargs.map Prod.snd)) :
    mapFuncOverBlocks E f args kwargs = (f args kwargs).map PyVal.one := by
  simp [mapFuncOverBlocks, numBlocks_noblk h]

/-- degenerate case of the code's test `num_blocks == 0`: when the first block argument is an *empty*
    block array nothing is mapped either — the function receives the block arrays themselves -/
theorem C13_map_empty_first (E : Env α δ) (f : List (PyVal α) → List (String × PyVal α) → Res α)
    (args : List (PyVal α)) (kwargs : List (String × PyVal α))
    (hfirst : FirstBlk (args ++ kwargs.map Prod.snd) []) :
    mapFuncOverBlocks E f args kwargs = (f args kwargs).map PyVal.one := by
  simp [mapFuncOverBlocks, numBlocks_first hfirst]

/-- a block argument whose number of blocks differs from the first one's is rejected -/
theorem C13_map_mismatch (E : Env α δ) (f : List (PyVal α) → List (String × PyVal α) → Res α)
    (args : List (PyVal α)) (kwargs : List (String × PyVal α)) (l0 l1 : List α)
    (hfirst : FirstBlk (args ++ kwargs.map Prod.snd) l0) (hpos : 0 < l0.length)
    (hmem : PyVal.blk l1 ∈ args ++ kwargs.map Prod.snd) (hne : l1.length ≠ l0.length) :
    mapFuncOverBlocks E f args kwargs = .error .type := by
  have hl : ¬ lensOk l0.length (args ++ kwargs.map Prod.snd) = true :=
    fun c => hne (lensOk_iff.1 c _ hmem l1 rfl)
  simp [mapFuncOverBlocks, numBlocks_first hfirst, show ¬ l0.length = 0 by omega, hl]

/-- `map_void_func_over_blocks` (the wrapped `numpy.testing` assertions): the function is called on
    the projections of block `0, 1, …` in this order; the call succeeds when every per-block call does,
    and the first failing block decides the exception -/
theorem C13_map_void (f : List (PyVal α) → List (String × PyVal α) → Res Unit)
    (args : List (PyVal α)) (kwargs : List (String × PyVal α)) (l0 : List α)
    (hfirst : FirstBlk (args ++ kwargs.map Prod.snd) l0) (hpos : 0 < l0.length)
    (hlen : ∀ v ∈ args ++ kwargs.map Prod.snd, ∀ l, v = PyVal.blk l → l.length = l0.length)
    (A : Nat → List (PyVal α)) (K : Nat → List (String × PyVal α))
    (hA : ∀ i, i < l0.length → Rel₂ (Proj i) args (A i))
    (hK : ∀ i, i < l0.length →
      Rel₂ (fun kv kv' => kv'.1 = kv.1 ∧ Proj i kv.2 kv'.2) kwargs (K i)) :
    ((∀ i, i < l0.length → f (A i) (K i) = .ok ()) → mapVoidFuncOverBlocks f args kwargs = .ok ()) ∧
    (∀ i e, i < l0.length → (∀ j, j < i → f (A j) (K j) = .ok ()) → f (A i) (K i) = .error e →
      mapVoidFuncOverBlocks f args kwargs = .error e) := by
  obtain ⟨h0, hl, hb⟩ := blockArgsKwargs_first hfirst hpos hlen hA hK
  have hunf : mapVoidFuncOverBlocks f args kwargs =
      (mapE (fun i => f (A i) (K i)) (List.range l0.length)).map (fun _ => ()) := by
    unfold mapVoidFuncOverBlocks
    simp only [h0, hl, hb, Bool.not_true, Bool.false_eq_true, if_false]
    rw [mapE_map]
  constructor
  · intro hall
    rw [hunf, mapE_ok_of_forall (h := fun _ => ()) (fun i hi => hall i (List.mem_range.1 hi))]
    rfl
  · intro i e hi hbefore hfail
    rw [hunf, mapE_error_at (i := i) (by simpa using hi)
      (fun j hj => ⟨(), by simpa using hbefore j hj⟩) (by simpa using hfail)]
    rfl

/-- no `axis`, one block argument: the function is applied once, to the concatenation of the
    ravelled blocks -/
theorem C13_full_reduction (E : Env α δ) (f : List (PyVal α) → List (String × PyVal α) → Res α)
    (cat : List α → Res α) (pre post : Bound α) (k : String) (bs : List α) (c : α)
    (hpre : ∀ kv ∈ pre, kv.2.isBlk = false) (hpost : ∀ kv ∈ post, kv.2.isBlk = false)
    (hax : hasKey "axis" (pre ++ post) = false) (hc : cat bs = .ok c) :
    addFullReduction (fun b => mapFuncOverBlocks E f [] b) cat (pre ++ (k, PyVal.blk bs) :: post)
      = (f [] (pre ++ post ++ [(k, PyVal.one c)])).map PyVal.one := by
  rw [addFullReduction_one _ cat k bs hpre hpost, hax, hc]
  exact C13_map_noblock E f [] _ (forall_vals_snoc (P := fun v => v.isBlk = false) hpre hpost rfl)

/-- with `axis` the reduction is mapped over the blocks (each block gets the same `axis`) -/
theorem C13_full_reduction_axis (E : Env α δ)
    (f : List (PyVal α) → List (String × PyVal α) → Res α)
    (cat : List α → Res α) (pre post : Bound α) (k : String) (bs : List α)
    (hpre : ∀ kv ∈ pre, kv.2.isBlk = false) (hpost : ∀ kv ∈ post, kv.2.isBlk = false)
    (hax : hasKey "axis" (pre ++ post) = true) (hpos : 0 < bs.length)
    (r : Nat → α)
    (hf : ∀ i (hi : i < bs.length), f [] (pre ++ post ++ [(k, PyVal.one bs[i])]) = .ok (r i))
    (harr : ∀ i, i < bs.length → E.isArr (r i) = true)
    (hdt : Homog E ((List.range bs.length).map r)) :
    addFullReduction (fun b => mapFuncOverBlocks E f [] b) cat (pre ++ (k, PyVal.blk bs) :: post)
      = .ok (.blk ((List.range bs.length).map r)) := by
  rw [addFullReduction_one _ cat k bs hpre hpost, if_pos hax]
  have hnb : ∀ kv ∈ pre ++ post, kv.2.isBlk = false := fun kv hkv =>
    (List.mem_append.1 hkv).elim (hpre kv) (hpost kv)
  refine C13_map_blocks_partial E f [] (pre ++ post ++ [(k, PyVal.blk bs)]) bs ?_ hpos ?_
    (fun _ => []) (fun i => if hi : i < bs.length then pre ++ post ++ [(k, PyVal.one bs[i])] else [])
    (fun i _ => ⟨rfl, fun j h1 _ => by simp at h1⟩) ?_ r ?_ harr hdt
  · refine ⟨(pre ++ post).map Prod.snd, [], by simp, fun v hv => ?_⟩
    obtain ⟨kv, hkv, rfl⟩ := List.mem_map.1 hv
    exact hnb kv hkv
  · have hno : ∀ {v : PyVal α}, v.isBlk = false → ∀ l, v = PyVal.blk l → l.length = bs.length :=
      fun h l e => by rw [e] at h; cases h
    exact forall_vals_snoc (fun kv h => hno (hpre kv h)) (fun kv h => hno (hpost kv h))
      (fun l e => by injection e with e; rw [e])
  · -- the other arguments are passed on as they are, the block array gives its block `i`
    intro i hi
    rw [dif_pos hi, rel₂_iff_forall₂]
    exact List.rel_append (List.forall₂_same.2 fun kv hkv => ⟨rfl, noblk_proj (hnb kv hkv)⟩)
      (.cons ⟨rfl, hi, rfl⟩ .nil)
  · intro i hi
    rw [dif_pos hi]
    exact hf i hi

/-- how `axis` is detected (`sig.bind(*args, **kwargs)`, then `"axis" in bound.arguments`): it counts as given
    exactly when enough positional arguments reach its position in the signature, or when it is passed by
    keyword — whatever its value, also `None`; too many positionals, an unknown keyword or a keyword that is
    already bound positionally is a `TypeError` before anything is reduced.  With `C13_full_reduction` /
    `C13_full_reduction_axis`: `snp.sum(x, 0)`, `snp.sum(x, axis=0)`, `snp.linalg.norm(x, None, 0)` map over the
    blocks, `snp.sum(x)`, `snp.linalg.norm(x, 1)`, `snp.sum(x, keepdims=True)` reduce the concatenation. -/
theorem C13_axis_binding (E : Env α δ) (posParams kwOnly : List String)
    (f : List (PyVal α) → List (String × PyVal α) → Res α) (cat : List α → Res α)
    (args : List (PyVal α)) (kwargs : List (String × PyVal α)) :
    (posParams.length < args.length → reductionCall E posParams kwOnly f cat args kwargs = .error .type) ∧
    (∀ bound, bindCall posParams kwOnly args kwargs = .ok bound →
      hasKey "axis" bound = (decide (posParams.idxOf "axis" < args.length) || hasKey "axis" kwargs) ∧
      reductionCall E posParams kwOnly f cat args kwargs
        = addFullReduction (fun b => mapFuncOverBlocks E f [] b) cat bound) := by
  constructor
  · intro h
    simp [reductionCall, bindCall, h]
  · intro bound h
    refine ⟨?_, by simp [reductionCall, h]⟩
    simp only [bindCall] at h
    split_ifs at h with hl
    cases h
    rw [hasKey_append, hasKey_zip]
    congr 1
    by_cases hi : posParams.idxOf "axis" < args.length
    · simp [hi, show posParams.idxOf "axis" < posParams.length by omega]
    · simp [hi]

/-- several block arguments and no `axis`: rejected (`ValueError`) -/
theorem C13_full_reduction_two (inner : Bound α → Res (PyVal α)) (cat : List α → Res α)
    (bound : Bound α) (hax : hasKey "axis" (bound.filter (fun kv => !kv.2.isBlk)) = false)
    (h2 : 1 < (bound.filter (fun kv => kv.2.isBlk)).length) :
    addFullReduction inner cat bound = .error .value := by
  simp [addFullReduction, hax, h2]

/-- `jnp.concatenate(v.ravel())`: the lifted `ravel` of every block, then one concatenation; an
    empty block array is rejected (`IndexError` of the lifted method) before anything is concatenated -/
theorem C13_ravel_cat (E : Env α δ) (rv : α → Res α) (concat : List α → Res α) (h : α → α)
    (bs : List α) (hrv : ∀ x ∈ bs, rv x = .ok (h x)) (harr : ∀ x ∈ bs, E.isArr (h x) = true)
    (hdt : Homog E (bs.map h)) :
    (bs ≠ [] → ravelCatVia E rv concat bs = concat (bs.map h)) ∧
    (bs = [] → ravelCatVia E rv concat bs = .error .index) := by
  constructor
  · intro hne
    unfold ravelCatVia
    rw [C13_method_blocks E rv h bs hne hrv harr hdt]
  · rintro rfl
    simp [ravelCatVia, liftMethod_nil]

/-- `sum` of the concatenation = sum of the per-block sums -/
theorem C13_sum_concat {M : Type} [AddMonoid M] (bs : List (List M)) :
    rsum (ravelCat bs) = rsum (bs.map rsum) := by
  rw [rsum_eq_sum, rsum_eq_sum, List.map_congr_left (fun l _ => rsum_eq_sum l)]
  exact List.sum_flatten

/-- `‖·‖²` of the concatenation = sum of the per-block squared norms -/
theorem C13_sumsq_concat {M : Type} [Semiring M] (bs : List (List M)) :
    rsumsq (ravelCat bs) = rsum (bs.map rsumsq) := by
  unfold rsumsq ravelCat
  rw [List.map_flatten]
  have := C13_sum_concat (bs.map (List.map (fun x : M => x * x)))
  unfold ravelCat at this
  rw [this, List.map_map]
  rfl

/-- `max`/`min` of the concatenation = max/min of the per-block extrema (empty blocks skipped;
    all blocks empty ↔ no value, where numpy raises) -/
theorem C13_max_concat {M : Type} [LinearOrder M] (bs : List (List M)) :
    rmax (ravelCat bs) = optCombine max (bs.map rmax) := foldOpt_flatten max_assoc bs

theorem C13_min_concat {M : Type} [LinearOrder M] (bs : List (List M)) :
    rmin (ravelCat bs) = optCombine min (bs.map rmin) := foldOpt_flatten min_assoc bs

/-- `count_nonzero`, `any`, `all` of the concatenation from the per-block values -/
theorem C13_count_concat (nz : α → Bool) (bs : List (List α)) :
    rcount nz (ravelCat bs) = (bs.map (rcount nz)).sum := by
  unfold rcount ravelCat
  rw [List.filter_flatten, List.length_flatten, List.map_map]
  rfl

theorem C13_any_concat (nz : α → Bool) (bs : List (List α)) :
    rany nz (ravelCat bs) = (bs.map (rany nz)).any id := by
  simp [rany, ravelCat, List.any_flatten, List.any_map, Function.comp_def]

theorem C13_all_concat (nz : α → Bool) (bs : List (List α)) :
    rall nz (ravelCat bs) = (bs.map (rall nz)).all id := by
  simp [rall, ravelCat, List.all_flatten, List.all_map, Function.comp_def]

/-- a nested `shape` creates a block array block by block: block `i` is `f` called with the
    same arguments and `shape = items[i]` -/
theorem C13_creation (E : Env α δ) (f : List (String × CVal β) → Res α) (key : String)
    (bound : List (String × CVal β)) (items : List STree)
    (hk : lookupKey key bound = some (.tree (.tup items)))
    (hnest : (STree.tup items).isNested = true)
    (r : STree → α)
    (hf : ∀ x ∈ items, f (eraseKey key bound ++ [(key, CVal.tree x)]) = .ok (r x))
    (harr : ∀ x ∈ items, E.isArr (r x) = true) (hdt : Homog E (items.map r)) :
    mapTupleOfTuples E f key bound = .ok (.blk (items.map r)) := by
  unfold mapTupleOfTuples
  simp only [hk, hnest, Bool.not_true, Bool.false_eq_true, if_false]
  rw [mkFrom_of_arrays E hf harr hdt]
  rfl

/-- a flat shape (or no `shape` argument at all): the routine is called unchanged -/
theorem C13_creation_flat (E : Env α δ) (f : List (String × CVal β) → Res α) (key : String)
    (bound : List (String × CVal β))
    (h : lookupKey key bound = none ∨ (∃ b, lookupKey key bound = some (.oth b)) ∨
      ∃ t, lookupKey key bound = some (.tree t) ∧ t.isNested = false) :
    mapTupleOfTuples E f key bound = (f bound).map PyVal.one := by
  unfold mapTupleOfTuples
  rcases h with h | ⟨b, h⟩ | ⟨t, h, hn⟩
  · simp [h]
  · simp [h]
  · simp [h, hn]

/-- the created blocks together have `shape_to_size(shape)` elements -/
theorem C13_creation_size (items : List STree) (hnest : (STree.tup items).isNested = true) :
    shapeToSize (.tup items) = (items.map STree.prod).sum := by
  simp [shapeToSize, hnest]

/-- `unflatten ∘ flatten = id` on well-formed block arrays, `flatten ∘ unflatten = id` on
    well-formed children (what `jit`, `grad`, `jvp`, `vjp`, `scan`, `cond`, `tree_map` with
    array-valued functions use) -/
theorem C13_pytree (E : Env α δ) (b : List α) (hwf : WF E b) :
    treeUnflatten E (treeFlatten b).2 (treeFlatten b).1 = .ok b ∧
    ((treeUnflatten E () b).map treeFlatten) = .ok (b, ()) := by
  have hall : b.all E.isArr = true := List.all_eq_true.2 hwf.1
  constructor
  · simp [treeUnflatten, treeFlatten, hall, mkBlock_wf E hwf]
  · simp [treeUnflatten, hall, mkBlock_wf E hwf, Except.map, treeFlatten]

/-- JAX's contract for a registered node: `unflatten` takes ANY leaves and `flatten` gives them back
    (transformations such as `vmap`, `jacfwd`, `jacrev`, `hessian`, `eval_shape`, lowering rebuild
    trees with placeholder leaves `object()`, `None`, `ShapeDtypeStruct`):
    a list with a non-array leaf is stored untouched; whatever is accepted comes back unchanged from
    `flatten`; the only lists rejected are arrays of different dtypes (the dtype invariant). -/
theorem C13_pytree_placeholders (E : Env α δ) (children : List α) :
    (children.all E.isArr = false → treeUnflatten E () children = .ok children) ∧
    (∀ b, treeUnflatten E () children = .ok b → (treeFlatten b).1 = children) ∧
    (∀ e, treeUnflatten E () children = .error e →
        e = .dtype ∧ (∀ a ∈ children, E.isArr a = true) ∧ ¬ Homog E children) := by
  refine ⟨fun h => by simp [treeUnflatten, h], fun b hb => ?_, fun e he => ?_⟩
  · unfold treeUnflatten at hb
    split at hb
    · rename_i hall
      exact mkBlock_eq_of_arrays E (List.all_eq_true.1 hall) hb
    · exact (Except.ok.inj hb).symm
  · unfold treeUnflatten at he
    split at he
    · rename_i hall
      have harr : ∀ a ∈ children, E.isArr a = true := List.all_eq_true.1 hall
      by_cases hh : Homog E children
      · rw [mkBlock_wf E ⟨harr, hh⟩] at he; cases he
      · rw [mkBlock_hetero E harr hh] at he
        exact ⟨(Except.error.inj he).symm, harr, hh⟩
    · cases he

/-- block arrays nested inside tuples / lists / dicts (and next to other leaves): with jax's flatten /
    unflatten recursion, `tree_unflatten(tree_structure(t), tree_leaves(t)) = t` whenever every block array
    node of `t` is acceptable (holds a non-array placeholder, or arrays of one dtype) -/
theorem C13_pytree_nested (E : Env α δ) (t : PT α) (h : t.Ok E) :
    unflat E t.struct t.leaves = .ok (t, []) := by
  simpa using unflat_leaves E t [] h

/-- … and for ANY leaves (tracers, placeholders, results of a mapped function): whatever
    `tree_unflatten` returns has the requested structure and exactly the given leaves, in order and
    untouched; in particular `tree_map f t`, when it succeeds, is `t` with every leaf `a` replaced by
    `f a` — block by block for the block arrays inside -/
theorem C13_pytree_nested_sound (E : Env α δ) :
    (∀ (s : PT Unit) (l : List α) (t : PT α) (r : List α),
      unflat E s l = .ok (t, r) → t.struct = s ∧ t.leaves ++ r = l) ∧
    (∀ (f : α → α) (t t' : PT α), treeMap E f t = .ok t' →
      t'.struct = t.struct ∧ t'.leaves = t.leaves.map f) ∧
    -- the registered node function on rebuilt children (leaves, or pytrees themselves: nested block
    -- arrays, tuples): it never changes them, and rejects only arrays of different dtypes
    (∀ (ts : List (PT α)) (t : PT α), unflattenNode E ts = .ok t → t = .blk ts) ∧
    (∀ (ts : List (PT α)) (e : Err), unflattenNode E ts = .error e →
      e = .dtype ∧ ts.all (childArr E) = true ∧ ¬ Homog E (leafVals ts)) :=
  ⟨unflat_sound E, treeMap_sound E, fun _ _ h => eq_blk_of_unflattenNode_ok E h, fun _ _ h => unflattenNode_error E h⟩

/-- before d088c11 every leaf went through the constructor: a leaf that `jnp.array` rejects made
    `unflatten` raise (finding `blockarray-pytree-placeholder-leaves`, repaired) -/
theorem C13_pytree_old_witness :
    ∃ (E : Env Nat Unit) (children : List Nat),
      treeUnflattenOld E () children = .error .type ∧ treeUnflatten E () children = .ok children :=
  ⟨⟨fun x => x == 0, fun _ => .error .type, fun _ => ()⟩, [1], by decide, by decide⟩

/-- one homogeneous dtype is an invariant: every block array produced by the constructor, the
    operator overloads, lifted methods, `map_func_over_blocks`, `unflatten` from array leaves and the
    assignment of a block is well formed -/
theorem C13_dtype_inv (E : Env α δ) (hAs : ∀ x y, E.asArr x = .ok y → E.isArr y = true) :
    (∀ l r, mkBlock E l = .ok r → WF E r) ∧
    (∀ op self r, unop E op self = .ok r → WF E r) ∧
    (∀ op self o r, binop E op self o = .ok (some r) → WF E r) ∧
    (∀ m self r, liftMethod E m self = .ok (.blk r) → WF E r) ∧
    (∀ f args kwargs r, 0 < numBlocksInArgs args kwargs →
        mapFuncOverBlocks E f args kwargs = .ok (.blk r) → WF E r) ∧
    (∀ aux l r, (∀ a ∈ l, E.isArr a = true) → treeUnflatten E aux l = .ok r → WF E r) ∧
    (∀ self k v r, setItem E self k v = .ok r → WF E r) := by
  -- every one of them ends in the constructor `mkFrom`, whose results are well formed
  refine ⟨fun l r h => mkFrom_wf E hAs h, fun op self r h => mkFrom_wf E hAs h,
    fun op self o r h => ?_, fun m self r h => ?_, fun f args kwargs r hpos h => ?_,
    fun _ l r harr h => ?_, fun self k v r h => ?_⟩
  · obtain ⟨_, _, hm⟩ | ⟨_, hm⟩ := binop_ok E h <;> exact mkFrom_wf E hAs hm
  · obtain ⟨_, _, hm⟩ := liftMethod_ok E h
    exact mkFrom_wf E hAs hm
  · obtain ⟨_, _, hm⟩ := mapFuncOverBlocks_pos E f args kwargs hpos h
    exact mkFrom_wf E hAs hm
  · rw [treeUnflatten, if_pos (List.all_eq_true.2 harr)] at h
    exact mkFrom_wf E hAs h
  · obtain ⟨_, _, hm⟩ := setItem_ok E h
    exact mkFrom_wf E hAs hm

/-- blocks of different dtypes are rejected by the constructor -/
theorem C13_dtype_reject (E : Env α δ) (l : List α) (harr : ∀ a ∈ l, E.isArr a = true)
    (hdt : ¬ Homog E l) : mkBlock E l = .error .dtype :=
  mkBlock_hetero E harr hdt

section randprops
variable {κ σ : Type}

/-- nested shape: block `i` is `jax.random.<name>` called with the SAME key and `shape = items[i]`;
    the returned key is `split(key)[0]` -/
theorem C13_random_nested (E : Env α δ) (P : RngPrims κ σ β) (params : List String)
    (g : List (String × RVal κ σ β) → Res α)
    (args : List (RVal κ σ β)) (kwKey kwSeed : RVal κ σ β) (kwargs : List (String × RVal κ σ β))
    (k : RVal κ σ β) (k' : κ) (bound : List (String × RVal κ σ β)) (items : List STree)
    (hk : EffKey P (keyOf params.length args kwKey) (seedOf params.length args kwSeed) k)
    (hb : bindArgs params (k :: args.take (params.length - 1)) kwargs = .ok bound)
    (hshape : lookupKey "shape" bound = some (.tree (.tup items)))
    (hnest : (STree.tup items).isNested = true)
    (r : STree → α)
    (hf : ∀ x ∈ items, g (eraseKey "shape" bound ++ [("shape", CVal.tree x)]) = .ok (r x))
    (harr : ∀ x ∈ items, E.isArr (r x) = true) (hdt : Homog E (items.map r))
    (hs : P.split0 k = .ok k') :
    randomWrapped E P params g args kwKey kwSeed kwargs = .ok (.blk (items.map r), k') := by
  refine (addSeed_ok_iff P _ _ args kwKey kwSeed kwargs _ k').2 ⟨k, hk, ?_, hs⟩
  simp only [hb]
  exact C13_creation E g "shape" bound items hshape hnest r hf harr hdt

/-- whatever is drawn, the returned key is `split(k)[0]` of the effective key `k` — it does not
    depend on shape, dtype or the other arguments — and the draw used `k` -/
theorem C13_random_key_thread (E : Env α δ) (P : RngPrims κ σ β) (params : List String)
    (g : List (String × RVal κ σ β) → Res α)
    (args : List (RVal κ σ β)) (kwKey kwSeed : RVal κ σ β) (kwargs : List (String × RVal κ σ β))
    (v : PyVal α) (k' : κ)
    (h : randomWrapped E P params g args kwKey kwSeed kwargs = .ok (v, k')) :
    ∃ k bound, EffKey P (keyOf params.length args kwKey) (seedOf params.length args kwSeed) k ∧
      P.split0 k = .ok k' ∧
      bindArgs params (k :: args.take (params.length - 1)) kwargs = .ok bound ∧
      mapTupleOfTuples E g "shape" bound = .ok v := by
  obtain ⟨k, hk, hf, hs⟩ := (addSeed_ok_iff P _ _ args kwKey kwSeed kwargs v k').1 h
  cases hb : bindArgs params (k :: args.take (params.length - 1)) kwargs with
  | error e => simp [hb] at hf
  | ok bound => exact ⟨k, bound, hk, hs, hb, by simpa [hb] using hf⟩

/-- a key and a seed together are rejected, whatever else is passed -/
theorem C13_random_exclusive (E : Env α δ) (P : RngPrims κ σ β) (params : List String)
    (g : List (String × RVal κ σ β) → Res α)
    (args : List (RVal κ σ β)) (kwKey kwSeed : RVal κ σ β) (kwargs : List (String × RVal κ σ β))
    (h1 : (keyOf params.length args kwKey).isNone = false)
    (h2 : (seedOf params.length args kwSeed).isNone = false) :
    randomWrapped E P params g args kwKey kwSeed kwargs = .error .value := by
  simp [randomWrapped, addSeed, addSeedCore, h1, h2]

end randprops

/-! ### non-vacuity: concrete instances (blocks = lists of integers, dtype = unit) -/

section examples

def exEnv : Env (List Int) Unit := ⟨fun _ => true, Except.ok, fun _ => ()⟩

-- unary negation of ((1,2),(3)) acts per block
example : unop exEnv (fun x => .ok (x.map (- ·))) [[1, 2], [3]] = .ok [[-1, -2], [-3]] := rfl
-- block + block, block + scalar broadcast, mismatch
example : binop exEnv (fun x y => .ok (some (List.zipWith (· + ·) x y))) [[1, 2], [3]]
    (.blk [[10, 20], [30]]) = .ok (some [[11, 22], [33]]) := rfl
example : binop exEnv (fun x y => .ok (some (x.map (· + y.headD 0)))) [[1, 2], [3]]
    (.one [5]) = .ok (some [[6, 7], [8]]) := rfl
example : binop exEnv (fun x y => .ok (some (List.zipWith (· + ·) x y))) [[1, 2], [3]]
    (.blk [[10, 20]]) = .error .type := rfl
-- map over blocks with one positional and one keyword block argument and a scalar
example : mapFuncOverBlocks exEnv
    (fun a k => match a, k with
      | [.one x, .one s], [(_, .one y)] => .ok (List.zipWith (fun p q => p * s.headD 0 + q) x y)
      | _, _ => .error .type)
    [.blk [[1, 2], [3]], .one [10]] [("out", .blk [[7, 7], [7]])]
    = .ok (.blk [[17, 27], [37]]) := by decide +kernel
-- the void wrapper (an assertion that every entry is positive): all blocks pass / the second block fails first
example : mapVoidFuncOverBlocks
    (fun a _ => match a with
      | [.one (x : List Int)] => if x.all (0 < ·) then .ok () else .error .other
      | _ => .error .type)
    [.blk [[1, 2], [3]]] [] = .ok () := by decide +kernel
example : mapVoidFuncOverBlocks
    (fun a _ => match a with
      | [.one (x : List Int)] => if x.all (0 < ·) then .ok () else (if x.length = 1 then .error .value else .error .other)
      | _ => .error .type)
    [.blk [[1, 2], [-3], [0, 0]]] [] = .error .value := by decide +kernel
-- the hypotheses of `C13_map_blocks_partial` are satisfiable: first block found after a scalar
example : FirstBlk ([PyVal.one [0], PyVal.blk [[1, 2], [3]]] ++ ([] : List (String × PyVal (List Int))).map Prod.snd)
    [[1, 2], [3]] := firstBlk_some.1 rfl
-- full reduction: sum over the concatenation, and per-block sums fold to the same value
example : rsum (ravelCat [[1, 2], [3], ([] : List Int)]) = 6 := by decide +kernel
example : rsum ([[1, 2], [3], ([] : List Int)].map rsum) = 6 := by decide +kernel
example : rmax (ravelCat [[1, 5], [], [3]]) = optCombine max ([[1, 5], [], [3]].map (rmax (α := Int))) := by decide +kernel
-- creation with a nested shape ((2,3),(4,)) : two blocks, 10 elements
example : mapTupleOfTuples (β := Unit) exEnv
    (fun b => match lookupKey "shape" b with
      | some (.tree t) => .ok (List.replicate t.prod 0)
      | _ => .error .type) "shape"
    [("shape", .tree (.tup [.tup [.int 2, .int 3], .tup [.int 4]]))]
    = .ok (.blk [List.replicate 6 0, List.replicate 4 0]) := by decide +kernel
example : shapeToSize (.tup [.tup [.int 2, .int 3], .tup [.int 4]]) = 10 := by decide +kernel
example : WF exEnv [[1, 2], [3]] := ⟨fun _ _ => rfl, fun _ _ _ _ => rfl⟩
-- iteration: three blocks need four `__getitem__` calls; with fewer the iteration would be cut short
example : iterBlocks [[1], [2, 3], [4]] = [[1], [2, 3], [4]] := by decide +kernel
example : iterFrom [[1], [2, 3], [4]] 0 2 = [[1], [2, 3]] := by decide +kernel
-- slices: x[::-1], x[1:], x[-2:5:2] on four blocks
example : getSlice exEnv [[1], [2], [3], [4]] none none (some (-1)) = .ok [[4], [3], [2], [1]] := by decide +kernel
example : getSlice exEnv [[1], [2], [3], [4]] (some 1) none none = .ok [[2], [3], [4]] := by decide +kernel
example : getSlice exEnv [[1], [2], [3], [4]] (some (-3)) (some 9) (some 2) = .ok [[2], [4]] := by decide +kernel
example : sliceBounds 4 (some (-3)) (some 9) (some 2) = some (1, 4, 2) := by decide +kernel
-- signature of `jnp.linalg.norm`: (x, ord, axis, keepdims); `norm(x, 1)` binds no axis, `norm(x, None, 0)` does
example : bindCall ["x", "ord", "axis", "keepdims"] [] [10, 1] ([] : List (String × Nat)) = .ok [("x", 10), ("ord", 1)] := rfl
example : hasKey "axis" [("x", 10), ("ord", 1)] = false := by decide +kernel
example : (["x", "ord", "axis", "keepdims"] : List String).idxOf "axis" = 2 := by decide +kernel
example : bindCall ["x", "ord", "axis", "keepdims"] [] [10, 0, 0] [("axis", 1)] = (.error .type : Res (List (String × Nat))) := by decide +kernel
-- slice assignment: x[1:2] = three blocks (4 blocks afterwards); x[::2] = two blocks; wrong count for an extended slice
example : setSlice exEnv [[1], [2]] (some 1) (some 2) none [[7], [8], [9]] = .ok [[1], [7], [8], [9]] := by decide +kernel
example : setSlice exEnv [[1], [2], [3]] none none (some 2) [[7], [8]] = .ok [[7], [2], [8]] := by decide +kernel
example : setSlice exEnv [[1], [2], [3]] none none (some 2) [[7]] = .error .shape := rfl
-- assignment: `x[-1] = v` replaces the last block; index errors as for `x[k]`
example : setItem exEnv [[1, 2], [3]] (-1) [9] = .ok [[1, 2], [9]] := rfl
example : setItem exEnv [[1, 2], [3]] 2 [9] = (.error .index : Res (List (List Int))) := rfl
-- placeholder leaves are stored untouched: dtype = parity, arrays = even numbers; [1, 4] has a non-array leaf
example : treeUnflatten (⟨fun x => x % 2 == 0, fun _ => .error .type, fun x => x⟩ : Env Nat Nat) () [1, 4] = .ok [1, 4] := rfl
-- a dict {a: BlockArray([2, 4]), b: (7, BlockArray([1, 6]))} with dtype = parity, arrays = even numbers:
-- the second block array holds a non-array leaf (a placeholder), the first one arrays of one dtype
def exTree : PT Nat := .tup [.blk [.leaf 2, .leaf 4], .tup [.leaf 7, .blk [.leaf 1, .leaf 6]]]
def exEnvP : Env Nat Nat := ⟨fun x => x % 2 == 0, fun _ => .error .type, fun x => x % 2⟩
example : exTree.leaves = [2, 4, 7, 1, 6] := by decide +kernel
example : unflat exEnvP exTree.struct [2, 4, 7, 1, 6] = .ok (exTree, []) := by rfl
example : exTree.Ok exEnvP := by
  refine ⟨⟨⟨trivial, trivial, trivial⟩, Or.inr ⟨by decide, ?_⟩⟩, ⟨trivial, ⟨⟨trivial, trivial, trivial⟩, Or.inl (by decide)⟩, trivial⟩, trivial⟩
  intro a ha b hb
  simp [leafVals] at ha hb
  rcases ha with rfl | rfl <;> rcases hb with rfl | rfl <;> rfl
-- a block array of block arrays (what `jax.hessian` returns): the outer node holds non-array children
def exNested : PT Nat := .blk [.blk [.leaf 2, .leaf 4], .blk [.leaf 6]]
example : unflat exEnvP exNested.struct [2, 4, 6] = .ok (exNested, []) := by rfl
-- with every number an array and dtype = parity, the inner block [2, 3] mixes dtypes
example : unflat (⟨fun _ => true, Except.ok, fun x => x % 2⟩ : Env Nat Nat) exNested.struct [2, 3, 6] = .error .dtype := by rfl
-- scico.random: universe = Nat, keys = seeds = Nat, `PRNGKey s = 100 + s`, `split(k)[0] = 2 k`,
-- a draw with key `k` and shape tree `t` gives `k + t.prod`
def exPrims : RngPrims Nat Nat Unit :=
  ⟨0, fun v => match v with | .oth (.seed s) => .ok (100 + s) | _ => .error .type,
      fun v => match v with | .oth (.key k) => .ok (2 * k) | _ => .error .type⟩
def exEnvN : Env Nat Unit := ⟨fun _ => true, Except.ok, fun _ => ()⟩
def exDraw (b : List (String × RVal Nat Nat Unit)) : Res Nat :=
  match lookupKey "key" b, lookupKey "shape" b with
  | some (.oth (.key k)), some (.tree t) => .ok (k + t.prod)
  | _, _ => .error .type
-- nested shape ((2,),(2,)) with key 7 given by keyword: both blocks drawn with key 7 (equal blocks), new key 14
example : randomWrapped exEnvN exPrims ["key", "shape", "dtype"] exDraw
    [.tree (.tup [.tup [.int 2], .tup [.int 2]])] (.oth (.key 7)) (.oth .none) []
    = .ok (.blk [9, 9], 14) := by decide +kernel
-- no key, no seed: `PRNGKey(0)`; seed 5 positional (4th argument): `PRNGKey(5)`
example : randomWrapped exEnvN exPrims ["key", "shape", "dtype"] exDraw
    [.tree (.tup [.int 3])] (.oth .none) (.oth .none) [] = .ok (.one 103, 200) := by decide +kernel
example : randomWrapped exEnvN exPrims ["key", "shape", "dtype"] exDraw
    [.tree (.tup [.int 3]), .oth (.oth ()), .oth .none, .oth (.seed 5)] (.oth .none) (.oth .none) []
    = .ok (.one 108, 210) := by decide +kernel
-- the hypotheses of `C13_random_nested` are satisfiable: effective key, binding, nested shape
example : EffKey exPrims (.oth (.key 7)) (.oth .none) (.oth (.key 7)) := .given _ _ rfl rfl
example : EffKey exPrims (.oth .none) (.oth .none) (.oth (.key 100)) := .default _ _ 100 rfl rfl rfl
example : bindArgs ["key", "shape", "dtype"] [(.oth (.key 7) : RVal Nat Nat Unit), .tree (.tup [.tup [.int 2], .tup [.int 2]])] []
    = .ok [("key", .oth (.key 7)), ("shape", .tree (.tup [.tup [.int 2], .tup [.int 2]]))] := by rfl
-- key and seed together
example : randomWrapped exEnvN exPrims ["key", "shape", "dtype"] exDraw
    [.tree (.tup [.int 3])] (.oth (.key 7)) (.oth (.seed 1)) [] = .error .value := rfl

end examples

end Scico.Props.C13
