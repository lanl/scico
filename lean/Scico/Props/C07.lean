/-
  Property C07 — gradients and Jacobian products are the true derivatives.

  Notation.  `Cx ℝ` = complex numbers as pairs; `along x d t = x + t d`;
  `reInner g d = Re Σ conj(gᵢ) dᵢ = Re⟪g,d⟫`;  `reBdot jg d = Re Σ jgᵢ dᵢ` (JAX's pairing);
  `IsGradAt f x g  :=  ∀ d, HasDerivAt (t ↦ f (x + t d)) (Re⟪g,d⟫) 0`  — what C07 asks of `f.grad(x)`;
  `JaxContract f x jg := ∀ d, HasDerivAt (t ↦ f (x + t d)) (Re Σ jgᵢ dᵢ) 0` — what `jax.grad` promises.
  A real array is a complex one with zero imaginary parts, so every statement covers both dtypes.
  `Tangent c d` : the curve `c : ℝ → ℂⁿ` is differentiable at `0` with velocity `d` (real and imaginary
  part of every component); `IsCurveGradAt f x g := ∀ c d, c 0 = x → Tangent c d → HasDerivAt (f ∘ c) (Re⟪g,d⟫) 0`
  (the gradient along every differentiable curve through `x`, not only along lines).
-/
import Scico.Proofs.AutogradConvex

namespace Scico.Props.C07
open Scico.Autograd

variable {n m k : Nat}

/-- The model's complex scalars are Mathlib's `ℂ` (ring isomorphism `cxEquiv`, compatible with
    conjugation), and the two pairings are the usual `Re Σ conj(gᵢ)dᵢ` and `Re Σ jgᵢdᵢ` of `ℂⁿ`. -/
theorem C07_pairings_are_complex (g d : CVec ℝ n) :
    reInner g d = (∑ i, (starRingEnd ℂ) (cxEquiv (g i)) * cxEquiv (d i)).re ∧
    reBdot g d = (∑ i, cxEquiv (g i) * cxEquiv (d i)).re ∧
    (∀ z : Cx ℝ, cxEquiv z.conj = (starRingEnd ℂ) (cxEquiv z)) :=
  ⟨by rw [reInner_eq, Complex.re_sum]; exact Finset.sum_congr rfl fun i _ => by simp,
    by rw [reBdot_eq, Complex.re_sum]; exact Finset.sum_congr rfl fun i _ => by simp,
    fun z => Complex.ext (by simp) (by simp)⟩

/-- `scico.grad`/`value_and_grad`/`jacrev` conjugate JAX's gradient; the result is the gradient in
    the sense `d/dt f(x+td)|₀ = Re⟪g,d⟫`. -/
theorem C07_conj_grad (f : CVec ℝ n → ℝ) (x jg : CVec ℝ n) (h : JaxContract f x jg) :
    IsGradAt f x (scicoGrad jg) :=
  conj_grad f x jg h

/-- block arguments: `tree_map(conj, ·)` acts block by block, that is the conjugate of the
    concatenation, and each block of the result is the gradient with respect to that block. -/
theorem C07_conj_grad_block (f : CVec ℝ (n + k) → ℝ) (x : CVec ℝ (n + k)) (j₁ : CVec ℝ n) (j₂ : CVec ℝ k)
    (h : JaxContract f x (vappend j₁ j₂)) :
    scicoGrad (vappend j₁ j₂) = vappend (scicoGrad j₁) (scicoGrad j₂) ∧
    IsGradAt (fun u => f (vappend u (vright x))) (vleft x) (scicoGrad j₁) ∧
    IsGradAt (fun u => f (vappend (vleft x) u)) (vright x) (scicoGrad j₂) := by
  have hg := conj_grad f x _ h
  unfold scicoGrad at hg ⊢
  rw [conjVec_vappend] at hg
  refine ⟨conjVec_vappend j₁ j₂, ?_, ?_⟩
  · simpa only [vleft_vappend] using isGradAt_left f x _ hg
  · simpa only [vright_vappend] using isGradAt_right f x _ hg

/-- for any functional on a block argument, the blocks of the gradient are the gradients with
    respect to each block (other blocks held fixed) -/
theorem C07_block_partial (f : CVec ℝ (n + k) → ℝ) (x g : CVec ℝ (n + k)) (h : IsGradAt f x g) :
    IsGradAt (fun u => f (vappend u (vright x))) (vleft x) (vleft g) ∧
    IsGradAt (fun u => f (vappend (vleft x) u)) (vright x) (vright g) :=
  ⟨isGradAt_left f x g h, isGradAt_right f x g h⟩

/-- the gradient in the sense of C07 is unique — so any array satisfying the property at a point of
    the smoothness domain *is* the model's `grad` (what the correspondence compares the code with) -/
theorem C07_grad_unique (f : Fn ℝ n) (x g : CVec ℝ n) (h : f.Smooth x) (hg : IsGradAt f.eval x g) :
    g = f.grad x :=
  isGradAt_unique f.eval x g (f.grad x) hg (f.isGradAt x h)

/-- the conjugate is needed: JAX's own gradient of `|x|²` at `x = i` is *not* the gradient -/
theorem C07_jax_grad_is_not_grad :
    ¬ IsGradAt (Fn.sqL2 : Fn ℝ 1).eval (fun _ => ⟨0, 1⟩) ((Fn.sqL2 : Fn ℝ 1).jaxGrad (fun _ => ⟨0, 1⟩)) := by
  intro h
  have h1 := h (fun _ => ⟨0, 1⟩)
  have h2 := (Fn.sqL2 : Fn ℝ 1).isGradAt (fun _ => ⟨0, 1⟩) trivial (fun _ => ⟨0, 1⟩)
  have := h1.unique h2
  simp [reInner_eq, Fn.grad, Fn.jaxGrad, scicoGrad, conjVec, two_eq] at this
  norm_num at this

/-- **Main theorem.**  For every expression built from the smooth functionals (`SquaredL2Norm`,
    `L2Norm`, `L1Norm`, `HuberNorm` both forms, `L1MinusL2Norm`, `L21Norm`, `ZeroFunctional`,
    `SquaredL2Loss`, `SquaredL2SquaredAbsLoss`, `SquaredL2AbsLoss`, `PoissonLoss`) by scaling (`c*f`),
    sums (`f+g`), separable combination over blocks, `Loss(y, A, f, scale)` (loss ∘ affine operator;
    with `A` a finite-difference matrix and `f` the l1 / l2,1 norm these are the TV norms) and
    `Loss(y, F, f, scale)` / `SquaredL2Loss(y, F, …)` with a **nonlinear** operator `F`, to any depth,
    the model's `grad` — the conjugate of the gradient produced by JAX's rules — is the true
    gradient at every point of the smoothness domain. -/
theorem C07_scaled_sum (f : Fn ℝ n) (x : CVec ℝ n) (h : f.Smooth x) : IsGradAt f.eval x (f.grad x) :=
  f.isGradAt x h

/-- and JAX's rules, as transcribed, satisfy JAX's contract (so the hypothesis of `C07_conj_grad`
    is met by every such functional) -/
theorem C07_jax_contract (f : Fn ℝ n) (x : CVec ℝ n) (h : f.Smooth x) :
    JaxContract f.eval x (f.jaxGrad x) :=
  f.jaxContract x h

/-- stronger than the property asks: the same along **every differentiable curve** through `x`
    (this is what makes the induction go through a nonlinear operator, where `t ↦ F(x+td)` is a
    curve, not a line) -/
theorem C07_curve (f : Fn ℝ n) (x : CVec ℝ n) (h : f.Smooth x) : IsCurveGradAt f.eval x (f.grad x) :=
  f.isCurveGradAt x h

/-- real argument array with complex operators/data inside the functional (e.g. a real image and
    a Fourier-domain loss): `grad` returns a real array, the real part of the complex gradient,
    and it is the gradient for all (real) directions -/
theorem C07_real_argument (f : Fn ℝ n) (x : CVec ℝ n) (h : f.Smooth x) (d : CVec ℝ n)
    (hd : ∀ i, (d i).im = 0) :
    HasDerivAt (fun t : ℝ => f.eval (along x d t)) (reInner (f.gradRealArg x) d) 0 ∧
    (∀ i, (f.gradRealArg x i).im = 0) := by
  refine ⟨?_, fun i => ?_⟩
  · show HasDerivAt _ (reInner (conjVec (Autograd.realPart (f.jaxGrad x))) d) 0
    rw [reInner_conjVec, reBdot_realPart _ _ hd]
    exact f.jaxContract x h d
  · simp [Fn.gradRealArg, scicoGrad, conjVec, Autograd.realPart]

/-- `L21Norm` after a linear map (isotropic TV: `A` = finite differences) with the guarded
    `_l2norm` of the code: at every `x` where each group of `Ax − y` is non-zero **or structurally
    zero** (its rows of `A` and entries of `y` vanish — the zero-padded boundary differences of
    `IsotropicTVNorm(circular=False)`), `grad` is the gradient.  (Before repair 66922fe the code
    returned NaN there.) -/
theorem C07_group_norm_structural_zero (s : ℝ) (A : Mat ℝ m n) (y : CVec ℝ m) (grp : Fin m → Fin k)
    (x : CVec ℝ n)
    (h : ∀ g, groupAbs2 grp (vsub (mulVec A x) y) g ≠ 0 ∨ ∀ i, grp i = g → (y i = 0 ∧ ∀ j, A i j = 0)) :
    IsGradAt (Fn.loss s A y (Fn.l21 k grp)).eval x ((Fn.loss s A y (Fn.l21 k grp)).grad x) :=
  (Fn.loss s A y (Fn.l21 k grp)).isGradAt_of_lines x (smoothLines_loss_l21 s A y grp x h)

/-- `L1Norm` after a linear map (anisotropic TV): entries of `Ax − y` non-zero or structurally zero -/
theorem C07_l1_structural_zero (s : ℝ) (A : Mat ℝ m n) (y : CVec ℝ m) (x : CVec ℝ n)
    (h : ∀ i, Cx.abs2 (vsub (mulVec A x) y i) ≠ 0 ∨ (y i = 0 ∧ ∀ j, A i j = 0)) :
    IsGradAt (Fn.loss s A y Fn.l1).eval x ((Fn.loss s A y Fn.l1).grad x) :=
  (Fn.loss s A y Fn.l1).isGradAt_of_lines x (smoothLines_loss_l1 s A y x h)

/-- more generally: smoothness along every line through `x` suffices -/
theorem C07_smooth_lines (f : Fn ℝ n) (x : CVec ℝ n) (h : f.SmoothLines x) : IsGradAt f.eval x (f.grad x) :=
  f.isGradAt_of_lines x h

/-- the guards of the smoothness domain are necessary, not artefacts of the model: the l1 norm has NO
    gradient (in the sense of C07) at any point with a zero coordinate, the l2 norm none at the origin -/
theorem C07_smooth_domain_tight (x : CVec ℝ n) (i : Fin n) :
    (x i = 0 → ¬ ∃ g, IsGradAt (Fn.l1 : Fn ℝ n).eval x g) ∧
    (¬ ∃ g, IsGradAt (Fn.l2 : Fn ℝ n).eval (fun _ => 0) g) :=
  ⟨fun hi => l1_not_grad x i hi, l2_not_grad i⟩

/-- at the kinks of the l1 norm (some `xᵢ = 0`, where no gradient exists) what `grad` returns is still a
    **sub-gradient**: for every `g` with `gᵢ = xᵢ/|xᵢ|` where `xᵢ ≠ 0` and `|gᵢ| ≤ 1` where `xᵢ = 0` — JAX gives `0`
    there for complex arrays (the model's `grad`) and `1` for real arrays — `‖z‖₁ ≥ ‖x‖₁ + Re⟪g, z − x⟫` for all `z` -/
theorem C07_l1_kink_subgradient (x z : CVec ℝ n) :
    (∀ g : CVec ℝ n, (∀ i, Cx.abs2 (x i) ≠ 0 → g i = Cx.divr (x i) (Cx.abs (x i))) →
      (∀ i, Cx.abs2 (x i) = 0 → Cx.abs2 (g i) ≤ 1) →
      (Fn.l1 : Fn ℝ n).eval x + reInner g (vsub z x) ≤ (Fn.l1 : Fn ℝ n).eval z) ∧
    (Fn.l1 : Fn ℝ n).eval x + reInner ((Fn.l1 : Fn ℝ n).grad x) (vsub z x) ≤ (Fn.l1 : Fn ℝ n).eval z := by
  refine ⟨fun g h1 h0 => l1_subgradient x g z h1 h0, l1_subgradient x _ z (fun i hi => ?_) (fun i hi => ?_)⟩
  · simp only [Fn.grad, Fn.jaxGrad, scicoGrad, conjVec, absGrad_of_ne _ hi, Cx.conj_divr, Cx.conj_conj]
  · simp only [Fn.grad, Fn.jaxGrad, scicoGrad, conjVec, absGrad_of_zero _ hi, Cx.abs2, Cx.conj_re, Cx.conj_im,
      Cx.zero_re, Cx.zero_im, neg_zero, mul_zero, add_zero, zero_le_one]

/-- squared l2 norm: gradient `2x`, everywhere -/
theorem C07_deriv_sqL2 (x : CVec ℝ n) :
    IsGradAt (fun z => ∑ i, Cx.abs2 (z i)) x (vsmul 2 x) := by
  have h := (Fn.sqL2 : Fn ℝ n).isGradAt x trivial
  rw [grad_sqL2] at h
  simpa only [Fn.eval, sumAbs2_eq] using h

/-- l2 norm away from the origin: gradient `x/‖x‖` -/
theorem C07_deriv_l2 (x : CVec ℝ n) (hx : ∑ i, Cx.abs2 (x i) ≠ 0) :
    IsGradAt (fun z => Real.sqrt (∑ i, Cx.abs2 (z i))) x
      (fun i => Cx.divr (x i) (Real.sqrt (∑ i, Cx.abs2 (x i)))) := by
  have hn : ∀ z : CVec ℝ n, norm2 z = Real.sqrt (∑ i, Cx.abs2 (z i)) := fun z => by
    rw [norm2, sumAbs2_eq, hasSqrt_real]
  have h := (Fn.l2 : Fn ℝ n).isGradAt x (by rwa [Fn.Smooth, sumAbs2_eq])
  rw [grad_l2] at h
  simpa only [Fn.eval, hn] using h

/-- l1 norm away from zero coordinates: gradient `xᵢ/|xᵢ|` -/
theorem C07_deriv_l1 (x : CVec ℝ n) (hx : ∀ i, Cx.abs2 (x i) ≠ 0) :
    IsGradAt (fun z => ∑ i, Real.sqrt (Cx.abs2 (z i))) x
      (fun i => Cx.divr (x i) (Real.sqrt (Cx.abs2 (x i)))) := by
  have h := (Fn.l1 : Fn ℝ n).isGradAt x hx
  rw [grad_l1 x hx] at h
  simpa only [Fn.eval, Vec.sum_eq, Cx.abs, hasSqrt_real] using h

/-- Huber norm, separable form, **everywhere** (threshold `|xᵢ| = δ` and `xᵢ = 0` included):
    gradient `xᵢ` inside, `δ xᵢ/|xᵢ|` outside -/
theorem C07_deriv_huber_sep (δ : ℝ) (hδ : 0 < δ) (x : CVec ℝ n) :
    IsGradAt (Fn.huber δ true : Fn ℝ n).eval x
      (fun i => if δ < Real.sqrt (Cx.abs2 (x i)) then
                  Cx.smul δ (Cx.divr (x i) (Real.sqrt (Cx.abs2 (x i)))) else x i) :=
  grad_huber_sep δ x ▸ (Fn.huber δ true : Fn ℝ n).isGradAt x hδ

/-- Huber norm, non-separable form (code after repair 7a3a18a), **everywhere** (threshold
    `‖x‖ = δ` and `x = 0` included): gradient `x` inside, `δ x/‖x‖` outside -/
theorem C07_deriv_huber_nonsep (δ : ℝ) (hδ : 0 < δ) (x : CVec ℝ n) :
    IsGradAt (Fn.huber δ false : Fn ℝ n).eval x
      (fun i => if δ < norm2 x then Cx.smul δ (Cx.divr (x i) (norm2 x)) else x i) :=
  grad_huber_nonsep δ x ▸ (Fn.huber δ false : Fn ℝ n).isGradAt x hδ

/-- the formula the code used before the repair (`‖x‖·x/‖x‖` inside, through `norm`) agrees with it
    exactly on `x ≠ 0`; at `x = 0` it is `0·(0/0)` (NaN in IEEE arithmetic) although the gradient
    there is `0` by the previous theorem — the recorded finding `huber-nonsep-grad-at-zero`. -/
theorem C07_huber_nonsep_old_formula_partial (δ : ℝ) (x : CVec ℝ n) (hx : sumAbs2 x ≠ 0) :
    huberNonsepOldJaxGrad δ x = (Fn.huber δ false : Fn ℝ n).jaxGrad x := by
  have hn := norm2_ne_zero x hx
  funext i
  simp only [Fn.jaxGrad, huberNonsepOldJaxGrad]
  by_cases hc : δ < norm2 x
  · simp only [hc, if_true]
  · simp only [hc, if_false]
    apply Cx.ext' <;> simp only [Cx.smul_re, Cx.smul_im, Cx.divr_re, Cx.divr_im] <;> field_simp

/-- `PoissonLoss` (real data, `Ax > 0`) and `SquaredL2AbsLoss` (`Ax` without zero entry): the
    gradients are the documented `s·Aᴴ(1 − y/(Ax))` and `−2s·Aᴴ W (y − |Ax|)·Ax/|Ax|` -/
theorem C07_deriv_poisson_abs (s : ℝ) (A : Mat ℝ m n) (y w cst : Vec ℝ m) (x : CVec ℝ n) :
    ((∀ i, 0 < (mulVec A x i).re) →
      IsGradAt (Fn.poisson s A y cst).eval x
        (vsmul s (mulVec (adjMat A) (fun i => Cx.ofReal (1 - y i / (mulVec A x i).re))))) ∧
    ((∀ i, Cx.abs2 (mulVec A x i) ≠ 0) →
      IsGradAt (Fn.sqL2AbsLoss s A y w).eval x
        (vsmul s (mulVec (adjMat A) (fun i => Cx.smul (-(2 * w i * (y i - Cx.abs (mulVec A x i))))
          (Cx.divr (mulVec A x i) (Cx.abs (mulVec A x i))))))) :=
  ⟨fun h => grad_poisson s A y cst x ▸ (Fn.poisson s A y cst).isGradAt x h,
    fun h => grad_sqL2AbsLoss s A y w x ▸ (Fn.sqL2AbsLoss s A y w).isGradAt x h⟩

/-- the gradients of `c·f` and `f+g` are the corresponding combinations -/
theorem C07_combinations (c : ℝ) (f g : Fn ℝ n) (x : CVec ℝ n) :
    (Fn.scaled c f).grad x = vsmul c (f.grad x) ∧ (Fn.add f g).grad x = vadd (f.grad x) (g.grad x) := by
  simp only [Fn.grad, Fn.jaxGrad, scicoGrad]
  exact ⟨conjVec_vsmul _ _, conjVec_vadd _ _⟩

/-- `f * c` / `c * f` with the class-directed dispatch of the code (`ScaledFunctional.__mul__`
    folds the factor, `Loss.__mul__` rescales a copy): the derived object evaluates to `c·f` and
    its `grad` is the gradient of `c·f`. -/
theorem C07_mul_scalar (f : Fn ℝ n) (c : ℝ) (x : CVec ℝ n) (h : f.Smooth x) :
    (∀ z, (f.mulScalar c).eval z = c * f.eval z) ∧
    IsGradAt (fun z => c * f.eval z) x ((f.mulScalar c).grad x) := by
  -- the scale is no part of the smoothness domain
  obtain ⟨he, hs⟩ : (∀ z, (f.mulScalar c).eval z = c * f.eval z) ∧ (f.mulScalar c).Smooth x := by
    cases f <;> exact ⟨fun z => by simp only [Fn.mulScalar, Fn.eval] <;> ring, h⟩
  exact ⟨he, funext he ▸ (f.mulScalar c).isGradAt x hs⟩

/-- `f / c` exists for losses only and then is the loss with `scale/c`: it evaluates to `f/c`
    and its `grad` is the gradient of that -/
theorem C07_div_scalar (f f' : Fn ℝ n) (c : ℝ) (x : CVec ℝ n) (h : f.Smooth x)
    (hd : f.divScalar c = some f') :
    (∀ z, f'.eval z = f.eval z / c) ∧ IsGradAt (fun z => f.eval z / c) x (f'.grad x) := by
  -- a loss: `(s/c)·φ = (s·φ)/c` and the same smoothness domain; anything else has no quotient
  obtain ⟨he, hs⟩ : (∀ z, f'.eval z = f.eval z / c) ∧ f'.Smooth x := by
    cases f <;> first
      | (cases hd; exact ⟨fun z => div_mul_eq_mul_div _ _ _, h⟩)
      | cases hd
  exact ⟨he, funext he ▸ f'.isGradAt x hs⟩

/-- `SeparableFunctional` on a block array: value is the sum over blocks, gradient is the block
    array of the per-block gradients -/
theorem C07_separable (f : Fn ℝ n) (g : Fn ℝ k) (x : CVec ℝ (n + k)) :
    (Fn.sep f g).eval x = f.eval (vleft x) + g.eval (vright x) ∧
    (Fn.sep f g).grad x = vappend (f.grad (vleft x)) (g.grad (vright x)) := by
  refine ⟨rfl, ?_⟩
  simp only [Fn.grad, Fn.jaxGrad, scicoGrad]
  exact conjVec_vappend _ _

/-- `ProximalAverage(func_list, alpha_list)`: its value is `Σ αᵢ fᵢ(x)` (weights as stored by the
    object) and its `grad` is the gradient wherever every component is smooth -/
theorem C07_proximal_average (l : List (ℝ × Fn ℝ n)) (x : CVec ℝ n) (h : ∀ p ∈ l, p.2.Smooth x) :
    (∀ z, (proxAvgFn l .zero).eval z = (l.map (fun p => p.1 * p.2.eval z)).sum) ∧
    IsGradAt (proxAvgFn l .zero).eval x ((proxAvgFn l .zero).grad x) := by
  refine ⟨fun z => ?_, (proxAvgFn l .zero).isGradAt x (proxAvgFn_smooth l .zero x trivial h)⟩
  rw [proxAvgFn_eval]; simp [Fn.eval]

/-- `Operator.vjp(u, conjugate=True)`, `cvjp`: given JAX's transpose `G` of the (real-linear)
    Jacobian `J` for the pairing `Re Σ aᵢbᵢ`, `Gmap v = conj(G(conj v))` is the adjoint of the
    Jacobian-vector product for `Re⟪·,·⟫` — holomorphic or not. -/
theorem C07_vjp_adj_real (J : CVec ℝ n → CVec ℝ m) (G : CVec ℝ m → CVec ℝ n)
    (hG : ∀ c d, reBdot (G c) d = reBdot c (J d)) (v : CVec ℝ m) (d : CVec ℝ n) :
    reInner (vjpWrap true G v) d = reInner v (J d) ∧ reInner (cvjpWrap G v) d = reInner v (J d) := by
  rw [cvjp_eq_vjp_true]
  exact ⟨adjoint_of_transpose Cx.re (hG _ _), adjoint_of_transpose Cx.re (hG _ _)⟩

/-- operators with a **real input array** (e.g. real image → complex measurements): JAX's
    cotangent is real, its contract holds for real directions; `Gmap` is still the adjoint of the
    Jacobian-vector product on the (real) input space — the conjugations are needed although the
    input is real.  Dense instance: `G c = Re(Aᵀ c)` meets the hypothesis and `Gmap v = Re(Aᴴ v)`. -/
theorem C07_vjp_adj_real_input (J : CVec ℝ n → CVec ℝ m) (G : CVec ℝ m → CVec ℝ n)
    (hG : ∀ c d, (∀ i, (d i).im = 0) → reBdot (G c) d = reBdot c (J d))
    (v : CVec ℝ m) (d : CVec ℝ n) (hd : ∀ i, (d i).im = 0) :
    reInner (vjpWrap true G v) d = reInner v (J d) :=
  adjoint_of_transpose Cx.re (hG _ d hd)

-- Mathlib has a `realPart` of its own (the self-adjoint part); without this alias every `realPart` below is
-- elaborated both ways, and rejecting Mathlib's costs a long search for a star module structure on arrays.
export Scico.Autograd (realPart)

/-- the dense instance of `C07_vjp_adj_real_input`: for a real input array and the Jacobian `d ↦ A d` JAX returns
    `G c = Re(Aᵀ c)`; it meets the hypothesis there, and `Gmap v = Re(Aᴴ v)` -/
theorem C07_vjp_real_input_matrix (A : Mat ℝ m n) (v : CVec ℝ m) :
    (∀ c d, (∀ i, (d i).im = 0) →
      reBdot (realPart (mulVec (transpose A) c)) d = reBdot c (mulVec A d)) ∧
    vjpWrap true (fun c => realPart (mulVec (transpose A) c)) v = realPart (mulVec (adjMat A) v) := by
  refine ⟨fun c d hd => by rw [reBdot_realPart _ _ hd, reBdot_transpose], ?_⟩
  rw [← vjpWrap_matrix]
  simp only [vjpWrap, if_true]
  rw [conjVec_realPart, realPart_conjVec]

/-- for a ℂ-linear Jacobian (`G` its plain transpose) `Gmap` is the complex adjoint,
    and without the conjugate flag it is the transpose -/
theorem C07_vjp_adj {K : Type} [CommRing K] (J : CVec K n → CVec K m) (G : CVec K m → CVec K n)
    (hG : ∀ c d, bdot (G c) d = bdot c (J d)) (v : CVec K m) (d : CVec K n) :
    cinner (vjpWrap true G v) d = cinner v (J d) ∧ bdot (vjpWrap false G v) d = bdot v (J d) :=
  ⟨adjoint_of_transpose id (hG _ _), hG v d⟩

/-- dense instance: Jacobian `d ↦ A d`; JAX's transpose is `c ↦ Aᵀ c` (it satisfies the
    hypothesis of `C07_vjp_adj` for every `A`), and `Gmap v = Aᴴ v`. -/
theorem C07_vjp_matrix {K : Type} [CommRing K] (A : Mat K m n) (v : CVec K m) (d : CVec K n) :
    (∀ c d, bdot (mulVec (transpose A) c) d = bdot c (mulVec A d)) ∧
    vjpWrap true (mulVec (transpose A)) v = mulVec (adjMat A) v ∧
    cinner (mulVec (adjMat A) v) d = cinner v (mulVec A d) :=
  ⟨bdot_transpose A, vjpWrap_matrix A v, cinner_adjMat A v d⟩

/-- the Jacobian linear operator of `linop.jacobian`, with and without `include_eval`: the
    Jacobian-product blocks of `eval` and `adj` are adjoint to each other; with `include_eval`
    *both* directions carry `F(u)` as block 0. -/
theorem C07_jacobian_op {K : Type} [CommRing K] (inc : Bool) (Fu : CVec K m) (J : CVec K n → CVec K m)
    (G : CVec K m → CVec K n) (hG : ∀ c d, bdot (G c) d = bdot c (J d)) (v : CVec K n) (w : CVec K m) :
    cinner (jacobianAdj inc Fu G w).main v = cinner w (jacobianEval inc Fu J v).main ∧
    (jacobianEval inc Fu J v).main = J v ∧
    (jacobianEval inc Fu J v).evalBlock = (if inc then some Fu else none) ∧
    (jacobianAdj inc Fu G w).evalBlock = (if inc then some Fu else none) := by
  obtain ⟨h1, h2, h3, h4⟩ := jacobian_blocks inc Fu J G v w
  refine ⟨?_, h1, h3, h4⟩
  rw [h1, h2]
  exact adjoint_of_transpose id (hG _ _)

/-- same with JAX's real-linear contract (non-holomorphic operators): adjoint for `Re⟪·,·⟫` -/
theorem C07_jacobian_op_real (inc : Bool) (Fu : CVec ℝ m) (J : CVec ℝ n → CVec ℝ m)
    (G : CVec ℝ m → CVec ℝ n) (hG : ∀ c d, reBdot (G c) d = reBdot c (J d)) (v : CVec ℝ n) (w : CVec ℝ m) :
    reInner (jacobianAdj inc Fu G w).main v = reInner w (jacobianEval inc Fu J v).main := by
  obtain ⟨h1, h2, _, _⟩ := jacobian_blocks inc Fu J G v w
  rw [h1, h2]
  exact adjoint_of_transpose Cx.re (hG _ _)

/-- the code as it is: for an operator whose input and output dtypes differ in kind, the adjoint
    direction with `include_eval` is rejected (two blocks of different dtype); in every other
    configuration it is `jacobianAdj`, to which `C07_jacobian_op` applies
    (recorded: `known_findings.txt`, jacobian-include-eval-mixed-dtype). -/
theorem C07_jacobian_adj_partial {K : Type} [CommRing K] (inc inC outC : Bool) (Fu : CVec K m)
    (G : CVec K m → CVec K n) (w : CVec K m) :
    (jacobianAdjChecked inc inC outC Fu G w = none ↔ (inc = true ∧ inC ≠ outC)) ∧
    (¬(inc = true ∧ inC ≠ outC) → jacobianAdjChecked inc inC outC Fu G w = some (jacobianAdj inc Fu G w)) := by
  unfold jacobianAdjChecked
  cases inc <;> cases inC <;> cases outC <;> simp

/-- with `include_eval` the "linear operator" is affine: it is additive iff `F(u) = 0` -/
theorem C07_jacobian_include_eval_affine {K : Type} [CommRing K] (Fu : CVec K m) (J : CVec K n → CVec K m)
    (hJ : ∀ u v, J (vadd u v) = vadd (J u) (J v)) (v₁ v₂ : CVec K n) :
    (jacobianEval true Fu J v₁).add (jacobianEval true Fu J v₂) = some (jacobianEval true Fu J (vadd v₁ v₂))
      ↔ Fu = fun _ => 0 := by
  simp only [jacobianEval, if_true, JacOut.add, Option.some.injEq, JacOut.withEval.injEq, hJ, and_true]
  exact ⟨fun h => funext fun i => add_left_cancel ((congrFun h i).trans (add_zero _).symm),
    fun h => h ▸ funext fun i => add_zero _⟩

/-- `scico.linear_adjoint`: in the two branches that go through `conj_fun` the result is the
    adjoint of `fun` whenever `jax.linear_transpose` transposes (contract at the function it is given) -/
theorem C07_linear_adjoint {K : Type} [CommRing K] (T : (CVec K n → CVec K m) → (CVec K m → CVec K n))
    (f : CVec K n → CVec K m) (cp co : Bool) (hc : cp = true ∨ co = true)
    (hT : ∀ y x, bdot (T (conjFun f) y) x = bdot y (conjFun f x)) (y : CVec K m) (x : CVec K n) :
    cinner (linearAdjoint T cp co f y) x = cinner y (f x) := by
  rw [linearAdjoint_of_complex T f hc]
  exact transpose_conjFun_adjoint f _ hT y x

/-- the same for functions that are only **real**-linear (complex → real, e.g. `x ↦ Re(Mx)`; the
    code's first branch is "C→R or C→C"): with JAX's transposition contract for `Re Σ aᵢbᵢ` the result
    is the adjoint for `Re⟪·,·⟫` -/
theorem C07_linear_adjoint_real_pairing (T : (CVec ℝ n → CVec ℝ m) → (CVec ℝ m → CVec ℝ n))
    (f : CVec ℝ n → CVec ℝ m) (cp co : Bool) (hc : cp = true ∨ co = true)
    (hT : ∀ y x, reBdot (T (conjFun f) y) x = reBdot y (conjFun f x)) (y : CVec ℝ m) (x : CVec ℝ n) :
    reInner (linearAdjoint T cp co f y) x = reInner y (f x) := by
  rw [linearAdjoint_of_complex T f hc, reInner_eq_reBdot_right, hT, reInner_eq_reBdot_right]
  simp [conjFun, conjVec_conjVec]

/-- real → real branch (`T fun`): adjoint on real data -/
theorem C07_linear_adjoint_real {K : Type} [CommRing K] (T : (CVec K n → CVec K m) → (CVec K m → CVec K n))
    (f : CVec K n → CVec K m) (hT : ∀ y x, bdot (T f y) x = bdot y (f x)) (y : CVec K m) (x : CVec K n)
    (hy : conjVec y = y) (hTy : conjVec (T f y) = T f y) :
    cinner (linearAdjoint T false false f y) x = cinner y (f x) := by
  have : linearAdjoint T false false f = T f := by simp [linearAdjoint]
  rw [this]
  exact transpose_real_adjoint f _ hT y x hy hTy

/-- The conjugating wrappers of the model ARE the rows of `Tables.conjSites` (`(r, a)` = conjugations applied to the
    result / to the argument), the table that `Scico/Generated/AutogradTables.lean` (regenerated with `ast` from the
    scico sources on every run) must equal: `grad`/`value_and_grad`/`jacrev` closures `(1,0)`; `cvjp.conj_vjp`,
    `linear_adjoint.conj_fun`, `Operator.vjp` with `conjugate` `(1,1)`; without `conjugate`, `Operator.jvp` and the
    `jacobian`/`Function` plumbing `(0,0)`; `linear_adjoint` transposes `conj_fun, conj_fun, fun` in its three branches and
    `jacobian` always requests `conjugate=True`.  The row of `linear_adjoint` itself, `(0,1)`, is in neither list: it conjugates the
    primals, which JAX reads for shapes and dtypes only, so no wrapper of the model corresponds to it. -/
theorem C07_conj_sites {K : Type} [CommRing K] (G : CVec K m → CVec K n) (f : CVec K n → CVec K m) (v : CVec K m)
    (x jg : CVec K n) (T : (CVec K n → CVec K m) → (CVec K m → CVec K n)) :
    (∀ nm ∈ ["grad.conjugated_grad_aux", "grad.conjugated_grad", "value_and_grad.conjugated_value_and_grad_aux",
        "value_and_grad.conjugated_value_and_grad", "jacrev.conjugated_jacrev"], Tables.siteCounts nm = some (1, 0)) ∧
      scicoGrad jg = conjTimes 1 jg ∧
    (Tables.siteCounts "cvjp.conj_vjp" = some (1, 1) ∧ cvjpWrap G v = applySite 1 1 G v) ∧
    (Tables.siteCounts "linear_adjoint.conj_fun" = some (1, 1) ∧ conjFun f x = applySite 1 1 f x) ∧
    (Tables.siteCounts "Operator.vjp.Gmap#0" = some (1, 1) ∧ vjpWrap true G v = applySite 1 1 G v) ∧
    (Tables.siteCounts "Operator.vjp.Gmap#1" = some (0, 0) ∧ vjpWrap false G v = applySite 0 0 G v) ∧
    (∀ nm ∈ ["grad", "value_and_grad", "jacrev", "cvjp", "Operator.jvp", "Operator.vjp", "jacobian", "jacobian.adj_fn",
        "jacobian.eval_fn#0", "jacobian.eval_fn#1", "Function.slice", "Function.slice.pfunc", "Function.jvp",
        "Function.vjp", "Function.jacobian"], Tables.siteCounts nm = some (0, 0)) ∧
    (Tables.linadjBranches.map Prod.snd = ["conj_fun", "conj_fun", "fun"] ∧
      linearAdjoint T true true f = T (conjFun f) ∧ linearAdjoint T false true f = T (conjFun f) ∧
      linearAdjoint T false false f = T f) ∧
    (⟨"jacobian", "vjp", "conjugate", "True"⟩ : Tables.Forward) ∈ Tables.forwards := by
  -- all look-ups in one evaluation: the kernel unfolds the table of string literals once
  have hT : (∀ nm ∈ ["grad.conjugated_grad_aux", "grad.conjugated_grad", "value_and_grad.conjugated_value_and_grad_aux",
        "value_and_grad.conjugated_value_and_grad", "jacrev.conjugated_jacrev"], Tables.siteCounts nm = some (1, 0)) ∧
      Tables.siteCounts "cvjp.conj_vjp" = some (1, 1) ∧ Tables.siteCounts "linear_adjoint.conj_fun" = some (1, 1) ∧
      Tables.siteCounts "Operator.vjp.Gmap#0" = some (1, 1) ∧ Tables.siteCounts "Operator.vjp.Gmap#1" = some (0, 0) ∧
      (∀ nm ∈ ["grad", "value_and_grad", "jacrev", "cvjp", "Operator.jvp", "Operator.vjp", "jacobian", "jacobian.adj_fn",
        "jacobian.eval_fn#0", "jacobian.eval_fn#1", "Function.slice", "Function.slice.pfunc", "Function.jvp",
        "Function.vjp", "Function.jacobian"], Tables.siteCounts nm = some (0, 0)) ∧
      (⟨"jacobian", "vjp", "conjugate", "True"⟩ : Tables.Forward) ∈ Tables.forwards := by decide +kernel
  obtain ⟨h10, hc, hl, hg0, hg1, h00, hf⟩ := hT
  exact ⟨h10, scicoGrad_site jg, ⟨hc, cvjpWrap_site G v⟩, ⟨hl, conjFun_site f x⟩, ⟨hg0, vjpWrap_true_site G v⟩,
    ⟨hg1, vjpWrap_false_site G v⟩, h00,
    ⟨rfl, linearAdjoint_of_complex T f (.inl rfl), linearAdjoint_of_complex T f (.inr rfl), rfl⟩, hf⟩

/-- `Function.slice/jvp/vjp/jacobian(index, …)`: removing slot `index` (`fix_args`) and re-inserting
    the free variable (`pfunc`) evaluates the function at the original argument list with slot
    `index` replaced — so the derivative taken is the partial derivative in that slot; likewise
    for `cvjp(…, jidx)` through `scico.util.partial`. -/
theorem C07_function_slots {β : Type} (args : List β) (i : Nat) (h : i < args.length) (var : β) :
    sliceArgs i (fixArgs i args) var = args.set i var ∧
    sliceArgs i (fixArgs i args) args[i] = args ∧
    cvjpArgs i args var = some (args.set i var) :=
  ⟨sliceArgs_fixArgs_var args i h var, by rw [sliceArgs_fixArgs_var args i h, List.set_getElem_self],
    cvjpArgs_eq args i h var⟩

/-- chain rule, gradient form, through an affine map — real and complex:
    `grad(s·φ(A· − y))(x) = s·Aᴴ·grad φ(Ax − y)` for ANY `φ` with a gradient at `Ax − y` -/
theorem C07_chain_linear (s : ℝ) (A : Mat ℝ m n) (y : CVec ℝ m) (φ : CVec ℝ m → ℝ) (x : CVec ℝ n)
    (g : CVec ℝ m) (h : IsGradAt φ (vsub (mulVec A x) y) g) :
    IsGradAt (fun z => s * φ (vsub (mulVec A z) y)) x (vsmul s (mulVec (adjMat A) g)) :=
  isGradAt_comp_affine s A y φ x g h

/-- chain rule, gradient form, through a **nonlinear** operator `F` under JAX's contracts at `x`:
    `J d` (second component of `F.jvp(x, d)`) is the derivative of `F` along `d`, `G` (`jax.vjp`) is
    the transpose of `J` for `Re Σ aᵢbᵢ`; `φ` has a gradient `g` along curves at `F x − y`.  Then
    `grad(s·φ(F(·) − y))(x) = s·Gmap(g)` with `Gmap = F.vjp(x, conjugate=True)[1]` — for holomorphic
    and non-holomorphic `F`, real or complex data. -/
theorem C07_chain_nonlinear (s : ℝ) (F J : CVec ℝ n → CVec ℝ m) (G : CVec ℝ m → CVec ℝ n)
    (y : CVec ℝ m) (φ : CVec ℝ m → ℝ) (x : CVec ℝ n) (g : CVec ℝ m)
    (hJ : ∀ d, Tangent (fun t => F (along x d t)) (J d))
    (hG : ∀ c d, reBdot (G c) d = reBdot c (J d))
    (h : IsCurveGradAt φ (vsub (F x) y) g) :
    IsGradAt (fun z => s * φ (vsub (F z) y)) x (vsmul s (vjpWrap true G g)) :=
  isGradAt_comp_operator s F J G y φ x g hJ hG h

/-- **operator algebra**: for every operator built from the family `Op` with `F(G)`, `F + G`, `F − G`, `a·F` (complex `a`)
    and `−F`, to any depth (`OpT`; each is a new `Operator` whose `eval_fn` closes over the operands), the chain/sum-rule
    `OpT.jvp` **is** the derivative of the composed map along every line, `OpT.vjpT` (cotangent pulled back through the
    tree in reverse) is its transpose for JAX's pairing, hence `Gmap = T.vjp(u, conjugate=True)[1]` is the adjoint of the
    Jacobian-vector product — no hypothesis; these discharge `hJ`, `hG` of `C07_chain_nonlinear` for such `T`. -/
theorem C07_operator_tree (T : OpT ℝ n m) (u v : CVec ℝ n) (w : CVec ℝ m) :
    Tangent (fun t => T.eval (along u v t)) (T.jvp u v) ∧
    (∀ c d, reBdot (T.vjpT u c) d = reBdot c (T.jvp u d)) ∧
    reInner (vjpWrap true (T.vjpT u) w) v = reInner w (T.jvp u v) := by
  refine ⟨?_, opT_vjpT_transpose T u, adjoint_of_transpose Cx.re (opT_vjpT_transpose T u _ _)⟩
  have h := tangent_opT T (tangent_along u v)
  simp only [along_zero] at h
  exact h

/-- the operator family `F(x) = Ax + B conj(x) + (Cx)² + c` of the correspondence: `Op.jvp` **is** the
    derivative of `F` along every line (so "jvp agrees with finite differences" is a theorem for
    it), `Op.vjpT` is its transpose for JAX's pairing, hence `Gmap` is the adjoint of the
    Jacobian-vector product — no hypothesis left; these discharge `hJ`, `hG` of `C07_chain_nonlinear`.  (The one-leaf tree.) -/
theorem C07_operator_jacobian (F : Op ℝ n m) (u v : CVec ℝ n) (w : CVec ℝ m) :
    Tangent (fun t => F.eval (along u v t)) (F.jvp u v) ∧
    (∀ c d, reBdot (F.vjpT u c) d = reBdot c (F.jvp u d)) ∧
    reInner (vjpWrap true (F.vjpT u) w) v = reInner w (F.jvp u v) :=
  C07_operator_tree (.leaf F) u v w

/-- `SquaredSetDistance` (`0.5·Σ|x − P(x)|²`) and `SetDistance` (`_l2norm`-style guarded square root of
    `Σ|x − P(x)|²`), code after repair 8f5a90e, for ANY projection `P` with JAX's contracts at `x` (`JP`, `GP`):
    `grad` — `Gmap` of the residual map `z ↦ z − P z` applied to the outer gradient — is the gradient;
    the squared distance at **every** `x` (points of the set included), the distance where `x ≠ P x`. -/
theorem C07_set_distance (P JP GP : CVec ℝ n → CVec ℝ n) (x : CVec ℝ n)
    (hJ : ∀ d, Tangent (fun t => P (along x d t)) (JP d))
    (hG : ∀ c d, reBdot (GP c) d = reBdot c (JP d)) :
    IsGradAt (fun z => (1 / 2) * sumAbs2 (vsub z (P z))) x
      (vsmul (1 / 2) (vjpWrap true (fun c => vsub c (GP c)) ((Fn.sqL2 : Fn ℝ n).grad (vsub x (P x))))) ∧
    (sumAbs2 (vsub x (P x)) ≠ 0 →
      IsGradAt (fun z => l2normGuarded (sumAbs2 (vsub z (P z)))) x
        (vjpWrap true (fun c => vsub c (GP c)) ((Fn.l2 : Fn ℝ n).grad (vsub x (P x))))) := by
  obtain ⟨h1, h2⟩ := residual_contracts P JP GP x hJ hG
  constructor
  · have h := isGradAt_comp_operator (1 / 2) (fun z => vsub z (P z)) _ _ 0 (Fn.sqL2 : Fn ℝ n).eval x _ h1 h2
      ((Fn.sqL2 : Fn ℝ n).isCurveGradAt _ trivial)
    simpa only [vsub_zero, Fn.eval] using h
  · intro hne
    have h := isGradAt_comp_operator 1 (fun z => vsub z (P z)) _ _ 0 (Fn.l2 : Fn ℝ n).eval x _ h1 h2
      ((Fn.l2 : Fn ℝ n).isCurveGradAt _ (by simpa only [vsub_zero, Fn.Smooth] using hne))
    have e : ∀ z : CVec ℝ n, l2normGuarded (sumAbs2 (vsub z (P z))) = norm2 (vsub z (P z)) :=
      fun z => l2normGuarded_eq _ (sumAbs2_nonneg _)
    simp only [e]
    simpa only [vsub_zero, vsmul_one, one_mul, Fn.eval] using h

/-- **Squared distance to a closed convex set** (`IsProjection C P`: `P x ∈ C` and
    `Re⟪x − P x, z − P x⟫ ≤ 0` for `z ∈ C`): `½‖z − P z‖²` is differentiable at EVERY `x` with the documented
    gradient `x − P(x)` — no smoothness of `P` assumed.  Consequently, whenever JAX's contracts hold for `P`
    at `x`, what `SquaredSetDistance.grad` computes by differentiating *through* `proj` (`C07_set_distance`)
    is exactly `x − P(x)` (uniqueness of the gradient). -/
theorem C07_squared_distance_convex (C : CVec ℝ n → Prop) (P : CVec ℝ n → CVec ℝ n) (hP : IsProjection C P)
    (x : CVec ℝ n) :
    IsGradAt (fun z => (1 / 2) * sumAbs2 (vsub z (P z))) x (vsub x (P x)) ∧
    ∀ (JP GP : CVec ℝ n → CVec ℝ n), (∀ d, Tangent (fun t => P (along x d t)) (JP d)) →
      (∀ c d, reBdot (GP c) d = reBdot c (JP d)) →
      vsmul (1 / 2) (vjpWrap true (fun c => vsub c (GP c)) ((Fn.sqL2 : Fn ℝ n).grad (vsub x (P x)))) = vsub x (P x) :=
  ⟨isGradAt_sqdist C P hP x, fun JP GP hJ hG =>
    isGradAt_unique _ x _ _ (C07_set_distance P JP GP x hJ hG).1 (isGradAt_sqdist C P hP x)⟩

/-- **Distance to a closed convex set**, `SetDistance` as the code writes it (guarded square root): at every `x`
    outside the set the gradient is the documented `(x − P x)/d(x)` — no smoothness of `P` assumed -/
theorem C07_distance_convex (C : CVec ℝ n → Prop) (P : CVec ℝ n → CVec ℝ n) (hP : IsProjection C P)
    (x : CVec ℝ n) (hx : sumAbs2 (vsub x (P x)) ≠ 0) :
    IsGradAt (fun z => l2normGuarded (sumAbs2 (vsub z (P z)))) x
      (fun i => Cx.divr (vsub x (P x) i) (norm2 (vsub x (P x)))) := by
  intro d
  have h := (isGradAt_sqdist C P hP x d).const_mul 2
  have h2 : HasDerivAt (fun t => sumAbs2 (vsub (along x d t) (P (along x d t))))
      (2 * reInner (vsub x (P x)) d) 0 := HasDerivAt.congr' h (fun t => by ring) rfl
  have h3 := h2.sqrt (by simp only [along_zero]; exact hx)
  simp only [along_zero] at h3
  refine HasDerivAt.congr' h3 (fun t => l2normGuarded_eq _ (sumAbs2_nonneg _)) ?_
  rw [reInner_eq, reInner_eq, Finset.mul_sum, Finset.sum_div]
  refine Finset.sum_congr rfl (fun i _ => ?_)
  simp only [Cx.divr_re, Cx.divr_im, norm2, hasSqrt_real]
  ring

/-- `SetDistance` at a point in the interior of the set (`P` is the identity near `x` along every line):
    the guarded square root makes the functional identically 0 there and JAX's gradient through the
    `where` is 0 — the true gradient.  (Before repair 8f5a90e the code returned NaN: `norm` at 0.) -/
theorem C07_set_distance_interior (P : CVec ℝ n → CVec ℝ n) (x : CVec ℝ n)
    (hP : ∀ d, ∀ᶠ t in nhds (0 : ℝ), P (along x d t) = along x d t) :
    IsGradAt (fun z => l2normGuarded (sumAbs2 (vsub z (P z)))) x (fun _ => 0) := by
  intro d
  rw [reInner_zero_left]
  refine (hasDerivAt_const (0 : ℝ) (0 : ℝ)).congr_of_eventuallyEq ?_
  filter_upwards [hP d] with t ht
  have : vsub (along x d t) (P (along x d t)) = fun _ => 0 := by
    rw [ht]; exact funext fun i => sub_self _
  rw [this, sumAbs2_eq_reInner, reInner_zero_left]
  exact if_neg (lt_irrefl (0 : ℝ))

/-- EXACT for all `x`, `d`, real or complex, any field of characteristic 0 with an order:
    `f(x+d) = f(x) + Re⟪g,d⟫ + ½ Re⟪H d,d⟫` with `g = f.grad(x)` and `H = f.hessian` -/
theorem C07_quadratic {K : Type} [Field K] [LinearOrder K] [IsStrictOrderedRing K] [HasSqrt K] [HasLog K]
    (α : K) (A : Mat K m n) (y : CVec K m) (w : Vec K m) (x d : CVec K n) :
    (Fn.sqL2Loss α A y w).eval (vadd x d) =
      (Fn.sqL2Loss α A y w).eval x + reInner ((Fn.sqL2Loss α A y w).grad x) d
        + (1 / 2) * reInner (hessianApply α A w d) d :=
  sqL2Loss_expansion α A y w x d

/-- the model gradient is the documented `2αAᴴW(Ax−y)`; `hessian` applies the documented
    `2αAᴴWA`, which is Hermitian, and positive semi-definite for `α ≥ 0`, `W ≥ 0` -/
theorem C07_quadratic_formulas {K : Type} [Field K] [LinearOrder K] [IsStrictOrderedRing K] [HasSqrt K] [HasLog K]
    (α : K) (A : Mat K m n) (y : CVec K m) (w : Vec K m) (x d : CVec K n) :
    (Fn.sqL2Loss α A y w).grad x = sqL2LossGradSpec α A y w x ∧
    hessianApply α A w x = mulVec (hessianMat α A w) x ∧
    adjMat (hessianMat α A w) = hessianMat α A w ∧
    (0 ≤ α → (∀ i, 0 ≤ w i) → 0 ≤ reInner (hessianApply α A w d) d) :=
  ⟨grad_sqL2Loss_eq_spec α A y w x, hessianApply_eq_mat α A w x, hessianMat_hermitian α A w,
   fun hs hw => hessian_psd α A w d hs hw⟩

/-- hence along every line the loss is the parabola `f x + t Re⟪g,d⟫ + t² ½Re⟪Hd,d⟫`: its first
    derivative at every `t` is `Re⟪g,d⟫ + t Re⟪Hd,d⟫` and its second derivative is `Re⟪Hd,d⟫` —
    the returned gradient is the true derivative and `hessian` the true Hessian. -/
theorem C07_hessian (α : ℝ) (A : Mat ℝ m n) (y : CVec ℝ m) (w : Vec ℝ m) (x d : CVec ℝ n) (t : ℝ) :
    HasDerivAt (fun t => (Fn.sqL2Loss α A y w).eval (along x d t))
      (reInner ((Fn.sqL2Loss α A y w).grad x) d + t * reInner (hessianApply α A w d) d) t ∧
    HasDerivAt (fun t => reInner ((Fn.sqL2Loss α A y w).grad x) d + t * reInner (hessianApply α A w d) d)
      (reInner (hessianApply α A w d) d) t := by
  constructor
  · have h1 := ((hasDerivAt_id t).mul_const (reInner ((Fn.sqL2Loss α A y w).grad x) d)).const_add
      ((Fn.sqL2Loss α A y w).eval x)
    have h2 := ((hasDerivAt_id t).pow 2).mul_const ((1 / 2) * reInner (hessianApply α A w d) d)
    refine HasDerivAt.congr' (h1.add h2) (fun t => sqL2Loss_along α A y w x d t) ?_
    simp only [id, Nat.add_one_sub_one, pow_one, Nat.cast_ofNat]
    ring
  · have h := ((hasDerivAt_id t).mul_const (reInner (hessianApply α A w d) d)).const_add
      (reInner ((Fn.sqL2Loss α A y w).grad x) d)
    exact HasDerivAt.congr' h (fun _ => rfl) (one_mul _)

/-- a Hessian operator `H = L.hessian` **kept across later operations** (`set_scale` on `L`, copies `c*L`, `L/c`,
    new losses …): taken from object `i` after ANY history `ops₁`, applied after ANY continuation `ops₂`, it
    still exists, applies `2·se·AᴴWA` with `se` the CURRENT scale of `L`, and is therefore the Hessian of the
    function `L` currently is (exact second-order expansion) — `set_scale` on `L` is followed, rescaled copies
    of `L` do not affect it. -/
theorem C07_hessian_handle (ops₁ ops₂ : List (LossOp ℝ)) (i : Nat)
    (hi : (Heap.run ([] : Heap ℝ) ops₁).evalScale i ≠ none)
    (A : Mat ℝ m n) (y : CVec ℝ m) (w : Vec ℝ m) (x d : CVec ℝ n) :
    ∃ se, (Heap.run ([] : Heap ℝ) (ops₁ ++ ops₂)).evalScale i = some se ∧
      (Heap.run ([] : Heap ℝ) (ops₁ ++ ops₂)).hessHandleApply i A w d = some (hessianApply se A w d) ∧
      (Fn.sqL2Loss se A y w).eval (vadd x d) =
        (Fn.sqL2Loss se A y w).eval x + reInner ((Fn.sqL2Loss se A y w).grad x) d
          + (1 / 2) * reInner (hessianApply se A w d) d := by
  obtain ⟨se, hse⟩ := Heap.run_append [] ops₁ ops₂ ▸ Heap.evalScale_isSome_mono _ ops₂ i hi
  exact ⟨se, hse, by simp [Heap.hessHandleApply, hse], sqL2Loss_expansion se A y w x d⟩

/-- After **any** history of `Loss(...)`, `c*L`, `L*c`, `L/c`, `L.set_scale(s)` on any objects, for
    every object the factor used by `grad` is the factor used by `__call__`; so if `γ` is the
    gradient of the unit-scale loss `φ` at `x`, `obj.grad(x) = scale·γ` is the gradient of
    `obj(x) = scale·φ`. -/
theorem C07_rebind (ops : List (LossOp ℝ)) (i : Nat) (se : ℝ)
    (hs : (Heap.run ([] : Heap ℝ) ops).evalScale i = some se)
    (φ : CVec ℝ n → ℝ) (x γ : CVec ℝ n) (hγ : IsGradAt φ x γ) :
    (Heap.run ([] : Heap ℝ) ops).gradScale i = some se ∧ IsGradAt (fun z => se * φ z) x (vsmul se γ) := by
  refine ⟨by rw [Heap.gradScale_eq_evalScale _ (Heap.run_selfBound ops _ Heap.nil_selfBound)]; exact hs, ?_⟩
  intro d
  rw [reInner_vsmul_left]
  exact (hγ d).const_mul se

/-- the re-binding line of `Loss.__mul__` is what makes this true: with `copy` alone the product
    `2 * L` would use the *old* scale in its gradient -/
theorem C07_stale_without_rebind :
    let h := ([LossOp.new 1, LossOp.mul 0 2] : List (LossOp Nat)).foldl Heap.stepNoRebind []
    h.evalScale 1 = some 2 ∧ h.gradScale 1 = some 1 := by
  decide

-- a nested derived functional and a point of its smoothness domain
example : (Fn.scaled 3 (Fn.add Fn.l2 (Fn.huber 1 true)) : Fn ℝ 2).Smooth (fun i => ⟨1, (i : ℝ)⟩) := by
  refine ⟨ne_of_gt ?_, one_pos⟩
  rw [sumAbs2_eq, Fin.sum_univ_two]
  norm_num [Cx.abs2]

-- a loss composed with an operator whose residual is on the Huber threshold, and a 1-norm of a
-- residual with no zero coordinate
example : (Fn.loss (m := 1) 2 (fun _ _ => ⟨1, 0⟩) (fun _ => ⟨0, 0⟩) (Fn.add (Fn.huber 1 false) Fn.l1) : Fn ℝ 1).Smooth (fun _ => ⟨1, 0⟩) := by
  simp [Fn.Smooth, vsub, mulVec_eq, Cx.abs2]

-- the hypothesis of `C07_vjp_adj` / `C07_jacobian_op` holds for every dense Jacobian
example (A : Mat ℝ 2 3) : ∀ c d, bdot (mulVec (transpose A) c) d = bdot c (mulVec A d) := bdot_transpose A

-- the hypothesis of `C07_linear_adjoint` holds for the transpose of a dense matrix
example (M : Mat ℝ 2 3) : ∀ y x, bdot (mulVec (transpose (conjMat M)) y) x = bdot y (conjFun (mulVec M) x) := by
  intro y x; rw [conjFun_mulVec]; exact bdot_transpose _ y x

-- the hypothesis of `C07_linear_adjoint_real_pairing` holds for the complex → real map `x ↦ Re x`
-- (not ℂ-linear), whose transpose for `Re Σ aᵢbᵢ` is `y ↦ Re y`
example : ∀ (y x : CVec ℝ 2), reBdot (Autograd.realPart y) x =
    reBdot y (conjFun (fun z : CVec ℝ 2 => Autograd.realPart z) x) := by
  intro y x
  rw [reBdot_eq, reBdot_eq]
  exact Finset.sum_congr rfl (fun i _ => by simp [conjFun, conjVec, Autograd.realPart])

-- a history with three live objects
example : (Heap.run ([] : Heap Nat) [.new 1, .mul 0 2, .setScale 0 5, .mul 1 3]).evalScale 2 = some 6 := by
  decide

-- `C07_chain_nonlinear`: its hypotheses hold for a concrete non-holomorphic quadratic operator
-- (`F(x) = x + i·conj(x) + x²` on ℂ¹) and the Huber norm as `φ`
example : let F : Op ℝ 1 1 := ⟨fun _ _ => ⟨1, 0⟩, fun _ _ => ⟨0, 1⟩, fun _ _ => ⟨1, 0⟩, fun _ => 0⟩
    let x : CVec ℝ 1 := fun _ => ⟨1, 2⟩
    (∀ d, Tangent (fun t => F.eval (along x d t)) (F.jvp x d)) ∧
    (∀ c d, reBdot (F.vjpT x c) d = reBdot c (F.jvp x d)) ∧
    IsCurveGradAt (Fn.huber 1 false : Fn ℝ 1).eval (vsub (F.eval x) 0)
      ((Fn.huber 1 false : Fn ℝ 1).grad (vsub (F.eval x) 0)) := by
  intro F x
  exact ⟨fun d => (C07_operator_jacobian F x d 0).1, fun c d => (C07_operator_jacobian F x 0 0).2.1 c d,
    C07_curve _ _ (by simp [Fn.Smooth])⟩

-- `C07_set_distance`: the contracts hold for the projection onto a subspace `P z = M z` (any matrix)
example (M : Mat ℝ 2 2) (x : CVec ℝ 2) :
    (∀ d, Tangent (fun t => mulVec M (along x d t)) (mulVec M d)) ∧
    (∀ c d, reBdot (mulVec (transpose M) c) d = reBdot c (mulVec M d)) :=
  ⟨fun d => tangent_mulVec M (tangent_along x d), reBdot_transpose M⟩

-- `C07_squared_distance_convex`: the projection onto `{z : Re zᵢ ≥ 0}` (clamp of the real parts — not
-- differentiable on the faces) satisfies `IsProjection`
example : IsProjection (n := 3) (fun z => ∀ i, 0 ≤ (z i).re) (fun z i => ⟨max (z i).re 0, (z i).im⟩) := by
  refine ⟨fun x i => le_max_right _ _, fun x z hz => ?_⟩
  rw [reInner_eq]
  refine Finset.sum_nonpos (fun i _ => ?_)
  simp only [vsub, Cx.sub_re, Cx.sub_im, sub_self, zero_mul, add_zero]
  rcases le_total 0 (x i).re with h | h
  · rw [max_eq_left h]; simp
  · rw [max_eq_right h, sub_zero, sub_zero]
    exact mul_nonpos_iff.mpr (Or.inr ⟨h, hz i⟩)

-- `C07_operator_tree` on a concrete tree `F(F + i·F) − F` over a non-holomorphic quadratic leaf
example : let F : Op ℝ 1 1 := ⟨fun _ _ => ⟨1, 0⟩, fun _ _ => ⟨0, 1⟩, fun _ _ => ⟨1, 0⟩, fun _ => 0⟩
    let T : OpT ℝ 1 1 := .sub (.comp (.leaf F) (.add (.leaf F) (.smul ⟨0, 1⟩ (.leaf F)))) (.leaf F)
    ∀ u v w : CVec ℝ 1, reInner (vjpWrap true (T.vjpT u) w) v = reInner w (T.jvp u v) :=
  fun u v w => (C07_operator_tree _ u v w).2.2

-- `C07_group_norm_structural_zero`: a 1-D non-circular difference `[x₁−x₀, 0]` with one group per row:
-- the second group is structurally zero, the first is non-zero at `x = (0, 1)`
example : let A : Mat ℝ 2 2 := fun i j => if i = 0 then (if j = 0 then ⟨-1, 0⟩ else ⟨1, 0⟩) else 0
    let x : CVec ℝ 2 := fun j => if j = 0 then 0 else ⟨1, 0⟩
    ∀ g : Fin 2, groupAbs2 (fun i : Fin 2 => i) (vsub (mulVec A x) 0) g ≠ 0 ∨
      ∀ i : Fin 2, i = g → ((0 : CVec ℝ 2) i = 0 ∧ ∀ j, A i j = 0) := by
  intro A x g
  fin_cases g
  · left
    simp [groupAbs2_eq, Fin.sum_univ_two, vsub, mulVec_eq, Cx.abs2, A, x]
  · right
    rintro i rfl
    exact ⟨rfl, fun j => rfl⟩

-- Poisson / abs-loss smoothness domains are inhabited (identity operator, positive point)
example : (Fn.poisson (n := 1) (m := 1) 2 (fun _ _ => ⟨1, 0⟩) (fun _ => 3) (fun _ => 0) : Fn ℝ 1).Smooth (fun _ => ⟨2, 0⟩) := by
  simp [Fn.Smooth, mulVec_eq]

example : (Fn.sqL2AbsLoss (n := 1) (m := 1) 2 (fun _ _ => ⟨0, 1⟩) (fun _ => 3) (fun _ => 1) : Fn ℝ 1).Smooth (fun _ => ⟨2, 1⟩) := by
  simp [Fn.Smooth, mulVec_eq, Cx.abs2]
  norm_num

-- `ProximalAverage([L1Norm, SquaredL2Norm], [1, 3])`: stored weights are `1/4, 3/4`
example : proxAvgWeights 2 (fun k => (k : ℚ)) (some [1, 3]) = [1/4, 3/4] := by
  simp [proxAvgWeights]; norm_num

-- `C07_hessian_handle`: handle taken from object 0 after `[new 1]`, then `set_scale(0, 5)` and a copy `3*L`:
-- the handle applies the scale 5 (not 1, not 15)
example : (Heap.run ([] : Heap Nat) ([.new 1] ++ [.setScale 0 5, .mul 0 3])).evalScale 0 = some 5 := by decide

-- slot plumbing on a concrete argument list
example : sliceArgs 1 (fixArgs 1 [10, 20, 30]) 99 = [10, 99, 30] := by decide
example : cvjpArgs 2 [10, 20, 30] 99 = some [10, 20, 99] := by decide

end Scico.Props.C07
