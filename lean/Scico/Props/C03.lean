/-
  Property C03 — optimisers keep an optimal point fixed; monotone quantities; convergence.

  Setting: variables live in arbitrary real inner-product spaces (ℝⁿ, ℂⁿ with `Re⟨·,·⟩`, block arrays =
  products); functionals are `Fn` (domain + finite values); KKT conditions in sub-gradient form;
  proximal maps satisfy the certificate contract `IsProx` (≡ argmin definition for convex functionals,
  `C03_prox_contract_iff_argmin`); `…SpecStep` is the documented iteration, equal to `step()` by C11.

  Beyond fixed points: PGM distance / objective monotonicity, linear rate; ADMM with relaxation `alpha ∈ (0,2)` — Lyapunov
  descent of the Douglas–Rachford quantity `W`, residuals → 0; PDHG Fejér monotonicity and residuals → 0 for `τσ‖C‖² < 1`
  (`alpha = 1`), the defect for other `alpha` with a non-convergent instance for `alpha = 0`; Lyapunov functions of
  ProximalADMM (`μ ≥ ‖A‖²`, `ν ≥ ‖B‖²`) and LinearizedADMM (`μ‖C‖² ≤ ν`) with residuals → 0; FISTA `O(1/k²)`.
  Convergence of `minimizer()` from every start: for strongly convex `f` in every space (PDHG for all `alpha ∈ [0,1]`), for
  merely convex problems in finite dimension (Opial; AcceleratedPGM: cluster points, and the whole sequence when the
  minimiser is unique).

  NOT proved here (exercised numerically by the check only): convergence of the whole sequence of AcceleratedPGM iterates for
  merely convex `f` with several minimisers (open), and anything about NonLinearPADMM / non-linear PDHG beyond fixed points
  (non-convex).
-/
import Scico.Proofs.StepsExamplesFindim
import Scico.Model.StepsSource

namespace Scico.Props.C03
open Scico Scico.Steps

variable {X Z U : Type} [NormedAddCommGroup X] [InnerProductSpace ℝ X]
  [NormedAddCommGroup Z] [InnerProductSpace ℝ Z] [NormedAddCommGroup U] [InnerProductSpace ℝ U]

/-- the proximal-map contract used below is the argmin definition (convex functionals) -/
theorem C03_prox_contract_iff_argmin {F : Fn X} (hc : F.IsConvex) (prox : ℝ → X → X) :
    IsProx F prox ↔ IsProxArgmin F prox :=
  ⟨fun h lam hl v => Fn.isProxPt_of_subgrad hl (h lam hl v),
   fun h lam hl v => Fn.subgrad_of_isProxPt hc hl (h lam hl v)⟩

example : IsProx (Fn.ofReal (fun _ : X => (0 : ℝ))) (fun _ v => v) := isProx_zero

example (y0 : X) : IsProx (Fn.ofReal (fun x : X => 1 / 2 * ‖x - y0‖ ^ 2)) (fun lam v => (1 / (1 + lam)) • (v + lam • y0)) :=
  isProx_halfsq y0

/-- a point satisfying the KKT conditions minimises the documented objective `f(x) + g(Cx)` -/
theorem C03_kkt_minimiser (F : Fn X) (G : Fn Z) (C : X → Z) (Cadj : Z → X)
    (hC : ∀ x y, C (x - y) = C x - C y) (hadj : ∀ w x, inner ℝ (Cadj w) x = inner ℝ w (C x))
    (xs : X) (y : Z) (h1 : F.Subgrad xs (-(Cadj y))) (h2 : G.Subgrad (C xs) y) :
    ∀ x ∈ F.dom, C x ∈ G.dom → F.val xs + G.val (C xs) ≤ F.val x + G.val (C x) := by
  intro x hx hcx
  have a := h1.2 x hx
  have b := h2.2 (C x) hcx
  rw [inner_neg_left, hadj, hC] at a
  linarith

/-- ADMM, `N` constraints, any relaxation `alpha`: KKT point (`z_i* = C_i x*`, `ρ_i u_i* ∈ ∂g_i(z_i*)`,
    `x*` stationary for the strictly convex x-sub-problem) is a fixed point -/
theorem C03_admm_fixed (f : Option (X → ℝ)) (alpha : ℝ) (solveX : List Z → List Z → X → X)
    (cons : List (Con X Z)) (F : Fn X) (hsolve : XSolver F cons solveX) (xs : X) (us : List Z)
    (hkkt : List.Forall₂ (fun (c : Con X Z) u => 0 < c.rho ∧ IsProx c.G c.prox ∧ c.G.Subgrad (c.C xs) (c.rho • u)) cons us)
    (hx : F.Subgrad xs (xGrad cons (cons.map (fun c => c.C xs)) us xs)) (zOld : List Z) :
    admmSpecStep (admmOfCons f alpha solveX cons)
        { x := xs, z := cons.map (fun c => c.C xs), zOld := zOld, u := us }
      = { x := xs, z := cons.map (fun c => c.C xs), zOld := cons.map (fun c => c.C xs), u := us } := by
  have hxs : solveX (cons.map (fun c => c.C xs)) us xs = xs :=
    hsolve.unique _ _ _ _ (hsolve.stationary _ _ _) hx
  have hlen : (cons.map (fun c => c.C xs)).length = us.length := by
    rw [List.length_map]; exact hkkt.length_eq
  unfold admmSpecStep admmOfCons
  simp only [hxs]
  rw [admmSpecZU_fixed alpha xs cons us hkkt]
  congr 1
  · exact List.map_fst_zip (le_of_eq hlen)
  · exact List.map_snd_zip (le_of_eq hlen.symm)

-- the x-update contract `XSolver` of `C03_admm_fixed` (stationarity + uniqueness) holds for the exact solver
example (y0 : X) : XSolver (halfSq y0) [idCon 1, idCon 2] (exSolveX y0 [idCon 1, idCon 2]) :=
  exSolveX_xsolver y0 _ (idCons_id [1, 2]) (idCons_pos (rhos := [1, 2]) (by norm_num))

/-- linearized ADMM, `min f(x) + g(Cx)`, scaled multiplier `u* = ν y*`: `−(1/ν)Cᵀu* ∈ ∂f(x*)`, `(1/ν)u* ∈ ∂g(Cx*)` -/
theorem C03_ladmm_fixed (p : LADMMParams ℝ X Z) (F : Fn X) (G : Fn Z)
    (hf : IsProx F p.proxf) (hg : IsProx G p.proxg) (hmu : 0 < p.mu) (hnu : 0 < p.nu) (xs : X) (us : Z)
    (h1 : F.Subgrad xs (-((1 / p.nu) • p.Cadj us))) (h2 : G.Subgrad (p.C xs) ((1 / p.nu) • us)) :
    ladmmSpecStep p { x := xs, z := p.C xs, zOld := p.C xs, u := us }
      = { x := xs, z := p.C xs, zOld := p.C xs, u := us } := by
  have hx : p.proxf p.mu (xs - (p.mu / p.nu) • p.Cadj (p.C xs - p.C xs + us)) = xs := by
    rw [sub_self, zero_add]
    exact hf.fixed_sub_smul hmu h1 (mul_one_div _ _).symm
  have hz : p.proxg p.nu (p.C xs + us) = p.C xs :=
    hg.fixed_of_eq hnu h2 (by rw [smul_smul, mul_one_div_cancel hnu.ne', one_smul])
  unfold ladmmSpecStep
  simp only [hx, hz, add_sub_cancel_right]

/-- linearized ADMM for `min ½‖x − y0‖² + 0`, `C = id`: the KKT point is `(y0, y0, 0)` and
    `C03_ladmm_fixed` applies (the step really is the identity there, while it moves other points) -/
example (y0 : X) :
    let p : LADMMParams ℝ X X :=
      { f := fun x => 1 / 2 * ‖x - y0‖ ^ 2, g := fun _ => 0,
        proxf := fun lam v => (1 / (1 + lam)) • (v + lam • y0), proxg := fun _ v => v,
        C := id, Cadj := id, mu := 1 / 2, nu := 1, normX := fun v => ‖v‖, normZ := fun v => ‖v‖ }
    ladmmSpecStep p { x := y0, z := y0, zOld := y0, u := 0 } = { x := y0, z := y0, zOld := y0, u := 0 } :=
  have H := exLADMM_hyp y0
  C03_ladmm_fixed (exLADMM y0) (halfSq y0) zeroFn H.proxf H.proxg H.mu H.nu y0 0 H.kktx H.kktz

/-- proximal ADMM with general `B`, `c`: `Ax* + Bz* = c`, `−ρAᵀu* ∈ ∂f(x*)`, `−ρBᵀu* ∈ ∂g(z*)` -/
theorem C03_padmm_fixed (p : PADMMParams ℝ X Z U) (F : Fn X) (G : Fn Z)
    (hf : IsProx F p.proxf) (hg : IsProx G p.proxg) (hrho : 0 < p.rho) (hmu : 0 < p.mu) (hnu : 0 < p.nu)
    (xs : X) (zs : Z) (us : U) (hfeas : p.A xs + p.B zs = p.c)
    (h1 : F.Subgrad xs (-(p.rho • p.AH us))) (h2 : G.Subgrad zs (-(p.rho • p.BH us))) :
    padmmSpecStep p { x := xs, z := zs, zOld := zs, u := us, uOld := us }
      = { x := xs, z := zs, zOld := zs, u := us, uOld := us } :=
  padmm_fixed p F G hf hg hrho hmu hnu xs zs us hfeas h1 h2

/-- proximal ADMM with the constructor defaults `B = −I`, `c = 0` -/
theorem C03_padmm_default_fixed (p : PADMMParams ℝ X U U) (F : Fn X) (G : Fn U)
    (hf : IsProx F p.proxf) (hg : IsProx G p.proxg) (hrho : 0 < p.rho) (hmu : 0 < p.mu) (hnu : 0 < p.nu)
    (hB : p.B = padmmDefaultB.1) (hBH : p.BH = padmmDefaultB.2) (hc : p.c = padmmC none) (xs : X) (us : U)
    (h1 : F.Subgrad xs (-(p.rho • p.AH us))) (h2 : G.Subgrad (p.A xs) (p.rho • us)) :
    padmmSpecStep p { x := xs, z := p.A xs, zOld := p.A xs, u := us, uOld := us }
      = { x := xs, z := p.A xs, zOld := p.A xs, u := us, uOld := us } := by
  apply padmm_fixed p F G hf hg hrho hmu hnu
  · rw [hB, hc]; simp [padmmDefaultB, padmmC]
  · exact h1
  · rw [hBH]; simpa [padmmDefaultB] using h2

/-- non-linear proximal ADMM: `H(x*,z*) = 0`, stationarity through the Jacobians at the point -/
theorem C03_nlpadmm_fixed (p : NLPADMMParams ℝ X Z U) (F : Fn X) (G : Fn Z)
    (hf : IsProx F p.proxf) (hg : IsProx G p.proxg) (hrho : 0 < p.rho) (hmu : 0 < p.mu) (hnu : 0 < p.nu)
    (xs : X) (zs : Z) (us : U) (hfeas : p.H xs zs = 0)
    (h1 : F.Subgrad xs (-(p.rho • p.JxH xs zs us))) (h2 : G.Subgrad zs (-(p.rho • p.JzH xs zs us))) :
    nlpadmmSpecStep p { x := xs, z := zs, zOld := zs, u := us, uOld := us }
      = { x := xs, z := zs, zOld := zs, u := us, uOld := us } := by
  have hx : p.proxf (p.rho⁻¹ * p.mu⁻¹) (xs - p.mu⁻¹ • p.JxH xs zs ((2 : ℝ) • us - us)) = xs := by
    rw [two_smul, add_sub_cancel_right]
    exact hf.fixed_inv_mul hrho hmu h1
  have hz : p.proxg (p.rho⁻¹ * p.nu⁻¹) (zs - p.nu⁻¹ • p.JzH xs zs us) = zs := hg.fixed_inv_mul hrho hnu h2
  unfold nlpadmmSpecStep
  simp only [hx, hfeas, zero_add, hz, add_zero]

/-- PDHG, linear and non-linear `C`, any `alpha`: saddle point `−Cᵀz* ∈ ∂f(x*)` (resp. `−[JC(x*)]ᵀz*`),
    `z* ∈ ∂g(Cx*)`, with `conj_prox` computed through `g.prox` as the code does -/
theorem C03_pdhg_fixed (p : PDHGParams ℝ X Z) (F : Fn X) (G : Fn Z) (proxg : ℝ → Z → Z)
    (hf : IsProx F p.proxf) (hg : IsProx G proxg)
    (hconj : ∀ lam v, p.proxgConj lam v = v - lam • proxg (1 / lam) ((1 / lam) • v))
    (htau : 0 < p.tau) (hsig : 0 < p.sigma) (xs : X) (zs : Z)
    (h1 : F.Subgrad xs (-(match p.linear with
      | true => p.Cadj zs
      | false => p.JCadj xs zs)))
    (h2 : G.Subgrad (p.C xs) zs) :
    pdhgSpecStep p { x := xs, xOld := xs, z := zs, zOld := zs }
      = { x := xs, xOld := xs, z := zs, zOld := zs } :=
  pdhg_fixed p F hf htau xs zs h1 (by rw [hconj]; exact conjProx_fixed hg hsig h2)

/-- the same with the contract stated on the conjugate: `Cx* ∈ ∂g*(z*)` -/
theorem C03_pdhg_fixed_conj (p : PDHGParams ℝ X Z) (F : Fn X) (Gc : Fn Z)
    (hf : IsProx F p.proxf) (hg : IsProx Gc p.proxgConj) (htau : 0 < p.tau) (hsig : 0 < p.sigma)
    (xs : X) (zs : Z)
    (h1 : F.Subgrad xs (-(match p.linear with
      | true => p.Cadj zs
      | false => p.JCadj xs zs)))
    (h2 : Gc.Subgrad zs (p.C xs)) :
    pdhgSpecStep p { x := xs, xOld := xs, z := zs, zOld := zs }
      = { x := xs, xOld := xs, z := zs, zOld := zs } :=
  pdhg_fixed p F hf htau xs zs h1 (hg.fixed hsig h2)

/-- PGM with any step-size hook returning a positive `L`: `−∇f(x*) ∈ ∂g(x*)` ⇒ `x` unchanged, residual 0 -/
theorem C03_pgm_fixed {σ : Type} (p : PGMParams σ ℝ X) (G : Fn X) (hg : IsProx G p.proxg)
    (hnorm : p.normX = fun v => ‖v‖) (s : PGMState σ ℝ X)
    (hL : 0 < (p.pol.update s.mem s.L s.x s.x).1) (h : G.Subgrad s.x (-(p.gradf s.x))) :
    (pgmSpecStep p s).x = s.x ∧ (pgmSpecStep p s).fpr = 0 :=
  pgm_fixed p G hg hnorm s hL h

attribute [local instance] realHasSqrt

/-- accelerated PGM started at `x = v = x*` keeps `x` and `v` (the momentum counter advances) -/
theorem C03_apgm_fixed {σ : Type} (p : PGMParams σ ℝ X) (G : Fn X) (hg : IsProx G p.proxg)
    (hnorm : p.normX = fun v => ‖v‖) (s : APGMState σ ℝ X) (hv : s.v = s.x) (hk : p.pol.kind ≠ .robust)
    (hL : ∀ a, 0 < (p.pol.update s.mem s.L s.x a).1) (h : G.Subgrad s.x (-(p.gradf s.x))) :
    (apgmSpecStep p s).x = s.x ∧ (apgmSpecStep p s).v = s.x ∧ (apgmSpecStep p s).fpr = 0 := by
  obtain ⟨a, e⟩ := apgmSpecStep_of_not_robust p s hk
  rw [e]
  simp only [hv, hg.fixed_sub (inv_pos.2 (hL a)) h, sub_self, smul_zero, add_zero, hnorm, norm_zero, and_self]

/-- the parameter ranges printed in the class docstrings (pinned strings of `Model/StepsSource.lean`, compared with the working
    tree by the generated obligation `Scico.Generated.StepsTables.constraints_ok` on every run).  The hypotheses of the theorems of
    this file take their ranges from these: `LADMMHyp.bd`, `PADMMHyp.bdA/bdB` in non-strict form (`≤`, `≥` where the docstrings
    print `<`, `>`), `LADMMConvHyp.strict`, `PADMMConvHyp.strictA/strictB` strictly, PDHG in `PDHGRange` (`τσL² ≤ θ² < 1`) and
    `PDHGRangeA` (`τσL² ≤ 1`, `α ∈ [0,1]`; `PDHGHyp` / `PDHGHypA` hold no range), `L ≥ K(∇f)` as `DescentLemma`.  The comparison
    of the hypotheses with the strings is the reader's, no Lean term relates them -/
theorem C03_documented_constraints : Scico.Steps.Source.DocumentedConstraints := Scico.Steps.Source.documented_constraints

/-- PGM, `L ≥` Lipschitz constant (co-coercive gradient, descent lemma): one step does not increase the
    distance to any minimiser and decreases the objective by at least `(L/2)‖x⁺ − x‖²` -/
theorem C03_pgm_monotone {f : X → ℝ} {grad : X → X} {prox : ℝ → X → X} {G : Fn X} (hp : IsProx G prox)
    {L : ℝ} (hL : 0 < L) (hco : CoCoercive grad L) (hd : DescentLemma f grad L) {xs : X}
    (hk : G.Subgrad xs (-(grad xs))) (x : X) (hx : x ∈ G.dom) :
    ‖pgStep grad prox L x - xs‖ ≤ ‖x - xs‖ ∧
    f (pgStep grad prox L x) + G.val (pgStep grad prox L x) ≤ f x + G.val x - L / 2 * ‖pgStep grad prox L x - x‖ ^ 2 :=
  ⟨pgStep_dist hp hL hco hk x, pgStep_objective hp hL hd hx⟩

/-- PGM, `L ≥` Lipschitz constant: the distance to any minimiser is non-increasing along the whole trajectory of the documented
    iteration (base step-size object) -/
theorem C03_pgm_monotone_traj (p : PGMParams Unit ℝ X) {G : Fn X} {L : ℝ} (h : PGMHyp p G L) {xs : X}
    (hk : G.Subgrad xs (-(p.gradf xs))) (s : PGMState Unit ℝ X) (hsL : s.L = L) (k : Nat) :
    ‖(iter (pgmSpecStep p) (k + 1) s).x - xs‖ ≤ ‖(iter (pgmSpecStep p) k s).x - xs‖ := by
  rw [pgm_iter_succ_x p h s hsL k]
  exact pgStep_dist h.prox h.Lpos h.coco hk _

/-- PGM: the objective is non-increasing along the whole trajectory (base step-size object, `L ≥` Lipschitz constant) -/
theorem C03_pgm_objective_traj (p : PGMParams Unit ℝ X) {G : Fn X} {L : ℝ} (h : PGMHyp p G L)
    (hd : DescentLemma p.f p.gradf L) (s : PGMState Unit ℝ X) (hsL : s.L = L) (k : Nat) :
    p.f (iter (pgmSpecStep p) (k + 2) s).x + G.val (iter (pgmSpecStep p) (k + 2) s).x
      ≤ p.f (iter (pgmSpecStep p) (k + 1) s).x + G.val (iter (pgmSpecStep p) (k + 1) s).x := by
  have hdom : (iter (pgmSpecStep p) (k + 1) s).x ∈ G.dom := by
    rw [pgm_iter_succ_x p h s hsL k]
    exact (h.prox L⁻¹ (inv_pos.2 h.Lpos) _).1
  have := pgStep_objective h.prox h.Lpos hd hdom
  rw [← pgm_iter_succ_x p h s hsL (k + 1)] at this
  have h0 : 0 ≤ L / 2 * ‖(iter (pgmSpecStep p) (k + 1 + 1) s).x - (iter (pgmSpecStep p) (k + 1) s).x‖ ^ 2 :=
    mul_nonneg (div_nonneg h.Lpos.le zero_le_two) (sq_nonneg _)
  linarith

/-- PGM with an ARBITRARY step-size hook (BB, adaptive BB, line searches, user objects): if the value `L` it returns at
    this state is `≥` the Lipschitz constant `L_f`, the documented step does not increase the distance to any minimiser
    and decreases the objective by at least `(L/2)‖x⁺ − x‖²` -/
theorem C03_pgm_monotone_anyhook {σ : Type} (p : PGMParams σ ℝ X) {G : Fn X} (hp : IsProx G p.proxg) {Lf : ℝ}
    (hLf : 0 < Lf) (hco : CoCoercive p.gradf Lf) (hd : DescentLemma p.f p.gradf Lf) (s : PGMState σ ℝ X)
    (hL : Lf ≤ (p.pol.update s.mem s.L s.x s.x).1) {xs : X} (hk : G.Subgrad xs (-(p.gradf xs))) :
    ‖(pgmSpecStep p s).x - xs‖ ≤ ‖s.x - xs‖ ∧
    (s.x ∈ G.dom → p.f (pgmSpecStep p s).x + G.val (pgmSpecStep p s).x
      ≤ p.f s.x + G.val s.x - (pgmSpecStep p s).L / 2 * ‖(pgmSpecStep p s).x - s.x‖ ^ 2) := by
  have hLpos := hLf.trans_le hL
  -- `(pgmSpecStep p s).x` is `pgStep` at the `L` the hook returns, by definition
  exact ⟨pgStep_dist hp hLpos (coCoercive_mono hLf hL hco) hk s.x,
    fun hdom => pgStep_objective hp hLpos (descent_mono hL hd) hdom⟩

-- an adaptive hook that doubles `L` (so `L ≥ L_f = 1` from `L_0 = 1` on) meets the hypothesis of `C03_pgm_monotone_anyhook`
example (y0 : X) (s : PGMState Unit ℝ X) (hs : 1 ≤ s.L) :
    let p : PGMParams Unit ℝ X := { exPGM y0 with pol := { kind := .bb, update := fun m L _ _ => (2 * L, m), getZ := fun _ => 0 } }
    (1 : ℝ) ≤ (p.pol.update s.mem s.L s.x s.x).1 := by
  intro p; show (1 : ℝ) ≤ 2 * s.L; linarith

/-- linear rate for strongly convex `f` (every `k`, every start) -/
theorem C03_pgm_contract (p : PGMParams Unit ℝ X) {G : Fn X} {L m : ℝ} (h : PGMHyp p G L)
    (hm : StronglyMonotone p.gradf m) (hmL : m ≤ L) {xs : X} (hk : G.Subgrad xs (-(p.gradf xs)))
    (s : PGMState Unit ℝ X) (hsL : s.L = L) (k : Nat) :
    ‖(iter (pgmSpecStep p) k s).x - xs‖ ^ 2 ≤ (1 - m / L) ^ k * ‖s.x - xs‖ ^ 2 := by
  have hq : 0 ≤ 1 - m / L := sub_nonneg.2 ((div_le_one h.Lpos).2 hmL)
  induction k with
  | zero => simp [iter]
  | succ k ih =>
    rw [pgm_iter_succ_x p h s hsL k, pow_succ' (1 - m / L) k, mul_assoc]
    exact (pgStep_dist_sq h.prox h.Lpos h.coco hm hk _).trans (mul_le_mul_of_nonneg_left ih hq)

/-- PGM, strongly convex `f`: `minimizer()` of the iterates converges to the (unique) minimiser from every start -/
theorem C03_pgm_converges (p : PGMParams Unit ℝ X) {G : Fn X} {L m : ℝ} (h : PGMHyp p G L)
    (hm : StronglyMonotone p.gradf m) (hm0 : 0 < m) (hmL : m ≤ L) {xs : X}
    (hk : G.Subgrad xs (-(p.gradf xs))) (s : PGMState Unit ℝ X) (hsL : s.L = L) :
    Filter.Tendsto (fun k => pgmMinimizer (iter (pgmSpecStep p) k s)) Filter.atTop (nhds xs) ∧
    (∀ ys, G.Subgrad ys (-(p.gradf ys)) → ys = xs) := by
  refine ⟨?_, fun _ hy => pgm_kkt_unique h.prox h.Lpos h.coco hm hm0 hy hk⟩
  -- `‖x_k − x*‖² ≤ (1 − m/L)^k ‖x_0 − x*‖²` and `0 ≤ 1 − m/L < 1`
  have hb := (tendsto_pow_atTop_nhds_zero_of_lt_one (sub_nonneg.2 ((div_le_one h.Lpos).2 hmL))
    (sub_lt_self 1 (div_pos hm0 h.Lpos))).mul_const (‖s.x - xs‖ ^ 2)
  rw [zero_mul] at hb
  rw [tendsto_iff_norm_sub_tendsto_zero]
  exact tendsto_zero_of_sq_le (fun _ => norm_nonneg _) (fun k => C03_pgm_contract p h hm hmL hk s hsL k) hb

/-- the hypotheses hold for quadratics `f x = ½⟪Hx,x⟫ − ⟪b,x⟫`, `H` symmetric, `m ≤ H ≤ L`
    (weighted squared-ℓ2 loss: `H = 2α AᴴWA`, `b = 2α AᴴWy`) -/
theorem C03_quadratic_hyp (H : X → X) (b : X) (hadd : ∀ x y, H (x + y) = H x + H y)
    (hsmul : ∀ (c : ℝ) x, H (c • x) = c • H x) (hsym : ∀ x y, inner ℝ (H x) y = inner ℝ x (H y))
    {L m : ℝ} (hL : 0 < L) (hm : 0 ≤ m) (hlb : ∀ x, m * ‖x‖ ^ 2 ≤ inner ℝ (H x) x)
    (hub : ∀ x, inner ℝ (H x) x ≤ L * ‖x‖ ^ 2) :
    CoCoercive (fun x => H x - b) L ∧
    DescentLemma (fun x => 1 / 2 * inner ℝ (H x) x - inner ℝ b x) (fun x => H x - b) L ∧
    StronglyMonotone (fun x => H x - b) m := by
  have hpsd : ∀ x, 0 ≤ inner ℝ (H x) x := fun x => le_trans (by positivity) (hlb x)
  exact ⟨quad_coco H b hadd hsmul hsym hpsd hL hub, quad_descent H b hadd hsym hub, quad_strong H b hadd hlb⟩

-- the PGM hypotheses hold for `H = h·id`, `0 < h`, with `m = L = h`
example (h : ℝ) (hh : 0 < h) (b : X) :
    CoCoercive (fun x : X => h • x - b) h ∧ StronglyMonotone (fun x : X => h • x - b) h := by
  have := C03_quadratic_hyp (fun x : X => h • x) b (fun x y => smul_add h x y)
    (fun c x => smul_comm h c x) (fun x y => by rw [real_inner_smul_left, real_inner_smul_right])
    hh hh.le (fun x => by rw [real_inner_smul_left, real_inner_self_eq_norm_sq])
    (fun x => by rw [real_inner_smul_left, real_inner_self_eq_norm_sq])
  exact ⟨this.1, this.2.2⟩

/-- FISTA momentum: `t₊² − t₊ = t²`, and `t_k ≥ t_0 + k/2` along the accelerated iteration
    (from `t_0 = 1`: `t_k ≥ (k+2)/2`) -/
theorem C03_fista_t {σ : Type} (p : PGMParams σ ℝ X) (hk : p.pol.kind ≠ .robust) (k : Nat)
    (s : APGMState σ ℝ X) (hs : 0 ≤ s.t) :
    s.t + k / 2 ≤ (iter (apgmSpecStep p) k s).t ∧ fistaTImpl s.t ^ 2 - fistaTImpl s.t = s.t ^ 2 ∧
    (apgmSpecStep p s).t = fistaTImpl s.t :=
  ⟨apgm_t_lower p hk k s, fistaT_identity s.t, apgm_t_step p s hk⟩

-- FISTA from t₀ = 1: t₁ = (1+√5)/2 ≥ 3/2
example : (3 : ℝ) / 2 ≤ fistaTImpl 1 := by
  have := fistaT_ge 1
  linarith

/-- the FISTA potential `E = 2t(t−1)(F(x) − F(x̄)) + L‖t v − (t−1) x − x̄‖²` (in the variables of the public state) does
    not increase in one documented iteration whenever `t ≥ 1` (true on every reachable state) -/
theorem C03_fista_potential (p : PGMParams Unit ℝ X) {G : Fn X} {L : ℝ} (h : FISTAHyp p G L) (xb : X)
    (hxb : xb ∈ G.dom) (s : APGMState Unit ℝ X) (hsL : s.L = L) (ht : 1 ≤ s.t) (hdom : s.x ∈ G.dom ∨ s.t = 1) :
    fistaE p G L xb (apgmSpecStep p s) ≤ fistaE p G L xb s ∧
    (apgmSpecStep p s).x ∈ G.dom ∧ 1 ≤ (apgmSpecStep p s).t ∧ (apgmSpecStep p s).L = L :=
  fista_potential_step p h xb hxb s hsL ht hdom

/-- accelerated PGM = FISTA (Beck–Teboulle 2009, Thm 4.4) for the documented iteration with the base step-size object,
    `L ≥` Lipschitz constant, convex `f`: from the constructor state (`v = x_0`, `t = 1`), for every `k` and every
    comparison point `x̄ ∈ dom g` (in particular a minimiser): `F(x_{k+1}) − F(x̄) ≤ 2L‖x_0 − x̄‖²/(k+2)²` -/
theorem C03_fista_rate (p : PGMParams Unit ℝ X) {G : Fn X} {L : ℝ} (h : FISTAHyp p G L) (xb : X) (hxb : xb ∈ G.dom)
    (s : APGMState Unit ℝ X) (hsL : s.L = L) (ht : s.t = 1) (hv : s.v = s.x) (k : Nat) :
    (p.f (iter (apgmSpecStep p) (k + 1) s).x + G.val (iter (apgmSpecStep p) (k + 1) s).x) - (p.f xb + G.val xb)
      ≤ 2 * L * ‖s.x - xb‖ ^ 2 / ((k : ℝ) + 2) ^ 2 :=
  fista_rate p h xb hxb s hsL ht hv k

example (y0 : X) : FISTAHyp (exPGM y0) zeroFn 1 := exPGM_fista y0

-- the FISTA bound on the instance: F(x_{k+1}) − F(y0) ≤ 2‖x_0 − y0‖²/(k+2)²
example (y0 x0 : X) (k : Nat) :
    1 / 2 * ‖(iter (apgmSpecStep (exPGM y0)) (k + 1) (apgmInit 1 0 x0 ())).x - y0‖ ^ 2
      ≤ 2 * 1 * ‖x0 - y0‖ ^ 2 / ((k : ℝ) + 2) ^ 2 := by
  have := C03_fista_rate (exPGM y0) (exPGM_fista y0) y0 trivial (apgmInit 1 0 x0 ()) rfl rfl rfl k
  -- `F(y0) = ½‖y0 − y0‖² + 0 = 0`, `g = 0`
  have e : (exPGM y0).f y0 + (zeroFn : Fn X).val y0 = 0 := by
    show 1 / 2 * ‖y0 - y0‖ ^ 2 + 0 = 0
    rw [sub_self, norm_zero]; norm_num
  rw [e, sub_zero] at this
  exact (add_zero _).ge.trans this

/-- AcceleratedPGM, `m`-strongly convex `f`: `‖x_{k+1} − x*‖² ≤ 4L‖x_0 − x*‖²/(m (k+2)²)` for every `k`, hence
    `minimizer() → x*` from every start -/
theorem C03_fista_converges (p : PGMParams Unit ℝ X) {G : Fn X} {L m : ℝ} (h : FISTAHyp p G L) (hm : 0 < m)
    (hs : GradStrongConvex p.f p.gradf m) {xs : X} (hk : G.Subgrad xs (-(p.gradf xs)))
    (s : APGMState Unit ℝ X) (hsL : s.L = L) (ht : s.t = 1) (hv : s.v = s.x) :
    (∀ k : Nat, ‖(iter (apgmSpecStep p) (k + 1) s).x - xs‖ ^ 2 ≤ 4 * L * ‖s.x - xs‖ ^ 2 / (m * ((k : ℝ) + 2) ^ 2)) ∧
    Filter.Tendsto (fun k => apgmMinimizer (iter (apgmSpecStep p) k s)) Filter.atTop (nhds xs) :=
  ⟨fun k => fista_x_rate p h hm hs hk s hsL ht hv k, by
    rw [← Filter.tendsto_add_atTop_iff_nat 1, tendsto_iff_norm_sub_tendsto_zero]
    exact tendsto_zero_of_sq_le (fun k => norm_nonneg _)
      (fun k => (fista_x_rate p h hm hs hk s hsL ht hv k).trans (div_mul_eq_div_div _ _ _).le) (tendsto_const_div_sq _)⟩

-- strong convexity of the instance in function form
example (y0 : X) : GradStrongConvex (exPGM y0).f (exPGM y0).gradf 1 := fun x y => (halfSq_expand y0 x y).ge

/-- AcceleratedPGM with the library's `t` rule `t⁺ = (1 + √(1 + 4t²))/2`, MERELY CONVEX `f` (convergence of the whole sequence
    of iterates is an open problem for this rule).  From the constructor state, for EVERY minimiser `x*` of `f + g`:
    every iterate lies in the closed ball of radius `‖x_0 − x*‖` around `x*`, and every iterate after the first is in `dom g` -/
theorem C03_fista_iterates_ball (p : PGMParams Unit ℝ X) {G : Fn X} {L : ℝ} (h : FISTAHyp p G L) {xb : X}
    (hmin : IsMinOn p.f G xb) (s : APGMState Unit ℝ X) (hsL : s.L = L) (ht : s.t = 1) (hv : s.v = s.x) (k : Nat) :
    ‖apgmMinimizer (iter (apgmSpecStep p) k s) - xb‖ ≤ ‖s.x - xb‖ ∧ (iter (apgmSpecStep p) (k + 1) s).x ∈ G.dom :=
  ⟨fista_ball p h hmin s hsL ht hv k, fista_iter_dom p h hmin.1 s hsL ht k⟩

/-- AcceleratedPGM, merely convex `f`, `f + g` with closed sub-level sets (a closed function): every cluster point of the iterates is a minimiser; in
    finite dimensions (arrays) some subsequence converges to a minimiser -/
theorem C03_fista_cluster_points [FiniteDimensional ℝ X] (p : PGMParams Unit ℝ X) {G : Fn X} {L : ℝ} (h : FISTAHyp p G L)
    {xb : X} (hmin : IsMinOn p.f G xb) (hcl : ClosedSublevels p.f G)
    (s : APGMState Unit ℝ X) (hsL : s.L = L) (ht : s.t = 1) (hv : s.v = s.x) :
    (∀ (φ : ℕ → ℕ), StrictMono φ → ∀ xc : X,
      Filter.Tendsto (fun k => apgmMinimizer (iter (apgmSpecStep p) (φ k) s)) Filter.atTop (nhds xc) → IsMinOn p.f G xc) ∧
    (∃ xc, IsMinOn p.f G xc ∧ ∃ φ : ℕ → ℕ, StrictMono φ ∧
      Filter.Tendsto (fun k => apgmMinimizer (iter (apgmSpecStep p) (φ k) s)) Filter.atTop (nhds xc)) := by
  have := FiniteDimensional.proper_real X
  exact ⟨fun φ hφ xc hlim => fista_cluster_min p h hmin hcl s hsL ht hv φ hφ xc hlim,
    fista_subseq p h hmin hcl s hsL ht hv⟩

/-- AcceleratedPGM, closed `f + g` with a UNIQUE minimiser: the whole sequence `minimizer()` converges to it (finite dimensions, `f` merely
    convex: no strong convexity of `f` or `g`) -/
theorem C03_fista_merely_convex_converges [FiniteDimensional ℝ X] (p : PGMParams Unit ℝ X) {G : Fn X} {L : ℝ}
    (h : FISTAHyp p G L) {xb : X} (hmin : IsMinOn p.f G xb) (huniq : ∀ y, IsMinOn p.f G y → y = xb)
    (hcl : ClosedSublevels p.f G) (s : APGMState Unit ℝ X) (hsL : s.L = L) (ht : s.t = 1) (hv : s.v = s.x) :
    Filter.Tendsto (fun k => apgmMinimizer (iter (apgmSpecStep p) k s)) Filter.atTop (nhds xb) := by
  have := FiniteDimensional.proper_real X
  exact fista_unique_tendsto p h hmin huniq hcl s hsL ht hv

-- the hypotheses of the merely-convex FISTA statements on the instance (minimiser y0, unique, closed sub-level sets), and
-- their conclusion there
example (y0 : X) : IsMinOn (exPGM y0).f (zeroFn : Fn X) y0 ∧ (∀ y, IsMinOn (exPGM y0).f (zeroFn : Fn X) y → y = y0) ∧
    ClosedSublevels (exPGM y0).f (zeroFn : Fn X) := ⟨exPGM_isMin y0, exPGM_unique y0, exPGM_closed y0⟩

example [FiniteDimensional ℝ X] (y0 x0 : X) :
    Filter.Tendsto (fun k => apgmMinimizer (iter (apgmSpecStep (exPGM y0)) k (apgmInit 1 0 x0 ()))) Filter.atTop (nhds y0) :=
  C03_fista_merely_convex_converges (exPGM y0) (exPGM_fista y0) (exPGM_isMin y0) (exPGM_unique y0) (exPGM_closed y0)
    (apgmInit 1 0 x0 ()) rfl rfl rfl

/-- ADMM Lyapunov descent (Boyd et al. §3.3), `N` constraints, `alpha = 1`.  The constraints and the
    per-constraint parts of the state / KKT point are bundled in rows `(c, z, u, u*)`.  From a
    dual-feasible state (`ρ_i u_i ∈ ∂g_i(z_i)`, true after every step) one documented iteration gives
    `V⁺ + Σ ρ_i(‖C_i x⁺ − z_i⁺‖² + ‖z_i⁺ − z_i‖²) ≤ V` for `V = Σ ρ_i(‖u_i − u_i*‖² + ‖z_i − C_i x*‖²)`,
    and the new state is dual feasible again. -/
theorem C03_admm_lyapunov (rows : List (Row X Z)) (f : Option (X → ℝ)) (solveX : List Z → List Z → X → X)
    (F : Fn X)
    (hsolve : ∀ z u x0, F.Subgrad (solveX z u x0) (xGrad (rows.map (·.c)) z u (solveX z u x0)))
    (xs : X) (hok : ∀ r ∈ rows, RowOK xs r)
    (hkx : F.Subgrad xs (xGrad (rows.map (·.c)) (rows.map (fun r => r.c.C xs)) (rows.map (·.us)) xs))
    (x : X) (zOld : List Z) :
    let xn := solveX (rows.map (·.z)) (rows.map (·.u)) x
    admmSpecStep (admmOfCons f 1 solveX (rows.map (·.c)))
        { x := x, z := rows.map (·.z), zOld := zOld, u := rows.map (·.u) }
      = { x := xn, z := rows.map (fun r => r.zn xn), zOld := rows.map (·.z), u := rows.map (fun r => r.un xn) } ∧
    (∀ r ∈ rows, r.c.G.Subgrad (r.zn xn) (r.c.rho • r.un xn)) ∧
    rowsV xs rows (fun r => r.zn xn) (fun r => r.un xn)
        + (rows.map (fun r => r.c.rho * (‖r.c.C xn - r.zn xn‖ ^ 2 + ‖r.zn xn - r.z‖ ^ 2))).sum
      ≤ rowsV xs rows (·.z) (·.u) :=
  admm_lyapunov_rows rows f solveX F hsolve xs hok hkx x zOld

/-- the hypotheses of `C03_admm_lyapunov` are satisfiable: two rows with `C = id`, `g_i = 0`,
    `f = ½‖· − y0‖²`, exact x-update `x = (y0 + Σρ_i(z_i − u_i))/(1 + Σρ_i)`, KKT point `(y0, u* = 0)` -/
example (y0 z1 z2 : X) :
    let c1 : Con X X := { rho := 1, C := id, Cadj := id, G := Fn.ofReal (fun _ => 0), g := fun _ => 0, prox := fun _ v => v }
    let c2 : Con X X := { rho := 2, C := id, Cadj := id, G := Fn.ofReal (fun _ => 0), g := fun _ => 0, prox := fun _ v => v }
    let rows : List (Row X X) := [{ c := c1, z := z1, u := 0, us := 0 }, { c := c2, z := z2, u := 0, us := 0 }]
    ∀ r ∈ rows, RowOK y0 r := by
  intro c1 c2 rows r hr
  simp only [rows, List.mem_cons, List.not_mem_nil, or_false] at hr
  rcases hr with rfl | rfl
  · exact (idCon_base 1 one_pos y0 z1 0).ok (zeroFn_kkt _ (smul_zero _))
  · exact (idCon_base 2 two_pos y0 z2 0).ok (zeroFn_kkt _ (smul_zero _))

/-- ADMM, `alpha = 1`, from a dual-feasible state: `V_k ≤ V_0` for every `k` along the trajectory of the documented iteration -/
theorem C03_admm_lyapunov_traj (cons : List (Con X Z)) (uss : List Z) (f : Option (X → ℝ))
    (solveX : List Z → List Z → X → X) (F : Fn X)
    (hsolve : ∀ z u x0, F.Subgrad (solveX z u x0) (xGrad cons z u (solveX z u x0)))
    (xs : X) (hkx : F.Subgrad xs (xGrad cons (cons.map (fun c => c.C xs)) uss xs)) (k : Nat)
    (rows : List (Row X Z)) (x : X) (zOld : List Z)
    (hc : rows.map (·.c) = cons) (hu : rows.map (·.us) = uss) (hok : ∀ r ∈ rows, RowOK xs r) :
    ∃ (rows' : List (Row X Z)) (x' : X) (zOld' : List Z),
      iter (admmSpecStep (admmOfCons f 1 solveX cons)) k
          { x := x, z := rows.map (·.z), zOld := zOld, u := rows.map (·.u) }
        = { x := x', z := rows'.map (·.z), zOld := zOld', u := rows'.map (·.u) } ∧
      rows'.map (·.c) = cons ∧ rows'.map (·.us) = uss ∧ (∀ r ∈ rows', RowOK xs r) ∧
      rowsV xs rows' (·.z) (·.u) ≤ rowsV xs rows (·.z) (·.u) := by
  have hs : RS.OK xs cons uss ⟨rows, x, zOld⟩ := ⟨⟨hc, hu, fun r hr => (hok r hr).base⟩, fun r hr => (hok r hr).pre⟩
  have hk := RS.iter_ok 1 solveX k hs
  exact ⟨_, _, _, (RS.iter_eq 1 f solveX cons k ⟨rows, x, zOld⟩ hc).1, hk.hc, hk.hu,
    fun r hr => (hk.hb r hr).ok (hk.hpre r hr), (rowsV_descent hsolve hkx).le_start hs k⟩

/-- the single-constraint form with explicit vectors -/
theorem C03_admm_lyapunov_single (c : Con X Z) (f : Option (X → ℝ)) (solveX : List Z → List Z → X → X)
    (F : Fn X) (hsolve : ∀ z u x0, F.Subgrad (solveX z u x0) (xGrad [c] z u (solveX z u x0)))
    (hC : ∀ x y, c.C (x - y) = c.C x - c.C y) (hadj : ∀ w x, inner ℝ (c.Cadj w) x = inner ℝ w (c.C x))
    (hrho : 0 < c.rho) (hprox : IsProx c.G c.prox)
    (xs : X) (us : Z) (hkx : F.Subgrad xs (xGrad [c] [c.C xs] [us] xs)) (hkz : c.G.Subgrad (c.C xs) (c.rho • us))
    (x : X) (z zOld u : Z) (hpre : c.G.Subgrad z (c.rho • u)) :
    ∃ xn zn un,
      admmSpecStep (admmOfCons f 1 solveX [c]) { x := x, z := [z], zOld := [zOld], u := [u] }
        = { x := xn, z := [zn], zOld := [z], u := [un] } ∧
      c.G.Subgrad zn (c.rho • un) ∧
      c.rho * (‖un - us‖ ^ 2 + ‖zn - c.C xs‖ ^ 2) + c.rho * (‖c.C xn - zn‖ ^ 2 + ‖zn - z‖ ^ 2)
        ≤ c.rho * (‖u - us‖ ^ 2 + ‖z - c.C xs‖ ^ 2) :=
  admm_lyapunov_single c f solveX F hsolve hC hadj hrho hprox xs us hkx hkz x z zOld u hpre

/-- the un-relaxed Lyapunov function `V` of `C03_admm_lyapunov` from EVERY start: after the first iteration the
    state is dual feasible, so `V_{k+1} ≤ V_1` for all `k` -/
theorem C03_admm_lyapunov_anystart (cons : List (Con X Z)) (uss : List Z) (f : Option (X → ℝ))
    (solveX : List Z → List Z → X → X) (F : Fn X)
    (hsolve : ∀ z u x0, F.Subgrad (solveX z u x0) (xGrad cons z u (solveX z u x0)))
    (xs : X) (hkx : F.Subgrad xs (xGrad cons (cons.map (fun c => c.C xs)) uss xs)) (k : Nat)
    (s : RS X Z) (hb : RS.Base xs cons uss s) :
    ∃ (rows' : List (Row X Z)) (x' : X) (zOld' : List Z),
      iter (admmSpecStep (admmOfCons f 1 solveX cons)) (k + 1) s.state
        = { x := x', z := rows'.map (·.z), zOld := zOld', u := rows'.map (·.u) } ∧
      rows'.map (·.c) = cons ∧ rows'.map (·.us) = uss ∧ (∀ r ∈ rows', RowOK xs r) ∧
      rowsV xs rows' (·.z) (·.u) ≤ rowsV xs (s.next 1 solveX).rows (·.z) (·.u) := by
  have hok := RS.next_ok 1 solveX hb
  have h1 := RS.step_eq 1 f solveX s
  rw [hb.hc] at h1
  obtain ⟨rows', x', zOld', e, hc, hu, hr, hV⟩ :=
    C03_admm_lyapunov_traj cons uss f solveX F hsolve xs hkx k (s.next 1 solveX).rows (s.next 1 solveX).x
      (s.next 1 solveX).zOld hok.hc hok.hu (fun r hr => (hok.hb r hr).ok (hok.hpre r hr))
  refine ⟨rows', x', zOld', ?_, hc, hu, hr, hV⟩
  show iter _ k (admmSpecStep _ s.state) = _
  rw [h1]
  exact e

/-- ADMM with relaxation `alpha ≥ 0` (Eckstein–Bertsekas / Boyd §3.4.3), `N` constraints, `∂f` strongly monotone with
    modulus `m ≥ 0` (`m = 0`: plain convexity, `StrongSub F 0` holds for every `F`).  One documented iteration from
    a dual-feasible state (`ρ_i u_i ∈ ∂g_i(z_i)`, true after every step — second conjunct, which needs no
    assumption on the previous state): for `W = Σ ρ_i ‖(z_i + u_i) − (C_i x* + u_i*)‖²`,
    `W⁺ + α(2−α) Σ ρ_i ‖C_i x⁺ − z_i‖² + 2 α m ‖x⁺ − x*‖² ≤ W`. -/
theorem C03_admm_relax_lyapunov (alpha : ℝ) (ha : 0 ≤ alpha) (rows : List (Row X Z)) (f : Option (X → ℝ))
    (solveX : List Z → List Z → X → X) (F : Fn X) (m : ℝ) (hsm : StrongSub F m)
    (hsolve : ∀ z u x0, F.Subgrad (solveX z u x0) (xGrad (rows.map (·.c)) z u (solveX z u x0)))
    (xs : X) (hok : ∀ r ∈ rows, RowOK xs r)
    (hkx : F.Subgrad xs (xGrad (rows.map (·.c)) (rows.map (fun r => r.c.C xs)) (rows.map (·.us)) xs))
    (x : X) (zOld : List Z) :
    let xn := solveX (rows.map (·.z)) (rows.map (·.u)) x
    admmSpecStep (admmOfCons f alpha solveX (rows.map (·.c)))
        { x := x, z := rows.map (·.z), zOld := zOld, u := rows.map (·.u) }
      = { x := xn, z := rows.map (fun r => r.znA alpha xn), zOld := rows.map (·.z), u := rows.map (fun r => r.unA alpha xn) } ∧
    (∀ r ∈ rows, r.c.G.Subgrad (r.znA alpha xn) (r.c.rho • r.unA alpha xn)) ∧
    rowsW xs rows (fun r => r.znA alpha xn) (fun r => r.unA alpha xn)
        + alpha * (2 - alpha) * rowsQ rows xn + 2 * alpha * (m * ‖xn - xs‖ ^ 2)
      ≤ rowsW xs rows (·.z) (·.u) :=
  ⟨admm_relax_step_eq alpha rows f solveX x zOld,
   fun r hr => row_feasibleA alpha _ r (hok r hr).rho (hok r hr).prox,
   admm_relax_descent alpha ha rows solveX F m hsm hsolve xs hok hkx x⟩

/-- relaxed ADMM along whole trajectories from EVERY start `s` (any `x`, any lists `z`, `u` of the right length — bundled as
    rows, `exists_rows`): the model's iterates are the row iterates; from the first iterate on `W` is non-increasing
    and the decreases are summable (`Σ_j D_j + W_{k+1} ≤ W_1`, `0 ≤ α ≤ 2`). -/
theorem C03_admm_relax_traj {alpha m : ℝ} {cons : List (Con X Z)} {uss : List Z} {solveX : List Z → List Z → X → X}
    {F : Fn X} {xs : X} (H : RelaxHyp alpha m cons uss solveX F xs) (f : Option (X → ℝ)) (s : RS X Z)
    (hb : RS.Base xs cons uss s) (k : Nat) :
    iter (admmSpecStep (admmOfCons f alpha solveX cons)) k s.state = (iter (RS.next alpha solveX) k s).state ∧
    (iter (RS.next alpha solveX) (k + 2) s).W xs ≤ (iter (RS.next alpha solveX) (k + 1) s).W xs ∧
    (∑ j ∈ Finset.range k, (iter (RS.next alpha solveX) (j + 1) s).D alpha m xs solveX)
        + (iter (RS.next alpha solveX) (k + 1) s).W xs ≤ (iter (RS.next alpha solveX) 1 s).W xs :=
  ⟨(RS.iter_eq alpha f solveX cons k s hb.hc).1,
   (rowsW_descent H).mono (RS.next_ok alpha solveX hb) k,
   (rowsW_descent H).sum_le (RS.next_ok alpha solveX hb) k⟩

/-- every state with lists of the length of the constraint list is given by rows -/
theorem C03_admm_state_rows (cons : List (Con X Z)) (uss z u : List Z) (h1 : uss.length = cons.length)
    (h2 : z.length = cons.length) (h3 : u.length = cons.length) :
    ∃ rows : List (Row X Z), rows.map (·.c) = cons ∧ rows.map (·.us) = uss ∧ rows.map (·.z) = z ∧ rows.map (·.u) = u :=
  exists_rows cons uss z u h1 h2 h3

/-- `0 < α < 2`: the residual reported by `norm_primal_residual()` tends to `0` along every trajectory, and so does
    `Σ ρ_i ‖z_i^{k+1} − z_i^k‖²` (which bounds the dual residual `‖Σ ρ_i C_iᵀ(z_i^{k+1} − z_i^k)‖` for bounded `C_i`) -/
theorem C03_admm_residuals_tendsto {alpha m : ℝ} {cons : List (Con X Z)} {uss : List Z}
    {solveX : List Z → List Z → X → X} {F : Fn X} {xs : X} (H : RelaxHyp alpha m cons uss solveX F xs)
    (ha : 0 < alpha) (ha2 : alpha < 2) (f : Option (X → ℝ)) (s : RS X Z) (hb : RS.Base xs cons uss s) :
    Filter.Tendsto (fun k => admmNormPrimalImpl (admmOfCons f alpha solveX cons)
        (iter (admmSpecStep (admmOfCons f alpha solveX cons)) (k + 2) s.state) none) Filter.atTop (nhds 0) ∧
    Filter.Tendsto (fun k => (iter (RS.next alpha solveX) (k + 1) s).dzSq alpha solveX) Filter.atTop (nhds 0) := by
  have hok := RS.next_ok alpha solveX hb
  constructor
  · have h2 := (Real.continuous_sqrt.tendsto 0).comp (RS.primalSq_tendsto H ha ha2 hok)
    rw [Real.sqrt_zero] at h2
    refine h2.congr fun k => ?_
    have e := RS.iter_eq alpha f solveX cons (k + 2) s hb.hc
    rw [e.1]
    exact (RS.normPrimal_eq f alpha solveX _ e.2).symm
  · exact RS.dzSq_tendsto H ha ha2 hok

/-- ADMM with relaxation `alpha ∈ (0,2)` (setting of `C03_admm_residuals_tendsto`): the dual residual reported by
    `norm_dual_residual()`, `‖Σ ρ_i C_iᵀ(z_i^{k+1} − z_i^k)‖`, tends to 0 when the adjoints are bounded
    (`‖C_iᵀ w‖ ≤ B‖w‖`, automatic in finite dimension) -/
theorem C03_admm_dual_residual_tendsto {alpha m : ℝ} {cons : List (Con X Z)} {uss : List Z}
    {solveX : List Z → List Z → X → X} {F : Fn X} {xs : X} (H : RelaxHyp alpha m cons uss solveX F xs)
    (ha : 0 < alpha) (ha2 : alpha < 2) (f : Option (X → ℝ)) (Bd : ℝ) (hB : 0 ≤ Bd)
    (hbd : ∀ c ∈ cons, ∀ w, ‖c.Cadj w‖ ≤ Bd * ‖w‖) (s : RS X Z) (hb : RS.Base xs cons uss s) :
    Filter.Tendsto (fun k => admmNormDualImpl (admmOfCons f alpha solveX cons)
        (iter (admmSpecStep (admmOfCons f alpha solveX cons)) (k + 2) s.state)) Filter.atTop (nhds 0) := by
  have hok := RS.next_ok alpha solveX hb
  have h1 := RS.normDual_tendsto H ha ha2 f Bd hbd hok
  refine h1.congr (fun k => ?_)
  rw [(RS.iter_eq alpha f solveX cons (k + 2) s hb.hc).1]
  rfl

-- bounded adjoints of `C03_admm_dual_residual_tendsto` on the instance: `C_iᵀ = I`, `B = 1`
example : ∀ c ∈ ([1, 2].map idCon : List (Con X X)), ∀ w, ‖c.Cadj w‖ ≤ 1 * ‖w‖ :=
  List.forall_mem_map.2 fun _ _ w => (one_mul ‖w‖).ge

/-- strongly convex `f` (`m > 0`), `0 < α ≤ 2`: from EVERY start the point returned by `minimizer()` converges to the
    minimiser `x*` (limits being unique, `x*` is then the only point satisfying the hypotheses) -/
theorem C03_admm_converges {alpha m : ℝ} {cons : List (Con X Z)} {uss : List Z} {solveX : List Z → List Z → X → X}
    {F : Fn X} {xs : X} (H : RelaxHyp alpha m cons uss solveX F xs) (ha : 0 < alpha) (hm : 0 < m)
    (f : Option (X → ℝ)) (s : RS X Z) (hb : RS.Base xs cons uss s) :
    Filter.Tendsto (fun k => admmMinimizer (iter (admmSpecStep (admmOfCons f alpha solveX cons)) k s.state))
      Filter.atTop (nhds xs) := by
  have hok := RS.next_ok alpha solveX hb
  have h1 := RS.x_tendsto H ha hm hok
  rw [← Filter.tendsto_add_atTop_iff_nat 1]
  refine h1.congr (fun k => ?_)
  rw [(RS.iter_eq alpha f solveX cons (k + 1) s hb.hc).1]
  rfl

-- relaxed ADMM, two constraints, `α = 3/2`, strongly convex `f` (`m = 1`): all hypotheses of
-- `C03_admm_relax_traj / _residuals_tendsto / _converges` hold, for every start `(x, z_1, z_2, u_1, u_2)`
example (y0 x z1 z2 u1 u2 : X) :
    Filter.Tendsto (fun k => admmMinimizer (iter (admmSpecStep (admmOfCons none (3 / 2) (exSolveX y0 ([1, 2].map idCon))
        ([1, 2].map idCon))) k
        (RS.state ⟨[⟨idCon 1, z1, u1, 0⟩, ⟨idCon 2, z2, u2, 0⟩], x, []⟩))) Filter.atTop (nhds y0) := by
  have H := ex_relaxHyp y0 [1, 2] (by norm_num) (3 / 2) (by norm_num) (by norm_num)
  refine C03_admm_converges H (by norm_num) (by norm_num) none _ ⟨rfl, rfl, ?_⟩
  intro r hr
  simp at hr
  rcases hr with rfl | rfl
  · exact idCon_base 1 (by norm_num) y0 z1 u1
  · exact idCon_base 2 (by norm_num) y0 z2 u2

/-- the x-update of the LINEAR-SYSTEM family of ADMM sub-problem solvers (`LinearSubproblemSolver`, `MatrixSubproblemSolver`,
    `CircularConvolveSolver`, `FBlockCircularConvolveSolver`) meets the contract `XSolver` that the ADMM theorems of this file assume of
    `solveX`.  Transcription of `_admmaux.py`: `lhs_op = H + Σρ_i C_iᴴC_i` (`internal_init`, `H = 2·scale·AᴴWA`), `compute_rhs() =
    g0 + Σρ_i C_iᴴ(z_i − u_i)` (`g0 = 2·scale·AᴴWy`; `f = None`: `H = 0`, `g0 = 0`), `solve` returns `x` with `lhs_op x = rhs` (that the
    concrete CG / Cholesky / DFT solvers do so is C10 / C14).  With `f` differentiable, `∇f = H − g0` (a quadratic loss), additive
    `C_iᴴ` and injective `lhs_op`: `solveX` returns the stationary point of the x-sub-problem and that point is unique — so
    `C03_admm_fixed`, the Lyapunov / relaxed-`W` descent, residual and convergence theorems apply to these solvers; on the states the
    optimiser reaches (all lists of length `N`) the sum over the paired constraints is `lhs_op` itself -/
theorem C03_admm_linear_solver_contract (F : Fn X) (gradf : X → X) (Q : QuadLoss F gradf) (cons : List (Con X Z))
    (hadd : ∀ c ∈ cons, ∀ a b, c.Cadj (a - b) = c.Cadj a - c.Cadj b)
    (g0 : X) (H : X → X) (hgrad : ∀ x, gradf x = H x - g0) (solveX : List Z → List Z → X → X)
    (hsolve : ∀ z u x0, linLhsT cons H z u (solveX z u x0) = linRhs cons g0 z u)
    (hinj : ∀ z u x x', linLhsT cons H z u x = linLhsT cons H z u x' → x = x') :
    XSolver F cons solveX ∧
    (∀ z u : List Z, z.length = cons.length → u.length = cons.length → ∀ x, linLhsT cons H z u x = linLhs cons H x) :=
  ⟨linear_solver_XSolver F gradf Q cons hadd g0 H hgrad solveX hsolve hinj,
   fun z u hz hu x => linLhsT_eq cons H z u hz hu x⟩

-- the linear-system x-update on an instance (one identity constraint, `ρ = 1`, `f = ½‖· − y0‖²`): normal equation solved exactly,
-- contract met, so e.g. the fixed-point theorem applies to it
example (y0 : X) : QuadLoss (halfSq y0) (fun x => x - y0) ∧ XSolver (halfSq y0) [idCon 1] (exLinSolve y0) :=
  ⟨halfSq_quadLoss y0, exLinSolve_XSolver y0⟩

/-- PDHG (Chambolle–Pock form implemented by scico), linear `C`, `alpha = 1`: one documented iteration from ANY
    state is Fejér monotone w.r.t. every saddle point in the metric `M(a,b) = ‖a‖²/τ − 2⟪Ca,b⟫ + ‖b‖²/σ`, and `M`
    dominates `(1−θ)(‖a‖²/τ + ‖b‖²/σ)` when `τσ‖C‖² ≤ θ²` -/
theorem C03_pdhg_fejer (p : PDHGParams ℝ X Z) (F : Fn X) (xs : X) (zs : Z) (H : PDHGHyp p F xs zs)
    (s : PDHGState X Z) :
    pdM p.C p.tau p.sigma ((pdhgSpecStep p s).x - xs) ((pdhgSpecStep p s).z - zs)
        + pdM p.C p.tau p.sigma (s.x - (pdhgSpecStep p s).x) (s.z - (pdhgSpecStep p s).z)
      ≤ pdM p.C p.tau p.sigma (s.x - xs) (s.z - zs) ∧
    (∀ (Lc theta : ℝ), PDHGRange p Lc theta → ∀ a b,
      (1 - theta) * (‖a‖ ^ 2 / p.tau + ‖b‖ ^ 2 / p.sigma) ≤ pdM p.C p.tau p.sigma a b) :=
  ⟨pdhg_fejer_step p F xs zs H s,
   fun _ _ R a b => pdM_lower p H.tau H.sigma R a b⟩

/-- the dual hypothesis of `PDHGHyp` from the proximal-map contracts: on the conjugate (`Cx* ∈ ∂g*(z*)`), or on `g`
    itself with `conj_prox` computed by the Moreau decomposition as the code does (`z* ∈ ∂g(Cx*)`) -/
theorem C03_pdhg_dual_contract (p : PDHGParams ℝ X Z) (xs : X) (zs : Z) :
    (∀ Gc : Fn Z, IsProx Gc p.proxgConj → Gc.Subgrad zs (p.C xs) →
      ∀ lam, 0 < lam → ∀ v, 0 ≤ inner ℝ (p.proxgConj lam v - zs) ((1 / lam) • (v - p.proxgConj lam v) - p.C xs)) ∧
    (∀ (G : Fn Z) (proxg : ℝ → Z → Z), IsProx G proxg →
      (∀ lam v, p.proxgConj lam v = v - lam • proxg (1 / lam) ((1 / lam) • v)) → G.Subgrad (p.C xs) zs →
      ∀ lam, 0 < lam → ∀ v, 0 ≤ inner ℝ (p.proxgConj lam v - zs) ((1 / lam) • (v - p.proxgConj lam v) - p.C xs)) :=
  ⟨fun Gc hg h2 => pdhg_dual_of_conj p Gc hg xs zs h2,
   fun G proxg hg hconj h2 => pdhg_dual_of_moreau p G proxg hg hconj xs zs h2⟩

/-- PDHG (`alpha = 1`) along whole trajectories from every start, for the documented range `τσ‖C‖² < 1`: the `M`-distance to every
    saddle point is non-increasing, the Euclidean distances stay bounded by it, and the residuals reported by
    `norm_primal_residual()` / `norm_dual_residual()` tend to `0` -/
theorem C03_pdhg_traj (p : PDHGParams ℝ X Z) (F : Fn X) (xs : X) (zs : Z) (H : PDHGHyp p F xs zs)
    {Lc theta : ℝ} (R : PDHGRange p Lc theta) (hnx : p.normX = fun v => ‖v‖) (hnz : p.normZ = fun v => ‖v‖)
    (s : PDHGState X Z) :
    (∀ k, pdM p.C p.tau p.sigma ((iter (pdhgSpecStep p) (k + 1) s).x - xs) ((iter (pdhgSpecStep p) (k + 1) s).z - zs)
        ≤ pdM p.C p.tau p.sigma ((iter (pdhgSpecStep p) k s).x - xs) ((iter (pdhgSpecStep p) k s).z - zs)) ∧
    (∀ k, (1 - theta) * (‖(iter (pdhgSpecStep p) k s).x - xs‖ ^ 2 / p.tau + ‖(iter (pdhgSpecStep p) k s).z - zs‖ ^ 2 / p.sigma)
        ≤ pdM p.C p.tau p.sigma (s.x - xs) (s.z - zs)) ∧
    Filter.Tendsto (fun k => pdhgNormPrimalImpl p (iter (pdhgSpecStep p) (k + 1) s)) Filter.atTop (nhds 0) ∧
    Filter.Tendsto (fun k => pdhgNormDualImpl p (iter (pdhgSpecStep p) (k + 1) s)) Filter.atTop (nhds 0) :=
  ⟨(pdhg_descent H R).mono trivial,
   fun k => (pdM_lower p H.tau H.sigma R _ _).trans ((pdhg_descent H R).le_start trivial k),
   pdhg_residuals_tendsto p F xs zs H R hnx hnz s⟩

example (y0 : X) : PDHGHyp (exPDHG y0) (halfSq y0) y0 0 ∧ PDHGRange (exPDHG y0) 1 (1 / 2) :=
  ⟨exPDHG_hyp y0, exPDHG_range y0⟩

/-- PDHG with ANY extrapolation parameter `alpha` (documented range `[0,1]`), linear `C`: the Fejér inequality of
    `C03_pdhg_fejer` holds up to the explicit defect `2(1−α)⟪z⁺ − z*, C(x − x⁺)⟫`, which vanishes for `alpha = 1` -/
theorem C03_pdhg_alpha_defect (p : PDHGParams ℝ X Z) (F : Fn X) (xs : X) (zs : Z) (H : PDHGHypA p F xs zs)
    (s : PDHGState X Z) :
    pdM p.C p.tau p.sigma ((pdhgSpecStep p s).x - xs) ((pdhgSpecStep p s).z - zs)
        + pdM p.C p.tau p.sigma (s.x - (pdhgSpecStep p s).x) (s.z - (pdhgSpecStep p s).z)
      ≤ pdM p.C p.tau p.sigma (s.x - xs) (s.z - zs)
        + 2 * (1 - p.alpha) * inner ℝ ((pdhgSpecStep p s).z - zs) (p.C (s.x - (pdhgSpecStep p s).x)) :=
  pdhg_fejer_step_defect H.base s

-- `PDHGHypA` (any alpha) on the α = 1 instance as well
example (y0 : X) : PDHGHypA (exPDHG y0) (halfSq y0) y0 0 :=
  exPDHGA_hyp y0 1

/-- the defect of `C03_pdhg_alpha_defect` is real: NEGATIVE result for `alpha = 0`, which is inside the documented range.  For the convex
    problem `f = 0`, `g = ι_{0}` (`g* = 0`), `C = I` on ℝ with `τ = σ = 1/2` (`τσ‖C‖² = 1/4 < 1`, all documented constraints
    met, unique saddle point `(0,0)`): the `M`-distance to the saddle point INCREASES in the step from `(0,1)`, and
    `x_k² + z_k² ≥ (3/5)(x_0² + z_0²)` for every `k` and every start — no orbit converges.  Hence for merely convex
    problems the property's convergence claim cannot hold for PDHG with `alpha = 0` (it does for `alpha = 1`,
    `C03_pdhg_converges_findim`, and for strongly convex `f` under a step condition, `C03_pdhg_alpha_strong`). -/
theorem C03_pdhg_alpha0_no_convergence :
    (PDHGHypA pdhgA0 (Fn.ofReal (fun _ : ℝ => (0 : ℝ))) 0 0 ∧ PDHGRange pdhgA0 1 (1 / 2) ∧ pdhgA0.alpha = 0) ∧
    pdM pdhgA0.C pdhgA0.tau pdhgA0.sigma (0 - 0) (1 - 0)
      < pdM pdhgA0.C pdhgA0.tau pdhgA0.sigma
          ((pdhgSpecStep pdhgA0 { x := 0, xOld := 0, z := 1, zOld := 1 }).x - 0)
          ((pdhgSpecStep pdhgA0 { x := 0, xOld := 0, z := 1, zOld := 1 }).z - 0) ∧
    (∀ (s : PDHGState ℝ ℝ) (k : Nat),
      3 / 5 * (s.x ^ 2 + s.z ^ 2) ≤ (iter (pdhgSpecStep pdhgA0) k s).x ^ 2 + (iter (pdhgSpecStep pdhgA0) k s).z ^ 2) :=
  ⟨pdhgA0_hyp, pdhgA0_not_fejer, pdhgA0_no_convergence⟩

/-- PDHG over the WHOLE documented range `alpha ∈ [0,1]` (`alpha = 0`: Arrow–Hurwicz, for which the merely convex instance of
    `C03_pdhg_alpha0_no_convergence` does not converge), `m`-strongly convex `f`, linear `C` with `‖Ca‖ ≤ L‖a‖`, `τσL² ≤ 1`, and
    the additional explicit step condition `(1−α)σL² + gap ≤ 2m` (void for `alpha = 1`; `σL² ≤ 2m` for `alpha = 0`):
    (i) one documented iteration is Fejér-monotone in `M_α(a,b) = ‖a‖²/τ − 2α⟪Ca,b⟫ + ‖b‖²/σ ≥ 0` with the gain `gap·‖x⁺ − x*‖²`;
    (ii) for `gap > 0`, `minimizer() → x*` from every start -/
theorem C03_pdhg_alpha_strong (p : PDHGParams ℝ X Z) (F : Fn X) (xs : X) (zs : Z) (H : PDHGHypA p F xs zs)
    {Lc m gap : ℝ} (R : PDHGRangeA p Lc m gap) (hsm : StrongSub F m) :
    (∀ s : PDHGState X Z,
      pdMA p.C p.tau p.sigma p.alpha ((pdhgSpecStep p s).x - xs) ((pdhgSpecStep p s).z - zs)
          + gap * ‖(pdhgSpecStep p s).x - xs‖ ^ 2
        ≤ pdMA p.C p.tau p.sigma p.alpha (s.x - xs) (s.z - zs)) ∧
    (∀ (a : X) (b : Z), 0 ≤ pdMA p.C p.tau p.sigma p.alpha a b) ∧
    (0 < gap → ∀ s : PDHGState X Z,
      Filter.Tendsto (fun k => pdhgMinimizer (iter (pdhgSpecStep p) k s)) Filter.atTop (nhds xs)) :=
  ⟨fun s => pdhg_fejer_step_alpha_strong H.base R hsm s, fun a b => pdMA_nonneg p H.tau H.sigma R a b,
   fun hg s => pdhg_x_tendsto_alpha H.base R hg hsm s⟩

-- Arrow–Hurwicz (`alpha = 0`) and every other `alpha ∈ [0,1]` on the strongly convex instance: hypotheses hold, iterates converge
example (y0 : X) (alpha : ℝ) (h0 : 0 ≤ alpha) (h1 : alpha ≤ 1) :
    PDHGHypA (exPDHGA y0 alpha) (halfSq y0) y0 0 ∧ PDHGRangeA (exPDHGA y0 alpha) 1 1 (3 / 2) :=
  ⟨exPDHGA_hyp y0 alpha, exPDHGA_range y0 h0 h1⟩

example (y0 : X) (s : PDHGState X X) :
    Filter.Tendsto (fun k => pdhgMinimizer (iter (pdhgSpecStep (exPDHGA y0 0)) k s)) Filter.atTop (nhds y0) :=
  (C03_pdhg_alpha_strong (exPDHGA y0 0) (halfSq y0) y0 0 (exPDHGA_hyp y0 0) (exPDHGA_range y0 le_rfl zero_le_one)
    (halfSq_strong y0)).2.2 (by norm_num) s

/-- proximal ADMM (general `B`, `c`) under the documented constraints `μ ≥ ‖A‖²`, `ν ≥ ‖B‖²`: every state produced by
    `step()` satisfies the invariant `PADMMInv` (first conjunct: from ANY state), and from such a state
    `Ψ⁺ + ‖x⁺−x‖²_P + ρν‖z⁺−z‖² + ρ‖u⁺−u‖² ≤ Ψ` for
    `Ψ = ρ‖u−u*‖² + ‖x−x*‖²_P + ρν‖z−z*‖² + ‖z−z_old‖²_Q`, `P = ρ(μ − AᵀA)`, `Q = ρ(ν − BᵀB)`; `Ψ, ‖·‖_P, ‖·‖_Q ≥ 0` -/
theorem C03_padmm_lyapunov (p : PADMMParams ℝ X Z U) (F : Fn X) (G : Fn Z) (xs : X) (zs : Z) (us : U)
    (H : PADMMHyp p F G xs zs us) (s : PADMMState X Z U) :
    PADMMInv p G (padmmSpecStep p s) ∧
    (PADMMInv p G s →
      padmmPsi p xs zs us (padmmSpecStep p s) + padmmDiss p s (padmmSpecStep p s) ≤ padmmPsi p xs zs us s) ∧
    0 ≤ padmmPsi p xs zs us s ∧ 0 ≤ padmmDiss p s (padmmSpecStep p s) :=
  ⟨padmm_inv_step H.cls s, padmm_lyapunov_step H s,
   padmmPsi_nonneg H s, padmmDiss_nonneg H _ _⟩

/-- proximal ADMM along whole trajectories from every start: `Ψ_{k+2} ≤ Ψ_{k+1}`, and the residuals reported by
    `norm_primal_residual()` and (fast form) `norm_dual_residual()` tend to `0` -/
theorem C03_padmm_traj (p : PADMMParams ℝ X Z U) (F : Fn X) (G : Fn Z) (xs : X) (zs : Z) (us : U)
    (H : PADMMHyp p F G xs zs us) (hnu : p.normU = fun v => ‖v‖) (hnz : p.normZ = fun v => ‖v‖)
    (hfast : p.fastDual = true) (s : PADMMState X Z U) :
    (∀ k, padmmPsi p xs zs us (iter (padmmSpecStep p) (k + 2) s) ≤ padmmPsi p xs zs us (iter (padmmSpecStep p) (k + 1) s)) ∧
    (∃ r : ℕ → ℝ, (∀ k, padmmNormPrimalImpl p (iter (padmmSpecStep p) (k + 2) s) none none = .ok (r k)) ∧
      Filter.Tendsto r Filter.atTop (nhds 0)) ∧
    Filter.Tendsto (fun k => padmmNormDualImpl p (iter (padmmSpecStep p) (k + 2) s)) Filter.atTop (nhds 0) :=
  ⟨(padmm_descent H).mono (padmm_inv_step H.cls s),
   padmm_residuals_tendsto H hnu hnz hfast s⟩

example (y0 : X) : PADMMHyp (exPADMM y0) (halfSq y0) zeroFn y0 y0 0 := exPADMM_hyp y0

/-- linearized ADMM under the documented constraint `μ‖C‖² ≤ ν`: from a dual-feasible state (`u/ν ∈ ∂g(z)`, true
    after every step — first conjunct, from ANY state)
    `V = (1/ν)(‖u−u*‖² + ‖z−Cx*‖²) + (1/μ)‖x−x*‖² − (1/ν)‖C(x−x*)‖²` decreases by at least
    `(1/μ)‖x⁺−x‖² − (1/ν)‖C(x⁺−x)‖² + (1/ν)(‖z⁺−z‖² + ‖u⁺−u‖²) ≥ 0` -/
theorem C03_ladmm_lyapunov (p : LADMMParams ℝ X Z) (F : Fn X) (G : Fn Z) (xs : X) (us : Z)
    (H : LADMMHyp p F G xs us) (s : LADMMState X Z) :
    G.Subgrad (ladmmSpecStep p s).z ((1 / p.nu) • (ladmmSpecStep p s).u) ∧
    (G.Subgrad s.z ((1 / p.nu) • s.u) →
      ladmmV p xs us (ladmmSpecStep p s) + ladmmDiss p s (ladmmSpecStep p s) ≤ ladmmV p xs us s) ∧
    0 ≤ ladmmV p xs us s ∧ 0 ≤ ladmmDiss p s (ladmmSpecStep p s) :=
  ⟨ladmm_feasible_step p G H.nu H.proxg s, ladmm_lyapunov_step H s,
   ladmmV_nonneg H s, ladmmDiss_nonneg H _ _⟩

/-- linearized ADMM along whole trajectories from every start: `V_{k+2} ≤ V_{k+1}`, `norm_primal_residual() → 0`, `‖z − z_old‖ → 0` -/
theorem C03_ladmm_traj (p : LADMMParams ℝ X Z) (F : Fn X) (G : Fn Z) (xs : X) (us : Z)
    (H : LADMMHyp p F G xs us) (hnz : p.normZ = fun v => ‖v‖) (s : LADMMState X Z) :
    (∀ k, ladmmV p xs us (iter (ladmmSpecStep p) (k + 2) s) ≤ ladmmV p xs us (iter (ladmmSpecStep p) (k + 1) s)) ∧
    Filter.Tendsto (fun k => ladmmNormPrimalImpl p (iter (ladmmSpecStep p) (k + 2) s) none) Filter.atTop (nhds 0) ∧
    Filter.Tendsto (fun k => ‖(iter (ladmmSpecStep p) (k + 2) s).z - (iter (ladmmSpecStep p) (k + 2) s).zOld‖)
      Filter.atTop (nhds 0) :=
  ⟨(ladmm_descent H).mono (ladmm_feasible_step p G H.nu H.proxg s),
   ladmm_residuals_tendsto H hnz s⟩

example (y0 : X) : LADMMHyp (exLADMM y0) (halfSq y0) zeroFn y0 0 := exLADMM_hyp y0

/-- strongly convex `f` (`∂f` `m`-strongly monotone, `m > 0`): from EVERY start the point returned by `minimizer()`
    converges to the minimiser — PDHG (`alpha = 1`, linear `C`, `τσ‖C‖² < 1`), ProximalADMM (`μ ≥ ‖A‖²`, `ν ≥ ‖B‖²`),
    LinearizedADMM (`μ‖C‖² ≤ ν`).  (ADMM: `C03_admm_converges`; PGM: `C03_pgm_converges`.) -/
theorem C03_pdhg_padmm_ladmm_converge {m : ℝ} (hm : 0 < m) (F : Fn X) (hsm : StrongSub F m) :
    (∀ (p : PDHGParams ℝ X Z) (xs : X) (zs : Z), PDHGHyp p F xs zs → ∀ (Lc theta : ℝ), PDHGRange p Lc theta →
      ∀ s : PDHGState X Z,
        Filter.Tendsto (fun k => pdhgMinimizer (iter (pdhgSpecStep p) k s)) Filter.atTop (nhds xs)) ∧
    (∀ (p : PADMMParams ℝ X Z U) (G : Fn Z) (xs : X) (zs : Z) (us : U), PADMMHyp p F G xs zs us →
      ∀ s : PADMMState X Z U,
        Filter.Tendsto (fun k => padmmMinimizer (iter (padmmSpecStep p) k s)) Filter.atTop (nhds xs)) ∧
    (∀ (p : LADMMParams ℝ X Z) (G : Fn Z) (xs : X) (us : Z), LADMMHyp p F G xs us →
      ∀ s : LADMMState X Z,
        Filter.Tendsto (fun k => ladmmMinimizer (iter (ladmmSpecStep p) k s)) Filter.atTop (nhds xs)) :=
  ⟨fun _ _ _ H _ _ R s => pdhg_x_tendsto_alpha H.base (R.rangeA H.alpha1 m) (by positivity) hsm s,
   fun _ _ _ _ _ H s => padmm_x_tendsto H hm hsm s,
   fun _ _ _ _ H s => ladmm_x_tendsto H hm hsm s⟩

-- strong convexity on the instance: `∂(½‖·−y0‖²)` is 1-strongly monotone
example (y0 : X) : StrongSub (halfSq y0) 1 := halfSq_strong y0

-- so e.g. PDHG on the instance converges from every start
example (y0 : X) (s : PDHGState X X) :
    Filter.Tendsto (fun k => pdhgMinimizer (iter (pdhgSpecStep (exPDHG y0)) k s)) Filter.atTop (nhds y0) :=
  (C03_pdhg_padmm_ladmm_converge (U := X) (by norm_num : (0 : ℝ) < 1) (halfSq y0) (halfSq_strong y0)).1
    (exPDHG y0) y0 0 (exPDHG_hyp y0) 1 (1 / 2) (exPDHG_range y0) s

/-- merely convex problems (no strong convexity), finite-dimensional variables (arrays), Opial's argument: if a saddle
    point exists, the PDHG iterates (`alpha = 1`, linear `C`, `τσ‖C‖² < 1`) converge from EVERY start to a saddle point
    `(x̄, z̄)` (`−Cᵀz̄ ∈ ∂f(x̄)`, `Cx̄ ∈ ∂g*(z̄)`) — so `minimizer()` converges to a minimiser of `f + g∘C` -/
theorem C03_pdhg_converges_findim [FiniteDimensional ℝ X] [FiniteDimensional ℝ Z] {p : PDHGParams ℝ X Z} {F : Fn X}
    {Gc : Fn Z} {Lc theta : ℝ} (H : PDHGConvHyp p F Gc Lc theta) (hsad : ∃ w, IsSaddle p F Gc w) (s : PDHGState X Z) :
    ∃ wb : X × Z, IsSaddle p F Gc wb ∧
      Filter.Tendsto (fun k => pdhgMinimizer (iter (pdhgSpecStep p) k s)) Filter.atTop (nhds wb.1) ∧
      Filter.Tendsto (fun k => (iter (pdhgSpecStep p) k s).z) Filter.atTop (nhds wb.2) := by
  obtain ⟨wb, hwb, hlim⟩ := (pdhg_opialStep H).converges (hsad.imp fun w hw => (pdhgT_fixed_iff H w).2 hw) s trivial
  exact ⟨wb, (pdhgT_fixed_iff H wb).1 hwb, (continuous_fst.tendsto wb).comp hlim, (continuous_snd.tendsto wb).comp hlim⟩

-- the finite-dimensional convergence theorems on the instances (saddle point `(y0, 0)`, KKT point `(y0, y0, 0)`)
example [FiniteDimensional ℝ X] (y0 : X) :
    PDHGConvHyp (exPDHG y0) (halfSq y0) (Fn.indicator ({0} : Set X)) 1 (1 / 2) ∧
    IsSaddle (exPDHG y0) (halfSq y0) (Fn.indicator ({0} : Set X)) (y0, 0) := ⟨exPDHG_conv y0, exPDHG_saddle y0⟩

/-- merely convex, finite-dimensional: the LinearizedADMM iterates `(x_k, z_k, u_k)` (`μ‖C‖² < ν`) converge from EVERY start to a KKT point
    (`z̄ = Cx̄`, `−(1/ν)Cᵀū ∈ ∂f(x̄)`, `(1/ν)ū ∈ ∂g(Cx̄)`), which minimises `f + g∘C` by `C03_kkt_minimiser` -/
theorem C03_ladmm_converges_findim [FiniteDimensional ℝ X] [FiniteDimensional ℝ Z] {p : LADMMParams ℝ X Z} {F : Fn X}
    {G : Fn Z} {Lc : ℝ} (H : LADMMConvHyp p F G Lc) (hk : ∃ w, IsLKKT p F G w) (s : LADMMState X Z) :
    ∃ wb : X × Z × Z, IsLKKT p F G wb ∧
      Filter.Tendsto (fun k => ((iter (ladmmSpecStep p) k s).x, (iter (ladmmSpecStep p) k s).z, (iter (ladmmSpecStep p) k s).u))
        Filter.atTop (nhds wb) := by
  obtain ⟨wb, hwb, hlim⟩ := padmm_converges_triple H.toPADMM_class H.toPADMM_range
    (hk.imp fun w hw => (isPKKTTriple_toPADMM w).2 hw) (s.toPADMM p)
  refine ⟨wb, (isPKKTTriple_toPADMM wb).1 hwb, hlim.congr fun k => ?_⟩
  rw [← ladmm_step_toPADMM_iter H.mu H.nu]
  rfl

example [FiniteDimensional ℝ X] (y0 : X) :
    LADMMConvHyp (exLADMM y0) (halfSq y0) zeroFn 1 ∧ IsLKKT (exLADMM y0) (halfSq y0) zeroFn (y0, y0, 0) :=
  ⟨exLADMM_conv y0, exLADMM_kkt y0⟩

/-- merely convex, finite-dimensional: the ProximalADMM iterates `(x_k, z_k, z_k^old, u_k)` (general `B`, `c`; strict documented constraints `μ > ‖A‖²`,
    `ν > ‖B‖²`) converge from EVERY start to a KKT point (`Ax̄ + Bz̄ = c`, `−ρAᵀū ∈ ∂f(x̄)`, `−ρBᵀū ∈ ∂g(z̄)`) -/
theorem C03_padmm_converges_findim [FiniteDimensional ℝ X] [FiniteDimensional ℝ Z] [FiniteDimensional ℝ U]
    {p : PADMMParams ℝ X Z U} {F : Fn X} {G : Fn Z} {La Lb : ℝ} (H : PADMMConvHyp p F G La Lb)
    (hk : ∃ w, IsPKKT p F G w) (s : PADMMState X Z U) :
    ∃ wb : X × Z × Z × U, IsPKKT p F G wb ∧
      Filter.Tendsto (fun k => ((iter (padmmSpecStep p) k s).x, (iter (padmmSpecStep p) k s).z,
        (iter (padmmSpecStep p) k s).zOld, (iter (padmmSpecStep p) k s).u)) Filter.atTop (nhds wb) := by
  obtain ⟨w, hw⟩ := hk
  obtain ⟨wb, hwb, hlim⟩ := padmm_converges_triple H.cls H.range ⟨(w.1, w.2.1, w.2.2.2), hw.2⟩ s
  have hx := (continuous_fst.tendsto wb).comp hlim
  have hz := ((continuous_fst.comp continuous_snd).tendsto wb).comp hlim
  have hu := ((continuous_snd.comp continuous_snd).tendsto wb).comp hlim
  refine ⟨(wb.1, wb.2.1, wb.2.1, wb.2.2), ⟨rfl, hwb⟩, ?_⟩
  -- `z_old` of an iterate is `z` of the one before
  rw [← Filter.tendsto_add_atTop_iff_nat 1]
  refine (((Filter.tendsto_add_atTop_iff_nat 1).2 hx).prodMk_nhds (((Filter.tendsto_add_atTop_iff_nat 1).2 hz).prodMk_nhds
    (hz.prodMk_nhds ((Filter.tendsto_add_atTop_iff_nat 1).2 hu)))).congr fun k => ?_
  simp only [Function.comp, iter_succ']
  rfl

example [FiniteDimensional ℝ X] (y0 : X) :
    PADMMConvHyp (exPADMM2 y0) (halfSq y0) zeroFn 1 1 ∧ IsPKKT (exPADMM2 y0) (halfSq y0) zeroFn (y0, y0, y0, 0) :=
  ⟨exPADMM2_conv y0, exPADMM2_kkt y0⟩

/-- ADMM itself: `N` constraints, relaxation `0 < α < 2`, MERELY convex problem, finite-dimensional variables, any x-solver
    that returns the (unique) stationary point of the x-sub-problem and depends continuously on `(z, u)`.  If a KKT point
    exists, then from EVERY start (any `x`, any lists `z = List.ofFn zf`, `u = List.ofFn uf` of length `N`) the point returned
    by `minimizer()` converges to the `x*` of a KKT point, and the Douglas–Rachford variables `z_i^k + u_i^k` (`σseq`) converge
    to `C_i x* + u_i*`.  (Opial's argument on `Fin N → Z` with `W` as the Fejér metric.) -/
theorem C03_admm_converges_findim [FiniteDimensional ℝ X] [FiniteDimensional ℝ Z] {cons : List (Con X Z)} {alpha : ℝ}
    {solveX : List Z → List Z → X → X} {F : Fn X} {x0 : X} {rlo rhi : ℝ}
    (H : ADMMConvHyp cons alpha solveX F x0 rlo rhi) (hk : ∃ xs us, IsAKKT cons F xs us) (f : Option (X → ℝ))
    (us0 zf uf : Fin cons.length → Z) (x : X) (zo : List Z) :
    ∃ (xs : X) (us : Fin cons.length → Z) (σseq : ℕ → Fin cons.length → Z), IsAKKT cons F xs us ∧
      (∀ k, (iter (admmSpecStep (admmOfCons f alpha solveX cons)) (k + 1)
              { x := x, z := List.ofFn zf, zOld := zo, u := List.ofFn uf }).z = List.ofFn (Pz cons (σseq k)) ∧
            (iter (admmSpecStep (admmOfCons f alpha solveX cons)) (k + 1)
              { x := x, z := List.ofFn zf, zOld := zo, u := List.ofFn uf }).u
              = List.ofFn (fun i => σseq k i - Pz cons (σseq k) i)) ∧
      Filter.Tendsto σseq Filter.atTop (nhds (fun i => (cons.get i).C xs + us i)) ∧
      Filter.Tendsto (fun k => admmMinimizer (iter (admmSpecStep (admmOfCons f alpha solveX cons)) k
          { x := x, z := List.ofFn zf, zOld := zo, u := List.ofFn uf })) Filter.atTop (nhds xs) := by
  obtain ⟨xs, us, σseq, hkk, hrows, hσ, hx⟩ := admm_converges_findim H hk us0 zf uf x zo
  have hstate : (⟨rowsOf cons us0 zf uf, x, zo⟩ : RS X Z).state = { x := x, z := List.ofFn zf, zOld := zo, u := List.ofFn uf } := by
    unfold RS.state
    simp only [rowsOf_z, rowsOf_u]
  have hit := fun k => (RS.iter_eq alpha f solveX cons k ⟨rowsOf cons us0 zf uf, x, zo⟩ (rowsOf_c cons us0 zf uf)).1
  simp only [hstate] at hit
  refine ⟨xs, us, σseq, hkk, fun k => ?_, hσ, ?_⟩
  · rw [hit (k + 1)]
    unfold RS.state
    simp only [hrows k]
    unfold rowsσ
    exact ⟨rowsOf_z cons _ _ _, rowsOf_u cons _ _ _⟩
  · refine hx.congr (fun k => ?_)
    rw [hit k]
    rfl

example [FiniteDimensional ℝ X] (y0 x0 : X) :
    ADMMConvHyp [idCon 1, idCon 2] (3 / 2) (exSolveX y0 [idCon 1, idCon 2]) (halfSq y0) x0 1 2 ∧
    IsAKKT ([idCon 1, idCon 2] : List (Con X X)) (halfSq y0) y0 (fun _ => 0) := ⟨exADMM_conv y0 x0, exADMM_kkt y0⟩

end Scico.Props.C03
