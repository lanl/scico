/-
  Property C16 — PGM step-size policies return the documented, usable step sizes.

  Scalars are the IEEE-extended numbers `XR K` over an arbitrary linear ordered field `K`
  (`fin a | pinf | ninf | nan`, division by an exact zero, NaN-false comparisons), so that
  "finite and strictly positive" (`PosFin`) is a statement with content; the control-flow theorems
  (`C16_linesearch_first/update/candidate/robust`, `C16_apgm_point_*`, `C16_pgm_robust*`) hold for every scalar type,
  `Float` included.
-/
import Scico.Proofs.StepSizeRobust
import Scico.Proofs.StepSizeInnerProduct
import Scico.Proofs.StepSizeSource
import Mathlib.Analysis.InnerProductSpace.Basic
import Mathlib.Analysis.InnerProductSpace.PiL2
import Mathlib.Analysis.Complex.Basic

set_option linter.unusedSectionVars false

namespace Scico.Props.C16
open Scico.StepSize Scico.StepSize.XR

variable {K : Type} [Field K] [LinearOrder K] [IsStrictOrderedRing K]

/-- `BBStepSize.update` (after the first call) returns the ratio `num/den` exactly when that
    ratio is a finite positive number, the previous `L` otherwise — for all inputs, `±inf` and
    NaN included. -/
theorem C16_bb_ratio (Lprev xg gg : XR K) [Decidable (PosFin (gg / xg))] :
    bbRule Lprev xg gg = if PosFin (gg / xg) then gg / xg else Lprev := by
  simp only [bbRule, ← unusable_eq_false_iff]
  cases unusable (gg / xg) <;> simp

/-- For finite inner products `xg = Re⟨Δx,Δg⟩`, `gg = Re⟨Δg,Δg⟩ ≥ 0`: the documented ratio
    `⟨Δg,Δg⟩/⟨Δx,Δg⟩` if `⟨Δx,Δg⟩ > 0` and `Δg ≠ 0`; the previous value for orthogonal differences
    (`xg = 0`, where the quotient is `+inf`), repeated iterates (`0/0`), negative curvature. -/
theorem C16_bb_ratio_fin (Lprev : XR K) (xg gg : K) (hgg : 0 ≤ gg) :
    bbRule Lprev (fin xg) (fin gg) = if 0 < xg ∧ 0 < gg then fin (gg / xg) else Lprev := by
  classical
  rw [C16_bb_ratio, posFin_div_fin]
  by_cases h : 0 < xg ∧ 0 < gg
  · rw [if_pos h, if_pos (Or.inl ⟨h.2, h.1⟩), fin_div_fin h.1.ne']
  · rw [if_neg h, if_neg]
    rintro (⟨h1, h2⟩ | ⟨h1, _⟩)
    · exact h ⟨h2, h1⟩
    · exact absurd h1 (not_lt.2 hgg)

section inner

variable {E : Type} [NormedAddCommGroup E] [InnerProductSpace ℝ E]

open Classical in
/-- `BBStepSize.update(v)` on a real inner-product space returns
    `‖Δg‖² / ⟨Δx, Δg⟩` with `Δx = v − x_prev`, `Δg = ∇f(v) − ∇f(x_prev)` when `⟨Δx,Δg⟩ > 0` and
    `Δg ≠ 0`, and the solver's current `L` otherwise; it stores `(v, ∇f(v))`. -/
theorem C16_bb_ratio_inner (f : E → ℝ) (grad : E → E) (prox : E → XR ℝ → E) (smul : XR ℝ → E → E)
    (x v xp : E) (L : XR ℝ) (ps : PolState E (XR ℝ)) (hprev : ps.prev = some (xp, grad xp)) :
    update (envOfSpace f grad prox smul) .bb x L ps v =
      some (if 0 < inner ℝ (v - xp) (grad v - grad xp) ∧ grad v - grad xp ≠ 0
              then fin (‖grad v - grad xp‖ ^ 2 / inner ℝ (v - xp) (grad v - grad xp)) else L,
            { ps with prev := some (v, grad v) }) := by
  simp only [update, hprev, envOfSpace]
  rw [C16_bb_ratio_fin _ _ _ real_inner_self_nonneg, real_inner_self_eq_norm_sq]
  congr 2
  have key : (0 < ‖grad v - grad xp‖ ^ 2) ↔ grad v - grad xp ≠ 0 := sq_pos_iff.trans norm_ne_zero_iff
  by_cases hc : 0 < inner ℝ (v - xp) (grad v - grad xp) ∧ grad v - grad xp ≠ 0
  · rw [if_pos hc, if_pos ⟨hc.1, key.2 hc.2⟩]
  · rw [if_neg hc, if_neg (fun h => hc ⟨h.1, key.1 h.2⟩)]

end inner

section complex
open ComplexConjugate

/-- Complex data: on `ℂⁿ` the value `BBStepSize.update` returns is `Σ|Δgᵢ|² / Re Σ conj(Δxᵢ)Δgᵢ` when that real part is positive and
    `Δg ≠ 0`, the solver's `L` otherwise: the expression `snp.real(snp.sum(Δx.conj() * Δg))` of the code. -/
theorem C16_bb_ratio_complex {n : Nat} (f : EuclideanSpace ℂ (Fin n) → ℝ)
    (grad : EuclideanSpace ℂ (Fin n) → EuclideanSpace ℂ (Fin n))
    (prox : EuclideanSpace ℂ (Fin n) → XR ℝ → EuclideanSpace ℂ (Fin n))
    (smul : XR ℝ → EuclideanSpace ℂ (Fin n) → EuclideanSpace ℂ (Fin n))
    (x v xp : EuclideanSpace ℂ (Fin n)) (L : XR ℝ) (ps : PolState (EuclideanSpace ℂ (Fin n)) (XR ℝ))
    (hprev : ps.prev = some (xp, grad xp)) [Decidable (0 < (∑ i, conj ((v - xp) i) * (grad v - grad xp) i).re ∧ grad v - grad xp ≠ 0)] :
    update (envOfSpace f grad prox smul) .bb x L ps v =
      some (if 0 < (∑ i, conj ((v - xp) i) * (grad v - grad xp) i).re ∧ grad v - grad xp ≠ 0
              then fin ((∑ i, ‖(grad v - grad xp) i‖ ^ 2) / (∑ i, conj ((v - xp) i) * (grad v - grad xp) i).re) else L,
            { ps with prev := some (v, grad v) }) := by
  rw [C16_bb_ratio_inner f grad prox smul x v xp L ps hprev, real_inner_complex, EuclideanSpace.norm_sq_eq]
  congr 2
  split <;> rfl

end complex

section bbbounds
variable {E : Type} [NormedAddCommGroup E] [InnerProductSpace ℝ E]

open Classical in
/-- **The Barzilai–Borwein value lies between the curvature bounds of `f`.**  If along the step
    `μ‖Δx‖² ≤ ⟨Δx,Δg⟩` (strong monotonicity of `∇f`, `μ > 0`) and `‖Δg‖² ≤ Lf·⟨Δx,Δg⟩` (co-coercivity: `f` convex with
    `Lf`-Lipschitz gradient) with `Δx ≠ 0`, then `BBStepSize.update` does not fall back and returns a value in `[μ, Lf]`. -/
theorem C16_bb_between (f : E → ℝ) (grad : E → E) (prox : E → XR ℝ → E) (smul : XR ℝ → E → E)
    (x v xp : E) (L : XR ℝ) (ps : PolState E (XR ℝ)) (hprev : ps.prev = some (xp, grad xp)) (μ Lf : ℝ) (hμ : 0 < μ)
    (hx : v - xp ≠ 0)
    (hmono : μ * ‖v - xp‖ ^ 2 ≤ inner ℝ (v - xp) (grad v - grad xp))
    (hcoco : ‖grad v - grad xp‖ ^ 2 ≤ Lf * inner ℝ (v - xp) (grad v - grad xp)) :
    ∃ l : ℝ, update (envOfSpace f grad prox smul) .bb x L ps v = some (fin l, { ps with prev := some (v, grad v) }) ∧
      μ ≤ l ∧ l ≤ Lf := by
  have hxx : 0 < ‖v - xp‖ ^ 2 := pow_pos (norm_pos_iff.2 hx) 2
  have hxg : 0 < inner ℝ (v - xp) (grad v - grad xp) := lt_of_lt_of_le (mul_pos hμ hxx) hmono
  have hdg : grad v - grad xp ≠ 0 := fun h0 => by
    rw [h0, inner_zero_right] at hxg
    exact lt_irrefl _ hxg
  -- `μ ≤ ⟨Δx,Δg⟩/‖Δx‖² ≤ ‖Δg‖²/⟨Δx,Δg⟩`: the bound on the smaller Barzilai–Borwein quotient carries over to the one returned
  have hlow := ((le_div_iff₀ hxx).2 hmono).trans (div_le_div_of_mul_self_le hxx hxg (inner_mul_inner_le _ _))
  refine ⟨_, ?_, hlow, (div_le_iff₀ hxg).2 hcoco⟩
  rw [C16_bb_ratio_inner f grad prox smul x v xp L ps hprev, if_pos ⟨hxg, hdg⟩]

-- non-vacuity of the hypotheses of `C16_bb_between`: f(x) = x² on ℝ (∇f = 2x), Δx = 1, Δg = 2, μ = Lf = 2
example : (2 : ℝ) * ‖(1 : ℝ)‖ ^ 2 ≤ inner ℝ (1 : ℝ) (2 : ℝ) ∧ ‖(2 : ℝ)‖ ^ 2 ≤ 2 * inner ℝ (1 : ℝ) (2 : ℝ) := by
  constructor
  · simp
  · simp; norm_num

end bbbounds

/-- When the three inner products are finite and positive, `AdaptiveBBStepSize.update` returns
    `1/α` for the documented `α = α_BB2 if α_BB2/α_BB1 < κ else α_BB1`
    (`α_BB1 = ⟨Δx,Δx⟩/⟨Δx,Δg⟩`, `α_BB2 = ⟨Δx,Δg⟩/⟨Δg,Δg⟩`) and remembers `1/α_BB1`, `1/α_BB2`. -/
theorem C16_adaptive_bb (k : K) (Lprev : XR K) (m1 m2 : Option (XR K)) {xx xg gg : K}
    (hxx : 0 < xx) (hxg : 0 < xg) (hgg : 0 < gg) :
    abbRule (fin k) Lprev m1 m2 (fin xx) (fin xg) (fin gg) =
      (fin (1 / abbAlpha k xx xg gg), some (fin (xg / xx)), some (fin (gg / xg))) := by
  -- the quantity compared with `κ` is `L_BB1/L_BB2 = α_BB2/α_BB1`, and `L = 1/α` in either branch
  rw [abbRule_eq, keep_fin_div m1 hxg hxx, keep_fin_div m2 hgg hxg, abbSelect_fin k Lprev _ (div_pos hgg hxg).ne', abbAlpha,
    div_div_div_comm xg xx gg xg]
  split <;> rw [one_div_div]

/-- In general (any inputs): each of the two estimates is the freshly computed ratio if usable
    (finite, positive), the remembered one otherwise; the `κ` rule is applied when both exist, and the
    previous `L` is kept when one of them has never been usable. -/
theorem C16_adaptive_bb_rule (κ Lprev : XR K) (m1 m2 : Option (XR K)) (xx xg gg : XR K) :
    abbRule κ Lprev m1 m2 xx xg gg =
      (abbSelect κ Lprev (keep m1 (xg / xx)) (keep m2 (gg / xg)), keep m1 (xg / xx), keep m2 (gg / xg)) :=
  abbRule_eq κ Lprev m1 m2 xx xg gg

/-- The memory after any history of calls holds the most recent usable value of each ratio
    (`none` if there never was one). -/
theorem C16_adaptive_bb_memory (h : List (XR K × XR K × XR K)) :
    abbMem (none, none) h =
      (lastUsable (h.map fun c => c.2.1 / c.1), lastUsable (h.map fun c => c.2.2 / c.2.1)) := by
  rw [abbMem_eq]
  congr 1
  · cases lastUsable (h.map fun c => c.2.1 / c.1) <;> rfl
  · cases lastUsable (h.map fun c => c.2.2 / c.2.1) <;> rfl

section history
variable {K : Type} [Field K] [LinearOrder K] [IsStrictOrderedRing K] [HasSqrt K] {V : Type}

/-- `AdaptiveBBStepSize`: after the calls `update(v₀), update(v₁), …, update(vₙ)` of a fresh policy object — for any
    problem (`Env`), any `κ`, whatever `pgm.L` was at each call — every call completes and the object's memory
    `(Lbb1prev, Lbb2prev)` holds the most recent usable value of `⟨Δx,Δg⟩/⟨Δx,Δx⟩` resp. `⟨Δg,Δg⟩/⟨Δx,Δg⟩` over the
    consecutive pairs of call points (`none` if no pair ever gave a usable one). -/
theorem C16_adaptive_bb_history (env : Env V (XR K)) (κ : XR K) (x v0 : V) (L0 : XR K) (calls : List (V × XR K)) :
    ∃ ps', runCalls env (.abb κ) x PolState.init ((v0, L0) :: calls) = some ps' ∧
      ps'.l1 = lastUsable ((ipsAlong env v0 calls).map fun c => c.2.1 / c.1) ∧
      ps'.l2 = lastUsable ((ipsAlong env v0 calls).map fun c => c.2.2 / c.2.1) := by
  -- the first call of a fresh object only stores `(v₀, ∇f(v₀))`
  simp only [runCalls, update, PolState.init]
  obtain ⟨ps', h1, h2⟩ := runCalls_abb env κ x calls ⟨some (v0, env.grad v0), none, none, 0, none, none, 0⟩ v0 rfl
  rw [C16_adaptive_bb_memory] at h2
  exact ⟨ps', h1, (Prod.mk.inj h2).1, (Prod.mk.inj h2).2⟩

end history

section abborder
variable {E : Type} [NormedAddCommGroup E] [InnerProductSpace ℝ E]

/-- The two Barzilai–Borwein estimates are ordered (Cauchy–Schwarz): `⟨Δx,Δg⟩/‖Δx‖² ≤ ‖Δg‖²/⟨Δx,Δg⟩` whenever
    `⟨Δx,Δg⟩ > 0`, so the quantity `α_BB2/α_BB1 = L_BB1/L_BB2` compared with `κ` lies in `(0, 1]` (the reason for
    `κ ∈ (0,1)`), and the value `AdaptiveBBStepSize.update` returns lies between the two estimates. -/
theorem C16_adaptive_bb_order (dx dg : E) (hxg : 0 < inner ℝ dx dg) (k : ℝ) (Lprev : XR ℝ) (m1 m2 : Option (XR ℝ)) :
    inner ℝ dx dg / ‖dx‖ ^ 2 ≤ ‖dg‖ ^ 2 / inner ℝ dx dg ∧
    0 < (inner ℝ dx dg / ‖dx‖ ^ 2) / (‖dg‖ ^ 2 / inner ℝ dx dg) ∧
    (inner ℝ dx dg / ‖dx‖ ^ 2) / (‖dg‖ ^ 2 / inner ℝ dx dg) ≤ 1 ∧
    ∃ l : ℝ, (abbRule (fin k) Lprev m1 m2 (fin (‖dx‖ ^ 2)) (fin (inner ℝ dx dg)) (fin (‖dg‖ ^ 2))).1 = fin l ∧
      inner ℝ dx dg / ‖dx‖ ^ 2 ≤ l ∧ l ≤ ‖dg‖ ^ 2 / inner ℝ dx dg := by
  have hdx : dx ≠ 0 := fun h => by rw [h, inner_zero_left] at hxg; exact lt_irrefl _ hxg
  have hdg : dg ≠ 0 := fun h => by rw [h, inner_zero_right] at hxg; exact lt_irrefl _ hxg
  exact abbRule_between (pow_pos (norm_pos_iff.2 hdx) 2) hxg (pow_pos (norm_pos_iff.2 hdg) 2)
    (inner_mul_inner_le dx dg) k Lprev m1 m2

end abborder

section posfin

variable {V : Type} [HasSqrt K]

/-- `PGM`: for every problem (any `f`, `∇f`, prox, inner product — even returning `inf`/NaN), every
    policy with `γ_u, γ_d` finite positive, every `κ`, every `maxiter`, every number of steps:
    if `L₀` is finite and positive then so is `L` after every step that completes. -/
theorem C16_positive_finite_pgm (env : Env V (XR K)) (pol : Policy (XR K)) (hpol : PolOK pol)
    (x0 : V) (L0 inf : XR K) (hL0 : PosFin L0) (k : Nat) (s : PGMState V (XR K))
    (h : iterate (pgmStep env pol) k (PGMState.init x0 L0 inf) = some s) : PosFin s.L :=
  iterate_posFin env pol hpol _ (fun s s' hs => ⟨_, (pgmStep_some env pol s s' hs).1⟩) x0 hL0 inf k s h

/-- the same for `AcceleratedPGM` -/
theorem C16_positive_finite_apgm (env : Env V (XR K)) (pol : Policy (XR K)) (hpol : PolOK pol)
    (x0 : V) (L0 inf : XR K) (hL0 : PosFin L0) (k : Nat) (s : PGMState V (XR K))
    (h : iterate (apgmStep env pol) k (PGMState.init x0 L0 inf) = some s) : PosFin s.L :=
  iterate_posFin env pol hpol _ (fun s s' hs => ⟨_, (apgmStep_some env pol s s' hs).1⟩) x0 hL0 inf k s h

/-- a single `update` call of any policy, from any policy state whose memory is usable -/
theorem C16_positive_finite_update (env : Env V (XR K)) (pol : Policy (XR K)) (hpol : PolOK pol) (x v : V)
    (L : XR K) (ps : PolState V (XR K)) (hL : PosFin L) (h1 : OptPos ps.l1) (h2 : OptPos ps.l2)
    (L' : XR K) (ps' : PolState V (XR K)) (h : update env pol x L ps v = some (L', ps')) : PosFin L' :=
  (update_posFin env pol hpol x ps v hL h1 h2 h).1

/-- the only call that does not complete is a robust line search with `maxiter = 0` -/
theorem C16_update_raises_iff (env : Env V (XR K)) (pol : Policy (XR K)) (x v : V) (L : XR K)
    (ps : PolState V (XR K)) :
    update env pol x L ps v = none ↔ ∃ γd γu, pol = .rls γd γu 0 := by
  cases pol with
  | rls γd γu m =>
    cases m with
    | zero => exact ⟨fun _ => ⟨γd, γu, rfl⟩, fun _ => rfl⟩
    | succ m =>
      constructor
      · intro h
        simp only [update] at h
        split at h
        · rename_i hs
          exact absurd ((searchLoop_none_iff _ _ _ _ _ _).1 hs) (Nat.succ_ne_zero m)
        · cases h
      · rintro ⟨_, _, h⟩
        cases h
  | base => simp [update]
  | bb => cases hp : ps.prev <;> simp [update, hp]
  | abb κ => cases hp : ps.prev <;> simp [update, hp]
  | ls γu m =>
    simp only [update]
    split <;> simp

end posfin

section reattach
variable {K : Type} [Field K] [LinearOrder K] [IsStrictOrderedRing K] [HasSqrt K] {V : Type}

/-- **Re-attachment discards the history.**  `PGM.__init__` calls `step_size.internal_init(self)`, which (d5a2ecf) resets the
    memory of the policy object (`xprev/gradprev`, `Lbb1prev/Lbb2prev`, `T_k`, `Zrb`, `Z`; model `PolState.attach`).  Hence a
    policy object that served another optimizer before — whatever its state `ps`, even one holding unusable or
    non-finite remembered values — behaves exactly like a fresh one: every trajectory of the new solver is the one of
    `PGMState.init`, and in particular `L` stays finite and positive without any assumption on the old state. -/
theorem C16_reattach (env : Env V (XR K)) (pol : Policy (XR K)) (hpol : PolOK pol) (ps : PolState V (XR K))
    (x0 : V) (L0 inf : XR K) (hL0 : PosFin L0) (accel : Bool) (k : Nat) (s : PGMState V (XR K))
    (h : iterate (if accel then apgmStep env pol else pgmStep env pol) k (PGMState.attached ps x0 L0 inf) = some s) :
    PGMState.attached ps x0 L0 inf = PGMState.init x0 L0 inf ∧ PosFin s.L := by
  refine ⟨rfl, ?_⟩
  cases accel with
  | true => exact C16_positive_finite_apgm env pol hpol x0 L0 inf hL0 k s h
  | false => exact C16_positive_finite_pgm env pol hpol x0 L0 inf hL0 k s h

end reattach

section search

variable {V S : Type} [Zero S] [One S] [Add S] [Sub S] [Mul S] [Div S] [LE S] [DecidableLE S] [LT S]
  [DecidableLT S] [IEEE S] [HasSqrt S]

/-- The search loop returns `L·γ_u^k` for the least `k < maxiter` whose trial is accepted — the last
    value tried (`k = maxiter − 1`) if none is — together with the data computed *with that value*,
    after `k+1` trials.  (Any scalar type.) -/
theorem C16_linesearch_first {β : Type} (γu : S) (trial : Nat → S → β) (ok : S → β → Bool)
    (maxiter : Nat) (L L' : S) (b : β) (n : Nat)
    (h : searchLoop γu trial ok maxiter 0 L = some (L', b, n)) :
    ∃ k, k < maxiter ∧ n = k + 1 ∧ L' = geom L γu k ∧ b = trial k L' ∧
      (∀ j, j < k → ok (geom L γu j) (trial j (geom L γu j)) = false) ∧
      (ok L' b = true ∨ k + 1 = maxiter) := by
  obtain ⟨k, h1, h2, h3, h4, h5, h6⟩ := searchLoop_spec γu trial ok maxiter 0 L L' b n h
  refine ⟨k, h1, by omega, h3, by simpa using h4, ?_, h6⟩
  intro j hj
  simpa using h5 j hj

/-- over the extended reals the returned value is the finite number `L₀·γ_u^k` -/
theorem C16_linesearch_value (l0 g : K) (k : Nat) : geom (fin l0 : XR K) (fin g) k = fin (l0 * g ^ k) :=
  geom_fin l0 g k

/-- `LineSearchStepSize.update(v)`: `L·γ_u^k` for the least `k < maxiter` with
    `f(z) ≤ f̂(z, v)` at `z = x_step(v, L·γ_u^k)`, the last value tried if there is none
    (`maxiter = 0`: `L` unchanged, nothing tried). -/
theorem C16_linesearch_update (env : Env V S) (γu : S) (maxiter : Nat) (x : V) (L : S)
    (ps : PolState V S) (v : V) (L' : S) (ps' : PolState V S)
    (h : update env (.ls γu maxiter) x L ps v = some (L', ps')) :
    (maxiter = 0 ∧ L' = L ∧ ps'.tried = 0) ∨
    ∃ k, k < maxiter ∧ L' = geom L γu k ∧ ps'.tried = k + 1 ∧
      (∀ j, j < k → ¬ Accept env v (geom L γu j)) ∧ (Accept env v L' ∨ k + 1 = maxiter) :=
  update_ls env γu maxiter x L ps v L' ps' h

/-- the iterate `PGM.step` produces with a line search is the candidate that was tested with the
    returned `L` -/
theorem C16_linesearch_candidate (env : Env V S) (pol : Policy S) (s s' : PGMState V S)
    (h : pgmStep env pol s = some s') : s'.x = xstep env s.x s'.L :=
  (pgmStep_some env pol s s' h).2

end search

section descent
variable {E : Type} [NormedAddCommGroup E] [InnerProductSpace ℝ E]

/-- **The values a line search rejects lie below the curvature of `f`.**  If `f` satisfies the quadratic upper bound with
    constant `Lf` (descent lemma: `f(y) ≤ f(x) + ⟨∇f(x), y−x⟩ + (Lf/2)‖y−x‖²`, e.g. `∇f` `Lf`-Lipschitz), then every `M ≥ Lf` is
    accepted whatever the prox; hence `LineSearchStepSize.update` returns `L` itself or a value `L·γ_u^k` whose predecessor
    `L·γ_u^(k−1)` is `< Lf`: for `γ_u > 0` the returned reciprocal step never exceeds `max(L, γ_u·Lf)` — for any budget. -/
theorem C16_linesearch_bounded (f : E → ℝ) (grad : E → E) (prox : E → XR ℝ → E) (smul : XR ℝ → E → E) (Lf : ℝ)
    (hdesc : ∀ x y : E, f y ≤ f x + inner ℝ (grad x) (y - x) + Lf / 2 * (‖y - x‖ * ‖y - x‖))
    (l0 g : ℝ) (maxiter : Nat) (x v : E) (ps ps' : PolState E (XR ℝ)) (L' : XR ℝ)
    (h : update (envOfSpace f grad prox smul) (.ls (fin g) maxiter) x (fin l0) ps v = some (L', ps')) :
    (∀ m : ℝ, Lf ≤ m → Accept (envOfSpace f grad prox smul) v (fin m)) ∧
    ∃ k, L' = fin (l0 * g ^ k) ∧ (k = 0 ∨ l0 * g ^ (k - 1) < Lf) ∧ ∀ j, j < k → l0 * g ^ j < Lf := by
  have hacc : ∀ m : ℝ, Lf ≤ m → Accept (envOfSpace f grad prox smul) v (fin m) := fun m hm =>
    accept_of_descent f grad prox smul hdesc v hm
  obtain ⟨k, hL, hall, _⟩ := update_ls_of_accept _ hacc h
  refine ⟨hacc, k, hL, ?_, hall⟩
  rcases Nat.eq_zero_or_pos k with hk | hk
  · exact Or.inl hk
  · exact Or.inr (hall (k - 1) (Nat.sub_lt hk Nat.one_pos))

/-- … and when the budget reaches the curvature (`Lf ≤ L·γ_u^j` for some `j < maxiter`) the value returned is an
    *accepted* one — the search does not end on "last value tried". -/
theorem C16_linesearch_succeeds (f : E → ℝ) (grad : E → E) (prox : E → XR ℝ → E) (smul : XR ℝ → E → E) (Lf : ℝ)
    (hdesc : ∀ x y : E, f y ≤ f x + inner ℝ (grad x) (y - x) + Lf / 2 * (‖y - x‖ * ‖y - x‖))
    (l0 g : ℝ) (maxiter : Nat) (x v : E) (ps ps' : PolState E (XR ℝ)) (L' : XR ℝ)
    (h : update (envOfSpace f grad prox smul) (.ls (fin g) maxiter) x (fin l0) ps v = some (L', ps'))
    (hreach : ∃ j, j < maxiter ∧ Lf ≤ l0 * g ^ j) :
    Accept (envOfSpace f grad prox smul) v L' := by
  obtain ⟨j0, hj0, hL⟩ := hreach
  obtain ⟨_, _, _, ha | hbelow⟩ :=
    update_ls_of_accept _ (fun m hm => accept_of_descent f grad prox smul hdesc v hm) h
  · exact ha
  · exact absurd (hbelow j0 hj0) (not_lt.2 hL)

-- non-vacuity of the descent hypothesis: f(x) = x²/2 on ℝ, ∇f = id, Lf = 1 (equality holds)
example : ∀ x y : ℝ, y ^ 2 / 2 ≤ x ^ 2 / 2 + inner ℝ x (y - x) + 1 / 2 * (‖y - x‖ * ‖y - x‖) := by
  intro x y
  have h : inner ℝ x (y - x) = (y - x) * x := by simp [mul_comm]
  rw [h, Real.norm_eq_abs, abs_mul_abs_self]
  exact le_of_eq (by ring)

end descent

section nan
variable {K : Type} [Field K] [LinearOrder K] [IsStrictOrderedRing K] [HasSqrt K] {V : Type}

/-- **Function values outside the domain of the loss** (NaN, as for a loss with a logarithm or a square root): a candidate
    whose `f(z)` is NaN is never accepted, whatever the quadratic model — the search backtracks (increases `L`) until the
    candidate is inside the domain or the budget ends. -/
theorem C16_linesearch_nan_candidate (env : Env V (XR K)) (v : V) (M : XR K)
    (hz : env.f (xstep env v M) = nan) : ¬ Accept env v M := by
  unfold Accept
  rw [hz]
  exact XR.not_nan_le _

/-- Conversely an *accepted* candidate lies in the domain of the loss: if `LineSearchStepSize.update` ends on an accepted value
    (not on "budget exhausted"), then `f` at the new iterate `x_step(v, L')` of `PGM.step` is not NaN — whatever the loss, also
    when earlier candidates were outside (`C16_linesearch_nan_candidate`: they are rejected and `L` is increased). -/
theorem C16_linesearch_accepted_in_domain (env : Env V (XR K)) (v : V) (M : XR K) (h : Accept env v M) :
    env.f (xstep env v M) ≠ nan ∧ fquad env (xstep env v M) v M ≠ nan := by
  unfold Accept at h
  constructor
  · intro hz; rw [hz] at h; exact XR.not_nan_le _ h
  · intro hq; rw [hq] at h; exact XR.not_le_nan _ h

/-- … and when the current point itself is outside the domain (`f(v)` NaN) no value is accepted: `LineSearchStepSize.update`
    tries `maxiter` candidates and returns the last value tried, `L·γ_u^(maxiter−1)`. -/
theorem C16_linesearch_nan_point (env : Env V (XR K)) (γu : XR K) (maxiter : Nat) (x v : V) (L L' : XR K)
    (ps ps' : PolState V (XR K)) (hv : env.f v = nan)
    (h : update env (.ls γu (maxiter + 1)) x L ps v = some (L', ps')) :
    (∀ M, ¬ Accept env v M) ∧ L' = geom L γu maxiter ∧ ps'.tried = maxiter + 1 := by
  have hnone : ∀ M, ¬ Accept env v M := by
    intro M
    unfold Accept fquad
    simp only [hv, XR.nan_add]
    exact XR.not_le_nan _
  rcases update_ls env γu (maxiter + 1) x L ps v L' ps' h with ⟨h0, _, _⟩ | ⟨k, _, hL, ht, _, hend⟩
  · exact absurd h0 (Nat.succ_ne_zero _)
  · cases Nat.succ.inj (hend.resolve_left (hnone L'))
    exact ⟨hnone, hL, ht⟩

end nan

-- non-vacuity: a NaN value fails both comparisons, `nan + a` is NaN
example : ¬ ((nan : XR ℚ) ≤ fin 1) ∧ ¬ ((fin 1 : XR ℚ) ≤ nan) ∧ (nan : XR ℚ) + fin 1 = nan :=
  ⟨XR.not_nan_le _, XR.not_le_nan _, XR.nan_add _⟩

section robustsearch

variable {V S : Type} [Zero S] [One S] [Add S] [Sub S] [Mul S] [Div S] [LE S] [DecidableLE S] [LT S]
  [DecidableLT S] [IEEE S] [HasSqrt S]

/-- `RobustLineSearchStepSize.update`: starts from `γ_d·L`; returns `γ_d·L·γ_u^k` for the least
    accepted `k < maxiter` (last tried otherwise); the candidate `Z` handed back, the new `T_k` and the
    update of the auxiliary sequence `Zrb` are all computed with the returned value. -/
theorem C16_linesearch_robust (env : Env V S) (γd γu : S) (maxiter : Nat) (x : V) (L : S)
    (ps : PolState V S) (v : V) (L' : S) (ps' : PolState V S)
    (h : update env (.rls γd γu maxiter) x L ps v = some (L', ps')) :
    ∃ k, k < maxiter ∧ L' = geom (L * γd) γu k ∧ ps'.tried = k + 1 ∧
      (∀ j, j < k → ¬ AcceptR env x ps.Tk (zrbOf ps x) (geom (L * γd) γu j)) ∧
      (AcceptR env x ps.Tk (zrbOf ps x) L' ∨ k + 1 = maxiter) ∧
      ps'.Z = some (rlsTrial env x ps.Tk (zrbOf ps x) L').2.2.2 ∧
      ps'.Tk = (rlsTrial env x ps.Tk (zrbOf ps x) L').2.1 ∧
      ps'.Zrb = some (env.add (zrbOf ps x) (env.smul ((rlsTrial env x ps.Tk (zrbOf ps x) L').1 * L')
        (env.sub (rlsTrial env x ps.Tk (zrbOf ps x) L').2.2.2 (rlsTrial env x ps.Tk (zrbOf ps x) L').2.2.1))) :=
  update_rls env γd γu maxiter x L ps v L' ps' h

end robustsearch

section robust
variable {V : Type}

/-- One trial of the robust search with the value `L > 0` and `T_k ≥ 0` (exact arithmetic): the step
    `t = (1+√(1+4LT_k))/(2L)` is at least `1/L`, satisfies the estimate-sequence identity `L·t² = T_k + t = T`, and the
    weights `T_k/T`, `t/T` of the auxiliary point `y = (T_k·x + t·Zrb)/T` are non-negative and sum to one. -/
theorem C16_robust_trial (env : Env V ℝ) (x Zrb : V) (Tk L : ℝ) (hL : 0 < L) (hT : 0 ≤ Tk) :
    let r := rlsTrial env x Tk Zrb L
    1 / L ≤ r.1 ∧ r.2.1 = Tk + r.1 ∧ L * r.1 ^ 2 = r.2.1 ∧ 0 ≤ Tk / r.2.1 ∧ 0 < r.1 / r.2.1 ∧ Tk / r.2.1 + r.1 / r.2.1 = 1 := by
  intro r
  obtain ⟨h1, h2⟩ := rlsTrial_eq_rlsT env x Tk Zrb L
  obtain ⟨a, b, c, d⟩ := rlsT_spec Tk L hL hT
  have hr1 : r.1 = rlsT Tk L := h1
  have hr2 : r.2.1 = Tk + rlsT Tk L := h2
  have hpos : 0 < Tk + rlsT Tk L := add_pos_of_nonneg_of_pos hT b
  rw [hr1, hr2]
  refine ⟨a, rfl, c, div_nonneg hT (le_of_lt hpos), div_pos b hpos, ?_⟩
  rw [← add_div, div_self (ne_of_gt hpos)]

open Classical in
/-- **Invariant along every accelerated-PGM run with the robust line search** (any problem, any `γ_d, γ_u > 0`, any
    budget, any number of steps, `L₀ > 0`): `L > 0` and `T_k ≥ 0` hold after every step, and each further step
    produces `L_{k+1} > 0`, `T_{k+1} > T_k` with `L_{k+1}·(T_{k+1} − T_k)² = T_{k+1}` — the identity of the
    Florea–Vorobyov estimate sequence, for the `L` that is *returned* (with which the handed-back candidate and the
    update of `Zrb` are computed, `C16_linesearch_robust`). -/
theorem C16_robust_estimate_sequence (env : Env V ℝ) (γd γu : ℝ) (m : Nat) (hγd : 0 < γd) (hγu : 0 < γu)
    (x0 : V) (L0 inf : ℝ) (hL0 : 0 < L0) (k : Nat) (s s' : PGMState V ℝ)
    (h : iterate (apgmStep env (.rls γd γu m)) k (PGMState.init x0 L0 inf) = some s)
    (h' : apgmStep env (.rls γd γu m) s = some s') :
    0 < s.L ∧ 0 ≤ s.ps.Tk ∧ 0 < s'.L ∧ s.ps.Tk < s'.ps.Tk ∧ s'.L * (s'.ps.Tk - s.ps.Tk) ^ 2 = s'.ps.Tk := by
  have hstep : ∀ s s' : PGMState V ℝ, 0 < s.L ∧ 0 ≤ s.ps.Tk → apgmStep env (.rls γd γu m) s = some s' →
      0 < s'.L ∧ s.ps.Tk < s'.ps.Tk ∧ s'.L * (s'.ps.Tk - s.ps.Tk) ^ 2 = s'.ps.Tk := fun s s' hs hs' =>
    update_rls_estimate_sequence env γd γu m s.x s.L s.ps _ s'.L s'.ps hs.1 hγd hγu hs.2 (apgmStep_some env _ s s' hs').1
  have hinv : 0 < s.L ∧ 0 ≤ s.ps.Tk :=
    iterate_pred _ (fun s => 0 < s.L ∧ 0 ≤ s.ps.Tk)
      (fun s1 s2 hs h12 => ⟨(hstep s1 s2 hs h12).1, hs.2.trans (hstep s1 s2 hs h12).2.1.le⟩) k _ s ⟨hL0, le_rfl⟩ h
  exact ⟨hinv.1, hinv.2, hstep s s' hinv h'⟩

-- non-vacuity: T_k = 2, L = 1: t = (1+√9)/2 = 2, T = 4 = L·t²
example : rlsT 2 1 = 2 := by
  unfold rlsT
  have : Real.sqrt (1 + 4 * 1 * 2) = 3 := by
    rw [show (1 + 4 * 1 * 2 : ℝ) = 3 ^ 2 by norm_num]; exact Real.sqrt_sq (by norm_num)
  rw [this]; norm_num

end robust

section pgmrobust
variable {V S : Type} [Zero S] [One S] [Add S] [Sub S] [Mul S] [Div S] [LE S] [DecidableLE S] [LT S]
  [DecidableLT S] [IEEE S] [HasSqrt S]

/-- **Plain `PGM` with `RobustLineSearchStepSize`** (the class is documented for accelerated PGM, but `PGM` accepts it):
    the policy runs its search from `γ_d·L` at its own auxiliary point `y` and stores the accepted candidate in `Z`, but
    `PGM.step` ignores `Z` — the new iterate is `x_step(x, L')` with the `L'` that was tested at `y`, not at `x`. -/
theorem C16_pgm_robust (env : Env V S) (γd γu : S) (m : Nat) (s s' : PGMState V S)
    (h : pgmStep env (.rls γd γu m) s = some s') :
    update env (.rls γd γu m) s.x s.L s.ps s.x = some (s'.L, s'.ps) ∧
    s'.x = xstep env s.x s'.L ∧
    s'.ps.Z = some (rlsTrial env s.x s.ps.Tk (zrbOf s.ps s.x) s'.L).2.2.2 ∧
    (rlsTrial env s.x s.ps.Tk (zrbOf s.ps s.x) s'.L).2.2.2 =
      xstep env (rlsTrial env s.x s.ps.Tk (zrbOf s.ps s.x) s'.L).2.2.1 s'.L := by
  obtain ⟨hu, hx⟩ := pgmStep_some env _ s s' h
  obtain ⟨k, _, _, _, _, _, hZ, _, _⟩ := update_rls env γd γu m s.x s.L s.ps s.x s'.L s'.ps hu
  exact ⟨hu, hx, hZ, rfl⟩

/-- On the first call (`T_k = 0`, `Zrb` unset) the auxiliary point is `(0·x + t·x)/t`: when the array operations satisfy
    that this is `x` (true for exact vector arithmetic), the ignored candidate and the iterate coincide — the difference
    shows from the second step on. -/
theorem C16_pgm_robust_first_step (env : Env V S) (x : V) (L : S)
    (hlaw : env.sdiv (env.add (env.smul 0 x) (env.smul (rlsTrial env x 0 x L).1 x)) (rlsTrial env x 0 x L).2.1 = x) :
    (rlsTrial env x 0 x L).2.2.2 = xstep env x L := by
  have : (rlsTrial env x 0 x L).2.2.1 = x := hlaw
  show xstep env (rlsTrial env x 0 x L).2.2.1 L = xstep env x L
  rw [this]

end pgmrobust

section apgm

variable {V S : Type} [Zero S] [One S] [Add S] [Sub S] [Mul S] [Div S] [LE S] [DecidableLE S] [LT S]
  [DecidableLT S] [IEEE S] [HasSqrt S]

/-- Barzilai–Borwein policies see the *iterate* `x_k` (differences of successive iterates), the
    gradient step is then taken from the extrapolation `v_k` with the new `L`. -/
theorem C16_apgm_point_bb (env : Env V S) (pol : Policy S) (hpol : pol.isBB = true) (s s' : PGMState V S)
    (h : apgmStep env pol s = some s') :
    update env pol s.x s.L s.ps s.x = some (s'.L, s'.ps) ∧ s'.x = xstep env s.v s'.L := by
  obtain ⟨hu, hx⟩ := apgmStep_some env pol s s' h
  rw [apgmPoint, hpol, if_pos rfl] at hu
  cases pol with
  | bb => exact ⟨hu, hx.1⟩
  | abb κ => exact ⟨hu, hx.1⟩
  | _ => cases hpol

/-- The base policy and the line search see the *extrapolation* `v_k`; the new iterate is
    `x_step(v_k, L)` (for the line search: the candidate tested with the returned `L`), and the
    extrapolation is `v' = x' + ((t−1)/t')(x' − x)` with `t' = (1+√(1+4t²))/2`. -/
theorem C16_apgm_point_v (env : Env V S) (pol : Policy S) (hpol : pol = .base ∨ ∃ γu m, pol = .ls γu m)
    (s s' : PGMState V S) (h : apgmStep env pol s = some s') :
    update env pol s.x s.L s.ps s.v = some (s'.L, s'.ps) ∧ s'.x = xstep env s.v s'.L ∧
      s'.t = half * (1 + sqrt (1 + four * (s.t * s.t))) ∧
      s'.v = env.add s'.x (env.smul ((s.t - 1) / s'.t) (env.sub s'.x s.x)) := by
  rcases hpol with rfl | ⟨γu, m, rfl⟩ <;> exact apgmStep_some env _ s s' h

/-- The robust line search is called with `v_k` but computes its own auxiliary point; the new
    iterate is the candidate `Z` it hands back, and `v`, `t` are left untouched. -/
theorem C16_apgm_point_robust (env : Env V S) (γd γu : S) (m : Nat) (s s' : PGMState V S)
    (h : apgmStep env (.rls γd γu m) s = some s') :
    update env (.rls γd γu m) s.x s.L s.ps s.v = some (s'.L, s'.ps) ∧ s'.ps.Z = some s'.x ∧
      s'.v = s.v ∧ s'.t = s.t :=
  apgmStep_some env _ s s' h

end apgm

/-! ### the data the model copies from the source (kept equal to it by `Generated/StepSizeTables.lean`) -/

section source

/-- **Dispatch of `AcceleratedPGM.step`.**  The model's tests (`Policy.isBB` in `apgmPoint`, the `.rls` branch of `apgmStep`)
    are the `isinstance` tests of the source — for the class hierarchy and the class tuples that the translator reads from
    `_pgmaux.py` / `_pgm.py` (subclasses included: `RobustLineSearchStepSize` derives from `LineSearchStepSize`), and the
    arguments are `self.x` (BB classes, and always in `PGM.step`), `self.v` (otherwise), `self.step_size.Z` (robust branch). -/
theorem C16_dispatch_isinstance {S : Type} (pol : Policy S) :
    pol.isBB = isInstanceOf policyClasses pol.className dispatch.apgmArgClasses ∧
    (match pol with | .rls _ _ _ => true | _ => false) = isInstanceOf policyClasses pol.className dispatch.apgmZClasses ∧
    dispatch.pgmArg = "self.x" ∧ dispatch.apgmArgThen = "self.x" ∧ dispatch.apgmArgElse = "self.v" ∧
      dispatch.apgmZThen = "self.step_size.Z" := by
  refine ⟨?_, ?_, by decide +kernel⟩
  · cases pol <;> (simp only [Policy.isBB, Policy.className]; decide +kernel)
  · cases pol <;> (simp only [Policy.className]; decide +kernel)

/-- **The constructor defaults are admissible**: every step-size class constructed with its default arguments (read from the
    source: `kappa = 0.5`; `gamma_u = 1.2, maxiter = 50`; `gamma_d = 0.9, gamma_u = 2.0, maxiter = 50`) is a policy satisfying the
    hypothesis `PolOK` of `C16_positive_finite_pgm/apgm/update`. -/
theorem C16_defaults_admissible :
    ∀ r ∈ policyClasses, ∃ pol : Policy (XR ℚ), policyOfDefaults r.1 r.2.2 = some pol ∧ PolOK pol ∧ pol.className = r.1 := by
  intro r hr
  simp only [policyClasses, List.mem_cons, List.not_mem_nil, or_false] at hr
  rcases hr with rfl | rfl | rfl | rfl | rfl
  · exact ⟨.base, rfl, trivial, rfl⟩
  · exact ⟨.bb, rfl, trivial, rfl⟩
  · exact ⟨.abb (fin ((5 : ℚ) / 10 ^ 1)), rfl, trivial, rfl⟩
  · exact ⟨.ls (fin ((12 : ℚ) / 10 ^ 1)) 50, rfl, ⟨_, rfl, by norm_num⟩, rfl⟩
  · exact ⟨.rls (fin ((9 : ℚ) / 10 ^ 1)) (fin ((20 : ℚ) / 10 ^ 1)) 50, rfl,
      ⟨⟨_, rfl, by norm_num⟩, ⟨_, rfl, by norm_num⟩⟩, rfl⟩

end source

-- orthogonal differences, `Re⟨Δx,Δg⟩ = 0 < ‖Δg‖²`: the quotient is `+inf`, the previous value is kept
example : bbRule (fin 1 : XR ℚ) (fin 0) (fin 2) = fin 1 := by
  rw [C16_bb_ratio_fin _ _ _ (by norm_num)]; norm_num
-- positive curvature: the documented ratio
example : bbRule (fin 1 : XR ℚ) (fin 2) (fin 6) = fin 3 := by
  rw [C16_bb_ratio_fin _ _ _ (by norm_num)]; norm_num
-- repeated iterate (0/0) and negative curvature
example : bbRule (fin 5 : XR ℚ) (fin 0) (fin 0) = fin 5 := by
  rw [C16_bb_ratio_fin _ _ _ (by norm_num)]; norm_num
example : bbRule (fin 5 : XR ℚ) (fin (-1)) (fin 2) = fin 5 := by
  rw [C16_bb_ratio_fin _ _ _ (by norm_num)]; norm_num
-- an infinite numerator is not taken either
example : bbRule (fin 5 : XR ℚ) (fin 1) pinf = fin 5 := by
  classical
  rw [C16_bb_ratio]
  rw [if_neg (by rw [pinf_div_fin one_pos]; exact not_posFin_pinf)]
-- adaptive rule: α_BB1 = 1/2, α_BB2 = 1/4, ratio 1/2 < κ = 3/4 → α = α_BB2, L = 4
example : abbRule (fin (3/4) : XR ℚ) (fin 1) none none (fin 1) (fin 2) (fin 8) =
    (fin 4, some (fin 2), some (fin 4)) := by
  rw [C16_adaptive_bb _ _ _ _ (by norm_num) (by norm_num) (by norm_num)]
  norm_num [abbAlpha]
-- the hypotheses of the positivity theorem are satisfiable: default parameters of both line searches
example : PolOK (.ls (fin (6/5)) 50 : Policy (XR ℚ)) := ⟨6/5, rfl, by norm_num⟩
example : PolOK (.rls (fin (9/10)) (fin 2) 50 : Policy (XR ℚ)) := ⟨⟨9/10, rfl, by norm_num⟩, ⟨2, rfl, by norm_num⟩⟩
-- search loop: budget 3, nothing accepted → the last value tried, L₀γ² (not L₀γ³)
example : searchLoop (fin 2 : XR ℚ) (fun _ L => L) (fun _ _ => false) 3 0 (fin 1) = some (fin 4, fin 4, 3) := by
  simp [searchLoop, -mul_def, fin_mul_fin]; norm_num
-- the hypothesis `γ_u > 0` of the positivity theorems is needed: with `γ_u = −1` a rejected first trial makes `L` negative
example : searchLoop (fin (-1) : XR ℚ) (fun _ L => L) (fun _ _ => false) 2 0 (fin 1) = some (fin (-1), fin (-1), 2) := by
  simp [searchLoop, -mul_def, fin_mul_fin]
-- accepted at the second trial
example : searchLoop (2 : ℚ) (fun _ L => L) (fun L _ => decide (2 ≤ L)) 5 0 1 = some (2, 2, 2) := by
  simp [searchLoop]

end Scico.Props.C16
