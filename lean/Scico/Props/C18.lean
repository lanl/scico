/-
  Property C18 — the scipy.optimize wrappers are transparent to shape, dtype and options.
  The property theorems and their examples; the general lemmas are in `Scico/Proofs/Wrap*.lean`.

  Model: `Scico.Model.Wrap` (transcription of `_ravel`, `_unravel`, `_split_real_imag`,
  `_join_real_imag` and the prologue/epilogue of `solver.minimize`); specification side:
  `WF`, `SplitShaped`, `SameForm`, `total`, kind and shape of a container of `Scico.Proofs.Wrap`,
  `Container.Rel` and `Container.pair` of `Scico.Proofs.WrapLayout`;
  generated keyword tables: `Scico.Proofs.WrapKwargs` + `Scico/Generated/Kwargs.lean`.
  All statements hold for every scalar type `α`, every number, shape and size of blocks.
-/
import Scico.Proofs.WrapLayout
import Scico.Proofs.WrapKwargs

namespace Scico.Props.C18
open Scico.Wrap

variable {α : Type}

/-- `join (split x) = x` for arrays and block arrays … -/
theorem C18_split_join (x : Val (Cx α)) (h : x.WF) : joinVal (splitVal x) = some x :=
  joinVal_splitVal x h

/-- … and `split (join r) = r` for every real container with leading axes of length 2 -/
theorem C18_join_split (r : Val α) (h : SplitShaped r) :
    ∃ z, joinVal r = some z ∧ splitVal z = r ∧ z.WF := by
  obtain ⟨z, rfl, hz⟩ := exists_splitVal_eq r h
  exact ⟨z, joinVal_splitVal z hz, rfl, hz⟩

/-- flatten then un-flatten is the identity (arrays of any shape, block arrays of any block shapes) -/
theorem C18_ravel_reshape (x : Val α) (h : x.WF) (hv : (shapeOf x).Valid) :
    unravel (ravel x) (shapeOf x) = some x :=
  unravel_ravel x h hv

/-- un-flatten then flatten is the identity: `_unravel` accepts exactly the vectors of the right
    length, gives the requested (nested) shape and keeps the order of the entries -/
theorem C18_reshape_ravel (v : List α) (sh : Shape) (hv : sh.Valid) (h : v.length = total sh) :
    ∃ x, unravel v sh = some x ∧ ravel x = v ∧ shapeOf x = sh ∧ x.WF := by
  obtain ⟨x, rfl, rfl, hx⟩ := exists_ravel_eq v sh h
  exact ⟨x, unravel_ravel x hx hv, rfl, rfl, hx⟩

/-- a vector of the wrong length is rejected, never silently re-cut -/
theorem C18_reject_length (v : List α) (sh : Shape) (hv : sh.Valid) (h : v.length ≠ total sh) :
    unravel v sh = none := by
  rw [Option.eq_none_iff_forall_ne_some]
  intro x hx
  obtain ⟨rfl, rfl, hwf⟩ := (unravel_eq_some_iff hv).1 hx
  exact h (length_ravel x hwf)

/-- order: the flat vector is the concatenation of the blocks' row-major data in block order;
    for a complex start each block contributes its real parts followed by its imaginary parts -/
theorem C18_layout (bs : List (Arr α)) (cs : List (Arr (Cx α))) :
    x0flat (.real (.blk bs)) = (bs.map Arr.data).flatten ∧
    x0flat (.cplx (.blk cs)) = (cs.map (fun b => b.data.map Cx.re ++ b.data.map Cx.im)).flatten := by
  constructor
  · rfl
  · show ((cs.map splitArr).map Arr.data).flatten = _
    rw [List.map_map]
    rfl

/-- index form for a complex array with `m` entries: flat coordinate `p < m` is `Re z_p`, flat
    coordinate `m + p` is `Im z_p` (row-major order of the entries) -/
theorem C18_layout_array (a : Arr (Cx α)) (p : Nat) (hp : p < a.data.length) :
    (x0flat (.cplx (.arr a)))[p]? = some (a.data[p]).re ∧
    (x0flat (.cplx (.arr a)))[a.data.length + p]? = some (a.data[p]).im :=
  getElem?_splitArr a p hp

/-- index form for block arrays: entry `p` of block `i` is flat coordinate `off + p`, where `off` is
    the number of scalars of the blocks before it; for a complex block array the real part of entry
    `p` of block `i` is coordinate `off + p` and its imaginary part `off + mᵢ + p`, `off` = twice the
    number of entries of the blocks before, `mᵢ` the number of entries of block `i` -/
theorem C18_layout_block (bs : List (Arr α)) (cs : List (Arr (Cx α))) :
    (∀ (i : Nat) (hi : i < bs.length) (p : Nat) (hp : p < bs[i].data.length),
      (x0flat (.real (.blk bs)))[((bs.take i).map (fun b => b.data.length)).sum + p]? = some bs[i].data[p]) ∧
    (∀ (i : Nat) (hi : i < cs.length) (p : Nat) (hp : p < cs[i].data.length),
      (x0flat (.cplx (.blk cs)))[((cs.take i).map (fun b => 2 * b.data.length)).sum + p]?
          = some (cs[i].data[p]).re ∧
      (x0flat (.cplx (.blk cs)))[((cs.take i).map (fun b => 2 * b.data.length)).sum + cs[i].data.length + p]?
          = some (cs[i].data[p]).im) := by
  constructor
  · intro i hi p hp
    exact (getElem?_ravel_blk bs i hi p hp).trans (List.getElem?_eq_getElem hp)
  · -- the complex block array is flattened as the real block array of its split blocks
    intro i hi p hp
    obtain ⟨hre, him⟩ := getElem?_splitArr cs[i] p hp
    exact ⟨(getElem?_ravel_blk_split cs i hi p (by omega)).trans hre,
      by rw [Nat.add_assoc]; exact (getElem?_ravel_blk_split cs i hi _ (by omega)).trans him⟩

/-- the function handed to scipy is `func ∘ join ∘ reshape`: at the flattening of any container
    `c` of the form of `x0` it takes the value `func c` (in particular at `x0` itself) -/
theorem C18_objective {ρ : Type} (func : Container α → ρ) (c0 c : Container α) (hwf : c.WF)
    (hform : SameForm c c0) (hv0 : (workShape c0).Valid) :
    objective func c0 (x0flat c) = some (func c) :=
  objective_of_result func (result_x0flat c c0 hwf hform hv0)

/-- … and the extra arguments of `args=` reach `func` unchanged, after the container -/
theorem C18_objective_args {ρ A : Type} (func : Container α → A → ρ) (c0 c : Container α) (hwf : c.WF)
    (hform : SameForm c c0) (hv0 : (workShape c0).Valid) (args : A) :
    objectiveArgs func c0 (x0flat c) args = some (func c args) :=
  congrArg (Option.map fun c => func c args) (result_x0flat c c0 hwf hform hv0)

/-- the flat real problem is *equivalent*: flattening is a bijection between containers of the
    form of `x0` and real vectors of length `total`, inverse to what `minimize` does with
    scipy's answer -/
theorem C18_bijection (c0 : Container α) (hwf0 : c0.WF) (hv0 : (workShape c0).Valid) :
    (∀ c, c.WF → SameForm c c0 →
        (x0flat c).length = total (workShape c0) ∧ result c0 (x0flat c) = some c) ∧
    (∀ v : List α, v.length = total (workShape c0) →
        ∃ c, result c0 v = some c ∧ x0flat c = v ∧ c.WF ∧ SameForm c c0) := by
  constructor
  · intro c hc hf
    exact ⟨length_x0flat_of_sameForm hc hf, result_x0flat c c0 hc hf hv0⟩
  · intro v hv
    exact x0flat_result c0 hv0 v hv

/-- changing one coordinate `j` of the flat vector changes the argument of `func` along the path of
    containers whose flattening differs in coordinate `j` only — by `C18_layout` that coordinate is the
    real or the imaginary part of one entry.  Hence the `j`-th partial derivative of the flat objective
    is the derivative of `func` with respect to that one real slot (`∂/∂re`, `∂/∂im`). -/
theorem C18_coordinate_path {ρ : Type} (func : Container α → ρ) (c0 c : Container α) (hwf0 : c0.WF)
    (hv0 : (workShape c0).Valid) (hwf : c.WF) (hform : SameForm c c0) (j : Nat) (a : α) :
    ∃ c', result c0 ((x0flat c).set j a) = some c' ∧ c'.WF ∧ SameForm c' c0 ∧
      x0flat c' = (x0flat c).set j a ∧
      objective func c0 ((x0flat c).set j a) = some (func c') := by
  have hlen : ((x0flat c).set j a).length = total (workShape c0) := by
    rw [List.length_set, length_x0flat_of_sameForm hwf hform]
  obtain ⟨c', hc', hfl, hw, hf⟩ := x0flat_result c0 hv0 _ hlen
  exact ⟨c', hc', hw, hf, hfl, objective_of_result func hc'⟩

/-- therefore: what scipy reports as a minimiser of the flat objective is returned as a
    minimiser of `func` among all containers of the form of `x0` -/
theorem C18_minimiser {ρ : Type} [Preorder ρ] (func : Container α → ρ) (c0 : Container α)
    (hwf0 : c0.WF) (hv0 : (workShape c0).Valid) (v : List α) (hv : v.length = total (workShape c0))
    (hmin : ∀ w : List α, w.length = total (workShape c0) →
      ∀ a b, objective func c0 v = some a → objective func c0 w = some b → a ≤ b) :
    ∃ c, result c0 v = some c ∧ c.WF ∧ SameForm c c0 ∧
      ∀ c', c'.WF → SameForm c' c0 → func c ≤ func c' := by
  obtain ⟨c, hc, _, hcwf, hcf⟩ := x0flat_result c0 hv0 v hv
  refine ⟨c, hc, hcwf, hcf, ?_⟩
  intro c' hc' hf'
  exact hmin (x0flat c') (length_x0flat_of_sameForm hc' hf') (func c) (func c') (objective_of_result func hc)
    (objective_of_result func (result_x0flat c' c0 hc' hf' hv0))

/-- the result has the container kind (array / block array, real / complex) and the shape of `x0`
    (for a complex start: the shape without the leading re/im axis of the work array) -/
theorem C18_container (c0 : Container α) (hwf0 : c0.WF) (hv0 : (workShape c0).Valid) (v : List α)
    (hv : v.length = total (workShape c0)) :
    ∃ c, result c0 v = some c ∧ c.WF ∧ c.isCplx = c0.isCplx ∧ c.shape = c0.shape := by
  obtain ⟨c, hc, _, hcwf, hcf⟩ := x0flat_result c0 hv0 v hv
  exact ⟨c, hc, hcwf, sameForm_shape c c0 hcf⟩

/-- bounds in container form: comparing two containers of one form entry by entry (real and imaginary
    parts separately) is comparing their flat vectors coordinate by coordinate.  Hence
    `bounds = Bounds(flat(L), flat(U))` (flattened as `minimize` flattens `x0`) restricts scipy to
    exactly the vectors whose container lies entrywise between `L` and `U`. -/
theorem C18_bounds_layout (R : α → α → Prop) (c0 L : Container α) (hwf0 : c0.WF) (hv0 : (workShape c0).Valid)
    (hL : L.WF) (hLf : SameForm L c0) (v : List α) (hv : v.length = total (workShape c0)) :
    ∃ c, result c0 v = some c ∧ (List.Forall₂ R (x0flat L) v ↔ Container.Rel R L c) := by
  obtain ⟨c, hc, hfl, hcwf, hcf⟩ := x0flat_result c0 hv0 v hv
  exact ⟨c, hc, hfl ▸ x0flat_rel R L c hL hcwf (hLf.trans hcf.symm)⟩

/-- the true gradient: let `G` be the container of partial derivatives of `func` at a point (what
    `jax.value_and_grad` returns for the work container: one real number per slot).  The vector handed
    to scipy is `flat G`, and it represents the same differential on the flat problem:
    `⟨flat G, flat H⟩ = Σ_slots G_slot · H_slot` for every direction `H` of the form of `x0` — so by
    `C18_bijection` (every flat direction is `flat H` for exactly one `H`) `flat G` is the gradient of
    the flat objective, coordinate `j` being the partial with respect to the slot `j` labels. -/
theorem C18_gradient_pairing {K : Type} [CommSemiring K] (G H : Container K) (hG : G.WF) (hH : H.WF)
    (hform : SameForm G H) : dotL (x0flat G) (x0flat H) = Container.pair G H := by
  obtain ⟨x, y, rfl, rfl, hs⟩ | ⟨x, y, rfl, rfl, hs⟩ := hform.kinds
  · exact ravel_pair x y hG hH hs
  · exact (ravel_pair _ _ (splitVal_wf x hG) (splitVal_wf y hH) hs).trans
      (splitVal_pair x y hG hH (splitVal_shape_inj x y hs))

/-- the result dtype is the dtype of `x0` -/
theorem C18_dtype (d : DT) : resultDType d = d := by cases d <;> rfl

/-- integer and boolean starting points are outside: exactly the floating and complex dtypes are taken -/
theorem C18_start_dtypes (d : DT) : d.isInexact = true ↔ d = .f32 ∨ d = .f64 ∨ d = .c64 ∨ d = .c128 := by
  cases d <;> simp [DT.isInexact]

/-- `minimize_scalar`: the wrapper hands scipy the value of a 0-d result and the single entry of a
    `(1,)` result of `func` -/
theorem C18_scalar_value (a : α) :
    scalarOf (⟨[], [a]⟩ : Arr α) = some a ∧ scalarOf (⟨[1], [a]⟩ : Arr α) = some a :=
  ⟨scalarOf_scalar a, scalarOf_one a⟩

/-- Keyword routing (statement about any generated table `t`; `Generated/Kwargs.lean` instantiates
    it for the current `solver.py` by `decide`): no accepted keyword is silently ignored, the
    pass-through keywords reach scipy verbatim, every keyword passed on exists in scipy. -/
theorem C18_no_silent_keyword (t : Kwargs.FnTable) (expected : List (String × String))
    (h : Kwargs.checkFn t expected = true) :
    (∀ k ∈ t.accepted, k ∈ t.forwarded ∨ k ∈ t.rejected) ∧
    (∀ p ∈ expected, p ∈ t.verbatim) ∧ (∀ k ∈ t.callKeywords, k ∈ t.scipyParams) :=
  Kwargs.checkFn_sound t expected h

/-- an omitted pass-through keyword means what it means in scipy: for any generated table passing
    `checkDefaults`, the wrapper's default of every pass-through parameter (outside the declared
    exceptions) is scipy's default.  `Generated/Kwargs.lean` proves the hypothesis for the current
    source (`minimizeDefaults_ok` with the one exception `minimize(method="L-BFGS-B")`,
    `minimizeScalarDefaults_ok` without exception). -/
theorem C18_defaults (t : Kwargs.FnTable) (allowed : List String)
    (h : Kwargs.checkDefaults t allowed = true) :
    ∀ kp ∈ t.verbatim, kp.2 ∉ allowed → t.defaults.lookup kp.2 = t.scipyDefaults.lookup kp.1 :=
  Kwargs.checkDefaults_sound t allowed h

/-- the jax gradient is requested exactly for scipy's gradient-based solvers, however the method
    name is capitalised (`lower` = Python's `str.lower`, which is also how scipy resolves the name) -/
theorem C18_gradient_methods (lower : String → String) (method : String)
    (h : lower method ∈ scipyMethods) :
    usesGrad lower method = !(scipyNoGradient.contains (lower method)) := by
  have key : ∀ m ∈ scipyMethods, usesGradLower m = !(scipyNoGradient.contains m) := by decide +kernel
  exact key _ h

/-- a user-supplied callable `method` is run without the jax gradient (`jac=False`), whatever it is -/
theorem C18_callable_method (lower : String → String) :
    usesGradM lower .callable = false ∧ ∀ m, usesGradM lower (.name m) = usesGrad lower m :=
  ⟨rfl, fun _ => rfl⟩

/-- the inner scipy call: every pass-through argument arrives as the caller's value, whatever it is
    (also falsy ones: `tol = 0.0`, `options = {}`, `bounds = []`), and `jac` is `True` exactly for the
    gradient-based solvers — per method of the installed scipy: `jac` is passed for `m` iff `m` is not
    one of Nelder-Mead, Powell, COBYLA, COBYQA -/
theorem C18_forwarding {V : Type} (lower : String → String) (m : Method) (a : MinArgs V) :
    let c := scipyCall lower m a
    c.args = a.args ∧ c.method = a.method ∧ c.hess = a.hess ∧ c.hessp = a.hessp ∧ c.bounds = a.bounds ∧
    c.constraints = a.constraints ∧ c.tol = a.tol ∧ c.callback = a.callback ∧ c.options = a.options ∧
    c.jac = usesGradM lower m ∧
    (∀ name, m = .name name → lower name ∈ scipyMethods →
      c.jac = !(scipyNoGradient.contains (lower name))) := by
  refine ⟨rfl, rfl, rfl, rfl, rfl, rfl, rfl, rfl, rfl, rfl, ?_⟩
  intro name hm hmem
  subst hm
  exact C18_gradient_methods lower name hmem

section examples

def exC : Val (Cx Int) := .blk [⟨[2], [⟨1, 2⟩, ⟨3, 4⟩]⟩, ⟨[], [⟨5, 6⟩]⟩]

example : exC.WF := by
  intro b hb
  simp at hb
  rcases hb with rfl | rfl <;> rfl

-- a complex block array ((2,),()) is handed to scipy as [1,3,2,4,5,6] and comes back unchanged
example : x0flat (.cplx exC) = [1, 3, 2, 4, 5, 6] := by decide +kernel
example : result (.cplx exC) [1, 3, 2, 4, 5, 6] = some (.cplx exC) := by decide +kernel
example : result (.cplx exC) [0, 0, 0, 0, 0, 7] =
    some (.cplx (.blk [⟨[2], [⟨0, 0⟩, ⟨0, 0⟩]⟩, ⟨[], [⟨0, 7⟩]⟩])) := by decide +kernel
example : unravel [1, 2, 3, 4, 5, 6] (.flat [2, 3]) = some (Val.arr ⟨[2, 3], [1, 2, 3, 4, 5, 6]⟩) := rfl
example : unravel [1, 2, 3, 4, 5] (.flat [2, 3]) = (none : Option (Val Int)) := by decide +kernel
-- the vectors C18_minimiser speaks of, for a real start of shape (2,): those of length 2
example : total (workShape (Container.real (Val.arr (⟨[2], [5, 7]⟩ : Arr Nat)))) = 2 := by decide +kernel

-- the hypotheses about shapes are satisfiable: `exC` has blocks, its work shape is ((2,2),(2,))
example : (workShape (.cplx exC)).Valid := by decide +kernel
example : workShape (.cplx exC) = .nested [[2, 2], [2]] := rfl
-- block 1 (one entry 5+6i) of `exC`: offset 2*2 = 4; Re at 4, Im at 4 + 1
example : (x0flat (.cplx exC))[4]? = some 5 ∧ (x0flat (.cplx exC))[5]? = some 6 := by decide +kernel
-- wrong lengths are rejected for nested shapes too; `()` is the 0-d shape
example : unravel [1, 2, 3, 4] (.nested [[2], [3]]) = (none : Option (Val Int)) := by decide +kernel
example : unravel [7] (.nested []) = some (Val.arr (⟨[], [7]⟩ : Arr Int)) := rfl
-- entrywise bounds: L = exC ≤ c  ⇔  flat(L) ≤ flat(c)
example : Container.Rel (· ≤ ·) (.cplx exC) (.cplx (.blk [⟨[2], [⟨1, 2⟩, ⟨3, 5⟩]⟩, ⟨[], [⟨5, 6⟩]⟩])) := by
  show List.Forall₂ _ _ _
  refine .cons ⟨rfl, ?_⟩ (.cons ⟨rfl, ?_⟩ .nil) <;> simp [CxRel]

-- pairing: G = exC (1+2i, 3+4i | 5+6i), H = (1, i | 2): 1·1 + 4·1 + 5·2 = 15, also on the flat vectors
example : Container.pair (.cplx exC) (.cplx (.blk [⟨[2], [⟨1, 0⟩, ⟨0, 1⟩]⟩, ⟨[], [⟨2, 0⟩]⟩])) = 15 := by decide +kernel
example : dotL (x0flat (.cplx exC)) (x0flat (.cplx (.blk [⟨[2], [⟨1, 0⟩, ⟨0, 1⟩]⟩, ⟨[], [⟨2, 0⟩]⟩]))) = (15 : Int) := by decide +kernel

-- the jac table of the installed solver set (lower-case names)
example : scipyMethods.map (fun m => (m, usesGradM id (.name m))) =
    [("nelder-mead", false), ("powell", false), ("cg", true), ("bfgs", true), ("newton-cg", true), ("l-bfgs-b", true),
     ("tnc", true), ("cobyla", false), ("cobyqa", false), ("slsqp", true), ("trust-constr", true), ("dogleg", true),
     ("trust-ncg", true), ("trust-exact", true), ("trust-krylov", true)] := by decide +kernel
-- a falsy tolerance is forwarded as it is (values = integers, 0 = the falsy one)
example : (scipyCall id (.name "bfgs") (⟨1, 2, 3, 4, 5, 6, 0, 8, 9⟩ : MinArgs Nat)).tol = 0 := rfl

end examples

end Scico.Props.C18
