/-
  Data of the scico source that the model of `Scico/Model/Estim.lean` copies — signatures and default values of `power_iteration`,
  `operator_norm` and the three `estimate_parameters`, the literal replacing `factor=None`, the smallest accepted budget, the
  `ord` tables of `Diagonal.norm` / `ScaledIdentity.norm`, and the normalised statement lists of the transcribed functions.
  `harness/estim_translate.py` re-reads all of it from the working tree on every run; `Scico/Generated/EstimTables.lean` states (by
  `rfl`) that the source still equals these tables; `C17_ord_tables` and `C17_default_parameters` (`Props/C17.lean`, through
  `Proofs/EstimSource.lean`) link the tables to `diagKey`, `diagNorm`, `scaledIdNorm`, `pdhgEst`, `padmmEst`.  Mathlib-free.
-/
import Scico.Model.Estim

namespace Scico.Estim

/-- a default value as written in the source: `None`, an integer, a decimal `mant·10^-exp`, anything else verbatim;
    `required` = the parameter has no default -/
inductive PyLit where
  | none
  | int (n : Int)
  | dec (mant : Int) (exp : Nat)
  | other (src : String)
  | required
deriving DecidableEq, Repr

/-- the remapping chain `if mord is None: … elif mord in (…): …` applied to an order: first branch that lists it -/
def remapOrd (tbl : List (List Ord × Ord)) (o : Ord) : Ord :=
  match tbl.find? (fun r => r.1.contains o) with
  | some r => r.2
  | Option.none => o

/-- the entry of a table keyed by lists of orders (`if ord in (…): return <expr>`) -/
def branchOf (tbl : List (List Ord × String)) (o : Ord) : Option String :=
  (tbl.find? (fun r => r.1.contains o)).map (·.2)

/-- default of parameter `p` of function `f` -/
def defaultOf (sigs : List (String × List (String × PyLit))) (f p : String) : Option PyLit :=
  ((sigs.find? (fun r => r.1 == f)).bind (fun r => r.2.find? (fun q => q.1 == p))).map (·.2)

/-! ## the tables (copied from the source; kept equal to it by the generated obligations) -/

def estimSignatures : List (String × List (String × PyLit)) := [
  ("power_iteration", [("A", PyLit.required), ("maxiter", PyLit.int (100)), ("key", PyLit.none)]),
  ("operator_norm", [("A", PyLit.required), ("maxiter", PyLit.int (100)), ("key", PyLit.none)]),
  ("PDHG.estimate_parameters", [("C", PyLit.required), ("x", PyLit.none), ("ratio", PyLit.dec (10) 1), ("factor", PyLit.dec (101) 2), ("maxiter", PyLit.int (100)), ("key", PyLit.none)]),
  ("ProximalADMM.estimate_parameters", [("A", PyLit.required), ("B", PyLit.none), ("factor", PyLit.dec (101) 2), ("maxiter", PyLit.int (100)), ("key", PyLit.none)]),
  ("NonLinearPADMM.estimate_parameters", [("H", PyLit.required), ("x", PyLit.none), ("z", PyLit.none), ("factor", PyLit.dec (101) 2), ("maxiter", PyLit.int (100)), ("key", PyLit.none)])]

def pdhgFactorNone : PyLit := PyLit.dec (10) 1

def powerMinBudget : PyLit := PyLit.int (1)

def diagOrdFunc : List (Ord × String) := [(Ord.fro, "lambda x: snp.linalg.norm(x)"), (Ord.nuc, "lambda x: snp.sum(snp.abs(x))"), (Ord.ninf, "absmin"), (Ord.pinf, "absmax")]

def diagRemap : List (List Ord × Ord) := [([Ord.none], Ord.fro), ([Ord.int (-1), Ord.int (-2)], Ord.ninf), ([Ord.int (1), Ord.int (2)], Ord.pinf)]

def sidBranches : List (List Ord × String) := [([Ord.none, Ord.fro], "snp.abs(scalar) * snp.sqrt(N)"), ([Ord.nuc], "snp.abs(scalar) * N"), ([Ord.ninf, Ord.int (-1), Ord.int (-2), Ord.int (1), Ord.int (2), Ord.pinf], "snp.abs(scalar)")]

def sourceSkeletons : List (String × List (Nat × String)) := [
  ("power_iteration", [
    (0, "if maxiter < 1:"),
    (1, "raise ValueError"),
    (0, "v, key = randn(shape=A.input_shape, key=key, dtype=A.input_dtype)"),
    (0, "v = v / snp.linalg.norm(v)"),
    (0, "for i in range(maxiter):"),
    (1, "Av = A @ v"),
    (1, "normAv = snp.linalg.norm(Av)"),
    (1, "if normAv == 0.0:"),
    (2, "mu = 0.0"),
    (2, "v = Av"),
    (2, "break"),
    (1, "mu = snp.sum(v.conj() * Av) / snp.linalg.norm(v) ** 2"),
    (1, "v = Av / normAv"),
    (0, "return (mu, v)")]),
  ("operator_norm", [
    (0, "return snp.sqrt(power_iteration(A.H @ A, maxiter, key)[0].real)")]),
  ("PDHG.estimate_parameters", [
    (0, "if x is None:"),
    (1, "x = snp.zeros(C.input_shape, dtype=C.input_dtype)"),
    (0, "if factor is None:"),
    (1, "factor = 1.0"),
    (0, "if isinstance(C, LinearOperator):"),
    (1, "J = C"),
    (0, "else:"),
    (1, "J = jacobian(C, x)"),
    (0, "Cnrm = operator_norm(J, maxiter=maxiter, key=key)"),
    (0, "tau = 1.0 / (snp.sqrt(factor * ratio) * Cnrm)"),
    (0, "sigma = ratio * tau"),
    (0, "return (tau, sigma)")]),
  ("ProximalADMM.estimate_parameters", [
    (0, "if B is None:"),
    (1, "B = -Identity(A.output_shape, A.output_dtype)"),
    (0, "assert isinstance(B, LinearOperator)"),
    (0, "mu = operator_norm(A, maxiter=maxiter, key=key) ** 2"),
    (0, "nu = operator_norm(B, maxiter=maxiter, key=key) ** 2"),
    (0, "if factor is None:"),
    (1, "return (mu, nu)"),
    (0, "else:"),
    (1, "return (factor * mu, factor * nu)")]),
  ("NonLinearPADMM.estimate_parameters", [
    (0, "if x is None:"),
    (1, "x = snp.zeros(H.input_shapes[0], dtype=H.input_dtypes[0])"),
    (0, "if z is None:"),
    (1, "z = snp.zeros(H.input_shapes[1], dtype=H.input_dtypes[1])"),
    (0, "Jx = H.jacobian(0, x, z)"),
    (0, "Jz = H.jacobian(1, x, z)"),
    (0, "mu = operator_norm(Jx, maxiter=maxiter, key=key) ** 2"),
    (0, "nu = operator_norm(Jz, maxiter=maxiter, key=key) ** 2"),
    (0, "if factor is None:"),
    (1, "return (mu, nu)"),
    (0, "else:"),
    (1, "return (factor * mu, factor * nu)")]),
  ("Diagonal.norm", [
    (0, "def absmin(x):"),
    (1, "x = snp.abs(x)"),
    (1, "return min((blk.min() for blk in x)) if isinstance(x, BlockArray) else x.min()"),
    (0, "def absmax(x):"),
    (1, "x = snp.abs(x)"),
    (1, "return max((blk.max() for blk in x)) if isinstance(x, BlockArray) else x.max()"),
    (0, "ordfunc = {'fro': lambda x: snp.linalg.norm(x), 'nuc': lambda x: snp.sum(snp.abs(x)), -snp.inf: absmin, snp.inf: absmax}"),
    (0, "mord = ord"),
    (0, "if mord is None:"),
    (1, "mord = 'fro'"),
    (0, "elif mord in (-1, -2):"),
    (1, "mord = -snp.inf"),
    (0, "elif mord in (1, 2):"),
    (1, "mord = snp.inf"),
    (0, "if mord not in ordfunc:"),
    (1, "raise ValueError"),
    (0, "if self.output_shape != self.input_shape:"),
    (1, "raise ValueError"),
    (0, "diagonal = self._diagonal"),
    (0, "if diagonal.shape != self.input_shape:"),
    (1, "diagonal = diagonal * snp.ones(self.input_shape, dtype=diagonal.dtype)"),
    (0, "return ordfunc[mord](diagonal)")]),
  ("ScaledIdentity.norm", [
    (0, "N = self.input_size"),
    (0, "scalar = self._diagonal[0] if is_nested(self.input_shape) else self._diagonal"),
    (0, "if ord is None or ord == 'fro':"),
    (1, "return snp.abs(scalar) * snp.sqrt(N)"),
    (0, "elif ord == 'nuc':"),
    (1, "return snp.abs(scalar) * N"),
    (0, "elif ord in (-snp.inf, -1, -2, 1, 2, snp.inf):"),
    (1, "return snp.abs(scalar)"),
    (0, "else:"),
    (1, "raise ValueError")]),
  ("MatrixOperator.norm", [
    (0, "return snp.linalg.norm(self.A, ord=ord, axis=axis, keepdims=keepdims)")])]

end Scico.Estim
