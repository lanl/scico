/-
  Adjoint engine (property C01): executable model of how scico BUILDS adjoints.   Mathlib-free.

  Source map (scico/…):
    linop/_linop.py   LinearOperator.__add__/__sub__/__mul__/__truediv__/__neg__ → Op.add/sub/smul/sdiv/neg
                      ComposedLinearOperator                                     → Op.comp
                      .T (both dtype branches) / .H / .conj() / .gram_op         → Op.tr / Op.herm / Op.cj / Op.gram
    linop/_stack.py   VerticalStack._adj  (Σ op.adj(y_block))                    → Op.vcons / Op.vnil
                      DiagonalStack._adj  (blockwise op.adj)                     → Op.dcons / Op.dnil
                      DiagonalReplicated  (vmap over input_axis / output_axis)   → Op.drep
    linop/_matrix.py  MatrixOperator.__call__/adj                                → Op.mat
    linop/_circconv.py CircularConvolve._eval/_adj (signal domain, batch axis)   → circConv / circCorr / Op.circ / Op.circBatch
    linop/xray/_xray.py  .at[idx].add (drop) / .at[idx].get(mode="fill") (repo e359064) → scatterAddDrop / gatherFill0 (Op.scatFill);
                         the pinned back-projectors `y[idx]` (clamp)             → gatherAt / clampIdx (Op.scatClamp, historical)
    _autograd.py      linear_adjoint (three branches)                            → linearAdjoint

  Vectors are size-erased (`Nat → α`, dimensions kept in the operator record), so that no dependent cast
  appears in the induction over derivation trees.  N-d arrays / BlockArrays are identified with their
  row-major / block-concatenated flattening.

  The same definitions run at `Cx Float` in the driver (Drv/Adjoint.lean) and are reasoned about over a
  field with an involution (`ℝ`, `ℂ`) in Scico/Proofs/Adjoint*.lean.
-/

namespace Scico.Adjoint

/-- conjugation as an operation (`star` in the proofs, complex conjugate of `Cx Float` at run time) -/
class HasConj (α : Type) where
  conj : α → α

export HasConj (conj)

/-- size-erased vectors -/
abbrev V (α : Type) := Nat → α

section basic
variable {α : Type}

/-- `Σ_{i<n} f i`, left to right -/
def sumTo [Add α] [Zero α] : Nat → (Nat → α) → α
  | 0, _ => 0
  | n + 1, f => sumTo n f + f n

/-- `⟪u, w⟫ = Σ_{i<n} u i * conj (w i)` (what `valid_adjoint` computes: `sum(y.conj() * u)`) -/
def ip [Add α] [Mul α] [Zero α] [HasConj α] (n : Nat) (u w : V α) : α :=
  sumTo n (fun i => u i * conj (w i))

/-- unconjugated pairing `Σ u i * w i` (for the transpose view) -/
def bp [Add α] [Mul α] [Zero α] (n : Nat) (u w : V α) : α :=
  sumTo n (fun i => u i * w i)

def vconj [HasConj α] (x : V α) : V α := fun i => conj (x i)
def vadd [Add α] (x y : V α) : V α := fun i => x i + y i
def vsub [Sub α] (x y : V α) : V α := fun i => x i - y i
def vsmul [Mul α] (c : α) (x : V α) : V α := fun i => c * x i
def vsdiv [Div α] (x : V α) (c : α) : V α := fun i => x i / c
def vzero [Zero α] : V α := fun _ => 0
/-- basis vector -/
def basis [Zero α] [One α] (j : Nat) : V α := fun i => if i = j then 1 else 0
/-- first `n` entries from `u`, the rest from `w` shifted: block concatenation -/
def vappend (n : Nat) (u w : V α) : V α := fun i => if i < n then u i else w (i - n)
/-- drop the first `n` entries -/
def vdrop (n : Nat) (y : V α) : V α := fun i => y (n + i)

end basic

/-- An operator as scico holds it: declared sizes and the two closures. -/
structure Op (α : Type) where
  nin : Nat
  nout : Nat
  eval : V α → V α
  adj : V α → V α

namespace Op
variable {α : Type}

/-- `x ↦ M x` for a matrix with `n` columns -/
def _root_.Scico.Adjoint.mulVec [Add α] [Mul α] [Zero α] (n : Nat) (M : Nat → Nat → α) : V α → V α :=
  fun x i => sumTo n (fun j => M i j * x j)

/-- dense matrix leaf: `MatrixOperator`: `A @ x`, `A.conj().T @ y` -/
def mat [Add α] [Mul α] [Zero α] [HasConj α] (m n : Nat) (M : Nat → Nat → α) : Op α where
  nin := n
  nout := m
  eval := fun x i => sumTo n (fun j => M i j * x j)
  adj := fun y j => sumTo m (fun i => conj (M i j) * y i)

/-- leaf given by two measured closures in (P,Q) form `x ↦ P x + Q conj(x)` (any real-linear map of ℂⁿ) -/
def pqMap [Add α] [Mul α] [Zero α] [HasConj α] (n : Nat) (P Q : Nat → Nat → α) : V α → V α :=
  fun x i => sumTo n (fun j => P i j * x j) + sumTo n (fun j => Q i j * conj (x j))

/-- `LinearOperator.__add__`: `eval_fn = self(x)+other(x)`, `adj_fn = self.adj(x)+other.adj(x)`; shapes of `self` -/
def add [Add α] (A B : Op α) : Op α where
  nin := A.nin
  nout := A.nout
  eval := fun x => vadd (A.eval x) (B.eval x)
  adj := fun y => vadd (A.adj y) (B.adj y)

def sub [Sub α] (A B : Op α) : Op α where
  nin := A.nin
  nout := A.nout
  eval := fun x => vsub (A.eval x) (B.eval x)
  adj := fun y => vsub (A.adj y) (B.adj y)

/-- `__mul__`/`__rmul__`: `eval_fn = other*self(x)`, `adj_fn = self.adj(self._to_output_space(conj(other)*x))`
    (the scalar is applied BEFORE the operand's adjoint — repo 9a89e4c; `_to_output_space` is the identity when scalar
    and output space are of the same kind, for a complex scalar on a real output space see `smulRe`) -/
def smul [Mul α] [HasConj α] (c : α) (A : Op α) : Op α where
  nin := A.nin
  nout := A.nout
  eval := fun x => vsmul c (A.eval x)
  adj := fun y => A.adj (vsmul (conj c) y)

/-- `__truediv__`: `eval_fn = self(x)/other`, `adj_fn = self.adj(self._to_output_space(x/conj(other)))` -/
def sdiv [Div α] [HasConj α] (c : α) (A : Op α) : Op α where
  nin := A.nin
  nout := A.nout
  eval := fun x => vsdiv (A.eval x) c
  adj := fun y => A.adj (vsdiv y (conj c))

/-- `c * A` for a COMPLEX scalar and an operator with a REAL output space (the result maps into a complex space):
    `_to_output_space` keeps the real part, `adj_fn = self.adj(Re(conj(other)*x))`; `re` is the projection on the
    real subfield -/
def smulRe [Mul α] [HasConj α] (re : α → α) (c : α) (A : Op α) : Op α where
  nin := A.nin
  nout := A.nout
  eval := fun x => vsmul c (A.eval x)
  adj := fun y => A.adj (fun i => re (conj c * y i))

/-- `Operator.__neg__`: `-1.0 * self` -/
def neg [Mul α] [Neg α] [One α] [HasConj α] (A : Op α) : Op α := smul (-1) A

/-- `ComposedLinearOperator(A,B)`: `eval_fn = A(B(x))`, `adj_fn = B.adj(A.adj(z))` -/
def comp (A B : Op α) : Op α where
  nin := B.nin
  nout := A.nout
  eval := fun x => A.eval (B.eval x)
  adj := fun z => B.adj (A.adj z)

/-- `.H`: `eval_fn = self.adj`, `adj_fn = self.__call__` -/
def herm (A : Op α) : Op α where
  nin := A.nout
  nout := A.nin
  eval := A.adj
  adj := A.eval

/-- `.T`.  `cplx = is_complex_dtype(self.input_dtype)`.
    complex branch: `eval_fn = self.adj(x.conj()).conj()`; its adjoint is `x ↦ self(x.conj()).conj()`
    (the corrected closure, fixes/linop-T-adj-complex.patch).  real branch: same closures as `.H`. -/
def tr [HasConj α] (cplx : Bool) (A : Op α) : Op α :=
  if cplx then
    { nin := A.nout, nout := A.nin
      eval := fun x => vconj (A.adj (vconj x))
      adj := fun y => vconj (A.eval (vconj y)) }
  else herm A

/-- `.T` exactly as the pinned tree builds it in the complex branch: `adj_fn = self.__call__`
    (kept to state the recorded defect `linop-T-adj-complex`; theorem `trPinned_not_adjoint`) -/
def trPinned [HasConj α] (A : Op α) : Op α where
  nin := A.nout
  nout := A.nin
  eval := fun x => vconj (A.adj (vconj x))
  adj := A.eval

/-- `.conj()`: `eval_fn = self(x.conj()).conj()`, `adj_fn = self.adj(x.conj()).conj()` -/
def cj [HasConj α] (A : Op α) : Op α where
  nin := A.nin
  nout := A.nout
  eval := fun x => vconj (A.eval (vconj x))
  adj := fun y => vconj (A.adj (vconj y))

/-- `.gram_op`: `eval_fn = adj_fn = self.gram = x ↦ self.adj(self(x))` -/
def gram (A : Op α) : Op α where
  nin := A.nin
  nout := A.nin
  eval := fun x => A.adj (A.eval x)
  adj := fun x => A.adj (A.eval x)

/-- empty vertical stack over an input space of size `n` -/
def vnil [Zero α] (n : Nat) : Op α where
  nin := n
  nout := 0
  eval := fun _ => vzero
  adj := fun _ => vzero

/-- `VerticalStack([A] ++ S)`: outputs concatenated; `_adj = sum(op.adj(y_block))` -/
def vcons [Add α] (A S : Op α) : Op α where
  nin := A.nin
  nout := A.nout + S.nout
  eval := fun x => vappend A.nout (A.eval x) (S.eval x)
  adj := fun y => vadd (A.adj y) (S.adj (vdrop A.nout y))

def dnil [Zero α] : Op α where
  nin := 0
  nout := 0
  eval := fun _ => vzero
  adj := fun _ => vzero

/-- `DiagonalStack([A] ++ S)`: blockwise; `_adj` blockwise `op.adj(y_n)` (repo commit 70afcf0) -/
def dcons (A S : Op α) : Op α where
  nin := A.nin + S.nin
  nout := A.nout + S.nout
  eval := fun x => vappend A.nout (A.eval x) (S.eval (vdrop A.nin x))
  adj := fun y => vappend A.nin (A.adj y) (S.adj (vdrop A.nout y))

/-- `DiagonalStack._adj` as the pinned tree had it: `op.T @ y_n` (complex branch of `.T` for complex blocks) -/
def dconsPinned [HasConj α] (cplx : Bool) (A S : Op α) : Op α where
  nin := A.nin + S.nin
  nout := A.nout + S.nout
  eval := fun x => vappend A.nout (A.eval x) (S.eval (vdrop A.nin x))
  adj := fun y => vappend A.nin ((tr cplx A).eval y) (S.adj (vdrop A.nout y))

/-- flat index of (replicate `r`, inner index `j`) when the replication axis is inserted so that `Q`
    entries follow it:  inner index `j = p*Q + q`  ↦  `(p*k + r)*Q + q` -/
def repIx (k Q r j : Nat) : Nat := ((j / Q) * k + r) * Q + j % Q
/-- inverse: flat index ↦ replicate number -/
def repR (k Q o : Nat) : Nat := (o / Q) % k
/-- inverse: flat index ↦ inner index -/
def repJ (k Q o : Nat) : Nat := (o / (Q * k)) * Q + o % Q

/-- replicate `r` of a replicated array -/
def slab (k Q r : Nat) (x : V α) : V α := fun j => x (repIx k Q r j)

/-- `DiagonalReplicated(op, k, input_axis, output_axis)`: `vmap(op, in_axes=input_axis, out_axes=output_axis)`;
    `Qi`/`Qo` = number of entries of `op`'s input/output behind the replication axis.
    adjoint: `vmap(op.adj, in_axes=output_axis, out_axes=input_axis)` (repo commit fa45c48). -/
def drep (k Qi Qo : Nat) (A : Op α) : Op α where
  nin := k * A.nin
  nout := k * A.nout
  eval := fun x o => A.eval (slab k Qi (repR k Qo o) x) (repJ k Qo o)
  adj := fun y i => A.adj (slab k Qo (repR k Qi i) y) (repJ k Qi i)

/-- the pinned tree mapped the adjoint with `in_axes=input_axis, out_axes=output_axis` -/
def drepPinned (k Qi Qo : Nat) (A : Op α) : Op α where
  nin := k * A.nin
  nout := k * A.nout
  eval := fun x o => A.eval (slab k Qi (repR k Qo o) x) (repJ k Qo o)
  adj := fun y i => A.adj (slab k Qi (repR k Qo i) y) (repJ k Qo i)

end Op

/-! ### Circular convolution (signal domain) -/

section circ
variable {α : Type} [Add α] [Mul α] [Zero α] [HasConj α]

/-- `(h ⊛ x)_i = Σ_{j<n} h_j x_{(i-j) mod n}` — what `ifft(fft(h,n)·fft(x))` computes; `h` already cut/zero-padded to `n` -/
def circConv (n : Nat) (h x : V α) : V α :=
  fun i => sumTo n (fun j => h j * x ((i + (n - j)) % n))

/-- `CircularConvolve._adj`: `ifft(conj(fft h)·fft(y))_i = Σ_j conj(h_j) y_{(i+j) mod n}` -/
def circCorr (n : Nat) (h y : V α) : V α :=
  fun i => sumTo n (fun j => conj (h j) * y ((i + j) % n))

def Op.circ (n : Nat) (h : V α) : Op α where
  nin := n
  nout := n
  eval := circConv n h
  adj := circCorr n h

/-- `k` filters (batch axis of `h`) applied to one signal: output `(k,n)`; `_adj` sums over the batch axis -/
def Op.circBatch (k n : Nat) (h : V α) : Op α where
  nin := n
  nout := k * n
  eval := fun x o => circConv n (vdrop ((o / n) * n) h) x (o % n)
  adj := fun y i => sumTo k (fun b => circCorr n (vdrop (b * n) h) (vdrop (b * n) y) i)

end circ

/-! ### closed-form classes (`_diag.py`, `_matrix.py`): the operators their overrides of `.T .H .conj() gram_op + - * / @` build -/

section closed
variable {α : Type}

/-- `Diagonal(d)` with `d.shape == input_shape` (also `ScaledIdentity`: constant `d`, `Identity`: `d = 1`):
    `_eval = d * x`; the adjoint is derived automatically (`conj(d) * y`) -/
def Op.diag [Mul α] [HasConj α] (n : Nat) (d : V α) : Op α where
  nin := n
  nout := n
  eval := fun x i => d i * x i
  adj := fun y i => conj (d i) * y i

/-- matrix product `A @ B` of an `m×k` and a `k×n` array (`MatrixOperator.__call__(MatrixOperator)`, `gram_op`) -/
def matMul [Add α] [Mul α] [Zero α] (k : Nat) (A B : Nat → Nat → α) : Nat → Nat → α :=
  fun i j => sumTo k (fun t => A i t * B t j)

end closed

/-! ### Circular convolution as coded (transform domain) -/

section spectral
variable {α : Type}

/-- `CircularConvolve._eval` / `_adj` AS CODED: `ifftn(h_dft * fftn(x))` and `ifftn(conj(h_dft) * fftn(y))`;
    `F` = matrix of `fftn` over the convolution axes, `G` = matrix of `ifftn`, `D = h_dft` (whatever it is: the
    transform of `h`, multiplied by the `h_center` phases, or given directly with `h_is_dft=True`) -/
def Op.spectral [Add α] [Mul α] [Zero α] [HasConj α] (n : Nat) (F G : Nat → Nat → α) (D : V α) : Op α where
  nin := n
  nout := n
  eval := fun x => mulVec n G (fun f => D f * mulVec n F x f)
  adj := fun y => mulVec n G (fun f => conj (D f) * mulVec n F y f)

/-- real input and real output (`self.real`): `hx.real` in `_eval`, `H_adj_x.real` in `_adj`; the arguments are real
    arrays (`re` = projection on the real subfield) -/
def Op.wrapRR (re : α → α) (A : Op α) : Op α where
  nin := A.nin
  nout := A.nout
  eval := fun x i => re (A.eval (fun j => re (x j)) i)
  adj := fun y j => re (A.adj (fun i => re (y i)) j)

/-- real input, complex output (complex filter on a real signal): `_adj` keeps the real part -/
def Op.wrapRC (re : α → α) (A : Op α) : Op α where
  nin := A.nin
  nout := A.nout
  eval := fun x => A.eval (fun j => re (x j))
  adj := fun y j => re (A.adj y j)

end spectral

/-! ### Scatter / gather (X-ray projectors) -/

section scatter
variable {α : Type} [Add α] [Mul α] [Zero α]

/-- `jnp.where(i >= 0, i, ny)` / `off(i)`: negative indices are sent off the detector.  Since e359064 this is applied to
    each bin index separately (`inds`, `inds + 1`; `i0 + da`, `i1 + db`), in the projector and in the back-projector alike. -/
def fixIdx (ny : Nat) (i : Int) : Nat := if 0 ≤ i then i.toNat else ny

/-- `zeros(ny).at[I].add(w * x)` with JAX's scatter semantics (out-of-bounds updates are dropped) -/
def scatterAddDrop (np ny : Nat) (I : Nat → Nat) (w : V α) (x : V α) : V α :=
  fun j => if j < ny then sumTo np (fun p => if I p = j then w p * x p else 0) else 0

/-- `y.at[I].get(mode="fill", fill_value=0) * w` as `back_project` computes it (repo e359064): out-of-bounds reads give 0 -/
def gatherFill0 (ny : Nat) (I : Nat → Nat) (w : V α) (y : V α) : V α :=
  fun p => if I p < ny then w p * y (I p) else 0

/-- gather at arbitrary (in-bounds) positions `J p` -/
def gatherAt (J : Nat → Nat) (w : V α) (y : V α) : V α := fun p => w p * y (J p)

/-- JAX's default gather semantics: out-of-bounds indices are clamped -/
def clampIdx (ny i : Nat) : Nat := if i < ny then i else ny - 1

/-- `y[I] * w` as `back_project` of the PINNED tree computed it (default gather mode: clamp) -/
def gatherClamp (ny : Nat) (I : Nat → Nat) (w : V α) (y : V α) : V α := gatherAt (fun p => clampIdx ny (I p)) w y

/-- one scatter term of the projector with the back-projector of the PINNED tree (recorded finding, fixed e359064) -/
def Op.scatClamp (np ny : Nat) (I : Nat → Nat) (w : V α) : Op α where
  nin := np
  nout := ny
  eval := scatterAddDrop np ny I w
  adj := gatherClamp ny I w

/-- one scatter term of the projector with the back-projector AS CODED (fill-0 gather) -/
def Op.scatFill (np ny : Nat) (I : Nat → Nat) (w : V α) : Op α where
  nin := np
  nout := ny
  eval := scatterAddDrop np ny I w
  adj := gatherFill0 ny I w

/-! #### slab loops of `XRayTransform3D._project` / `_back_project` (`MAX_SLICE_LEN`) -/

/-- `_project` for one view and one of the four scatter terms AS CODED: the volume is processed in slabs of `B` voxels
    (`MAX_SLICE_LEN` slices of `n₁·n₂` voxels); slab `k` is scattered with the indices / weights computed for it with
    `slice_offset = k·MAX_SLICE_LEN` (they are `I (k*B + p)`, `w (k*B + p)`), and the detector image is accumulated over
    the slabs -/
def slabScatter (B nslab np ny : Nat) (I : Nat → Nat) (w x : V α) : V α :=
  fun j => sumTo nslab (fun k =>
    scatterAddDrop (min B (np - k * B)) ny (fun p => I (k * B + p)) (fun p => w (k * B + p)) (fun p => x (k * B + p)) j)

/-- `_back_project`: slab `k` of the volume is gathered at the positions computed for slab `k` -/
def slabGather (B : Nat) (J : Nat → Nat) (w y : V α) : V α :=
  fun p => gatherAt (fun q => J ((p / B) * B + q)) (fun q => w ((p / B) * B + q)) y (p % B)

/-- the seeded change C01-m2: the slab offset is not forwarded to the index computation of the back-projector
    (every slab is gathered at the positions of the first one) -/
def slabGatherNoOffset (B : Nat) (J : Nat → Nat) (w y : V α) : V α :=
  fun p => gatherAt J (fun q => w ((p / B) * B + q)) y (p % B)

/-- `_back_project` as coded (fill-0 gather): slab `k` of the volume is gathered with the indices computed for slab `k` -/
def slabGatherFill (B ny : Nat) (I : Nat → Nat) (w y : V α) : V α :=
  fun p => gatherFill0 ny (fun q => I ((p / B) * B + q)) (fun q => w ((p / B) * B + q)) y (p % B)

/-- the seeded change C01-m2 on the coded back-projector: every slab is gathered with the indices of the first one -/
def slabGatherFillNoOffset (B ny : Nat) (I : Nat → Nat) (w y : V α) : V α :=
  fun p => gatherFill0 ny I (fun q => w ((p / B) * B + q)) y (p % B)

/-- one scatter term of the 3-D projector AS CODED: slab loops, drop scatter, fill-0 gather -/
def Op.scatSlabFill (B nslab np ny : Nat) (I : Nat → Nat) (w : V α) : Op α where
  nin := np
  nout := ny
  eval := slabScatter B nslab np ny I w
  adj := slabGatherFill B ny I w

/-- … with the back-projector of the seeded change C01-m2 -/
def Op.scatSlabFillNoOffset (B nslab np ny : Nat) (I : Nat → Nat) (w : V α) : Op α where
  nin := np
  nout := ny
  eval := slabScatter B nslab np ny I w
  adj := slabGatherFillNoOffset B ny I w

/-- one scatter term of the 3-D projector with the slab loops and the gather of the pinned tree (`J` = clamped gather
    positions) -/
def Op.scatSlab (B nslab np ny : Nat) (I J : Nat → Nat) (w : V α) : Op α where
  nin := np
  nout := ny
  eval := slabScatter B nslab np ny I w
  adj := slabGather B J w

/-- … with the back-projector of the seeded change C01-m2 -/
def Op.scatSlabNoOffset (B nslab np ny : Nat) (I J : Nat → Nat) (w : V α) : Op α where
  nin := np
  nout := ny
  eval := slabScatter B nslab np ny I w
  adj := slabGatherNoOffset B J w

/-- index-map operator `(A x) i = x (φ i)` (0 where `φ i` is out of range): `Slice`, `Crop`, `Transpose`, `Reshape`,
    `Pad` with zeros; the adjoint (derived by `jax.linear_transpose`) is the scatter-add along `φ` -/
def Op.imap [One α] (n m : Nat) (φ : Nat → Nat) : Op α where
  nin := n
  nout := m
  eval := gatherFill0 n φ (fun _ => 1)
  adj := scatterAddDrop m n φ (fun _ => 1)

/-- 2-D detector of shape `(d0,d1)`: flat index, `d0*d1` (off the detector) when either coordinate is out of range -/
def flat2 (d0 d1 a b : Nat) : Nat := if a < d0 ∧ b < d1 then a * d1 + b else d0 * d1
/-- per-axis clamping of a 2-D index as `y[a, b]` does -/
def clamp2 (d0 d1 a b : Nat) : Nat := clampIdx d0 a * d1 + clampIdx d1 b

end scatter

/-! ### `scico.linear_adjoint` -/

section linadj
variable {α : Type} [HasConj α]

/-- `conj_fun` of `_autograd.py` -/
def conjFun (f : V α → V α) : V α → V α := fun x => vconj (f (vconj x))

/-- `linear_adjoint(fun, primal)`.  `jt pc m n g` stands for `jax.linear_transpose(g, primal)` for a primal of
    size `n` (complex iff `pc`) and an output of size `m` (its contract: Proofs/AdjointMatrix `JaxTranspose`).
    The three branches: complex primal (C→R or C→C) / real primal with complex output / real. -/
def linearAdjoint (jt : Bool → Nat → Nat → (V α → V α) → (V α → V α)) (m n : Nat)
    (primalComplex outComplex : Bool) (f : V α → V α) : V α → V α :=
  if primalComplex then jt true m n (conjFun f)
  else if outComplex then jt false m n (conjFun f)
  else jt false m n f

end linadj

/-- `linop.jacobian(F, u)` (`_util.py`): `eval_fn = F.jvp(u, ·)[1]`, `adj_fn = F.vjp(u, conjugate=True)[1]`, where
    `Operator.vjp(conjugate=True)` wraps `jax.vjp`'s pull-back `G` as `v ↦ G(v.conj()).conj()` -/
def Op.jacobian [HasConj α] (m n : Nat) (jvp G : V α → V α) : Op α where
  nin := n
  nout := m
  eval := jvp
  adj := conjFun G

/-! ### Derivation trees -/

/-- how a derived operator was obtained from leaves (leaves are indices into an environment) -/
inductive Expr (α : Type) where
  | leaf (i : Nat)
  | add (a b : Expr α)
  | sub (a b : Expr α)
  | neg (a : Expr α)
  | smul (c : α) (a : Expr α)
  | sdiv (c : α) (a : Expr α)
  | comp (a b : Expr α)
  | tr (cplx : Bool) (a : Expr α)
  | herm (a : Expr α)
  | cj (a : Expr α)
  | gram (a : Expr α)
  | vnil (n : Nat)
  | vcons (a s : Expr α)
  | dnil
  | dcons (a s : Expr α)
  | drep (k Qi Qo : Nat) (a : Expr α)

section run
variable {α : Type} [Add α] [Sub α] [Mul α] [Div α] [Neg α] [Zero α] [One α] [HasConj α]

/-- the closures scico builds for a derivation tree -/
def run (env : Nat → Op α) : Expr α → Op α
  | .leaf i => env i
  | .add a b => Op.add (run env a) (run env b)
  | .sub a b => Op.sub (run env a) (run env b)
  | .neg a => Op.neg (run env a)
  | .smul c a => Op.smul c (run env a)
  | .sdiv c a => Op.sdiv c (run env a)
  | .comp a b => Op.comp (run env a) (run env b)
  | .tr cplx a => Op.tr cplx (run env a)
  | .herm a => Op.herm (run env a)
  | .cj a => Op.cj (run env a)
  | .gram a => Op.gram (run env a)
  | .vnil n => Op.vnil n
  | .vcons a s => Op.vcons (run env a) (run env s)
  | .dnil => Op.dnil
  | .dcons a s => Op.dcons (run env a) (run env s)
  | .drep k Qi Qo a => Op.drep k Qi Qo (run env a)

/-- the shape checks scico performs when the tree is built (`_wrap_add_sub`, `ComposedLinearOperator.__init__`,
    `check_if_stackable`, `DiagonalReplicated.__init__`) -/
def wf (env : Nat → Op α) : Expr α → Bool
  | .leaf _ => true
  | .add a b => wf env a && wf env b && (run env a).nin == (run env b).nin && (run env a).nout == (run env b).nout
  | .sub a b => wf env a && wf env b && (run env a).nin == (run env b).nin && (run env a).nout == (run env b).nout
  | .neg a => wf env a
  | .smul _ a => wf env a
  | .sdiv _ a => wf env a
  | .comp a b => wf env a && wf env b && (run env a).nin == (run env b).nout
  | .tr _ a => wf env a
  | .herm a => wf env a
  | .cj a => wf env a
  | .gram a => wf env a
  | .vnil _ => true
  | .vcons a s => wf env a && wf env s && (run env a).nin == (run env s).nin
  | .dnil => true
  | .dcons a s => wf env a && wf env s
  | .drep k Qi Qo a =>
      wf env a && decide (0 < Qi) && decide (0 < Qo) && (run env a).nin % Qi == 0 && (run env a).nout % Qo == 0
        && decide (0 < k)

end run

/-! ### complex numbers for execution -/

structure Cx (α : Type) where
  re : α
  im : α
deriving Repr, Inhabited

namespace Cx
variable {α : Type}
instance [Add α] : Add (Cx α) := ⟨fun a b => ⟨a.re + b.re, a.im + b.im⟩⟩
instance [Sub α] : Sub (Cx α) := ⟨fun a b => ⟨a.re - b.re, a.im - b.im⟩⟩
instance [Neg α] : Neg (Cx α) := ⟨fun a => ⟨-a.re, -a.im⟩⟩
instance [Add α] [Sub α] [Mul α] : Mul (Cx α) := ⟨fun a b => ⟨a.re * b.re - a.im * b.im, a.re * b.im + a.im * b.re⟩⟩
instance [Add α] [Sub α] [Mul α] [Div α] : Div (Cx α) :=
  ⟨fun a b =>
    let d := b.re * b.re + b.im * b.im
    ⟨(a.re * b.re + a.im * b.im) / d, (a.im * b.re - a.re * b.im) / d⟩⟩
instance [Zero α] : Zero (Cx α) := ⟨⟨0, 0⟩⟩
instance [Zero α] [One α] : One (Cx α) := ⟨⟨1, 0⟩⟩
instance [Neg α] : HasConj (Cx α) := ⟨fun a => ⟨a.re, -a.im⟩⟩
end Cx

end Scico.Adjoint
