/-
  IR of JAX-traced programs (jaxprs) and the structural linearity checker  (DESIGN §5.6, property C06).
  Mathlib-free, executable.

  A traced program is a straight-line list of equations over numbered variables:
  variables `0 … nin-1` are the program inputs (the leaves of the operator's argument), equation `k`
  defines variable `nin + k`.  Each equation names

  * the *class* of its primitive (`PClass`, the trusted per-primitive table lives in `harness/jaxpr_ir.py`, is
    stated as the hypotheses `Interp.Sound` / `Interp.SoundAt` of the soundness theorems and is validated on the JAX
    primitives on every run, `harness/jaxpr_table.py`),
  * a primitive identifier (index into the translator's primitive-name table; only the semantics reads it — the
    verdict does not, `check_relabel`: every equation may be given its own id so that one interpretation can give
    each equation its own static parameters),
  * `params` – operands that must be input-independent (gather/scatter indices, the predicate of
    `select_n`, the start indices of `dynamic_slice`, …),
  * `args`   – the data operands.

  `check : Prog → Tag` propagates the abstract values
      const z   – does not depend on the input (z = true: known to be zero)
      linC      – linear over the full scalar field K of the interpretation (ℂ for complex operators)
      antiC     – conjugate-linear over K: additive and f (c•x) = conj c • f x  (after one `conj`)
      linR      – linear over the sub-field R only (ℝ: after `real`, `imag`, or a mix of linC and antiC)
      bad       – anything else (affine, product of two input-dependent values, non-linear primitive, …)
  through the equation list.  `Scico/Proofs/Jaxpr.lean` proves the checker sound for every
  interpretation of the primitives that satisfies the per-class facts.
-/

namespace Scico.Jaxpr

/-- class of a JAX primitive (how its output depends on its data operands, parameters fixed) -/
inductive PClass where
  /-- literal / closed-over constant; `isZero` decided numerically by the translator -/
  | lit (isZero : Bool)
  /-- jointly linear in all data operands: add, sub, neg, concatenate, pad, slice, reshape, transpose,
      rev, reduce_sum, cumsum, fft, gather / scatter-add / dynamic_slice (indices are params),
      select_n (predicate is a param), convert_element_type, copy, … -/
  | linAll
  /-- two data operands, linear in each one separately: mul, dot_general, conv_general_dilated -/
  | bilinear
  /-- two data operands (numerator, denominator): linear in the numerator for a fixed denominator -/
  | divLike
  /-- one data operand, additive and homogeneous for real scalars only: real, imag,
      convert_element_type complex → real -/
  | realPart
  /-- one data operand, additive and conjugate-homogeneous: conj -/
  | conj
  /-- everything else: abs, max, min, sign, floor, exp, sqrt, integer_pow, comparisons, … -/
  | nonlin
deriving DecidableEq, Repr, Inhabited

/-- abstract value of a variable -/
inductive Tag where
  | const (isZero : Bool)
  | linC
  | antiC
  | linR
  | bad
deriving DecidableEq, Repr, Inhabited

structure Eqn where
  cls : PClass
  prim : Nat
  params : List Nat
  args : List Nat
deriving DecidableEq, Repr, Inhabited

structure Prog where
  nin : Nat
  eqns : List Eqn
  outs : List Nat
deriving DecidableEq, Repr, Inhabited

namespace Tag

def isConst : Tag → Bool
  | const _ => true
  | _ => false

/-- tag of a jointly linear combination of two values.  A non-zero constant combined with an
    input-dependent value is affine, hence `bad`. -/
def join : Tag → Tag → Tag
  | bad, _ => bad
  | _, bad => bad
  | const a, const b => const (a && b)
  | const true, t => t
  | t, const true => t
  | const false, _ => bad
  | _, const false => bad
  | linC, linC => linC
  | antiC, antiC => antiC
  | _, _ => linR

/-- tag of a bilinear primitive applied to two values -/
def bil : Tag → Tag → Tag
  | const a, const b => const (a || b)
  | const _, linC => linC
  | const _, antiC => antiC
  | const _, linR => linR
  | linC, const _ => linC
  | antiC, const _ => antiC
  | linR, const _ => linR
  | _, _ => bad

/-- tag of `numerator / denominator` -/
def div : Tag → Tag → Tag
  | const a, const _ => const a
  | linC, const _ => linC
  | antiC, const _ => antiC
  | linR, const _ => linR
  | _, _ => bad

/-- tag of `real` / `imag` applied to a value -/
def re : Tag → Tag
  | const a => const a
  | linC => linR
  | antiC => linR
  | linR => linR
  | bad => bad

/-- tag of `conj` applied to a value: conjugating twice restores complex linearity -/
def cj : Tag → Tag
  | const a => const a
  | linC => antiC
  | antiC => linC
  | linR => linR
  | bad => bad

end Tag

/-- joint tag of a list of values (`const true` is the neutral element) -/
def joinAll : List Tag → Tag
  | [] => .const true
  | t :: ts => t.join (joinAll ts)

/-- tag of variable `i` in the tag environment (`bad` when `i` is not yet defined) -/
def tagOf (tags : List Tag) (i : Nat) : Tag := (tags[i]?).getD .bad

/-- tag of the variable defined by one equation -/
def stepTag (tags : List Tag) (e : Eqn) : Tag :=
  if (e.params.all fun i => (tagOf tags i).isConst) then
    match e.cls, e.args.map (tagOf tags) with
    | .lit z, [] => .const z
    | .linAll, ts => joinAll ts
    | .bilinear, [ta, tb] => ta.bil tb
    | .divLike, [ta, tb] => ta.div tb
    | .realPart, [ta] => ta.re
    | .conj, [ta] => ta.cj
    | .nonlin, ts => if ts.all Tag.isConst then .const false else .bad
    | _, _ => .bad
  else .bad

/-- propagate tags through the equation list -/
def checkEqns : List Eqn → List Tag → List Tag
  | [], tags => tags
  | e :: es, tags => checkEqns es (tags ++ [stepTag tags e])

/-- tags of all variables of a program (inputs are `linC`: the identity is linear) -/
def progTags (p : Prog) : List Tag := checkEqns p.eqns (List.replicate p.nin .linC)

/-- the structural linearity verdict for a program: joint tag of its outputs -/
def check (p : Prog) : Tag := joinAll (p.outs.map (tagOf (progTags p)))

/-! ### Kernel-friendly evaluation order of the same checker

  `decide +kernel` reduces lazily: with `checkEqns` the tag environment `tags ++ [stepTag tags e]` stays an
  unevaluated, growing expression (5.9 s for a 200-equation program).  `checkFast` computes the same verdict
  (`checkFast_eq_check` in `Proofs/JaxprChecker.lean`) but forces every tag to a constructor before it is consed onto a
  reversed environment (0.5 s).  The generated obligations are stated with `checkFast`. -/

/-- evaluate a tag to a constructor before continuing (the kernel reduces lazily; without this the
    environment would be a growing unevaluated expression) -/
def Tag.force {α : Sort _} (t : Tag) (k : Tag → α) : α :=
  match t with
  | .const true => k (.const true)
  | .const false => k (.const false)
  | .linC => k .linC
  | .antiC => k .antiC
  | .linR => k .linR
  | .bad => k .bad

/-- lookup in the reversed tag list (`n` = number of defined variables, newest first) -/
def tagOfR (n : Nat) (rtags : List Tag) (i : Nat) : Tag :=
  if i < n then (rtags[n - 1 - i]?).getD .bad else .bad

def stepTagR (n : Nat) (rtags : List Tag) (e : Eqn) : Tag :=
  if (e.params.all fun i => (tagOfR n rtags i).isConst) then
    match e.cls, e.args.map (tagOfR n rtags) with
    | .lit z, [] => .const z
    | .linAll, ts => joinAll ts
    | .bilinear, [ta, tb] => ta.bil tb
    | .divLike, [ta, tb] => ta.div tb
    | .realPart, [ta] => ta.re
    | .conj, [ta] => ta.cj
    | .nonlin, ts => if ts.all Tag.isConst then .const false else .bad
    | _, _ => .bad
  else .bad

def checkEqnsR : List Eqn → Nat → List Tag → Nat × List Tag
  | [], n, r => (n, r)
  | e :: es, n, r => (stepTagR n r e).force fun t => checkEqnsR es (n + 1) (t :: r)

def checkFast (p : Prog) : Tag :=
  match checkEqnsR p.eqns p.nin (List.replicate p.nin .linC) with
  | (n, r) => joinAll (p.outs.map (tagOfR n r))

/-! ### Semantics (executable; the hypotheses on `den` are in `Scico/Proofs/Jaxpr.lean`) -/

/-- interpretation of the primitives in a value domain `V`:
    `den cls prim paramValues dataValues` -/
structure Interp (V : Type) where
  den : PClass → Nat → List V → List V → V

variable {V : Type} [Zero V]

/-- value of variable `i` in the environment.  An undefined variable reads `0`; `check` tags such a
    read `bad`, so no program accepted by the checker depends on this default. -/
def valOf (env : List V) (i : Nat) : V := (env[i]?).getD 0

/-- value of the variable defined by one equation -/
def stepVal (I : Interp V) (env : List V) (e : Eqn) : V :=
  I.den e.cls e.prim (e.params.map (valOf env)) (e.args.map (valOf env))

/-- run the equation list, extending the environment -/
def evalEqns (I : Interp V) : List Eqn → List V → List V
  | [], env => env
  | e :: es, env => evalEqns I es (env ++ [stepVal I env e])

/-- environment after running program `p` on input leaves `x` -/
def finalEnv (I : Interp V) (p : Prog) (x : Fin p.nin → V) : List V :=
  evalEqns I p.eqns (List.ofFn x)

/-- denotation of a program: output leaves as a function of the input leaves -/
def run (I : Interp V) (p : Prog) (x : Fin p.nin → V) : Fin p.outs.length → V :=
  fun j => valOf (finalEnv I p x) (p.outs.get j)

/-! ### How the operator calculus presents its results (round 5) -/

/-- how an operator object is PRESENTED: as a `LinearOperator` (or a subclass) or as a plain `Operator` -/
inductive OpKind where
  | linear
  | nonlinear
deriving DecidableEq, Repr

/-- class of the object returned by `A + B`, `A - B`, `A(B)`, `A @ B` (scico/linop/_linop.py: `_wrap_add_sub`,
    `LinearOperator.__call__` / `__matmul__`, and the overrides of MatrixOperator, Diagonal, ScaledIdentity, Identity,
    CircularConvolve, Convolve, ConvolveByX): a LinearOperator only when BOTH operands are LinearOperators -/
def combineKind : OpKind → OpKind → OpKind
  | .linear, .linear => .linear
  | _, _ => .nonlinear

/-! ### Row-finite sparse matrices over an operand list (the concrete array family, `Proofs/JaxprArray.lean`)

  `applyDescG T xs i = Σ_{(k, j, c) ∈ T i} c · (operand k) j`.  At `ℂ` this is `Arr.applyDesc`, proved jointly linear
  for every `T`; at `Float` the driver runs it against the JAX primitives (harness/jaxpr_family.py). -/

/-- one term of a sparse row: (operand number, entry of that operand, coefficient) -/
abbrev Term (α : Type) := Nat × Nat × α

def applyDescG {α : Type} [Add α] [Mul α] [Zero α] (T : Nat → List (Term α)) (xs : List (Nat → α)) : Nat → α :=
  fun i => ((T i).map fun t => t.2.2 * (xs.getD t.1 (fun _ => 0)) t.2.1).sum

/-! ### The rest of the concrete family (round 3): sparse bilinear forms, quotients, real parts, conjugation

  Generic over the scalar type: at `ℂ` these are proved to have the class facts for EVERY table
  (`Proofs/JaxprArray.lean`), at complex floats the driver runs them - single equations and whole programs - against
  the JAX primitives and the scico operators (harness/jaxpr_family.py). -/

/-- `(B i)` lists `(entry of u, entry of v, coefficient)`: `out i = Σ c · u j · v k`
    (mul with broadcasting, dot_general, conv_general_dilated) -/
def applyBilG {α : Type} [Add α] [Mul α] [Zero α] (B : Nat → List (Nat × Nat × α)) (u v : Nat → α) : Nat → α :=
  fun i => ((B i).map fun t => t.2.2 * (u t.1 * v t.2.1)).sum

/-- `out i = u j / v k` with `(j, k) = D i` (div with broadcasting) -/
def applyDivG {α : Type} [Div α] (D : Nat → Nat × Nat) (u v : Nat → α) : Nat → α :=
  fun i => u (D i).1 / v (D i).2

/-- `out i = Σ re (c · u j)` over `(j, c) ∈ Rd i`, `re` = "real part, as a scalar"
    (real: c = 1; imag: c = -i; complex → real conversion; irfft) -/
def applyReG {α : Type} [Add α] [Mul α] [Zero α] (re : α → α) (Rd : Nat → List (Nat × α)) (u : Nat → α) : Nat → α :=
  fun i => ((Rd i).map fun t => re (t.2 * u t.1)).sum

/-- the tables of one program over the family: per primitive id -/
structure FamTables (α : Type) where
  lin : Nat → List (Nat → α) → Nat → List (Term α)
  bil : Nat → Nat → List (Nat × Nat × α)
  dv : Nat → Nat → Nat × Nat
  rp : Nat → Nat → List (Nat × α)
  lit : Nat → Nat → α

/-- the family as an interpretation of the primitives (`nl`: anything, for the `nonlin` class) -/
def famDen {α : Type} [Add α] [Mul α] [Zero α] [Div α] (re cj : α → α)
    (nl : Nat → List (Nat → α) → Nat → α) (F : FamTables α) :
    PClass → Nat → List (Nat → α) → List (Nat → α) → (Nat → α)
  | .lit true, _, _, _ => fun _ => 0
  | .lit false, n, _, _ => F.lit n
  | .linAll, p, ps, xs => applyDescG (F.lin p ps) xs
  | .bilinear, p, _, [u, v] => applyBilG (F.bil p) u v
  | .bilinear, _, _, _ => fun _ => 0
  | .divLike, p, _, [u, v] => applyDivG (F.dv p) u v
  | .divLike, _, _, _ => fun _ => 0
  | .realPart, p, _, [u] => applyReG re (F.rp p) u
  | .realPart, _, _, _ => fun _ => 0
  | .conj, _, _, [u] => fun i => cj (u i)
  | .conj, _, _, _ => fun _ => 0
  | .nonlin, p, _, xs => nl p xs

end Scico.Jaxpr
