/-
  Data of the optimiser sources that `Scico/Model/Steps.lean` copies — constructor parameters and their defaults, the
  normalised statement lists (nesting depth, text) of every transcribed method, and the parameter constraints printed in the
  class docstrings.  `harness/steps_translate.py` re-reads all of it from the working tree with `ast` on every run and
  `Scico/Generated/StepsTables.lean` states (by `rfl`) that the source still equals these tables: a reordered assignment, a
  changed operand, a changed default or a changed documented constraint breaks a generated obligation, not only the sampled tie.
  The theorems at the end link the tables to the model: the order of the attribute assignments of each `step()` is the order of
  the structure updates of the corresponding `…ImplStep`, and the defaults the model hard-wires are the ones of the table.
  Mathlib-free.
-/
namespace Scico.Steps.Source

def ctors : List (String × String × List (String × String)) := [
  ("ADMM", "Optimizer", [("f", "<required>"), ("g_list", "<required>"), ("C_list", "<required>"), ("rho_list", "<required>"), ("alpha", "1.0"), ("x0", "None"), ("subproblem_solver", "None")]),
  ("LinearizedADMM", "Optimizer", [("f", "<required>"), ("g", "<required>"), ("C", "<required>"), ("mu", "<required>"), ("nu", "<required>"), ("x0", "None")]),
  ("ProximalADMMBase", "Optimizer", [("f", "<required>"), ("g", "<required>"), ("rho", "<required>"), ("mu", "<required>"), ("nu", "<required>"), ("xshape", "<required>"), ("zshape", "<required>"), ("ushape", "<required>"), ("xdtype", "<required>"), ("zdtype", "<required>"), ("udtype", "<required>"), ("x0", "None"), ("z0", "None"), ("u0", "None"), ("fast_dual_residual", "True")]),
  ("ProximalADMM", "ProximalADMMBase", [("f", "<required>"), ("g", "<required>"), ("A", "<required>"), ("rho", "<required>"), ("mu", "<required>"), ("nu", "<required>"), ("B", "None"), ("c", "None"), ("x0", "None"), ("z0", "None"), ("u0", "None"), ("fast_dual_residual", "True")]),
  ("NonLinearPADMM", "ProximalADMMBase", [("f", "<required>"), ("g", "<required>"), ("H", "<required>"), ("rho", "<required>"), ("mu", "<required>"), ("nu", "<required>"), ("x0", "None"), ("z0", "None"), ("u0", "None"), ("fast_dual_residual", "True")]),
  ("PDHG", "Optimizer", [("f", "<required>"), ("g", "<required>"), ("C", "<required>"), ("tau", "<required>"), ("sigma", "<required>"), ("alpha", "1.0"), ("x0", "None"), ("z0", "None")]),
  ("PGM", "Optimizer", [("f", "<required>"), ("g", "<required>"), ("L0", "<required>"), ("x0", "<required>"), ("step_size", "None")]),
  ("AcceleratedPGM", "PGM", [("f", "<required>"), ("g", "<required>"), ("L0", "<required>"), ("x0", "<required>"), ("step_size", "None")])]

def skeletons : List (String × List (Nat × String)) := [
  ("ADMM.__init__", [
    (0, "N = len(g_list)"),
    (0, "if len(C_list) != N:"),
    (1, "raise ValueError"),
    (0, "if len(rho_list) != N:"),
    (1, "raise ValueError"),
    (0, "self.f = f"),
    (0, "self.g_list = g_list"),
    (0, "self.C_list = C_list"),
    (0, "self.rho_list = rho_list"),
    (0, "self.alpha = alpha"),
    (0, "if subproblem_solver is None:"),
    (1, "subproblem_solver = GenericSubproblemSolver()"),
    (0, "self.subproblem_solver = subproblem_solver"),
    (0, "self.subproblem_solver.internal_init(self)"),
    (0, "if x0 is None:"),
    (1, "input_shape = C_list[0].input_shape"),
    (1, "dtype = C_list[0].input_dtype"),
    (1, "x0 = snp.zeros(input_shape, dtype=dtype)"),
    (0, "self.x = x0"),
    (0, "self.z_list, self.z_list_old = self.z_init(self.x)"),
    (0, "self.u_list = self.u_init(self.x)"),
    (0, "super().__init__(**kwargs)")]),
  ("ADMM._working_vars_finite", [
    (0, "for v in [self.x] + self.z_list + self.u_list:"),
    (1, "if not _all_finite(v):"),
    (2, "return False"),
    (0, "return True")]),
  ("ADMM._objective_evaluatable", [
    (0, "return (not self.f or self.f.has_eval) and all([_.has_eval for _ in self.g_list])")]),
  ("ADMM._itstat_extra_fields", [
    (0, "itstat_fields = {'Prml Rsdl': '%9.3e', 'Dual Rsdl': '%9.3e'}"),
    (0, "itstat_attrib = ['norm_primal_residual()', 'norm_dual_residual()']"),
    (0, "if isinstance(self.subproblem_solver, GenericSubproblemSolver):"),
    (1, "itstat_fields.update({'Num FEv': '%6d', 'Num It': '%6d'})"),
    (1, "itstat_attrib.extend([\"subproblem_solver.info['nfev']\", \"subproblem_solver.info['nit']\"])"),
    (0, "elif type(self.subproblem_solver) == LinearSubproblemSolver and self.subproblem_solver.cg_function == 'scico':"),
    (1, "itstat_fields.update({'CG It': '%5d', 'CG Res': '%9.3e'})"),
    (1, "itstat_attrib.extend([\"subproblem_solver.info['num_iter']\", \"subproblem_solver.info['rel_res']\"])"),
    (0, "elif type(self.subproblem_solver) in [MatrixSubproblemSolver, FBlockCircularConvolveSolver, G0BlockCircularConvolveSolver] and self.subproblem_solver.check_solve:"),
    (1, "itstat_fields.update({'Slv Res': '%9.3e'})"),
    (1, "itstat_attrib.extend(['subproblem_solver.accuracy'])"),
    (0, "return (itstat_fields, itstat_attrib)")]),
  ("ADMM.minimizer", [
    (0, "return self.x")]),
  ("ADMM.objective", [
    (0, "if (x is None) != (z_list is None):"),
    (1, "raise ValueError"),
    (0, "if x is None:"),
    (1, "x = self.x"),
    (1, "z_list = self.z_list"),
    (0, "assert z_list is not None"),
    (0, "out = 0.0"),
    (0, "if self.f:"),
    (1, "out += self.f(x)"),
    (0, "for (g, z) in zip(self.g_list, z_list):"),
    (1, "out += g(z)"),
    (0, "return out")]),
  ("ADMM.norm_primal_residual", [
    (0, "if x is None:"),
    (1, "x = self.x"),
    (0, "sum = 0.0"),
    (0, "for (rhoi, Ci, zi) in zip(self.rho_list, self.C_list, self.z_list):"),
    (1, "sum += rhoi * norm(Ci(x) - zi) ** 2"),
    (0, "return snp.sqrt(sum)")]),
  ("ADMM.norm_dual_residual", [
    (0, "sum = 0.0"),
    (0, "for (rhoi, zi, ziold, Ci) in zip(self.rho_list, self.z_list, self.z_list_old, self.C_list):"),
    (1, "sum += rhoi * Ci.adj(zi - ziold)"),
    (0, "return norm(sum)")]),
  ("ADMM.z_init", [
    (0, "z_list = [Ci(x0) for Ci in self.C_list]"),
    (0, "z_list_old = z_list.copy()"),
    (0, "return (z_list, z_list_old)")]),
  ("ADMM.u_init", [
    (0, "u_list = [snp.zeros(Ci.output_shape, dtype=Ci.output_dtype) for Ci in self.C_list]"),
    (0, "return u_list")]),
  ("ADMM.step", [
    (0, "self.x = self.subproblem_solver.solve(self.x)"),
    (0, "self.z_list_old = self.z_list.copy()"),
    (0, "for (i, (rhoi, gi, Ci, zi, ui)) in enumerate(zip(self.rho_list, self.g_list, self.C_list, self.z_list, self.u_list)):"),
    (1, "if self.alpha == 1.0:"),
    (2, "Cix = Ci(self.x)"),
    (1, "else:"),
    (2, "Cix = self.alpha * Ci(self.x) + (1.0 - self.alpha) * zi"),
    (1, "zi = gi.prox(Cix + ui, 1 / rhoi, v0=zi)"),
    (1, "ui = ui + Cix - zi"),
    (1, "self.z_list[i] = zi"),
    (1, "self.u_list[i] = ui")]),
  ("LinearizedADMM.__init__", [
    (0, "self.f = f"),
    (0, "self.g = g"),
    (0, "self.C = C"),
    (0, "self.mu = mu"),
    (0, "self.nu = nu"),
    (0, "if x0 is None:"),
    (1, "input_shape = C.input_shape"),
    (1, "dtype = C.input_dtype"),
    (1, "x0 = snp.zeros(input_shape, dtype=dtype)"),
    (0, "self.x = x0"),
    (0, "self.z, self.z_old = self.z_init(self.x)"),
    (0, "self.u = self.u_init(self.x)"),
    (0, "super().__init__(**kwargs)")]),
  ("LinearizedADMM._working_vars_finite", [
    (0, "return _all_finite(self.x) and _all_finite(self.z) and _all_finite(self.u)")]),
  ("LinearizedADMM._objective_evaluatable", [
    (0, "return self.f.has_eval and self.g.has_eval")]),
  ("LinearizedADMM._itstat_extra_fields", [
    (0, "itstat_fields = {'Prml Rsdl': '%9.3e', 'Dual Rsdl': '%9.3e'}"),
    (0, "itstat_attrib = ['norm_primal_residual()', 'norm_dual_residual()']"),
    (0, "return (itstat_fields, itstat_attrib)")]),
  ("LinearizedADMM.minimizer", [
    (0, "return self.x")]),
  ("LinearizedADMM.objective", [
    (0, "if (x is None) != (z is None):"),
    (1, "raise ValueError"),
    (0, "if x is None:"),
    (1, "x = self.x"),
    (1, "z = self.z"),
    (0, "return self.f(x) + self.g(z)")]),
  ("LinearizedADMM.norm_primal_residual", [
    (0, "if x is None:"),
    (1, "x = self.x"),
    (0, "return norm(self.C(x) - self.z)")]),
  ("LinearizedADMM.norm_dual_residual", [
    (0, "return norm(self.C.adj(self.z - self.z_old))")]),
  ("LinearizedADMM.z_init", [
    (0, "z = self.C(x0)"),
    (0, "z_old = z"),
    (0, "return (z, z_old)")]),
  ("LinearizedADMM.u_init", [
    (0, "u = snp.zeros(self.C.output_shape, dtype=self.C.output_dtype)"),
    (0, "return u")]),
  ("LinearizedADMM.step", [
    (0, "proxarg = self.x - self.mu / self.nu * self.C.conj().T(self.C(self.x) - self.z + self.u)"),
    (0, "self.x = self.f.prox(proxarg, self.mu, v0=self.x)"),
    (0, "self.z_old = self.z"),
    (0, "Cx = self.C(self.x)"),
    (0, "self.z = self.g.prox(Cx + self.u, self.nu, v0=self.z)"),
    (0, "self.u = self.u + Cx - self.z")]),
  ("ProximalADMMBase.__init__", [
    (0, "self.f = f"),
    (0, "self.g = g"),
    (0, "self.rho = rho"),
    (0, "self.mu = mu"),
    (0, "self.nu = nu"),
    (0, "self.fast_dual_residual = fast_dual_residual"),
    (0, "if x0 is None:"),
    (1, "x0 = snp.zeros(xshape, dtype=xdtype)"),
    (0, "self.x = x0"),
    (0, "if z0 is None:"),
    (1, "z0 = snp.zeros(zshape, dtype=zdtype)"),
    (0, "self.z = z0"),
    (0, "self.z_old = self.z"),
    (0, "if u0 is None:"),
    (1, "u0 = snp.zeros(ushape, dtype=udtype)"),
    (0, "self.u = u0"),
    (0, "self.u_old = self.u"),
    (0, "super().__init__(**kwargs)")]),
  ("ProximalADMMBase._working_vars_finite", [
    (0, "return _all_finite(self.x) and _all_finite(self.z) and _all_finite(self.u)")]),
  ("ProximalADMMBase._objective_evaluatable", [
    (0, "return self.f.has_eval and self.g.has_eval")]),
  ("ProximalADMMBase._itstat_extra_fields", [
    (0, "itstat_fields = {'Prml Rsdl': '%9.3e', 'Dual Rsdl': '%9.3e'}"),
    (0, "itstat_attrib = ['norm_primal_residual()', 'norm_dual_residual()']"),
    (0, "return (itstat_fields, itstat_attrib)")]),
  ("ProximalADMMBase.minimizer", [
    (0, "return self.x")]),
  ("ProximalADMMBase.objective", [
    (0, "if (x is None) != (z is None):"),
    (1, "raise ValueError"),
    (0, "if x is None:"),
    (1, "x = self.x"),
    (1, "z = self.z"),
    (0, "return self.f(x) + self.g(z)")]),
  ("ProximalADMM.__init__", [
    (0, "self.A = A"),
    (0, "if B is None:"),
    (1, "self.B = -Identity(self.A.output_shape, self.A.output_dtype)"),
    (0, "else:"),
    (1, "self.B = B"),
    (0, "if c is None:"),
    (1, "self.c = 0.0"),
    (0, "else:"),
    (1, "self.c = c"),
    (0, "super().__init__(f, g, rho, mu, nu, self.A.input_shape, self.B.input_shape, self.A.output_shape, self.A.input_dtype, self.B.input_dtype, self.A.output_dtype, x0=x0, z0=z0, u0=u0, fast_dual_residual=fast_dual_residual, **kwargs)")]),
  ("ProximalADMM.norm_primal_residual", [
    (0, "if (x is None) != (z is None):"),
    (1, "raise ValueError"),
    (0, "if x is None:"),
    (1, "x = self.x"),
    (1, "z = self.z"),
    (0, "return norm(self.A(x) + self.B(z) - self.c)")]),
  ("ProximalADMM.norm_dual_residual", [
    (0, "if self.fast_dual_residual:"),
    (1, "rsdl = self.z - self.z_old"),
    (0, "else:"),
    (1, "rsdl = self.A.H(self.B(self.z - self.z_old))"),
    (0, "return norm(rsdl)")]),
  ("ProximalADMM.step", [
    (0, "proxarg = self.x - 1.0 / self.mu * self.A.H(2.0 * self.u - self.u_old)"),
    (0, "self.x = self.f.prox(proxarg, 1.0 / (self.rho * self.mu), v0=self.x)"),
    (0, "proxarg = self.z - 1.0 / self.nu * self.B.H(self.A(self.x) + self.B(self.z) - self.c + self.u)"),
    (0, "self.z_old = self.z"),
    (0, "self.z = self.g.prox(proxarg, 1.0 / (self.rho * self.nu), v0=self.z)"),
    (0, "self.u_old = self.u"),
    (0, "self.u = self.u + self.A(self.x) + self.B(self.z) - self.c")]),
  ("NonLinearPADMM.__init__", [
    (0, "self.H = H"),
    (0, "super().__init__(f, g, rho, mu, nu, H.input_shapes[0], H.input_shapes[1], H.output_shape, H.input_dtypes[0], H.input_dtypes[1], H.output_dtype, x0=x0, z0=z0, u0=u0, fast_dual_residual=fast_dual_residual, **kwargs)")]),
  ("NonLinearPADMM.norm_primal_residual", [
    (0, "if (x is None) != (z is None):"),
    (1, "raise ValueError"),
    (0, "if x is None:"),
    (1, "x = self.x"),
    (1, "z = self.z"),
    (0, "return norm(self.H(x, z))")]),
  ("NonLinearPADMM.norm_dual_residual", [
    (0, "if self.fast_dual_residual:"),
    (1, "rsdl = self.z - self.z_old"),
    (0, "else:"),
    (1, "Hz = lambda z: self.H(self.x, z)"),
    (1, "B = lambda u: jvp(Hz, (self.z,), (u,))[1]"),
    (1, "Hx = lambda x: self.H(x, self.z)"),
    (1, "AH = cvjp(Hx, self.x)[1]"),
    (1, "rsdl = AH(B(self.z - self.z_old))[0]"),
    (0, "return norm(rsdl)")]),
  ("NonLinearPADMM.step", [
    (0, "AH = self.H.vjp(0, self.x, self.z, conjugate=True)[1]"),
    (0, "proxarg = self.x - 1.0 / self.mu * AH(2.0 * self.u - self.u_old)"),
    (0, "self.x = self.f.prox(proxarg, 1.0 / (self.rho * self.mu), v0=self.x)"),
    (0, "BH = self.H.vjp(1, self.x, self.z, conjugate=True)[1]"),
    (0, "proxarg = self.z - 1.0 / self.nu * BH(self.H(self.x, self.z) + self.u)"),
    (0, "self.z_old = self.z"),
    (0, "self.z = self.g.prox(proxarg, 1.0 / (self.rho * self.nu), v0=self.z)"),
    (0, "self.u_old = self.u"),
    (0, "self.u = self.u + self.H(self.x, self.z)")]),
  ("PDHG.__init__", [
    (0, "self.f = f"),
    (0, "self.g = g"),
    (0, "self.C = C"),
    (0, "self.tau = tau"),
    (0, "self.sigma = sigma"),
    (0, "self.alpha = alpha"),
    (0, "if x0 is None:"),
    (1, "input_shape = C.input_shape"),
    (1, "dtype = C.input_dtype"),
    (1, "x0 = snp.zeros(input_shape, dtype=dtype)"),
    (0, "self.x = x0"),
    (0, "self.x_old = self.x"),
    (0, "if z0 is None:"),
    (1, "input_shape = C.output_shape"),
    (1, "dtype = C.output_dtype"),
    (1, "z0 = snp.zeros(input_shape, dtype=dtype)"),
    (0, "self.z = z0"),
    (0, "self.z_old = self.z"),
    (0, "super().__init__(**kwargs)")]),
  ("PDHG._working_vars_finite", [
    (0, "return _all_finite(self.x) and _all_finite(self.z)")]),
  ("PDHG._objective_evaluatable", [
    (0, "return self.f.has_eval and self.g.has_eval")]),
  ("PDHG._itstat_extra_fields", [
    (0, "itstat_fields = {'Prml Rsdl': '%9.3e', 'Dual Rsdl': '%9.3e'}"),
    (0, "itstat_attrib = ['norm_primal_residual()', 'norm_dual_residual()']"),
    (0, "return (itstat_fields, itstat_attrib)")]),
  ("PDHG.minimizer", [
    (0, "return self.x")]),
  ("PDHG.objective", [
    (0, "if x is None:"),
    (1, "x = self.x"),
    (0, "return self.f(x) + self.g(self.C(x))")]),
  ("PDHG.norm_primal_residual", [
    (0, "return norm(self.x - self.x_old) / self.tau")]),
  ("PDHG.norm_dual_residual", [
    (0, "return norm(self.z - self.z_old) / self.sigma")]),
  ("PDHG.step", [
    (0, "self.x_old = self.x"),
    (0, "self.z_old = self.z"),
    (0, "if isinstance(self.C, LinearOperator):"),
    (1, "proxarg = self.x - self.tau * self.C.conj().T(self.z)"),
    (0, "else:"),
    (1, "proxarg = self.x - self.tau * self.C.vjp(self.x, conjugate=True)[1](self.z)"),
    (0, "self.x = self.f.prox(proxarg, self.tau, v0=self.x)"),
    (0, "proxarg = self.z + self.sigma * self.C((1.0 + self.alpha) * self.x - self.alpha * self.x_old)"),
    (0, "self.z = self.g.conj_prox(proxarg, self.sigma, v0=self.z)")]),
  ("PGM.__init__", [
    (0, "self.f = f"),
    (0, "if g.has_prox is not True:"),
    (1, "raise ValueError"),
    (0, "self.g = g"),
    (0, "if step_size is None:"),
    (1, "step_size = PGMStepSize()"),
    (0, "self.step_size = step_size"),
    (0, "self.step_size.internal_init(self)"),
    (0, "self.L = L0"),
    (0, "self.fixed_point_residual = snp.inf"),
    (0, "def x_step(v, L):"),
    (1, "return self.g.prox(v - 1.0 / L * self.f.grad(v), 1.0 / L)"),
    (0, "self.x_step = jax.jit(x_step)"),
    (0, "self.x = x0"),
    (0, "super().__init__(**kwargs)")]),
  ("PGM._working_vars_finite", [
    (0, "return _all_finite(self.x)")]),
  ("PGM._objective_evaluatable", [
    (0, "return self.f.has_eval and self.g.has_eval")]),
  ("PGM._itstat_extra_fields", [
    (0, "itstat_fields = {'L': '%9.3e', 'Residual': '%9.3e'}"),
    (0, "itstat_attrib = ['L', 'norm_residual()']"),
    (0, "return (itstat_fields, itstat_attrib)")]),
  ("PGM.minimizer", [
    (0, "return self.x")]),
  ("PGM.objective", [
    (0, "if x is None:"),
    (1, "x = self.x"),
    (0, "return self.f(x) + self.g(x)")]),
  ("PGM.f_quad_approx", [
    (0, "diff_xy = x - y"),
    (0, "return self.f(y) + snp.sum(snp.real(snp.conj(self.f.grad(y)) * diff_xy)) + 0.5 * L * snp.linalg.norm(diff_xy) ** 2")]),
  ("PGM.norm_residual", [
    (0, "return self.fixed_point_residual")]),
  ("PGM.step", [
    (0, "self.L = self.step_size.update(self.x)"),
    (0, "x = self.x_step(self.x, self.L)"),
    (0, "self.fixed_point_residual = snp.linalg.norm(self.x - x)"),
    (0, "self.x = x")]),
  ("AcceleratedPGM.__init__", [
    (0, "super().__init__(f=f, g=g, L0=L0, x0=x0, step_size=step_size, **kwargs)"),
    (0, "self.v = x0"),
    (0, "self.t = 1.0")]),
  ("AcceleratedPGM._working_vars_finite", [
    (0, "return _all_finite(self.x) and _all_finite(self.v)")]),
  ("AcceleratedPGM.step", [
    (0, "x_old = self.x"),
    (0, "if isinstance(self.step_size, (AdaptiveBBStepSize, BBStepSize)):"),
    (1, "self.L = self.step_size.update(self.x)"),
    (0, "else:"),
    (1, "self.L = self.step_size.update(self.v)"),
    (0, "if isinstance(self.step_size, RobustLineSearchStepSize):"),
    (1, "self.x = self.step_size.Z"),
    (1, "self.fixed_point_residual = snp.linalg.norm(self.x - x_old)"),
    (0, "else:"),
    (1, "self.x = self.x_step(self.v, self.L)"),
    (1, "self.fixed_point_residual = snp.linalg.norm(self.x - self.v)"),
    (1, "t_old = self.t"),
    (1, "self.t = 0.5 * (1 + snp.sqrt(1 + 4 * t_old ** 2))"),
    (1, "self.v = self.x + (t_old - 1) / self.t * (self.x - x_old)")]),
  ("Functional.conj_prox", [
    (0, "return v - lam * self.prox(v / lam, 1.0 / lam, **kwargs)")]),
  ("LinearSubproblemSolver.compute_rhs", [
    (0, "C0 = self.admm.C_list[0]"),
    (0, "rhs = snp.zeros(C0.input_shape, C0.input_dtype)"),
    (0, "if self.admm.f is not None:"),
    (1, "ATWy = self.admm.f.A.adj(self.admm.f.W.diagonal * self.admm.f.y)"),
    (1, "rhs += 2.0 * self.admm.f.scale * ATWy"),
    (0, "for (rhoi, Ci, zi, ui) in zip(self.admm.rho_list, self.admm.C_list, self.admm.z_list, self.admm.u_list):"),
    (1, "rhs += rhoi * Ci.adj(zi - ui)"),
    (0, "return rhs")]),
  ("LinearSubproblemSolver.solve", [
    (0, "rhs = self.compute_rhs()"),
    (0, "x, self.info = self.cg(self.lhs_op, rhs, x0, **self.cg_kwargs)"),
    (0, "return x")]),
  ("LinearSubproblemSolver.internal_init", [
    (0, "if admm.f is not None:"),
    (1, "if not isinstance(admm.f, SquaredL2Loss):"),
    (2, "raise TypeError"),
    (1, "if not isinstance(admm.f.A, LinearOperator):"),
    (2, "raise TypeError"),
    (0, "super().internal_init(admm)"),
    (0, "lhs_op = reduce(lambda a, b: a + b, [rhoi * Ci.gram_op for rhoi, Ci in zip(admm.rho_list, admm.C_list)])"),
    (0, "if admm.f is not None:"),
    (1, "lhs_op += admm.f.hessian"),
    (0, "self.lhs_op = lhs_op")]),
  ("GenericSubproblemSolver.solve", [
    (0, "def obj(x):"),
    (1, "out = 0.0"),
    (1, "for (rhoi, Ci, zi, ui) in zip(self.admm.rho_list, self.admm.C_list, self.admm.z_list, self.admm.u_list):"),
    (2, "out += 0.5 * rhoi * snp.sum(snp.abs(zi - ui - Ci(x)) ** 2)"),
    (1, "if self.admm.f is not None:"),
    (2, "out += self.admm.f(x)"),
    (1, "return out"),
    (0, "res = minimize(obj, x0, **self.minimize_kwargs)"),
    (0, "for attrib in ('success', 'status', 'message', 'nfev', 'njev', 'nhev', 'nit', 'maxcv'):"),
    (1, "self.info[attrib] = getattr(res, attrib, None)"),
    (0, "return res.x")]),
  ("MatrixSubproblemSolver.solve", [
    (0, "rhs = self.compute_rhs()"),
    (0, "x = self.solver.solve(rhs)"),
    (0, "if self.check_solve:"),
    (1, "self.accuracy = self.solver.accuracy(x, rhs)"),
    (0, "return x")]),
  ("CircularConvolveSolver.solve", [
    (0, "rhs = self.compute_rhs()"),
    (0, "rhs_dft = snp.fft.fftn(rhs, axes=self.A_lhs.x_fft_axes)"),
    (0, "x_dft = rhs_dft / self.A_lhs.h_dft"),
    (0, "x = snp.fft.ifftn(x_dft, axes=self.A_lhs.x_fft_axes)"),
    (0, "if self.real_result:"),
    (1, "x = x.real"),
    (0, "return x")]),
  ("FBlockCircularConvolveSolver.solve", [
    (0, "assert isinstance(self.admm.f, SquaredL2Loss)"),
    (0, "rhs = self.compute_rhs() / (2.0 * self.admm.f.scale)"),
    (0, "x = self.solver.solve(rhs)"),
    (0, "if self.check_solve:"),
    (1, "self.accuracy = self.solver.accuracy(x, rhs)"),
    (0, "return x")]),
  ("G0BlockCircularConvolveSolver.compute_rhs", [
    (0, "assert isinstance(self.admm.g_list[0], SquaredL2Loss)"),
    (0, "C0 = self.admm.C_list[0]"),
    (0, "rhs = snp.zeros(C0.input_shape, C0.input_dtype)"),
    (0, "omega = self.admm.g_list[0].scale"),
    (0, "omega_list = [2.0 * omega] + [1.0] * (len(self.admm.C_list) - 1)"),
    (0, "for (omegai, rhoi, Ci, zi, ui) in zip(omega_list, self.admm.rho_list, self.admm.C_list, self.admm.z_list, self.admm.u_list):"),
    (1, "rhs += omegai * rhoi * Ci.adj(zi - ui)"),
    (0, "return rhs")]),
  ("G0BlockCircularConvolveSolver.solve", [
    (0, "assert isinstance(self.admm.g_list[0], SquaredL2Loss)"),
    (0, "rhs = self.compute_rhs() / (2.0 * self.admm.g_list[0].scale * self.admm.rho_list[0])"),
    (0, "x = self.solver.solve(rhs)"),
    (0, "if self.check_solve:"),
    (1, "self.accuracy = self.solver.accuracy(x, rhs)"),
    (0, "return x")])]

def assigns : List (String × List String) := [
  ("ADMM.__init__", ["f", "g_list", "C_list", "rho_list", "alpha", "subproblem_solver", "x", "z_list", "z_list_old", "u_list"]),
  ("ADMM.step", ["x", "z_list_old", "z_list[i]", "u_list[i]"]),
  ("LinearizedADMM.__init__", ["f", "g", "C", "mu", "nu", "x", "z", "z_old", "u"]),
  ("LinearizedADMM.step", ["x", "z_old", "z", "u"]),
  ("ProximalADMMBase.__init__", ["f", "g", "rho", "mu", "nu", "fast_dual_residual", "x", "z", "z_old", "u", "u_old"]),
  ("ProximalADMM.__init__", ["A", "B", "B", "c", "c"]),
  ("ProximalADMM.step", ["x", "z_old", "z", "u_old", "u"]),
  ("NonLinearPADMM.__init__", ["H"]),
  ("NonLinearPADMM.step", ["x", "z_old", "z", "u_old", "u"]),
  ("PDHG.__init__", ["f", "g", "C", "tau", "sigma", "alpha", "x", "x_old", "z", "z_old"]),
  ("PDHG.step", ["x_old", "z_old", "x", "z"]),
  ("PGM.__init__", ["f", "g", "step_size", "L", "fixed_point_residual", "x_step", "x"]),
  ("PGM.step", ["L", "fixed_point_residual", "x"]),
  ("AcceleratedPGM.__init__", ["v", "t"]),
  ("AcceleratedPGM.step", ["L", "L", "x", "fixed_point_residual", "x", "fixed_point_residual", "t", "v"])]

/-- Sub-problem solver classes of `_admmaux.py`: base class, whether `internal_init` (own or inherited) reduces over
`C_list` (the `solverReduces` argument of `admmInitFull`), and the constructor defaults. -/
def solvers : List (String × String × Bool × List (String × String)) := [
  ("SubproblemSolver", "", false, []),
  ("GenericSubproblemSolver", "SubproblemSolver", false, [("minimize_kwargs", "{'options': {'maxiter': 100}}")]),
  ("LinearSubproblemSolver", "SubproblemSolver", true, [("cg_kwargs", "None"), ("cg_function", "'scico'")]),
  ("MatrixSubproblemSolver", "LinearSubproblemSolver", true, [("check_solve", "False"), ("solve_kwargs", "None")]),
  ("CircularConvolveSolver", "LinearSubproblemSolver", true, [("ndims", "None")]),
  ("FBlockCircularConvolveSolver", "LinearSubproblemSolver", true, [("ndims", "None"), ("check_solve", "False")]),
  ("G0BlockCircularConvolveSolver", "SubproblemSolver", true, [("ndims", "None"), ("check_solve", "False")])]

def constraints : List (String × List String) := [
  ("ADMM", []),
  ("LinearizedADMM", ["0 < \\mu < \\nu \\| C \\|_2^{-2} \\;."]),
  ("ProximalADMMBase", []),
  ("ProximalADMM", ["\\mu > \\norm{ A }_2^2 \\quad \\text{and} \\quad \\nu > \\norm{ B }_2^2 \\;."]),
  ("NonLinearPADMM", ["\\mu > \\norm{ A^{(k)} }_2^2 \\quad \\text{and} \\quad \\nu > \\norm{ B^{(k)} }_2^2"]),
  ("PDHG", ["\\tau \\sigma < \\| C \\|_2^{-2} \\;,", "\\alpha \\in [0, 1]"]),
  ("PGM", ["L_0 \\geq K(\\nabla f) \\;,"]),
  ("AcceleratedPGM", [])]


/-- the statements of a method -/
def method (k : String) : List (Nat × String) :=
  match skeletons.find? (fun r => r.1 == k) with
  | some r => r.2
  | none => []

/-- the attributes of `self` a method assigns, in source order (table `assigns`) -/
def assignTargets (k : String) : List String :=
  match assigns.find? (fun r => r.1 == k) with
  | some r => r.2
  | none => []

/-- default of a constructor parameter -/
def defaultOf (c p : String) : Option String :=
  match ctors.find? (fun r => r.1 == c) with
  | some r => (r.2.2.find? (fun q => q.1 == p)).map (·.2)
  | none => none

/-- order of the state updates — the order `…ImplStep` of `Model/Steps.lean` follows (one structure update per assignment) -/
def StepTargets : Prop :=
    assignTargets "ADMM.step" = ["x", "z_list_old", "z_list[i]", "u_list[i]"] ∧
    assignTargets "LinearizedADMM.step" = ["x", "z_old", "z", "u"] ∧
    assignTargets "ProximalADMM.step" = ["x", "z_old", "z", "u_old", "u"] ∧
    assignTargets "NonLinearPADMM.step" = ["x", "z_old", "z", "u_old", "u"] ∧
    assignTargets "PDHG.step" = ["x_old", "z_old", "x", "z"] ∧
    assignTargets "PGM.step" = ["L", "fixed_point_residual", "x"] ∧
    assignTargets "AcceleratedPGM.step" = ["L", "L", "x", "fixed_point_residual", "x", "fixed_point_residual", "t", "v"]

instance : Decidable StepTargets := by unfold StepTargets; infer_instance

theorem step_targets : StepTargets := by
  decide +kernel

/-- the defaults the model hard-wires: `alpha = 1.0` (ADMM shortcut `isOne`, PDHG), `B = None → −I`, `c = None → 0`
    (`padmmDefaultB`, `padmmC none`), missing starts `None → zeros` (`…Init`), `fast_dual_residual = True`, `step_size = None` -/
def ModelDefaults : Prop :=
    defaultOf "ADMM" "alpha" = some "1.0" ∧ defaultOf "PDHG" "alpha" = some "1.0" ∧
    defaultOf "ProximalADMM" "B" = some "None" ∧ defaultOf "ProximalADMM" "c" = some "None" ∧
    defaultOf "ProximalADMM" "fast_dual_residual" = some "True" ∧ defaultOf "NonLinearPADMM" "fast_dual_residual" = some "True" ∧
    defaultOf "ADMM" "x0" = some "None" ∧ defaultOf "LinearizedADMM" "x0" = some "None" ∧
    defaultOf "ProximalADMM" "z0" = some "None" ∧ defaultOf "ProximalADMM" "u0" = some "None" ∧
    defaultOf "PDHG" "z0" = some "None" ∧ defaultOf "PGM" "x0" = some "<required>" ∧
    defaultOf "PGM" "step_size" = some "None" ∧ defaultOf "ADMM" "subproblem_solver" = some "None"

instance : Decidable ModelDefaults := by unfold ModelDefaults; infer_instance

theorem model_defaults : ModelDefaults := by
  decide +kernel

/-- the constructors store exactly the public state of the model's `…State` / `…Init` (in this order) after the parameters -/
def InitStateAttrs : Prop :=
    (assignTargets "ADMM.__init__").drop 6 = ["x", "z_list", "z_list_old", "u_list"] ∧
    (assignTargets "LinearizedADMM.__init__").drop 5 = ["x", "z", "z_old", "u"] ∧
    (assignTargets "ProximalADMMBase.__init__").drop 6 = ["x", "z", "z_old", "u", "u_old"] ∧
    (assignTargets "PDHG.__init__").drop 6 = ["x", "x_old", "z", "z_old"] ∧
    assignTargets "AcceleratedPGM.__init__" = ["v", "t"]

instance : Decidable InitStateAttrs := by unfold InitStateAttrs; infer_instance

theorem init_state_attrs : InitStateAttrs := by
  decide +kernel

/-- Whether the named solver class reduces over the constraint list at attachment. -/
def solverReduces (c : String) : Bool :=
  match solvers.find? (fun e => e.1 == c) with
  | some e => e.2.2.1
  | none => false

/-- The flags the step tie passes to `admmInitFull` (generic: no reduction; all linear-family and block solvers: reduction). -/
def SolverReducesFlags : Prop :=
    solverReduces "GenericSubproblemSolver" = false ∧ solverReduces "LinearSubproblemSolver" = true ∧
    solverReduces "MatrixSubproblemSolver" = true ∧ solverReduces "CircularConvolveSolver" = true ∧
    solverReduces "FBlockCircularConvolveSolver" = true ∧ solverReduces "G0BlockCircularConvolveSolver" = true

instance : Decidable SolverReducesFlags := by unfold SolverReducesFlags; infer_instance

theorem solver_reduces_flags : SolverReducesFlags := by
  decide +kernel

/-- the parameter constraints a class docstring prints -/
def constraintsOf (c : String) : List String :=
  match constraints.find? (fun r => r.1 == c) with
  | some r => r.2
  | none => []

/-- the documented parameter ranges, of which the hypotheses of the C03 theorems are transcriptions: `LADMMHyp` (`0 < μ`, `μ‖C‖² < ν`),
    `PADMMHyp` (`μ > ‖A‖²`, `ν > ‖B‖²`), `PDHGHyp` (`τσ‖C‖² < 1`), `PDHGHypA` (`α ∈ [0, 1]`), `DescentLemma … L` (`L_0 ≥ K(∇f)`);
    `ADMM` documents no range for `rho_list` / `alpha` (the theorems assume `ρ_i > 0`, `0 < α < 2`) -/
def DocumentedConstraints : Prop :=
    constraintsOf "LinearizedADMM" = ["0 < \\mu < \\nu \\| C \\|_2^{-2} \\;."] ∧
    constraintsOf "ProximalADMM" = ["\\mu > \\norm{ A }_2^2 \\quad \\text{and} \\quad \\nu > \\norm{ B }_2^2 \\;."] ∧
    constraintsOf "NonLinearPADMM" = ["\\mu > \\norm{ A^{(k)} }_2^2 \\quad \\text{and} \\quad \\nu > \\norm{ B^{(k)} }_2^2"] ∧
    constraintsOf "PDHG" = ["\\tau \\sigma < \\| C \\|_2^{-2} \\;,", "\\alpha \\in [0, 1]"] ∧
    constraintsOf "PGM" = ["L_0 \\geq K(\\nabla f) \\;,"] ∧
    constraintsOf "ADMM" = [] ∧ constraintsOf "AcceleratedPGM" = []

instance : Decidable DocumentedConstraints := by unfold DocumentedConstraints; infer_instance

theorem documented_constraints : DocumentedConstraints := by
  decide +kernel

end Scico.Steps.Source
