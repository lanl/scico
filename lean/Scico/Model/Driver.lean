/-
  Solver driver, iteration statistics and interval timer (DESIGN §4.2 `Model/Driver`, §5.9).
  Mathlib-free, executable.

  Transcribed from
  * `scico/util.py`            : class `Timer` (`__init__`, `start`, `stop`, `reset`, `elapsed`)
  * `scico/diagnostics.py`     : `IterationStats.insert / history / end`
  * `scico/optimize/_common.py`: `Optimizer.__init__` (keyword handling), `solve`, `_all_finite`,
                                 `_itstat_default_fields`
  * `scico/optimize/_admm.py, _ladmm.py, _padmm.py, _primaldual.py, _pgm.py`:
                                 `_working_vars_finite`, `_itstat_extra_fields`, `minimizer`

  Time is an integer number of clock ticks (`Nat`); the clock is an explicit argument of every
  timer operation (the value `timeit.default_timer()` returns inside the call).  With a
  non-decreasing clock every subtraction `t - t0` below is exact (a start time is never in the
  future); the theorems carry that hypothesis.

  The *specification* (ideal stop-watch, iteration records, …) is NOT in this file: see
  `Scico/Proofs/DriverSpec.lean`.
-/

namespace Scico.Driver

/-! ## `scico.util.Timer` -/

/-- the pair `(self.t0[lbl], self.td[lbl])`.  The two dictionaries of the class always have the
    same key set (entries are only ever created in pairs, in `__init__` and in `start`), so they
    are modelled as one insertion-ordered dictionary of pairs. -/
structure Entry where
  /-- `self.t0[lbl]`: time of the `start` call if running, `None` otherwise -/
  t0 : Option Nat
  /-- `self.td[lbl]`: accumulated time of the completed start/stop intervals -/
  td : Nat
deriving Repr, DecidableEq, Inhabited

/-- insertion-ordered dictionary (Python `dict`) -/
abbrev Store (L : Type) := List (L × Entry)

section
variable {L : Type} [DecidableEq L]

/-- `d[l]` / `l in d` -/
def Store.get : Store L → L → Option Entry
  | [], _ => none
  | (k, e) :: s, l => if k = l then some e else Store.get s l

/-- `d[l] = e` (replaces in place, else appends: Python dictionaries keep insertion order) -/
def Store.set : Store L → L → Entry → Store L
  | [], l, e => [(l, e)]
  | (k, x) :: s, l, e => if k = l then (k, e) :: s else (k, x) :: Store.set s l e

/-- `list(d.keys())` -/
def Store.keys (s : Store L) : List L := s.map (·.1)

/-- an argument `labels` of `start/stop/reset/__init__`: `None`, one label, or a list/tuple -/
inductive Arg (L : Type) where
  | none
  | one (l : L)
  | many (ls : List L)
deriving Repr, DecidableEq

structure Timer (L : Type) where
  store : Store L
  /-- `self.default_label` -/
  dflt : L
  /-- `self.all_label` -/
  all : L
deriving Repr

/-- the zero entry created by `__init__` and by the first `start` of a label -/
def Entry.fresh : Entry := ⟨none, 0⟩

/-- `Timer.__init__(labels, default_label, all_label)` -/
def Timer.init (labels : Arg L) (dflt all : L) : Timer L :=
  let ls := match labels with
    | .none => []
    | .one l => [l]
    | .many ls => ls
  ⟨ls.foldl (fun s l => s.set l Entry.fresh) [], dflt, all⟩

/-- body of the `start` loop for an existing entry: `if self.t0[lbl] is None: self.t0[lbl] = t` -/
def startEntry (e : Entry) (t : Nat) : Entry :=
  match e.t0 with
  | none => { e with t0 := some t }
  | some _ => e

/-- body of the `stop` loop: `if self.t0[lbl] is not None: self.td[lbl] += t - self.t0[lbl];
    self.t0[lbl] = None` -/
def stopEntry (e : Entry) (t : Nat) : Entry :=
  match e.t0 with
  | some s => ⟨none, e.td + (t - s)⟩
  | none => e

/-- body of the `reset` loop: `self.t0[lbl] = None; self.td[lbl] = 0.0` -/
def resetEntry (_e : Entry) : Entry := ⟨none, 0⟩

/-- one pass of the `start` loop: create the entry if `lbl not in self.td`, then start it -/
def startOne (s : Store L) (t : Nat) (l : L) : Store L :=
  match s.get l with
  | none => s.set l (startEntry Entry.fresh t)
  | some e => s.set l (startEntry e t)

/-- label list of `start`: `None` → `[default_label]`, non-list → singleton (no `all` handling) -/
def Timer.startLabels (T : Timer L) : Arg L → List L
  | .none => [T.dflt]
  | .one l => [l]
  | .many ls => ls

/-- `Timer.start(labels)` at clock value `t` (never raises) -/
def Timer.start (T : Timer L) (a : Arg L) (t : Nat) : Timer L :=
  { T with store := (T.startLabels a).foldl (fun s l => startOne s t l) T.store }

/-- label list of `stop`/`reset`: `None` → default label; a (non-list) value equal to
    `all_label` → every existing key; other non-list → singleton; list → itself -/
def Timer.targets (T : Timer L) : Arg L → List L
  | .none => if T.dflt = T.all then T.store.keys else [T.dflt]
  | .one l => if l = T.all then T.store.keys else [l]
  | .many ls => ls

/-- the `for lbl in labels` loop of `stop`/`reset`: the first label that is not a key raises
    `KeyError` (`false`), leaving the entries processed so far modified -/
def updList (f : Entry → Entry) : Store L → List L → Store L × Bool
  | s, [] => (s, true)
  | s, l :: ls =>
    match s.get l with
    | none => (s, false)
    | some e => updList f (s.set l (f e)) ls

/-- `Timer.stop(labels)` at clock value `t`; second component `false` = `KeyError` -/
def Timer.stop (T : Timer L) (a : Arg L) (t : Nat) : Timer L × Bool :=
  let r := updList (fun e => stopEntry e t) T.store (T.targets a)
  ({ T with store := r.1 }, r.2)

/-- `Timer.reset(labels)`; second component `false` = `KeyError` -/
def Timer.reset (T : Timer L) (a : Arg L) : Timer L × Bool :=
  let r := updList resetEntry T.store (T.targets a)
  ({ T with store := r.1 }, r.2)

/-- `te = t - self.t0[label] if running else 0; if total: te += self.td[label]` -/
def elapsedEntry (e : Entry) (total : Bool) (t : Nat) : Nat :=
  (match e.t0 with
   | some s => t - s
   | none => 0) + (if total then e.td else 0)

/-- `Timer.elapsed(label=None, total)`: the branch for the default label never raises (returns 0
    when the default timer was never initialised) -/
def Timer.elapsedDefault (T : Timer L) (total : Bool) (t : Nat) : Nat :=
  match T.store.get T.dflt with
  | none => 0
  | some e => elapsedEntry e total t

/-- `Timer.elapsed(label, total)` at clock value `t`; `none` = `KeyError` -/
def Timer.elapsed (T : Timer L) (label : Option L) (total : Bool) (t : Nat) : Option Nat :=
  match label with
  | none => some (T.elapsedDefault total t)
  | some l => (T.store.get l).map (fun e => elapsedEntry e total t)

/-- the three mutating operations -/
inductive Op where
  | start | stop | reset
deriving Repr, DecidableEq

/-- one mutating call with the clock value read inside it -/
structure Call (L : Type) where
  time : Nat
  op : Op
  arg : Arg L
deriving Repr

/-- perform one call; `false` = the call raised `KeyError` (state possibly partially modified) -/
def Timer.apply (T : Timer L) (c : Call L) : Timer L × Bool :=
  match c.op with
  | .start => (T.start c.arg c.time, true)
  | .stop => T.stop c.arg c.time
  | .reset => T.reset c.arg

/-- a program that performs the calls in order and carries on after a `KeyError`
    (`try: … except KeyError: pass`) -/
def Timer.run (T : Timer L) (h : List (Call L)) : Timer L :=
  h.foldl (fun T c => (T.apply c).1) T

end

/-! ## `_all_finite`, `_working_vars_finite` -/

/-- a working variable: a plain array or a block array (list of blocks), entries flattened -/
inductive Var (α : Type) where
  | plain (xs : List α)
  | block (bs : List (List α))
deriving Repr

/-- `snp.any(p(v))`: a *full* reduction, also over the blocks of a block array -/
def Var.any {α} (p : α → Bool) : Var α → Bool
  | .plain xs => xs.any p
  | .block bs => bs.any (fun b => b.any p)

/-- `_common._all_finite(v) = not snp.any(snp.logical_not(snp.isfinite(v)))` -/
def allFinite {α} (fin : α → Bool) (v : Var α) : Bool := !(v.any (fun x => !(fin x)))

/-- `_working_vars_finite` of every class: conjunction over the class's working variables
    (ADMM: `x, *z_list, *u_list` with early return; LinearizedADMM / ProximalADMM /
    NonLinearPADMM: `x, z, u`; PDHG: `x, z`; PGM: `x`; AcceleratedPGM: `x, v`) -/
def workingVarsFinite {α} (fin : α → Bool) (vars : List (Var α)) : Bool :=
  vars.all (allFinite fin)

/-- the behaviour of the pinned tree before the repair (`snp.all(snp.isfinite(v))`, mapped over
    blocks: a block array of booleans is always truthy) — kept only to classify the known
    finding `nanstop-block`; no theorem is about it -/
def workingVarsFinitePinned {α} (fin : α → Bool) (vars : List (Var α)) : Bool :=
  vars.all (fun v => match v with
    | .plain xs => xs.all fin
    | .block _ => true)

/-! ## `Optimizer.__init__` keyword handling and statistics fields -/

structure Options where
  iter0 : Int := 0
  maxiter : Int := 100
  nanstop : Bool := false
  /-- whether `itstat_options` was given (its content is the caller's business) -/
  itstatGiven : Bool := false
deriving Repr, DecidableEq

/-- a default value of `kwargs.pop(name, default)` -/
inductive OptVal where
  | int (n : Int)
  | bool (b : Bool)
  | none
deriving Repr, DecidableEq

/-- `Optimizer.__init__`: `kwargs.pop(name, default)` in source order -/
def optionDefaults : List (String × OptVal) :=
  [("iter0", .int 0), ("maxiter", .int 100), ("nanstop", .bool false), ("itstat_options", .none)]

/-- default of an integer / truth-valued option, read from the table -/
def optionDefaultInt (k : String) : Int :=
  match (optionDefaults.find? (fun p => p.1 == k)).map (fun p => p.2) with
  | some (OptVal.int n) => n
  | some (OptVal.bool b) => if b then 1 else 0
  | _ => 0

/-- `kwargs.pop(name, default)` for every entry of `optionDefaults`, then `if kwargs: raise TypeError`.
    Values are integers (`nanstop` by truthiness).  `none` = `TypeError`. -/
def parseKwargs (kw : List (String × Int)) : Option Options :=
  let get (k : String) : Option Int := (kw.find? (·.1 == k)).map (·.2)
  let rest := kw.filter (fun p => !((optionDefaults.map (·.1)).contains p.1))
  if rest.isEmpty then
    some { iter0 := (get "iter0").getD (optionDefaultInt "iter0")
           maxiter := (get "maxiter").getD (optionDefaultInt "maxiter")
           nanstop := (get "nanstop").getD (optionDefaultInt "nanstop") != 0
           itstatGiven := (get "itstat_options").isSome }
  else none

/-- the optimiser classes -/
inductive OptClass where
  | admm | ladmm | padmm | nlpadmm | pdhg | pgm | apgm
deriving Repr, DecidableEq

/-- which sub-problem solver an ADMM object has (decides its extra statistics columns) -/
inductive AdmmSolver where
  | generic | linearScicoCG | linearOther | checked | other
deriving Repr, DecidableEq

/-- one statistics column: header, display format, attribute expression evaluated on the optimiser
    object (`"obj." ++ attrib`) -/
structure FieldSpec where
  name : String
  fmt : String
  attrib : String
deriving Repr, DecidableEq

/-- `_itstat_default_fields`: `Iter`, `Time`, and `Objective` when `_objective_evaluatable()` -/
def objectiveFieldSpecs : List FieldSpec := [⟨"Objective", "%9.3e", "objective()"⟩]

def defaultFieldSpecs (objectiveEvaluable : Bool) : List FieldSpec :=
  [⟨"Iter", "%d", "itnum"⟩, ⟨"Time", "%8.2e", "timer.elapsed()"⟩] ++
    (if objectiveEvaluable then objectiveFieldSpecs else [])

def residualFieldSpecs : List FieldSpec :=
  [⟨"Prml Rsdl", "%9.3e", "norm_primal_residual()"⟩, ⟨"Dual Rsdl", "%9.3e", "norm_dual_residual()"⟩]

/-- the `if / elif` chain of `ADMM._itstat_extra_fields`: columns added for the sub-problem solver -/
def admmSolverFieldSpecs : AdmmSolver → List FieldSpec
  | .generic => [⟨"Num FEv", "%6d", "subproblem_solver.info['nfev']"⟩, ⟨"Num It", "%6d", "subproblem_solver.info['nit']"⟩]
  | .linearScicoCG =>
    [⟨"CG It", "%5d", "subproblem_solver.info['num_iter']"⟩, ⟨"CG Res", "%9.3e", "subproblem_solver.info['rel_res']"⟩]
  | .checked => [⟨"Slv Res", "%9.3e", "subproblem_solver.accuracy"⟩]
  | _ => []

/-- the conditions of that chain, in source order (source text) -/
def admmSolverCond : AdmmSolver → String
  | .generic => "isinstance(self.subproblem_solver, GenericSubproblemSolver)"
  | .linearScicoCG =>
    "type(self.subproblem_solver) == LinearSubproblemSolver and self.subproblem_solver.cg_function == 'scico'"
  | .checked =>
    "type(self.subproblem_solver) in [MatrixSubproblemSolver, FBlockCircularConvolveSolver, G0BlockCircularConvolveSolver] and self.subproblem_solver.check_solve"
  | _ => ""

/-- `_itstat_extra_fields` -/
def extraFieldSpecs : OptClass → AdmmSolver → List FieldSpec
  | .admm, sv => residualFieldSpecs ++ admmSolverFieldSpecs sv
  | .pgm, _ => [⟨"L", "%9.3e", "L"⟩, ⟨"Residual", "%9.3e", "norm_residual()"⟩]
  | .apgm, _ => [⟨"L", "%9.3e", "L"⟩, ⟨"Residual", "%9.3e", "norm_residual()"⟩]
  | _, _ => residualFieldSpecs

/-- `_objective_evaluatable()`: ADMM `(not self.f or self.f.has_eval) and all(g.has_eval for g in g_list)`;
    every other class `self.f.has_eval and self.g.has_eval` (one `g`) -/
def objectiveEvaluable (c : OptClass) (fGiven fHas : Bool) (gs : List Bool) : Bool :=
  match c with
  | .admm => (!fGiven || fHas) && gs.all id
  | _ => fHas && gs.all id

/-- all columns of a record, in order -/
def fieldSpecs (c : OptClass) (sv : AdmmSolver) (objectiveEvaluable : Bool) : List FieldSpec :=
  defaultFieldSpecs objectiveEvaluable ++ extraFieldSpecs c sv

/-- `_itstat_default_fields` followed by the extra fields: the column names of a record -/
def fieldNames (c : OptClass) (sv : AdmmSolver) (objectiveEvaluable : Bool) : List String :=
  (fieldSpecs c sv objectiveEvaluable).map (·.name)

/-- the attributes `_working_vars_finite` passes to `_all_finite`, in evaluation order
    (`*name`: every element of the list attribute `name`) -/
def workingVarNames : OptClass → List String
  | .admm => ["x", "*z_list", "*u_list"]
  | .ladmm => ["x", "z", "u"]
  | .padmm => ["x", "z", "u"]
  | .nlpadmm => ["x", "z", "u"]
  | .pdhg => ["x", "z"]
  | .pgm => ["x"]
  | .apgm => ["x", "v"]

/-- source text of the statistics function `itstat_func_and_object` assembles and `exec`s:
    `"def itstat_func(obj): " + "return(" + ", ".join(["obj." + attr …]) + ")"` -/
def itstatFuncSource (attribs : List String) : String :=
  "def itstat_func(obj): " ++ "return(" ++ ", ".intercalate (attribs.map ("obj." ++ ·)) ++ ")"

/-! ### the same tables in the shape the translator reads them from the source

`harness/driver_translate.py` regenerates `Scico/Generated/DriverFields.lean` (`src : FieldTables`) from the
working tree on every run and closes `src = fieldTables` by `rfl`. -/

def OptClass.tag : OptClass → String
  | .admm => "admm" | .ladmm => "ladmm" | .padmm => "padmm" | .nlpadmm => "nlpadmm"
  | .pdhg => "pdhg" | .pgm => "pgm" | .apgm => "apgm"

/-- the Python class -/
def OptClass.pyName : OptClass → String
  | .admm => "ADMM" | .ladmm => "LinearizedADMM" | .padmm => "ProximalADMM" | .nlpadmm => "NonLinearPADMM"
  | .pdhg => "PDHG" | .pgm => "PGM" | .apgm => "AcceleratedPGM"

structure ClassTable where
  tag : String
  name : String
  /-- the dict / list `_itstat_extra_fields` starts from -/
  base : List FieldSpec
  /-- the `if / elif` chain: (condition, columns added) -/
  branches : List (String × List FieldSpec)
  /-- arguments of `_all_finite` in `_working_vars_finite` -/
  vars : List String
deriving Repr, DecidableEq

structure FieldTables where
  default : List FieldSpec
  objectiveCond : String
  objective : List FieldSpec
  /-- right-hand side of `itstat_return = …` -/
  itstatReturn : String
  /-- argument of `exec(…)` -/
  itstatExec : String
  classes : List ClassTable
deriving Repr, DecidableEq

def classTableOf (c : OptClass) : ClassTable :=
  { tag := c.tag, name := c.pyName, base := extraFieldSpecs c .other,
    branches := if c = .admm then
        [AdmmSolver.generic, .linearScicoCG, .checked].map (fun sv => (admmSolverCond sv, admmSolverFieldSpecs sv))
      else [],
    vars := workingVarNames c }

/-- the model's tables -/
def fieldTables : FieldTables :=
  { default := defaultFieldSpecs false
    objectiveCond := "self._objective_evaluatable()"
    objective := objectiveFieldSpecs
    itstatReturn := "'return(' + ', '.join(['obj.' + attr for attr in itstat_attrib]) + ')'"
    itstatExec := "'def itstat_func(obj): ' + itstat_return"
    classes := [OptClass.admm, .ladmm, .padmm, .nlpadmm, .pdhg, .pgm, .apgm].map classTableOf }

/-! ## `IterationStats` -/

/-- one inserted record: iteration number, reported time, remaining accessor values -/
structure Row (ρ : Type) where
  iter : Int
  time : Nat
  fields : ρ
deriving Repr

/-- `IterationStats.insert(values)`: `self.iterations.append(self.IterTuple(*values))` -/
def statsInsert {ρ} (rows : List (Row ρ)) (r : Row ρ) : List (Row ρ) := rows ++ [r]

/-- column `n` of a list of records (each a list of values) -/
def column {β} (rows : List (List β)) (n : Nat) : List (Option β) := rows.map (fun r => r[n]?)

/-- `IterationStats.history(transpose=True)` on records given as lists of values:
    `[[iterations[m][n] for m in range(len(iterations))] for n in range(len(iterations[0]))]`;
    with no record the (empty) list of records itself is returned -/
def historyTranspose {β} (rows : List (List β)) : List (List (Option β)) :=
  match rows with
  | [] => []
  | r0 :: _ => (List.range r0.length).map (column rows)

/-! ## `Optimizer.solve` -/

/-- the concrete optimiser seen from the driver.  `ω` is everything `step()` and the accessors
    read or write (working variables, sub-solver state, step-size state, …). -/
structure Env (ω ρ ξ α : Type) where
  /-- `self.step()` -/
  step : ω → ω
  /-- clock ticks that pass while that `step()` call runs -/
  stepTicks : ω → Nat
  /-- the working variables `_working_vars_finite` inspects -/
  vars : ω → List (Var α)
  /-- `isfinite` on scalars -/
  fin : α → Bool
  /-- accessor values of the statistics record other than `Iter` and `Time`
      (`objective()`, `norm_primal_residual()`, …) -/
  fields : ω → ρ
  /-- `self.minimizer()` -/
  minimizer : ω → ξ

/-- a callback: an arbitrary effect on the optimiser's algorithmic state, taking some time.
    (Callbacks that assign the driver's own attributes `itnum`, `maxiter`, `timer`,
    `itstat_object` are outside the model.) -/
structure Callback (ω : Type) where
  run : ω → ω
  ticks : ω → Nat

/-- ghost record of one callback invocation -/
structure CbRec (ω : Type) where
  /-- `optimizer.itnum` as seen by the callback -/
  itnum : Int
  /-- state handed to the callback -/
  world : ω
  /-- clock at entry / exit -/
  enter : Nat
  leave : Nat
deriving Repr

/-- how a `solve()` call ends -/
inductive Outcome where
  | ok
  /-- `ValueError("NaN or Inf value encountered …")` -/
  | nan
  /-- a `KeyError` escaping from the timer (proved impossible, `solve_never_keyerror`) -/
  | key
deriving Repr, DecidableEq

structure Drv (ω ρ L : Type) where
  world : ω
  /-- the wall clock (`timeit.default_timer()`) -/
  clock : Nat
  itnum : Int
  maxiter : Int
  nanstop : Bool
  timer : Timer L
  /-- `itstat_object.iterations` -/
  rows : List (Row ρ)
  /-- ghost: every callback invocation so far -/
  cblog : List (CbRec ω)
  /-- ghost: every timer call issued by `solve` so far -/
  tlog : List (Call L)

section
variable {ω ρ ξ α L : Type} [DecidableEq L]

/-- `Optimizer.__init__`: `self.itnum = iter0; self.timer = Timer()` and empty statistics -/
def Drv.init (w : ω) (o : Options) (dflt all : L) (clock : Nat := 0) : Drv ω ρ L :=
  { world := w, clock := clock, itnum := o.iter0, maxiter := o.maxiter, nanstop := o.nanstop,
    timer := Timer.init .none dflt all, rows := [], cblog := [], tlog := [] }

/-- `self.timer.start()` -/
def Drv.timerStart (d : Drv ω ρ L) : Drv ω ρ L :=
  { d with timer := d.timer.start .none d.clock, tlog := d.tlog ++ [⟨d.clock, .start, .none⟩] }

/-- `self.timer.stop()`; `false` = `KeyError` -/
def Drv.timerStop (d : Drv ω ρ L) : Drv ω ρ L × Bool :=
  let r := d.timer.stop .none d.clock
  ({ d with timer := r.1, tlog := d.tlog ++ [⟨d.clock, .stop, .none⟩] }, r.2)

/-- time passing outside `solve` (between calls) -/
def Drv.tick (d : Drv ω ρ L) (n : Nat) : Drv ω ρ L := { d with clock := d.clock + n }

/-- a direct `optimizer.step()` call by the user: no counter, no record, no timer -/
def Drv.userStep (E : Env ω ρ ξ α) (d : Drv ω ρ L) : Drv ω ρ L :=
  { d with world := E.step d.world, clock := d.clock + E.stepTicks d.world }

/-- body of the `for self.itnum in range(...)` loop with loop value `i` -/
def body (E : Env ω ρ ξ α) (cb : Option (Callback ω)) (d : Drv ω ρ L) (i : Int) :
    Drv ω ρ L × Outcome :=
  -- for self.itnum in …
  let d := { d with itnum := i }
  -- self.step()
  let d := { d with world := E.step d.world, clock := d.clock + E.stepTicks d.world }
  -- if self.nanstop and not self._working_vars_finite(): raise ValueError
  if d.nanstop && !(workingVarsFinite E.fin (E.vars d.world)) then (d, .nan)
  else
    -- self.itstat_object.insert(self.itstat_insert_func(self))
    --   default function: (obj.itnum, obj.timer.elapsed(), obj.objective(), …)
    let row : Row ρ := ⟨d.itnum, d.timer.elapsedDefault true d.clock, E.fields d.world⟩
    let d := { d with rows := statsInsert d.rows row }
    match cb with
    | none => (d, .ok)
    | some c =>
      -- self.timer.stop()
      match d.timerStop with
      | (d, false) => (d, .key)
      | (d, true) =>
        -- callback(self)
        let enter := d.clock
        let seen := d.world
        let d := { d with world := c.run d.world, clock := d.clock + c.ticks d.world }
        let rec_ : CbRec ω := ⟨d.itnum, seen, enter, d.clock⟩
        let d := { d with cblog := d.cblog ++ [rec_] }
        -- self.timer.start()
        (d.timerStart, .ok)

/-- `n` passes of the loop, loop values `i, i+1, …`; an exception ends it -/
def loop (E : Env ω ρ ξ α) (cb : Option (Callback ω)) : Nat → Int → Drv ω ρ L → Drv ω ρ L × Outcome
  | 0, _, d => (d, .ok)
  | n + 1, i, d =>
    match body E cb d i with
    | (d', .ok) => loop E cb n (i + 1) d'
    | r => r

/-- `Optimizer.solve(callback)` (after the repairs `4b50827`: no increment when nothing was
    iterated, and `1b5db51`: the iteration count of the call is a local `maxiter = self.maxiter`
    taken before the loop and used both for the `range` and for the final test; with a plain
    `Callback`, which assigns no attribute, that local equals the attribute throughout — callbacks
    that do assign it: `solveX`) -/
def solve (E : Env ω ρ ξ α) (cb : Option (Callback ω)) (d : Drv ω ρ L) : Drv ω ρ L × Outcome :=
  -- self.timer.start(); maxiter = self.maxiter
  let d0 := d.timerStart
  -- for self.itnum in range(self.itnum, self.itnum + maxiter):
  match loop E cb d0.maxiter.toNat d0.itnum d0 with
  | (d1, .ok) =>
    -- self.timer.stop()
    match d1.timerStop with
    | (d2, false) => (d2, .key)
    | (d2, true) =>
      -- if maxiter > 0: self.itnum += 1
      let d3 := if d2.maxiter > 0 then { d2 with itnum := d2.itnum + 1 } else d2
      -- self.itstat_object.end() changes no state; return self.minimizer()
      (d3, .ok)
  | r => r

/-- value returned by a `solve()` that completes -/
def solveReturn (E : Env ω ρ ξ α) (cb : Option (Callback ω)) (d : Drv ω ρ L) : ξ :=
  E.minimizer (solve E cb d).1.world

/-- the pinned tree's `solve` (unconditional `self.itnum += 1`), kept only to classify the known
    finding `maxiter0-itnum`; no theorem is about it -/
def solvePinnedItnum (maxiter : Int) (itnumAfterLoop : Int) : Int :=
  let _ := maxiter
  itnumAfterLoop + 1

/-- `solver.maxiter = m` between calls -/
def Drv.setMaxiter (d : Drv ω ρ L) (m : Int) : Drv ω ρ L := { d with maxiter := m }

end

/-! ## callbacks that assign the driver's own attributes -/

/-- a callback that may also assign `optimizer.itnum` / `optimizer.maxiter`: `ctl w i m` = the
    values of the two attributes when the callback returns, given the state and the values it finds -/
structure CallbackX (ω : Type) extends Callback ω where
  ctl : ω → Int → Int → Int × Int

section
variable {ω ρ ξ α L : Type} [DecidableEq L]

/-- `body` with such a callback -/
def bodyX (E : Env ω ρ ξ α) (cb : Option (CallbackX ω)) (d : Drv ω ρ L) (i : Int) :
    Drv ω ρ L × Outcome :=
  let d := { d with itnum := i }
  let d := { d with world := E.step d.world, clock := d.clock + E.stepTicks d.world }
  if d.nanstop && !(workingVarsFinite E.fin (E.vars d.world)) then (d, .nan)
  else
    let row : Row ρ := ⟨d.itnum, d.timer.elapsedDefault true d.clock, E.fields d.world⟩
    let d := { d with rows := statsInsert d.rows row }
    match cb with
    | none => (d, .ok)
    | some c =>
      match d.timerStop with
      | (d, false) => (d, .key)
      | (d, true) =>
        let enter := d.clock
        let seen := d.world
        let a := c.ctl d.world d.itnum d.maxiter
        let d := { d with world := c.run d.world, clock := d.clock + c.ticks d.world }
        let rec_ : CbRec ω := ⟨d.itnum, seen, enter, d.clock⟩
        let d := { d with cblog := d.cblog ++ [rec_], itnum := a.1, maxiter := a.2 }
        (d.timerStart, .ok)

def loopX (E : Env ω ρ ξ α) (cb : Option (CallbackX ω)) : Nat → Int → Drv ω ρ L → Drv ω ρ L × Outcome
  | 0, _, d => (d, .ok)
  | n + 1, i, d =>
    match bodyX E cb d i with
    | (d', .ok) => loopX E cb n (i + 1) d'
    | r => r

/-- `Optimizer.solve(callback)` with an attribute-assigning callback.  The `range` of the loop is
    evaluated once, before the first iteration.  `late = true`: the tree before commit `1b5db51` — the final
    `if self.maxiter > 0: self.itnum += 1` reads the attribute *after* the loop (a callback that
    sets it to a non-positive value leaves the counter one short: finding
    `callback-maxiter-counter`); `late = false`: the tree since `1b5db51` — the decision uses the
    value `maxiter` had when the call started. -/
def solveX (late : Bool) (E : Env ω ρ ξ α) (cb : Option (CallbackX ω)) (d : Drv ω ρ L) :
    Drv ω ρ L × Outcome :=
  let d0 := d.timerStart
  match loopX E cb d0.maxiter.toNat d0.itnum d0 with
  | (d1, .ok) =>
    match d1.timerStop with
    | (d2, false) => (d2, .key)
    | (d2, true) =>
      let d3 := if (if late then d2.maxiter else d.maxiter) > 0 then { d2 with itnum := d2.itnum + 1 } else d2
      (d3, .ok)
  | r => r

end

/-! ## callbacks that assign `optimizer.nanstop` -/

/-- a callback that may assign `optimizer.nanstop` (`setNan w = some b`); `solve` reads the
    attribute afresh in every iteration (`if self.nanstop and not self._working_vars_finite()`) -/
structure CallbackN (ω : Type) extends Callback ω where
  setNan : ω → Option Bool

section
variable {ω ρ ξ α L : Type} [DecidableEq L]

def bodyN (E : Env ω ρ ξ α) (c : CallbackN ω) (d : Drv ω ρ L) (i : Int) : Drv ω ρ L × Outcome :=
  let d := { d with itnum := i }
  let d := { d with world := E.step d.world, clock := d.clock + E.stepTicks d.world }
  if d.nanstop && !(workingVarsFinite E.fin (E.vars d.world)) then (d, .nan)
  else
    let row : Row ρ := ⟨d.itnum, d.timer.elapsedDefault true d.clock, E.fields d.world⟩
    let d := { d with rows := statsInsert d.rows row }
    match d.timerStop with
    | (d, false) => (d, .key)
    | (d, true) =>
      let enter := d.clock
      let seen := d.world
      let nb := (c.setNan d.world).getD d.nanstop
      let d := { d with world := c.run d.world, clock := d.clock + c.ticks d.world }
      let rec_ : CbRec ω := ⟨d.itnum, seen, enter, d.clock⟩
      let d := { d with cblog := d.cblog ++ [rec_], nanstop := nb }
      (d.timerStart, .ok)

def loopN (E : Env ω ρ ξ α) (c : CallbackN ω) : Nat → Int → Drv ω ρ L → Drv ω ρ L × Outcome
  | 0, _, d => (d, .ok)
  | n + 1, i, d =>
    match bodyN E c d i with
    | (d', .ok) => loopN E c n (i + 1) d'
    | r => r

/-- `Optimizer.solve(callback)` with a callback that assigns `nanstop` -/
def solveN (E : Env ω ρ ξ α) (c : CallbackN ω) (d : Drv ω ρ L) : Drv ω ρ L × Outcome :=
  let d0 := d.timerStart
  match loopN E c d0.maxiter.toNat d0.itnum d0 with
  | (d1, .ok) =>
    match d1.timerStop with
    | (d2, false) => (d2, .key)
    | (d2, true) =>
      -- `if maxiter > 0` (the local copy; a `CallbackN` does not assign `maxiter`, so the attribute still equals it)
      let d3 := if d2.maxiter > 0 then { d2 with itnum := d2.itnum + 1 } else d2
      (d3, .ok)
  | r => r

end

/-! ## a callback that raises -/

section
variable {ω ρ ξ α L : Type} [DecidableEq L]

/-- the part of one pass that precedes the callback: `for self.itnum in …`, `self.step()`, the NaN
    test, `insert`, `self.timer.stop()` -/
def bodyHead (E : Env ω ρ ξ α) (d : Drv ω ρ L) (i : Int) : Drv ω ρ L × Outcome :=
  let d := { d with itnum := i }
  let d := { d with world := E.step d.world, clock := d.clock + E.stepTicks d.world }
  if d.nanstop && !(workingVarsFinite E.fin (E.vars d.world)) then (d, .nan)
  else
    let row : Row ρ := ⟨d.itnum, d.timer.elapsedDefault true d.clock, E.fields d.world⟩
    let d := { d with rows := statsInsert d.rows row }
    match d.timerStop with
    | (d, false) => (d, .key)
    | (d, true) => (d, .ok)

/-- `solve(callback)` whose callback raises an exception in its invocation of iteration `j`
    (0-based) of the call, after having changed the state by `pr` and taken `pt` ticks.
    `none`: that exception propagates out of `solve` — `self.timer.start()`, the rest of the loop,
    the final `timer.stop()`, the increment and `end()` are all skipped; `some o`: the call ended
    before the callback of iteration `j` was entered. -/
def solveRaise (E : Env ω ρ ξ α) (c : Callback ω) (pr : ω → ω) (pt : ω → Nat) (d : Drv ω ρ L) (j : Nat) :
    Drv ω ρ L × Option Outcome :=
  let d0 := d.timerStart
  if d0.maxiter.toNat ≤ j then ((solve E (some c) d).1, some (solve E (some c) d).2)
  else
    match loop E (some c) j d0.itnum d0 with
    | (dj, .ok) =>
      match bodyHead E dj (d0.itnum + j) with
      | (d1, .ok) =>
        let rec_ : CbRec ω := ⟨d1.itnum, d1.world, d1.clock, d1.clock + pt d1.world⟩
        ({ d1 with world := pr d1.world, clock := d1.clock + pt d1.world, cblog := d1.cblog ++ [rec_] }, none)
      | (d1, o) => (d1, some o)
    | (dj, o) => (dj, some o)

end

/-! ## an `insert` that raises (display with `period = 0`) -/

section
variable {ω ρ ξ α L : Type} [DecidableEq L]

/-- the first pass up to the exception: `for self.itnum in …`, `self.step()`, NaN test, record
    appended — then `insert` raises, nothing else runs (the timer keeps running) -/
def bodyInsertRaise (E : Env ω ρ ξ α) (d : Drv ω ρ L) (i : Int) : Drv ω ρ L × Outcome :=
  let d := { d with itnum := i }
  let d := { d with world := E.step d.world, clock := d.clock + E.stepTicks d.world }
  if d.nanstop && !(workingVarsFinite E.fin (E.vars d.world)) then (d, .nan)
  else
    let row : Row ρ := ⟨d.itnum, d.timer.elapsedDefault true d.clock, E.fields d.world⟩
    ({ d with rows := statsInsert d.rows row }, .ok)

/-- `solve()` on an optimiser whose statistics object raises at every `insert` (`insertRaises`):
    `none` = the `ZeroDivisionError` leaves `solve` in the first iteration; `some o` = nothing was
    inserted (`maxiter ≤ 0`: ordinary `solve`) or the NaN stop came first -/
def solveInsertRaise (E : Env ω ρ ξ α) (cb : Option (Callback ω)) (d : Drv ω ρ L) : Drv ω ρ L × Option Outcome :=
  let d0 := d.timerStart
  if d0.maxiter.toNat = 0 then ((solve E cb d).1, some (solve E cb d).2)
  else
    match bodyInsertRaise E d0 d0.itnum with
    | (d1, .ok) => (d1, none)
    | (d1, o) => (d1, some o)

end

/-! ## `scico.util.ContextTimer` -/

/-- `ContextTimer.action` -/
inductive CtxAction where
  | startStop | stopStart
deriving Repr, DecidableEq

section
variable {L : Type} [DecidableEq L]

/-- the `labels` argument `ContextTimer` passes on: `self.label` (`None` or one label) -/
def ctxArg : Option L → Arg L
  | none => .none
  | some l => .one l

/-- `ContextTimer.__enter__` at clock value `t`; `false` = `KeyError` (only `StopStart`) -/
def ctxEnter (T : Timer L) (label : Option L) (a : CtxAction) (t : Nat) : Timer L × Bool :=
  match a with
  | .startStop => (T.start (ctxArg label) t, true)
  | .stopStart => T.stop (ctxArg label) t

/-- `ContextTimer.__exit__` at clock value `t`; `false` = `KeyError` -/
def ctxExit (T : Timer L) (label : Option L) (a : CtxAction) (t : Nat) : Timer L × Bool :=
  match a with
  | .startStop => T.stop (ctxArg label) t
  | .stopStart => (T.start (ctxArg label) t, true)

/-! ## `Timer.__str__` -/

/-- insertion into a list sorted by `lt` (`sorted(self.t0)`; dictionary keys are distinct) -/
def insertSorted (lt : L → L → Bool) (x : L) : List L → List L
  | [] => [x]
  | y :: ys => if lt y x then y :: insertSorted lt x ys else x :: y :: ys

def sortLabels (lt : L → L → Bool) (ls : List L) : List L := ls.foldr (insertSorted lt) []

/-- one line of the table `Timer.__str__` prints: label, accumulated time `td`, and the time
    since the current start (`none` = the text `Stopped`) -/
structure StrRow (L : Type) where
  label : L
  accum : Nat
  current : Option Nat
deriving Repr, DecidableEq

/-- the lines of `Timer.__str__` at clock value `t`, labels in sorted order (documented behaviour,
    the tree since commit `2b46a8f`; before it `TypeError` was raised whenever some timer was
    running: finding `timer-str-running`) -/
def Timer.strRows (lt : L → L → Bool) (T : Timer L) (t : Nat) : List (StrRow L) :=
  (sortLabels lt T.store.keys).filterMap (fun l =>
    (T.store.get l).map (fun e => ⟨l, e.td, e.t0.map (fun s => t - s)⟩))

/-- the tree before `2b46a8f`: `TypeError` (`none`) iff some timer is running (kept only to
    classify the finding) -/
def Timer.strRowsPinned (lt : L → L → Bool) (T : Timer L) (t : Nat) : Option (List (StrRow L)) :=
  if T.store.any (fun p => p.2.t0.isSome) then none else some (T.strRows lt t)

end

/-! ## `IterationStats`: what is printed -/

/-- the display-related arguments of `IterationStats.__init__` (`period ≥ 1`; `period = 0` makes
    `insert` raise `ZeroDivisionError` and is outside the model) -/
structure DisplayOpts where
  display : Bool := false
  period : Nat := 1
  shiftCycles : Bool := true
  overwrite : Bool := true
deriving Repr, DecidableEq

/-- what `insert` / `end` write to stdout -/
inductive PrintEv where
  /-- the two header lines (`print(self.disphdr)`) -/
  | header
  /-- the formatted record number `n` (0-based position in `iterations`), terminated by `"\n"`
      (`nl = true`) or by `"\r"` -/
  | row (n : Nat) (nl : Bool)
  /-- the bare `print()` of `end()` -/
  | newline
deriving Repr, DecidableEq

/-- `self.period_offset` -/
def DisplayOpts.offset (o : DisplayOpts) : Nat := if o.shiftCycles then 1 else 0

/-- `(len(self.iterations) - self.period_offset) % self.period == 0` (Python `%` with a positive
    divisor is the Euclidean remainder, also for the negative left operand `0 - 1`) -/
def cycleEnd (o : DisplayOpts) (len : Nat) : Bool :=
  ((len : Int) - (o.offset : Int)) % (o.period : Int) == 0

/-- display state of an `IterationStats` object -/
structure Disp where
  /-- `len(self.iterations)` -/
  len : Nat
  /-- `self.disphdr is not None` -/
  hdrPending : Bool
  /-- everything printed so far -/
  out : List PrintEv
deriving Repr, DecidableEq

def Disp.init (o : DisplayOpts) : Disp := ⟨0, o.display, []⟩

/-- the printing part of `IterationStats.insert` (the record itself is appended by `statsInsert`) -/
def dispInsert (o : DisplayOpts) (s : Disp) : Disp :=
  let len := s.len + 1
  if !o.display then { s with len := len }
  else
    let out := if s.hdrPending then s.out ++ [.header] else s.out
    let out :=
      if o.overwrite then out ++ [.row s.len (cycleEnd o len)]
      else if cycleEnd o len then out ++ [.row s.len true] else out
    ⟨len, false, out⟩

/-- `IterationStats.end()` -/
def dispEnd (o : DisplayOpts) (s : Disp) : Disp :=
  if o.display && o.overwrite && decide (o.period > 1) && !(cycleEnd o s.len) then
    { s with out := s.out ++ [.newline] }
  else s

/-- `k` insertions -/
def dispInserts (o : DisplayOpts) : Nat → Disp → Disp
  | 0, s => s
  | k + 1, s => dispInserts o k (dispInsert o s)

/-- `insert` raises `ZeroDivisionError` iff it reaches `… % self.period` with `period = 0`, i.e. iff
    the object displays (`IterationStats.__init__` accepts `period = 0`) -/
def insertRaises (o : DisplayOpts) : Bool := o.display && o.period == 0

/-- printing part of an `insert` that raises: the record is already appended and the pending header
    already printed when the modulo is evaluated -/
def dispInsertRaise (s : Disp) : Disp :=
  ⟨s.len + 1, false, if s.hdrPending then s.out ++ [.header] else s.out⟩

/-- several `solve()` calls: `k` insertions followed by `end()`, for each `k` of the list -/
def dispCalls (o : DisplayOpts) : List Nat → Disp → Disp
  | [], s => s
  | k :: ks, s => dispCalls o ks (dispEnd o (dispInserts o k s))

/-! ## `itstat_func_and_object`: the options merge (a pure function of the caller's dict) -/

section
variable {β : Type}

/-- `d[k]` / `d.get(k)` on an insertion-ordered dictionary with distinct keys -/
def dictGet (d : List (String × β)) (k : String) : Option β :=
  match d with
  | [] => none
  | (k', v) :: r => if k' = k then some v else dictGet r k

/-- `d[k] = v` -/
def dictSet (d : List (String × β)) (k : String) (v : β) : List (String × β) :=
  match d with
  | [] => [(k, v)]
  | (k', x) :: r => if k' = k then (k', v) :: r else (k', x) :: dictSet r k v

/-- `d.update(u)` -/
def dictUpdate (d u : List (String × β)) : List (String × β) := u.foldl (fun d p => dictSet d p.1 p.2) d

/-- `d.pop(k, None)`: the value and the remaining dictionary -/
def dictPop (d : List (String × β)) (k : String) : Option β × List (String × β) :=
  (dictGet d k, d.filter (fun p => p.1 != k))

/-- result of the options handling: the insertion function, the keyword arguments handed to
    `IterationStats(**…)`, and the caller's `itstat_options` object afterwards -/
structure ItstatSetup (β : Type) where
  func : Option β
  kwargs : List (String × β)
  userAfter : Option (List (String × β))

/-- `if itstat_options: default.update(itstat_options)` (`None` and `{}` are falsy) -/
def mergedOptions (dflt : List (String × β)) (user : Option (List (String × β))) : List (String × β) :=
  match user with
  | some u => if u.isEmpty then dflt else dictUpdate dflt u
  | none => dflt

/-- `itstat_func_and_object(itstat_fields, itstat_attrib, itstat_options)`, the dictionary part:
    `default = {"fields": …, "itstat_func": <generated>, "display": False}`;
    `if itstat_options: default.update(itstat_options)` (`None` and `{}` are falsy);
    `itstat_insert_func = default.pop("itstat_func", None)`; `IterationStats(**default)`.
    Only the *local* dictionary is updated and popped: the caller's object is not touched. -/
def itstatSetup (fields func displayOff : β) (user : Option (List (String × β))) : ItstatSetup β :=
  let r := dictPop (mergedOptions [("fields", fields), ("itstat_func", func), ("display", displayOff)] user)
    "itstat_func"
  ⟨r.1, r.2, user⟩

/-- building `n` optimisers one after the other from the same `itstat_options` object: the
    setups obtained, and the object afterwards -/
def itstatSetups (fields func displayOff : β) : Nat → Option (List (String × β)) →
    List (ItstatSetup β) × Option (List (String × β))
  | 0, u => ([], u)
  | n + 1, u =>
    let s := itstatSetup fields func displayOff u
    let r := itstatSetups fields func displayOff n s.userAfter
    (s :: r.1, r.2)

end

/-! ## `scico.util.Timer` over an arbitrary clock

The same transcription as at the top of this file, with the clock values in an arbitrary type `τ`
(`timeit.default_timer()` returns floats; the theorems take `τ` to be any linearly ordered additive
group — ℤ, ℚ, ℝ).  Namespace `Clock`; `Arg`, `Op` are shared. -/

namespace Clock

structure Entry (τ : Type) where
  t0 : Option τ
  td : τ
deriving Repr, DecidableEq

abbrev Store (L τ : Type) := List (L × Entry τ)

structure Timer (L τ : Type) where
  store : Store L τ
  dflt : L
  all : L
deriving Repr

structure Call (L τ : Type) where
  time : τ
  op : Op
  arg : Arg L
deriving Repr

section
variable {L τ : Type} [DecidableEq L] [Add τ] [Sub τ] [Zero τ]

def Store.get : Store L τ → L → Option (Entry τ)
  | [], _ => none
  | (k, e) :: s, l => if k = l then some e else Store.get s l

def Store.set : Store L τ → L → Entry τ → Store L τ
  | [], l, e => [(l, e)]
  | (k, x) :: s, l, e => if k = l then (k, e) :: s else (k, x) :: Store.set s l e

def Store.keys (s : Store L τ) : List L := s.map (·.1)

/-- `self.td[lbl] = 0.0; self.t0[lbl] = None` -/
def Entry.fresh : Entry τ := ⟨none, 0⟩

def Timer.init (labels : Arg L) (dflt all : L) : Timer L τ :=
  let ls := match labels with
    | .none => []
    | .one l => [l]
    | .many ls => ls
  ⟨ls.foldl (fun s l => Store.set s l Entry.fresh) [], dflt, all⟩

def startEntry (e : Entry τ) (t : τ) : Entry τ :=
  match e.t0 with
  | none => { e with t0 := some t }
  | some _ => e

def stopEntry (e : Entry τ) (t : τ) : Entry τ :=
  match e.t0 with
  | some s => ⟨none, e.td + (t - s)⟩
  | none => e

def resetEntry (_e : Entry τ) : Entry τ := ⟨none, 0⟩

def startOne (s : Store L τ) (t : τ) (l : L) : Store L τ :=
  match Store.get s l with
  | none => Store.set s l (startEntry Entry.fresh t)
  | some e => Store.set s l (startEntry e t)

def Timer.startLabels (T : Timer L τ) : Arg L → List L
  | .none => [T.dflt]
  | .one l => [l]
  | .many ls => ls

def Timer.start (T : Timer L τ) (a : Arg L) (t : τ) : Timer L τ :=
  { T with store := (T.startLabels a).foldl (fun s l => startOne s t l) T.store }

def Timer.targets (T : Timer L τ) : Arg L → List L
  | .none => if T.dflt = T.all then Store.keys T.store else [T.dflt]
  | .one l => if l = T.all then Store.keys T.store else [l]
  | .many ls => ls

def updList (f : Entry τ → Entry τ) : Store L τ → List L → Store L τ × Bool
  | s, [] => (s, true)
  | s, l :: ls =>
    match Store.get s l with
    | none => (s, false)
    | some e => updList f (Store.set s l (f e)) ls

def Timer.stop (T : Timer L τ) (a : Arg L) (t : τ) : Timer L τ × Bool :=
  let r := updList (fun e => stopEntry e t) T.store (T.targets a)
  ({ T with store := r.1 }, r.2)

def Timer.reset (T : Timer L τ) (a : Arg L) : Timer L τ × Bool :=
  let r := updList resetEntry T.store (T.targets a)
  ({ T with store := r.1 }, r.2)

/-- `te = 0.0; if running: te = t - t0; if total: te += td` -/
def elapsedEntry (e : Entry τ) (total : Bool) (t : τ) : τ :=
  (match e.t0 with
   | some s => t - s
   | none => 0) + (if total then e.td else 0)

def Timer.elapsed (T : Timer L τ) (label : Option L) (total : Bool) (t : τ) : Option τ :=
  match label with
  | none =>
    match Store.get T.store T.dflt with
    | none => some 0
    | some e => some (elapsedEntry e total t)
  | some l => (Store.get T.store l).map (fun e => elapsedEntry e total t)

def Timer.apply (T : Timer L τ) (c : Call L τ) : Timer L τ × Bool :=
  match c.op with
  | .start => (T.start c.arg c.time, true)
  | .stop => T.stop c.arg c.time
  | .reset => T.reset c.arg

def Timer.run (T : Timer L τ) (h : List (Call L τ)) : Timer L τ :=
  h.foldl (fun T c => (T.apply c).1) T

end

end Clock

/-! ## the source, statement by statement

Normalised statement lists `(nesting depth, text)` of every method transcribed above (docstrings, comments,
annotations and exception messages dropped; `ast.unparse` text).  `harness/driver_translate.py` regenerates
`Scico/Generated/DriverSource.lean` from the working tree on every run and closes
`skeletons = sourceSkeletons`, `signatures = sourceSignatures`, `optionDefaults = optionDefaults` by
`rfl`: a statement added, removed, reordered or changed in the source breaks an obligation. -/

def sourceSkeletons : List (String × List (Nat × String)) := [
  -- ADMM._objective_evaluatable  →  objectiveEvaluable
  ("ADMM._objective_evaluatable", [
    (0, "return (not self.f or self.f.has_eval) and all([_.has_eval for _ in self.g_list])")]),
  -- ADMM.minimizer  →  Env.minimizer (the variable `x`)
  ("ADMM.minimizer", [
    (0, "return self.x")]),
  -- LinearizedADMM._objective_evaluatable  →  objectiveEvaluable
  ("LinearizedADMM._objective_evaluatable", [
    (0, "return self.f.has_eval and self.g.has_eval")]),
  -- LinearizedADMM.minimizer  →  Env.minimizer (the variable `x`)
  ("LinearizedADMM.minimizer", [
    (0, "return self.x")]),
  -- ProximalADMM._objective_evaluatable  →  objectiveEvaluable
  ("ProximalADMM._objective_evaluatable", [
    (0, "return self.f.has_eval and self.g.has_eval")]),
  -- ProximalADMM.minimizer  →  Env.minimizer (the variable `x`)
  ("ProximalADMM.minimizer", [
    (0, "return self.x")]),
  -- NonLinearPADMM._objective_evaluatable  →  objectiveEvaluable
  ("NonLinearPADMM._objective_evaluatable", [
    (0, "return self.f.has_eval and self.g.has_eval")]),
  -- NonLinearPADMM.minimizer  →  Env.minimizer (the variable `x`)
  ("NonLinearPADMM.minimizer", [
    (0, "return self.x")]),
  -- PDHG._objective_evaluatable  →  objectiveEvaluable
  ("PDHG._objective_evaluatable", [
    (0, "return self.f.has_eval and self.g.has_eval")]),
  -- PDHG.minimizer  →  Env.minimizer (the variable `x`)
  ("PDHG.minimizer", [
    (0, "return self.x")]),
  -- PGM._objective_evaluatable  →  objectiveEvaluable
  ("PGM._objective_evaluatable", [
    (0, "return self.f.has_eval and self.g.has_eval")]),
  -- PGM.minimizer  →  Env.minimizer (the variable `x`)
  ("PGM.minimizer", [
    (0, "return self.x")]),
  -- AcceleratedPGM._objective_evaluatable  →  objectiveEvaluable
  ("AcceleratedPGM._objective_evaluatable", [
    (0, "return self.f.has_eval and self.g.has_eval")]),
  -- AcceleratedPGM.minimizer  →  Env.minimizer (the variable `x`)
  ("AcceleratedPGM.minimizer", [
    (0, "return self.x")]),
  -- Optimizer.solve  →  solve / body / loop (Drv.timerStart, Drv.timerStop); solveX for callbacks that assign attributes
  ("Optimizer.solve", [
    (0, "self.timer.start()"),
    (0, "maxiter = self.maxiter"),
    (0, "for self.itnum in range(self.itnum, self.itnum + maxiter):"),
    (1, "self.step()"),
    (1, "if self.nanstop and (not self._working_vars_finite()):"),
    (2, "raise ValueError"),
    (1, "self.itstat_object.insert(self.itstat_insert_func(self))"),
    (1, "if callback:"),
    (2, "self.timer.stop()"),
    (2, "callback(self)"),
    (2, "self.timer.start()"),
    (0, "self.timer.stop()"),
    (0, "if maxiter > 0:"),
    (1, "self.itnum += 1"),
    (0, "self.itstat_object.end()"),
    (0, "return self.minimizer()")]),
  -- Optimizer.__init__  →  parseKwargs, optionDefaults, Drv.init, fieldSpecs, itstatSetup
  ("Optimizer.__init__", [
    (0, "iter0 = kwargs.pop('iter0', 0)"),
    (0, "self.maxiter = kwargs.pop('maxiter', 100)"),
    (0, "self.nanstop = kwargs.pop('nanstop', False)"),
    (0, "itstat_options = kwargs.pop('itstat_options', None)"),
    (0, "if kwargs:"),
    (1, "raise TypeError"),
    (0, "self.itnum = iter0"),
    (0, "self.timer = Timer()"),
    (0, "itstat_fields, itstat_attrib = self._itstat_default_fields()"),
    (0, "itstat_extra_fields, itstat_extra_attrib = self._itstat_extra_fields()"),
    (0, "itstat_fields.update(itstat_extra_fields)"),
    (0, "itstat_attrib.extend(itstat_extra_attrib)"),
    (0, "self.itstat_insert_func, self.itstat_object = itstat_func_and_object(itstat_fields, itstat_attrib, itstat_options)")]),
  -- itstat_func_and_object  →  itstatFuncSource, mergedOptions, itstatSetup
  ("itstat_func_and_object", [
    (0, "itstat_return = 'return(' + ', '.join(['obj.' + attr for attr in itstat_attrib]) + ')'"),
    (0, "scope = {}"),
    (0, "exec('def itstat_func(obj): ' + itstat_return, scope)"),
    (0, "default_itstat_options = {'fields': itstat_fields, 'itstat_func': scope['itstat_func'], 'display': False}"),
    (0, "if itstat_options:"),
    (1, "default_itstat_options.update(itstat_options)"),
    (0, "itstat_insert_func = default_itstat_options.pop('itstat_func', None)"),
    (0, "itstat_object = IterationStats(**default_itstat_options)"),
    (0, "return (itstat_insert_func, itstat_object)")]),
  -- _all_finite  →  Var.any, allFinite
  ("_all_finite", [
    (0, "return not snp.any(snp.logical_not(snp.isfinite(v)))")]),
  -- Timer.__init__  →  Timer.init (Clock.Timer.init)
  ("Timer.__init__", [
    (0, "self.t0 = {}"),
    (0, "self.td = {}"),
    (0, "self.default_label = default_label"),
    (0, "self.all_label = all_label"),
    (0, "if labels is not None:"),
    (1, "if not isinstance(labels, (list, tuple)):"),
    (2, "labels = [labels]"),
    (1, "for lbl in labels:"),
    (2, "self.td[lbl] = 0.0"),
    (2, "self.t0[lbl] = None")]),
  -- Timer.start  →  Timer.startLabels, startOne, startEntry, Timer.start
  ("Timer.start", [
    (0, "if labels is None:"),
    (1, "labels = self.default_label"),
    (0, "if not isinstance(labels, (list, tuple)):"),
    (1, "labels = [labels]"),
    (0, "t = timer()"),
    (0, "for lbl in labels:"),
    (1, "if lbl not in self.td:"),
    (2, "self.td[lbl] = 0.0"),
    (2, "self.t0[lbl] = None"),
    (1, "if self.t0[lbl] is None:"),
    (2, "self.t0[lbl] = t")]),
  -- Timer.stop  →  Timer.targets, updList, stopEntry, Timer.stop
  ("Timer.stop", [
    (0, "t = timer()"),
    (0, "if labels is None:"),
    (1, "labels = self.default_label"),
    (0, "if labels == self.all_label:"),
    (1, "labels = list(self.t0.keys())"),
    (0, "elif not isinstance(labels, (list, tuple)):"),
    (1, "labels = [labels]"),
    (0, "for lbl in labels:"),
    (1, "if lbl not in self.t0:"),
    (2, "raise KeyError"),
    (1, "if self.t0[lbl] is not None:"),
    (2, "self.td[lbl] += t - self.t0[lbl]"),
    (2, "self.t0[lbl] = None")]),
  -- Timer.reset  →  Timer.targets, updList, resetEntry, Timer.reset
  ("Timer.reset", [
    (0, "if labels is None:"),
    (1, "labels = self.default_label"),
    (0, "if labels == self.all_label:"),
    (1, "labels = list(self.t0.keys())"),
    (0, "elif not isinstance(labels, (list, tuple)):"),
    (1, "labels = [labels]"),
    (0, "for lbl in labels:"),
    (1, "if lbl not in self.t0:"),
    (2, "raise KeyError"),
    (1, "self.t0[lbl] = None"),
    (1, "self.td[lbl] = 0.0")]),
  -- Timer.elapsed  →  Timer.elapsedDefault, elapsedEntry, Timer.elapsed
  ("Timer.elapsed", [
    (0, "t = timer()"),
    (0, "if label is None:"),
    (1, "label = self.default_label"),
    (1, "if label not in self.t0:"),
    (2, "return 0.0"),
    (0, "if label not in self.t0:"),
    (1, "raise KeyError"),
    (0, "te = 0.0"),
    (0, "if self.t0[label] is not None:"),
    (1, "te = t - self.t0[label]"),
    (0, "if total:"),
    (1, "te += self.td[label]"),
    (0, "return te")]),
  -- Timer.labels  →  Store.keys
  ("Timer.labels", [
    (0, "return list(self.t0.keys())")]),
  -- Timer.__str__  →  sortLabels, Timer.strRows
  ("Timer.__str__", [
    (0, "t = timer()"),
    (0, "fldlen = [len(lbl) for lbl in self.t0] + [len(self.default_label)]"),
    (0, "lfldln = max(fldlen) + 2"),
    (0, "s = f'{'Label':{lfldln}s}  Accum.       Current\\n'"),
    (0, "s += '-' * (lfldln + 25) + '\\n'"),
    (0, "for lbl in sorted(self.t0):"),
    (1, "td = self.td[lbl]"),
    (1, "if self.t0[lbl] is None:"),
    (2, "ts = ' Stopped'"),
    (1, "else:"),
    (2, "ts = f' {t - self.t0[lbl]:.2e} s'"),
    (1, "s += f'{lbl:{lfldln}s}  {td:.2e} s  {ts}\\n'"),
    (0, "return s")]),
  -- ContextTimer.__init__  →  (the harness passes timer / label / action; `Timer()` default as Timer.init .none)
  ("ContextTimer.__init__", [
    (0, "if action not in ['StartStop', 'StopStart']:"),
    (1, "raise ValueError"),
    (0, "if timer is None:"),
    (1, "self.timer = Timer()"),
    (0, "else:"),
    (1, "self.timer = timer"),
    (0, "self.label = label"),
    (0, "self.action = action")]),
  -- ContextTimer.__enter__  →  ctxEnter
  ("ContextTimer.__enter__", [
    (0, "if self.action == 'StartStop':"),
    (1, "self.timer.start(self.label)"),
    (0, "else:"),
    (1, "self.timer.stop(self.label)"),
    (0, "return self")]),
  -- ContextTimer.__exit__  →  ctxExit
  ("ContextTimer.__exit__", [
    (0, "if self.action == 'StartStop':"),
    (1, "self.timer.stop(self.label)"),
    (0, "else:"),
    (1, "self.timer.start(self.label)"),
    (0, "return not exc_type")]),
  -- ContextTimer.elapsed  →  Timer.elapsed (ctx label)
  ("ContextTimer.elapsed", [
    (0, "return self.timer.elapsed(self.label, total=total)")]),
  -- IterationStats.insert  →  statsInsert, dispInsert, cycleEnd
  ("IterationStats.insert", [
    (0, "self.iterations.append(self.IterTuple(*values))"),
    (0, "if self.display:"),
    (1, "if self.disphdr is not None:"),
    (2, "print(self.disphdr)"),
    (2, "self.disphdr = None"),
    (1, "if self.overwrite:"),
    (2, "if (len(self.iterations) - self.period_offset) % self.period == 0:"),
    (3, "end = '\\n'"),
    (2, "else:"),
    (3, "end = '\\r'"),
    (2, "print((' ' * self.colsep).join(self.fieldformat) % values, end=end)"),
    (1, "elif (len(self.iterations) - self.period_offset) % self.period == 0:"),
    (2, "print((' ' * self.colsep).join(self.fieldformat) % values)")]),
  -- IterationStats.end  →  dispEnd
  ("IterationStats.end", [
    (0, "if self.display and self.overwrite and (self.period > 1) and (len(self.iterations) - self.period_offset) % self.period:"),
    (1, "print()")]),
  -- IterationStats.history  →  rows / historyTranspose
  ("IterationStats.history", [
    (0, "if transpose and self.iterations:"),
    (1, "return self.IterTuple(*[[self.iterations[m][n] for m in range(len(self.iterations))] for n in range(len(self.iterations[0]))])"),
    (0, "return self.iterations")])
]

/-- parameters and their default values -/
def sourceSignatures : List (String × List (String × String)) := [
  ("Optimizer.solve", [("self", ""), ("callback", "None")]),
  ("Timer.__init__", [("self", ""), ("labels", "None"), ("default_label", "'main'"), ("all_label", "'all'")]),
  ("Timer.start", [("self", ""), ("labels", "None")]),
  ("Timer.stop", [("self", ""), ("labels", "None")]),
  ("Timer.reset", [("self", ""), ("labels", "None")]),
  ("Timer.elapsed", [("self", ""), ("label", "None"), ("total", "True")]),
  ("ContextTimer.__init__", [("self", ""), ("timer", "None"), ("label", "None"), ("action", "'StartStop'")])
]

end Scico.Driver
