/- GENERATED by harness/driver_translate.py from scico/optimize/_common.py, scico/util.py, scico/diagnostics.py
   — rewritten on every run, do not edit. -/
import Scico.Model.Driver

namespace Scico.Generated.DriverSource
open Scico.Driver

/-- normalised statement lists (nesting depth, text) of the methods the model transcribes -/
def skeletons : List (String × List (Nat × String)) := [
  ("ADMM._objective_evaluatable", [
    (0, "return (not self.f or self.f.has_eval) and all([_.has_eval for _ in self.g_list])")]),
  ("ADMM.minimizer", [
    (0, "return self.x")]),
  ("LinearizedADMM._objective_evaluatable", [
    (0, "return self.f.has_eval and self.g.has_eval")]),
  ("LinearizedADMM.minimizer", [
    (0, "return self.x")]),
  ("ProximalADMM._objective_evaluatable", [
    (0, "return self.f.has_eval and self.g.has_eval")]),
  ("ProximalADMM.minimizer", [
    (0, "return self.x")]),
  ("NonLinearPADMM._objective_evaluatable", [
    (0, "return self.f.has_eval and self.g.has_eval")]),
  ("NonLinearPADMM.minimizer", [
    (0, "return self.x")]),
  ("PDHG._objective_evaluatable", [
    (0, "return self.f.has_eval and self.g.has_eval")]),
  ("PDHG.minimizer", [
    (0, "return self.x")]),
  ("PGM._objective_evaluatable", [
    (0, "return self.f.has_eval and self.g.has_eval")]),
  ("PGM.minimizer", [
    (0, "return self.x")]),
  ("AcceleratedPGM._objective_evaluatable", [
    (0, "return self.f.has_eval and self.g.has_eval")]),
  ("AcceleratedPGM.minimizer", [
    (0, "return self.x")]),
  ("Optimizer.solve", [
    (0, "self.timer.start()"),
    (0, "maxiter = self.maxiter"),
    (0, "for self.itnum in range(self.itnum, self.itnum + maxiter):"),
    (1, "self.step()"),
    (1, "if self.nanstop and (not self._working_vars_finite()):"),
    (2, "raise ValueError"),
    (1, "self.itstat_object.insert(self.itstat_insert_func(self))"),
    (1, "if callback:"),
    (2, "self.timer.stop()"),
    (2, "callback(self)"),
    (2, "self.timer.start()"),
    (0, "self.timer.stop()"),
    (0, "if maxiter > 0:"),
    (1, "self.itnum += 1"),
    (0, "self.itstat_object.end()"),
    (0, "return self.minimizer()")]),
  ("Optimizer.__init__", [
    (0, "iter0 = kwargs.pop('iter0', 0)"),
    (0, "self.maxiter = kwargs.pop('maxiter', 100)"),
    (0, "self.nanstop = kwargs.pop('nanstop', False)"),
    (0, "itstat_options = kwargs.pop('itstat_options', None)"),
    (0, "if kwargs:"),
    (1, "raise TypeError"),
    (0, "self.itnum = iter0"),
    (0, "self.timer = Timer()"),
    (0, "itstat_fields, itstat_attrib = self._itstat_default_fields()"),
    (0, "itstat_extra_fields, itstat_extra_attrib = self._itstat_extra_fields()"),
    (0, "itstat_fields.update(itstat_extra_fields)"),
    (0, "itstat_attrib.extend(itstat_extra_attrib)"),
    (0, "self.itstat_insert_func, self.itstat_object = itstat_func_and_object(itstat_fields, itstat_attrib, itstat_options)")]),
  ("itstat_func_and_object", [
    (0, "itstat_return = 'return(' + ', '.join(['obj.' + attr for attr in itstat_attrib]) + ')'"),
    (0, "scope = {}"),
    (0, "exec('def itstat_func(obj): ' + itstat_return, scope)"),
    (0, "default_itstat_options = {'fields': itstat_fields, 'itstat_func': scope['itstat_func'], 'display': False}"),
    (0, "if itstat_options:"),
    (1, "default_itstat_options.update(itstat_options)"),
    (0, "itstat_insert_func = default_itstat_options.pop('itstat_func', None)"),
    (0, "itstat_object = IterationStats(**default_itstat_options)"),
    (0, "return (itstat_insert_func, itstat_object)")]),
  ("_all_finite", [
    (0, "return not snp.any(snp.logical_not(snp.isfinite(v)))")]),
  ("Timer.__init__", [
    (0, "self.t0 = {}"),
    (0, "self.td = {}"),
    (0, "self.default_label = default_label"),
    (0, "self.all_label = all_label"),
    (0, "if labels is not None:"),
    (1, "if not isinstance(labels, (list, tuple)):"),
    (2, "labels = [labels]"),
    (1, "for lbl in labels:"),
    (2, "self.td[lbl] = 0.0"),
    (2, "self.t0[lbl] = None")]),
  ("Timer.start", [
    (0, "if labels is None:"),
    (1, "labels = self.default_label"),
    (0, "if not isinstance(labels, (list, tuple)):"),
    (1, "labels = [labels]"),
    (0, "t = timer()"),
    (0, "for lbl in labels:"),
    (1, "if lbl not in self.td:"),
    (2, "self.td[lbl] = 0.0"),
    (2, "self.t0[lbl] = None"),
    (1, "if self.t0[lbl] is None:"),
    (2, "self.t0[lbl] = t")]),
  ("Timer.stop", [
    (0, "t = timer()"),
    (0, "if labels is None:"),
    (1, "labels = self.default_label"),
    (0, "if labels == self.all_label:"),
    (1, "labels = list(self.t0.keys())"),
    (0, "elif not isinstance(labels, (list, tuple)):"),
    (1, "labels = [labels]"),
    (0, "for lbl in labels:"),
    (1, "if lbl not in self.t0:"),
    (2, "raise KeyError"),
    (1, "if self.t0[lbl] is not None:"),
    (2, "self.td[lbl] += t - self.t0[lbl]"),
    (2, "self.t0[lbl] = None")]),
  ("Timer.reset", [
    (0, "if labels is None:"),
    (1, "labels = self.default_label"),
    (0, "if labels == self.all_label:"),
    (1, "labels = list(self.t0.keys())"),
    (0, "elif not isinstance(labels, (list, tuple)):"),
    (1, "labels = [labels]"),
    (0, "for lbl in labels:"),
    (1, "if lbl not in self.t0:"),
    (2, "raise KeyError"),
    (1, "self.t0[lbl] = None"),
    (1, "self.td[lbl] = 0.0")]),
  ("Timer.elapsed", [
    (0, "t = timer()"),
    (0, "if label is None:"),
    (1, "label = self.default_label"),
    (1, "if label not in self.t0:"),
    (2, "return 0.0"),
    (0, "if label not in self.t0:"),
    (1, "raise KeyError"),
    (0, "te = 0.0"),
    (0, "if self.t0[label] is not None:"),
    (1, "te = t - self.t0[label]"),
    (0, "if total:"),
    (1, "te += self.td[label]"),
    (0, "return te")]),
  ("Timer.labels", [
    (0, "return list(self.t0.keys())")]),
  ("Timer.__str__", [
    (0, "t = timer()"),
    (0, "fldlen = [len(lbl) for lbl in self.t0] + [len(self.default_label)]"),
    (0, "lfldln = max(fldlen) + 2"),
    (0, "s = f'{'Label':{lfldln}s}  Accum.       Current\\n'"),
    (0, "s += '-' * (lfldln + 25) + '\\n'"),
    (0, "for lbl in sorted(self.t0):"),
    (1, "td = self.td[lbl]"),
    (1, "if self.t0[lbl] is None:"),
    (2, "ts = ' Stopped'"),
    (1, "else:"),
    (2, "ts = f' {t - self.t0[lbl]:.2e} s'"),
    (1, "s += f'{lbl:{lfldln}s}  {td:.2e} s  {ts}\\n'"),
    (0, "return s")]),
  ("ContextTimer.__init__", [
    (0, "if action not in ['StartStop', 'StopStart']:"),
    (1, "raise ValueError"),
    (0, "if timer is None:"),
    (1, "self.timer = Timer()"),
    (0, "else:"),
    (1, "self.timer = timer"),
    (0, "self.label = label"),
    (0, "self.action = action")]),
  ("ContextTimer.__enter__", [
    (0, "if self.action == 'StartStop':"),
    (1, "self.timer.start(self.label)"),
    (0, "else:"),
    (1, "self.timer.stop(self.label)"),
    (0, "return self")]),
  ("ContextTimer.__exit__", [
    (0, "if self.action == 'StartStop':"),
    (1, "self.timer.stop(self.label)"),
    (0, "else:"),
    (1, "self.timer.start(self.label)"),
    (0, "return not exc_type")]),
  ("ContextTimer.elapsed", [
    (0, "return self.timer.elapsed(self.label, total=total)")]),
  ("IterationStats.insert", [
    (0, "self.iterations.append(self.IterTuple(*values))"),
    (0, "if self.display:"),
    (1, "if self.disphdr is not None:"),
    (2, "print(self.disphdr)"),
    (2, "self.disphdr = None"),
    (1, "if self.overwrite:"),
    (2, "if (len(self.iterations) - self.period_offset) % self.period == 0:"),
    (3, "end = '\\n'"),
    (2, "else:"),
    (3, "end = '\\r'"),
    (2, "print((' ' * self.colsep).join(self.fieldformat) % values, end=end)"),
    (1, "elif (len(self.iterations) - self.period_offset) % self.period == 0:"),
    (2, "print((' ' * self.colsep).join(self.fieldformat) % values)")]),
  ("IterationStats.end", [
    (0, "if self.display and self.overwrite and (self.period > 1) and (len(self.iterations) - self.period_offset) % self.period:"),
    (1, "print()")]),
  ("IterationStats.history", [
    (0, "if transpose and self.iterations:"),
    (1, "return self.IterTuple(*[[self.iterations[m][n] for m in range(len(self.iterations))] for n in range(len(self.iterations[0]))])"),
    (0, "return self.iterations")])
]

/-- parameters and default values of the signatures the model relies on -/
def signatures : List (String × List (String × String)) := [
  ("Optimizer.solve", [("self", ""), ("callback", "None")]),
  ("Timer.__init__", [("self", ""), ("labels", "None"), ("default_label", "'main'"), ("all_label", "'all'")]),
  ("Timer.start", [("self", ""), ("labels", "None")]),
  ("Timer.stop", [("self", ""), ("labels", "None")]),
  ("Timer.reset", [("self", ""), ("labels", "None")]),
  ("Timer.elapsed", [("self", ""), ("label", "None"), ("total", "True")]),
  ("ContextTimer.__init__", [("self", ""), ("timer", "None"), ("label", "None"), ("action", "'StartStop'")])
]

/-- `kwargs.pop(name, default)` of `Optimizer.__init__`, in source order -/
def optionDefaults : List (String × OptVal) :=
  [("iter0", OptVal.int (0)), ("maxiter", OptVal.int (100)), ("nanstop", OptVal.bool false), ("itstat_options", OptVal.none)]

theorem skeletons_ok : skeletons = sourceSkeletons := rfl
theorem signatures_ok : signatures = sourceSignatures := rfl
theorem optionDefaults_ok : optionDefaults = Scico.Driver.optionDefaults := rfl

end Scico.Generated.DriverSource
