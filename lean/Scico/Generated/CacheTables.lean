/-
  GENERATED by harness/cache_translate.py from the scico sources (do not edit).
-/
import Scico.Model.Cache

namespace Scico.Generated.CacheTables
open Scico.Cache

/-- (kind, file, owner, name) of every shared default / class-level / module-level mutable object of the package -/
def sharedState : List (String × String × String × String) := [
  ("DEFAULT", "scico/optimize/_admmaux.py", "GenericSubproblemSolver.__init__", "minimize_kwargs"),
  ("MODULE", "scico/linop/abel.py", "", "scope"),
  ("MODULE", "scico/numpy/_blockarray.py", "", "da_methods"),
  ("MODULE", "scico/numpy/_blockarray.py", "", "da_props"),
  ("MODULE", "scico/random.py", "", "wrappable_func_names")
]

def expectedShared : List (String × String × String × String) := [
  ("DEFAULT", "scico/optimize/_admmaux.py", "GenericSubproblemSolver.__init__", "minimize_kwargs"),
  ("MODULE", "scico/linop/abel.py", "", "scope"),
  ("MODULE", "scico/numpy/_blockarray.py", "", "da_methods"),
  ("MODULE", "scico/numpy/_blockarray.py", "", "da_props"),
  ("MODULE", "scico/random.py", "", "wrappable_func_names")
]

theorem shared_state_pinned : (sharedState == expectedShared) = true := beq_self_eq_true _

/-- (class, attribute, pattern, literal defaults) of every `*_kwargs` constructor parameter -/
def optionTables : List (String × String × String × List (String × String)) := [
  ("GenericSubproblemSolver", "minimize_kwargs", "byRef", [("options", "{'maxiter': 100}")]),
  ("LinearSubproblemSolver", "cg_kwargs", "copyUpdate", [("tol", "0.0001"), ("maxiter", "100")]),
  ("MatrixSubproblemSolver", "solve_kwargs", "copyUpdate", [("cho_factor", "False")]),
  ("SquaredL2Loss", "prox_kwargs", "copyUpdate", [("maxiter", "100"), ("tol", "1e-05")])
]

theorem option_tables_eq_model : (optionTables == codeOptionTables) = true := beq_self_eq_true _

/-- attribute chains (length ≥ 2) read inside cached traces -/
def traceChains : List (String × String × String) := [
  ("LineSearchStepSize", "g_prox", "pgm.g.prox"),
  ("PGM", "x_step", "f.grad"),
  ("PGM", "x_step", "g.prox")
]

def expectedChains : List (String × String × String) := [
  ("LineSearchStepSize", "g_prox", "pgm.g.prox"),
  ("PGM", "x_step", "f.grad"),
  ("PGM", "x_step", "g.prox")
]

theorem trace_chains_pinned : (traceChains == expectedChains) = true := beq_self_eq_true _

/-- which classes of scico/linop define the members the jit-slot model talks about, and which hand an `adj_fn` to the base class -/
def slotOverrides : List (String × String × List String × Bool) := [
  ("scico/functional/_tvnorm.py", "SingleAxisFiniteSum", ["_eval"], false),
  ("scico/linop/_circconv.py", "CircularConvolve", ["_eval", "_adj"], false),
  ("scico/linop/_convolve.py", "Convolve", ["_eval"], false),
  ("scico/linop/_convolve.py", "ConvolveByX", ["_eval"], false),
  ("scico/linop/_dft.py", "DFT", ["_eval"], false),
  ("scico/linop/_diag.py", "Diagonal", ["_eval", "gram_op", "T", "H"], false),
  ("scico/linop/_diag.py", "Identity", ["_eval", "gram_op"], false),
  ("scico/linop/_diag.py", "ScaledIdentity", ["gram_op"], false),
  ("scico/linop/_diff.py", "SingleAxisFiniteDifference", ["_eval"], false),
  ("scico/linop/_func.py", "Slice", ["_eval"], false),
  ("scico/linop/_grad.py", "ProjectedGradient", ["_eval"], false),
  ("scico/linop/_linop.py", "ComposedLinearOperator", [], true),
  ("scico/linop/_linop.py", "LinearOperator", ["adj", "gram", "gram_op", "T", "H", "jit", "_set_adjoint", "_set_gram"], false),
  ("scico/linop/_matrix.py", "MatrixOperator", ["_eval", "adj", "gram", "gram_op", "T", "H"], false),
  ("scico/linop/_stack.py", "DiagonalStack", ["_adj"], false),
  ("scico/linop/_stack.py", "VerticalStack", ["_adj"], false),
  ("scico/linop/abel.py", "AbelTransform", ["_eval", "_adj"], true),
  ("scico/linop/optics.py", "FraunhoferPropagator", ["_eval"], false),
  ("scico/linop/optics.py", "Propagator", ["_eval"], true),
  ("scico/linop/xray/_xray.py", "XRayTransform2D", [], true),
  ("scico/linop/xray/_xray.py", "XRayTransform3D", [], true),
  ("scico/linop/xray/astra.py", "XRayTransform2D", [], true),
  ("scico/linop/xray/astra.py", "XRayTransform3D", [], true),
  ("scico/linop/xray/svmbir.py", "XRayTransform", [], true)
]

theorem slot_overrides_eq_model : (slotOverrides == codeSlotOverrides) = true := beq_self_eq_true _

/-- only the base class and these classes define `adj` / `gram` / `jit` themselves (outside `C19_jit_slots`) -/
theorem slot_model_coverage :
    ((slotOverrides.filter (fun r => r.2.2.1.any (fun m => m == "adj" || m == "gram" || m == "jit"))).map (fun r => r.2.1)
      == ["LinearOperator", "MatrixOperator"]) = true := by decide +kernel

/-- normalised source of the functions the model follows line by line -/
def sources : List (String × List String) := [
  ("TVNorm.__call__", ["if self.G is None or self.G.shape[1] != x.shape or self.G.input_dtype != x.dtype or (getattr(self, '_G_key', None) != (self.circular, self.axes)):", "    with jax.ensure_compile_time_eval():", "        self.G = self._call_operator(x.shape, x.dtype)", "return self.norm(self.G @ x)"]),
  ("TVNorm.prox", ["if self.WP is None or self.WP.shape[1] != v.shape or self.WP.input_dtype != v.dtype or (getattr(self, '_WP_key', None) != (self.circular, self.axes)):", "    with jax.ensure_compile_time_eval():", "        self.WP, self.CWT, self.prox_ndims, self.prox_slice = self._prox_operators(v.shape, v.dtype)", "assert self.prox_ndims is not None", "assert self.prox_slice is not None", "K = 2 * self.prox_ndims", "u = TVNorm._prox_core(self.WP, self.CWT, self.norm, K, TVNorm._slice_tuple_to_tuple(self.prox_slice), v, lam)", "return u"]),
  ("TVNorm._call_operator", ["self._G_key = (self.circular, self.axes)", "G = FiniteDifference(input_shape, input_dtype=input_dtype, axes=self.axes, circular=self.circular, append=None if self.circular else 0, jit=True)", "return G"]),
  ("TVNorm._prox_operators", ["self._WP_key = (self.circular, self.axes)", "axes = normalize_axes(self.axes, input_shape)", "ndims = len(axes)", "w_input_shape = input_shape if self.circular else tuple([s + 1 if i in axes else s for i, s in enumerate(input_shape)])", "W = HaarTransform(w_input_shape, input_dtype=input_dtype, axes=axes, jit=True)", "if self.circular:", "    slce = snp.s_[:, 1]", "    WP, CWT = (W, W.T)", "else:", "    slce = (snp.s_[:], snp.s_[1]) + tuple([snp.s_[:-1] if i in axes else snp.s_[:] for i, s in enumerate(input_shape)])", "    pad_width = [(0, 1) if i in axes else (0, 0) for i, s in enumerate(input_shape)]", "    P = Pad(input_shape, input_dtype=input_dtype, pad_width=pad_width, mode='edge', jit=True)", "    WP = W @ P", "    C = Crop(crop_width=pad_width, input_shape=w_input_shape, input_dtype=input_dtype, jit=True)", "    CWT = C @ W.T", "return (WP, CWT, ndims, slce)"]),
  ("Loss.__mul__", ["new_loss = copy(self)", "new_loss._grad = scico.grad(new_loss.__call__)", "new_loss.set_scale(self.scale * other)", "return new_loss"]),
  ("Loss.__truediv__", ["new_loss = copy(self)", "new_loss._grad = scico.grad(new_loss.__call__)", "new_loss.set_scale(self.scale / other)", "return new_loss"]),
  ("Loss.set_scale", ["self.scale = new_scale"]),
  ("Functional.__init__", ["self._grad = scico.grad(self.__call__)"]),
  ("Functional.grad", ["return self._grad(x)"]),
  ("SubproblemSolver.internal_init", ["self.admm = admm"]),
  ("PGMStepSize.internal_init", ["self.pgm = pgm"]),
  ("_add_seed.fun_alt", ["if len(args) >= num_params:", "    key = args[num_params - 1]", "if len(args) > num_params:", "    seed = args[num_params]", "if key is not None and seed is not None:", "    raise ValueError('Key and seed cannot both be specified.')", "if key is None:", "    if seed is None:", "        seed = 0", "    key = jax.random.PRNGKey(seed)", "result = fun(key, *args[:num_params - 1], **kwargs)", "key, subkey = jax.random.split(key, 2)", "return (result, key)"]),
  ("LinearOperator.jit", ["if self._adj is None:", "    self._set_adjoint()", "if self._gram is None:", "    self._set_gram()", "self._eval = jax.jit(self._eval)", "self._adj = jax.jit(self._adj)", "self._gram = jax.jit(self._gram)"]),
  ("LinearOperator._set_adjoint", ["with jax.ensure_compile_time_eval():", "    adj_fun = linear_adjoint(self.__call__, snp.zeros(self.input_shape, dtype=self.input_dtype))", "self._adj = lambda x: adj_fun(x)[0]"]),
  ("LinearOperator._set_gram", ["self._gram = lambda x: self.adj(self(x))"]),
  ("Operator.jit", ["self._eval = jax.jit(self._eval)"]),
  ("MatrixOperator._eval", ["return self.A @ other"]),
  ("MatrixOperator.adj", ["if not isinstance(y, Operator) and y.shape != self.output_shape:", "    raise ValueError(f'Shapes do not conform: input array with shape {y.shape} does not match MatrixOperator output_shape {self.output_shape}.')", "return self.A.conj().T @ y"]),
  ("MatrixOperator.gram", ["return self.A.conj().T @ self.A @ other"]),
  ("MatrixOperator.gram_op", ["return MatrixOperator(A=self.A.conj().T @ self.A, input_cols=self.input_cols)"])
]

theorem sources_eq_model : (sources == codeSources) = true := beq_self_eq_true _

end Scico.Generated.CacheTables
