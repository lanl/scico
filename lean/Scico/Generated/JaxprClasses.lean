/- GENERATED by harness/jaxpr_translate.py from the working tree of the code under test - do not edit.
   Classes that scico presents as linear operators (ast scan of the package: subclasses of LinearOperator, transitively,
   and classes made by linop_from_function) against the classes enumerated by the C06 tie. -/
import Scico.Proofs.Tables
namespace Scico.Generated.JaxprClasses

/-- every class of the source deriving from LinearOperator (`Name@backend` for the optional back-end modules) -/
def sourceClasses : List String := ["AbelTransform", "AngularSpectrumPropagator", "CircularConvolve", "ComposedLinearOperator", "Convolve", "ConvolveByX", "Crop", "CylindricalGradient", "DFT", "Diagonal", "DiagonalReplicated", "DiagonalStack", "FiniteDifference", "FiniteSum", "FraunhoferPropagator", "FresnelPropagator", "HaarTransform", "Identity", "LinearOperator", "MatrixOperator", "Pad", "PaddedCircularConvolve", "PolarGradient", "ProjectedGradient", "Propagator", "Reshape", "ScaledIdentity", "SingleAxisFiniteDifference", "SingleAxisFiniteSum", "SingleAxisHaarTransform", "Slice", "SphericalGradient", "Sum", "Transpose", "VerticalStack", "XRayTransform2D", "XRayTransform2D@astra", "XRayTransform3D", "XRayTransform3D@astra", "XRayTransform@svmbir"]

/-- source classes constructed by the enumeration (harness/opgrid.py, harness/jaxpr_ops.py) -/
def covered : List String := ["AbelTransform", "AngularSpectrumPropagator", "CircularConvolve", "ComposedLinearOperator", "Convolve", "ConvolveByX", "Crop", "CylindricalGradient", "DFT", "Diagonal", "DiagonalReplicated", "DiagonalStack", "FiniteDifference", "FiniteSum", "FraunhoferPropagator", "FresnelPropagator", "HaarTransform", "Identity", "MatrixOperator", "Pad", "PaddedCircularConvolve", "PolarGradient", "ProjectedGradient", "Reshape", "ScaledIdentity", "SingleAxisFiniteDifference", "SingleAxisFiniteSum", "SingleAxisHaarTransform", "Slice", "SphericalGradient", "Sum", "Transpose", "VerticalStack", "XRayTransform2D", "XRayTransform3D"]

/-- source classes the enumeration claims to construct -/
def claimed : List String := ["AbelTransform", "AngularSpectrumPropagator", "CircularConvolve", "ComposedLinearOperator", "Convolve", "ConvolveByX", "Crop", "CylindricalGradient", "DFT", "Diagonal", "DiagonalReplicated", "DiagonalStack", "FiniteDifference", "FiniteSum", "FraunhoferPropagator", "FresnelPropagator", "HaarTransform", "Identity", "MatrixOperator", "Pad", "PaddedCircularConvolve", "PolarGradient", "ProjectedGradient", "Reshape", "ScaledIdentity", "SingleAxisFiniteDifference", "SingleAxisFiniteSum", "SingleAxisHaarTransform", "Slice", "SphericalGradient", "Sum", "Transpose", "VerticalStack", "XRayTransform2D", "XRayTransform3D"]

/-- deliberately outside, with reasons:
      LinearOperator: the base class itself: exercised through GenericLinearOperator (eval_fn / adj_fn) and every subclass
      Propagator: abstract base of the three optics propagators (each of which is enumerated)
      XRayTransform2D@astra: astra back-end (library not installed)
      XRayTransform3D@astra: astra back-end (library not installed)
      XRayTransform@svmbir: svmbir back-end (library not installed)
-/
def excluded : List String := ["LinearOperator", "Propagator", "XRayTransform2D@astra", "XRayTransform3D@astra", "XRayTransform@svmbir"]

/-- LinearOperator classes that define an arithmetic dunder of their own (`__call__`, `__matmul__`, `__add__`, ...): CircularConvolve: __add__ __mul__ __sub__ __truediv__; Convolve: __add__ __mul__ __sub__ __truediv__; ConvolveByX: __add__ __mul__ __sub__ __truediv__; Diagonal: __add__ __matmul__ __mul__ __sub__ __truediv__; Identity: __matmul__ __rmatmul__; LinearOperator: __add__ __call__ __matmul__ __mul__ __rmatmul__ __rmul__ __sub__ __truediv__; MatrixOperator: __add__ __call__ __mul__ __neg__ __radd__ __rmul__ __rsub__ __sub__ __truediv__; ScaledIdentity: __add__ __matmul__ __mul__ __sub__ __truediv__ -/
def arithmeticOverriders : List String := ["CircularConvolve", "Convolve", "ConvolveByX", "Diagonal", "Identity", "LinearOperator", "MatrixOperator", "ScaledIdentity"]

/-- classes instantiated as the LinearOperator side of the operator arithmetic with a NON-linear Operator (class CalculusMixed) -/
def calculusLeft : List String := ["CircularConvolve", "Convolve", "ConvolveByX", "Diagonal", "Identity", "LinearOperator", "MatrixOperator", "ScaledIdentity", "SingleAxisFiniteDifference"]

-- every class with arithmetic of its own is combined with non-linear operators by the tie (the result must not be presented as linear)
example : arithmeticOverriders.all (fun c => calculusLeft.contains c) = true := Scico.Tables.all_contains_of_pick [0, 1, 2, 3, 4, 5, 6, 7] rfl
-- every class presented as a linear operator is enumerated or pinned
example : sourceClasses.all (fun c => covered.contains c || excluded.contains c) = true := Scico.Tables.all_contains_or_of_pick [0, 1, 2, 3, 4, 5, 6, 7, 8, 9, 10, 11, 12, 13, 14, 15, 16, 17, 35, 18, 19, 20, 21, 22, 36, 23, 24, 25, 26, 27, 28, 29, 30, 31, 32, 33, 37, 34, 38, 39] rfl
-- no stale pin, no stale claim
example : excluded.all (fun c => sourceClasses.contains c) = true := Scico.Tables.all_contains_of_pick [18, 24, 36, 38, 39] rfl
example : claimed.all (fun c => sourceClasses.contains c) = true := Scico.Tables.all_contains_of_pick [0, 1, 2, 3, 4, 5, 6, 7, 8, 9, 10, 11, 12, 13, 14, 15, 16, 17, 19, 20, 21, 22, 23, 25, 26, 27, 28, 29, 30, 31, 32, 33, 34, 35, 37] rfl

end Scico.Generated.JaxprClasses
/- where: AbelTransform = scico/linop/abel.py; AngularSpectrumPropagator = scico/linop/optics.py; CircularConvolve = scico/linop/_circconv.py; ComposedLinearOperator = scico/linop/_linop.py; Convolve = scico/linop/_convolve.py; ConvolveByX = scico/linop/_convolve.py; Crop = scico/linop/_func.py; CylindricalGradient = scico/linop/_grad.py; DFT = scico/linop/_dft.py; Diagonal = scico/linop/_diag.py; DiagonalReplicated = scico/linop/_stack.py; DiagonalStack = scico/linop/_stack.py; FiniteDifference = scico/linop/_diff.py; FiniteSum = scico/functional/_tvnorm.py; FraunhoferPropagator = scico/linop/optics.py; FresnelPropagator = scico/linop/optics.py; HaarTransform = scico/functional/_tvnorm.py; Identity = scico/linop/_diag.py; LinearOperator = scico/linop/_linop.py; MatrixOperator = scico/linop/_matrix.py; Pad = scico/linop/_func.py; PaddedCircularConvolve = scico/flax/examples/data_preprocessing.py; PolarGradient = scico/linop/_grad.py; ProjectedGradient = scico/linop/_grad.py; Propagator = scico/linop/optics.py; Reshape = scico/linop/_func.py; ScaledIdentity = scico/linop/_diag.py; SingleAxisFiniteDifference = scico/linop/_diff.py; SingleAxisFiniteSum = scico/functional/_tvnorm.py; SingleAxisHaarTransform = scico/functional/_tvnorm.py; Slice = scico/linop/_func.py; SphericalGradient = scico/linop/_grad.py; Sum = scico/linop/_func.py; Transpose = scico/linop/_func.py; VerticalStack = scico/linop/_stack.py; XRayTransform2D = scico/linop/xray/_xray.py; XRayTransform2D@astra = scico/linop/xray/astra.py; XRayTransform3D = scico/linop/xray/_xray.py; XRayTransform3D@astra = scico/linop/xray/astra.py; XRayTransform@svmbir = scico/linop/xray/svmbir.py -/
