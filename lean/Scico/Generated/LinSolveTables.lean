/- GENERATED by harness/linsolve_translate.py from scico/solver.py, scico/flax/inverse.py, scico/optimize/_admmaux.py —
   rewritten on every run, do not edit. -/
import Scico.Model.LinSolve

namespace Scico.Generated.LinSolveTables
open Scico.LinSolve

def src : SolverTables :=
  { defaults := [
      ("cg", [("x0", "None"), ("tol", "1e-05"), ("atol", "0.0"), ("maxiter", "1000"), ("info", "True"), ("M", "None")]),
      ("lstsq", [("x0", "None"), ("tol", "1e-05"), ("atol", "0.0"), ("maxiter", "1000"), ("info", "False"), ("M", "None")]),
      ("bisect", [("args", "()"), ("xtol", "1e-07"), ("ftol", "1e-07"), ("maxiter", "100"), ("full_output", "False"), ("range_check", "True")]),
      ("golden", [("c", "None"), ("args", "()"), ("xtol", "1e-07"), ("maxiter", "100"), ("full_output", "False")]),
      ("cg_solver", [("x0", "None"), ("maxiter", "50")]),
      ("MatrixATADSolver.__init__", [("W", "None"), ("cho_factor", "False"), ("lower", "False"), ("check_finite", "True")]),
      ("GenericSubproblemSolver.__init__", [("minimize_kwargs", "{'options': {'maxiter': 100}}")]),
      ("LinearSubproblemSolver.__init__", [("cg_kwargs", "None"), ("cg_function", "'scico'")]),
      ("MatrixSubproblemSolver.__init__", [("check_solve", "False"), ("solve_kwargs", "None")]),
      ("CircularConvolveSolver.__init__", [("ndims", "None")]),
      ("FBlockCircularConvolveSolver.__init__", [("ndims", "None"), ("check_solve", "False")]),
      ("G0BlockCircularConvolveSolver.__init__", [("ndims", "None"), ("check_solve", "False")])
    ],
    kwDicts := [
      ("LinearSubproblemSolver", "default_cg_kwargs", [("tol", "0.0001"), ("maxiter", "100")]),
      ("MatrixSubproblemSolver", "default_solve_kwargs", [("cho_factor", "False")])
    ],
    checks := [
      ("LinearSubproblemSolver", [
          { guard := "admm.f is not None", subject := "admm.f", classes := ["SquaredL2Loss"], test := "", err := "TypeError" },
          { guard := "admm.f is not None", subject := "admm.f.A", classes := ["LinearOperator"], test := "", err := "TypeError" }]),
      ("MatrixSubproblemSolver", [
          { guard := "admm.f is not None", subject := "admm.f", classes := ["SquaredL2Loss"], test := "", err := "TypeError" },
          { guard := "admm.f is not None", subject := "admm.f.A", classes := ["Diagonal", "MatrixOperator"], test := "", err := "TypeError" },
          { guard := "for (i, Ci) in enumerate(admm.C_list)", subject := "Ci", classes := ["Diagonal", "MatrixOperator"], test := "", err := "TypeError" }]),
      ("CircularConvolveSolver", [
          { guard := "not (admm.f is None)", subject := "admm.f", classes := ["SquaredL2Loss"], test := "", err := "TypeError" },
          { guard := "not (admm.f is None)", subject := "admm.f.A", classes := ["CircularConvolve", "Identity"], test := "", err := "TypeError" },
          { guard := "not (admm.f is None)", subject := "admm.f.W", classes := ["Identity"], test := "", err := "ValueError" }]),
      ("FBlockCircularConvolveSolver", [
          { guard := "", subject := "", classes := [], test := "admm.f is None", err := "ValueError" },
          { guard := "not (admm.f is None)", subject := "admm.f", classes := ["SquaredL2Loss"], test := "", err := "TypeError" },
          { guard := "not (admm.f is None)", subject := "admm.f.A", classes := ["ComposedLinearOperator"], test := "", err := "TypeError" },
          { guard := "not (admm.f is None)", subject := "admm.f.W", classes := ["Identity"], test := "", err := "ValueError" }]),
      ("G0BlockCircularConvolveSolver", [
          { guard := "", subject := "", classes := [], test := "admm.f is not None and (not isinstance(admm.f, ZeroFunctional))", err := "ValueError" },
          { guard := "", subject := "admm.g_list[0]", classes := ["SquaredL2Loss"], test := "", err := "TypeError" },
          { guard := "", subject := "admm.C_list[0]", classes := ["ComposedLinearOperator"], test := "", err := "TypeError" }])
    ],
    woodburyBind := ("N, M", "A.shape"),
    woodbury := [{ kind := "cmp", lhs := "N", op := "<", rhs := "M" }, { kind := "cmp", lhs := "D.ndim", op := "==", rhs := "1" }, { kind := "all", lhs := "W", op := "!=", rhs := "0" }] }

/-- the data read from the source are the data of the model (`Scico.LinSolve.solverTables`), from which the default arguments
    used by the adapters, the acceptance rules of the `internal_init`s (`initResult`) and the Woodbury branch rule
    (`woodburyEval`, theorem `C14_woodbury_rule_of_source`) are derived -/
theorem tables_ok : src = solverTables := rfl

end Scico.Generated.LinSolveTables
