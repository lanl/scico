/- GENERATED by harness/prox_translate.py from scico/functional/*.py, scico/loss.py, scico/solver.py, scico/linop/_diag.py (ast)
   — rewritten on every run, do not edit. -/
import Scico.Proofs.ProxTables

namespace Scico.Generated.ProxTables
open Scico.ProxTables

/-- (file, class, bases, class-level has_eval, class-level has_prox) -/
def flags : List (String × String × String × String × String) := [
  ("_norm.py", "L0Norm", "Functional", "True", "True"),
  ("_norm.py", "L1Norm", "Functional", "True", "True"),
  ("_norm.py", "SquaredL2Norm", "Functional", "True", "True"),
  ("_norm.py", "L2Norm", "Functional", "True", "True"),
  ("_norm.py", "L21Norm", "Functional", "True", "True"),
  ("_norm.py", "L1MinusL2Norm", "Functional", "True", "True"),
  ("_norm.py", "HuberNorm", "Functional", "True", "True"),
  ("_norm.py", "NuclearNorm", "Functional", "True", "True"),
  ("_indicator.py", "NonNegativeIndicator", "Functional", "True", "True"),
  ("_indicator.py", "L2BallIndicator", "Functional", "True", "True"),
  ("_dist.py", "SetDistance", "Functional", "True", "True"),
  ("_dist.py", "SquaredSetDistance", "Functional", "True", "True"),
  ("_functional.py", "Functional", "", "None", "None"),
  ("_functional.py", "ScaledFunctional", "Functional", "unset", "unset"),
  ("_functional.py", "SeparableFunctional", "Functional", "unset", "unset"),
  ("_functional.py", "FunctionalSum", "Functional", "unset", "unset"),
  ("_functional.py", "ZeroFunctional", "Functional", "True", "True"),
  ("_tvnorm.py", "TVNorm", "Functional", "True", "True"),
  ("_tvnorm.py", "AnisotropicTVNorm", "TVNorm", "unset", "unset"),
  ("_tvnorm.py", "IsotropicTVNorm", "TVNorm", "unset", "unset"),
  ("_tvnorm.py", "SingleAxisFiniteSum", "LinearOperator", "unset", "unset"),
  ("_tvnorm.py", "FiniteSum", "VerticalStack", "unset", "unset"),
  ("_tvnorm.py", "SingleAxisHaarTransform", "VerticalStack", "unset", "unset"),
  ("_tvnorm.py", "HaarTransform", "VerticalStack", "unset", "unset"),
  ("_proxavg.py", "ProximalAverage", "Functional", "unset", "unset"),
  ("_denoiser.py", "BM3D", "Functional", "False", "True"),
  ("_denoiser.py", "BM4D", "Functional", "False", "True"),
  ("_denoiser.py", "DnCNN", "Functional", "False", "True"),
  ("loss.py", "Loss", "functional.Functional", "unset", "unset"),
  ("loss.py", "SquaredL2Loss", "Loss", "unset", "unset"),
  ("loss.py", "PoissonLoss", "Loss", "unset", "unset"),
  ("loss.py", "SquaredL2AbsLoss", "Loss", "unset", "unset"),
  ("loss.py", "SquaredL2SquaredAbsLoss", "Loss", "unset", "unset")]

/-- (callable, parameter, default as written) -/
def defaults : List (String × String × String) := [
  ("L0Norm.prox", "lam", "1.0"),
  ("L1Norm.prox", "lam", "1.0"),
  ("SquaredL2Norm.prox", "lam", "1.0"),
  ("L2Norm.prox", "lam", "1.0"),
  ("L21Norm.__init__", "l2_axis", "0"),
  ("L21Norm.prox", "lam", "1.0"),
  ("L1MinusL2Norm.__init__", "beta", "1.0"),
  ("L1MinusL2Norm.prox", "lam", "1.0"),
  ("HuberNorm.__init__", "delta", "1.0"),
  ("HuberNorm.__init__", "separable", "True"),
  ("HuberNorm.prox", "lam", "1.0"),
  ("NuclearNorm.prox", "lam", "1.0"),
  ("NonNegativeIndicator.prox", "lam", "1.0"),
  ("L2BallIndicator.__init__", "radius", "1"),
  ("L2BallIndicator.prox", "lam", "1.0"),
  ("SetDistance.__init__", "args", "()"),
  ("SetDistance.prox", "lam", "1.0"),
  ("SquaredSetDistance.__init__", "args", "()"),
  ("SquaredSetDistance.prox", "lam", "1.0"),
  ("Functional.prox", "lam", "1.0"),
  ("ScaledFunctional.prox", "lam", "1.0"),
  ("SeparableFunctional.prox", "lam", "1.0"),
  ("ZeroFunctional.prox", "lam", "1.0"),
  ("TVNorm.__init__", "circular", "True"),
  ("TVNorm.__init__", "axes", "None"),
  ("TVNorm.__init__", "input_shape", "None"),
  ("TVNorm.__init__", "input_dtype", "snp.float32"),
  ("TVNorm.prox", "lam", "1.0"),
  ("AnisotropicTVNorm.__init__", "circular", "False"),
  ("AnisotropicTVNorm.__init__", "axes", "None"),
  ("AnisotropicTVNorm.__init__", "input_shape", "None"),
  ("AnisotropicTVNorm.__init__", "input_dtype", "snp.float32"),
  ("IsotropicTVNorm.__init__", "circular", "False"),
  ("IsotropicTVNorm.__init__", "axes", "None"),
  ("IsotropicTVNorm.__init__", "input_shape", "None"),
  ("IsotropicTVNorm.__init__", "input_dtype", "snp.float32"),
  ("SingleAxisFiniteSum.__init__", "input_dtype", "snp.float32"),
  ("SingleAxisFiniteSum.__init__", "axis", "-1"),
  ("SingleAxisFiniteSum.__init__", "jit", "True"),
  ("FiniteSum.__init__", "input_dtype", "snp.float32"),
  ("FiniteSum.__init__", "axes", "None"),
  ("FiniteSum.__init__", "jit", "True"),
  ("SingleAxisHaarTransform.__init__", "input_dtype", "snp.float32"),
  ("SingleAxisHaarTransform.__init__", "axis", "-1"),
  ("SingleAxisHaarTransform.__init__", "jit", "True"),
  ("HaarTransform.__init__", "input_dtype", "snp.float32"),
  ("HaarTransform.__init__", "axes", "None"),
  ("HaarTransform.__init__", "jit", "True"),
  ("ProximalAverage.__init__", "alpha_list", "None"),
  ("ProximalAverage.__init__", "no_inf_eval", "True"),
  ("ProximalAverage.prox", "lam", "1.0"),
  ("BM3D.__init__", "is_rgb", "False"),
  ("BM3D.__init__", "profile", "'np'"),
  ("BM3D.prox", "lam", "1.0"),
  ("BM4D.__init__", "profile", "'np'"),
  ("BM4D.prox", "lam", "1.0"),
  ("DnCNN.__init__", "variant", "'6M'"),
  ("DnCNN.prox", "lam", "1.0"),
  ("Loss.__init__", "A", "None"),
  ("Loss.__init__", "f", "None"),
  ("Loss.__init__", "scale", "1.0"),
  ("Loss.prox", "lam", "1"),
  ("SquaredL2Loss.__init__", "A", "None"),
  ("SquaredL2Loss.__init__", "scale", "0.5"),
  ("SquaredL2Loss.__init__", "W", "None"),
  ("SquaredL2Loss.__init__", "prox_kwargs", "None"),
  ("SquaredL2Loss.prox", "lam", "1.0"),
  ("PoissonLoss.__init__", "A", "None"),
  ("PoissonLoss.__init__", "scale", "0.5"),
  ("SquaredL2AbsLoss.__init__", "A", "None"),
  ("SquaredL2AbsLoss.__init__", "scale", "0.5"),
  ("SquaredL2AbsLoss.__init__", "W", "None"),
  ("SquaredL2AbsLoss.prox", "lam", "1.0"),
  ("SquaredL2SquaredAbsLoss.__init__", "A", "None"),
  ("SquaredL2SquaredAbsLoss.__init__", "scale", "0.5"),
  ("SquaredL2SquaredAbsLoss.__init__", "W", "None"),
  ("SquaredL2SquaredAbsLoss.prox", "lam", "1.0"),
  ("_check_root", "tol", "0.0001"),
  ("_dep_cubic_root", "band LtE", "1e-07"),
  ("SquaredL2Loss.default_prox_kwargs", "maxiter", "100"),
  ("SquaredL2Loss.default_prox_kwargs", "tol", "1e-05"),
  ("solver.cg", "x0", "None"),
  ("solver.cg", "tol", "1e-05"),
  ("solver.cg", "atol", "0.0"),
  ("solver.cg", "maxiter", "1000"),
  ("solver.cg", "info", "True"),
  ("solver.cg", "M", "None")]

/-- (class of loss.py, method, `if` tests / raises / flag assignments in source order) -/
def dispatch : List (String × String × List String) := [
  ("Loss", "__init__", ["if A is None", "if self.f is not None", "self.has_eval = bool(self.f.has_eval)", "else", "self.has_eval = type(self).__call__ is not Loss.__call__", "if self.f is not None and self.f.has_prox and isinstance(self.A, linop.Identity)", "self.has_prox = True", "else", "self.has_prox = False"]),
  ("Loss", "prox", ["if not self.has_prox", "raise NotImplementedError", "assert self.f is not None"]),
  ("Loss", "__call__", ["if self.f is None", "raise NotImplementedError"]),
  ("SquaredL2Loss", "__init__", ["if W is None", "if isinstance(W, linop.Diagonal)", "if snp.all(W.diagonal >= 0)", "else", "raise ValueError", "else", "raise TypeError", "if prox_kwargs", "if isinstance(self.A, linop.LinearOperator)", "self.has_prox = True"]),
  ("SquaredL2Loss", "prox", ["if not isinstance(self.A, linop.LinearOperator)", "raise NotImplementedError", "if isinstance(self.A, linop.Diagonal)", "if 'x0' in kwargs and kwargs['x0'] is not None", "else"]),
  ("SquaredL2Loss", "__call__", []),
  ("PoissonLoss", "__init__", []),
  ("PoissonLoss", "__call__", []),
  ("SquaredL2AbsLoss", "__init__", ["if W is None", "if isinstance(W, linop.Diagonal)", "if snp.all(W.diagonal >= 0)", "else", "raise ValueError", "else", "raise TypeError", "if isinstance(self.A, linop.Identity) and snp.all(y >= 0)", "self.has_prox = True"]),
  ("SquaredL2AbsLoss", "prox", ["if not self.has_prox", "raise NotImplementedError"]),
  ("SquaredL2AbsLoss", "__call__", []),
  ("SquaredL2SquaredAbsLoss", "__init__", ["if W is None", "if isinstance(W, linop.Diagonal)", "if snp.all(W.diagonal >= 0)", "else", "raise ValueError", "else", "raise TypeError", "if isinstance(self.A, linop.Identity) and snp.all(y >= 0)", "self.has_prox = True"]),
  ("SquaredL2SquaredAbsLoss", "prox", ["if not self.has_prox", "raise NotImplementedError"]),
  ("SquaredL2SquaredAbsLoss", "__call__", [])]

/-- (class of linop/_diag.py, bases) -/
def bases : List (String × String) := [
  ("Diagonal", "LinearOperator"),
  ("ScaledIdentity", "Diagonal"),
  ("Identity", "ScaledIdentity")]

/-- (helper, statements of its body) -/
def helpers : List (String × String) := [
  ("no_nan_divide", "return snp.where(y != 0, snp.divide(x, snp.where(y != 0, y, 1)), 0)")]

/-- `no_nan_divide` is the transcribed one: `where(y != 0, x / where(y != 0, y, 1), 0)` — an EXACT-zero test (model `noNanDiv`) -/
theorem helpers_ok : checkHelpers helpers = true := beq_self_eq_true _

/-- the classes and their advertised flags are the ones the model knows: every class that advertises a prox is either modelled
    (C02 theorem) or on the list of documented approximations / wrappers of other engines -/
theorem flags_ok : checkFlags flags = true := by decide +kernel

/-- every default argument the model / the tie relies on has the value recorded in `expectedDefaults` -/
theorem defaults_ok : checkDefaults defaults = true := by decide +kernel

/-- constructor guards and the `isinstance` dispatch of the losses are the modelled ones (`Guard`, `sqL2LossGuard`, `absLossGuard`) -/
theorem dispatch_ok : checkDispatch dispatch = true := beq_self_eq_true _

/-- `Identity < ScaledIdentity < Diagonal < LinearOperator`: an `Identity` takes the `Diagonal` branch of `SquaredL2Loss.prox` -/
theorem bases_ok : checkBases bases = true := beq_self_eq_true _

end Scico.Generated.ProxTables
