/- GENERATED by harness/driver_translate.py from scico/optimize/_common.py, _admm.py, _ladmm.py, _padmm.py,
   _primaldual.py, _pgm.py — rewritten on every run, do not edit. -/
import Scico.Model.Driver

namespace Scico.Generated.DriverFields
open Scico.Driver

def src : FieldTables :=
  { default := [⟨"Iter", "%d", "itnum"⟩, ⟨"Time", "%8.2e", "timer.elapsed()"⟩],
    objectiveCond := "self._objective_evaluatable()",
    objective := [⟨"Objective", "%9.3e", "objective()"⟩],
    itstatReturn := "'return(' + ', '.join(['obj.' + attr for attr in itstat_attrib]) + ')'",
    itstatExec := "'def itstat_func(obj): ' + itstat_return",
    classes := [
      { tag := "admm", name := "ADMM",
        base := [⟨"Prml Rsdl", "%9.3e", "norm_primal_residual()"⟩, ⟨"Dual Rsdl", "%9.3e", "norm_dual_residual()"⟩],
        branches := [("isinstance(self.subproblem_solver, GenericSubproblemSolver)", [⟨"Num FEv", "%6d", "subproblem_solver.info['nfev']"⟩, ⟨"Num It", "%6d", "subproblem_solver.info['nit']"⟩]), ("type(self.subproblem_solver) == LinearSubproblemSolver and self.subproblem_solver.cg_function == 'scico'", [⟨"CG It", "%5d", "subproblem_solver.info['num_iter']"⟩, ⟨"CG Res", "%9.3e", "subproblem_solver.info['rel_res']"⟩]), ("type(self.subproblem_solver) in [MatrixSubproblemSolver, FBlockCircularConvolveSolver, G0BlockCircularConvolveSolver] and self.subproblem_solver.check_solve", [⟨"Slv Res", "%9.3e", "subproblem_solver.accuracy"⟩])],
        vars := ["x", "*z_list", "*u_list"] },
      { tag := "ladmm", name := "LinearizedADMM",
        base := [⟨"Prml Rsdl", "%9.3e", "norm_primal_residual()"⟩, ⟨"Dual Rsdl", "%9.3e", "norm_dual_residual()"⟩],
        branches := [],
        vars := ["x", "z", "u"] },
      { tag := "padmm", name := "ProximalADMM",
        base := [⟨"Prml Rsdl", "%9.3e", "norm_primal_residual()"⟩, ⟨"Dual Rsdl", "%9.3e", "norm_dual_residual()"⟩],
        branches := [],
        vars := ["x", "z", "u"] },
      { tag := "nlpadmm", name := "NonLinearPADMM",
        base := [⟨"Prml Rsdl", "%9.3e", "norm_primal_residual()"⟩, ⟨"Dual Rsdl", "%9.3e", "norm_dual_residual()"⟩],
        branches := [],
        vars := ["x", "z", "u"] },
      { tag := "pdhg", name := "PDHG",
        base := [⟨"Prml Rsdl", "%9.3e", "norm_primal_residual()"⟩, ⟨"Dual Rsdl", "%9.3e", "norm_dual_residual()"⟩],
        branches := [],
        vars := ["x", "z"] },
      { tag := "pgm", name := "PGM",
        base := [⟨"L", "%9.3e", "L"⟩, ⟨"Residual", "%9.3e", "norm_residual()"⟩],
        branches := [],
        vars := ["x"] },
      { tag := "apgm", name := "AcceleratedPGM",
        base := [⟨"L", "%9.3e", "L"⟩, ⟨"Residual", "%9.3e", "norm_residual()"⟩],
        branches := [],
        vars := ["x", "v"] }
    ] }

/-- the tables read from the source are the tables of the model (`Scico.Driver.fieldTables`), from which
    `fieldSpecs`, `fieldNames`, `workingVarNames` and `itstatFuncSource` are derived -/
theorem tables_ok : src = fieldTables := rfl

end Scico.Generated.DriverFields
