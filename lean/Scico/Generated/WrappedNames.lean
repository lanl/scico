/- GENERATED by harness/translate_lists.py from scico/numpy/_wrapped_function_lists.py,
   scico/numpy/__init__.py and scico/scipy/special.py — rewritten on every run, do not edit. -/
import Scico.Proofs.BlockNames

namespace Scico.Generated.WrappedNames
open Scico.Block.Lists

def unaryOps : List String :=
  ["__abs__", "__neg__", "__pos__"]

def binaryOps : List String :=
  ["__add__", "__radd__", "__sub__", "__rsub__", "__mul__", "__mod__",
    "__rmod__", "__rmul__", "__matmul__", "__rmatmul__", "__truediv__", "__rtruediv__",
    "__floordiv__", "__rfloordiv__", "__pow__", "__rpow__", "__gt__", "__ge__",
    "__lt__", "__le__", "__eq__", "__ne__"]

def creationRoutines : List String :=
  ["empty", "ones", "zeros", "full"]

def mathematicalFunctions : List String :=
  ["sin", "cos", "tan", "arcsin", "arccos", "arctan",
    "hypot", "arctan2", "degrees", "radians", "unwrap", "deg2rad",
    "rad2deg", "sinh", "cosh", "tanh", "arcsinh", "arccosh",
    "arctanh", "around", "round", "rint", "fix", "floor",
    "ceil", "trunc", "prod", "sum", "nanprod", "nansum",
    "cumprod", "cumsum", "nancumprod", "nancumsum", "diff", "ediff1d",
    "gradient", "cross", "exp", "expm1", "exp2", "log",
    "log10", "log2", "log1p", "logaddexp", "logaddexp2", "i0",
    "sinc", "signbit", "copysign", "frexp", "ldexp", "nextafter",
    "lcm", "gcd", "add", "reciprocal", "positive", "negative",
    "multiply", "divide", "power", "subtract", "true_divide", "floor_divide",
    "float_power", "fmod", "mod", "modf", "remainder", "divmod",
    "angle", "real", "imag", "conj", "conjugate", "maximum",
    "fmax", "amax", "nanmax", "minimum", "fmin", "amin",
    "nanmin", "convolve", "clip", "sqrt", "cbrt", "square",
    "abs", "absolute", "fabs", "sign", "heaviside", "nan_to_num",
    "interp", "sort", "lexsort", "argsort", "sort_complex", "partition",
    "argmax", "nanargmax", "argmin", "nanargmin", "argwhere", "nonzero",
    "flatnonzero", "where", "searchsorted", "extract", "count_nonzero", "dot",
    "linalg.multi_dot", "vdot", "inner", "outer", "matmul", "tensordot",
    "einsum", "einsum_path", "linalg.matrix_power", "kron", "linalg.cholesky", "linalg.qr",
    "linalg.svd", "linalg.eig", "linalg.eigh", "linalg.eigvals", "linalg.eigvalsh", "linalg.norm",
    "linalg.cond", "linalg.det", "linalg.matrix_rank", "linalg.slogdet", "trace", "linalg.solve",
    "linalg.tensorsolve", "linalg.lstsq", "linalg.inv", "linalg.pinv", "linalg.tensorinv", "shape",
    "reshape", "ravel", "moveaxis", "rollaxis", "swapaxes", "transpose",
    "atleast_1d", "atleast_2d", "atleast_3d", "expand_dims", "squeeze", "asarray",
    "stack", "block", "vstack", "hstack", "dstack", "column_stack",
    "split", "array_split", "dsplit", "hsplit", "vsplit", "tile",
    "repeat", "insert", "append", "resize", "trim_zeros", "unique",
    "flip", "fliplr", "flipud", "reshape", "roll", "rot90",
    "all", "any", "isfinite", "isinf", "isnan", "isneginf",
    "isposinf", "iscomplex", "iscomplexobj", "isreal", "isrealobj", "isscalar",
    "logical_and", "logical_or", "logical_not", "logical_xor", "allclose", "isclose",
    "array_equal", "array_equiv", "greater", "greater_equal", "less", "less_equal",
    "equal", "not_equal", "empty_like", "ones_like", "zeros_like", "full_like"]

def reductionFunctions : List String :=
  ["sum", "linalg.norm", "count_nonzero", "any"]

def testingFunctions : List String :=
  ["testing.assert_allclose", "testing.assert_array_equal"]

def specialFunctions : List String :=
  ["betainc", "entr", "erf", "erfc", "erfinv", "expit",
    "gammainc", "gammaincc", "gammaln", "i0", "i0e", "i1",
    "i1e", "log_ndtr", "logit", "logsumexp", "multigammaln", "ndtr",
    "ndtri", "polygamma", "sph_harm", "xlog1py", "xlogy", "zeta",
    "digamma"]

def wrapCallsNumpy : List (String × String) :=
  [("creation_routines", "map_func_over_tuple_of_tuples"), ("mathematical_functions", "map_func_over_blocks"), ("reduction_functions", "add_full_reduction"), ("testing_functions", "map_void_func_over_blocks")]

def wrapCallsSpecial : List (String × String) :=
  [("functions", "map_func_over_blocks")]

def tables : Tables :=
  { unaryOps := unaryOps, binaryOps := binaryOps, creation := creationRoutines,
    mathematical := mathematicalFunctions, reductions := reductionFunctions,
    testing := testingFunctions, special := specialFunctions,
    wrapCallsNumpy := wrapCallsNumpy, wrapCallsSpecial := wrapCallsSpecial }

/-- the structural obligations on the current tables (meaning: `Scico.Block.Lists.check_sound`) -/
theorem tables_ok : check tables = true := by decide +kernel

/-- every operator method is lifted or is one of the pinned non-lifted ones; no in-place operator is defined;
    lifted binary operators come with their reflected form (meaning: `Scico.Block.Lists.checkOperators_sound`) -/
theorem operators_ok : checkOperators tables = true := by decide +kernel

/-- lifted attributes: public members of the jax array type (from jax), names and skip lists of `_blockarray.py` (ast) -/
def attrTables : AttrTables :=
  { members := [
    ⟨"T", true, false⟩,
    ⟨"addressable_data", false, true⟩,
    ⟨"addressable_shards", false, false⟩,
    ⟨"all", false, true⟩,
    ⟨"any", false, true⟩,
    ⟨"argmax", false, true⟩,
    ⟨"argmin", false, true⟩,
    ⟨"argpartition", false, true⟩,
    ⟨"argsort", false, true⟩,
    ⟨"astype", false, true⟩,
    ⟨"at", true, false⟩,
    ⟨"aval", true, false⟩,
    ⟨"block_until_ready", false, true⟩,
    ⟨"choose", false, true⟩,
    ⟨"clip", false, true⟩,
    ⟨"clone", false, true⟩,
    ⟨"compress", false, true⟩,
    ⟨"conj", false, true⟩,
    ⟨"conjugate", false, true⟩,
    ⟨"copy", false, true⟩,
    ⟨"copy_to_host_async", false, true⟩,
    ⟨"cumprod", false, true⟩,
    ⟨"cumsum", false, true⟩,
    ⟨"delete", false, true⟩,
    ⟨"device", true, false⟩,
    ⟨"device_buffer", true, false⟩,
    ⟨"device_buffers", true, false⟩,
    ⟨"devices", false, true⟩,
    ⟨"diagonal", false, true⟩,
    ⟨"dot", false, true⟩,
    ⟨"dtype", true, false⟩,
    ⟨"flat", true, false⟩,
    ⟨"flatten", false, true⟩,
    ⟨"global_shards", true, false⟩,
    ⟨"imag", true, false⟩,
    ⟨"is_deleted", false, true⟩,
    ⟨"is_fully_addressable", true, false⟩,
    ⟨"is_fully_replicated", true, false⟩,
    ⟨"is_ready", false, true⟩,
    ⟨"item", false, true⟩,
    ⟨"itemsize", true, false⟩,
    ⟨"layout", true, false⟩,
    ⟨"mT", true, false⟩,
    ⟨"max", false, true⟩,
    ⟨"mean", false, true⟩,
    ⟨"min", false, true⟩,
    ⟨"nbytes", true, false⟩,
    ⟨"ndim", true, false⟩,
    ⟨"nonzero", false, true⟩,
    ⟨"on_device_size_in_bytes", false, true⟩,
    ⟨"platform", false, true⟩,
    ⟨"prod", false, true⟩,
    ⟨"ptp", false, true⟩,
    ⟨"ravel", false, true⟩,
    ⟨"real", true, false⟩,
    ⟨"repeat", false, true⟩,
    ⟨"reshape", false, true⟩,
    ⟨"round", false, true⟩,
    ⟨"searchsorted", false, true⟩,
    ⟨"shape", true, false⟩,
    ⟨"sharding", true, false⟩,
    ⟨"size", true, false⟩,
    ⟨"sort", false, true⟩,
    ⟨"squeeze", false, true⟩,
    ⟨"std", false, true⟩,
    ⟨"sum", false, true⟩,
    ⟨"swapaxes", false, true⟩,
    ⟨"take", false, true⟩,
    ⟨"to_device", false, true⟩,
    ⟨"tobytes", false, true⟩,
    ⟨"tolist", false, true⟩,
    ⟨"trace", false, true⟩,
    ⟨"traceback", true, false⟩,
    ⟨"transpose", false, true⟩,
    ⟨"unsafe_buffer_pointer", false, true⟩,
    ⟨"var", false, true⟩,
    ⟨"view", false, true⟩,
    ⟨"weak_type", true, false⟩]
    ownNames := ["dtype", "blockarray"]
    skipProps := ["at"]
    skipMethods := []
    propConds := ["isinstance(v, property)", "k[0] != '_'",
    "k not in dir(BlockArray)", "k not in skip_props"]
    methodConds := ["isinstance(v, Callable)", "k[0] != '_'",
    "k not in dir(BlockArray)", "k not in skip_methods"]
    expectedProps := ["T", "aval", "device", "device_buffer", "device_buffers", "flat",
    "global_shards", "imag", "is_fully_addressable", "is_fully_replicated", "itemsize", "layout",
    "mT", "nbytes", "ndim", "real", "shape", "sharding",
    "size", "traceback", "weak_type"]
    expectedMethods := ["addressable_data", "all", "any", "argmax", "argmin", "argpartition",
    "argsort", "astype", "block_until_ready", "choose", "clip", "clone",
    "compress", "conj", "conjugate", "copy", "copy_to_host_async", "cumprod",
    "cumsum", "delete", "devices", "diagonal", "dot", "flatten",
    "is_deleted", "is_ready", "item", "max", "mean", "min",
    "nonzero", "on_device_size_in_bytes", "platform", "prod", "ptp", "ravel",
    "repeat", "reshape", "round", "searchsorted", "sort", "squeeze",
    "std", "sum", "swapaxes", "take", "to_device", "tobytes",
    "tolist", "trace", "transpose", "unsafe_buffer_pointer", "var", "view"] }

/-- the comprehensions of `_blockarray.py` lift exactly the listed attributes; the promised ones are among them
    (meaning: `Scico.Block.Lists.checkAttrs_sound`) -/
theorem attrs_ok : checkAttrs attrTables = true := by decide +kernel

/-- sorted public names of `jax.numpy` (with `linalg.*`, `fft.*`), read from jax -/
def jnpNames : List String :=
  ["ComplexWarning", "abs", "absolute", "acos", "acosh", "add",
    "all", "allclose", "amax", "amin", "angle", "any",
    "append", "apply_along_axis", "apply_over_axes", "arange", "arccos", "arccosh",
    "arcsin", "arcsinh", "arctan", "arctan2", "arctanh", "argmax",
    "argmin", "argpartition", "argsort", "argwhere", "around", "array",
    "array_equal", "array_equiv", "array_repr", "array_split", "array_str", "asarray",
    "asin", "asinh", "astype", "atan", "atan2", "atanh",
    "atleast_1d", "atleast_2d", "atleast_3d", "average", "bartlett", "bfloat16",
    "bincount", "bitwise_and", "bitwise_count", "bitwise_invert", "bitwise_left_shift", "bitwise_not",
    "bitwise_or", "bitwise_right_shift", "bitwise_xor", "blackman", "block", "bool",
    "bool_", "broadcast_arrays", "broadcast_shapes", "broadcast_to", "c_", "can_cast",
    "cbrt", "cdouble", "ceil", "character", "choose", "clip",
    "column_stack", "complex128", "complex64", "complex_", "complexfloating", "compress",
    "concat", "concatenate", "conj", "conjugate", "convolve", "copy",
    "copysign", "corrcoef", "correlate", "cos", "cosh", "count_nonzero",
    "cov", "cross", "csingle", "cumprod", "cumsum", "cumulative_sum",
    "deg2rad", "degrees", "delete", "diag", "diag_indices", "diag_indices_from",
    "diagflat", "diagonal", "diff", "digitize", "divide", "divmod",
    "dot", "double", "dsplit", "dstack", "dtype", "e",
    "ediff1d", "einsum", "einsum_path", "empty", "empty_like", "equal",
    "euler_gamma", "exp", "exp2", "expand_dims", "expm1", "extract",
    "eye", "fabs", "fft.fft", "fft.fft2", "fft.fftfreq", "fft.fftn",
    "fft.fftshift", "fft.hfft", "fft.ifft", "fft.ifft2", "fft.ifftn", "fft.ifftshift",
    "fft.ihfft", "fft.irfft", "fft.irfft2", "fft.irfftn", "fft.rfft", "fft.rfft2",
    "fft.rfftfreq", "fft.rfftn", "fill_diagonal", "finfo", "fix", "flatnonzero",
    "flexible", "flip", "fliplr", "flipud", "float16", "float32",
    "float64", "float8_e4m3b11fnuz", "float8_e4m3fn", "float8_e4m3fnuz", "float8_e5m2", "float8_e5m2fnuz",
    "float_", "float_power", "floating", "floor", "floor_divide", "fmax",
    "fmin", "fmod", "frexp", "from_dlpack", "frombuffer", "fromfile",
    "fromfunction", "fromiter", "frompyfunc", "fromstring", "full", "full_like",
    "gcd", "generic", "geomspace", "get_printoptions", "gradient", "greater",
    "greater_equal", "hamming", "hanning", "heaviside", "histogram", "histogram2d",
    "histogram_bin_edges", "histogramdd", "hsplit", "hstack", "hypot", "i0",
    "identity", "iinfo", "imag", "index_exp", "indices", "inexact",
    "inf", "inner", "insert", "int16", "int2", "int32",
    "int4", "int64", "int8", "int_", "integer", "interp",
    "intersect1d", "invert", "isclose", "iscomplex", "iscomplexobj", "isdtype",
    "isfinite", "isin", "isinf", "isnan", "isneginf", "isposinf",
    "isreal", "isrealobj", "isscalar", "issubdtype", "iterable", "ix_",
    "kaiser", "kron", "lcm", "ldexp", "left_shift", "less",
    "less_equal", "lexsort", "linalg.cholesky", "linalg.cond", "linalg.cross", "linalg.det",
    "linalg.diagonal", "linalg.eig", "linalg.eigh", "linalg.eigvals", "linalg.eigvalsh", "linalg.inv",
    "linalg.lstsq", "linalg.matmul", "linalg.matrix_norm", "linalg.matrix_power", "linalg.matrix_rank", "linalg.matrix_transpose",
    "linalg.multi_dot", "linalg.norm", "linalg.outer", "linalg.pinv", "linalg.qr", "linalg.slogdet",
    "linalg.solve", "linalg.svd", "linalg.svdvals", "linalg.tensordot", "linalg.tensorinv", "linalg.tensorsolve",
    "linalg.trace", "linalg.vecdot", "linalg.vector_norm", "linspace", "load", "log",
    "log10", "log1p", "log2", "logaddexp", "logaddexp2", "logical_and",
    "logical_not", "logical_or", "logical_xor", "logspace", "mask_indices", "matmul",
    "matrix_transpose", "max", "maximum", "mean", "median", "meshgrid",
    "mgrid", "min", "minimum", "mod", "modf", "moveaxis",
    "multiply", "nan", "nan_to_num", "nanargmax", "nanargmin", "nancumprod",
    "nancumsum", "nanmax", "nanmean", "nanmedian", "nanmin", "nanpercentile",
    "nanprod", "nanquantile", "nanstd", "nansum", "nanvar", "ndarray",
    "ndim", "negative", "newaxis", "nextafter", "nonzero", "not_equal",
    "number", "object_", "ogrid", "ones", "ones_like", "outer",
    "packbits", "pad", "partition", "percentile", "permute_dims", "pi",
    "piecewise", "place", "poly", "polyadd", "polyder", "polydiv",
    "polyfit", "polyint", "polymul", "polysub", "polyval", "positive",
    "pow", "power", "printoptions", "prod", "promote_types", "ptp",
    "put", "quantile", "r_", "rad2deg", "radians", "ravel",
    "ravel_multi_index", "real", "reciprocal", "remainder", "repeat", "reshape",
    "resize", "result_type", "right_shift", "rint", "roll", "rollaxis",
    "roots", "rot90", "round", "s_", "save", "savez",
    "searchsorted", "select", "set_printoptions", "setdiff1d", "setxor1d", "shape",
    "sign", "signbit", "signedinteger", "sin", "sinc", "single",
    "sinh", "size", "sort", "sort_complex", "split", "sqrt",
    "square", "squeeze", "stack", "std", "subtract", "sum",
    "swapaxes", "take", "take_along_axis", "tan", "tanh", "tensordot",
    "tile", "trace", "transpose", "trapezoid", "tri", "tril",
    "tril_indices", "tril_indices_from", "trim_zeros", "triu", "triu_indices", "triu_indices_from",
    "true_divide", "trunc", "ufunc", "uint", "uint16", "uint2",
    "uint32", "uint4", "uint64", "uint8", "union1d", "unique",
    "unique_all", "unique_counts", "unique_inverse", "unique_values", "unpackbits", "unravel_index",
    "unsignedinteger", "unstack", "unwrap", "vander", "var", "vdot",
    "vecdot", "vectorize", "vsplit", "vstack", "where", "zeros",
    "zeros_like"]

/-- every name of the namespace is wrapped by one of the lists or is in the pinned pass-through list; the wrapped
    names exist (meaning: `Scico.Block.Lists.checkNamespace_sound`) -/
theorem namespace_ok : checkNamespace tables jnpNames = true :=
  checkNamespace_of_fast _ _ (by decide +kernel)

end Scico.Generated.WrappedNames
