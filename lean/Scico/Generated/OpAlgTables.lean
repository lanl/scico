/- GENERATED by harness/opalg_translate.py from scico/operator/_operator.py, scico/operator/_stack.py, scico/linop/_linop.py,
   _diag.py, _matrix.py, _convolve.py, _circconv.py, _stack.py — rewritten on every run, do not edit. -/
import Scico.Model.OpAlgTables

namespace Scico.Generated.OpAlgTables
open Scico.OpAlg.Tables

def src : Tables :=
  { classes := [
      ⟨"op", "Operator", [], [("__call__", ""), ("__add__", ""), ("__sub__", ""), ("__neg__", ""), ("__mul__", "_wrap_mul_div_scalar"), ("__rmul__", "_wrap_mul_div_scalar"), ("__truediv__", "_wrap_mul_div_scalar"), ("__init__", ""), ("freeze", "")]⟩,
      ⟨"linop", "LinearOperator", ["Operator"], [("__call__", ""), ("__add__", "_wrap_add_sub"), ("__sub__", "_wrap_add_sub"), ("__mul__", "_wrap_mul_div_scalar"), ("__rmul__", "_wrap_mul_div_scalar"), ("__truediv__", "_wrap_mul_div_scalar"), ("__matmul__", ""), ("__rmatmul__", ""), ("adj", ""), ("T", "property"), ("H", "property"), ("conj", ""), ("gram_op", "property"), ("__init__", "")]⟩,
      ⟨"composed", "ComposedLinearOperator", ["LinearOperator"], [("__init__", "")]⟩,
      ⟨"diag", "Diagonal", ["LinearOperator"], [("__add__", "_wrap_add_sub"), ("__sub__", "_wrap_add_sub"), ("__mul__", "_wrap_mul_div_scalar"), ("__truediv__", "_wrap_mul_div_scalar"), ("__matmul__", ""), ("T", "property"), ("H", "property"), ("conj", ""), ("gram_op", "property"), ("_eval", ""), ("__init__", "")]⟩,
      ⟨"scaledId", "ScaledIdentity", ["Diagonal"], [("__add__", "_wrap_add_sub"), ("__sub__", "_wrap_add_sub"), ("__mul__", "_wrap_mul_div_scalar"), ("__truediv__", "_wrap_mul_div_scalar"), ("__matmul__", ""), ("conj", ""), ("gram_op", "property"), ("__init__", "")]⟩,
      ⟨"ident", "Identity", ["ScaledIdentity"], [("__matmul__", ""), ("__rmatmul__", ""), ("conj", ""), ("gram_op", "property"), ("_eval", ""), ("__init__", "")]⟩,
      ⟨"matrix", "MatrixOperator", ["LinearOperator"], [("__call__", ""), ("__add__", "partial(_wrap_add_sub_matrix,op=operator.add)"), ("__sub__", "partial(_wrap_add_sub_matrix,op=operator.sub)"), ("__radd__", ""), ("__rsub__", ""), ("__neg__", ""), ("__mul__", ""), ("__rmul__", ""), ("__truediv__", ""), ("__rtruediv__", ""), ("adj", ""), ("T", "property"), ("H", "property"), ("conj", ""), ("gram_op", "property"), ("_eval", ""), ("__init__", "")]⟩,
      ⟨"convolve", "Convolve", ["LinearOperator"], [("__add__", "_wrap_add_sub"), ("__sub__", "_wrap_add_sub"), ("__mul__", "_wrap_mul_div_scalar"), ("__truediv__", "_wrap_mul_div_scalar"), ("_eval", ""), ("__init__", "")]⟩,
      ⟨"circconv", "CircularConvolve", ["LinearOperator"], [("__add__", "_wrap_add_sub"), ("__sub__", "_wrap_add_sub"), ("__mul__", "_wrap_mul_div_scalar"), ("__truediv__", "_wrap_mul_div_scalar"), ("_adj", ""), ("_eval", ""), ("__init__", "")]⟩,
      ⟨"vstack", "VerticalStack", ["VerticalStackOperator", "LinearOperator"], [("_adj", ""), ("__init__", "")]⟩,
      ⟨"dstack", "DiagonalStack", ["DiagonalStackOperator", "LinearOperator"], [("_adj", ""), ("__init__", "")]⟩,
      ⟨"drep", "DiagonalReplicated", ["DiagonalReplicatedOperator", "LinearOperator"], [("__init__", "")]⟩,
      ⟨"opvstack", "VerticalStack", ["Operator"], [("_eval", ""), ("__init__", "")]⟩,
      ⟨"opdstack", "DiagonalStack", ["Operator"], [("_eval", ""), ("__init__", "")]⟩,
      ⟨"opdrep", "DiagonalReplicated", ["Operator"], [("__init__", "")]⟩
    ],
    ladders := [
      ("_wrap_add_sub", ["if isinstance(b, Operator)", "if a.shape == b.shape", "if isinstance(b, type(a))", "return func(a, b)", "end", "if isinstance(a, type(b))", "if hasattr(getattr(type(b), func.__name__), '_unwrapped')", "uwfunc = getattr(type(b), func.__name__)._unwrapped", "else", "uwfunc = getattr(type(b), func.__name__)", "end", "return uwfunc(a, b)", "end", "if isinstance(b, LinearOperator)", "uwfunc = getattr(LinearOperator, func.__name__)._unwrapped", "return uwfunc(a, b)", "end", "uwfunc = getattr(Operator, func.__name__)", "return uwfunc(a, b)", "end", "raise ValueError", "end", "raise TypeError"]),
      ("_wrap_mul_div_scalar", ["if snp.util.is_scalar_equiv(b)", "return func(a, b)", "end", "raise TypeError"]),
      ("_wrap_add_sub_matrix", ["if np.isscalar(b)", "return MatrixOperator(op(a.A, b), input_cols=a.input_cols)", "end", "if isinstance(b, MatrixOperator)", "if a.shape == b.shape", "return MatrixOperator(op(a.A, b.A), input_cols=a.input_cols)", "end", "raise ValueError", "end", "if isinstance(b, (jnp.ndarray, np.ndarray))", "if a.A.shape == b.shape", "return MatrixOperator(op(a.A, b), input_cols=a.input_cols)", "end", "raise ValueError", "end", "if isinstance(b, Operator)", "if a.shape != b.shape", "raise ValueError", "end", "end", "if isinstance(b, LinearOperator)", "uwfunc = getattr(LinearOperator, func.__name__)._unwrapped", "return uwfunc(a, b)", "end", "if isinstance(b, Operator)", "uwfunc = getattr(Operator, func.__name__)", "return uwfunc(a, b)", "end", "raise TypeError"])
    ],
    ctors := [
      ⟨"op", "__call__", 0, "Operator", (.attr "x" "input_shape"), (.attr "self" "output_shape"), (.attr "x" "input_dtype"), (.attr "self" "output_dtype"), []⟩,
      ⟨"op", "__add__", 0, "Operator", (.attr "self" "input_shape"), (.attr "self" "output_shape"), (.attr "self" "input_dtype"), (.rt (.attr "self" "output_dtype") (.attr "other" "output_dtype")), []⟩,
      ⟨"op", "__sub__", 0, "Operator", (.attr "self" "input_shape"), (.attr "self" "output_shape"), (.attr "self" "input_dtype"), (.rt (.attr "self" "output_dtype") (.attr "other" "output_dtype")), []⟩,
      ⟨"op", "__mul__", 0, "Operator", (.attr "self" "input_shape"), (.attr "self" "output_shape"), (.attr "self" "input_dtype"), (.rt (.attr "self" "output_dtype") (.name "other")), []⟩,
      ⟨"op", "__rmul__", 0, "Operator", (.attr "self" "input_shape"), (.attr "self" "output_shape"), (.attr "self" "input_dtype"), (.rt (.attr "self" "output_dtype") (.name "other")), []⟩,
      ⟨"op", "__truediv__", 0, "Operator", (.attr "self" "input_shape"), (.attr "self" "output_shape"), (.attr "self" "input_dtype"), (.rt (.attr "self" "output_dtype") (.name "other")), []⟩,
      ⟨"op", "freeze", 0, "Operator", (.name "input_shape"), (.attr "self" "output_shape"), (.attr "self" "input_dtype"), (.attr "self" "output_dtype"), []⟩,
      ⟨"linop", "__add__", 0, "LinearOperator", (.attr "self" "input_shape"), (.attr "self" "output_shape"), (.attr "self" "input_dtype"), (.rt (.attr "self" "output_dtype") (.attr "other" "output_dtype")), []⟩,
      ⟨"linop", "__sub__", 0, "LinearOperator", (.attr "self" "input_shape"), (.attr "self" "output_shape"), (.attr "self" "input_dtype"), (.rt (.attr "self" "output_dtype") (.attr "other" "output_dtype")), []⟩,
      ⟨"linop", "__mul__", 0, "LinearOperator", (.attr "self" "input_shape"), (.attr "self" "output_shape"), (.attr "self" "input_dtype"), (.rt (.attr "self" "output_dtype") (.name "other")), []⟩,
      ⟨"linop", "__truediv__", 0, "LinearOperator", (.attr "self" "input_shape"), (.attr "self" "output_shape"), (.attr "self" "input_dtype"), (.rt (.attr "self" "output_dtype") (.name "other")), []⟩,
      ⟨"linop", "T", 0, "LinearOperator", (.attr "self" "output_shape"), (.attr "self" "input_shape"), (.attr "self" "output_dtype"), (.attr "self" "input_dtype"), []⟩,
      ⟨"linop", "T", 1, "LinearOperator", (.attr "self" "output_shape"), (.attr "self" "input_shape"), (.attr "self" "output_dtype"), (.attr "self" "input_dtype"), []⟩,
      ⟨"linop", "H", 0, "LinearOperator", (.attr "self" "output_shape"), (.attr "self" "input_shape"), (.attr "self" "output_dtype"), (.attr "self" "input_dtype"), []⟩,
      ⟨"linop", "conj", 0, "LinearOperator", (.attr "self" "input_shape"), (.attr "self" "output_shape"), (.attr "self" "input_dtype"), (.attr "self" "output_dtype"), []⟩,
      ⟨"linop", "gram_op", 0, "LinearOperator", (.attr "self" "input_shape"), (.attr "self" "input_shape"), (.attr "self" "input_dtype"), (.attr "self" "input_dtype"), []⟩,
      ⟨"composed", "__init__", 0, "super().__init__", (.attr "self.B" "input_shape"), (.attr "self.A" "output_shape"), (.attr "self.B" "input_dtype"), (.attr "self.A" "output_dtype"), []⟩,
      ⟨"diag", "__init__", 0, "super().__init__", (.name "input_shape"), (.name "output_shape"), (.name "input_dtype"), (.rt (.attr "self._diagonal" "dtype") (.name "input_dtype")), []⟩,
      ⟨"diag", "conj", 0, "Diagonal", (.attr "self" "input_shape"), .absent, (.attr "self" "input_dtype"), .absent, [("diagonal", "self.diagonal.conj()")]⟩,
      ⟨"diag", "gram_op", 0, "Diagonal", (.attr "self" "input_shape"), .absent, (.attr "self" "input_dtype"), .absent, [("diagonal", "self.diagonal.conj() * self.diagonal")]⟩,
      ⟨"diag", "__add__", 0, "Diagonal", (.attr "self" "input_shape"), .absent, .absent, .absent, [("diagonal", "self.diagonal + other.diagonal")]⟩,
      ⟨"diag", "__sub__", 0, "Diagonal", (.attr "self" "input_shape"), .absent, .absent, .absent, [("diagonal", "self.diagonal - other.diagonal")]⟩,
      ⟨"diag", "__mul__", 0, "Diagonal", (.attr "self" "input_shape"), .absent, .absent, .absent, [("diagonal", "self.diagonal * scalar")]⟩,
      ⟨"diag", "__truediv__", 0, "Diagonal", (.attr "self" "input_shape"), .absent, .absent, .absent, [("diagonal", "self.diagonal / scalar")]⟩,
      ⟨"diag", "__matmul__", 0, "Diagonal", (.attr "other" "input_shape"), .absent, .absent, .absent, [("diagonal", "self.diagonal * other.diagonal")]⟩,
      ⟨"scaledId", "__init__", 0, "super().__init__", (.name "input_shape"), .absent, (.name "input_dtype"), .absent, []⟩,
      ⟨"scaledId", "conj", 0, "ScaledIdentity", (.attr "self" "input_shape"), .absent, (.attr "self" "input_dtype"), .absent, [("scalar", "self._diagonal.conj()")]⟩,
      ⟨"scaledId", "gram_op", 0, "ScaledIdentity", (.attr "self" "input_shape"), .absent, (.attr "self" "input_dtype"), .absent, [("scalar", "self._diagonal * self._diagonal.conj()")]⟩,
      ⟨"scaledId", "__add__", 0, "ScaledIdentity", (.attr "self" "input_shape"), .absent, (.attr "self" "input_dtype"), .absent, [("scalar", "self._diagonal + other._diagonal")]⟩,
      ⟨"scaledId", "__sub__", 0, "ScaledIdentity", (.attr "self" "input_shape"), .absent, (.attr "self" "input_dtype"), .absent, [("scalar", "self._diagonal - other._diagonal")]⟩,
      ⟨"scaledId", "__mul__", 0, "ScaledIdentity", (.attr "self" "input_shape"), .absent, (.attr "self" "input_dtype"), .absent, [("scalar", "self._diagonal * scalar")]⟩,
      ⟨"scaledId", "__truediv__", 0, "ScaledIdentity", (.attr "self" "input_shape"), .absent, (.attr "self" "input_dtype"), .absent, [("scalar", "self._diagonal / scalar")]⟩,
      ⟨"scaledId", "__matmul__", 0, "ScaledIdentity", (.attr "self" "input_shape"), .absent, (.attr "self" "input_dtype"), .absent, [("scalar", "self._diagonal * other._diagonal")]⟩,
      ⟨"scaledId", "__matmul__", 1, "Diagonal", (.attr "other" "input_shape"), .absent, .absent, .absent, [("diagonal", "self._diagonal * other.diagonal")]⟩,
      ⟨"ident", "__init__", 0, "super().__init__", (.name "input_shape"), .absent, (.name "input_dtype"), .absent, []⟩,
      ⟨"matrix", "__init__", 0, "super().__init__", (.name "input_shape"), (.name "output_shape"), (.attr "self.A" "dtype"), .absent, []⟩,
      ⟨"matrix", "__call__", 0, "MatrixOperator", .absent, .absent, .absent, .absent, [("A", "self.A @ other.A"), ("input_cols", "other.input_cols")]⟩,
      ⟨"matrix", "__call__", 1, "LinearOperator", (.attr "other" "input_shape"), (.attr "self" "output_shape"), (.attr "other" "input_dtype"), .absent, []⟩,
      ⟨"convolve", "__init__", 0, "super().__init__", (.name "input_shape"), .absent, (.name "input_dtype"), (.name "output_dtype"), []⟩,
      ⟨"convolve", "__add__", 0, "Convolve", (.attr "self" "input_shape"), (.attr "self" "output_shape"), (.rt (.attr "self" "input_dtype") (.attr "other" "input_dtype")), .absent, [("h", "self.h + other.h"), ("mode", "self.mode")]⟩,
      ⟨"convolve", "__sub__", 0, "Convolve", (.attr "self" "input_shape"), (.attr "self" "output_shape"), (.rt (.attr "self" "input_dtype") (.attr "other" "input_dtype")), .absent, [("h", "self.h - other.h"), ("mode", "self.mode")]⟩,
      ⟨"convolve", "__mul__", 0, "Convolve", (.attr "self" "input_shape"), (.attr "self" "output_shape"), (.rt (.attr "self" "input_dtype") (.name "scalar")), .absent, [("h", "self.h * scalar"), ("mode", "self.mode")]⟩,
      ⟨"convolve", "__truediv__", 0, "Convolve", (.attr "self" "input_shape"), (.attr "self" "output_shape"), (.rt (.attr "self" "input_dtype") (.name "scalar")), .absent, [("h", "self.h / scalar"), ("mode", "self.mode")]⟩,
      ⟨"circconv", "__add__", 0, "CircularConvolve", (.attr "self" "input_shape"), .absent, (.rt (.attr "self" "input_dtype") (.attr "other" "input_dtype")), (.rt (.attr "self" "output_dtype") (.attr "other" "output_dtype")), [("h", "self.h_dft + other.h_dft"), ("ndims", "self.ndims")]⟩,
      ⟨"circconv", "__sub__", 0, "CircularConvolve", (.attr "self" "input_shape"), .absent, (.rt (.attr "self" "input_dtype") (.attr "other" "input_dtype")), (.rt (.attr "self" "output_dtype") (.attr "other" "output_dtype")), [("h", "self.h_dft - other.h_dft"), ("ndims", "self.ndims")]⟩,
      ⟨"circconv", "__mul__", 0, "CircularConvolve", (.attr "self" "input_shape"), .absent, (.rt (.attr "self" "input_dtype") (.name "scalar")), (.rt (.attr "self" "output_dtype") (.name "scalar")), [("h", "self.h_dft * scalar"), ("ndims", "self.ndims")]⟩,
      ⟨"circconv", "__truediv__", 0, "CircularConvolve", (.attr "self" "input_shape"), .absent, (.rt (.attr "self" "input_dtype") (.name "scalar")), (.rt (.attr "self" "output_dtype") (.name "scalar")), [("h", "self.h_dft / scalar"), ("ndims", "self.ndims")]⟩,
      ⟨"opvstack", "__init__", 0, "super().__init__", (.raw "ops[0].input_shape"), (.name "output_shape"), (.raw "ops[0].input_dtype"), (.raw "ops[0].output_dtype"), []⟩,
      ⟨"opdstack", "__init__", 0, "super().__init__", (.name "input_shape"), (.name "output_shape"), (.raw "ops[0].input_dtype"), (.raw "ops[0].output_dtype"), []⟩,
      ⟨"opdrep", "__init__", 0, "super().__init__", (.name "input_shape"), (.name "output_shape"), (.attr "op" "input_dtype"), (.attr "op" "output_dtype"), []⟩
    ] }

/-- the override table, the dispatch ladders of the three wrappers and the shape / dtype arguments of every derived
    constructor, as read from the source, are the tables the model is written against (`Scico.OpAlg.Tables.model`),
    from which `Cls.arith`, `Cls.isSub` and the metadata rules of the generic constructors are derived
    (Scico/Proofs/OpAlgTables.lean) -/
theorem tables_ok : src = model := rfl

end Scico.Generated.OpAlgTables
