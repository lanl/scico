/- GENERATED by harness/stepsize_translate.py from scico/optimize/_pgmaux.py, _pgm.py — rewritten on every run, do not edit. -/
import Scico.Model.StepSizeSource

namespace Scico.Generated.StepSizeTables
open Scico.StepSize

/-- step-size classes: name, base class, constructor parameters with defaults -/
def classes : List (String × String × List (String × PyLit)) := [
  ("PGMStepSize", "", []),
  ("BBStepSize", "PGMStepSize", []),
  ("AdaptiveBBStepSize", "PGMStepSize", [("kappa", PyLit.dec (5) 1)]),
  ("LineSearchStepSize", "PGMStepSize", [("gamma_u", PyLit.dec (12) 1), ("maxiter", PyLit.int (50))]),
  ("RobustLineSearchStepSize", "LineSearchStepSize", [("gamma_d", PyLit.dec (9) 1), ("gamma_u", PyLit.dec (20) 1), ("maxiter", PyLit.int (50))])]

/-- which argument `step_size.update` receives and which classes the `isinstance` tests name -/
def dispatch : Dispatch :=
  { pgmArg := "self.x", apgmArgClasses := ["AdaptiveBBStepSize", "BBStepSize"], apgmArgThen := "self.x",
    apgmArgElse := "self.v", apgmZClasses := ["RobustLineSearchStepSize"], apgmZThen := "self.step_size.Z" }

/-- normalised statement lists (nesting depth, text) of the methods the model transcribes -/
def skeletons : List (String × List (Nat × String)) := [
  ("PGMStepSize.__init__", []),
  ("PGMStepSize._set_g_prox", []),
  ("PGMStepSize.internal_init", [
    (0, "self.pgm = pgm")]),
  ("PGMStepSize.update", [
    (0, "return self.pgm.L")]),
  ("BBStepSize.__init__", [
    (0, "self.xprev = None"),
    (0, "self.gradprev = None")]),
  ("BBStepSize._set_g_prox", []),
  ("BBStepSize.internal_init", [
    (0, "super().internal_init(pgm)"),
    (0, "self.xprev = None"),
    (0, "self.gradprev = None")]),
  ("BBStepSize.update", [
    (0, "if self.xprev is None:"),
    (1, "self.xprev = v"),
    (1, "self.gradprev = self.pgm.f.grad(self.xprev)"),
    (1, "L = self.pgm.L"),
    (0, "else:"),
    (1, "Δx = v - self.xprev"),
    (1, "gradv = self.pgm.f.grad(v)"),
    (1, "Δg = gradv - self.gradprev"),
    (1, "den = snp.real(snp.sum(Δx.conj() * Δg))"),
    (1, "num = snp.real(snp.sum(Δg.conj() * Δg))"),
    (1, "L = num / den"),
    (1, "if not snp.isfinite(L) or L <= 0.0:"),
    (2, "L = self.pgm.L"),
    (1, "self.xprev = v"),
    (1, "self.gradprev = gradv"),
    (0, "return L")]),
  ("AdaptiveBBStepSize.__init__", [
    (0, "self.kappa = kappa"),
    (0, "self.xprev = None"),
    (0, "self.gradprev = None"),
    (0, "self.Lbb1prev = None"),
    (0, "self.Lbb2prev = None")]),
  ("AdaptiveBBStepSize._set_g_prox", []),
  ("AdaptiveBBStepSize.internal_init", [
    (0, "super().internal_init(pgm)"),
    (0, "self.xprev = None"),
    (0, "self.gradprev = None"),
    (0, "self.Lbb1prev = None"),
    (0, "self.Lbb2prev = None")]),
  ("AdaptiveBBStepSize.update", [
    (0, "if self.xprev is None:"),
    (1, "self.xprev = v"),
    (1, "self.gradprev = self.pgm.f.grad(self.xprev)"),
    (1, "L = self.pgm.L"),
    (0, "else:"),
    (1, "Δx = v - self.xprev"),
    (1, "gradv = self.pgm.f.grad(v)"),
    (1, "Δg = gradv - self.gradprev"),
    (1, "innerxx = snp.real(snp.sum(Δx.conj() * Δx))"),
    (1, "innerxg = snp.real(snp.sum(Δx.conj() * Δg))"),
    (1, "innergg = snp.real(snp.sum(Δg.conj() * Δg))"),
    (1, "Lbb1 = innerxg / innerxx"),
    (1, "if not snp.isfinite(Lbb1) or Lbb1 <= 0.0:"),
    (2, "Lbb1 = self.Lbb1prev"),
    (1, "Lbb2 = innergg / innerxg"),
    (1, "if not snp.isfinite(Lbb2) or Lbb2 <= 0.0:"),
    (2, "Lbb2 = self.Lbb2prev"),
    (1, "if Lbb1 is not None and Lbb2 is not None:"),
    (2, "if Lbb1 / Lbb2 < self.kappa:"),
    (3, "L = Lbb2"),
    (2, "else:"),
    (3, "L = Lbb1"),
    (1, "else:"),
    (2, "L = self.pgm.L"),
    (1, "self.xprev = v"),
    (1, "self.gradprev = gradv"),
    (1, "self.Lbb1prev = Lbb1"),
    (1, "self.Lbb2prev = Lbb2"),
    (0, "return L")]),
  ("LineSearchStepSize.__init__", [
    (0, "self.gamma_u = gamma_u"),
    (0, "self.maxiter = maxiter"),
    (0, "self._set_g_prox()")]),
  ("LineSearchStepSize._set_g_prox", [
    (0, "def g_prox(v, gradv, L):"),
    (1, "return self.pgm.g.prox(v - 1.0 / L * gradv, 1.0 / L)"),
    (0, "self.g_prox = jax.jit(g_prox)")]),
  ("LineSearchStepSize.internal_init", [
    (0, "super().internal_init(pgm)"),
    (0, "self._set_g_prox()")]),
  ("LineSearchStepSize.update", [
    (0, "gradv = self.pgm.f.grad(v)"),
    (0, "L = self.pgm.L"),
    (0, "it = 0"),
    (0, "while it < self.maxiter:"),
    (1, "z = self.g_prox(v, gradv, L)"),
    (1, "fz = self.pgm.f(z)"),
    (1, "fquad = self.pgm.f_quad_approx(z, v, L)"),
    (1, "if fz <= fquad:"),
    (2, "break"),
    (1, "it += 1"),
    (1, "if it < self.maxiter:"),
    (2, "L *= self.gamma_u"),
    (0, "return L")]),
  ("RobustLineSearchStepSize.__init__", [
    (0, "super(RobustLineSearchStepSize, self).__init__(gamma_u, maxiter)"),
    (0, "self.gamma_d = gamma_d"),
    (0, "self.Tk = 0.0"),
    (0, "self.Zrb = None"),
    (0, "self.Z = None")]),
  ("RobustLineSearchStepSize._set_g_prox", []),
  ("RobustLineSearchStepSize.internal_init", [
    (0, "super().internal_init(pgm)"),
    (0, "self.Tk = 0.0"),
    (0, "self.Zrb = None"),
    (0, "self.Z = None")]),
  ("RobustLineSearchStepSize.update", [
    (0, "if self.Zrb is None:"),
    (1, "self.Zrb = self.pgm.x"),
    (0, "L = self.pgm.L * self.gamma_d"),
    (0, "it = 0"),
    (0, "while it < self.maxiter:"),
    (1, "t = (1.0 + snp.sqrt(1.0 + 4.0 * L * self.Tk)) / (2.0 * L)"),
    (1, "T = self.Tk + t"),
    (1, "y = (self.Tk * self.pgm.x + t * self.Zrb) / T"),
    (1, "z = self.pgm.x_step(y, L)"),
    (1, "fz = self.pgm.f(z)"),
    (1, "fquad = self.pgm.f_quad_approx(z, y, L)"),
    (1, "if fz <= fquad:"),
    (2, "break"),
    (1, "it += 1"),
    (1, "if it < self.maxiter:"),
    (2, "L *= self.gamma_u"),
    (0, "self.Tk = T"),
    (0, "self.Zrb += t * L * (z - y)"),
    (0, "self.Z = z"),
    (0, "return L")]),
  ("PGM.__init__", [
    (0, "self.f = f"),
    (0, "if g.has_prox is not True:"),
    (1, "raise ValueError"),
    (0, "self.g = g"),
    (0, "if step_size is None:"),
    (1, "step_size = PGMStepSize()"),
    (0, "self.step_size = step_size"),
    (0, "self.step_size.internal_init(self)"),
    (0, "self.L = L0"),
    (0, "self.fixed_point_residual = snp.inf"),
    (0, "def x_step(v, L):"),
    (1, "return self.g.prox(v - 1.0 / L * self.f.grad(v), 1.0 / L)"),
    (0, "self.x_step = jax.jit(x_step)"),
    (0, "self.x = x0"),
    (0, "super().__init__(**kwargs)")]),
  ("PGM.f_quad_approx", [
    (0, "diff_xy = x - y"),
    (0, "return self.f(y) + snp.sum(snp.real(snp.conj(self.f.grad(y)) * diff_xy)) + 0.5 * L * snp.linalg.norm(diff_xy) ** 2")]),
  ("PGM.step", [
    (0, "self.L = self.step_size.update(self.x)"),
    (0, "x = self.x_step(self.x, self.L)"),
    (0, "self.fixed_point_residual = snp.linalg.norm(self.x - x)"),
    (0, "self.x = x")]),
  ("AcceleratedPGM.__init__", [
    (0, "super().__init__(f=f, g=g, L0=L0, x0=x0, step_size=step_size, **kwargs)"),
    (0, "self.v = x0"),
    (0, "self.t = 1.0")]),
  ("AcceleratedPGM.step", [
    (0, "x_old = self.x"),
    (0, "if isinstance(self.step_size, (AdaptiveBBStepSize, BBStepSize)):"),
    (1, "self.L = self.step_size.update(self.x)"),
    (0, "else:"),
    (1, "self.L = self.step_size.update(self.v)"),
    (0, "if isinstance(self.step_size, RobustLineSearchStepSize):"),
    (1, "self.x = self.step_size.Z"),
    (1, "self.fixed_point_residual = snp.linalg.norm(self.x - x_old)"),
    (0, "else:"),
    (1, "self.x = self.x_step(self.v, self.L)"),
    (1, "self.fixed_point_residual = snp.linalg.norm(self.x - self.v)"),
    (1, "t_old = self.t"),
    (1, "self.t = 0.5 * (1 + snp.sqrt(1 + 4 * t_old ** 2))"),
    (1, "self.v = self.x + (t_old - 1) / self.t * (self.x - x_old)")])]

theorem classes_ok : classes = policyClasses := rfl
theorem dispatch_ok : dispatch = Scico.StepSize.dispatch := rfl
theorem skeletons_ok : skeletons = sourceSkeletons := rfl

end Scico.Generated.StepSizeTables
