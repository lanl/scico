/- GENERATED by harness/linops_translate.py from scico/linop/*.py, scico/linop/xray/_xray.py, scico/operator/_stack.py,
   scico/operator/biconvolve.py, scico/numpy/util.py, scico/functional/_tvnorm.py (ast) — rewritten on every run, do not edit. -/
import Scico.Proofs.LinOpsTables

namespace Scico.Generated.LinOpsTables
open Scico.LinOpsTables

/-- (function, argument, source text of its default value) -/
def defaults : List (String × String × String) := [
  ("FiniteDifference.__init__", "input_dtype", "np.float32"),
  ("FiniteDifference.__init__", "axes", "None"),
  ("FiniteDifference.__init__", "prepend", "None"),
  ("FiniteDifference.__init__", "append", "None"),
  ("FiniteDifference.__init__", "circular", "False"),
  ("FiniteDifference.__init__", "jit", "True"),
  ("SingleAxisFiniteDifference.__init__", "input_dtype", "np.float32"),
  ("SingleAxisFiniteDifference.__init__", "axis", "-1"),
  ("SingleAxisFiniteDifference.__init__", "prepend", "None"),
  ("SingleAxisFiniteDifference.__init__", "append", "None"),
  ("SingleAxisFiniteDifference.__init__", "circular", "False"),
  ("SingleAxisFiniteDifference.__init__", "jit", "True"),
  ("DFT.__init__", "axes", "None"),
  ("DFT.__init__", "axes_shape", "None"),
  ("DFT.__init__", "norm", "None"),
  ("DFT.__init__", "jit", "True"),
  ("CircularConvolve.__init__", "ndims", "None"),
  ("CircularConvolve.__init__", "input_dtype", "snp.float32"),
  ("CircularConvolve.__init__", "h_is_dft", "False"),
  ("CircularConvolve.__init__", "h_center", "None"),
  ("CircularConvolve.__init__", "jit", "True"),
  ("CircularConvolve.from_operator", "ndims", "None"),
  ("CircularConvolve.from_operator", "center", "None"),
  ("CircularConvolve.from_operator", "jit", "True"),
  ("Convolve.__init__", "input_dtype", "np.float32"),
  ("Convolve.__init__", "mode", "'full'"),
  ("Convolve.__init__", "jit", "True"),
  ("ConvolveByX.__init__", "input_dtype", "np.float32"),
  ("ConvolveByX.__init__", "mode", "'full'"),
  ("ConvolveByX.__init__", "jit", "True"),
  ("BiConvolve.__init__", "input_dtype", "np.float32"),
  ("BiConvolve.__init__", "mode", "'full'"),
  ("BiConvolve.__init__", "jit", "True"),
  ("linop_from_function.__init__", "input_dtype", "snp.float32"),
  ("linop_from_function.__init__", "output_shape", "None"),
  ("linop_from_function.__init__", "output_dtype", "None"),
  ("linop_from_function.__init__", "jit", "True"),
  ("_linear_pad", "mode", "'constant'"),
  ("Crop.__init__", "input_dtype", "snp.float32"),
  ("Crop.__init__", "jit", "True"),
  ("Slice.__init__", "input_dtype", "snp.float32"),
  ("Slice.__init__", "jit", "True"),
  ("ProjectedGradient.__init__", "axes", "None"),
  ("ProjectedGradient.__init__", "coord", "None"),
  ("ProjectedGradient.__init__", "cdiff", "False"),
  ("ProjectedGradient.__init__", "input_dtype", "np.float32"),
  ("ProjectedGradient.__init__", "jit", "True"),
  ("PolarGradient.__init__", "axes", "None"),
  ("PolarGradient.__init__", "center", "None"),
  ("PolarGradient.__init__", "angular", "True"),
  ("PolarGradient.__init__", "radial", "True"),
  ("PolarGradient.__init__", "cdiff", "False"),
  ("PolarGradient.__init__", "input_dtype", "np.float32"),
  ("PolarGradient.__init__", "jit", "True"),
  ("CylindricalGradient.__init__", "axes", "None"),
  ("CylindricalGradient.__init__", "center", "None"),
  ("CylindricalGradient.__init__", "angular", "True"),
  ("CylindricalGradient.__init__", "radial", "True"),
  ("CylindricalGradient.__init__", "axial", "True"),
  ("CylindricalGradient.__init__", "cdiff", "False"),
  ("CylindricalGradient.__init__", "input_dtype", "np.float32"),
  ("CylindricalGradient.__init__", "jit", "True"),
  ("SphericalGradient.__init__", "axes", "None"),
  ("SphericalGradient.__init__", "center", "None"),
  ("SphericalGradient.__init__", "azimuthal", "True"),
  ("SphericalGradient.__init__", "polar", "True"),
  ("SphericalGradient.__init__", "radial", "True"),
  ("SphericalGradient.__init__", "cdiff", "False"),
  ("SphericalGradient.__init__", "input_dtype", "np.float32"),
  ("SphericalGradient.__init__", "jit", "True"),
  ("VerticalStack.__init__", "collapse_output", "True"),
  ("VerticalStack.__init__", "jit", "True"),
  ("DiagonalStack.__init__", "collapse_input", "True"),
  ("DiagonalStack.__init__", "collapse_output", "True"),
  ("DiagonalStack.__init__", "jit", "True"),
  ("DiagonalReplicated.__init__", "input_axis", "0"),
  ("DiagonalReplicated.__init__", "output_axis", "None"),
  ("DiagonalReplicated.__init__", "map_type", "'auto'"),
  ("linop_over_axes", "axes", "None"),
  ("normalize_axes", "shape", "None"),
  ("normalize_axes", "default", "None"),
  ("normalize_axes", "sort", "False"),
  ("XRayTransform2D.__init__", "x0", "None"),
  ("XRayTransform2D.__init__", "dx", "None"),
  ("XRayTransform2D.__init__", "y0", "None"),
  ("XRayTransform2D.__init__", "det_count", "None"),
  ("XRayTransform3D.matrices_from_euler_angles", "degrees", "False"),
  ("XRayTransform3D.matrices_from_euler_angles", "voxel_spacing", "None"),
  ("XRayTransform3D.matrices_from_euler_angles", "det_spacing", "None"),
  ("XRayTransform3D._calc_weights", "slice_offset", "0"),
  ("Propagator.__init__", "pad_factor", "1"),
  ("AngularSpectrumPropagator.__init__", "pad_factor", "1"),
  ("AngularSpectrumPropagator.__init__", "jit", "True"),
  ("FresnelPropagator.__init__", "pad_factor", "1"),
  ("FresnelPropagator.__init__", "jit", "True"),
  ("FraunhoferPropagator.__init__", "jit", "True"),
  ("SingleAxisFiniteSum.__init__", "input_dtype", "snp.float32"),
  ("SingleAxisFiniteSum.__init__", "axis", "-1"),
  ("SingleAxisFiniteSum.__init__", "jit", "True"),
  ("FiniteSum.__init__", "input_dtype", "snp.float32"),
  ("FiniteSum.__init__", "axes", "None"),
  ("FiniteSum.__init__", "jit", "True"),
  ("SingleAxisHaarTransform.__init__", "input_dtype", "snp.float32"),
  ("SingleAxisHaarTransform.__init__", "axis", "-1"),
  ("SingleAxisHaarTransform.__init__", "jit", "True"),
  ("HaarTransform.__init__", "input_dtype", "snp.float32"),
  ("HaarTransform.__init__", "axes", "None"),
  ("HaarTransform.__init__", "jit", "True")
]

/-- accepted option values (source texts of the list / tuple elements) -/
def options : List (String × List String) := [
  ("pad.modes", ["'constant'", "'edge'", "'wrap'", "'reflect'", "'symmetric'", "'mean'", "'empty'"]),
  ("Convolve.mode", ["'full'", "'valid'", "'same'"]),
  ("ConvolveByX.mode", ["'full'", "'valid'", "'same'"]),
  ("BiConvolve.mode", ["'full'", "'valid'", "'same'"]),
  ("fd.prepend", ["None", "0", "1"]),
  ("fd.append", ["None", "0", "1"]),
  ("DiagonalReplicated.map_type", ["'auto'", "'pmap'", "'vmap'"]),
  ("optics.ndim", ["1", "2"])
]

/-- constants the model / driver / grid rely on -/
def constants : List (String × String) := [
  ("XRayTransform3D._project.MAX_SLICE_LEN", "10"),
  ("XRayTransform3D._back_project.MAX_SLICE_LEN", "10"),
  ("XRayTransform3D._calc_weights.w", "0.5"),
  ("XRayTransform3D._calc_weights.x", "jnp.mgrid[:input_shape[0], :input_shape[1], :input_shape[2]] + 0.5"),
  ("XRayTransform2D.__init__.dx", "2 * (np.sqrt(2) / 2,)")
]

/-- names exported by scico.linop, scico.linop.xray and the public classes of optics.py, abel.py -/
def exported : List String := ["AbelTransform", "AngularSpectrumPropagator", "CircularConvolve", "ComposedLinearOperator", "Convolve", "Crop", "CylindricalGradient", "DFT", "Diagonal", "DiagonalReplicated", "DiagonalStack", "FiniteDifference", "FraunhoferPropagator", "FresnelPropagator", "Identity", "LinearOperator", "MatrixOperator", "Pad", "PolarGradient", "ProjectedGradient", "Propagator", "Reshape", "ScaledIdentity", "SingleAxisFiniteDifference", "Slice", "SphericalGradient", "Sum", "Transpose", "VerticalStack", "XRayTransform2D", "XRayTransform3D", "jacobian", "linop_from_function", "linop_over_axes", "operator_norm", "power_iteration", "valid_adjoint"]

def src : Tables := ⟨defaults, options, constants, exported⟩

/-- error cases: (function, guard, exception class) of every `if guard: raise Exc(…)`, in source order -/
def raises : List (String × String × String) := [
  ("SingleAxisFiniteDifference.__init__", "not isinstance(axis, int)", "TypeError"),
  ("SingleAxisFiniteDifference.__init__", "axis < 0 or axis >= len(input_shape)", "ValueError"),
  ("SingleAxisFiniteDifference.__init__", "circular and (prepend is not None or append is not None)", "ValueError"),
  ("SingleAxisFiniteDifference.__init__", "prepend not in [None, 0, 1]", "ValueError"),
  ("SingleAxisFiniteDifference.__init__", "append not in [None, 0, 1]", "ValueError"),
  ("DFT.__init__", "axes is not None and axes_shape is not None and (len(axes) != len(axes_shape))", "ValueError"),
  ("CircularConvolve.__init__", "h_is_dft and h_center is not None", "ValueError"),
  ("CircularConvolve.__init__", "self.real and snp.dtype(input_dtype).kind == 'c'", "ValueError"),
  ("CircularConvolve.__init__", "except ValueError", "ValueError"),
  ("CircularConvolve.from_operator", "is_nested(H.input_shape)", "ValueError"),
  ("Convolve.__init__", "h.ndim != len(input_shape)", "ValueError"),
  ("Convolve.__init__", "mode not in ['full', 'valid', 'same']", "ValueError"),
  ("ConvolveByX.__init__", "x.ndim != len(input_shape)", "ValueError"),
  ("ConvolveByX.__init__", "not snp.util.is_arraylike(x)", "TypeError"),
  ("ConvolveByX.__init__", "mode not in ['full', 'valid', 'same']", "ValueError"),
  ("_linear_pad", "callable(mode) or mode not in _LINEAR_PAD_MODES", "ValueError"),
  ("_linear_pad", "key in kwargs and np.any(np.asarray(kwargs[key]) != 0)", "ValueError"),
  ("ProjectedGradient.__init__", "snp.any(np.array(axes) >= len(input_shape))", "ValueError"),
  ("PolarGradient.__init__", "len(input_shape) < 2", "ValueError"),
  ("PolarGradient.__init__", "axes is not None and len(axes) != 2", "ValueError"),
  ("PolarGradient.__init__", "not angular and (not radial)", "ValueError"),
  ("CylindricalGradient.__init__", "len(input_shape) < 3", "ValueError"),
  ("CylindricalGradient.__init__", "axes is not None and len(axes) != 3", "ValueError"),
  ("CylindricalGradient.__init__", "not angular and (not radial) and (not axial)", "ValueError"),
  ("SphericalGradient.__init__", "len(input_shape) < 3", "ValueError"),
  ("SphericalGradient.__init__", "axes is not None and len(axes) != 3", "ValueError"),
  ("SphericalGradient.__init__", "not azimuthal and (not polar) and (not radial)", "ValueError"),
  ("normalize_axes", "shape is None", "ValueError"),
  ("normalize_axes", "max(axes) >= len(shape) or min(axes) < 0", "ValueError"),
  ("normalize_axes", "len(set(axes)) != len(axes)", "ValueError"),
  ("slice_length", "idx < -length or idx > length - 1", "ValueError"),
  ("slice_length", "not isinstance(idx, slice)", "ValueError"),
  ("indexed_shape", "sum((1 for ax_idx in idx if ax_idx is not None and ax_idx is not Ellipsis)) > len(shape)", "ValueError"),
  ("DiagonalReplicated.__init__", "map_type not in ['auto', 'pmap', 'vmap']", "ValueError"),
  ("DiagonalReplicated.__init__", "input_axis < 0 or input_axis > len(op.input_shape)", "ValueError"),
  ("DiagonalReplicated.__init__", "is_nested(op.input_shape)", "ValueError"),
  ("DiagonalReplicated.__init__", "is_nested(op.output_shape)", "ValueError"),
  ("DiagonalReplicated.__init__", "output_axis < 0 or output_axis > len(op.output_shape)", "ValueError"),
  ("DiagonalReplicated.__init__", "map_type == 'pmap' and replicates > jax.device_count()", "ValueError"),
  ("radial_transverse_frequency", "ndim not in (1, 2)", "ValueError"),
  ("radial_transverse_frequency", "len(dx) != ndim", "ValueError"),
  ("Propagator.__init__", "ndim not in (1, 2)", "ValueError"),
  ("Propagator.__init__", "len(dx) != ndim", "ValueError"),
  ("FraunhoferPropagator.__init__", "ndim not in (1, 2)", "ValueError"),
  ("FraunhoferPropagator.__init__", "len(dx) != ndim", "ValueError")
]

/-- attributes stored by the constructors (`self.X = …`) -/
def attrs : List (String × List String) := [
  ("SingleAxisFiniteDifference", ["axis", "prepend", "append", "circular"]),
  ("DFT", ["inv_axes_shape", "axes", "axes_shape", "norm", "input_shape", "output_shape"]),
  ("CircularConvolve", ["ndims", "h_center", "h_dft", "real", "batch_axes", "ifft_axes", "x_fft_axes"]),
  ("Convolve", ["h", "mode"]),
  ("ConvolveByX", ["x", "mode"]),
  ("ProjectedGradient", ["axes", "coord", "cdiff"]),
  ("PolarGradient", []),
  ("CylindricalGradient", []),
  ("SphericalGradient", []),
  ("DiagonalReplicated", ["op", "replicates", "input_axis", "output_axis", "jaxmap"]),
  ("XRayTransform2D", ["input_shape", "angles", "nx", "dx", "x0", "det_count", "ny", "output_shape", "y0", "dy"]),
  ("XRayTransform3D", ["input_shape", "matrices", "det_shape", "output_shape"]),
  ("Propagator", ["k0", "padded_shape", "L", "kp", "dx", "z", "F", "D"]),
  ("FraunhoferPropagator", ["k0", "z", "L", "dx", "dx_D", "L_D", "r2", "F", "D"]),
  ("AbelTransform", ["proj_mat_quad"])
]

/-- the error cases of the modelled constructors are exactly the ones the model knows about -/
theorem raises_eq : raises = modelRaises := rfl

/-- every attribute the adapter / model reads from an operator is still stored by its constructor -/
theorem attrs_used : usedAttrs.all (fun ca => ((attrs.find? (fun t => t.1 = ca.1)).map (·.2)).any (fun l => ca.2.all l.contains)) = true := by decide +kernel

/-- every default argument value of every constructor in the grid is the one the model / grid assume -/
theorem defaults_eq : src.defaults = modelTables.defaults := rfl

/-- accepted option value sets (pad modes, convolution modes, boundary flags, …) -/
theorem options_eq : src.options = modelTables.options := rfl

/-- MAX_SLICE_LEN, footprint width, voxel-centre offset, default pixel size -/
theorem constants_eq : src.constants = modelTables.constants := rfl

/-- every exported name is a class of the configuration grid or is pinned in the exclusion list -/
theorem exported_covered : src.exported.all (fun n => covered.contains n || excluded.contains n) = true :=
  Scico.Tables.all_contains_or_of_pick [29, 26, 3, 19, 4, 7, 22, 2, 14, 18, 17, 1, 28, 27, 12, 35, 15, 6, 21, 20, 36, 8, 13, 0, 11, 23, 10, 9, 16, 24, 25, 37, 34, 38, 39, 40, 41] rfl

/-- and every grid class that lives in these modules is still exported -/
theorem covered_exported : (covered.filter (fun n => !notExported.contains n)).all (fun n => src.exported.contains n) = true :=
  Scico.Tables.filter_all_contains_of_pick [28, 16, 12, 7, 9, 0, 22, 10, 26, 32, 31, 29, 19, 27, 13, 21, 33, 15, 14, 8, 24, 23, 11, 30, 34, 35, 6, 18, 17, 5, 1, 2, 3, 4, 37] rfl

end Scico.Generated.LinOpsTables
