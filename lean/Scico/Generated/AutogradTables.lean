/-
  GENERATED by harness/autograd_translate.py from the scico sources with `ast` (do not edit; rewritten on every run of
  `./check C07`): where the differentiation layer conjugates, which keyword values it forwards, the branches of
  `linear_adjoint`, the statements of `Loss.__mul__/__rmul__/__truediv__/set_scale`, and the family of `Functional`
  subclasses (own `__init__`, call of the base initialiser, `has_eval`, methods that touch `grad`/scaling).
  Obligations (closed by `rfl`, computed ones by `decide +kernel`): the extracted tables ARE the tables the hand-written model is built from
  (`Scico.Autograd.Tables`, linked to the model's definitions by theorem `C07_conj_sites`), every evaluable class that
  defines `__init__` calls `super().__init__()` (so `_grad` exists), only `Functional` defines `grad`.
-/
import Scico.Model.Autograd

namespace Scico.Generated.AutogradTables
open Scico.Autograd.Tables

def conjSites : List ConjSite := [
  ⟨"scico/_autograd.py", "grad", "", 0, 0⟩,
  ⟨"scico/_autograd.py", "grad.conjugated_grad_aux", "", 1, 0⟩,
  ⟨"scico/_autograd.py", "grad.conjugated_grad", "", 1, 0⟩,
  ⟨"scico/_autograd.py", "value_and_grad", "", 0, 0⟩,
  ⟨"scico/_autograd.py", "value_and_grad.conjugated_value_and_grad_aux", "", 1, 0⟩,
  ⟨"scico/_autograd.py", "value_and_grad.conjugated_value_and_grad", "", 1, 0⟩,
  ⟨"scico/_autograd.py", "linear_adjoint", "", 0, 1⟩,
  ⟨"scico/_autograd.py", "linear_adjoint.conj_fun", "", 1, 1⟩,
  ⟨"scico/_autograd.py", "jacrev", "", 0, 0⟩,
  ⟨"scico/_autograd.py", "jacrev.conjugated_jacrev", "", 1, 0⟩,
  ⟨"scico/_autograd.py", "cvjp", "", 0, 0⟩,
  ⟨"scico/_autograd.py", "cvjp.conj_vjp", "", 1, 1⟩,
  ⟨"scico/operator/_operator.py", "Operator.jvp", "", 0, 0⟩,
  ⟨"scico/operator/_operator.py", "Operator.vjp", "", 0, 0⟩,
  ⟨"scico/operator/_operator.py", "Operator.vjp.Gmap#0", "conjugate", 1, 1⟩,
  ⟨"scico/operator/_operator.py", "Operator.vjp.Gmap#1", "not conjugate", 0, 0⟩,
  ⟨"scico/linop/_util.py", "jacobian", "", 0, 0⟩,
  ⟨"scico/linop/_util.py", "jacobian.adj_fn", "include_eval", 0, 0⟩,
  ⟨"scico/linop/_util.py", "jacobian.eval_fn#0", "include_eval", 0, 0⟩,
  ⟨"scico/linop/_util.py", "jacobian.eval_fn#1", "not include_eval", 0, 0⟩,
  ⟨"scico/function.py", "Function.slice", "", 0, 0⟩,
  ⟨"scico/function.py", "Function.slice.pfunc", "", 0, 0⟩,
  ⟨"scico/function.py", "Function.jvp", "", 0, 0⟩,
  ⟨"scico/function.py", "Function.vjp", "", 0, 0⟩,
  ⟨"scico/function.py", "Function.jacobian", "", 0, 0⟩
]

def forwards : List Forward := [
  ⟨"jacobian", "vjp", "conjugate", "True"⟩,
  ⟨"Function.vjp", "vjp", "conjugate", "conjugate"⟩,
  ⟨"Function.jacobian", "jacobian", "include_eval", "include_eval"⟩
]

def linadjBranches : List (String × String) := [
  ("any([jnp.iscomplexobj(_) for _ in primals])", "conj_fun"),
  ("jnp.iscomplexobj(fun(*primals))", "conj_fun"),
  ("else", "fun")
]

def linadjReturn : String := "jax.linear_transpose(_fun, *_primals)"

def rescale : List (String × List String) := [
  ("__mul__", ["new_loss = copy(self)", "new_loss._grad = scico.grad(new_loss.__call__)", "new_loss.set_scale(self.scale * other)", "return new_loss"]),
  ("__rmul__", ["return self.__mul__(other)"]),
  ("__truediv__", ["new_loss = copy(self)", "new_loss._grad = scico.grad(new_loss.__call__)", "new_loss.set_scale(self.scale / other)", "return new_loss"]),
  ("set_scale", ["self.scale = new_scale"])
]

def defaults : List (String × String × String) := [
  ("grad", "argnums", "0"),
  ("grad", "has_aux", "False"),
  ("grad", "holomorphic", "False"),
  ("grad", "allow_int", "False"),
  ("value_and_grad", "argnums", "0"),
  ("value_and_grad", "has_aux", "False"),
  ("value_and_grad", "holomorphic", "False"),
  ("value_and_grad", "allow_int", "False"),
  ("jacrev", "argnums", "0"),
  ("jacrev", "holomorphic", "False"),
  ("jacrev", "allow_int", "False"),
  ("cvjp", "jidx", "None"),
  ("Operator.vjp", "conjugate", "True"),
  ("jacobian", "include_eval", "False"),
  ("Function.vjp", "conjugate", "True"),
  ("Function.jacobian", "include_eval", "False"),
  ("Loss.__init__", "A", "None"),
  ("Loss.__init__", "f", "None"),
  ("Loss.__init__", "scale", "1.0"),
  ("SquaredL2Loss.__init__", "A", "None"),
  ("SquaredL2Loss.__init__", "scale", "0.5"),
  ("SquaredL2Loss.__init__", "W", "None"),
  ("SquaredL2Loss.__init__", "prox_kwargs", "None"),
  ("PoissonLoss.__init__", "A", "None"),
  ("PoissonLoss.__init__", "scale", "0.5"),
  ("SquaredL2AbsLoss.__init__", "A", "None"),
  ("SquaredL2AbsLoss.__init__", "scale", "0.5"),
  ("SquaredL2AbsLoss.__init__", "W", "None"),
  ("SquaredL2SquaredAbsLoss.__init__", "A", "None"),
  ("SquaredL2SquaredAbsLoss.__init__", "scale", "0.5"),
  ("SquaredL2SquaredAbsLoss.__init__", "W", "None"),
  ("HuberNorm.__init__", "delta", "1.0"),
  ("HuberNorm.__init__", "separable", "True"),
  ("L21Norm.__init__", "l2_axis", "0"),
  ("L1MinusL2Norm.__init__", "beta", "1.0"),
  ("TVNorm.__init__", "circular", "True"),
  ("TVNorm.__init__", "axes", "None"),
  ("TVNorm.__init__", "input_shape", "None"),
  ("TVNorm.__init__", "input_dtype", "snp.float32"),
  ("ProximalAverage.__init__", "alpha_list", "None"),
  ("ProximalAverage.__init__", "no_inf_eval", "True")
]

def classes : List ClassRow := [
  ⟨"AnisotropicTVNorm", ["TVNorm"], true, true, "unset", [], []⟩,
  ⟨"BM3D", ["Functional"], true, true, "False", [], []⟩,
  ⟨"BM4D", ["Functional"], true, true, "False", [], []⟩,
  ⟨"DnCNN", ["Functional"], true, false, "False", [], []⟩,
  ⟨"Functional", [], true, false, "None", ["__add__", "__mul__", "__rmul__", "grad"], ["__init__"]⟩,
  ⟨"FunctionalSum", ["Functional"], true, true, "unset", [], []⟩,
  ⟨"HuberNorm", ["Functional"], true, true, "True", [], []⟩,
  ⟨"IsotropicTVNorm", ["TVNorm"], true, true, "unset", [], []⟩,
  ⟨"L0Norm", ["Functional"], false, false, "True", [], []⟩,
  ⟨"L1MinusL2Norm", ["Functional"], true, true, "True", [], []⟩,
  ⟨"L1Norm", ["Functional"], false, false, "True", [], []⟩,
  ⟨"L21Norm", ["Functional"], true, true, "True", [], []⟩,
  ⟨"L2BallIndicator", ["Functional"], true, true, "True", [], []⟩,
  ⟨"L2Norm", ["Functional"], false, false, "True", [], []⟩,
  ⟨"Loss", ["Functional"], true, true, "unset", ["__mul__", "__rmul__", "__truediv__", "set_scale"], ["__mul__", "__truediv__"]⟩,
  ⟨"NonNegativeIndicator", ["Functional"], false, false, "True", [], []⟩,
  ⟨"NuclearNorm", ["Functional"], false, false, "True", [], []⟩,
  ⟨"PoissonLoss", ["Loss"], true, true, "unset", [], []⟩,
  ⟨"ProximalAverage", ["Functional"], true, true, "unset", [], []⟩,
  ⟨"ScaledFunctional", ["Functional"], true, true, "unset", ["__mul__"], []⟩,
  ⟨"SeparableFunctional", ["Functional"], true, true, "unset", [], []⟩,
  ⟨"SetDistance", ["Functional"], true, true, "True", [], []⟩,
  ⟨"SquaredL2AbsLoss", ["Loss"], true, true, "unset", [], []⟩,
  ⟨"SquaredL2Loss", ["Loss"], true, true, "unset", [], []⟩,
  ⟨"SquaredL2Norm", ["Functional"], false, false, "True", [], []⟩,
  ⟨"SquaredL2SquaredAbsLoss", ["Loss"], true, true, "unset", [], []⟩,
  ⟨"SquaredSetDistance", ["Functional"], true, true, "True", [], []⟩,
  ⟨"TVNorm", ["Functional"], true, true, "True", [], []⟩,
  ⟨"ZeroFunctional", ["Functional"], false, false, "True", [], []⟩
]

/-- the conjugation sites of the source are those the model transcribes -/
theorem conj_sites_ok : conjSites = Scico.Autograd.Tables.conjSites := rfl

/-- forwarded keyword values (`jacobian` always asks for the conjugate transpose; `Function.*` pass the caller's flags) -/
theorem forwards_ok : forwards = Scico.Autograd.Tables.forwards := rfl

/-- the three dtype branches of `linear_adjoint` and what is transposed -/
theorem linadj_ok : linadjBranches = Scico.Autograd.Tables.linadjBranches ∧ linadjReturn = Scico.Autograd.Tables.linadjReturn := ⟨rfl, rfl⟩

/-- `Loss.__mul__/__truediv__`: copy, re-bind `_grad` to the copy, set the scale; `__rmul__` delegates; `set_scale` assigns -/
theorem rescale_ok : rescale = Scico.Autograd.Tables.rescale := rfl

/-- default argument values of the differentiation API and of the modelled constructors -/
theorem defaults_ok : defaults = Scico.Autograd.Tables.defaults := rfl

/-- the `Functional` family is the one the model's inventory lists (names, bases, scaling / grad methods, `_grad` assignments) -/
theorem family_ok : classes.map ClassRow.key = Scico.Autograd.Tables.family.map FamilyRow.key := rfl

/-- every class that can be evaluated and defines `__init__` calls the base initialiser, which is where `_grad` is bound -/
theorem init_ok : classes.all (fun c => c.name == "Functional" || !c.hasInit || c.callsSuper || c.hasEval == "False") = true := by decide +kernel

/-- `grad` is defined by `Functional` only -/
theorem grad_owner_ok : (classes.filter (fun c => c.defines.contains "grad")).map (·.name) = ["Functional"] := by decide +kernel

end Scico.Generated.AutogradTables
