/- GENERATED by harness/proxcalc_translate.py from the scico sources (ast) — rewritten on every run, do not edit. -/
import Scico.Proofs.ProxCalcTables

namespace Scico.Generated.ProxCalcTables
open Scico.ProxCalc Scico.ProxCalc.Tables

/-- flag logic of `ScaledFunctional` (class attributes, then `__init__`) -/
def scaledInit : List Stmt :=
  [(.assign .hasEval (.atom .innerEval)),
   (.assign .hasProx (.atom .innerProx)),
   (.tryPass [(.ite (.not (.and (.atom .scaleReal) (.atom .scalePos))) [(.assign .hasProx .ff)] [])])]

/-- flag logic of `SeparableFunctional` (class attributes, then `__init__`) -/
def separableInit : List Stmt :=
  [(.assign .hasEval (.atom .allEval)),
   (.assign .hasProx (.atom .allProx))]

/-- flag logic of `FunctionalSum` (class attributes, then `__init__`) -/
def sumInit : List Stmt :=
  [(.assign .hasEval (.and (.atom .f1Eval) (.atom .f2Eval))),
   (.assign .hasProx .ff)]

/-- flag logic of `ZeroFunctional` (class attributes, then `__init__`) -/
def zeroAttrs : List Stmt :=
  [(.assign .hasEval .tt),
   (.assign .hasProx .tt)]

/-- flag logic of `Loss` (class attributes, then `__init__`) -/
def lossInit : List Stmt :=
  [(.ite (.atom .fGiven) [(.assign .hasEval (.atom .fEval))] [(.assign .hasEval (.atom .callOverridden))]),
   (.ite (.and (.atom .fGiven) (.and (.atom .fProx) (.atom .aIdentity))) [(.assign .hasProx .tt)] [(.assign .hasProx .ff)])]

/-- flag logic of `SquaredL2Loss` (class attributes, then `__init__`) -/
def sqL2Init : List Stmt :=
  [(.superLoss true),
   (.ite (.atom .aLinear) [(.assign .hasProx .tt)] [])]

/-- flag logic of `SquaredL2AbsLoss` (class attributes, then `__init__`) -/
def sqL2AbsInit : List Stmt :=
  [(.superLoss true),
   (.ite (.and (.atom .aIdentity) (.atom .yNonneg)) [(.assign .hasProx .tt)] [])]

/-- flag logic of `SquaredL2SquaredAbsLoss` (class attributes, then `__init__`) -/
def sqL2SqAbsInit : List Stmt :=
  [(.superLoss true),
   (.ite (.and (.atom .aIdentity) (.atom .yNonneg)) [(.assign .hasProx .tt)] [])]

/-- flag logic of `PoissonLoss` (class attributes, then `__init__`) -/
def poissonInit : List Stmt :=
  [(.superLoss true)]

def calls : List CallSite :=
  [⟨"Functional.conj_prox", "self.prox", ["v / lam", "1.0 / lam"], true⟩,
   ⟨"ScaledFunctional.prox", "self.functional.prox", ["v", "lam * self.scale"], true⟩,
   ⟨"SeparableFunctional.prox", "fi.prox", ["vi", "lam"], true⟩,
   ⟨"Loss.prox", "self.f.prox", ["v - self.y", "self.scale * lam"], true⟩,
   ⟨"SquaredL2Loss.prox", "cg", ["lhs", "rhs", "x0"], true⟩]

def defaults : List (String × String × String) :=
  [("Functional.prox", "lam", "1.0"),
   ("Functional.conj_prox", "lam", "1.0"),
   ("ScaledFunctional.prox", "lam", "1.0"),
   ("SeparableFunctional.prox", "lam", "1.0"),
   ("ZeroFunctional.prox", "lam", "1.0"),
   ("Loss.__init__", "A", "None"),
   ("Loss.__init__", "f", "None"),
   ("Loss.__init__", "scale", "1.0"),
   ("Loss.prox", "lam", "1"),
   ("SquaredL2Loss.default_prox_kwargs", "maxiter", "100"),
   ("SquaredL2Loss.default_prox_kwargs", "tol", "1e-05"),
   ("SquaredL2Loss.__init__", "A", "None"),
   ("SquaredL2Loss.__init__", "scale", "0.5"),
   ("SquaredL2Loss.__init__", "W", "None"),
   ("SquaredL2Loss.__init__", "prox_kwargs", "None"),
   ("SquaredL2Loss.prox", "lam", "1.0"),
   ("PoissonLoss.__init__", "A", "None"),
   ("PoissonLoss.__init__", "scale", "0.5"),
   ("SquaredL2AbsLoss.__init__", "A", "None"),
   ("SquaredL2AbsLoss.__init__", "scale", "0.5"),
   ("SquaredL2AbsLoss.__init__", "W", "None"),
   ("SquaredL2AbsLoss.prox", "lam", "1.0"),
   ("SquaredL2SquaredAbsLoss.__init__", "A", "None"),
   ("SquaredL2SquaredAbsLoss.__init__", "scale", "0.5"),
   ("SquaredL2SquaredAbsLoss.__init__", "W", "None"),
   ("SquaredL2SquaredAbsLoss.prox", "lam", "1.0"),
   ("L0Norm.prox", "lam", "1.0"),
   ("L1Norm.prox", "lam", "1.0"),
   ("SquaredL2Norm.prox", "lam", "1.0"),
   ("L2Norm.prox", "lam", "1.0"),
   ("L21Norm.__init__", "l2_axis", "0"),
   ("L21Norm._l2norm", "keepdims", "False"),
   ("L21Norm.prox", "lam", "1.0"),
   ("L1MinusL2Norm.__init__", "beta", "1.0"),
   ("L1MinusL2Norm.prox", "lam", "1.0"),
   ("HuberNorm.__init__", "delta", "1.0"),
   ("HuberNorm.__init__", "separable", "True"),
   ("HuberNorm._prox_sep", "lam", "1.0"),
   ("HuberNorm._prox_nonsep", "lam", "1.0"),
   ("HuberNorm.prox", "lam", "1.0"),
   ("NuclearNorm.prox", "lam", "1.0"),
   ("NonNegativeIndicator.prox", "lam", "1.0"),
   ("L2BallIndicator.__init__", "radius", "1"),
   ("L2BallIndicator.prox", "lam", "1.0"),
   ("TVNorm.__init__", "circular", "True"),
   ("TVNorm.__init__", "axes", "None"),
   ("TVNorm.__init__", "input_shape", "None"),
   ("TVNorm.__init__", "input_dtype", "snp.float32"),
   ("TVNorm._prox_core", "lam", "1.0"),
   ("TVNorm.prox", "lam", "1.0"),
   ("AnisotropicTVNorm.__init__", "circular", "False"),
   ("AnisotropicTVNorm.__init__", "axes", "None"),
   ("AnisotropicTVNorm.__init__", "input_shape", "None"),
   ("AnisotropicTVNorm.__init__", "input_dtype", "snp.float32"),
   ("IsotropicTVNorm.__init__", "circular", "False"),
   ("IsotropicTVNorm.__init__", "axes", "None"),
   ("IsotropicTVNorm.__init__", "input_shape", "None"),
   ("IsotropicTVNorm.__init__", "input_dtype", "snp.float32"),
   ("SingleAxisFiniteSum.__init__", "input_dtype", "snp.float32"),
   ("SingleAxisFiniteSum.__init__", "axis", "-1"),
   ("SingleAxisFiniteSum.__init__", "jit", "True"),
   ("FiniteSum.__init__", "input_dtype", "snp.float32"),
   ("FiniteSum.__init__", "axes", "None"),
   ("FiniteSum.__init__", "jit", "True"),
   ("SingleAxisHaarTransform.__init__", "input_dtype", "snp.float32"),
   ("SingleAxisHaarTransform.__init__", "axis", "-1"),
   ("SingleAxisHaarTransform.__init__", "jit", "True"),
   ("HaarTransform.__init__", "input_dtype", "snp.float32"),
   ("HaarTransform.__init__", "axes", "None"),
   ("HaarTransform.__init__", "jit", "True"),
   ("ProximalAverage.__init__", "alpha_list", "None"),
   ("ProximalAverage.__init__", "no_inf_eval", "True"),
   ("ProximalAverage.prox", "lam", "1.0"),
   ("metric.psnr", "signal_range", "None")]

def metrics : List (String × List String) :=
  [("mae", ["_flatten", "snp.abs", "snp.mean"]),
   ("mse", ["_flatten", "snp.abs", "snp.mean"]),
   ("snr", ["_flatten", "mse", "snp.log10", "snp.var"]),
   ("psnr", ["_flatten", "mse", "snp.abs", "snp.log10", "snp.max", "snp.min"]),
   ("isnr", ["mse", "snp.log10"]),
   ("bsnr", ["_flatten", "snp.log10", "snp.var"]),
   ("rel_res", ["max", "snp.linalg.norm"])]

def raises : List (String × List String) :=
  [("Functional.__call__", ["NotImplementedError"]),
   ("Functional.prox", ["NotImplementedError"]),
   ("SeparableFunctional.__call__", ["ValueError"]),
   ("SeparableFunctional.prox", ["ValueError"]),
   ("Loss.__call__", ["NotImplementedError"]),
   ("Loss.prox", ["NotImplementedError"]),
   ("SquaredL2Loss.__init__", ["ValueError", "TypeError"]),
   ("SquaredL2Loss.prox", ["NotImplementedError"]),
   ("SquaredL2Loss.hessian", ["NotImplementedError"]),
   ("SquaredL2AbsLoss.__init__", ["ValueError", "TypeError"]),
   ("SquaredL2AbsLoss.prox", ["NotImplementedError"]),
   ("SquaredL2SquaredAbsLoss.__init__", ["ValueError", "TypeError"]),
   ("SquaredL2SquaredAbsLoss.prox", ["NotImplementedError"]),
   ("L21Norm.__call__", ["ValueError"]),
   ("L21Norm.prox", ["ValueError"]),
   ("NuclearNorm.__call__", ["ValueError"]),
   ("NuclearNorm.prox", ["ValueError"]),
   ("ProximalAverage.__init__", ["ValueError", "ValueError"]),
   ("ProximalAverage.__call__", ["ValueError"])]

def returns : List (String × List String) :=
  [("Functional.conj_prox", ["v - lam * self.prox(v / lam, 1.0 / lam, **kwargs)"]),
   ("ScaledFunctional.__call__", ["self.scale * self.functional(x)"]),
   ("ScaledFunctional.prox", ["self.functional.prox(v, lam * self.scale, **kwargs)"]),
   ("SeparableFunctional.__call__", ["snp.sum(snp.array([fi(xi) for fi, xi in zip(self.functional_list, x)]))"]),
   ("SeparableFunctional.prox", ["snp.blockarray([fi.prox(vi, lam, **kwargs) for fi, vi in zip(self.functional_list, v)])"]),
   ("FunctionalSum.__call__", ["self.functional1(x) + self.functional2(x)"]),
   ("ZeroFunctional.__call__", ["0.0"]),
   ("ZeroFunctional.prox", ["v"]),
   ("Loss.__call__", ["self.scale * self.f(self.A(x) - self.y)"]),
   ("Loss.prox", ["self.f.prox(v - self.y, self.scale * lam, **kwargs) + self.y"]),
   ("SquaredL2Loss.__call__", ["self.scale * snp.sum(self.W.diagonal * snp.abs(self.y - self.A(x)) ** 2)"]),
   ("SquaredL2Loss.prox", ["lhs / (ATWA + 1.0)", "x"]),
   ("PoissonLoss.__call__", ["self.scale * snp.sum(Ax - self.y * snp.log(Ax) + self.const)"]),
   ("SquaredL2AbsLoss.__call__", ["self.scale * snp.sum(self.W.diagonal * snp.abs(self.y - snp.abs(self.A(x))) ** 2)"]),
   ("SquaredL2AbsLoss.prox", ["x"]),
   ("SquaredL2SquaredAbsLoss.__call__", ["self.scale * snp.sum(self.W.diagonal * snp.abs(self.y - snp.abs(self.A(x)) ** 2) ** 2)"]),
   ("SquaredL2SquaredAbsLoss.prox", ["x"]),
   ("L0Norm.__call__", ["count_nonzero(x)"]),
   ("L0Norm.prox", ["snp.where(snp.abs(v) >= lam, v, 0)"]),
   ("L1Norm.__call__", ["snp.sum(snp.abs(x))"]),
   ("L1Norm.prox", ["out"]),
   ("SquaredL2Norm.__call__", ["snp.sum(snp.abs(x) ** 2)"]),
   ("SquaredL2Norm.prox", ["v / (1.0 + 2.0 * lam)"]),
   ("L2Norm.__call__", ["norm(x)"]),
   ("L2Norm.prox", ["snp.where(norm_v == 0, 0 * v, snp.maximum(1 - lam / norm_v, 0) * v)"]),
   ("L21Norm._l2norm", ["snp.where(nz, snp.sqrt(snp.where(nz, l2sq, 1.0)), 0.0)"]),
   ("L21Norm.__call__", ["snp.sum(snp.abs(l2))"]),
   ("L21Norm.prox", ["new_length * direction"]),
   ("L1MinusL2Norm.__call__", ["snp.sum(snp.abs(x)) - self.beta * norm(x)"]),
   ("L1MinusL2Norm.prox", ["snp.blockarray(out)", "snp.where(vamx > 0.0, L1MinusL2Norm._prox_vamx_gt_0(v, va, vs, vamx, alpha, beta), u0)"]),
   ("HuberNorm._call_sep", ["snp.sum(hx)"]),
   ("HuberNorm._call_nonsep", ["lax.cond(snp.sqrt(xl2sq) <= self.delta, self._call_lt_branch, self._call_gt_branch, xl2sq, snp.asarray(self.delta, dtype=xl2sq.dtype))"]),
   ("HuberNorm.__call__", ["self._call(x)"]),
   ("HuberNorm.prox", ["self._prox(v, lam=lam, **kwargs)"]),
   ("NuclearNorm.__call__", ["snp.sum(snp.linalg.svd(x, full_matrices=False, compute_uv=False))"]),
   ("NuclearNorm.prox", ["svdU @ snp.diag(svdS) @ svdV"]),
   ("NonNegativeIndicator.__call__", ["jax.lax.cond(snp.any(x < 0), lambda x: snp.inf, lambda x: 0.0, None)"]),
   ("NonNegativeIndicator.prox", ["snp.maximum(v, 0)"]),
   ("L2BallIndicator.__call__", ["jax.lax.cond(norm(x) > self.radius, lambda x: snp.inf, lambda x: 0.0, None)"]),
   ("L2BallIndicator.prox", ["v * (self.radius / snp.maximum(norm(v), self.radius))"]),
   ("SetDistance.__call__", ["snp.where(nz, snp.sqrt(snp.where(nz, dsq, 1.0)), 0.0)"]),
   ("SetDistance.prox", ["θ * y + (1.0 - θ) * v"]),
   ("SquaredSetDistance.__call__", ["0.5 * snp.sum(snp.abs(x - y) ** 2)"]),
   ("SquaredSetDistance.prox", ["α * v + lam * α * y"]),
   ("TVNorm.__call__", ["self.norm(self.G @ x)"]),
   ("TVNorm.prox", ["u"]),
   ("ProximalAverage.__call__", ["sum(weight_func_vals)"]),
   ("ProximalAverage.prox", ["sum([alpha * f.prox(v, lam, **kwargs) for alpha, f in zip(self.alpha_list, self.func_list)])"]),
   ("metric.mae", ["snp.mean(snp.abs(_flatten(reference - comparison)))"]),
   ("metric.mse", ["snp.mean(snp.abs(_flatten(reference - comparison)) ** 2)"]),
   ("metric.snr", ["10.0 * snp.log10(rt)"]),
   ("metric.psnr", ["10.0 * snp.log10(rt)"]),
   ("metric.isnr", ["10.0 * snp.log10(rt)"]),
   ("metric.bsnr", ["10.0 * snp.log10(rt)"]),
   ("metric.rel_res", ["0.0", "snp.linalg.norm((b - ax).ravel()) / nrm"])]

def assigns : List (String × String × String) :=
  [("SquaredL2Loss.prox", "c", "2.0 * self.scale * lam"),
   ("SquaredL2Loss.prox", "A", "self.A.diagonal"),
   ("SquaredL2Loss.prox", "W", "self.W.diagonal"),
   ("SquaredL2Loss.prox", "lhs", "c * A.conj() * W * self.y + v"),
   ("SquaredL2Loss.prox", "ATWA", "c * A.conj() * W * A"),
   ("SquaredL2Loss.prox", "W", "self.W"),
   ("SquaredL2Loss.prox", "A", "self.A"),
   ("SquaredL2Loss.prox", "α", "self.scale"),
   ("SquaredL2Loss.prox", "y", "self.y"),
   ("SquaredL2Loss.prox", "x0", "kwargs['x0']"),
   ("SquaredL2Loss.prox", "x0", "snp.zeros_like(v)"),
   ("SquaredL2Loss.prox", "hessian", "self.hessian"),
   ("SquaredL2Loss.prox", "lhs", "linop.Identity(v.shape) + lam * hessian"),
   ("SquaredL2Loss.prox", "rhs", "v + 2 * lam * α * A.adj(W(y))"),
   ("SquaredL2Loss.hessian", "A", "self.A"),
   ("SquaredL2Loss.hessian", "W", "self.W"),
   ("SquaredL2Loss.hessian", "eval_fn", "lambda x: 2 * self.scale * A.adj(W(A(x)))"),
   ("SquaredL2Loss.hessian", "adj_fn", "lambda x: 2 * self.scale * A.adj(W(A(x)))")]

def decorators : List (String × List String) :=
  [("Functional.__call__", []),
   ("Functional.prox", []),
   ("Functional.conj_prox", []),
   ("ScaledFunctional.__call__", []),
   ("ScaledFunctional.prox", []),
   ("SeparableFunctional.__call__", []),
   ("SeparableFunctional.prox", []),
   ("FunctionalSum.__call__", []),
   ("ZeroFunctional.__call__", []),
   ("ZeroFunctional.prox", []),
   ("Loss.__call__", []),
   ("Loss.prox", []),
   ("SquaredL2Loss.__call__", []),
   ("SquaredL2Loss.prox", []),
   ("PoissonLoss.__call__", []),
   ("SquaredL2AbsLoss.__call__", []),
   ("SquaredL2AbsLoss.prox", []),
   ("SquaredL2SquaredAbsLoss.__call__", []),
   ("SquaredL2SquaredAbsLoss.prox", []),
   ("L0Norm.__call__", []),
   ("L0Norm.prox", ["staticmethod", "jit"]),
   ("L1Norm.__call__", []),
   ("L1Norm.prox", ["staticmethod"]),
   ("SquaredL2Norm.__call__", []),
   ("SquaredL2Norm.prox", []),
   ("L2Norm.__call__", []),
   ("L2Norm.prox", []),
   ("L21Norm.__call__", []),
   ("L21Norm.prox", []),
   ("L1MinusL2Norm.__call__", []),
   ("L1MinusL2Norm._prox_vamx_ge_thresh", ["staticmethod"]),
   ("L1MinusL2Norm._prox_vamx_le_alpha", ["staticmethod"]),
   ("L1MinusL2Norm._prox_vamx_gt_alpha", ["staticmethod"]),
   ("L1MinusL2Norm._prox_vamx_gt_0", ["staticmethod"]),
   ("L1MinusL2Norm.prox", []),
   ("HuberNorm._call_sep", []),
   ("HuberNorm._call_nonsep", []),
   ("HuberNorm.__call__", []),
   ("HuberNorm._prox_sep", []),
   ("HuberNorm._prox_nonsep", []),
   ("HuberNorm.prox", []),
   ("NuclearNorm.__call__", []),
   ("NuclearNorm.prox", []),
   ("NonNegativeIndicator.__call__", []),
   ("NonNegativeIndicator.prox", []),
   ("L2BallIndicator.__call__", []),
   ("L2BallIndicator.prox", []),
   ("SetDistance.__call__", []),
   ("SetDistance.prox", []),
   ("SquaredSetDistance.__call__", []),
   ("SquaredSetDistance.prox", []),
   ("TVNorm._call_operator", []),
   ("TVNorm.__call__", []),
   ("TVNorm._prox_operators", []),
   ("TVNorm._prox_core", ["staticmethod", "partial(jax.jit, static_argnums=(0, 1, 2, 4))"]),
   ("TVNorm.prox", []),
   ("ProximalAverage.__call__", []),
   ("ProximalAverage.prox", [])]

def proxClasses : List String := ["Functional", "ScaledFunctional", "SeparableFunctional", "ZeroFunctional", "Loss", "SquaredL2Loss", "SquaredL2AbsLoss", "SquaredL2SquaredAbsLoss"]
def lossClasses : List String := ["SquaredL2Loss", "PoissonLoss", "SquaredL2AbsLoss", "SquaredL2SquaredAbsLoss"]

/-- the constructors compute the flags the model assumes, on every valuation of the conditions they test -/
theorem scaled_flags_ok : checkFlags lossInit scaledInit [.innerEval, .innerProx, .scaleReal, .scalePos, .tracer] expectScaled = true := by decide +kernel
theorem separable_flags_ok : checkFlags lossInit separableInit [.allEval, .allProx] expectSep = true := by decide +kernel
theorem sum_flags_ok : checkFlags lossInit sumInit [.f1Eval, .f2Eval] expectSum = true := by decide +kernel
theorem zero_flags_ok : checkFlags lossInit zeroAttrs [] (fun _ => some (some true, some true)) = true := by decide +kernel
theorem loss_flags_ok : checkFlags lossInit lossInit [.fGiven, .fEval, .fProx, .aIdentity, .aLinear, .callOverridden] expectLoss = true := by decide +kernel
theorem sqL2_flags_ok : checkFlags lossInit sqL2Init [.aIdentity, .aLinear, .yNonneg] (expectCls .sqL2) = true := by decide +kernel
theorem sqL2Abs_flags_ok : checkFlags lossInit sqL2AbsInit [.aIdentity, .aLinear, .yNonneg] (expectCls .sqL2Abs) = true := by decide +kernel
theorem sqL2SqAbs_flags_ok : checkFlags lossInit sqL2SqAbsInit [.aIdentity, .aLinear, .yNonneg] (expectCls .sqL2SqAbs) = true := by decide +kernel
theorem poisson_flags_ok : checkFlags lossInit poissonInit [.aIdentity, .aLinear, .yNonneg] (expectCls .poisson) = true := by decide +kernel

/-- the `prox` forwarding sites are the modelled ones: same callee, same argument expressions, `**kwargs` passed on -/
theorem calls_ok : calls = expectedCalls := rfl

/-- defaults assumed by model and harness are the defaults of the source -/
theorem defaults_ok : subsetOf expectedDefaults defaults = true := subsetOf_of_pick [7, 5, 6, 12, 13, 14, 9, 10, 19, 23, 17, 0, 1, 2, 3, 8, 15, 30, 35, 36, 33, 42, 44, 45, 70, 71, 73] rfl

/-- the metric functions and the reductions they are built from -/
theorem metrics_ok : metrics = expectedMetrics := rfl

/-- the modelled argument checks raise the modelled exception classes -/
theorem raises_ok : subsetOf expectedRaises raises = true := subsetOf_of_pick [0, 1, 2, 3, 4, 5, 6, 7, 8, 9, 10, 11, 12, 13, 15, 17, 18] rfl

/-- the formulas the model transcribes are the formulas of the source: `return` expressions of every evaluation / prox method
    of the modelled classes and of the metrics, and the local formulas of `SquaredL2Loss.prox` / `hessian` -/
theorem returns_ok : subsetOf expectedReturns returns = true := subsetOf_of_pick [0, 1, 2, 3, 4, 5, 6, 7, 8, 9, 10, 11, 12, 13, 15, 17, 19, 21, 22, 23, 24, 25, 26, 28, 30, 31, 32, 34, 36, 37, 38, 40, 42, 44, 46, 47, 48, 49, 50, 51, 52, 53, 54] rfl
theorem assigns_ok : subsetOf expectedAssigns assigns = true := subsetOf_of_pick [0, 1, 2, 3, 4, 5, 6, 7, 8, 9, 10, 11, 12, 13, 14, 15, 16, 17] rfl

/-- the evaluation / prox methods carry exactly the pinned decorators (none, except the static / jitted leaf proxes): a new
    decorator (e.g. `jax.jit` with `self` static, which freezes attribute values) breaks this obligation -/
theorem decorators_ok : decorators = expectedDecorators := rfl

/-- no other class of `_functional.py` / `loss.py` defines its own `prox`; the loss classes are the modelled ones -/
theorem classes_ok : proxClasses = expectedProxClasses ∧ lossClasses = expectedLossClasses := ⟨rfl, rfl⟩

end Scico.Generated.ProxCalcTables
