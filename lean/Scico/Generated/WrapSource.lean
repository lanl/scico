/- GENERATED by harness/block_translate.py (ast) from the working tree of scico — rewritten on every run, do not edit. -/
import Scico.Proofs.WrapSource

namespace Scico.Generated.WrapSource

/-- normalised decision structure of the functions the model transcribes: (file:function, lines) -/
def source : List (String × List String) :=
  [
    ("scico/solver.py:_ravel",
     ["def _ravel(x):",
      "  if isinstance(x, BlockArray):",
      "    return jnp.concatenate([jnp.ravel(blk) for blk in x])",
      "  return jnp.ravel(x)"]),
    ("scico/solver.py:_unravel",
     ["def _unravel(x, shape):",
      "  if snp.util.is_nested(shape):",
      "    idx = np.cumsum([prod(s) for s in shape])[:-1]",
      "    return snp.blockarray([jnp.reshape(blk, s) for blk, s in zip(jnp.split(x, idx), shape)])",
      "  return jnp.reshape(x, shape)"]),
    ("scico/solver.py:_wrap_func",
     ["def _wrap_func(func, shape, dtype):",
      "  val_func = jax.jit(func)",
      "  @wraps(func)",
      "  def wrapper(x, *args):",
      "    val = val_func(_unravel(x, shape).astype(dtype), *args)",
      "    val = np.array(val).astype(float)",
      "    val = val.item() if val.ndim == 0 else val[0].item()",
      "    return val",
      "  return wrapper"]),
    ("scico/solver.py:_wrap_func_and_grad",
     ["def _wrap_func_and_grad(func, shape, dtype):",
      "  val_grad_func = jax.jit(jax.value_and_grad(func, argnums=0))",
      "  @wraps(func)",
      "  def wrapper(x, *args):",
      "    val, grad = val_grad_func(_unravel(x, shape).astype(dtype), *args)",
      "    val = np.array(val).astype(float).item()",
      "    grad = np.array(_ravel(grad)).astype(float)",
      "    return (val, grad)",
      "  return wrapper"]),
    ("scico/solver.py:_split_real_imag",
     ["def _split_real_imag(x):",
      "  if isinstance(x, BlockArray):",
      "    return snp.blockarray([_split_real_imag(_) for _ in x])",
      "  return snp.stack((snp.real(x), snp.imag(x)))"]),
    ("scico/solver.py:_join_real_imag",
     ["def _join_real_imag(x):",
      "  if isinstance(x, BlockArray):",
      "    return snp.blockarray([_join_real_imag(_) for _ in x])",
      "  return x[0] + 1j * x[1]"]),
    ("scico/solver.py:minimize",
     ["def minimize(func, x0, args=(), method='L-BFGS-B', hess=None, hessp=None, bounds=None, constraints=(), tol=None, callback=None, options=None):",
      "  if not jnp.issubdtype(x0.dtype, jnp.inexact):",
      "    raise TypeError",
      "  if snp.util.is_complex_dtype(x0.dtype):",
      "    iscomplex = True",
      "    func_ = lambda x, *args: func(_join_real_imag(x), *args)",
      "    x0 = _split_real_imag(x0)",
      "  else:",
      "    iscomplex = False",
      "    func_ = func",
      "  x0_shape = x0.shape",
      "  x0_dtype = x0.dtype",
      "  x0 = _ravel(x0)",
      "  if isinstance(method, str) and method.lower() in 'cg, bfgs, newton-cg, l-bfgs-b, tnc, slsqp, dogleg, trust-ncg, trust-krylov, trust-exact, trust-constr'.split(', '):",
      "    min_func = _wrap_func_and_grad(func_, x0_shape, x0_dtype)",
      "    jac = True",
      "  else:",
      "    min_func = _wrap_func(func_, x0_shape, x0_dtype)",
      "    jac = False",
      "  res = spopt.OptimizeResult({'x': None})",
      "  def fun(x0):",
      "    nonlocal res",
      "    res = spopt.minimize(min_func, x0=np.asarray(x0, dtype=float), args=args, jac=jac, method=method, hess=hess, hessp=hessp, bounds=bounds, constraints=constraints, tol=tol, callback=callback, options=options)",
      "    return res.x.astype(x0_dtype)",
      "  res.x = jax.pure_callback(fun, jax.ShapeDtypeStruct(x0.shape, x0_dtype), x0)",
      "  res.x = _unravel(res.x, x0_shape)",
      "  if iscomplex:",
      "    res.x = _join_real_imag(res.x)",
      "  return res"]),
    ("scico/solver.py:minimize_scalar",
     ["def minimize_scalar(func, bracket=None, bounds=None, args=(), method=None, tol=None, options=None):",
      "  def f(x, *args):",
      "    y = func(x, *args)",
      "    return y.item() if y.ndim == 0 else y[0].item()",
      "  res = spopt.minimize_scalar(fun=f, bracket=bracket, bounds=bounds, args=args, method=method, tol=tol, options=options)",
      "  return res"])
  ]

/-- the code is the code the model was written against: every listed body equals its pinned skeleton -/
theorem source_ok : Scico.Source.check source Scico.Wrap.Source.pinned = true := Scico.Source.check_self _

end Scico.Generated.WrapSource
