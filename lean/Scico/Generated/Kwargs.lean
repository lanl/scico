/- GENERATED by harness/translate_kwargs.py from scico/solver.py (ast) and inspect.signature of
   scipy.optimize.minimize / minimize_scalar — rewritten on every run, do not edit. -/
import Scico.Proofs.WrapKwargs

namespace Scico.Generated.Kwargs
open Scico.Wrap.Kwargs

def minimize : FnTable :=
  { accepted := ["func", "x0", "args", "method", "hess", "hessp", "bounds", "constraints", "tol", "callback", "options"]
    forwarded := ["func", "x0", "args", "method", "hess", "hessp", "bounds", "constraints", "tol", "callback", "options"]
    rejected := ["x0"]
    verbatim := [("args", "args"), ("method", "method"), ("hess", "hess"), ("hessp", "hessp"), ("bounds", "bounds"), ("constraints", "constraints"), ("tol", "tol"), ("callback", "callback"), ("options", "options")]
    callKeywords := ["x0", "args", "jac", "method", "hess", "hessp", "bounds", "constraints", "tol", "callback", "options"]
    callExprs := [("#0", "min_func"), ("x0", "np.asarray(x0, dtype=float)"), ("args", "args"), ("jac", "jac"), ("method", "method"), ("hess", "hess"), ("hessp", "hessp"), ("bounds", "bounds"), ("constraints", "constraints"), ("tol", "tol"), ("callback", "callback"), ("options", "options")]
    scipyParams := ["fun", "x0", "args", "method", "jac", "hess", "hessp", "bounds", "constraints", "tol", "callback", "options"]
    defaults := [("args", "()"), ("method", "'L-BFGS-B'"), ("hess", "None"), ("hessp", "None"), ("bounds", "None"), ("constraints", "()"), ("tol", "None"), ("callback", "None"), ("options", "None")]
    scipyDefaults := [("args", "()"), ("method", "None"), ("jac", "None"), ("hess", "None"), ("hessp", "None"), ("bounds", "None"), ("constraints", "()"), ("tol", "None"), ("callback", "None"), ("options", "None")] }

def minimizeScalar : FnTable :=
  { accepted := ["func", "bracket", "bounds", "args", "method", "tol", "options"]
    forwarded := ["func", "bracket", "bounds", "args", "method", "tol", "options"]
    rejected := []
    verbatim := [("bracket", "bracket"), ("bounds", "bounds"), ("args", "args"), ("method", "method"), ("tol", "tol"), ("options", "options")]
    callKeywords := ["fun", "bracket", "bounds", "args", "method", "tol", "options"]
    callExprs := [("fun", "f"), ("bracket", "bracket"), ("bounds", "bounds"), ("args", "args"), ("method", "method"), ("tol", "tol"), ("options", "options")]
    scipyParams := ["fun", "bracket", "bounds", "args", "method", "tol", "options"]
    defaults := [("bracket", "None"), ("bounds", "None"), ("args", "()"), ("method", "None"), ("tol", "None"), ("options", "None")]
    scipyDefaults := [("bracket", "None"), ("bounds", "None"), ("args", "()"), ("method", "None"), ("tol", "None"), ("options", "None")] }

def gradMethodsCode : List String := ["cg", "bfgs", "newton-cg", "l-bfgs-b", "tnc", "slsqp", "dogleg", "trust-ncg", "trust-krylov", "trust-exact", "trust-constr"]
def gradMethodsCodeLower : List String := ["cg", "bfgs", "newton-cg", "l-bfgs-b", "tnc", "slsqp", "dogleg", "trust-ncg", "trust-krylov", "trust-exact", "trust-constr"]
def scipyMethodsInstalled : List String := ["nelder-mead", "powell", "cg", "bfgs", "newton-cg", "l-bfgs-b", "tnc", "cobyla", "cobyqa", "slsqp", "trust-constr", "dogleg", "trust-ncg", "trust-exact", "trust-krylov"]

/-- the code's gradient-method list is the modelled one, and (lower-cased) it is exactly the set of
    scipy solvers that take a gradient -/
theorem gradMethods_ok : checkGrad gradMethodsCodeLower scipyMethodsInstalled = true := by decide +kernel

/-- no accepted keyword is silently ignored; the pass-through keywords are passed verbatim;
    every keyword passed on exists in scipy (meaning: `Scico.Wrap.Kwargs.checkFn_sound`) -/
theorem minimize_ok : checkFn minimize expectedVerbatimMinimize = true := by decide +kernel
theorem minimizeScalar_ok : checkFn minimizeScalar expectedVerbatimScalar = true := by decide +kernel

/-- omitted pass-through parameters mean what they mean in scipy: the defaults agree (except `minimize(method=)`,
    meaning: `Scico.Wrap.Kwargs.checkDefaults_sound`) -/
theorem minimizeDefaults_ok : checkDefaults minimize allowedDefaultDiffMinimize = true := by decide +kernel
theorem minimizeScalarDefaults_ok : checkDefaults minimizeScalar [] = true := by decide +kernel

end Scico.Generated.Kwargs
