/- GENERATED by harness/adjoint_translate.py from scico/linop/**, scico/operator/_operator.py, scico/operator/_stack.py,
   scico/_autograd.py, scico/functional/_tvnorm.py (ast) — rewritten on every run, do not edit. -/
import Scico.Proofs.AdjointTables

namespace Scico.Generated.AdjointTables
open Scico.AdjointTables

/-- (file, class, bases, adjoint-relevant methods / properties defined in the class, how its adjoint comes about) -/
def overrides : List (String × String × String × String × String) := [
  ("linop/_linop.py", "LinearOperator", "Operator", "adj T H conj gram_op gram __call__ __add__ __sub__ __mul__ __rmul__ __truediv__ __matmul__ __rmatmul__", "method"),
  ("linop/_linop.py", "ComposedLinearOperator", "LinearOperator", "", "adj_fn"),
  ("linop/_matrix.py", "MatrixOperator", "LinearOperator", "adj T H conj gram_op gram _eval __call__ __add__ __sub__ __radd__ __rsub__ __mul__ __rmul__ __truediv__ __rtruediv__ __neg__", "method"),
  ("linop/_diag.py", "Diagonal", "LinearOperator", "T H conj gram_op _eval __add__ __sub__ __mul__ __truediv__ __matmul__", "derived"),
  ("linop/_diag.py", "ScaledIdentity", "Diagonal", "conj gram_op __add__ __sub__ __mul__ __truediv__ __matmul__", "derived"),
  ("linop/_diag.py", "Identity", "ScaledIdentity", "conj gram_op _eval __matmul__ __rmatmul__", "derived"),
  ("linop/_stack.py", "VerticalStack", "VerticalStackOperator LinearOperator", "_adj", "method"),
  ("linop/_stack.py", "DiagonalStack", "DiagonalStackOperator LinearOperator", "_adj", "method"),
  ("linop/_stack.py", "DiagonalReplicated", "DiagonalReplicatedOperator LinearOperator", "", "assign"),
  ("linop/_circconv.py", "CircularConvolve", "LinearOperator", "_adj _eval __add__ __sub__ __mul__ __truediv__", "method"),
  ("linop/_convolve.py", "Convolve", "LinearOperator", "_eval __add__ __sub__ __mul__ __truediv__", "derived"),
  ("linop/_convolve.py", "ConvolveByX", "LinearOperator", "_eval __add__ __sub__ __mul__ __truediv__", "derived"),
  ("linop/_dft.py", "DFT", "LinearOperator", "_eval", "derived"),
  ("linop/_diff.py", "FiniteDifference", "VerticalStack", "", "derived"),
  ("linop/_diff.py", "SingleAxisFiniteDifference", "LinearOperator", "_eval", "derived"),
  ("linop/_func.py", "Crop", "LinearOperator", "", "derived"),
  ("linop/_func.py", "Slice", "LinearOperator", "_eval", "derived"),
  ("linop/_grad.py", "ProjectedGradient", "LinearOperator", "_eval", "derived"),
  ("linop/_grad.py", "PolarGradient", "ProjectedGradient", "", "derived"),
  ("linop/_grad.py", "CylindricalGradient", "ProjectedGradient", "", "derived"),
  ("linop/_grad.py", "SphericalGradient", "ProjectedGradient", "", "derived"),
  ("linop/abel.py", "AbelTransform", "LinearOperator", "_adj _eval", "method"),
  ("linop/optics.py", "Propagator", "LinearOperator", "_eval", "derived"),
  ("linop/optics.py", "AngularSpectrumPropagator", "Propagator", "", "derived"),
  ("linop/optics.py", "FresnelPropagator", "Propagator", "", "derived"),
  ("linop/optics.py", "FraunhoferPropagator", "LinearOperator", "_eval", "derived"),
  ("linop/xray/_xray.py", "XRayTransform2D", "LinearOperator", "", "adj_fn"),
  ("linop/xray/_xray.py", "XRayTransform3D", "LinearOperator", "", "adj_fn"),
  ("functional/_tvnorm.py", "SingleAxisFiniteSum", "LinearOperator", "_eval", "derived"),
  ("functional/_tvnorm.py", "FiniteSum", "VerticalStack", "", "derived"),
  ("functional/_tvnorm.py", "SingleAxisHaarTransform", "VerticalStack", "", "derived"),
  ("functional/_tvnorm.py", "HaarTransform", "VerticalStack", "", "derived")]

/-- (file, operator made by `linop_from_function`, the function) -/
def factories : List (String × String × String) := [
  ("_func.py", "Transpose", "snp.transpose"),
  ("_func.py", "Reshape", "snp.reshape"),
  ("_func.py", "Pad", "_linear_pad"),
  ("_func.py", "Sum", "_linear_sum")]

/-- (derived constructor of _linop.py, [input_shape, output_shape, eval_fn, adj_fn, input_dtype, output_dtype] as written) -/
def closures : List (String × List String) := [
  ("LinearOperator.__add__#0", ["self.input_shape", "self.output_shape", "lambda x: self(x) + other(x)", "lambda x: self.adj(x) + other.adj(x)", "self.input_dtype", "result_type(self.output_dtype, other.output_dtype)"]),
  ("LinearOperator.__sub__#0", ["self.input_shape", "self.output_shape", "lambda x: self(x) - other(x)", "lambda x: self.adj(x) - other.adj(x)", "self.input_dtype", "result_type(self.output_dtype, other.output_dtype)"]),
  ("LinearOperator.__mul__#0", ["self.input_shape", "self.output_shape", "lambda x: other * self(x)", "lambda x: self.adj(self._to_output_space(snp.conj(other) * x))", "self.input_dtype", "result_type(self.output_dtype, other)"]),
  ("LinearOperator.__truediv__#0", ["self.input_shape", "self.output_shape", "lambda x: self(x) / other", "lambda x: self.adj(self._to_output_space(x / snp.conj(other)))", "self.input_dtype", "result_type(self.output_dtype, other)"]),
  ("LinearOperator.T#0", ["self.output_shape", "self.input_shape", "self.adj", "self.__call__", "self.output_dtype", "self.input_dtype"]),
  ("LinearOperator.T#1", ["self.output_shape", "self.input_shape", "lambda x: self.adj(x.conj()).conj()", "lambda x: self(x.conj()).conj()", "self.output_dtype", "self.input_dtype"]),
  ("LinearOperator.H#0", ["self.output_shape", "self.input_shape", "self.adj", "self.__call__", "self.output_dtype", "self.input_dtype"]),
  ("LinearOperator.conj#0", ["self.input_shape", "self.output_shape", "lambda x: self(x.conj()).conj()", "lambda x: self.adj(x.conj()).conj()", "self.input_dtype", "self.output_dtype"]),
  ("LinearOperator.gram_op#0", ["self.input_shape", "self.input_shape", "self.gram", "self.gram", "self.input_dtype", "self.input_dtype"]),
  ("ComposedLinearOperator.__init__", ["self.B.input_shape", "self.A.output_shape", "lambda x: self.A(self.B(x))", "lambda z: self.B.adj(self.A.adj(z))", "self.B.input_dtype", "self.A.output_dtype"]),
  ("ComposedLinearOperator.__init__ tests", ["not isinstance(A, LinearOperator)", "not isinstance(B, LinearOperator)", "A.input_shape != B.output_shape", "A.input_dtype != B.output_dtype", "-", "-"])]

/-- `scico.linear_adjoint`: (test, function that is transposed, primals) per branch, then the return -/
def branches : List (String × String × String) := [
  ("def conj_fun", "conj_primals = tree_map(jax.numpy.conj, primals) ; return tree_map(jax.numpy.conj, fun(*conj_primals))", ""),
  ("any([jnp.iscomplexobj(_) for _ in primals])", "conj_fun", "tree_map(jax.numpy.conj, primals)"),
  ("jnp.iscomplexobj(fun(*primals))", "conj_fun", "primals"),
  ("else", "fun", "primals"),
  ("return", "jax.linear_transpose(_fun, *_primals)", "")]

/-- (method the model follows line by line, number of normalised statements, digest of them) -/
def bodies : List (String × Nat × String) := [
  ("linop/_linop.py:LinearOperator.adj", 10, "fb2047651595aabb"),
  ("linop/_linop.py:LinearOperator._set_adjoint", 3, "9e936d976f3ed3f3"),
  ("linop/_linop.py:LinearOperator._to_output_space", 3, "17ec7de1be4cfdf3"),
  ("linop/_linop.py:LinearOperator.__rmatmul__", 5, "0440806c3997624c"),
  ("linop/_linop.py:LinearOperator.__call__", 3, "cc76262c441e8ac5"),
  ("linop/_linop.py:LinearOperator.gram", 4, "cd0e1294cad1b607"),
  ("linop/_linop.py:_wrap_add_sub", 20, "8056ba241e8224cd"),
  ("operator/_operator.py:Operator.__call__", 7, "006f017621bd34a9"),
  ("operator/_operator.py:Operator.__neg__", 1, "f6fe84a674f63653"),
  ("operator/_operator.py:Operator.vjp", 8, "e8b359c0a960e4ec"),
  ("linop/_stack.py:VerticalStack._adj", 1, "858f69f77cacb9f8"),
  ("linop/_stack.py:DiagonalStack._adj", 4, "1763749cb48ce945"),
  ("linop/_stack.py:DiagonalReplicated.__init__", 4, "1fd5e4704b2b6923"),
  ("operator/_stack.py:collapse_shapes", 5, "520612d43e57bec5"),
  ("operator/_stack.py:is_collapsible", 1, "31a9e18194117a7b"),
  ("operator/_stack.py:VerticalStack.check_if_stackable", 13, "6e6a7e5c0aad4082"),
  ("operator/_stack.py:VerticalStack._eval", 3, "afc534c39b7ded6c"),
  ("operator/_stack.py:DiagonalStack.check_if_stackable", 10, "b10d419eb75c2bb3"),
  ("operator/_stack.py:DiagonalStack._eval", 4, "d8355ad6245170e0"),
  ("linop/_matrix.py:MatrixOperator.adj", 3, "75979f28f222076f"),
  ("linop/_matrix.py:MatrixOperator._eval", 1, "72067a1a80db56de"),
  ("linop/_matrix.py:MatrixOperator.__call__", 13, "6d2c314c7781e0c1"),
  ("linop/_matrix.py:MatrixOperator.T", 1, "6a685920794d10fe"),
  ("linop/_matrix.py:MatrixOperator.H", 1, "4f532e03e8854e89"),
  ("linop/_matrix.py:MatrixOperator.conj", 1, "0bfbff13e0dd942a"),
  ("linop/_matrix.py:MatrixOperator.gram_op", 1, "75abd0cd3950136e"),
  ("linop/_matrix.py:_wrap_add_sub_matrix", 22, "2cebbf95ae367161"),
  ("linop/_diag.py:Diagonal._eval", 1, "250bcbae5e52c4e8"),
  ("linop/_diag.py:Diagonal.T", 3, "f0826a2e23b9999a"),
  ("linop/_diag.py:Diagonal.H", 3, "e02d9e0f2853f323"),
  ("linop/_diag.py:Diagonal.conj", 1, "8c3e34cff6d5fa8a"),
  ("linop/_diag.py:Diagonal.gram_op", 3, "eda966c7fcb4f14d"),
  ("linop/_diag.py:Diagonal.__add__", 3, "5d331493dd153587"),
  ("linop/_diag.py:Diagonal.__sub__", 3, "c02a40531b90a2e3"),
  ("linop/_diag.py:Diagonal.__mul__", 1, "d865135fbecaa817"),
  ("linop/_diag.py:Diagonal.__truediv__", 1, "0cc7e0caac0b6f34"),
  ("linop/_diag.py:Diagonal.__matmul__", 6, "5d34c253ed436ae4"),
  ("linop/_diag.py:ScaledIdentity.conj", 1, "401d049213184745"),
  ("linop/_diag.py:ScaledIdentity.gram_op", 1, "a3b18c07591cec88"),
  ("linop/_circconv.py:CircularConvolve._eval", 6, "4c15800d7108ec0b"),
  ("linop/_circconv.py:CircularConvolve._adj", 9, "67539848f63e3537"),
  ("linop/xray/_xray.py:XRayTransform2D._project", 7, "e6eca95eee6ec033"),
  ("linop/xray/_xray.py:XRayTransform2D._back_project", 8, "569ea09e0259a62e"),
  ("linop/xray/_xray.py:XRayTransform3D._project", 8, "64c4f993247b41eb"),
  ("linop/xray/_xray.py:XRayTransform3D._project_single", 10, "0b87e89b928520d0"),
  ("linop/xray/_xray.py:XRayTransform3D._back_project", 12, "c973af47b89f2b27"),
  ("linop/xray/_xray.py:XRayTransform3D._back_project_single", 12, "6ef292a2a9d4cc62"),
  ("linop/_util.py:jacobian", 11, "c2b0492bcabdfb40")]

/- the normalised statements behind the digests (for reading a diff; not part of an obligation):
   == linop/_linop.py:LinearOperator.adj
      if self._adj is None
        self._set_adjoint()
      if isinstance(y, LinearOperator)
        return ComposedLinearOperator(self.H, y)
      if self.output_dtype != y.dtype
        raise ValueError
      if self.output_shape != y.shape
        raise ValueError
      assert self._adj is not None
      return self._adj(y)
   == linop/_linop.py:LinearOperator._set_adjoint
      with jax.ensure_compile_time_eval()
        adj_fun = linear_adjoint(self.__call__, snp.zeros(self.input_shape, dtype=self.input_dtype))
      self._adj = lambda x: adj_fun(x)[0]
   == linop/_linop.py:LinearOperator._to_output_space
      if not is_complex_dtype(self.output_dtype) and snp.iscomplexobj(y)
        y = y.real
      return y.astype(self.output_dtype)
   == linop/_linop.py:LinearOperator.__rmatmul__
      if isinstance(other, LinearOperator)
        return other(self)
      if isinstance(other, (np.ndarray, jnp.ndarray))
        return self.adj(other.conj().T).conj().T
      raise NotImplementedError
   == linop/_linop.py:LinearOperator.__call__
      if isinstance(x, LinearOperator)
        return ComposedLinearOperator(self, x)
      return super().__call__(x)
   == linop/_linop.py:LinearOperator.gram
      if self._gram is None
        self._set_gram()
      assert self._gram is not None
      return self._gram(x)
   == linop/_linop.py:_wrap_add_sub
      def wrapper(a: LinearOperator, b: Union[Operator, LinearOperator])
        if isinstance(b, Operator)
          if a.shape == b.shape
            if isinstance(b, type(a))
              return func(a, b)
            if isinstance(a, type(b))
              if hasattr(getattr(type(b), func.__name__), '_unwrapped')
                uwfunc = getattr(type(b), func.__name__)._unwrapped
              else
                uwfunc = getattr(type(b), func.__name__)
              return uwfunc(a, b)
            if isinstance(b, LinearOperator)
              uwfunc = getattr(LinearOperator, func.__name__)._unwrapped
              return uwfunc(a, b)
            uwfunc = getattr(Operator, func.__name__)
            return uwfunc(a, b)
          raise ValueError
        raise TypeError
      wrapper._unwrapped = func
      return wrapper
   == operator/_operator.py:Operator.__call__
      if isinstance(x, Operator)
        if self.input_shape == x.output_shape
          return Operator(input_shape=x.input_shape, output_shape=self.output_shape, eval_fn=lambda z: self(x(z)), input_dtype=x.input_dtype, output_dtype=self.output_dtype)
        raise ValueError
      if self.input_shape != x.shape
        raise ValueError
      return self._eval(x)
   == operator/_operator.py:Operator.__neg__
      return -1.0 * self
   == operator/_operator.py:Operator.vjp
      Fu, G = jax.vjp(self, u)
      if conjugate
        def Gmap(v)
          return G(v.conj())[0].conj()
      else
        def Gmap(v)
          return G(v)[0]
      return (Fu, Gmap)
   == linop/_stack.py:VerticalStack._adj
      return sum([op.adj(y_block) for y_block, op in zip(y, self.ops)])
   == linop/_stack.py:DiagonalStack._adj
      result = tuple((op.adj(y_n) for op, y_n in zip(self.ops, y)))
      if self.collapse_input
        return snp.stack(result)
      return snp.blockarray(result)
   == linop/_stack.py:DiagonalReplicated.__init__
      if not isinstance(op, LinearOperator)
        raise TypeError
      super().__init__(op, replicates, input_axis=input_axis, output_axis=output_axis, map_type=map_type, **kwargs)
      self._adj = self.jaxmap(op.adj, in_axes=self.output_axis, out_axes=self.input_axis)
   == operator/_stack.py:collapse_shapes
      if is_collapsible(shapes) and allow_collapse
        return ((len(shapes), *shapes[0]), True)
      if is_blockable(shapes)
        return (shapes, False)
      raise ValueError
   == operator/_stack.py:is_collapsible
      return not is_nested(shapes[0]) and all((s == shapes[0] for s in shapes))
   == operator/_stack.py:VerticalStack.check_if_stackable
      if not isinstance(ops, (list, tuple))
        raise TypeError
      input_shapes = [op.shape[1] for op in ops]
      if not all((input_shapes[0] == s for s in input_shapes))
        raise ValueError
      input_dtypes = [op.input_dtype for op in ops]
      if not all((input_dtypes[0] == s for s in input_dtypes))
        raise ValueError
      if any([is_nested(op.shape[0]) for op in ops])
        raise ValueError
      output_dtypes = [op.output_dtype for op in ops]
      if not all((output_dtypes[0] == s for s in output_dtypes))
        raise ValueError
   == operator/_stack.py:VerticalStack._eval
      if self.output_collapsible and self.collapse_output
        return snp.stack([op(x) for op in self.ops])
      return BlockArray([op(x) for op in self.ops])
   == operator/_stack.py:DiagonalStack.check_if_stackable
      if not isinstance(ops, (list, tuple))
        raise TypeError
      if any([is_nested(op.shape[0]) for op in ops])
        raise ValueError
      input_dtypes = [op.input_dtype for op in ops]
      if not all((input_dtypes[0] == s for s in input_dtypes))
        raise ValueError
      output_dtypes = [op.output_dtype for op in ops]
      if not all((output_dtypes[0] == s for s in output_dtypes))
        raise ValueError
   == operator/_stack.py:DiagonalStack._eval
      result = tuple((op(x_n) for op, x_n in zip(self.ops, x)))
      if self.collapse_output
        return snp.stack(result)
      return snp.blockarray(result)
   == linop/_matrix.py:MatrixOperator.adj
      if not isinstance(y, Operator) and y.shape != self.output_shape
        raise ValueError
      return self.A.conj().T @ y
   == linop/_matrix.py:MatrixOperator._eval
      return self.A @ other
   == linop/_matrix.py:MatrixOperator.__call__
      if isinstance(other, LinearOperator)
        if self.input_shape == other.output_shape
          if isinstance(other, Identity)
            return self
          if isinstance(other, MatrixOperator)
            return MatrixOperator(A=self.A @ other.A, input_cols=other.input_cols)
          return LinearOperator(input_shape=other.input_shape, output_shape=self.output_shape, eval_fn=lambda x: self(other(x)), input_dtype=other.input_dtype)
        raise ValueError
      if isinstance(other, Operator)
        return Operator.__call__(self, other)
      if other.shape != self.input_shape
        raise TypeError
      return self._eval(other)
   == linop/_matrix.py:MatrixOperator.T
      return MatrixOperator(self.A.T, input_cols=self.input_cols)
   == linop/_matrix.py:MatrixOperator.H
      return MatrixOperator(self.A.conj().T, input_cols=self.input_cols)
   == linop/_matrix.py:MatrixOperator.conj
      return MatrixOperator(A=self.A.conj(), input_cols=self.input_cols)
   == linop/_matrix.py:MatrixOperator.gram_op
      return MatrixOperator(A=self.A.conj().T @ self.A, input_cols=self.input_cols)
   == linop/_matrix.py:_wrap_add_sub_matrix
      def wrapper(a, b)
        if np.isscalar(b)
          return MatrixOperator(op(a.A, b), input_cols=a.input_cols)
        if isinstance(b, MatrixOperator)
          if a.shape == b.shape
            return MatrixOperator(op(a.A, b.A), input_cols=a.input_cols)
          raise ValueError
        if isinstance(b, (jnp.ndarray, np.ndarray))
          if a.A.shape == b.shape
            return MatrixOperator(op(a.A, b), input_cols=a.input_cols)
          raise ValueError
        if isinstance(b, Operator)
          if a.shape != b.shape
            raise ValueError
        if isinstance(b, LinearOperator)
          uwfunc = getattr(LinearOperator, func.__name__)._unwrapped
          return uwfunc(a, b)
        if isinstance(b, Operator)
          uwfunc = getattr(Operator, func.__name__)
          return uwfunc(a, b)
        raise TypeError
      return wrapper
   == linop/_diag.py:Diagonal._eval
      return self._diagonal * x
   == linop/_diag.py:Diagonal.T
      if self.input_shape != self.output_shape
        return super().T
      return self
   == linop/_diag.py:Diagonal.H
      if self.input_shape != self.output_shape
        return super().H
      return self.conj()
   == linop/_diag.py:Diagonal.conj
      return Diagonal(diagonal=self.diagonal.conj(), input_shape=self.input_shape, input_dtype=self.input_dtype)
   == linop/_diag.py:Diagonal.gram_op
      if self.input_shape != self.output_shape
        return super().gram_op
      return Diagonal(diagonal=self.diagonal.conj() * self.diagonal, input_shape=self.input_shape, input_dtype=self.input_dtype)
   == linop/_diag.py:Diagonal.__add__
      if self.diagonal.shape == other.diagonal.shape
        return Diagonal(diagonal=self.diagonal + other.diagonal, input_shape=self.input_shape)
      raise ValueError
   == linop/_diag.py:Diagonal.__sub__
      if self.diagonal.shape == other.diagonal.shape
        return Diagonal(diagonal=self.diagonal - other.diagonal, input_shape=self.input_shape)
      raise ValueError
   == linop/_diag.py:Diagonal.__mul__
      return Diagonal(diagonal=self.diagonal * scalar, input_shape=self.input_shape)
   == linop/_diag.py:Diagonal.__truediv__
      return Diagonal(diagonal=self.diagonal / scalar, input_shape=self.input_shape)
   == linop/_diag.py:Diagonal.__matmul__
      if isinstance(other, Diagonal)
        if self.input_shape == other.output_shape
          return Diagonal(diagonal=self.diagonal * other.diagonal, input_shape=other.input_shape)
        raise ValueError
      else
        return self(other)
   == linop/_diag.py:ScaledIdentity.conj
      return ScaledIdentity(scalar=self._diagonal.conj(), input_shape=self.input_shape, input_dtype=self.input_dtype)
   == linop/_diag.py:ScaledIdentity.gram_op
      return ScaledIdentity(scalar=self._diagonal * self._diagonal.conj(), input_shape=self.input_shape, input_dtype=self.input_dtype)
   == linop/_circconv.py:CircularConvolve._eval
      x = x.astype(self.input_dtype)
      x_dft = snp.fft.fftn(x, axes=self.x_fft_axes)
      hx = snp.fft.ifftn(self.h_dft * x_dft, axes=self.ifft_axes)
      if self.real
        hx = hx.real
      return hx
   == linop/_circconv.py:CircularConvolve._adj
      x_dft = snp.fft.fftn(x, axes=self.ifft_axes)
      H_adj_x = snp.fft.ifftn(snp.conj(self.h_dft) * x_dft, axes=self.ifft_axes, s=self.input_shape[-self.ndims:])
      H_adj_x = snp.sum(H_adj_x, axis=self.batch_axes)
      bcast_axes = tuple((i for i, s in enumerate(self.input_shape) if s == 1 and H_adj_x.shape[i] != 1))
      if bcast_axes
        H_adj_x = snp.sum(H_adj_x, axis=bcast_axes, keepdims=True)
      if self.real or not is_complex_dtype(self.input_dtype)
        H_adj_x = H_adj_x.real
      return H_adj_x
   == linop/xray/_xray.py:XRayTransform2D._project
      nx = im.shape
      inds, weights = XRayTransform2D._calc_weights(x0, dx, nx, angles, y0)
      first = jnp.where(inds >= 0, inds, ny)
      second = jnp.where(inds + 1 >= 0, inds + 1, ny)
      y = jnp.zeros((len(angles), ny)).at[jnp.arange(len(angles)).reshape(-1, 1, 1), first].add(im * weights)
      y = y.at[jnp.arange(len(angles)).reshape(-1, 1, 1), second].add(im * (1 - weights))
      return y
   == linop/xray/_xray.py:XRayTransform2D._back_project
      ny = y.shape[1]
      inds, weights = XRayTransform2D._calc_weights(x0, dx, nx, angles, y0)
      first = jnp.where(inds >= 0, inds, ny)
      second = jnp.where(inds + 1 >= 0, inds + 1, ny)
      views = jnp.arange(len(angles)).reshape(-1, 1, 1)
      HTy = jnp.sum(y.at[views, first].get(mode='fill', fill_value=0) * weights, axis=0)
      HTy = HTy + jnp.sum(y.at[views, second].get(mode='fill', fill_value=0) * (1 - weights), axis=0)
      return HTy
   == linop/xray/_xray.py:XRayTransform3D._project
      MAX_SLICE_LEN = 10
      slice_offsets = list(range(0, im.shape[0], MAX_SLICE_LEN))
      num_views = len(matrices)
      proj = jnp.zeros((num_views,) + det_shape, dtype=im.dtype)
      for (view_ind, matrix) in enumerate(matrices)
        for slice_offset in slice_offsets
          proj = proj.at[view_ind].set(XRayTransform3D._project_single(im[slice_offset:slice_offset + MAX_SLICE_LEN], matrix, proj[view_ind], slice_offset=slice_offset))
      return proj
   == linop/xray/_xray.py:XRayTransform3D._project_single
      ul_ind, ul_weight, ur_weight, ll_weight, lr_weight = XRayTransform3D._calc_weights(im.shape, matrix, proj.shape, slice_offset)
      big = max(proj.shape)
      def off(i)
        return jnp.where(i < 0, big, i)
      i0, i1 = (ul_ind[0], ul_ind[1])
      proj = proj.at[off(i0), off(i1)].add(ul_weight * im, mode='drop')
      proj = proj.at[off(i0 + 1), off(i1)].add(ur_weight * im, mode='drop')
      proj = proj.at[off(i0), off(i1 + 1)].add(ll_weight * im, mode='drop')
      proj = proj.at[off(i0 + 1), off(i1 + 1)].add(lr_weight * im, mode='drop')
      return proj
   == linop/xray/_xray.py:XRayTransform3D._back_project
      MAX_SLICE_LEN = 10
      slice_offsets = list(range(0, input_shape[0], MAX_SLICE_LEN))
      HTy = jnp.zeros(input_shape, dtype=proj.dtype)
      for (view_ind, matrix) in enumerate(matrices)
        for slice_offset in slice_offsets
          HTy_slab = HTy[slice_offset:slice_offset + MAX_SLICE_LEN]
          if len(slice_offsets) == 1
            HTy_slab = jnp.array(HTy_slab, copy=True)
          HTy = HTy.at[slice_offset:slice_offset + MAX_SLICE_LEN].set(XRayTransform3D._back_project_single(proj[view_ind], matrix, HTy_slab, slice_offset=slice_offset))
          if not isinstance(HTy, jax.core.Tracer)
            HTy.block_until_ready()
      return HTy
   == linop/xray/_xray.py:XRayTransform3D._back_project_single
      ul_ind, ul_weight, ur_weight, ll_weight, lr_weight = XRayTransform3D._calc_weights(HTy.shape, matrix, y.shape, slice_offset)
      big = max(y.shape)
      def off(i)
        return jnp.where(i < 0, big, i)
      def take(a, b)
        return y.at[off(a), off(b)].get(mode='fill', fill_value=0)
      i0, i1 = (ul_ind[0], ul_ind[1])
      HTy = HTy + take(i0, i1) * ul_weight
      HTy = HTy + take(i0 + 1, i1) * ur_weight
      HTy = HTy + take(i0, i1 + 1) * ll_weight
      HTy = HTy + take(i0 + 1, i1 + 1) * lr_weight
      return HTy
   == linop/_util.py:jacobian
      if include_eval
        Fu, G = F.vjp(u, conjugate=True)
        def adj_fn(v)
          return snp.blockarray((Fu, G(v)))
        def eval_fn(v)
          return snp.blockarray(F.jvp(u, v))
      else
        adj_fn = F.vjp(u, conjugate=True)[1]
        def eval_fn(v)
          return F.jvp(u, v)[1]
      return LinearOperator(F.input_shape, output_shape=F.output_shape, eval_fn=eval_fn, adj_fn=adj_fn, input_dtype=F.input_dtype, output_dtype=F.output_dtype)
-/

/-- which classes define their own adjoint code / views / arithmetic: exactly the ones the model knows (a new, removed or
    moved override breaks this) -/
theorem overrides_ok : checkOverrides overrides factories = true := checkOverrides_of_eq rfl rfl

/-- the closures and declared metadata of the derived constructors are the ones `Op.*` / `TOp.*` model -/
theorem closures_ok : checkClosures closures = true := checkClosures_of_eq rfl

/-- the three branches of `linear_adjoint` are the ones of the model's `linearAdjoint` -/
theorem branches_ok : checkBranches branches = true := beq_self_eq_true _

/-- the methods the model follows line by line are unchanged since the model was written -/
theorem bodies_ok : checkBodies bodies = true := beq_self_eq_true _

end Scico.Generated.AdjointTables
